/-
  JdProps.C11TextModes — property C11 (RFC 7386 output, v2) at the level of the JSON TEXT for the option
  combinations beyond the list reading: SET+MERGE, MULTISET+MERGE, SetKeys+MERGE (without a clash),
  MULTISET+SetKeys+MERGE, MERGE with a non-negative Precision. Proofs: JdProofs/MergeTextSetModes.lean
  (namespace `Jd.MTS`). The list reading without Precision is `JdProps/C09Text.lean`
  (`C11Text.rendered_merge_text_yields_target`).

  Common reading of every theorem: `renderMergeM nc d` is the TEXT `d.RenderMerge()` returns;
  `parseJson nc` is `json.Unmarshal` into a document; `mergePatch` is the RFC 7386 pseudocode;
  "is `b`" means: for the library's `Equals` under the options AND for the advertised equivalence
  `equivB` — under SET / MULTISET that is the set / bag reading of arrays, and it cannot be the list
  reading (`set_text_is_not_the_document`).
-/
import JdProofs.MergeTextSetModes

namespace Jd.Props.C11TextModes
open Jd Jd.Spec Jd.Merge

/-- **C11 at the text level, SET+MERGE and MULTISET+MERGE.**
    Claim: `RenderMerge()` returns a text; the text parses to a document `p` that is neither void nor
    `null`; RFC 7386 `MergePatch(a, p)` is `b` under the set (bag) reading.
    Hypotheses: `hmg`, `hm`, `hk`, `hp` — the reading (MERGE with SET or MULTISET, no SetKeys, no
    Precision); `ha`, `hb` — both documents as read from JSON text (plain arrays, unique sorted keys,
    finite numbers, no `-0`); `hbn` — `b` has no `null` (a `null` would mean "delete" to RFC 7386: the
    domain of C11); `hbv`, `hbN` — `b` has no void node and its numbers are printed and read back by
    the number codec (void has no JSON text; `strconv` is a parameter of the model; only `b` because
    the patch consists of parts of `b`); `F`, `L` — the IEEE-754 laws of `numWithin`; `HF` — among the
    sub-terms of `a` and `b`, equal hash codes only for equivalent nodes (needed: a collision makes
    `RenderMerge` fail, `C11.render_fails_on_collision_set`; at the text level it is used once more,
    for the member `raw()` keeps in place of the ones it drops); `hne` — the documents differ. -/
theorem rendered_merge_text_yields_target_setmodes (F : FloatEq0) (L : FloatLaws) (nc : NumCodec)
    (o : Opts) (hmg : isMerge o = true) (hm : dispatchTag o = .set ∨ dispatchTag o = .mset)
    (hk : keysOf o = none) (hp : precOf o = 0) (a b : Json)
    (ha : a.setDoc = true) (hb : b.setDoc = true) (hbn : b.nullFree = true)
    (hbv : Yaml.voidFree b = true) (hbN : JText.NumOK nc b = true)
    (HF : HashFaithful o (subterms a ++ subterms b)) (hne : equals o a b = false) :
    ∃ text p, renderMergeM nc (diffM o a b) = .ok (some text) ∧ parseJson nc text = some p ∧
      p.isVoid = false ∧ p.isNull = false ∧
      equals o (mergePatch a p) b = true ∧ equivB o (mergePatch a p) b = true := by
  have hov := V1T.objVoidFree_of_voidFree b hbv
  exact MTS.setmodes_text_core F L nc o hm hp a b ha hb hbn hbv hbN HF
    (MSet.renderMergeDoc_diffM_setmodes F o hmg hm hk hp a b ha hb hov HF)
    (Or.inl (MSet.ds_ne_nil_of_ne F L hm hp ha hb hbn hov HF hne))

/-- the same without "that differ" when the first document is an object (`hobj`): for equal
    documents the text is `{}`, the identity on objects -/
theorem rendered_merge_text_yields_target_setmodes_object (F : FloatEq0) (L : FloatLaws)
    (nc : NumCodec) (o : Opts) (hmg : isMerge o = true)
    (hm : dispatchTag o = .set ∨ dispatchTag o = .mset) (hk : keysOf o = none) (hp : precOf o = 0)
    (a b : Json) (ha : a.setDoc = true) (hb : b.setDoc = true) (hbn : b.nullFree = true)
    (hbv : Yaml.voidFree b = true) (hbN : JText.NumOK nc b = true)
    (HF : HashFaithful o (subterms a ++ subterms b)) (hobj : a.isObj = true) :
    ∃ text p, renderMergeM nc (diffM o a b) = .ok (some text) ∧ parseJson nc text = some p ∧
      p.isVoid = false ∧ p.isNull = false ∧
      equals o (mergePatch a p) b = true ∧ equivB o (mergePatch a p) b = true :=
  MTS.setmodes_text_core F L nc o hm hp a b ha hb hbn hbv hbN HF
    (MSet.renderMergeDoc_diffM_setmodes F o hmg hm hk hp a b ha hb
      (V1T.objVoidFree_of_voidFree b hbv) HF) (Or.inr hobj)

/-- **C11 at the text level, SetKeys+MERGE.** Same claim and hypotheses as
    `rendered_merge_text_yields_target_setmodes` (with `hd`: the arrays are read as sets, `keysOf o`
    arbitrary), plus `hc : KM.clash o a b = false` — decidable; a clash needs, in one array of `a` and
    in the matching array of `b`, two object members with the same identity and different contents
    whose last bearers differ. It is the EXACT class on which `RenderMerge` fails
    (`no_text_with_a_clash`), so it cannot be weakened. -/
theorem rendered_merge_text_yields_target_setkeys (F : FloatEq0) (L : FloatLaws) (nc : NumCodec)
    (o : Opts) (hmg : isMerge o = true) (hd : dispatchTag o = .set) (hp : precOf o = 0) (a b : Json)
    (ha : a.setDoc = true) (hb : b.setDoc = true) (hbn : b.nullFree = true)
    (hbv : Yaml.voidFree b = true) (hbN : JText.NumOK nc b = true)
    (HF : HashFaithful o (subterms a ++ subterms b)) (hc : KM.clash o a b = false)
    (hne : equals o a b = false) :
    ∃ text p, renderMergeM nc (diffM o a b) = .ok (some text) ∧ parseJson nc text = some p ∧
      p.isVoid = false ∧ p.isNull = false ∧
      equals o (mergePatch a p) b = true ∧ equivB o (mergePatch a p) b = true := by
  have hov := V1T.objVoidFree_of_voidFree b hbv
  exact MTS.setmodes_text_core F L nc o (.inl hd) hp a b ha hb hbn hbv hbN HF
    (KM.renderMergeDoc_diffM_noclash F o hmg hd hp a b ha hb HF hov hc)
    (Or.inl (MSet.ds_ne_nil_of_ne F L (.inl hd) hp ha hb hbn hov HF hne))

/-- SetKeys+MERGE, first document an object, without "that differ" -/
theorem rendered_merge_text_yields_target_setkeys_object (F : FloatEq0) (L : FloatLaws)
    (nc : NumCodec) (o : Opts) (hmg : isMerge o = true) (hd : dispatchTag o = .set)
    (hp : precOf o = 0) (a b : Json) (ha : a.setDoc = true) (hb : b.setDoc = true)
    (hbn : b.nullFree = true) (hbv : Yaml.voidFree b = true) (hbN : JText.NumOK nc b = true)
    (HF : HashFaithful o (subterms a ++ subterms b)) (hc : KM.clash o a b = false)
    (hobj : a.isObj = true) :
    ∃ text p, renderMergeM nc (diffM o a b) = .ok (some text) ∧ parseJson nc text = some p ∧
      p.isVoid = false ∧ p.isNull = false ∧
      equals o (mergePatch a p) b = true ∧ equivB o (mergePatch a p) b = true :=
  MTS.setmodes_text_core F L nc o (.inl hd) hp a b ha hb hbn hbv hbN HF
    (KM.renderMergeDoc_diffM_noclash F o hmg hd hp a b ha hb HF
      (V1T.objVoidFree_of_voidFree b hbv) hc) (Or.inr hobj)

/-- with a clash `RenderMerge()` returns an error: there is no text (a FALSE instance of C11, the
    same as at the document level; Go: "merge patch path must be composed of only strings") -/
theorem no_text_with_a_clash (F : FloatEq0) (nc : NumCodec) (o : Opts)
    (hmg : isMerge o = true) (hd : dispatchTag o = .set) (hp : precOf o = 0) (a b : Json)
    (ha : a.setDoc = true) (hb : b.setDoc = true)
    (HF : HashFaithful o (subterms a ++ subterms b)) (hc : KM.clash o a b = true) :
    renderMergeM nc (diffM o a b) = .err := by
  simp only [renderMergeM, KM.render_err_of_clash F o hmg hd hp a b ha hb HF hc]

/-- **C11 at the text level, MULTISET+SetKeys+MERGE** (`jd -mset -setkeys K -f merge`): the keys play
    no role under the bag reading; `hne`: the documents differ, or the first one is an object -/
theorem rendered_merge_text_yields_target_mset_keys (F : FloatEq0) (L : FloatLaws) (nc : NumCodec)
    (o : Opts) (hmg : isMerge o = true) (hd : dispatchTag o = .mset) (hp : precOf o = 0) (a b : Json)
    (ha : a.setDoc = true) (hb : b.setDoc = true) (hbn : b.nullFree = true)
    (hbv : Yaml.voidFree b = true) (hbN : JText.NumOK nc b = true)
    (HF : HashFaithful o (subterms a ++ subterms b))
    (hne : equals o a b = false ∨ a.isObj = true) :
    ∃ text p, renderMergeM nc (diffM o a b) = .ok (some text) ∧ parseJson nc text = some p ∧
      p.isVoid = false ∧ p.isNull = false ∧
      equals o (mergePatch a p) b = true ∧ equivB o (mergePatch a p) b = true :=
  MTS.merge_text_rfc_mset_keys F L nc o hmg hd hp a b ha hb hbn hbv hbN HF hne

/-- **C11 at the text level, MERGE with a Precision** (list reading; `jd -f merge -precision eps`).
    Hypotheses: `hp` — the precision is a finite number ≥ +0 (needed: for a negative precision no
    number `Equals` itself, `MP.Witness.negative_precision_breaks`); `M : PrecMono o` — the IEEE fact
    `|u − v| ≤ 0 → |u − v| ≤ eps` (used: `MP.Witness.precMono_used`); `haw`, `har`, `hbw`, `hbr` —
    documents as read from text; `hbn`, `hbf` — `b` null-free with finite numbers; `hbv`, `hbN` — the
    codec domain, on `b` only; `hne` — `Equals` under the options, precision included, tells the
    documents apart. "Is `b`" is under the options: an array within `eps` of `b`'s is kept. -/
theorem rendered_merge_text_yields_target_precision (L : FloatLaws) (nc : NumCodec) (o : Opts)
    (hm : isMerge o = true) (ho : dispatchTag o = .list) (hp : nonnegBits (precOf o) = true)
    (M : DPL.PrecMono o) (a b : Json) (haw : a.wf = true) (har : a.rawDoc = true)
    (hbw : b.wf = true) (hbr : b.rawDoc = true) (hbn : b.nullFree = true)
    (hbf : b.finiteNums = true) (hbv : Yaml.voidFree b = true) (hbN : JText.NumOK nc b = true)
    (hne : equals o a b = false) :
    ∃ text p, renderMergeM nc (diffM o a b) = .ok (some text) ∧ parseJson nc text = some p ∧
      p.isVoid = false ∧ p.isNull = false ∧
      equals o (mergePatch a p) b = true ∧ equivB o (mergePatch a p) b = true :=
  MTS.merge_text_rfc_precision L nc o hm ho hp M a b haw har hbw hbr hbn hbf hbv hbN hne

/-- the general form under a Precision: whenever the DIFF is not empty (weaker than "the documents
    differ under the options": `1` vs `1.00001`), or the first document is an object -/
theorem rendered_merge_text_yields_target_precision_nonempty (L : FloatLaws) (nc : NumCodec)
    (o : Opts) (hm : isMerge o = true) (ho : dispatchTag o = .list)
    (hp : nonnegBits (precOf o) = true) (M : DPL.PrecMono o) (a b : Json)
    (haw : a.wf = true) (har : a.rawDoc = true)
    (hbw : b.wf = true) (hbr : b.rawDoc = true) (hbn : b.nullFree = true)
    (hbf : b.finiteNums = true) (hbv : Yaml.voidFree b = true) (hbN : JText.NumOK nc b = true)
    (hne : diffM o a b ≠ [] ∨ a.isObj = true) :
    ∃ text p, renderMergeM nc (diffM o a b) = .ok (some text) ∧ parseJson nc text = some p ∧
      p.isVoid = false ∧ p.isNull = false ∧
      equals o (mergePatch a p) b = true ∧ equivB o (mergePatch a p) b = true :=
  MTS.merge_text_rfc_precision_gen L nc o hm ho hp M a b haw har hbw hbr hbn hbf hbv hbN hne

/-- **what is new at the text level** (witness; the same text comes out of the Go library):
    `{"s":["x","y"],"v":["x"]}` → `{"s":["y","x"],"v":["z","x","z"]}` under `[SET, MERGE]`. The text
    is `{"v":["x","z"]}`: `b`'s array in hash order, the duplicate dropped (`jsonSet.raw()`), although
    the rendered DOCUMENT holds `["z","x","z"]`. RFC 7386 gives `{"s":["x","y"],"v":["x","z"]}`, which
    is `b` for `Equals` and `equivB` under SET and is NOT `b` in the list reading nor in the bag reading:
    the conclusion of the theorems above cannot be strengthened to `specEq`. -/
theorem set_text_is_not_the_document (F : FloatEq0) :
    renderMergeM NativeRT.exCodec (diffM [.set, .merge] MTS.Witness.wA MTS.Witness.wB)
      = .ok (some "{\"v\":[\"x\",\"z\"]}") ∧
    parseJson NativeRT.exCodec "{\"v\":[\"x\",\"z\"]}"
      = some (.obj [("v", .arr .raw [.str "x", .str "z"])]) ∧
    mergePatch MTS.Witness.wA (.obj [("v", .arr .raw [.str "x", .str "z"])])
      = .obj [("s", .arr .raw [.str "x", .str "y"]), ("v", .arr .raw [.str "x", .str "z"])] ∧
    equals [.set, .merge]
      (.obj [("s", .arr .raw [.str "x", .str "y"]), ("v", .arr .raw [.str "x", .str "z"])])
      MTS.Witness.wB = true ∧
    equivB [.set, .merge]
      (.obj [("s", .arr .raw [.str "x", .str "y"]), ("v", .arr .raw [.str "x", .str "z"])])
      MTS.Witness.wB = true ∧
    specEq (.obj [("s", .arr .raw [.str "x", .str "y"]), ("v", .arr .raw [.str "x", .str "z"])])
      MTS.Witness.wB = false ∧
    equivB [.mset, .merge]
      (.obj [("s", .arr .raw [.str "x", .str "y"]), ("v", .arr .raw [.str "x", .str "z"])])
      MTS.Witness.wB = false :=
  MTS.Witness.set_text_reorders_and_dedups F

/-! ## Non-vacuity: the hypotheses hold on concrete, non-trivial pairs (codec that knows no token) -/

/-- SET+MERGE on the witness pair (a set re-ordered, a set replaced by one with a duplicate) -/
example (F : FloatEq0) (L : FloatLaws) :
    ∃ text p, renderMergeM NativeRT.exCodec (diffM [.set, .merge] MTS.Witness.wA MTS.Witness.wB)
        = .ok (some text) ∧ parseJson NativeRT.exCodec text = some p ∧
      equals [.set, .merge] (mergePatch MTS.Witness.wA p) MTS.Witness.wB = true := by
  obtain ⟨h1, h2, h3, h4, h5⟩ := MTS.Witness.w_docs
  obtain ⟨text, p, c1, c2, _, _, c5, _⟩ :=
    rendered_merge_text_yields_target_setmodes F L NativeRT.exCodec [.set, .merge] rfl (Or.inl rfl)
      rfl rfl _ _ h1 h2 h3 h4 h5 MTS.Witness.w_hf MTS.Witness.w_ne
  exact ⟨text, p, c1, c2, c5⟩

/-- MULTISET+MERGE on the pair of JdProofs/MergeSetModes.lean:
    `{"s":["x","y"],"u":"x","v":["x"]}` → `{"s":["y","x"],"t":[true],"v":["x","z"]}` -/
example (F : FloatEq0) (L : FloatLaws) :
    ∃ text p, renderMergeM NativeRT.exCodec (diffM [.mset, .merge] MSet.Example.exA MSet.Example.exB)
        = .ok (some text) ∧ parseJson NativeRT.exCodec text = some p ∧
      equivB [.mset, .merge] (mergePatch MSet.Example.exA p) MSet.Example.exB = true := by
  obtain ⟨h1, h2, h3, _⟩ := MSet.Example.ex_docs
  obtain ⟨text, p, c1, c2, _, _, _, c6⟩ :=
    rendered_merge_text_yields_target_setmodes F L NativeRT.exCodec [.mset, .merge] rfl (Or.inr rfl)
      rfl rfl _ _ h1 h2 h3 (by decide) (by decide) MSet.Example.ex_hashFaithful_mset
      MSet.Example.ex_ne.2
  exact ⟨text, p, c1, c2, c6⟩

/-- SetKeys(id)+MERGE on the pair of JdProofs/KeysMerge.lean (keyed members in another order, a set
    replaced, a member deleted, a member added); no clash because the identities of `b` are distinct -/
example (F : FloatEq0) (L : FloatLaws) :
    ∃ text p, renderMergeM NativeRT.exCodec (diffM KM.Example.o1 KM.Example.exA KM.Example.exB)
        = .ok (some text) ∧ parseJson NativeRT.exCodec text = some p ∧
      equals KM.Example.o1 (mergePatch KM.Example.exA p) KM.Example.exB = true := by
  obtain ⟨h1, h2, h3, h4⟩ := KM.Example.ex_docs
  have hc := KM.noclash_of_identInj F KM.Example.o1 rfl rfl rfl _ _ h1 h2 KM.Example.ex_hf h4
    KM.Example.ex_ib
  obtain ⟨text, p, c1, c2, _, _, c5, _⟩ :=
    rendered_merge_text_yields_target_setkeys F L NativeRT.exCodec KM.Example.o1 rfl rfl rfl _ _
      h1 h2 h3 (by decide) (by decide) KM.Example.ex_hf hc KM.Example.ex_ne
  exact ⟨text, p, c1, c2, c5⟩

/-- … and a pair WITH a clash (JdProofs/KeysMergeB.lean, `Witness.wa` → `Witness.wb`): no text -/
example (F : FloatEq0) :
    renderMergeM NativeRT.exCodec (diffM KM.Witness.o1 KM.Witness.wa KM.Witness.wb) = .err :=
  no_text_with_a_clash F NativeRT.exCodec KM.Witness.o1 rfl rfl rfl _ _ KM.Witness.w_docs.1
    KM.Witness.w_docs.2.1 KM.Witness.w_hf KM.Witness.w_clash

/-- `{"a":1,"b":[1,2],"c":{"d":"x","n":null},"p":1,"z":true}` -/
def pA : Json :=
  .obj [("a", .num MP.Example.one), ("b", .arr .raw [.num MP.Example.one, .num MP.Example.two]),
    ("c", .obj [("d", .str "x"), ("n", .null)]), ("p", .num MP.Example.one), ("z", .bool true)]
/-- `{"a":2,"b":[1,3],"c":{"e":[true]},"p":1,"y":{"k":"v"}}` -/
def pB : Json :=
  .obj [("a", .num MP.Example.two), ("b", .arr .raw [.num MP.Example.one, .num 0x4008000000000000]),
    ("c", .obj [("e", .arr .raw [.bool true])]), ("p", .num MP.Example.one),
    ("y", .obj [("k", .str "v")])]

theorem p_docs : pA.wf = true ∧ pA.rawDoc = true ∧ pB.wf = true ∧ pB.rawDoc = true ∧
    pB.nullFree = true ∧ pB.finiteNums = true ∧ Yaml.voidFree pB = true ∧
    pA.isObj = true ∧ nonnegBits MP.Example.eps = true := by decide

theorem p_numOK : JText.NumOK NativeRT.exCodec pB = true := by decide +kernel

/-- MERGE with Precision(0.01) (the CLI's option list for `jd -f merge -precision 0.01`) -/
example (L : FloatLaws) (M : DPL.PrecMono [.merge, .prec MP.Example.eps]) :
    ∃ text p, renderMergeM NativeRT.exCodec (diffM [.merge, .prec MP.Example.eps] pA pB)
        = .ok (some text) ∧ parseJson NativeRT.exCodec text = some p ∧
      equals [.merge, .prec MP.Example.eps] (mergePatch pA p) pB = true := by
  obtain ⟨h1, h2, h3, h4, h5, h6, h7, h8, h9⟩ := p_docs
  obtain ⟨text, p, c1, c2, _, _, c5, _⟩ :=
    rendered_merge_text_yields_target_precision_nonempty L NativeRT.exCodec
      [.merge, .prec MP.Example.eps] rfl rfl h9 M pA pB h1 h2 h3 h4 h5 h6 h7 p_numOK (Or.inr h8)
  exact ⟨text, p, c1, c2, c5⟩

end Jd.Props.C11TextModes
