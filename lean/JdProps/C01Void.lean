/-
  Properties C01 / C05 / C02 / C09 / C11 — the EMPTY document (`Json.void`) at the root.
  Statement file; proofs in JdProofs/VoidRoot.lean (namespace `Jd.VoidRoot`).

  The properties quantify over "any two documents a and b (JSON or YAML, including the empty
  document)".  In the model the empty document is `Json.void` (`ReadJsonString("")`).

  AUDIT of the existing statement files (which hypotheses allow `a = void` / `b = void` AT THE ROOT):
    * ALLOW void at the root (section "audit" below, all by evaluation): `listDoc`, `rawDoc`, `wf`,
      `finiteNums`, `noNegZero`, `setDoc`, `nullFree`, `DPL.memOK`, `E2E.voidFree`,
      `E2E.shortArrays`, `PRC.vfree`, `Dom`.  These predicates speak about array ELEMENTS and object
      MEMBERS only.  Hence: C01 list / SET / MULTISET / SetKeys theorems, all C05 theorems, the C02
      end-to-end theorems (E4) (E5) and the SetKeys one already cover root-void inputs on both
      sides (`HashOK`, `ZeroOK`, `HashFaithful`, `KeysHyp` are conditions on sub-terms that void
      satisfies trivially against any document without a void inside).
    * EXCLUDE void at the root: `Merge.objVoidFree b` (every MERGE theorem of C01, C02 (E6) (E7),
      C11: `b = void` is outside; `a = void` is inside), `Yaml.voidFree b` (C14 `-f merge`,
      `-f patch` round trips), and in C09 the pair (object, void) (`(a.isObj && b.isVoid) = false`).
  The theorems below close these gaps for ALL option lists at once (list, SET, MULTISET, SetKeys,
  Precision; strict or MERGE): with one side void the diff is a single whole-document hunk.

  FINDINGS (both replayed on the Go library):
    F1  C11 is FALSE for `b` = the empty document: `a.Diff(void, MERGE).RenderMerge()` is the text
        `null`; RFC 7386 gives `null`, not the empty document (`merge_patch_of_deletion_is_null`).
        jd's own reader maps `null` back to "delete the document" (KF-C12-rootnull), so the CLI
        round trip `jd -f merge a b | jd -p -f merge` still works.
    F2  `a.Diff(void, MERGE).RenderPatch()` is the no-op `[]` although the diff deletes the
        document (`json_patch_of_merge_deletion_is_noop`).  Library level only.
-/
import JdProofs.VoidRoot
import JdProofs.EqualsSet
import JdProofs.NativeEndToEnd
import JdProofs.PatchRenderClosed
import JdProofs.DiffEmpty
import JdProofs.MergeProofs
import JdProofs.DiffPatchList
import JdProofs.RealDiffList

set_option autoImplicit false

namespace Jd.Props.C01Void
open Jd Jd.Spec Jd.VoidRoot

/-! ## audit: which hypotheses of the existing theorems hold of the empty document at the root -/

/-- allowed at the root by every "document as read" predicate of C01 / C02 / C05 / C09 -/
example : Json.void.listDoc = true ∧ Json.void.rawDoc = true ∧ Json.void.wf = true ∧
    Json.void.finiteNums = true ∧ Json.void.noNegZero = true ∧ Json.void.setDoc = true ∧
    Json.void.nullFree = true ∧ DPL.memOK .void = true ∧ E2E.voidFree .void = true ∧
    E2E.shortArrays .void = true ∧ PRC.vfree .void = true := by
  decide

example : Dom .void := ⟨rfl, rfl, rfl, rfl⟩

/-- excluded at the root: the MERGE theorems (hypothesis on `b`) and the JSON-text theorems -/
example : Merge.objVoidFree .void = false ∧ Yaml.voidFree .void = false := by decide

/-! ## the diff -/

/-- `void.Diff(b, o…)` for every option list: empty when `b` is void, otherwise one root hunk adding
    `b` (carrying the Merge flag under MERGE) -/
theorem diff_of_empty_document (o : Opts) (b : Json) :
    diffM o .void b = if b.isVoid then [] else [{ merge := isMerge o, path := [], add := [b] }] :=
  diffM_void_left o b

/-- `a.Diff(void, o…)` for a document `a` (`a.isVoid = false`: `a` is a document) and every option
    list: under MERGE the merge hunk "write void at the root", otherwise the strict hunk removing
    `a` (`removedRoot o a` is `a`, an array root under the Go type its diff method ran on;
    `addRoot a` is `[void]` for an object and `[]` otherwise — `jsonObject.diff` does not go through
    `nodeList`) -/
theorem diff_against_empty_document (o : Opts) (a : Json) (ha : a.isVoid = false) :
    diffM o a .void =
      if isMerge o then [{ merge := true, path := [], add := [.void] }]
      else [{ path := [], remove := [removedRoot o a], add := addRoot a }] :=
  diffM_void_right o a ha

/-! ## C05 at the root (no hypothesis at all) -/

/-- **C05, `a` empty**: for every `b` and every option list, `void.Diff(b)` is empty iff
    `void.Equals(b)` -/
theorem diff_empty_iff_equals_left (o : Opts) (b : Json) :
    diffM o .void b = [] ↔ equals o .void b = true := by
  rw [diffM_void_left, equals_void]
  cases b.isVoid <;> simp

/-- **C05, `b` empty**: for every `a` (any shape, any array tags) and every option list -/
theorem diff_empty_iff_equals_right (o : Opts) (a : Json) :
    diffM o a .void = [] ↔ equals o a .void = true := by
  rw [equals_void_right]
  cases ha : a.isVoid with
  | true => cases a <;> simp [Json.isVoid] at ha; simp [diffM_void_void]
  | false => rw [diffM_void_right o a ha]; cases isMerge o <;> simp

/-! ## C01 at the root -/

/-- **C01, `a` empty**: `void.Patch(void.Diff(b, o…))` succeeds and returns `b` itself — every `b`
    (any shape; void included), every option list (list / SET / MULTISET / SetKeys / Precision,
    strict or MERGE), either variant `sw` of the patch code.  No hypothesis: no hash, no float law. -/
theorem patch_of_diff_from_empty (sw : Bool) (o : Opts) (b : Json) :
    patchAll sw .void (diffM o .void b) = .ok b :=
  patch_void_left sw o b

/-- **C01, `b` empty, MERGE** (alone or with SET / MULTISET / SetKeys): the result is the empty
    document.  No hypothesis on `a`.  (The MERGE theorems of JdProps/C01.lean exclude this `b` by
    `objVoidFree b`.) -/
theorem patch_of_merge_diff_to_empty (sw : Bool) (o : Opts) (hm : isMerge o = true) (a : Json) :
    patchAll sw a (diffM o a .void) = .ok .void :=
  patch_void_right_merge sw o hm a

/-- **C01, `b` empty, strict strategy** (every option list without MERGE).  Hypotheses:
    `plainRoot a`: the root is not a `jsonSet` / `jsonMultiset` typed node (true of every document a
    reader returns; needed in the model: `typed_set_root_is_excluded`);
    `equals [] a a = true`: `a.Equals(a)` — the patch compares the removed value with the
    document; it fails only for a NaN inside `a` (follows from `finiteNums`, `equals_refl_list`). -/
theorem patch_of_strict_diff_to_empty (sw : Bool) (o : Opts) (hm : isMerge o = false) (a : Json)
    (hp : plainRoot a = true) (hr : equals [] a a = true) :
    patchAll sw a (diffM o a .void) = .ok .void :=
  patch_void_right_strict sw o hm a hp hr

/-- model-only boundary of `plainRoot` -/
theorem typed_set_root_is_excluded :
    plainRoot (.arr .set []) = false ∧ equals [] (.arr .set []) (.arr .set []) = true ∧
    diffM [] (.arr .set []) .void = [{ path := [], remove := [.arr .raw []], add := [] }] ∧
    patchM (.arr .set []) (diffM [] (.arr .set []) .void) = .err := by
  refine ⟨rfl, by simp [equals, effTag, Json.dispatch], ?_, ?_⟩
  · rw [diffM_void_right [] _ rfl]; rfl
  · rw [diffM_void_right [] _ rfl]
    simp [patchM, patchAll, patchNode_strict, patchS, replaceS, effTag, removedRoot, addRoot, equals,
      Json.dispatch, dispatchTag, isMerge, Json.singleValue]

/-- non-vacuity: `{"k":[null]}` against the empty document, strict, under SET -/
example : patchAll true (.obj [("k", .arr .raw [.null])])
    (diffM [.set] (.obj [("k", .arr .raw [.null])]) .void) = .ok .void :=
  patch_of_strict_diff_to_empty true [.set] rfl _ rfl
    (by simp [equals, equalsKvs, alookup, effTag, dispatchTag, Json.dispatch, equalsList, Json.isNull])

/-! ## C02 at the root: the native text -/

/-- **`jd void b | jd -p void`** (every option list): if the diff renders to `text`, then
    `ReadDiffString(text)` is one root hunk adding `b` (up to the Go type of array nodes), and it
    patches the empty document to `b`.  `hP`, `hV`: the codec contract (`NativeRT.PathOK`, `ValOK`)
    for the path `[]` and the value `b`, as in every C02 theorem. -/
theorem native_text_from_empty (nc : NumCodec) (o : Opts) (b : Json) (hb : b.isVoid = false)
    (hP : NativeRT.PathOK nc []) (hV : NativeRT.ValOK nc b) (text : String)
    (hr : renderM nc [] (diffM o .void b) = some text) :
    readDiffM nc text = .ok [{ merge := isMerge o, path := [], add := [untag b] }] ∧
    ∀ sw, patchAll sw .void [{ merge := isMerge o, path := [], add := [untag b] }] = .ok (untag b) :=
  native_void_left nc o b hb hP hV text hr

/-- **`jd a void | jd -p a`**, strict strategy, `a` as read from text and `a.Equals(a)`: the text is
    read back as "remove `a` at the root" and patches `a` to the empty document -/
theorem native_text_to_empty (nc : NumCodec) (o : Opts) (hm : isMerge o = false) (a : Json)
    (ha : a.isVoid = false) (har : a.rawDoc = true) (hrefl : equals [] a a = true)
    (hP : NativeRT.PathOK nc []) (hV : NativeRT.ValOK nc (removedRoot o a)) (text : String)
    (hr : renderM nc [] (diffM o a .void) = some text) :
    readDiffM nc text = .ok [{ path := [], remove := [a] }] ∧
    ∀ sw, patchAll sw a [{ path := [], remove := [a] }] = .ok .void :=
  native_void_right nc o hm a ha har hrefl hP hV text hr

/-! ## C09 at the root: RFC 6902 -/

/-- `void.Diff(b).RenderPatch()` is `[{"op":"add","path":"","value":b}]`, which RFC 6902 evaluates
    on "no document" to `b` -/
theorem json_patch_from_empty (o : Opts) (b : Json) (hb : b.isVoid = false) :
    renderPatchOps (diffM o .void b) = .ok [{ op := "add", path := "", value := b }] ∧
    Spec.eval .void [{ op := "add", path := "", value := b }] = some b := by
  rw [diffM_void_left, hb]
  refine ⟨?_, ?_⟩
  · simp [renderPatchOps, renderPatchHunk, writePointerPath_nil, hb]
    rfl
  · simp [Spec.eval, Spec.evalOp, Spec.parsePointer, Spec.addP]

/-- `a.Diff(void).RenderPatch()` (strict) is `test` + `remove` at the root pointer; RFC 6902 yields
    "no document" exactly when the tested value is structurally `a` (always, for `a` as read without
    NaN).  Includes the pair (object, void) that `generated_hunks_satisfy_side_conditions` of
    JdProps/C09.lean excludes. -/
theorem json_patch_to_empty (o : Opts) (hm : isMerge o = false) (a : Json) (ha : a.isVoid = false) :
    renderPatchOps (diffM o a .void) =
      .ok [{ op := "test", path := "", value := removedRoot o a },
           { op := "remove", path := "", value := removedRoot o a }] ∧
    Spec.eval a [{ op := "test", path := "", value := removedRoot o a },
                 { op := "remove", path := "", value := removedRoot o a }]
      = if equivB [] a (removedRoot o a) then some .void else none := by
  have hrv := removedRoot_isVoid o ha
  rw [diffM_void_right o a ha, hm]
  refine ⟨?_, ?_⟩
  · -- the renderer sees `addRoot a` only through its first entry, which is void if there is one
    rcases addRoot_cases a with e | e <;>
      simp [e, renderPatchOps, renderPatchHunk, writePointerPath_nil, hrv,
        show Json.void.isVoid = true from rfl] <;> rfl
  · have hg : getP a [] = some a := by simp [Spec.getP, ha]
    cases he : equivB [] a (removedRoot o a) <;>
      simp [Spec.eval, Spec.evalOp, Spec.parsePointer, hg, he, Spec.removeP, ha]

/-- **F2.** `a.Diff(void, MERGE…).RenderPatch()` is the no-op `[]` while the diff is not empty and
    deletes the document -/
theorem json_patch_of_merge_deletion_is_noop (nc : NumCodec) (o : Opts) (hm : isMerge o = true)
    (a : Json) (ha : a.isVoid = false) :
    diffM o a .void ≠ [] ∧ renderPatchOps (diffM o a .void) = .ok [] ∧
    renderPatchM nc (diffM o a .void) = .ok (some "[]") ∧
    Spec.eval a [] = some a ∧ equals o a .void = false ∧
    patchAll true a (diffM o a .void) = .ok .void := by
  refine ⟨?_, ?_, ?_, rfl, by rw [equals_void_right]; exact ha, patch_void_right_merge true o hm a⟩
  · rw [diffM_void_right o a ha, hm]; simp
  · rw [diffM_void_right o a ha, hm]
    simp [renderPatchOps, renderPatchHunk, writePointerPath_nil, Json.isVoid]
    rfl
  · rw [diffM_void_right o a ha, hm]
    simp [renderPatchM, renderPatchOps, renderPatchHunk, writePointerPath_nil, Json.isVoid]
    rfl

/-! ## C11 at the root: RFC 7386 -/

/-- `void.Diff(b, MERGE…).RenderMerge()` is the document `b` -/
theorem merge_patch_from_empty (o : Opts) (hm : isMerge o = true) (b : Json) (hb : b.isVoid = false) :
    renderMergeDoc (diffM o .void b) = .ok b := by
  rw [diffM_void_left, hb, hm]
  have hb' : (if b.isVoid = true then Json.null else b) = b := by simp [hb]
  simp [renderMergeDoc, hb', patchAll, patchNode_merge_eq, patchMg, patchFresh, Path.isLeaf, Json.singleValue]
  simp [Json.isVoid]

/-- **F1: C11 is false for `b` = the empty document.** For EVERY document `a` and every option list
    with MERGE: the rendered merge patch is `null`; RFC 7386 `MergePatch(a, null)` is `null`, which
    neither `Equals` nor is equivalent to the empty document; jd reads `null` back as the very diff
    it rendered, whose application gives the empty document. -/
theorem merge_patch_of_deletion_is_null (o : Opts) (hm : isMerge o = true) (a : Json)
    (ha : a.isVoid = false) :
    renderMergeDoc (diffM o a .void) = .ok .null ∧
    mergePatch a .null = .null ∧
    equals o (mergePatch a .null) .void = false ∧ equivB o (mergePatch a .null) .void = false ∧
    readMergeDoc .null = diffM o a .void ∧
    patchAll true a (readMergeDoc .null) = .ok .void := by
  have hd : diffM o a .void = [{ merge := true, path := [], add := [.void] }] := by
    rw [diffM_void_right o a ha, hm]; rfl
  refine ⟨?_, rfl, by simp [mergePatch, equals, Json.isNull], by simp [mergePatch, equivB], ?_, ?_⟩
  · rw [hd]
    simp [renderMergeDoc, Json.isVoid, patchAll, patchNode_merge_eq, patchMg, patchFresh, Path.isLeaf,
      Json.singleValue]
  · rw [hd]; simp [readMergeDoc, equals, Json.isNull, readMergeInto]
  · have : readMergeDoc .null = diffM o a .void := by
      rw [hd]; simp [readMergeDoc, equals, Json.isNull, readMergeInto]
    rw [this]; exact patch_void_right_merge true o hm a

/-- both empty: `{}`; RFC 7386 turns "no document" into `{}` (C11 asks for documents that differ) -/
theorem merge_patch_empty_empty (o : Opts) :
    renderMergeDoc (diffM o .void .void) = .ok (.obj []) ∧ mergePatch .void (.obj []) = .obj [] ∧
    readMergeDoc (.obj []) = [] := by
  rw [diffM_void_void]
  exact ⟨rfl, by simp [mergePatch, mergeMembers], by simp [readMergeDoc, equals, equalsKvs]⟩

/-- a strict root-void diff is refused by `RenderMerge` (as every strict hunk is) -/
theorem merge_render_refuses_strict (o : Opts) (hm : isMerge o = false) (a b : Json)
    (hv : a.isVoid = true ∨ b.isVoid = true) (hne : a.isVoid = false ∨ b.isVoid = false) :
    renderMergeDoc (diffM o a b) = .err := by
  rcases hv with hv | hv
  · cases a <;> simp [Json.isVoid] at hv
    have hb : b.isVoid = false := by simpa [Json.isVoid] using hne
    rw [diffM_void_left, hb, hm]; simp [renderMergeDoc]
  · cases b <;> simp [Json.isVoid] at hv
    have ha : a.isVoid = false := by simpa [Json.isVoid] using hne
    rw [diffM_void_right o a ha, hm]; simp [renderMergeDoc]

end Jd.Props.C01Void
