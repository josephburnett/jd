/-
  Property C04 — Equals decides exactly the advertised equivalence.
  Statement file (proofs in JdProofs/EqualsList.lean and JdProofs/EqualsSet.lean).

  `equals o a b` is the library's `a.Equals(b, options...)` (JdModel/Equals.lean);
  `equivB o a b` is the advertised equivalence written without hashes (JdSpec/CanonEq.lean): deep
  structural equality, arrays as ordered lists / as sets (recursively) / as bags according to
  `dispatchTag o`, numbers within `precOf o`.

  LIST MODE (no SET / MULTISET / SetKeys option; Precision allowed): FULL strength — no hashes are
  involved: `equals_iff_equiv_list`, reflexive, symmetric.

  SET / MULTISET / SetKeys (`dispatchTag o = .set` / `.mset`; SetKeys dispatches to `.set`): `Equals`
  compares 64-bit FNV-1a hash codes of array nodes, and the full statement is FALSE on the code as
  it is (counter-witness theorems at the end: known finding KF-C04-alias). What is proved is the
  PARTIAL statement `equals_iff_equiv_set` / `equals_iff_equiv_multiset`: Equals IS the advertised
  equivalence whenever, among the finitely many sub-terms of the two documents at hand, equal hash
  codes occur only for equivalent nodes (`HashFaithful`: no collision, no pre-image alias). The
  converse of that hypothesis is a theorem, not an assumption: equivalent nodes always have equal
  hash codes (`equivalent_implies_equal_hash`). Reflexivity and symmetry in the set modes need no
  hash hypothesis at all (comparison of hash codes is an equivalence relation whatever the hash).
  Other hypotheses of the set-mode theorems, and why:
    `a.setDoc` = `rawDoc` (every array a plain `jsonArray`: `Equals` looks at the Go dynamic type
       of the receiver, the advertised equivalence does not, see `rawDoc_is_needed`) ∧ `wf` (unique
       sorted keys, the model's stand-in for Go maps) ∧ `finiteNums` ∧ `noNegZero` (kept from before
       the repair of D5b; now stronger than necessary);
    `precOf o = 0`: hash codes ignore Precision (known finding KF-C05-precision);
    `FloatEq0`: the one IEEE-754 law used (`|x - y| ≤ +0` only for `x = y`); `Float` is opaque to
       the kernel. `FloatLaws`: reflexivity / symmetry of `|x - y| ≤ eps`.

  For ALL options, unconditionally: two values of different JSON types are never Equal
  (`different_kinds_never_equal`, about the two values compared). The set-mode aliases at the end of
  the file are clashes one level DOWN: the differing members sit inside arrays that are compared by
  hash code.
-/
import JdProofs.EqualsList
import JdProofs.EqualsSet
import JdProofs.HashCheck
import JdProps.C01Precision

namespace Jd.Props.C04
open Jd Jd.Spec

/-- list mode: Equals is exactly the advertised equivalence -/
theorem equals_iff_equiv_list (o : Opts) (h : dispatchTag o = .list) (a b : Json)
    (ha : a.listDoc = true) (hb : b.listDoc = true) : equals o a b = equivB o a b :=
  equals_eq_equivB_list o h a b ha hb

/-- reflexive (finite numbers, eps ≥ 0; IEEE laws as explicit hypothesis) -/
theorem equals_refl (L : FloatLaws) (o : Opts) (h : dispatchTag o = .list) (hp : nonnegBits (precOf o) = true)
    (a : Json) (ha : a.listDoc = true) (hw : a.wf = true) (hf : a.finiteNums = true) : equals o a a = true :=
  equals_refl_list L o h hp a ha hw hf

/-- symmetric -/
theorem equals_symm (L : FloatLaws) (o : Opts) (h : dispatchTag o = .list) (a b : Json)
    (ha : a.listDoc = true) (hb : b.listDoc = true) (hwa : a.wf = true) (hwb : b.wf = true) :
    equals o a b = equals o b a :=
  equals_symm_list L o h a b ha hb hwa hwb

/-- values of different JSON types are never equal — for ALL options, including the set modes -/
theorem different_kinds_never_equal (o : Opts) (a b : Json) (h : equals o a b = true) : a.kind = b.kind :=
  equals_kind o a b h

/-- `[] ≠ ""` for all options and all array tags -/
theorem empty_array_ne_empty_string (o : Opts) (t : Tag) : equals o (.arr t []) (.str "") = false :=
  equals_kind_ne o _ _ (by simp [Json.kind])

/-- a string is never equal to a number, for all options -/
theorem string_ne_number (o : Opts) (s : String) (n : UInt64) : equals o (.str s) (.num n) = false :=
  equals_kind_ne o _ _ (by simp [Json.kind])

/-! Non-vacuity: a nested list-mode pair satisfies the hypotheses. -/
example : dispatchTag [] = .list ∧
    (Json.arr .raw [.num 0x3ff0000000000000, .obj [("a", .arr .raw [.str "x"])]]).listDoc = true ∧
    (Json.arr .raw [.num 0x3ff0000000000000, .obj [("a", .arr .raw [.str "x"])]]).wf = true := by
  decide

/-! ## SET / SetKeys / MULTISET readings -/

/-- SET / SetKeys reading (partial): outside hash aliases and collisions among the sub-terms at
    hand, `Equals` is exactly the advertised equivalence (arrays as mathematical sets, recursively) -/
theorem equals_iff_equiv_set (F : FloatEq0) (o : Opts) (hd : dispatchTag o = .set)
    (hp : precOf o = 0) (a b : Json) (ha : a.setDoc = true) (hb : b.setDoc = true)
    (hf : HashFaithful o (subterms a ++ subterms b)) : equals o a b = equivB o a b :=
  equals_eq_equivB_set F o hd hp a b ha hb hf

/-- MULTISET reading (partial): the same with arrays as bags -/
theorem equals_iff_equiv_multiset (F : FloatEq0) (o : Opts) (hd : dispatchTag o = .mset)
    (hp : precOf o = 0) (a b : Json) (ha : a.setDoc = true) (hb : b.setDoc = true)
    (hf : HashFaithful o (subterms a ++ subterms b)) : equals o a b = equivB o a b :=
  equals_eq_equivB_mset F o hd hp a b ha hb hf

/-- the converse of `HashFaithful` needs no assumption: equivalent documents have equal hash codes
    (the hash of a set / bag does not depend on order, nor — for sets — on multiplicity) -/
theorem equivalent_implies_equal_hash (F : FloatEq0) (o : Opts)
    (hm : dispatchTag o = .set ∨ dispatchTag o = .mset) (hp : precOf o = 0)
    (a b : Json) (ha : a.setDoc = true) (hb : b.setDoc = true)
    (h : equivB o a b = true) : hashCode o a = hashCode o b :=
  equivB_hash F o hm hp a b ha hb h

/-- reflexive in the set modes, without any hash hypothesis (finite numbers, eps ≥ 0) -/
theorem equals_refl_set_modes (L : FloatLaws) (o : Opts)
    (hm : dispatchTag o = .set ∨ dispatchTag o = .mset) (hp : nonnegBits (precOf o) = true)
    (a : Json) (hr : a.rawDoc = true) (hw : a.wf = true) (hf : a.finiteNums = true) :
    equals o a a = true :=
  equals_refl_setmode L o hm hp a hr hw hf

/-- symmetric in the set modes, without any hash hypothesis -/
theorem equals_symm_set_modes (L : FloatLaws) (o : Opts)
    (hm : dispatchTag o = .set ∨ dispatchTag o = .mset) (a b : Json)
    (hra : a.rawDoc = true) (hrb : b.rawDoc = true) (hwa : a.wf = true) (hwb : b.wf = true) :
    equals o a b = equals o b a :=
  equals_symm_setmode L o hm a b hra hrb hwa hwb

/-- the hypothesis `rawDoc` is needed: a `jsonList`-typed receiver is never Equal to a plain array
    under SET although the two denote the same set -/
theorem rawDoc_is_needed :
    equals [.set] (.arr .list [.null]) (.arr .raw [.null]) = false ∧
    equivB [.set] (.arr .list [.null]) (.arr .raw [.null]) = true := by
  constructor
  · simp [equals, effTag, Json.dispatch, dispatchTag]
  · simp [equivB, dispatchTag, allIn, allCovered, anyEquiv]

/-- the hypothesis `wf` (sorted keys) is needed: the object hash follows the stored key order -/
theorem wf_is_needed :
    equivB [.set] (.obj [("a", .null), ("b", .void)]) (.obj [("b", .void), ("a", .null)]) = true ∧
    hashCode [.set] (.obj [("a", .null), ("b", .void)])
      ≠ hashCode [.set] (.obj [("b", .void), ("a", .null)]) := by
  constructor
  · simp [equivB, equivKvs, alookup]
  · decide +kernel

/-! Non-vacuity of the set-mode theorem: `["a", {"k":["b","a"]}]` and
    `[{"k":["a","b","a"]}, "a", "a"]` (reordered, duplicated, nested) satisfy `setDoc` and
    `HashFaithful` (all 14 × 14 pairs of sub-terms checked in the kernel), and are Equal under SET. -/

example : setExA.setDoc = true ∧ setExB.setDoc = true ∧
    HashFaithful [.set] (subterms setExA ++ subterms setExB) :=
  ⟨ex_setDoc.1, ex_setDoc.2, ex_hashFaithful⟩

example (F : FloatEq0) :
    equals [.set] setExA setExB = equivB [.set] setExA setExB ∧ equals [.set] setExA setExB = true :=
  ex_equals_eq_equivB F

/-! ### Counter-witnesses in the set modes (the full statement is false there: known findings)

  The hash pre-image of the empty string, of the empty set and of the empty multiset is the empty
  byte string; an 8-byte string and the float64 with the same bytes share a pre-image. The model
  reproduces it (`decide` evaluates the structural hash functions in the kernel). -/

/-- KF-C04-alias: `[[]]` and `[""]` are Equal under SET although an array is not a string -/
theorem alias_empty_set_empty_string :
    equals [.set] (.arr .raw [.arr .raw []]) (.arr .raw [.str ""]) = true := by decide +kernel

/-- KF-C04-alias: `["AAAAAAAA"]` and `[2261634.5098039214]` are Equal under SET -/
theorem alias_string_number :
    equals [.set] (.arr .raw [.str "AAAAAAAA"]) (.arr .raw [.num 0x4141414141414141]) = true := by decide +kernel

/-- regression for D5b (`0` and `-0` hash alike, commit ff3e30d): `[0]` and `[-0]` are Equal as sets too -/
theorem negzero_equal_as_sets_after_fix :
    equals [.set] (.arr .raw [.num 0]) (.arr .raw [.num 0x8000000000000000]) = true := by decide +kernel

/-! ### Option plumbing: the regenerated table of the calls inside the functions behind this property is proved equal to the
    model's in JdProofs/CondSites/P_C04.lean (`option_plumbing_as_modelled_C04`), built and audited by this property's check. -/

#print axioms empty_array_ne_empty_string
#print axioms string_ne_number
#print axioms rawDoc_is_needed

end Jd.Props.C04
