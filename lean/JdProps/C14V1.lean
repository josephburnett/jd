/-
  Property C14 (CLI contract), last sentence — "feeding the output of `jd [flags] a b` to
  `jd -p [flags]` on a reproduces b, in jd, patch and merge formats" — for the V1 LIBRARY:
  /repo/main.go (binary B) started with `-v2=false` calls package `lib` (model: `JdModel/V1/*`).
  Statement file. Proofs: JdProofs/CliRoundTripV1.lean (namespace `Jd.CliV1`).

  VOCABULARY (JdProofs/CliRoundTrip.lean, CliRoundTripModes.lean)
    `Cli.cliM b fl r`      the decision logic of `main` given what the library returned;
    `CliRT.Lib N D`        the library calls `main` makes, as functions;  `CliRT.proc Ls b fl e` THE
                           PROCESS: `cliM` run on what the library `Ls plan.v1` returns for the calls of
                           the plan; `Ls true` is the v1 library, `Ls false` the v2 library;
    `CliRT.Env`            what the OS returns (bytes of the two inputs, result of writing `-o`);
    `CliRT.PatchTwin fl fl2`  `fl2` is `jd -p [the same flags]` (any `-o`, one or two arguments);
    `CliRTM.TwoRuns P1 P2 fl fl2 T code out`  `P1` emits `T` (stdout, or the `-o` file and nothing on
                           stdout) with exit status `code`, nothing on stderr; `P2` exits 0, nothing
                           on stderr, and emits exactly `out`;
    `CliV1.v1Lib nc Y`     THE v1 LIBRARY OF THE MODEL as a `Lib Json V1.PDiff` (see its docstring);
    `CliV1.metasOf opts`   the `[]jd.Metadata` `parseMetadata` built, as `V1.Metas`.

  COMMON HYPOTHESES of the end-to-end theorems: `Ls true = ⟨Json, V1.PDiff, v1Lib nc Y⟩`;
  `isDiffMode fl`; `PatchTwin fl fl2`; `libIsV1 b fl = true` (binary B with `-v2=false`);
  `parsedOptions b fl = ok opts` (`main` accepted the flags: a well-formed `-setkeys`, no `-precision`
  together with `-set`/`-mset`); one or two arguments; both inputs read (`e1.in1`, `e1.in2`) and
  parsed by the v1 reader for `-yaml` to `a`, `b'`; writing `-o` succeeds where asked for; the first
  input of the second run holds the bytes the first run emitted, its second input the bytes of the
  first input of the first run.  All of them are about the command line and the OS, not the library.

  The Driver (`lean/Driver/OpsCli.lean`) does NOT run a library model inside the CLI model: `cli`
  takes `LibResults` from the harness, which obtains them by calling the REAL Go library named by
  `cliplan` (`lib=v1` for `-v2=false`: harness/props_cli.go `cliLibV1`).  So the correspondence
  checks `cliM` against the real process for the v1 library too, and the v1 library model against
  the v1 Go library separately (C17 / C18); `v1Lib` below is what joins the two in the proofs.
-/
import JdProofs.CliRoundTripV1

set_option autoImplicit false

namespace Jd.Props.C14V1
open Jd Jd.Spec Jd.Cli Jd.CliRT Jd.CliRTM Jd.CliV1

/-- **the metadata are those of `parseMetadata`.** When the command line selects the v1 library
    (`libIsV1 b fl`) and `main` accepted the flags (`ho`), the option list of the plan is the image,
    constructor by constructor, of the `[]jd.Metadata` that `parseMetadata` of /repo/main.go built
    (SET for `-set`, MULTISET for `-mset`, `Setkeys(trimmed keys…)` for `-setkeys`, MERGE for
    `-f merge`, `SetPrecision(*precision)` always last), and `metasOf` hands exactly that list to
    the v1 library model. -/
theorem v1_metadata_are_parseMetadata {b : Binary} {fl : Flags} {opts : List Opt}
    (hv1 : libIsV1 b fl = true) (ho : parsedOptions b fl = .ok opts) :
    ∃ ms, metadataOfTopV1 fl = .ok ms ∧ opts = ms.map ofV1 ∧
      metasOf opts = ms.filterMap v1MetaOf :=
  metasOf_parsedOptions hv1 ho

/-- what the v1 library reads off that list (`checkMetadata`, `getPrecision`): SET iff `-set`,
    MULTISET iff `-mset`, MERGE iff `-f merge`, the precision of `-precision`. `ho`: `main` accepted
    the flags. -/
theorem v1_metadata_facts {b : Binary} {fl : Flags} {opts : List Opt}
    (ho : parsedOptions b fl = .ok opts) :
    V1.hasSet (metasOf opts) = fl.set ∧ V1.hasMset (metasOf opts) = fl.mset ∧
    V1.hasMerge (metasOf opts) = (fl.f == "merge") ∧ V1.precOf (metasOf opts) = fl.precision :=
  metas_facts ho

/-- **the CLI step for the v1 library, any format.** Beyond the common hypotheses: `hfmt` the format
    of `-f`; `hren` the diff of the two parsed documents under the metadata renders to `T` in that
    format (with COLOR when `-color`); `hrd` the reader of that format reads `T` back as `d'`; `hpa`
    `a.Patch(d')` gives `r`.  Then the first process does not fail, emits `T` and exits with the
    `haveDiff` status of `main` (`firstExit`); the second exits 0 and emits `Json(metadata…)` /
    `Yaml(metadata…)` of `r`.  The CLI adds nothing to and loses nothing from the three library calls. -/
theorem v1_two_process_step (nc : NumCodec) (Y : YamlCarrier)
    (Ls : Bool → LibPack) (hL : Ls true = ⟨Json, V1.PDiff, v1Lib nc Y⟩)
    (b : Binary) {fl fl2 : Flags} {e1 e2 : Env} {opts : List Opt} {fmt : Format}
    (hm : isDiffMode fl) (h : PatchTwin fl fl2) (hv1 : libIsV1 b fl = true)
    (ho : parsedOptions b fl = .ok opts) (hn : fl.nargs = 1 ∨ fl.nargs = 2)
    (hfmt : formatOf fl.f = some fmt)
    {ta tb : String} {a b' : Json}
    (hi1 : e1.in1 = .ok ta) (hi2 : e1.in2 = .ok tb) (hw1 : fl.o = "" ∨ e1.write = .ok ())
    (hra : (v1Lib nc Y).readDoc fl.yaml ta = .ok a)
    (hrb : (v1Lib nc Y).readDoc fl.yaml tb = .ok b')
    {T : String} {d' : V1.PDiff} {r : Json}
    (hren : renderAs (v1Lib nc Y) fmt fl.color (V1.liftDiff (V1.diffM (metasOf opts) a b')) = .ok T)
    (hrd : (v1Lib nc Y).readDiff fmt T = .ok d') (hpa : V1.patchP a d' = .ok r)
    (hT : e2.in1 = .ok (emitted (proc Ls b fl e1)))
    (ha : e2.in2 = e1.in1) (hw : fl2.o = "" ∨ e2.write = .ok ()) :
    TwoRuns (proc Ls b fl e1) (proc Ls b fl2 e2) fl fl2 T
      (firstExit (v1Lib nc Y) fmt (V1.liftDiff (V1.diffM (metasOf opts) a b')) T)
      ((v1Lib nc Y).renderDoc fl.yaml opts r) :=
  Session.twoRuns ⟨⟨hv1 ▸ hL, hm, hn, ⟨ta, hi1, hra⟩, ⟨tb, hi2, hrb⟩, hw1⟩, h, hT, ha, hw⟩ ho hfmt
    ⟨hren, hrd, congrArg ofOutcome hpa⟩

/-- **v1 library, native format, list reading, LIBRARY LEVEL, hypotheses on the two documents only.**
    `ListMode m`: no SET / MULTISET / MERGE, precision 0 (`Setkeys` allowed).  Documents as a reader
    produces them: `listDoc` (plain arrays), `wf` (sorted unique keys), `finiteNums`, `Yaml.voidFree`
    (no void node; void is not a JSON value), `JText.NumOK nc` (every number of the document is
    printed by the codec `nc` to one JSON number token that reads back to the same bits: `strconv`
    is a parameter of the model), `lenLe N a` (arrays of `a` no longer than `N`).
    `FloatLaws`: a removed value equals itself.  `IdxLaws N` / `IdxNumOK nc N`: v1 list indices
    travel as float64 — exact conversion and printing below `N` and for -1 (`Float` is opaque).
    Then `Render` succeeds, `ReadDiffString` accepts the text, `Patch` applies the diff read, and the
    result `Equals` `b` and is structurally equal to it. -/
theorem v1_list_library_round_trip (L : FloatLaws) {N : Nat} (I : V1P.IdxLaws N) (nc : NumCodec)
    (J : IdxNumOK nc N) (m : V1.Metas) (hm : V1P.ListMode m) (a b : Json)
    (ha1 : a.listDoc = true) (ha2 : a.wf = true) (ha3 : a.finiteNums = true)
    (ha4 : Yaml.voidFree a = true) (ha5 : V1P.lenLe N a = true) (ha6 : JText.NumOK nc a = true)
    (hb1 : b.listDoc = true) (hb2 : b.wf = true) (hb3 : b.finiteNums = true)
    (hb4 : Yaml.voidFree b = true) (hb6 : JText.NumOK nc b = true) :
    ∃ text d' r, V1.renderM nc false (V1.liftDiff (V1.diffM m a b)) = .ok (some text) ∧
      V1.readDiffM nc text = .ok d' ∧ V1.patchM a d' = .ok r ∧ V1.equals m r b = true ∧
      specEq r b = true :=
  v1_list_lib_round_trip L I nc J m hm a b ha1 ha2 ha3 ha4 ha5 ha6 hb1 hb2 hb3 hb4 hb6

/-- **C14 round trip, v1 library, native format, list reading, END TO END.**
    `jd -v2=false [-setkeys ks] [-yaml] [-o F] a b`, then `jd -v2=false -p [same flags] [-o G] T a`.
    Flags: `-set`, `-mset` absent; `-precision` 0 or absent; native format; no `-color` (needed: the
    coloured text is rejected by `ReadDiffString`, on the model and on the real binary); ANY
    `-setkeys` (`Setkeys` alone leaves arrays lists in v1).  Documents: as in
    `v1_list_library_round_trip`, on what the reader returned (so also for YAML input).
    Conclusion: the first process prints the text `T` of `a.Diff(b, metadata...)` and exits 0 iff `T`
    is empty, else 1; `ReadDiffString T = d'`, `a.Patch(d') = r`, `r.Equals(b, metadata...)`, `r`
    structurally equal to `b`; the second process exits 0 and emits `r.Json(metadata...)` resp.
    `Yaml`. -/
theorem v1_native_cli_round_trip (FL : FloatLaws) {N : Nat} (I : V1P.IdxLaws N) (nc : NumCodec)
    (J : IdxNumOK nc N) (Y : YamlCarrier)
    (Ls : Bool → LibPack) (hL : Ls true = ⟨Json, V1.PDiff, v1Lib nc Y⟩)
    (b : Binary) {fl fl2 : Flags} {e1 e2 : Env} {opts : List Opt}
    (hm : isDiffMode fl) (h : PatchTwin fl fl2) (hv1 : libIsV1 b fl = true)
    (ho : parsedOptions b fl = .ok opts)
    (hset : fl.set = false) (hmset : fl.mset = false) (hprec : fl.precision = 0)
    (hfmt : formatOf fl.f = some .jd) (hcolor : fl.color = false)
    (hn : fl.nargs = 1 ∨ fl.nargs = 2)
    {ta tb : String} {a b' : Json}
    (hi1 : e1.in1 = .ok ta) (hi2 : e1.in2 = .ok tb) (hw1 : fl.o = "" ∨ e1.write = .ok ())
    (hra : (v1Lib nc Y).readDoc fl.yaml ta = .ok a)
    (hrb : (v1Lib nc Y).readDoc fl.yaml tb = .ok b')
    (ha1 : a.listDoc = true) (ha2 : a.wf = true) (ha3 : a.finiteNums = true)
    (ha4 : Yaml.voidFree a = true) (ha5 : V1P.lenLe N a = true) (ha6 : JText.NumOK nc a = true)
    (hb1 : b'.listDoc = true) (hb2 : b'.wf = true) (hb3 : b'.finiteNums = true)
    (hb4 : Yaml.voidFree b' = true) (hb6 : JText.NumOK nc b' = true)
    (hT : e2.in1 = .ok (emitted (proc Ls b fl e1)))
    (ha : e2.in2 = e1.in1) (hw : fl2.o = "" ∨ e2.write = .ok ()) :
    ∃ T d' r,
      V1.renderM nc false (V1.liftDiff (V1.diffM (metasOf opts) a b')) = .ok (some T) ∧
      V1.readDiffM nc T = .ok d' ∧ V1.patchM a d' = .ok r ∧
      V1.equals (metasOf opts) r b' = true ∧ specEq r b' = true ∧
      TwoRuns (proc Ls b fl e1) (proc Ls b fl2 e2) fl fl2 T (if T = "" then 0 else 1)
        ((v1Lib nc Y).renderDoc fl.yaml opts r) :=
  CliV1.v1_native_cli_round_trip FL I ⟨⟨hv1 ▸ hL, hm, hn, ⟨ta, hi1, hra⟩, ⟨tb, hi2, hrb⟩, hw1⟩, h, hT, ha, hw⟩ J ho
    hset hmset hprec hfmt hcolor ha1 ha2 ha3 ha4 ha5 ha6 hb1 hb2 hb3 hb4 hb6

/-- without `-setkeys` the metadata list of the theorem above is `[SetPrecision(*precision)]` -/
theorem v1_list_metadata (b : Binary) {fl : Flags} (hset : fl.set = false) (hmset : fl.mset = false)
    (hkeys : fl.setkeys = "") (hfmt : formatOf fl.f = some .jd) :
    parsedOptions b fl = .ok [Opt.prec fl.precision] ∧
    metasOf [Opt.prec fl.precision] = [V1.Meta.prec fl.precision] :=
  ⟨parsedOptions_list b hset hmset hkeys hfmt, rfl⟩

/-- **C14 round trip, v1 library, `-f merge` (RFC 7386), END TO END.**  Flags: `-f merge`, no `-set`
    / `-mset`, `-precision` 0 or absent, any `-color` (not used by `RenderMerge`), any `-setkeys`.
    Documents: `a`: `wf`, `rawDoc` (as read; nulls allowed); `b`: `wf`, `rawDoc`, `nullFree` (a null in
    a merge patch means "delete": the domain of RFC 7386), `finiteNums`, `Yaml.voidFree`,
    `JText.NumOK nc` (text layer); `mergeRTDom a b` = `a` is an object or `b ≠ {}` (needed: known
    finding KF-C12-emptyobj, `CliRTM.merge_emptyobj_no_libRoundTrip`).  Equal documents are covered
    (the text `{}`).  Exit status of the first run: `len(diff) > 0`. -/
theorem v1_merge_cli_round_trip (L : FloatLaws) (nc : NumCodec)
    (Y : YamlCarrier) (Ls : Bool → LibPack) (hL : Ls true = ⟨Json, V1.PDiff, v1Lib nc Y⟩)
    (b : Binary) {fl fl2 : Flags} {e1 e2 : Env} {opts : List Opt}
    (hm : isDiffMode fl) (h : PatchTwin fl fl2) (hv1 : libIsV1 b fl = true)
    (ho : parsedOptions b fl = .ok opts)
    (hf : fl.f = "merge") (hset : fl.set = false) (hmset : fl.mset = false)
    (hprec : fl.precision = 0) (hn : fl.nargs = 1 ∨ fl.nargs = 2)
    {ta tb : String} {a b' : Json}
    (hi1 : e1.in1 = .ok ta) (hi2 : e1.in2 = .ok tb) (hw1 : fl.o = "" ∨ e1.write = .ok ())
    (hra : (v1Lib nc Y).readDoc fl.yaml ta = .ok a)
    (hrb : (v1Lib nc Y).readDoc fl.yaml tb = .ok b')
    (haw : a.wf = true) (har : a.rawDoc = true)
    (hbw : b'.wf = true) (hbr : b'.rawDoc = true) (hbn : b'.nullFree = true)
    (hbf : b'.finiteNums = true) (hbv : Yaml.voidFree b' = true) (hbN : JText.NumOK nc b' = true)
    (hab : mergeRTDom a b' = true)
    (hT : e2.in1 = .ok (emitted (proc Ls b fl e1)))
    (ha2 : e2.in2 = e1.in1) (hw : fl2.o = "" ∨ e2.write = .ok ()) :
    ∃ T d' r,
      V1.renderMergeM nc (V1.liftDiff (V1.diffM (metasOf opts) a b')) = .ok (some T) ∧
      V1.readMergeM nc T = .ok d' ∧ V1.patchM a d' = .ok r ∧
      V1.equals (metasOf opts) r b' = true ∧ specEq r b' = true ∧ r.listDoc = true ∧
      TwoRuns (proc Ls b fl e1) (proc Ls b fl2 e2) fl fl2 T
        (if (V1.diffM (metasOf opts) a b').length > 0 then 1 else 0)
        ((v1Lib nc Y).renderDoc fl.yaml opts r) :=
  CliV1.v1_merge_cli_round_trip L ⟨⟨hv1 ▸ hL, hm, hn, ⟨ta, hi1, hra⟩, ⟨tb, hi2, hrb⟩, hw1⟩, h, hT, ha2, hw⟩ ho
    hf hset hmset hprec haw har hbw hbr hbn hbf hbv hbN hab

/-- **C14 round trip, v1 library, `-f patch` (RFC 6902), END TO END.**  Flags: `-f patch`, no `-set` /
    `-mset`, `-precision` 0 or absent, any `-color`, any `-setkeys`.  Documents as in the native list
    theorem, plus `V1R.noDash` (no object key `-`: `RenderPatch` of v1 refuses it) and `N ≤ 2^63`
    (`strconv.Atoi` of the index tokens).  The diff read back holds `jsonStringOrInteger` tokens;
    `Patch` (`V1.patchP`) reads them as keys or indices.  Exit status of the first run: `T ≠ "[]"`. -/
theorem v1_patch_cli_round_trip (L : FloatLaws) {N : Nat} (I : V1P.IdxLaws N) (hN : N ≤ 2 ^ 63)
    (nc : NumCodec)
    (Y : YamlCarrier) (Ls : Bool → LibPack) (hL : Ls true = ⟨Json, V1.PDiff, v1Lib nc Y⟩)
    (b : Binary) {fl fl2 : Flags} {e1 e2 : Env} {opts : List Opt}
    (hm : isDiffMode fl) (h : PatchTwin fl fl2) (hv1 : libIsV1 b fl = true)
    (ho : parsedOptions b fl = .ok opts)
    (hfmt : formatOf fl.f = some .patch) (hset : fl.set = false) (hmset : fl.mset = false)
    (hprec : fl.precision = 0) (hn : fl.nargs = 1 ∨ fl.nargs = 2)
    {ta tb : String} {a b' : Json}
    (hi1 : e1.in1 = .ok ta) (hi2 : e1.in2 = .ok tb) (hw1 : fl.o = "" ∨ e1.write = .ok ())
    (hra : (v1Lib nc Y).readDoc fl.yaml ta = .ok a)
    (hrb : (v1Lib nc Y).readDoc fl.yaml tb = .ok b')
    (ha1 : a.listDoc = true) (ha2 : a.wf = true) (ha3 : a.finiteNums = true)
    (ha4 : Yaml.voidFree a = true) (ha5 : V1P.lenLe N a = true) (ha6 : JText.NumOK nc a = true)
    (hb1 : b'.listDoc = true) (hb2 : b'.wf = true) (hb3 : b'.finiteNums = true)
    (hb4 : Yaml.voidFree b' = true) (hb6 : JText.NumOK nc b' = true)
    (hda : V1R.noDash a = true) (hdb : V1R.noDash b' = true)
    (hT : e2.in1 = .ok (emitted (proc Ls b fl e1)))
    (ha : e2.in2 = e1.in1) (hw : fl2.o = "" ∨ e2.write = .ok ()) :
    ∃ T d' r,
      V1.renderPatchM nc (V1.liftDiff (V1.diffM (metasOf opts) a b')) = .ok (some T) ∧
      V1.readPatchM nc T = .ok d' ∧ V1.patchP a d' = .ok r ∧
      V1.equals (metasOf opts) r b' = true ∧ specEq r b' = true ∧ specEq b' r = true ∧
      TwoRuns (proc Ls b fl e1) (proc Ls b fl2 e2) fl fl2 T (if T = "[]" then 0 else 1)
        ((v1Lib nc Y).renderDoc fl.yaml opts r) :=
  by
  obtain ⟨T, d', r, g1, g2, g3, g4, g5, g6⟩ :=
    V1T.v1_patch_text_readback_noDash L I hN nc (metasOf opts)
      (listMode_of_flags ho hset hmset (not_merge_of_format hfmt Format.noConfusion) hprec) a b'
      ha1 ha2 ha3 ha4 ha5 ha6 hb1 hb2 hb3 hb4 hb6 hda hdb
  exact ⟨T, d', r, g1, g2, g3, g4, g5, g6, Session.twoRuns
    ⟨⟨hv1 ▸ hL, hm, hn, ⟨ta, hi1, hra⟩, ⟨tb, hi2, hrb⟩, hw1⟩, h, hT, ha, hw⟩ ho hfmt
    (CliV1.v1Lib_calls nc Y g1 g2 g3)⟩

/-- **C14 round trip, v1 library, native format with `-set` / `-mset`, END TO END** (relative to the
    codec contract on the diff).  Flags: `-set` or `-mset` (both: SET wins in v1, `setReading`), no
    `-setkeys`, `-precision` 0 or absent, native format, no `-color`.  Documents: `setDoc` (plain
    arrays, sorted unique keys, finite numbers, no -0), `Yaml.voidFree`; `V1S.HashFaithful`: among
    the sub-terms of `a` and `b` equal V1 hash codes only for equivalent nodes (needed: KF-C04-alias,
    v1 hashes have no kind prefix).  `hp` / `hv`: every path / value of THE DIFF AT HAND is printed by
    the codec, without newline, and reads back (`V1S.PathOK`, `V1S.ValOK`) — hypotheses about the
    run, as `hp` of `CliRT.native_cli_round_trip`; not derived from the documents here.
    Conclusion: the text is read back as the diff ITSELF; the result `Equals` `b` and is equivalent
    to it as sets / bags. -/
theorem v1_setmodes_cli_round_trip (F : FloatEq0) (FL : FloatLaws) (nc : NumCodec)
    (Y : YamlCarrier) (Ls : Bool → LibPack) (hL : Ls true = ⟨Json, V1.PDiff, v1Lib nc Y⟩)
    (b : Binary) {fl fl2 : Flags} {e1 e2 : Env}
    (hm : isDiffMode fl) (h : PatchTwin fl fl2) (hv1 : libIsV1 b fl = true)
    (hsm : fl.set = true ∨ fl.mset = true) (hkeys : fl.setkeys = "") (hprec : fl.precision = 0)
    (hfmt : formatOf fl.f = some .jd) (hcolor : fl.color = false)
    (hn : fl.nargs = 1 ∨ fl.nargs = 2)
    {ta tb : String} {a b' : Json}
    (hi1 : e1.in1 = .ok ta) (hi2 : e1.in2 = .ok tb) (hw1 : fl.o = "" ∨ e1.write = .ok ())
    (hra : (v1Lib nc Y).readDoc fl.yaml ta = .ok a)
    (hrb : (v1Lib nc Y).readDoc fl.yaml tb = .ok b')
    (ha : a.setDoc = true) (hb : b'.setDoc = true)
    (hva : Yaml.voidFree a = true) (hvb : Yaml.voidFree b' = true)
    (HF : V1S.HashFaithful (metasOf (modeOpts fl)) (setReading fl) (subterms a ++ subterms b'))
    (hp : ∀ h ∈ V1.diffM (metasOf (modeOpts fl)) a b',
      (jsonText nc (.arr .raw (V1.rawNormList h.path))).isSome = true ∧ V1S.PathOK nc h.path)
    (hv : ∀ h ∈ V1.diffM (metasOf (modeOpts fl)) a b', ∀ v ∈ h.old ++ h.new,
      (V1.marshalNode nc v).isSome = true ∧ V1S.ValOK nc v)
    (hT : e2.in1 = .ok (emitted (proc Ls b fl e1)))
    (ha2 : e2.in2 = e1.in1) (hw : fl2.o = "" ∨ e2.write = .ok ()) :
    ∃ T r,
      parsedOptions b fl = .ok (modeOpts fl) ∧
      V1.renderM nc false (V1.liftDiff (V1.diffM (metasOf (modeOpts fl)) a b')) = .ok (some T) ∧
      V1.readDiffM nc T = .ok (V1.diffM (metasOf (modeOpts fl)) a b') ∧
      V1.patchM a (V1.diffM (metasOf (modeOpts fl)) a b') = .ok r ∧
      V1.equals (metasOf (modeOpts fl)) r b' = true ∧ equivB (setReading fl) r b' = true ∧
      TwoRuns (proc Ls b fl e1) (proc Ls b fl2 e2) fl fl2 T (if T = "" then 0 else 1)
        ((v1Lib nc Y).renderDoc fl.yaml (modeOpts fl) r) :=
  CliV1.v1_setmodes_cli_round_trip F FL ⟨⟨hv1 ▸ hL, hm, hn, ⟨ta, hi1, hra⟩, ⟨tb, hi2, hrb⟩, hw1⟩, h, hT, ha2, hw⟩
    hsm hkeys hprec hfmt hcolor ha hb hva hvb HF hp hv

/-- **C14 round trip, v1 library, native format, list reading with `-precision eps`** (`eps` finite
    and non-negative: `nonnegBits`; needed at library level, `V1Pr.precNN_needed`), relative to the
    codec contract on the diff (`hp`, `hv` as above).  v1 `Diff` honours the precision (v2 does not),
    so the patched document `Equals` `b` under the metadata and is `equivB [Precision eps]` to it —
    NOT structurally equal (`V1Pr.result_not_structural`). -/
theorem v1_native_cli_round_trip_precision (FL : FloatLaws) {N : Nat} (I : V1P.IdxLaws N)
    (nc : NumCodec) (Y : YamlCarrier)
    (Ls : Bool → LibPack) (hL : Ls true = ⟨Json, V1.PDiff, v1Lib nc Y⟩)
    (b : Binary) {fl fl2 : Flags} {e1 e2 : Env} {opts : List Opt}
    (hm : isDiffMode fl) (h : PatchTwin fl fl2) (hv1 : libIsV1 b fl = true)
    (ho : parsedOptions b fl = .ok opts)
    (hset : fl.set = false) (hmset : fl.mset = false) (hprec : nonnegBits fl.precision = true)
    (hfmt : formatOf fl.f = some .jd) (hcolor : fl.color = false)
    (hn : fl.nargs = 1 ∨ fl.nargs = 2)
    {ta tb : String} {a b' : Json}
    (hi1 : e1.in1 = .ok ta) (hi2 : e1.in2 = .ok tb) (hw1 : fl.o = "" ∨ e1.write = .ok ())
    (hra : (v1Lib nc Y).readDoc fl.yaml ta = .ok a)
    (hrb : (v1Lib nc Y).readDoc fl.yaml tb = .ok b')
    (ha1 : a.listDoc = true) (ha2 : a.wf = true) (ha3 : a.finiteNums = true)
    (ha4 : Yaml.voidFree a = true) (ha5 : V1P.lenLe N a = true)
    (hb1 : b'.listDoc = true) (hb2 : b'.wf = true) (hb3 : b'.finiteNums = true)
    (hb4 : Yaml.voidFree b' = true)
    (hp : ∀ h ∈ V1.diffM (metasOf opts) a b',
      (jsonText nc (.arr .raw (V1.rawNormList h.path))).isSome = true ∧ V1S.PathOK nc h.path)
    (hv : ∀ h ∈ V1.diffM (metasOf opts) a b', ∀ v ∈ h.old ++ h.new,
      (V1.marshalNode nc v).isSome = true ∧ V1S.ValOK nc v)
    (hT : e2.in1 = .ok (emitted (proc Ls b fl e1)))
    (ha : e2.in2 = e1.in1) (hw : fl2.o = "" ∨ e2.write = .ok ()) :
    ∃ T d' r,
      V1.renderM nc false (V1.liftDiff (V1.diffM (metasOf opts) a b')) = .ok (some T) ∧
      V1.readDiffM nc T = .ok d' ∧ V1.patchM a d' = .ok r ∧
      V1.equals (metasOf opts) r b' = true ∧ equivB [Opt.prec fl.precision] r b' = true ∧
      TwoRuns (proc Ls b fl e1) (proc Ls b fl2 e2) fl fl2 T (if T = "" then 0 else 1)
        ((v1Lib nc Y).renderDoc fl.yaml opts r) :=
  CliV1.v1_native_cli_round_trip_precision FL I ⟨⟨hv1 ▸ hL, hm, hn, ⟨ta, hi1, hra⟩, ⟨tb, hi2, hrb⟩, hw1⟩, h, hT, ha, hw⟩ ho
    hset hmset hprec hfmt hcolor ha1 ha2 ha3 ha4 ha5 hb1 hb2 hb3 hb4 hp hv

/-! ## Non-vacuity -/

/-- the flag-level facts on a concrete command line: `jd -v2=false a b` on binary B runs the v1
    library with the metadata `[SetPrecision(0)]`, which are `ListMode` -/
example : libIsV1 .top Example.fl1 = true ∧ parsedOptions .top Example.fl1 = .ok [Opt.prec 0] ∧
    metasOf [Opt.prec 0] = [V1.Meta.prec 0] ∧ V1P.ListMode (metasOf [Opt.prec 0]) :=
  ⟨rfl, rfl, rfl, ⟨rfl, rfl, rfl, rfl⟩⟩

/-- `jd -v2=false -set -mset a b`: the metadata are `[SET, MULTISET, SetPrecision(0)]` and the v1
    reading is SET -/
example : metasOf (modeOpts { set := true, mset := true }) = [.set, .mset, .prec 0] ∧
    setReading { set := true, mset := true } = [Opt.set] ∧
    V1S.Mode (metasOf (modeOpts { set := true, mset := true })) [Opt.set] :=
  ⟨rfl, rfl, mode_of_flags (fl := { set := true, mset := true }) (.inl rfl) rfl⟩

/-- **`v1_native_cli_round_trip` on two concrete JSON files**
    (`{"k":[true,null,["x"]]}` → `{"k":[false,null,["x","y"]],"n":null}`): every hypothesis is
    discharged except the IEEE laws and the two laws on float64 list indices. -/
example (L : FloatLaws) (I : V1P.IdxLaws 3) (J : IdxNumOK NativeRT.exCodec 3) :
    ∃ T r, (proc Example.Ls .top Example.fl1 Example.e1).stdout = T ∧
      (proc Example.Ls .top Example.fl1 Example.e1).exit = (if T = "" then 0 else 1) ∧
      specEq r E2E.Example.exB = true ∧ V1.equals [.prec 0] r E2E.Example.exB = true ∧
      (proc Example.Ls .top Example.fl2 Example.e2).exit = 0 ∧
      (proc Example.Ls .top Example.fl2 Example.e2).stdout = "" ∧
      (proc Example.Ls .top Example.fl2 Example.e2).outfile =
        some ((V1.jsonM NativeRT.exCodec (V1.dispatch [.prec 0] r)).getD "") :=
  Example.ex_v1_cli_end_to_end L I J

/-- **`v1_merge_cli_round_trip` on two concrete JSON files** (`{"a":"x","b":[true]}` →
    `{"a":"y","c":[true,"z"]}`), `-f merge -color`, the second run reading the document from stdin:
    only `FloatLaws` remains. -/
example (L : FloatLaws) :
    ∃ T r, (proc Example.Ls .top Example.flm Example.em1).stdout = T ∧
      specEq r Example.mB = true ∧
      (proc Example.Ls .top Example.flm2 Example.em2).exit = 0 ∧
      (proc Example.Ls .top Example.flm2 Example.em2).stdout =
        (V1.jsonM NativeRT.exCodec (V1.dispatch [.merge, .prec 0] r)).getD "" :=
  Example.ex_v1_merge_cli L

end Jd.Props.C14V1
