/-
  Property C07 — "every hunk describes a real difference … equal sub-documents are never mentioned",
  LIST reading of arrays (`dispatchTag o = .list`), STRICT strategy (`isMerge o = false`), no
  Precision: clauses 1–3 for ARRAYS WHOSE ELEMENTS MAY BE CONTAINERS (objects, arrays), at FULL
  nesting depth. Statement file; proofs in JdProofs/RealDiffList.lean (namespace `Jd.RealL`).
  This closes the item "LIST reading, clauses 2 and 3 for list hunks whose elements are containers:
  not proved" of JdProps/C07.lean (whose sections 2a, 3, 5 ask `scalars`). The clause "no hunk is
  redundant" is already general (`Jd.Props.C07.no_redundant_hunk_list`).

  WHICH FORM IS PROVED: the STATIC one (sections 1–5; against the two documents themselves, no
  interpreter, NO hash-collision hypothesis), and the OPERATIONAL one for the removed values
  (section 6; against the reference interpreter `applyStrict`, a restatement of
  `Rec.diffM_hunk_applies`, which needs `HashOK`).

  VOCABULARY (definitions of `Jd.RealL`)
    `Script`, `Step`   an ALIGNMENT of two arrays `xs`, `ys`: a list of steps
                         `keep x y`   `x` of `xs` is kept and stands for `y` of `ys`,
                         `sub x y`    `x`, `y` are recursed into,
                         `edit R A`   the run `R` of `xs` is replaced by the run `A` of `ys`;
                       `src S` = `xs` (what the steps consume), `tgt S` = `ys` (what they produce).
    `Step.ok o`        what the diff guarantees about a step: `keep`: ONE hash code (list elements are
                       matched by their 64-bit hash code); `sub`: two containers of the same kind
                       (`sameContainerType`) with DIFFERENT hash codes; `edit`: `R ≠ [] ∨ A ≠ []` and
                       the j-th element of `R` and the j-th of `A` have different hash codes
                       (`Real.HashApart`).
    `hunks o p k prev S`  the hunks an alignment stands for below the path `p`: an `edit R A` step
                       standing at index `k` of the SECOND array is the hunk `@ p ++ [k]`, before-context
                       the preceding element of `ys` (void at the start), `- R`, `+ A`, after-context
                       the next element of `xs` (void at the end); a `sub x y` step at index `k` is
                       the sub-diff `diffNode o false x y (p ++ [k])`; `keep` is nothing.
    `Aligned o t xs t' ys S`  `S` consumes `xs`, produces `ys`, every step is `ok`, and for EVERY path
                       `p` the diff of the two arrays below `p` IS `hunks o p 0 void S`.
    `Nav o a b qa q u w`  joint navigation: following `q`, `b` leads to `w`; following `qa`, `a` leads to
                       `u`. Keys: the same key on both sides. A list index `j` of `q` enters `ys[j]`;
                       `qa` carries the index of the element of `xs` that the alignment pairs with
                       `ys[j]` by a `sub` step — `j` shifted by the preceding edits (`index_shift`).
                       `q` is what the hunks carry: hunk paths are paths of `b`.
    `Leaf`, `HunkReal o a b p h`  `h` is a hunk at a joint location `q` of `a`, `b` (path `p ++ q …`) and
                       is there: a value replacement (`Real.RealOpt`, the seven clauses of
                       `C07.keyed_hunk_real`), a member removed / added, or an `edit` step of the
                       alignment of the two arrays standing there.
    `Real.Located q xs ys h`  `h.path = q ++ [i]`, `xs = preA ++ h.remove ++ postA`,
                       `ys = preB ++ h.add ++ postB`, `|preB| = i`, `h.before` = [last of `preB` or void],
                       `h.after` = [head of `postA` or void]   (JdProofs/RealDiff.lean).
    `Real.getAt n q`   what `n` holds at the key / index path `q`.

  WHAT "REMOVED DIFFERS FROM ADDED" MEANS FOR RUNS (tested by `#eval` on all pairs of arrays up to
    length 3 over 8 elements incl. objects and arrays, 342 225 pairs, no counterexample; then
    proved): POSITION BY POSITION — the j-th removed value is not `Equals` to the j-th added value
    whenever both exist, also when containers of different kinds are replaced. (Not "no removed
    value equals any added value": `[1,2] → [2,1]` may remove 1 … and add … 1.)

  HYPOTHESES and why
    `dispatchTag o = .list`, `isMerge o = false`, `precOf o = 0`   the reading proved.
    `a.rawDoc`     `a` as read from JSON / YAML (every array a plain `jsonArray`): a typed `jsonList`
                   element against a plain array is replaced wholesale with a context line
                   (`Rec.Example.mixed_not_concatenation`); no reader produces such a node.
    `Good x`       `listDoc` ∧ `wf` (sorted unique keys) ∧ `finiteNums` ∧ `memOK` (no void member): the
                   domain of C01. `wf` is needed: `Rec.Example.nonwf_diff`.
    `NumHashOK o (subterms a) (subterms b)`   numbers of `a` and `b` that are equal as floats have the
                   same hash code. True of all finite doubles (`0` and `-0` hash alike); a hypothesis
                   because the kernel cannot evaluate `Float`. Implied by `DPL.ZeroOK`.
    `Dom x`, `FloatEq0`   (only the `Equals` forms) `listDoc` ∧ `wf` ∧ `finiteNums` ∧ `noNegZero`, and
                   `|x − y| ≤ +0` only for `x = y`: under these `Equals` implies equal hash codes.
    NO hash-collision hypothesis in sections 1–5: the diff compares hash codes, and the
    statements are about hash codes (`keep`: equal, `sub` / `edit`: different) or follow from
    "different hash codes ⇒ not `Equals`". With `DPL.HashOK` a kept pair is moreover structurally equal.
-/
import JdProofs.RealDiffList

set_option autoImplicit false

namespace Jd.Props.C07List
open Jd Jd.Spec Jd.DPL Jd.Rec Jd.RealL

/-! ## 1. the diff of two arrays is the rendering of an alignment -/

/-- for two arrays (elements arbitrary: scalars, objects, arrays) there is an alignment `S` of `xs`
    and `ys` — kept pairs with one hash code, recursed pairs same-kind containers with different
    hash codes, edits non-empty and position-wise hash-apart — of which the diff is the rendering,
    below every path `p`. `ht`, `ht'`, `htt`: both arrays are read as lists and the pair is not "typed
    list against plain array" (`t = t' = .raw` for documents read from text); `nomix`: the same
    for the elements -/
theorem array_diff_is_alignment {o : Opts} (ho : dispatchTag o = .list) {t t' : Tag}
    (xs ys : List Json) (ht : (t == .raw || t == .list) = true)
    (ht' : (t' == .raw || t' == .list) = true) (htt : t = .raw ∨ t' = .list)
    (gx : GoodL xs) (gy : GoodL ys) (Z : NumHashOK o (subtermsList xs) (subtermsList ys))
    (nomix : ∀ x ∈ xs, ∀ y ∈ ys, mixedPair x y = false) :
    ∃ S : Script, src S = xs ∧ tgt S = ys ∧ (∀ st ∈ S, st.ok o) ∧
      ∀ p, diffNode o false (.arr t xs) (.arr t' ys) p = hunks o p 0 .void S := by
  obtain ⟨S, al⟩ := diffNode_aligned ho xs ys ht ht' htt gx gy Z nomix
  exact ⟨S, al.src_eq, al.tgt_eq, al.ok, al.diff_eq⟩

/-- clauses 2 and 3 at one array level (any path prefix `p`): every hunk is an array-level hunk —
    `remove` a contiguous run of `xs`, `add` the contiguous run of `ys` standing at the addressed
    index, context lines literally the neighbours, not empty, j-th removed and j-th added value
    with different hash codes — or belongs to the sub-diff of a `sub x y` step of the alignment,
    addressed to the index of `y` in `ys` -/
theorem array_hunk_located {o : Opts} {t t' : Tag} {xs ys : List Json} {S : Script}
    (al : Aligned o t xs t' ys S) (p : Path) :
    ∀ h ∈ diffNode o false (.arr t xs) (.arr t' ys) p,
      (Real.Located p xs ys h ∧
        (∀ (j : Nat) (r w : Json), h.remove[j]? = some r → h.add[j]? = some w →
          hashCode o r ≠ hashCode o w) ∧
        (h.remove ≠ [] ∨ h.add ≠ []) ∧ h.merge = false) ∨
      (∃ S1 x y S2, S = S1 ++ .sub x y :: S2 ∧ sameContainerType o x y = true ∧
        hashCode o x ≠ hashCode o y ∧
        h ∈ diffNode o false x y (p ++ [.idx ((tgt S1).length : Int)])) :=
  aligned_hunk al p

/-- clause 1 at one array level: an element `y` that the alignment KEEPS (index `j = |tgt S1|` of
    `ys`; it stands for `x`, index `|src S1|` of `xs`, same hash code) is not mentioned: no hunk has a
    path below `p ++ [j]`, and a hunk addressed to `p ++ [j]` itself adds nothing — it is an
    `edit R []` step removing elements that stand just before `x` -/
theorem kept_element_not_mentioned {o : Opts} {t t' : Tag} {xs ys : List Json} {S1 S2 : Script}
    {x y : Json} (al : Aligned o t xs t' ys (S1 ++ .keep x y :: S2)) (p : Path) :
    hashCode o x = hashCode o y ∧
    ∀ h ∈ diffNode o false (.arr t xs) (.arr t' ys) p,
      (∀ e, ¬ (p ++ [PathElem.idx ((tgt S1).length : Int), e]) <+: h.path) ∧
      (h.path = p ++ [PathElem.idx ((tgt S1).length : Int)] →
        h.add = [] ∧ ∃ S0 R S0', S1 = S0 ++ .edit R [] :: S0' ∧ tgt S0' = [] ∧ h.remove = R) :=
  ⟨al.ok (.keep x y) (by simp), kept_not_mentioned al p⟩

/-- a hunk that goes strictly below the index `j` belongs to the sub-diff of the `sub` step whose
    second element stands at `j` -/
theorem hunk_below_index_is_sub_diff {o : Opts} {t t' : Tag} {xs ys : List Json} {S : Script}
    (al : Aligned o t xs t' ys S) (p : Path) {h : Hunk}
    (hm : h ∈ diffNode o false (.arr t xs) (.arr t' ys) p) {j : Nat} {e : PathElem}
    (hpre : (p ++ [PathElem.idx (j : Int), e]) <+: h.path) :
    ∃ S1 x y S2, S = S1 ++ .sub x y :: S2 ∧ (tgt S1).length = j ∧
      h ∈ diffNode o false x y (p ++ [.idx (j : Int)]) := by
  rw [al.diff_eq p] at hm
  exact hunk_below_index hm hpre

/-! ## 2. every hunk of `a.Diff(b)` is real, at any depth -/

/-- EVERY hunk of `a.Diff(b)` is `HunkReal`: it sits at a joint location of `a` and `b` reached
    through object keys and list elements, and is there a value replacement, a member removed or
    added, or an `edit` step of the alignment of the two arrays standing there -/
theorem every_hunk_real {o : Opts} (ho : dispatchTag o = .list) (hp : precOf o = 0)
    (hm : isMerge o = false) {a b : Json} (hr : a.rawDoc = true) (ha : Good a) (hb : Good b)
    (N : NumHashOK o (subterms a) (subterms b)) :
    ∀ h ∈ diffM o a b, HunkReal o a b [] h :=
  diffM_hunk_real ho hp hm hr ha hb N

/-- **clauses 2 and 3 for every hunk addressed to a list index, at any depth** (`h.path = q ++ [i]`):
    `b` holds an array `ys` at `q` — the path read literally —, `a` holds an array `xs` at a path `qa` of
    the same shape (same keys, list indices at the same places); `h.remove` is a contiguous run of
    `xs`; `h.add` is the contiguous run of `ys` standing at index `i`; the context lines are literally
    the neighbouring elements (of `ys` before, of `xs` after; void at the array boundary); the hunk
    is not empty; the j-th removed and the j-th added value have different hash codes -/
theorem list_hunk_located {o : Opts} (ho : dispatchTag o = .list) (hp : precOf o = 0)
    (hm : isMerge o = false) {a b : Json} (hr : a.rawDoc = true) (ha : Good a) (hb : Good b)
    (N : NumHashOK o (subterms a) (subterms b)) :
    ∀ h ∈ diffM o a b, ∀ (q : Path) (i : Int), h.path = q ++ [.idx i] →
      ∃ (qa : Path) (t : Tag) (xs : List Json) (t' : Tag) (ys : List Json),
        Real.getAt a qa = some (.arr t xs) ∧ Real.getAt b q = some (.arr t' ys) ∧ sameShape qa q ∧
        (∃ (i' : Nat) (preA postA preB postB : List Json),
          h.path = q ++ [PathElem.idx i'] ∧ xs = preA ++ h.remove ++ postA ∧
          ys = preB ++ h.add ++ postB ∧ preB.length = i' ∧
          h.before = [preB.getLast?.getD .void] ∧ h.after = [postA.headD .void]) ∧
        (∀ (j : Nat) (r w : Json), h.remove[j]? = some r → h.add[j]? = some w →
          hashCode o r ≠ hashCode o w) ∧
        (h.remove ≠ [] ∨ h.add ≠ []) ∧ h.merge = false := by
  intro h hmem q i hpath
  obtain ⟨qa, t, xs, t', ys, _, g1, g2, g3, g4, g5, g6, g7⟩ :=
    hunkReal_list (diffM_hunk_real ho hp hm hr ha hb N h hmem) hpath
  exact ⟨qa, t, xs, t', ys, g1, g2, g3, g4, g5, g6, g7⟩

/-- every OTHER hunk (path not ending with a list index: the root, or below an object key — also
    INSIDE list elements) carries no context and replaces one value: what `a` holds at `qa` (same
    shape as the hunk's path) by what `b` holds at the hunk's path, literally; these are not
    `Equals`; one side may hold nothing (member removed / added): `Real.RealOpt` -/
theorem value_hunk_real {o : Opts} (ho : dispatchTag o = .list) (hp : precOf o = 0)
    (hm : isMerge o = false) {a b : Json} (hr : a.rawDoc = true) (ha : Good a) (hb : Good b)
    (N : NumHashOK o (subterms a) (subterms b)) :
    ∀ h ∈ diffM o a b, (∀ q i, h.path ≠ q ++ [PathElem.idx i]) →
      h.before = [] ∧ h.after = [] ∧ h.merge = false ∧
      ∃ qa, sameShape qa h.path ∧
        h.remove.length ≤ 1 ∧ h.add.length ≤ 1 ∧
        (∀ v, h.remove = [v] → ∃ u, Real.getAt a qa = some u ∧ Real.asList v = Real.asList u) ∧
        (∀ w, h.add = [w] → Real.getAt b h.path = some w) ∧
        (h.remove = [] → ∀ u, Real.getAt a qa = some u → u = .void) ∧
        (h.add = [] → ∀ u, Real.getAt b h.path = some u → u = .void) ∧
        (∀ v w, h.remove = [v] → h.add = [w] → equals o v w = false) :=
  fun h hmem hpath => hunkReal_value (diffM_hunk_real ho hp hm hr ha hb N h hmem) hpath

/-- **clause 3, `Equals` form, any depth**: in a hunk addressed to a list index the j-th removed
    value is not `Equals` to the j-th added value (scalars or containers of any kinds), and the
    hunk does not remove exactly what it adds -/
theorem list_hunk_removed_not_equals_added (F : FloatEq0) {o : Opts} (ho : dispatchTag o = .list)
    (hp : precOf o = 0) (hm : isMerge o = false) {a b : Json} (hr : a.rawDoc = true)
    (ha : Good a) (hb : Good b) (da : Dom a) (db : Dom b)
    (N : NumHashOK o (subterms a) (subterms b)) :
    ∀ h ∈ diffM o a b, ∀ (q : Path) (i : Int), h.path = q ++ [.idx i] →
      (∀ (j : Nat) (r w : Json), h.remove[j]? = some r → h.add[j]? = some w →
        equals o r w = false) ∧ h.remove ≠ h.add :=
  fun h hmem _ _ hpath =>
    hunkReal_list_not_equals F ho hp da db (diffM_hunk_real ho hp hm hr ha hb N h hmem) hpath

/-! ## 3. what the joint navigation means -/

/-- the path of the navigation — the path the hunks carry — read literally, is a path of `b`; `qa` is
    a path of `a`; the two have the same shape -/
theorem nav_reads_both {o : Opts} {a b : Json} {qa q : Path} {u w : Json}
    (nav : Nav o a b qa q u w) :
    Real.getAt a qa = some u ∧ Real.getAt b q = some w ∧ sameShape qa q :=
  ⟨nav.getAt_a, nav.getAt_b, nav.sameShape⟩

/-- the index shift at one list level: for a step standing after `S1`, its position in the first
    array plus what the edits of `S1` add equals its position in the second array (the index in the
    path) plus what they remove -/
theorem index_shift (S1 : Script) :
    (src S1).length + addedLen S1 = (tgt S1).length + removedLen S1 :=
  RealL.index_shift S1

/-- a navigation step through a list index only ever enters a pair of same-kind containers with
    different hash codes; on the domain they are not `Equals`: no hunk below a list index speaks
    about an `Equals` pair of list elements -/
theorem recursed_pair_not_equals (F : FloatEq0) {o : Opts} (ho : dispatchTag o = .list)
    (hp : precOf o = 0) {a b : Json} (da : Dom a) (db : Dom b) {qa q q' : Path} {i : Int}
    {u w : Json} (nav : Nav o a b qa q u w) (e : q = q' ++ [.idx i]) :
    sameContainerType o u w = true ∧ hashCode o u ≠ hashCode o w ∧ equals o u w = false :=
  ⟨(nav.ends_idx q' i e).1, (nav.ends_idx q' i e).2, nav.not_equals F ho hp da db e⟩

/-! ## 4. clause 1 at full depth -/

/-- **`Equals` sub-documents are never mentioned** — through object keys AND list elements: if the
    joint navigation `q` leads to `Equals` values, no hunk of `a.Diff(b)` has a path at or below `q` -/
theorem equal_subdocument_not_mentioned_deep (F : FloatEq0) {o : Opts}
    (ho : dispatchTag o = .list) (hp : precOf o = 0) (hm : isMerge o = false) {a b : Json}
    (hr : a.rawDoc = true) (da : Dom a) (db : Dom b) {qa q : Path} {u w : Json}
    (nav : Nav o a b qa q u w) (he : equals o u w = true) :
    ∀ h ∈ diffM o a b, ¬ q <+: h.path := by
  rw [diffM, hm]
  simpa using equal_not_mentioned F ho hp hr da db nav he []

/-- **a kept list element is not mentioned, at any depth**: `a`, `b` hold the arrays `xs`, `ys` at the
    joint location `q`, and their alignment keeps `x` for `y = ys[j]`: no hunk of `a.Diff(b)` goes below
    `q ++ [j]`, and a hunk addressed to `q ++ [j]` adds nothing -/
theorem kept_element_not_mentioned_deep {o : Opts} (ho : dispatchTag o = .list)
    (hm : isMerge o = false) {a b : Json} (hla : a.listDoc = true) (hwa : a.wf = true)
    (hlb : b.listDoc = true) (hwb : b.wf = true) {qa q : Path} {t t' : Tag} {xs ys : List Json}
    (nav : Nav o a b qa q (.arr t xs) (.arr t' ys)) {S1 S2 : Script} {x y : Json}
    (al : Aligned o t xs t' ys (S1 ++ .keep x y :: S2)) :
    ∀ h ∈ diffM o a b,
      (∀ e, ¬ (q ++ [PathElem.idx ((tgt S1).length : Int), e]) <+: h.path) ∧
      (h.path = q ++ [PathElem.idx ((tgt S1).length : Int)] → h.add = []) := by
  rw [diffM, hm]
  simpa using kept_not_mentioned_deep ho nav al hla hwa hlb hwb []

/-- localisation: the hunks of `a.Diff(b)` strictly below a joint location `q` are hunks of the
    sub-diff of the two values standing there -/
theorem hunks_below_location {o : Opts} (ho : dispatchTag o = .list) (hm : isMerge o = false)
    {a b : Json} (hla : a.listDoc = true) (hwa : a.wf = true) (hlb : b.listDoc = true)
    (hwb : b.wf = true) {qa q : Path} {u w : Json} (nav : Nav o a b qa q u w) :
    ∀ h ∈ diffM o a b, ∀ r, r ≠ [] → (q ++ r) <+: h.path → h ∈ diffNode o false u w q := by
  intro h hmem r hr hpre
  rw [diffM, hm] at hmem
  simpa using hunk_below_nav ho nav hla hwa hlb hwb [] h hmem r (by simpa using hpre) (.inl hr)

/-! ## 5. operational form: the removed values are what the reference interpreter finds -/

/-- split `a.Diff(b) = D1 ++ h :: D2` anywhere; `h` addressed to a list index, `h.path = q ++ [i]`.
    The hunks before `h` apply to `a` (reference interpreter) and give `m`; at `q` — the hunk's own
    path, read literally in `m` — `m` holds a list `l`, and the values `h` removes are, one by one,
    structurally equal to `l[i], l[i+1], …`: each removed value is what the interpreter finds at that
    position at that moment (context lines: `Rec.diffM_context_is_neighbours`).
    Hypotheses of C01 in list mode: `HashOK` (no FNV collision between a sub-term of `a` and one of
    `b`), `ZeroOK` (no `0` / `-0` pair), `FloatLaws` -/
theorem removed_values_operational (L : FloatLaws) {o : Opts} (ho : dispatchTag o = .list)
    (hm : isMerge o = false) {a b : Json} (ha : Good a) (hb : Good b)
    (H : HashOK o a b) (Z : ZeroOK a b) (D1 : Diff) (h : Hunk) (D2 : Diff)
    (hd : diffM o a b = D1 ++ h :: D2) (q : Path) (i : Nat) (hpath : h.path = q ++ [.idx (i : Int)]) :
    ∃ (m : Json) (t : Tag) (l : List Json), applyStrictAll a D1 = some m ∧
      Real.getAt m q = some (.arr t l) ∧ i + h.remove.length ≤ l.length ∧
      prefixEq h.remove (l.drop i) = true := by
  obtain ⟨m, m', g1, _, g3⟩ := diffM_hunk_applies L o ho hm a b ha.listDoc ha.wf ha.fin ha.mem
    hb.listDoc hb.wf hb.fin hb.mem H Z D1 h D2 hd
  obtain ⟨t, l, l', g4, g5⟩ := g3 q i hpath
  obtain ⟨_, hpre, _⟩ := Real.splice_nat g5
  have hlen := Real.prefixEq_length _ _ hpre
  simp only [List.length_drop] at hlen
  have hi := (Real.splice_nat g5).1
  exact ⟨m, t, l, g1, g4, by omega, hpre⟩

/-! ## 6. non-vacuity

  `exA = ["x", {"a":"u","k":["p"]}, ["p"], "z", "w"]`, `exB = ["y", {"a":"v","k":["p"]}, ["p","q"], "z"]`
  (no options). `#eval diffM [] exA exB` gives four hunks: `@ [0] - "x" + "y"` (an `edit` step),
  `@ [1,"a"] - "u" + "v"` (a value hunk inside a list element), `@ [2,1] + "q"` (a list hunk at depth
  two), `@ [4] - "w"` (a pure removal after the kept `"z"`). All hypotheses of sections 1–4 hold for
  this pair (there is no number at all, so `NumHashOK` is trivially true), and the diff is not
  empty. -/

/-- `["x", {"a":"u","k":["p"]}, ["p"], "z", "w"]` -/
def exA : Json := .arr .raw [.str "x", .obj [("a", .str "u"), ("k", .arr .raw [.str "p"])],
  .arr .raw [.str "p"], .str "z", .str "w"]
/-- `["y", {"a":"v","k":["p"]}, ["p","q"], "z"]` -/
def exB : Json := .arr .raw [.str "y", .obj [("a", .str "v"), ("k", .arr .raw [.str "p"])],
  .arr .raw [.str "p", .str "q"], .str "z"]

theorem ex_raw : exA.rawDoc = true ∧ exB.rawDoc = true := by decide +kernel
theorem ex_goodA : Good exA := ⟨by decide +kernel, by decide +kernel, by decide +kernel, by decide +kernel⟩
theorem ex_goodB : Good exB := ⟨by decide +kernel, by decide +kernel, by decide +kernel, by decide +kernel⟩
theorem ex_domA : Dom exA := ⟨by decide +kernel, by decide +kernel, by decide +kernel, by decide +kernel⟩
theorem ex_domB : Dom exB := ⟨by decide +kernel, by decide +kernel, by decide +kernel, by decide +kernel⟩
theorem ex_num : NumHashOK [] (subterms exA) (subterms exB) := by
  intro u v hu
  simp [exA, subterms, subtermsList, subtermsKvs] at hu

/-- the diff of the example is not empty (an empty diff means equal hash codes) -/
theorem ex_nonempty : diffM [] exA exB ≠ [] := by
  intro e
  have := (DPL.diff_nil_hash [] rfl ex_num).1 exA exB ex_goodA.listDoc ex_goodB.listDoc
    (fun _ h => h) (fun _ h => h) ex_goodA ex_goodB [] e
  revert this
  decide +kernel

example : ∀ h ∈ diffM [] exA exB, HunkReal [] exA exB [] h :=
  every_hunk_real rfl rfl rfl ex_raw.1 ex_goodA ex_goodB ex_num

example (F : FloatEq0) : ∀ h ∈ diffM [] exA exB, ∀ (q : Path) (i : Int), h.path = q ++ [.idx i] →
    (∀ (j : Nat) (r w : Json), h.remove[j]? = some r → h.add[j]? = some w →
      equals [] r w = false) ∧ h.remove ≠ h.add :=
  list_hunk_removed_not_equals_added F rfl rfl rfl ex_raw.1 ex_goodA ex_goodB ex_domA ex_domB ex_num

/-- an alignment of the two top-level arrays exists -/
example : ∃ S, Aligned [] .raw
    [.str "x", .obj [("a", .str "u"), ("k", .arr .raw [.str "p"])], .arr .raw [.str "p"], .str "z",
      .str "w"] .raw
    [.str "y", .obj [("a", .str "v"), ("k", .arr .raw [.str "p"])], .arr .raw [.str "p", .str "q"],
      .str "z"] S :=
  diffNode_aligned rfl _ _ rfl rfl (.inl rfl) (good_arr.1 ex_goodA).2 (good_arr.1 ex_goodB).2
    (fun u v hu _ => by simp [subterms, subtermsList, subtermsKvs] at hu)
    (fun x hx y _ => mixedPair_of_rawDoc_left y (by
      simp only [List.mem_cons, List.not_mem_nil, or_false] at hx
      rcases hx with rfl | rfl | rfl | rfl | rfl <;> decide +kernel))

/-- a joint navigation with `Equals` ends: the members `"k"` of the two objects standing at index 1
    are `Equals` (`["p"]` on both sides); the hypotheses of `equal_subdocument_not_mentioned_deep` other
    than the navigation hold -/
example : equals [] (.arr .raw [.str "p"]) (.arr .raw [.str "p"]) = true := by decide +kernel

end Jd.Props.C07List
