/-
  Property C07 — a diff reports only real differences: no no-op, no redundant hunk.
  Statement file (proofs in JdProofs/RealDiff.lean, namespace `Jd.Real`: the LIST reading, sections
  0–5; JdProofs/RealDiffSet.lean, namespace `Jd.RealS`: the SET and MULTISET readings, section 6;
  JdProofs/RealDiffMerge.lean, namespace `Jd.RealM`: the MERGE strategy, section 7;
  JdProofs/RealDiffListStrict.lean, same namespace: "no hunk is redundant" for the LIST reading in
  general — objects, nested containers —, section 8).

  Model side: `diffM o a b` (JdModel/Diff.lean) is `a.Diff(b, options...)`; `diffNode o m a b p` is
  the recursive `diff` of one node under the path prefix `p` (`m`: merge strategy); `equals o x y` is
  `x.Equals(y, options...)`; `hashCode o x` is the 64-bit FNV-1a hash code by which list elements are
  matched. `applyStrictAll a d` (JdSpec/HunkSem.lean) is the documented meaning of a sequence of
  strict hunks (every removed value and context line checked), `specEq` (JdSpec/CanonEq.lean) is
  structural equality of documents (ordered arrays, exact numbers).
  Vocabulary of this file (definitions of `Jd.Real`, written out in the statements where short):
    `keysOnly q`   the path `q` is made of object keys only (`[]`, the root, included);
    `getAt a q`    what the document `a` holds at the key / index path `q` (`none`: nothing there);
    `asList v`     `v` with the Go dynamic type of its TOP array node forgotten (`jsonArray.diff`
                   reports a removed array as a `jsonList`);
    `l₁.Sublist l₂` / `l₁ <+: l₂`   sublist (order kept, gaps allowed) / prefix, of core Lean.

  WHAT IS STATED (LIST reading of arrays `dispatchTag o = .list`, STRICT strategy
  `isMerge o = false`, except clause 0)
   0. `paths_extend_prefix`: EVERY option set, BOTH strategies, all documents: a sub-diff only emits
      hunks at or below the path it was given (so a hunk speaks about the sub-document it is
      addressed to).
   1. "equal sub-documents are never mentioned": `equal_subdocument_not_mentioned` (object members
      at any depth below keys), `equal_member_not_mentioned` (the one-level form).
   2. "the values it removes are present in a and the values it adds are present in b at the
      addressed location":
      * two ARRAYS OF SCALARS (the elements of the first array are scalars; this is the case in
        which a list diff does not recurse into an element): `removed_added_are_sublists` (all removed
        values, in hunk order, a sublist of `a`; all added values a sublist of `b`),
        `removed_in_a_added_in_b` (element form), `list_hunk_located` (hunk by hunk: `remove` is a
        contiguous run of `a`, `add` the contiguous run of `b` that stands at the addressed index,
        `before` / `after` are the neighbouring elements or the array boundary marker `void`);
      * OBJECT MEMBERS at any depth below keys and THE ROOT, arrays allowed anywhere as (opaque)
        values: `keyed_hunk_real` (all seven clauses) and its plain reading `keyed_hunk_values`;
      * an array of scalars held by an object member at any depth below keys:
        `array_below_keys_hunk_real`.
   3. "what it removes differs from what it adds" (arrays of scalars): `removed_added_hash_apart`
      (position by position different hash codes, and `remove ≠ add`), its loop-level form
      `remove_ne_add`, and `removed_not_equals_added` (no hash left in the statement: the j-th removed
      and the j-th added value are not `Equals`). For object members / the root it is the last clause
      of `keyed_hunk_real`.
   4. "no hunk is redundant" (two arrays of scalars, against the reference meaning of hunks):
      `no_redundant_hunk_scalar_arrays` (ANY single hunk left out: if the remaining hunks apply at
      all, the result is not structurally equal to `b`) and `no_redundant_hunk_length` (no hash and
      no float hypothesis, but only for a left-out hunk with `|remove| ≠ |add|`: the result has the
      wrong length).

  HYPOTHESES and why
    `dispatchTag o = .list`, `isMerge o = false`, `precOf o = 0`  the reading of the property that is
       proved; with a Precision option C07 inherits the known finding KF-C05-precision.
    `a.rawDoc`  the left document is as read from JSON / YAML (every array a plain `jsonArray`); a
       `jsonList`-typed array against a plain array with the same elements gives a non-empty diff
       (`DE.diff_list_vs_array_nonempty`; not reachable through the public Go API).
    `Dom x` = `listDoc` ∧ `wf` (unique sorted keys, what a Go map guarantees) ∧ `finiteNums` ∧
       `noNegZero`; `FloatEq0` (`|x - y| ≤ +0` only for `x = y`), `FloatLaws`: `Float` is opaque to
       the kernel. NaN is outside: `diffM [] NaN NaN` is one hunk with `remove = add = [NaN]`
       (`Equals` is not reflexive on NaN; the library rejects non-finite numbers when a node is built).
    `ht`, `ht'`, `htt` (array type tags)  both arrays are read as lists and the pair is not
       "typed list against plain array" (see `rawDoc`); for documents read from text `t = t' = .raw`.
    `scalars`  the elements of the FIRST array are scalars.
    `HashOK` (clause 4 only)  no FNV collision between an element of `a` and an element of `b`
       (elements are matched by hash code; with a collision the diff is not even correct, C01).
    `Good x` (clause 4) = `listDoc` ∧ `wf` ∧ `finiteNums` ∧ `memOK`, the domain of C01.

  SET AND MULTISET READINGS (section 6; strict strategy, no SetKeys option, no Precision)
    Domain: every option list `o` with `DES.SetReading o` (`dispatchTag o = .set ∧ keysOf o = none`, or
    `dispatchTag o = .mset`), `precOf o = 0`, `isMerge o = false` — in particular `[.set]` and `[.mset]`
    (`setmodes_all_items`); documents as read from text (`rawDoc`: every array a plain `jsonArray`; a
    typed `jsonSet` / `jsonList` node is replaced wholesale, `DES.Witness.typed_set_left_is_excluded`)
    with sorted unique keys (`wf`, what a Go map guarantees). FULL DEPTH: arrays nested in objects
    and in arrays, hunks below keys and below keyed set members.
    Vocabulary: `RealS.navPath q` — `q` consists of object keys and `{"k":v}` elements;
    `RealS.navS o a q` — what `a` holds at `q`: a key enters an object member, a `{"k":v}` element
    enters the LAST member of an array that has the identity of the object `{"k":v}` (the member
    `jsonSet.diff` matched: its Go map keeps the last bearer of a hash code); on key paths it is
    `getAt` (`setmodes_nav_on_key_paths`). `identOf o x` is the 8-byte identity of a set member
    (= `hashCode o x` without SetKeys).
    `RealS.HunkReal o a b p h` (every hunk, `setmodes_hunk_real`) is one of
      `value q`  `h.path = p ++ q`, no context; `h` replaces what `a` holds at `q` by what `b` holds
                 there (`Real.RealOpt`, the seven clauses of `keyed_hunk_real`; the removed value is
                 LITERALLY what `a` holds);
      `set q xs ys` / `mset q xs ys`  `h.path = p ++ q ++ [{}]` / `[[]]`, `a` holds the array `xs` at `q`,
                 `b` holds `ys`, and the hunk is a real set / multiset hunk of the two arrays —
                 written out in `set_hunk_located`, `multiset_hunk_located`.
    WHICH ITEMS NEED WHICH HASH HYPOTHESIS
    * NO hash and NO float hypothesis — "removed values are present in a, added values in b, at the
      addressed location", "what it removes differs from what it adds" by identity / hash code, "no
      hunk is empty": `setmodes_hunk_real`, `set_hunk_located`, `multiset_hunk_located`,
      `set_hunk_removed_added_apart`, `multiset_hunk_removed_added_apart`, `setmodes_no_empty_hunk`
      (`DPL.memOK`: no void object member; model-only exception `empty_hunk_void_member_witness`).
      The diff picks the values it reports out of the two arrays and compares identities; whatever
      aliasing there is, the reported values are members and their identities are apart.
    * `FloatEq0` only (numbers that are `Equals` hash alike; `DocOk`: plain arrays, sorted keys,
      finite numbers, no `-0`) — the `Equals` forms: `setmodes_removed_not_equals_added`,
      `set_hunk_no_counterpart` (a removed member is `Equals` to NO member of the other array). They
      use "`Equals` ⇒ same hash code" only, which holds without any no-collision hypothesis.
    * `DES.DiffFaithful o SA SB` (decidable: `DES.diffFaithful_of_check`) — for a node of `SA` and a node
      of `SB` with the same hash code: two arrays were hashed from the same member hash codes (no
      FNV collision) and, SET reading only, two objects are `Equals` (no collision and no alias
      between object members of sets). Needed by
        "equal sub-documents are never mentioned": `setmodes_equal_subdocument_not_mentioned`,
           `setmodes_equal_member_not_mentioned` — on the two equal values only;
        "no hunk is redundant": `setmodes_no_redundant_hunk` — on the two documents; about the
           LIBRARY's `Patch` (`patchAll sw`, either variant of the keyed-member branch), ALL
           documents as read from text; `…_hashFaithful`: the same under the hypothesis family of
           C04 / C01 set modes (`setDoc`, `HashFaithful`, `FloatEq0`).
      WITHOUT it both items are FALSE ON THE CODE (witnesses replayed on the Go library) — the class
      of the known finding KF-C04-alias (`Equals` and the set diff compare 64-bit hash codes):
        `equal_member_mentioned_alias_witness`  `{"m":[{"a":""}]}` / `{"m":[{"a":[]}]}`, SET: the members
            at `m` are `Equals` (the empty string and the empty array hash alike) and the diff has a
            hunk below `m`;
        `redundant_hunk_alias_witness`  `[{"a":""}]` → `[{"a":[]}]`, SET: the single hunk is redundant,
            the empty patch already gives a document `Equals` to the target;
        `redundant_hunk_fnv_collision_witness`  NO alias, a GENUINE FNV-1a 64 collision:
            `["aedb68afb","b7cdeb749"]` / `["a568b3ad2","b76a57d20"]`, SET and MULTISET: one hunk (two
            members removed, two added), redundant because the two arrays have the same hash code.
      These are consequences of the known finding, not new defects.

  MERGE STRATEGY (section 7; `isMerge o = true`, no Precision, no SetKeys) — ALL clauses
    Vocabulary: a merge hunk is `^ {"Merge":true}` / `@ [keys]` / `+ v`; `Merge.objVoidFree x`: `x` is not
    void and has no void object member. The merge strategy recurses into objects only and replaces
    everything else as a whole, so every hunk sits at a KEY path and `getAt` locates it.
    LIST reading of arrays (`dispatchTag o = .list`; in particular `[MERGE]`, `jd -f merge`):
      `merge_hunk_real`   every hunk of `a.Diff(b, MERGE)` is a merge hunk at a key path, removes nothing,
                          has no context lines, adds exactly ONE value `v`: what `b` holds there (up to
                          the Go type of a top array node: a replaced array is reported as the typed
                          node it was dispatched to), or void — a DELETION — when `b` holds nothing
                          there and `a` does; what `a` holds there (if anything) is NOT `Equals` to `v`
                          ("what it removes differs from what it adds", read for a strategy that
                          removes by overwriting); `a` and `b` do not both hold an object there; the
                          parent location holds an object on both sides;
      `merge_equal_subdocument_not_mentioned`   `Equals` values at a key path (any depth, the root
                          included): no hunk at or below it. No hash and no float hypothesis — the
                          merge strategy decides by `Equals` itself;
      `merge_no_redundant_hunk`   leave ANY single hunk out: the LIBRARY's `Patch` (`patchAll sw`) applies
                          the rest — a merge hunk cannot fail — and the result is not `Equals` to `b`.
    SET+MERGE / MULTISET+MERGE (`dispatchTag o = .set ∨ .mset`, `keysOf o = none`): the same three,
      `merge_setmodes_hunk_real`, `merge_setmodes_equal_subdocument_not_mentioned`,
      `merge_setmodes_no_redundant_hunk`.
    Hypotheses: `a.wf`, `b.wf`, `a.rawDoc`, `b.rawDoc` (documents as read from text, sorted unique
      keys); `Merge.objVoidFree b` (under which the merge diff IS a list of merge hunks) and
      `Merge.objVoidFree a` — needed (model only) for the clause "a deletion deletes something":
      `merge_void_member_witness`. NOT a hypothesis: `b.nullFree` (in memory a merge hunk `+ null` stores
      null; only the RENDERED merge patch reads null as "delete", C11), no `FloatLaws`, no `finiteNums`,
      no hash hypothesis in the list reading. Set readings only: `a.setDoc`, `b.setDoc`,
      `HashFaithful o (subterms a ++ subterms b)`, `FloatEq0` — exactly the hypotheses under which the
      merge diff in the set readings is a list of merge hunks at all (arrays that `Equals` identifies
      are handed to the strict set diff, which must then be empty; without `HashFaithful` it is not:
      the FNV collision of `Jd.Props.C02.setMerge_collision_witness`, class KF-C04-alias).

  "NO HUNK IS REDUNDANT", LIST READING, STRICT STRATEGY, THE GENERAL CASE (section 8)
    `no_redundant_hunk_list`: for `a` as read from text and `b` a list document, both in the domain of
      the C01 list theorem — OBJECTS, ARRAYS IN ARRAYS, CONTAINERS AS LIST ELEMENTS at any depth —:
      leave ANY single hunk out (an array-level hunk, a hunk inside a container standing in a list,
      a member hunk of an object): if the rest applies at all under the documented meaning of hunks
      (`applyStrictAll`), the result is not structurally equal to `b`. Any Precision option (the
      statement is structural).
    `no_redundant_hunk_list_patch` (`precOf o = 0`): the same about the LIBRARY's `Patch` (either
      variant): the result is not structurally equal and not `Equals` to `b`.
    Hypotheses: those of C01 in list mode (`wf`, `finiteNums`, `DPL.memOK`, `DPL.HashOK o a b`: no FNV
      collision between a sub-term of `a` and one of `b` — list elements are matched by hash code —,
      `DPL.ZeroOK a b`: no `0` / `-0` pair, `FloatLaws`) with `a.rawDoc` INSTEAD OF `a.listDoc`; needed:
      `typed_list_redundant_witness` (a typed `jsonList` against a plain `jsonArray` with the same
      elements gives ONE hunk replacing the whole value, and it is redundant; no reader produces
      such a node: the known boundary of C05, read for C07).

  WHAT IS NOT PROVED (covered by correspondence and by the leave-one-out oracle of ./check C07 only)
    * the SetKeys option (`keysOf o ≠ none`) in the SET reading, strict or MERGE;
    * a Precision option: only the STRUCTURAL forms hold with it (clause 0; `no_redundant_hunk_list`:
      the rest never gives a document structurally equal to `b`); every `Equals` form asks
      `precOf o = 0` — with a Precision option C07 inherits the known finding KF-C05-precision;
    * LIST reading, clauses 2 and 3 ("located", "removed differs from added") for list hunks whose
      elements are CONTAINERS of the same kind (a sub-diff inside a list: the index in the path is
      an index of the partially patched array): sections 2a, 3, 5 ask `scalars`. Clause 4 does
      not (section 8).
-/
import JdProofs.RealDiff
import JdProofs.RealDiffSet
import JdProofs.RealDiffMerge
import JdProofs.RealDiffListStrict
import JdProofs.RealDiffKeys
import JdProps.C07List

set_option autoImplicit false

namespace Jd.Props.C07
open Jd Jd.Spec Jd.DPL Jd.Real

/-! ## 0. a sub-diff speaks about the sub-document it is addressed to -/

/-- every option set (list, SET, MULTISET, SetKeys, Precision), both strategies, all documents: every
    hunk of the diff of `a` and `b` under the path prefix `p` has `p` as a prefix of its path -/
theorem paths_extend_prefix (o : Opts) (m : Bool) (a b : Json) (p : Path) :
    ∀ h ∈ diffNode o m a b p, p <+: h.path :=
  diff_paths_extend_general o m a b p

/-! ## 1. equal sub-documents are never mentioned -/

/-- if `a` and `b` hold `Equal` values at the key path `q` (any depth below object keys; `q = []` is
    the whole document), no hunk of `a.Diff(b)` has a path at or below `q` -/
theorem equal_subdocument_not_mentioned (F : FloatEq0) {o : Opts} (ho : dispatchTag o = .list)
    (hp : precOf o = 0) (hm : isMerge o = false) {a b : Json} (hr : a.rawDoc = true) (ha : Dom a)
    (hb : Dom b) {q : Path} (hq : keysOnly q = true) {v v' : Json} (hv : getAt a q = some v)
    (hv' : getAt b q = some v') (he : equals o v v' = true) :
    ∀ h ∈ diffM o a b, ¬ q <+: h.path := by
  rw [diffM, hm]
  simpa using equal_subdoc_not_mentioned F ho hp q hq a b hr ha hb v v' hv hv' he []

/-- the advertised one-level form: an object member with `Equal` values on both sides is not
    mentioned (under any path prefix `p`) -/
theorem equal_member_not_mentioned (F : FloatEq0) {o : Opts} (ho : dispatchTag o = .list)
    (hp : precOf o = 0) {kvs kvs' : List (String × Json)} (hr : (Json.obj kvs).rawDoc = true)
    (ha : Dom (.obj kvs)) (hb : Dom (.obj kvs')) {k : String} {v v' : Json}
    (hl : alookup k kvs = some v) (hl' : alookup k kvs' = some v') (he : equals o v v' = true)
    (p : Path) :
    ∀ h ∈ diffNode o false (.obj kvs) (.obj kvs') p, ¬ (p ++ [PathElem.key k]) <+: h.path :=
  Real.equal_member_not_mentioned F ho hp hr ha hb hl hl' he p

/-! ## 2a. arrays of scalars: removed values are a's, added values are b's, where the hunk says -/

/-- all removed values of `a.Diff(b)`, in hunk order, form a sublist of the array `a`; all added
    values form a sublist of the array `b` (nothing is invented, nothing is reported twice, the
    order of the documents is kept) -/
theorem removed_added_are_sublists {o : Opts} (ho : dispatchTag o = .list) (hm : isMerge o = false)
    {t t' : Tag} (xs ys : List Json)
    (ht : (t == .raw || t == .list) = true) (ht' : (t' == .raw || t' == .list) = true)
    (htt : t = .raw ∨ t' = .list) (scalars : ∀ x ∈ xs, isScalar x = true) :
    ((diffM o (.arr t xs) (.arr t' ys)).flatMap (·.remove)).Sublist xs ∧
    ((diffM o (.arr t xs) (.arr t' ys)).flatMap (·.add)).Sublist ys :=
  diffM_removed_added_sublist ho hm xs ys ht ht' htt scalars

/-- element form: every value a hunk removes is an element of `a`, every value it adds is an
    element of `b` -/
theorem removed_in_a_added_in_b {o : Opts} (ho : dispatchTag o = .list) (hm : isMerge o = false)
    {t t' : Tag} (xs ys : List Json)
    (ht : (t == .raw || t == .list) = true) (ht' : (t' == .raw || t' == .list) = true)
    (htt : t = .raw ∨ t' = .list) (scalars : ∀ x ∈ xs, isScalar x = true) :
    ∀ h ∈ diffM o (.arr t xs) (.arr t' ys), (∀ v ∈ h.remove, v ∈ xs) ∧ (∀ w ∈ h.add, w ∈ ys) :=
  diffM_removed_added_mem ho hm xs ys ht ht' htt scalars

/-- hunk by hunk, at the addressed location (`Jd.Real.Located []`, written out): the hunk is
    addressed to one index `i`; `remove` is a contiguous run of `a`; `add` is the contiguous run of `b`
    that starts at index `i`; the before-context is the element of `b` that precedes the added run
    and the after-context the element of `a` that follows the removed run (`void`, the array
    boundary marker, when there is none) -/
theorem list_hunk_located {o : Opts} (ho : dispatchTag o = .list) (hm : isMerge o = false)
    {t t' : Tag} (xs ys : List Json)
    (ht : (t == .raw || t == .list) = true) (ht' : (t' == .raw || t' == .list) = true)
    (htt : t = .raw ∨ t' = .list) (scalars : ∀ x ∈ xs, isScalar x = true) :
    ∀ h ∈ diffM o (.arr t xs) (.arr t' ys),
      ∃ (i : Nat) (preA postA preB postB : List Json),
        h.path = [PathElem.idx i] ∧ xs = preA ++ h.remove ++ postA ∧ ys = preB ++ h.add ++ postB ∧
        preB.length = i ∧ h.before = [preB.getLast?.getD .void] ∧ h.after = [postA.headD .void] :=
  diffM_located ho hm xs ys ht ht' htt scalars

/-! ## 2b. object members at any depth below keys, and the root -/

/-- every hunk of `a.Diff(b)` addressed to a key path (the root included), arrays allowed anywhere as
    values (`Jd.Real.RealAt`, written out): it replaces at most one value by at most one value;
    what it removes is what `a` holds there (up to the dynamic type of a top array node), what it
    adds is what `b` holds there; it removes nothing only if `a` holds nothing (or void) there, adds
    nothing only if `b` holds nothing (or void) there; and the removed value is not `Equals` to the
    added one -/
theorem keyed_hunk_real {o : Opts} (ho : dispatchTag o = .list) (hp : precOf o = 0)
    (hm : isMerge o = false) {a b : Json} (hr : a.rawDoc = true) (hlb : b.listDoc = true)
    (hwa : a.wf = true) (hwb : b.wf = true) :
    ∀ h ∈ diffM o a b, keysOnly h.path = true →
      h.remove.length ≤ 1 ∧ h.add.length ≤ 1 ∧
      (∀ v, h.remove = [v] → ∃ u, getAt a h.path = some u ∧ asList v = asList u) ∧
      (∀ w, h.add = [w] → getAt b h.path = some w) ∧
      (h.remove = [] → ∀ u, getAt a h.path = some u → u = .void) ∧
      (h.add = [] → ∀ u, getAt b h.path = some u → u = .void) ∧
      (∀ v w, h.remove = [v] → h.add = [w] → equals o v w = false) :=
  diffM_keyed_hunk_real ho hp hm hr hlb hwa hwb

/-- the plain reading: `remove = [v]` only if `a` holds `v` there, `add = [w]` only if `b` holds `w`
    there, and `v` is not `Equals` to `w` -/
theorem keyed_hunk_values {o : Opts} (ho : dispatchTag o = .list) (hp : precOf o = 0)
    (hm : isMerge o = false) {a b : Json} (hr : a.rawDoc = true) (hlb : b.listDoc = true)
    (hwa : a.wf = true) (hwb : b.wf = true) :
    ∀ h ∈ diffM o a b, keysOnly h.path = true →
      (∀ v, h.remove = [v] → ∃ u, getAt a h.path = some u ∧ asList v = asList u) ∧
      (∀ w, h.add = [w] → getAt b h.path = some w) ∧
      (∀ v w, h.remove = [v] → h.add = [w] → equals o v w = false) := by
  intro h hmem hk
  obtain ⟨_, _, h3, h4, _, _, h7⟩ := diffM_keyed_hunk_real ho hp hm hr hlb hwa hwb h hmem hk
  exact ⟨h3, h4, h7⟩

/-! ## 3. what a hunk removes differs from what it adds (arrays of scalars) -/

/-- in every hunk the j-th removed value and the j-th added value have different hash codes (the
    library identifies list elements by hash code), and the hunk does not remove exactly what it adds -/
theorem removed_added_hash_apart {o : Opts} (ho : dispatchTag o = .list) (hm : isMerge o = false)
    {t t' : Tag} (xs ys : List Json)
    (ht : (t == .raw || t == .list) = true) (ht' : (t' == .raw || t' == .list) = true)
    (htt : t = .raw ∨ t' = .list) (scalars : ∀ x ∈ xs, isScalar x = true) :
    ∀ h ∈ diffM o (.arr t xs) (.arr t' ys),
      (∀ (j : Nat) (r a : Json), h.remove[j]? = some r → h.add[j]? = some a →
        hashCode o r ≠ hashCode o a) ∧ h.remove ≠ h.add :=
  diffM_hashApart ho hm xs ys ht ht' htt scalars

/-- the same at the level of the list loop, for every option set and path prefix: no hunk of the walk
    over the longest common subsequence removes exactly what it adds -/
theorem remove_ne_add (o : Opts) (p : Path) (xs ys : List Json)
    (scalars : ∀ x ∈ xs, isScalar x = true) :
    ∀ h ∈ diffRest o p 0 0 .void xs ys (lcsValues (hashList o xs) (hashList o ys)) [] [],
      h.remove ≠ h.add :=
  diff_remove_ne_add o p xs ys scalars

/-- no hash in the statement: for elements of the domain, the j-th removed value and the j-th added
    value of a hunk are not `Equals` -/
theorem removed_not_equals_added (F : FloatEq0) {o : Opts} (ho : dispatchTag o = .list)
    (hp : precOf o = 0) (hm : isMerge o = false) {t t' : Tag} (xs ys : List Json)
    (ht : (t == .raw || t == .list) = true) (ht' : (t' == .raw || t' == .list) = true)
    (htt : t = .raw ∨ t' = .list) (scalars : ∀ x ∈ xs, isScalar x = true)
    (hxs : ∀ x ∈ xs, Dom x) (hys : ∀ y ∈ ys, Dom y) :
    ∀ h ∈ diffM o (.arr t xs) (.arr t' ys),
      ∀ (j : Nat) (r a : Json), h.remove[j]? = some r → h.add[j]? = some a →
        equals o r a = false := by
  intro h hmem
  obtain ⟨h1, h2⟩ := diffM_removed_added_mem ho hm xs ys ht ht' htt scalars h hmem
  exact hashApart_not_equals F ho hp (diffM_hashApart ho hm xs ys ht ht' htt scalars h hmem).1
    (fun r hr => hxs r (h1 r hr)) (fun a ha => hys a (h2 a ha))

/-! ## 4. no hunk is redundant (two arrays of scalars) -/

/-- leave out ANY one hunk of `a.Diff(b)`: if the remaining hunks apply at all (documented meaning
    of hunks), the result is not structurally equal to `b` -/
theorem no_redundant_hunk_scalar_arrays (L : FloatLaws) (F : FloatEq0) {o : Opts}
    (ho : dispatchTag o = .list) (hp : precOf o = 0) (hm : isMerge o = false) {t t' : Tag}
    (xs ys : List Json) (hga : Good (.arr t xs)) (hgb : Good (.arr t' ys))
    (hxs : ∀ x ∈ xs, Dom x) (hys : ∀ y ∈ ys, Dom y) (htt : t = .raw ∨ t' = .list)
    (scalars : ∀ x ∈ xs, isScalar x = true)
    (HashOK : ∀ x ∈ xs, ∀ y ∈ ys, hashCode o x = hashCode o y →
      specEq x y = true ∧ specEq y x = true)
    (d1 d2 : Diff) (h : Hunk) (hd : diffM o (.arr t xs) (.arr t' ys) = d1 ++ h :: d2)
    (r : Json) (hr : applyStrictAll (.arr t xs) (d1 ++ d2) = some r) :
    ∀ t'', specEq r (.arr t'' ys) = false :=
  Real.no_redundant_hunk_scalar_arrays L F ho hp hm xs ys hga hgb hxs hys htt scalars HashOK
    d1 d2 h hd r hr

/-- PARTIAL form without any hypothesis on hashes or floats: leave out one hunk whose `remove` and
    `add` have different lengths; if the remaining hunks apply at all, the result is an array of the
    wrong length, hence not `b`, not even up to structural equality. Hunks with `|remove| = |add|`
    are not covered by this form -/
theorem no_redundant_hunk_length {o : Opts} (ho : dispatchTag o = .list)
    (hm : isMerge o = false) {t t' : Tag} (xs ys : List Json)
    (ht : (t == .raw || t == .list) = true) (ht' : (t' == .raw || t' == .list) = true)
    (htt : t = .raw ∨ t' = .list) (scalars : ∀ x ∈ xs, isScalar x = true)
    (d1 d2 : Diff) (h : Hunk) (hd : diffM o (.arr t xs) (.arr t' ys) = d1 ++ h :: d2)
    (hne : h.remove.length ≠ h.add.length)
    (r : Json) (hr : applyStrictAll (.arr t xs) (d1 ++ d2) = some r) :
    (∃ t'' zs, r = .arr t'' zs ∧ zs.length ≠ ys.length) ∧
    (∀ t'', r ≠ .arr t'' ys) ∧ (∀ t'', specEq r (.arr t'' ys) = false) :=
  no_redundant_hunk_length_partial ho hm xs ys ht ht' htt scalars d1 d2 h hd hne r hr

/-! ## 5. an array of scalars held by an object member (any depth below keys) -/

/-- every hunk of `a.Diff(b)` at or below the key path `q`, where `a` holds the array of scalars `xs`
    and `b` the array `ys`: it is addressed to `q ++ [i]`, removes a contiguous run of `xs`, adds the
    contiguous run of `ys` standing at `i` with the neighbours as context (clause 2a), pairs only
    elements with different hash codes and `remove ≠ add` (clause 3), removes elements of `xs` and
    adds elements of `ys` -/
theorem array_below_keys_hunk_real {o : Opts} (ho : dispatchTag o = .list) (hm : isMerge o = false)
    {a b : Json} (hr : a.rawDoc = true) (hlb : b.listDoc = true) (hwa : a.wf = true)
    {q : Path} (hq : keysOnly q = true) {t t' : Tag} {xs ys : List Json}
    (hu : getAt a q = some (.arr t xs)) (hu' : getAt b q = some (.arr t' ys))
    (scalars : ∀ x ∈ xs, isScalar x = true) :
    ∀ h ∈ diffM o a b, q <+: h.path →
      (∃ (i : Nat) (preA postA preB postB : List Json),
        h.path = q ++ [PathElem.idx i] ∧ xs = preA ++ h.remove ++ postA ∧
        ys = preB ++ h.add ++ postB ∧ preB.length = i ∧
        h.before = [preB.getLast?.getD .void] ∧ h.after = [postA.headD .void]) ∧
      (∀ (j : Nat) (r w : Json), h.remove[j]? = some r → h.add[j]? = some w →
        hashCode o r ≠ hashCode o w) ∧
      h.remove ≠ h.add ∧ (∀ v ∈ h.remove, v ∈ xs) ∧ (∀ w ∈ h.add, w ∈ ys) :=
  diffM_array_below_keys ho hm hr hlb hwa hq hu hu' scalars

/-! ## Non-vacuity

  The statements of clauses 2a, 3, 4 are of the form "for every hunk of the diff". They speak about
  something: two arrays of different lengths (first one of scalars) always have a NON-EMPTY diff
  (`diff_nonempty_of_length_ne`, from the exact counts of JdProofs/DiffMinimal.lean), and
  `[true, null, "x"]` → `[false, null]` (no options) satisfies every structural hypothesis.
  `{"e":null,"k":[true]}` → `{"e":null,"k":[false]}`: the key path `["k"]` holds arrays of scalars
  on both sides (clause 5), the key path `["e"]` holds values of both documents (clause 1); the
  structural hypotheses of clauses 1, 2b and 5 hold. -/

/-- two arrays of different lengths have a non-empty diff -/
theorem diff_nonempty_of_length_ne {o : Opts} (ho : dispatchTag o = .list) (hm : isMerge o = false)
    {t t' : Tag} (xs ys : List Json)
    (ht : (t == .raw || t == .list) = true) (ht' : (t' == .raw || t' == .list) = true)
    (htt : t = .raw ∨ t' = .list) (scalars : ∀ x ∈ xs, isScalar x = true)
    (hne : xs.length ≠ ys.length) : diffM o (.arr t xs) (.arr t' ys) ≠ [] := by
  intro e
  obtain ⟨h1, h2⟩ := Min.diffM_removes_adds_count ho hm xs ys ht ht' htt scalars
  rw [e] at h1 h2
  have l1 := (lcsValues_sublist_left (hashList o xs) (hashList o ys)).length_le
  have l2 := (lcsValues_sublist_right (hashList o xs) (hashList o ys)).length_le
  rw [Min.length_hashList] at l1 l2
  simp only [List.map_nil, List.sum_nil] at h1 h2
  omega

/-- `[true, null, "x"]` -/
def exXs : List Json := [.bool true, .null, .str "x"]
/-- `[false, null]` -/
def exYs : List Json := [.bool false, .null]

example : diffM [] (.arr .raw exXs) (.arr .raw exYs) ≠ [] :=
  diff_nonempty_of_length_ne (o := []) rfl rfl exXs exYs rfl rfl (.inl rfl) (by decide) (by decide)

example : ∀ h ∈ diffM [] (.arr .raw exXs) (.arr .raw exYs),
    (∀ v ∈ h.remove, v ∈ exXs) ∧ (∀ w ∈ h.add, w ∈ exYs) :=
  removed_in_a_added_in_b (o := []) rfl rfl exXs exYs rfl rfl (.inl rfl) (by decide)

example : ∀ h ∈ diffM [] (.arr .raw exXs) (.arr .raw exYs), h.remove ≠ h.add :=
  fun h hm => (removed_added_hash_apart (o := []) rfl rfl exXs exYs rfl rfl (.inl rfl)
    (by decide) h hm).2

/-- `{"e":null,"k":[true]}` -/
def exA : Json := .obj [("e", .null), ("k", .arr .raw [.bool true])]
/-- `{"e":null,"k":[false]}` -/
def exB : Json := .obj [("e", .null), ("k", .arr .raw [.bool false])]

example : exA.rawDoc = true ∧ exB.listDoc = true ∧ exA.wf = true ∧ exB.wf = true ∧
    keysOnly [.key "k"] = true ∧ keysOnly [.key "e"] = true ∧
    getAt exA [.key "k"] = some (.arr .raw [.bool true]) ∧
    getAt exB [.key "k"] = some (.arr .raw [.bool false]) ∧
    getAt exA [.key "e"] = some .null ∧ getAt exB [.key "e"] = some .null :=
  ⟨by decide, by decide, by decide, by decide, by decide, by decide, by simp [getAt, exA, alookup],
    by simp [getAt, exB, alookup], by simp [getAt, exA, alookup], by simp [getAt, exB, alookup]⟩

example : ∀ h ∈ diffM [] exA exB, [PathElem.key "k"] <+: h.path →
    h.remove ≠ h.add ∧ (∀ v ∈ h.remove, v ∈ [Json.bool true]) ∧ (∀ w ∈ h.add, w ∈ [Json.bool false]) :=
  fun h hm hq =>
    (array_below_keys_hunk_real (o := []) rfl rfl (a := exA) (b := exB) (by decide) (by decide)
      (by decide) (q := [.key "k"]) (by decide) (t := .raw) (t' := .raw) (xs := [.bool true])
      (ys := [.bool false]) (by simp [getAt, exA, alookup]) (by simp [getAt, exB, alookup])
      (by decide) h hm hq).2.2

/-! ## 6. SET and MULTISET readings (strict strategy, no SetKeys option, no Precision)

  Names of `Jd.RealS` and `Jd.DES` are written qualified (`Jd.Real` has theorems of the same names for
  the list reading); `Jd.subterms x` is the list of all nodes of `x`. -/

/-- on key paths the navigation of the set readings is `getAt` of sections 1–5 -/
theorem setmodes_nav_on_key_paths (o : Opts) (q : Path) (hq : keysOnly q = true) (n : Json) :
    RealS.navS o n q = getAt n q :=
  RealS.navS_keys o q hq n

/-- **clauses 1 + 2, every hunk, any depth, NO hash hypothesis**: every hunk of `a.Diff(b)` is
    `RealS.HunkReal`: a value replacement at a location reached through keys and keyed set members,
    or a real set / multiset hunk of the two arrays held at such a location (header) -/
theorem setmodes_hunk_real {o : Opts} (hm : DES.SetReading o) (hp : precOf o = 0)
    (hmg : isMerge o = false) {a b : Json} (hr : a.rawDoc = true) (hw : a.wf = true)
    (hrb : b.rawDoc = true) (hwb : b.wf = true) :
    ∀ h ∈ diffM o a b, RealS.HunkReal o a b [] h :=
  RealS.diffM_hunk_real hm hp hmg hr hw hrb hwb

/-- **a SET hunk, located by its own path** (`RealS.SetHunkReal`, written out). A hunk of `a.Diff(b)`
    with path `q ++ [{}]`: `a` holds an array `xs` at `q`, `b` an array `ys`; every removed value is a
    MEMBER of `xs`, every added value a member of `ys`; the identities of the removed values are
    exactly the identities present in `xs` and absent from `ys`, each once; symmetrically for the
    added values; the hunk has no context lines and is not empty -/
theorem set_hunk_located {o : Opts} (hm : DES.SetReading o) (hp : precOf o = 0)
    (hmg : isMerge o = false) {a b : Json} (hr : a.rawDoc = true) (hw : a.wf = true)
    (hrb : b.rawDoc = true) (hwb : b.wf = true) {h : Hunk} (hh : h ∈ diffM o a b) {q : Path}
    (hpath : h.path = q ++ [.set]) :
    ∃ xs ys, RealS.navS o a q = some (.arr .raw xs) ∧ RealS.navS o b q = some (.arr .raw ys) ∧
      (∀ z ∈ h.remove, z ∈ xs) ∧ (∀ z ∈ h.add, z ∈ ys) ∧
      (∀ c, c ∈ h.remove.map (identOf o) ↔ c ∈ xs.map (identOf o) ∧ c ∉ ys.map (identOf o)) ∧
      (∀ c, c ∈ h.add.map (identOf o) ↔ c ∈ ys.map (identOf o) ∧ c ∉ xs.map (identOf o)) ∧
      (h.remove.map (identOf o)).Nodup ∧ (h.add.map (identOf o)).Nodup ∧
      (h.remove ≠ [] ∨ h.add ≠ []) ∧ h.before = [] ∧ h.after = [] ∧ h.merge = false := by
  obtain ⟨xs, ys, na, nb, H⟩ := RealS.diffM_set_hunk_members hm hp hmg hr hw hrb hwb hh hpath
  exact ⟨xs, ys, na, nb, H.rem_mem, H.add_mem, H.rem_ids, H.add_ids, H.rem_nodup, H.add_nodup,
    H.nonempty, H.before, H.after, H.merge⟩

/-- **a MULTISET hunk, located by its own path** (`RealS.MsetHunkReal`, written out). A hunk with
    path `q ++ [[]]`: removed values are members of the array `a` holds at `q`, added values members
    of the array `b` holds there, and for every hash code `c` the hunk removes exactly
    `count c xs - count c ys` values with that hash code and adds `count c ys - count c xs` -/
theorem multiset_hunk_located {o : Opts} (hm : DES.SetReading o) (hp : precOf o = 0)
    (hmg : isMerge o = false) {a b : Json} (hr : a.rawDoc = true) (hw : a.wf = true)
    (hrb : b.rawDoc = true) (hwb : b.wf = true) {h : Hunk} (hh : h ∈ diffM o a b) {q : Path}
    (hpath : h.path = q ++ [.mset]) :
    ∃ xs ys, RealS.navS o a q = some (.arr .raw xs) ∧ RealS.navS o b q = some (.arr .raw ys) ∧
      (∀ z ∈ h.remove, z ∈ xs) ∧ (∀ z ∈ h.add, z ∈ ys) ∧
      (∀ c, (h.remove.map (hashCode o)).count c =
        (xs.map (hashCode o)).count c - (ys.map (hashCode o)).count c) ∧
      (∀ c, (h.add.map (hashCode o)).count c =
        (ys.map (hashCode o)).count c - (xs.map (hashCode o)).count c) ∧
      (h.remove ≠ [] ∨ h.add ≠ []) ∧ h.before = [] ∧ h.after = [] ∧ h.merge = false := by
  obtain ⟨xs, ys, na, nb, H⟩ := RealS.diffM_mset_hunk_members hm hp hmg hr hw hrb hwb hh hpath
  exact ⟨xs, ys, na, nb, H.rem_mem, H.add_mem, H.rem_count, H.add_count, H.nonempty, H.before,
    H.after, H.merge⟩

/-- **clause 3, SET hunk, no hypothesis on hashes**: no removed value has the identity of an added
    value of the same hunk -/
theorem set_hunk_removed_added_apart {o : Opts} (hm : DES.SetReading o) (hp : precOf o = 0)
    (hmg : isMerge o = false) {a b : Json} (hr : a.rawDoc = true) (hw : a.wf = true)
    (hrb : b.rawDoc = true) (hwb : b.wf = true) {h : Hunk} (hh : h ∈ diffM o a b) {q : Path}
    (hpath : h.path = q ++ [.set]) :
    ∀ r ∈ h.remove, ∀ w ∈ h.add, identOf o r ≠ identOf o w := by
  obtain ⟨_, _, _, _, H⟩ := RealS.diffM_set_hunk_members hm hp hmg hr hw hrb hwb hh hpath
  exact H.apart

/-- **clause 3, MULTISET hunk, no hypothesis on hashes**: no removed value has the hash code of an
    added value of the same hunk -/
theorem multiset_hunk_removed_added_apart {o : Opts} (hm : DES.SetReading o) (hp : precOf o = 0)
    (hmg : isMerge o = false) {a b : Json} (hr : a.rawDoc = true) (hw : a.wf = true)
    (hrb : b.rawDoc = true) (hwb : b.wf = true) {h : Hunk} (hh : h ∈ diffM o a b) {q : Path}
    (hpath : h.path = q ++ [.mset]) :
    ∀ r ∈ h.remove, ∀ w ∈ h.add, hashCode o r ≠ hashCode o w := by
  obtain ⟨_, _, _, _, H⟩ := RealS.diffM_mset_hunk_members hm hp hmg hr hw hrb hwb hh hpath
  exact H.apart

/-- a removed member of a multiset hunk is in SURPLUS in the first array, an added member in the
    second (occurrences counted by hash code, as the code does) -/
theorem multiset_hunk_surplus {o : Opts} (hm : DES.SetReading o) (hp : precOf o = 0)
    (hmg : isMerge o = false) {a b : Json} (hr : a.rawDoc = true) (hw : a.wf = true)
    (hrb : b.rawDoc = true) (hwb : b.wf = true) {h : Hunk} (hh : h ∈ diffM o a b) {q : Path}
    (hpath : h.path = q ++ [.mset]) :
    ∃ xs ys, RealS.navS o a q = some (.arr .raw xs) ∧ RealS.navS o b q = some (.arr .raw ys) ∧
      (∀ z ∈ h.remove, (ys.map (hashCode o)).count (hashCode o z) <
        (xs.map (hashCode o)).count (hashCode o z)) ∧
      (∀ z ∈ h.add, (xs.map (hashCode o)).count (hashCode o z) <
        (ys.map (hashCode o)).count (hashCode o z)) := by
  obtain ⟨xs, ys, na, nb, H⟩ := RealS.diffM_mset_hunk_members hm hp hmg hr hw hrb hwb hh hpath
  exact ⟨xs, ys, na, nb, H.surplus⟩

/-- **clause 3 up to `Equals`, every kind of hunk** (`FloatEq0`; `DocOk` documents): no removed value
    is `Equals` to an added value of the same hunk -/
theorem setmodes_removed_not_equals_added (F : FloatEq0) {o : Opts}
    (hd : dispatchTag o = .set ∨ dispatchTag o = .mset) (hk : keysOf o = none) (hp : precOf o = 0)
    (hmg : isMerge o = false) {a b : Json} (hr : a.rawDoc = true) (hw : a.wf = true)
    (hrb : b.rawDoc = true) (hwb : b.wf = true) (da : DocOk a) (db : DocOk b) :
    ∀ h ∈ diffM o a b, ∀ r ∈ h.remove, ∀ w ∈ h.add, equals o r w = false :=
  fun h hh =>
    (RealS.diffM_hunk_real (hd.elim (fun e => .inl ⟨e, hk⟩) .inr) hp hmg hr hw hrb hwb h hh).not_equals
      F hd hk hp da db

/-- **clause 2 up to `Equals`, SET hunk** (`FloatEq0`): a removed member has NO counterpart in the
    array `b` holds (no member there is `Equals` to it), an added member none in the array `a` holds -/
theorem set_hunk_no_counterpart (F : FloatEq0) {o : Opts} (hd : dispatchTag o = .set)
    (hk : keysOf o = none) (hp : precOf o = 0) (hmg : isMerge o = false) {a b : Json}
    (hr : a.rawDoc = true) (hw : a.wf = true) (hrb : b.rawDoc = true) (hwb : b.wf = true)
    (da : DocOk a) (db : DocOk b) {h : Hunk} (hh : h ∈ diffM o a b) {q : Path}
    (hpath : h.path = q ++ [.set]) :
    ∃ xs ys, RealS.navS o a q = some (.arr .raw xs) ∧ RealS.navS o b q = some (.arr .raw ys) ∧
      (∀ z ∈ h.remove, ∀ y ∈ ys, equals o z y = false) ∧
      (∀ z ∈ h.add, ∀ x ∈ xs, equals o x z = false) := by
  obtain ⟨xs, ys, na, nb, H⟩ :=
    RealS.diffM_set_hunk_members (.inl ⟨hd, hk⟩) hp hmg hr hw hrb hwb hh hpath
  have dxs := RealS.docOk_subterm da (RealS.navS_subterm o q a _ na)
  have dys := RealS.docOk_subterm db (RealS.navS_subterm o q b _ nb)
  exact ⟨xs, ys, na, nb,
    H.no_counterpart F hd hk hp (fun _ hx => dxs.elem hx) (fun _ hy => dys.elem hy)⟩

/-- **no hunk is empty** (documents without void object members: void stands for "absent", the
    readers never produce it) -/
theorem setmodes_no_empty_hunk {o : Opts} (hm : DES.SetReading o) (hp : precOf o = 0)
    (hmg : isMerge o = false) {a b : Json} (hr : a.rawDoc = true) (hw : a.wf = true)
    (hrb : b.rawDoc = true) (hwb : b.wf = true) (ma : memOK a = true) (mb : memOK b = true) :
    ∀ h ∈ diffM o a b, h.remove ≠ [] ∨ h.add ≠ [] :=
  fun h hh => (RealS.diffM_hunk_real hm hp hmg hr hw hrb hwb h hh).nonempty ma mb

/-- **clause 1, "equal sub-documents are never mentioned"**: if `a` and `b` hold `Equals` values `v`,
    `v'` at a location `q` reached through keys AND keyed set members (any depth), no hunk of
    `a.Diff(b)` has a path at or below `q`. `DiffFaithful` on the nodes of the two equal values only;
    FALSE without it (`equal_member_mentioned_alias_witness`) -/
theorem setmodes_equal_subdocument_not_mentioned {o : Opts} (hm : DES.SetReading o)
    (hp : precOf o = 0) (hmg : isMerge o = false) {a b : Json} (hr : a.rawDoc = true)
    (hw : a.wf = true) (hrb : b.rawDoc = true) (hwb : b.wf = true) {q : Path}
    (hq : RealS.navPath q = true) {v v' : Json} (hv : RealS.navS o a q = some v)
    (hv' : RealS.navS o b q = some v') (he : equals o v v' = true)
    (FH : DES.DiffFaithful o (Jd.subterms v) (Jd.subterms v')) :
    ∀ h ∈ diffM o a b, ¬ q <+: h.path :=
  RealS.diffM_equal_subdoc_not_mentioned hm hp hmg hr hw hrb hwb hq hv hv' he FH

/-- the advertised one-level form: an object member with `Equals` values on both sides is not
    mentioned (under any path prefix `p`) -/
theorem setmodes_equal_member_not_mentioned {o : Opts} (hm : DES.SetReading o) (hp : precOf o = 0)
    {kvs kvs' : List (String × Json)} (hr : (Json.obj kvs).rawDoc = true)
    (hw : (Json.obj kvs).wf = true) (hrb : (Json.obj kvs').rawDoc = true)
    (hwb : (Json.obj kvs').wf = true) {k : String} {v v' : Json}
    (hl : alookup k kvs = some v) (hl' : alookup k kvs' = some v') (he : equals o v v' = true)
    (FH : DES.DiffFaithful o (Jd.subterms v) (Jd.subterms v')) (p : Path) :
    ∀ h ∈ diffNode o false (.obj kvs) (.obj kvs') p, ¬ (p ++ [PathElem.key k]) <+: h.path :=
  RealS.equal_member_not_mentioned hm hp hr hw hrb hwb hl hl' he FH p

/-- **clause 4, "no hunk is redundant", SET and MULTISET readings, ALL documents as read from text**
    (arrays of anything, nested anywhere). Leave ANY single hunk `h` out of `a.Diff(b)`: whatever the
    LIBRARY's `Patch` (`patchAll sw`, either variant of the keyed-member branch) makes of `a` with
    the remaining hunks, if they apply at all, is not `Equals` to `b`. `DiffFaithful` between the
    nodes of the two documents; FALSE without it (`redundant_hunk_alias_witness`,
    `redundant_hunk_fnv_collision_witness`). No float hypothesis -/
theorem setmodes_no_redundant_hunk {o : Opts} (hm : DES.SetReading o) (hp : precOf o = 0)
    (hmg : isMerge o = false) {a b : Json} (hr : a.rawDoc = true) (hw : a.wf = true)
    (hrb : b.rawDoc = true) (hwb : b.wf = true)
    (FH : DES.DiffFaithful o (Jd.subterms a) (Jd.subterms b))
    (d1 d2 : Diff) (h : Hunk) (hd : diffM o a b = d1 ++ h :: d2) (sw : Bool) (r : Json)
    (hres : patchAll sw a (d1 ++ d2) = .ok r) : equals o r b = false :=
  RealS.no_redundant_hunk hm hp hmg hr hw hrb hwb FH d1 d2 h hd sw r hres

/-- clause 4 under the hypothesis family of C04 / C01 in the set modes: `setDoc` documents (plain
    arrays, sorted keys, finite numbers, no `-0`), `HashFaithful` (equal hash codes only for
    equivalent nodes), `FloatEq0` -/
theorem setmodes_no_redundant_hunk_hashFaithful (F : FloatEq0) {o : Opts} (hm : DES.SetReading o)
    (hp : precOf o = 0) (hmg : isMerge o = false) {a b : Json} (ha : a.setDoc = true)
    (hb : b.setDoc = true) (HF : HashFaithful o (Jd.subterms a ++ Jd.subterms b))
    (d1 d2 : Diff) (h : Hunk) (hd : diffM o a b = d1 ++ h :: d2) (sw : Bool) (r : Json)
    (hres : patchAll sw a (d1 ++ d2) = .ok r) : equals o r b = false :=
  RealS.no_redundant_hunk_hashFaithful F hm hp hmg ha hb HF d1 d2 h hd sw r hres

/-- **the four items together for `jd -set` / `jd -mset`** (`o = [.set]` or `o = [.mset]`, documents as
    read from text): every hunk is real; no hunk is empty; `Equals` sub-documents are never
    mentioned; no hunk is redundant -/
theorem setmodes_all_items {o : Opts} (ho : o = [.set] ∨ o = [.mset]) {a b : Json}
    (hr : a.rawDoc = true) (hw : a.wf = true) (hrb : b.rawDoc = true) (hwb : b.wf = true) :
    (∀ h ∈ diffM o a b, RealS.HunkReal o a b [] h) ∧
    (memOK a = true → memOK b = true → ∀ h ∈ diffM o a b, h.remove ≠ [] ∨ h.add ≠ []) ∧
    (∀ q v v', RealS.navPath q = true → RealS.navS o a q = some v → RealS.navS o b q = some v' →
      equals o v v' = true → DES.DiffFaithful o (Jd.subterms v) (Jd.subterms v') →
      ∀ h ∈ diffM o a b, ¬ q <+: h.path) ∧
    (DES.DiffFaithful o (Jd.subterms a) (Jd.subterms b) →
      ∀ d1 h d2, diffM o a b = d1 ++ h :: d2 →
      ∀ sw r, patchAll sw a (d1 ++ d2) = .ok r → equals o r b = false) :=
  RealS.c07_setmodes ho hr hw hrb hwb

/-! ### Without `DiffFaithful` clauses 1 and 4 are FALSE on the code (class of KF-C04-alias)

  `DES.Witness.wa` = `[{"a":""}]`, `DES.Witness.wb` = `[{"a":[]}]`; `RealS.Witness.ma` = `{"m":[{"a":""}]}`,
  `RealS.Witness.mb` = `{"m":[{"a":[]}]}`; `DES.Witness.ca` = `["aedb68afb","b7cdeb749"]`,
  `DES.Witness.cb` = `["a568b3ad2","b76a57d20"]`. All are documents as read from text. -/

/-- clause 1 fails by ALIAS: the members at key `m` are `Equals` under SET (the empty string and the
    empty array hash alike, so do the objects holding them), and yet the diff has a hunk below `m` -/
theorem equal_member_mentioned_alias_witness :
    RealS.Witness.ma.rawDoc = true ∧ RealS.Witness.ma.wf = true ∧
    RealS.Witness.mb.rawDoc = true ∧ RealS.Witness.mb.wf = true ∧
    RealS.navS [.set] RealS.Witness.ma [.key "m"] = some DES.Witness.wa ∧
    RealS.navS [.set] RealS.Witness.mb [.key "m"] = some DES.Witness.wb ∧
    equals [.set] DES.Witness.wa DES.Witness.wb = true ∧
    ∃ h ∈ diffM [.set] RealS.Witness.ma RealS.Witness.mb, [PathElem.key "m"] <+: h.path :=
  RealS.Witness.equal_member_mentioned_alias

/-- clause 4 fails by ALIAS: the diff of `[{"a":""}]` and `[{"a":[]}]` under SET is ONE hunk, and
    leaving it out — applying nothing — already gives a document `Equals` to the target -/
theorem redundant_hunk_alias_witness (sw : Bool) :
    ∃ h, diffM [.set] DES.Witness.wa DES.Witness.wb = [] ++ h :: [] ∧
      patchAll sw DES.Witness.wa ([] ++ []) = .ok DES.Witness.wa ∧
      equals [.set] DES.Witness.wa DES.Witness.wb = true :=
  RealS.Witness.redundant_hunk_alias sw

/-- clause 4 fails OUTRIGHT, no alias involved: a genuine FNV-1a 64 collision. Under SET and under
    MULTISET the diff of the two arrays of strings is one hunk, and it is redundant: the two arrays
    have the same hash code, so `Equals` already holds of the unpatched document -/
theorem redundant_hunk_fnv_collision_witness (sw : Bool) : ∀ o ∈ [[Opt.set], [Opt.mset]],
    ∃ h, diffM o DES.Witness.ca DES.Witness.cb = [] ++ h :: [] ∧
      patchAll sw DES.Witness.ca ([] ++ []) = .ok DES.Witness.ca ∧
      equals o DES.Witness.ca DES.Witness.cb = true :=
  RealS.Witness.redundant_hunk_fnv_collision sw

/-- why `memOK` in `setmodes_no_empty_hunk` (model only): a void object member that the other side
    lacks gives a hunk that removes nothing and adds nothing -/
theorem empty_hunk_void_member_witness (o : Opts) :
    diffNode o false (.obj [("k", .void)]) (.obj []) [] = [{ path := [.key "k"] }] := by
  rw [DE.diffNode_obj_obj, DE.diffKvs_cons, DE.diffKvs_nil]
  simp [alookup, Json.nodeList, Json.isVoid]

/-! ### Non-vacuity of section 6

  `RealS.Example.exA` = `{"e":["p","q"],"n":{"s":["a","b",{"k":["x"]}]},"t":"u","v":"old","x":["k"]}`,
  `RealS.Example.exB` = `{"e":["q","p"],"n":{"s":[{"k":["x"]},"b","d"]},"t":"u","v":"new","y":"added"}`:
  four hunks in each reading (a set / multiset hunk two keys deep next to an equal object member
  of the set, a replaced string, a removed array, an added member). Every structural hypothesis
  holds (`ex_docs`), `DiffFaithful` holds in both readings (`ex_faithful_set`, `ex_faithful_mset`,
  decided in the kernel), the diffs are not empty (`ex_diff_ne`), and leave-one-out sub-diffs do
  apply (`#eval`s in JdProofs/RealDiffSet.lean). -/

example : RealS.Example.exA.rawDoc = true ∧ RealS.Example.exA.wf = true ∧
    RealS.Example.exB.rawDoc = true ∧ RealS.Example.exB.wf = true ∧
    DES.DiffFaithful [.set] (Jd.subterms RealS.Example.exA) (Jd.subterms RealS.Example.exB) ∧
    DES.DiffFaithful [.mset] (Jd.subterms RealS.Example.exA) (Jd.subterms RealS.Example.exB) ∧
    diffM [.set] RealS.Example.exA RealS.Example.exB ≠ [] ∧
    diffM [.mset] RealS.Example.exA RealS.Example.exB ≠ [] :=
  ⟨RealS.Example.ex_docs.1, RealS.Example.ex_docs.2.1, RealS.Example.ex_docs.2.2.1,
    RealS.Example.ex_docs.2.2.2.1, RealS.Example.ex_faithful_set, RealS.Example.ex_faithful_mset,
    RealS.Example.ex_diff_ne.1, RealS.Example.ex_diff_ne.2⟩

/-- whatever hunk is left out of the example diff, the rest does not give the target (SET) -/
example (d1 d2 : Diff) (h : Hunk)
    (hd : diffM [.set] RealS.Example.exA RealS.Example.exB = d1 ++ h :: d2) (sw : Bool) (r : Json)
    (hres : patchAll sw RealS.Example.exA (d1 ++ d2) = .ok r) :
    equals [.set] r RealS.Example.exB = false :=
  setmodes_no_redundant_hunk (.inl ⟨rfl, rfl⟩) rfl rfl RealS.Example.ex_docs.1
    RealS.Example.ex_docs.2.1 RealS.Example.ex_docs.2.2.1 RealS.Example.ex_docs.2.2.2.1
    RealS.Example.ex_faithful_set d1 d2 h hd sw r hres

/-- … and MULTISET -/
example (d1 d2 : Diff) (h : Hunk)
    (hd : diffM [.mset] RealS.Example.exA RealS.Example.exB = d1 ++ h :: d2) (sw : Bool) (r : Json)
    (hres : patchAll sw RealS.Example.exA (d1 ++ d2) = .ok r) :
    equals [.mset] r RealS.Example.exB = false :=
  setmodes_no_redundant_hunk (.inr rfl) rfl rfl RealS.Example.ex_docs.1
    RealS.Example.ex_docs.2.1 RealS.Example.ex_docs.2.2.1 RealS.Example.ex_docs.2.2.2.1
    RealS.Example.ex_faithful_mset d1 d2 h hd sw r hres

/-- the set hunk at `n.s` of the example removes members of `["a","b",{"k":["x"]}]`, adds members of
    `[{"k":["x"]},"b","d"]`, and the two are apart -/
example {h : Hunk} (hh : h ∈ diffM [.set] RealS.Example.exA RealS.Example.exB)
    (hpath : h.path = [.key "n", .key "s"] ++ [.set]) :
    ∀ r ∈ h.remove, ∀ w ∈ h.add, identOf [.set] r ≠ identOf [.set] w :=
  set_hunk_removed_added_apart (.inl ⟨rfl, rfl⟩) rfl rfl RealS.Example.ex_docs.1
    RealS.Example.ex_docs.2.1 RealS.Example.ex_docs.2.2.1 RealS.Example.ex_docs.2.2.2.1 hh hpath

/-- the `Equals` members at `e` (`["p","q"]` / `["q","p"]`) are not mentioned, in the SET reading -/
example : ∀ h ∈ diffM [.set] RealS.Example.exA RealS.Example.exB,
    ¬ [PathElem.key "e"] <+: h.path :=
  setmodes_equal_subdocument_not_mentioned (.inl ⟨rfl, rfl⟩) rfl rfl RealS.Example.ex_docs.1
    RealS.Example.ex_docs.2.1 RealS.Example.ex_docs.2.2.1 RealS.Example.ex_docs.2.2.2.1
    (q := [.key "e"]) rfl (v := .arr .raw [.str "p", .str "q"])
    (v' := .arr .raw [.str "q", .str "p"]) rfl rfl (by decide +kernel)
    (DES.diffFaithful_of_check (by decide +kernel))

/-! ## 7. The MERGE strategy (list reading of arrays, and SET+MERGE / MULTISET+MERGE)

  Names of `Jd.RealM` and `Jd.Merge` are written qualified. `Merge.objVoidFree x`: `x` is not void and
  no object member inside `x` is void. The clauses of `RealM.MergeHunkReal o a b h` are written out. -/

/-- **clauses 1–3 for the MERGE strategy, list reading: every hunk describes a real difference.**
    Every hunk `h` of `a.Diff(b, MERGE)` is a merge hunk at a key path, removes nothing and has no
    context lines; it adds exactly one value `v`; if `b` holds `w` at the path, `v` is `w` (up to the
    Go type of a top array node); if `b` holds nothing there, `v` is void (a deletion) and `a` does
    hold something there; what `a` holds there (if anything) is not `Equals` to `v`; `a` and `b` do
    not both hold an object there (objects are recursed into, everything else is replaced as a
    whole); and the parent location holds an object on both sides -/
theorem merge_hunk_real (o : Opts) (hm : isMerge o = true) (ho : dispatchTag o = .list)
    (hprec : precOf o = 0) (a b : Json)
    (haw : a.wf = true) (har : a.rawDoc = true) (hav : Merge.objVoidFree a = true)
    (hbw : b.wf = true) (hbr : b.rawDoc = true) (hbv : Merge.objVoidFree b = true) :
    ∀ h ∈ diffM o a b,
      h.merge = true ∧ keysOnly h.path = true ∧ h.remove = [] ∧ h.before = [] ∧ h.after = [] ∧
      (∃ v, h.add = [v] ∧
        (∀ w, getAt b h.path = some w → asList v = asList w) ∧
        (getAt b h.path = none → v = .void ∧ ∃ u, getAt a h.path = some u) ∧
        (∀ u, getAt a h.path = some u → equals o u v = false)) ∧
      (¬ ∃ kvs kvs', getAt a h.path = some (.obj kvs) ∧ getAt b h.path = some (.obj kvs')) ∧
      (∀ q e, h.path = q ++ [e] →
        ∃ kvs kvs', getAt a q = some (.obj kvs) ∧ getAt b q = some (.obj kvs')) :=
  fun h hh =>
    have R := (RealM.pureDiff_dl ho hprec).hunk_real haw har hbw hbr
      (Merge.diffM_eq_dl o ho hm a b har hbr hbv) hav h hh
    ⟨R.merge, R.keys, R.noRemove, R.noContext.1, R.noContext.2, R.one, R.wholesale, R.parents⟩

/-- **clause 1, MERGE strategy, list reading: equal sub-documents are never mentioned.** If `a` and
    `b` hold `Equals` values at a key path `q` (any depth; `q = []` is the whole document), no hunk of
    `a.Diff(b, MERGE)` has a path at or below `q`. No hash and no float hypothesis -/
theorem merge_equal_subdocument_not_mentioned (o : Opts) (hm : isMerge o = true)
    (ho : dispatchTag o = .list) (hprec : precOf o = 0) (a b : Json)
    (haw : a.wf = true) (har : a.rawDoc = true)
    (hbw : b.wf = true) (hbr : b.rawDoc = true) (hbv : Merge.objVoidFree b = true)
    {q : Path} (hq : keysOnly q = true) {v v' : Json} (hv : getAt a q = some v)
    (hv' : getAt b q = some v') (he : equals o v v' = true) :
    ∀ h ∈ diffM o a b, ¬ q <+: h.path :=
  (RealM.pureDiff_dl ho hprec).equal_subdoc_not_mentioned haw har hbw hbr
    (Merge.diffM_eq_dl o ho hm a b har hbr hbv) hq hv hv' he

/-- **clause 4, MERGE strategy, list reading: no hunk is redundant.** Leave any single hunk out of
    `a.Diff(b, MERGE)`: the LIBRARY's `Patch` (`patchAll sw`, either variant) applies the remaining hunks
    — a merge hunk cannot fail — and the result is not `Equals` to `b` -/
theorem merge_no_redundant_hunk (sw : Bool) (o : Opts) (hm : isMerge o = true)
    (ho : dispatchTag o = .list) (hprec : precOf o = 0) (a b : Json)
    (haw : a.wf = true) (har : a.rawDoc = true) (hav : Merge.objVoidFree a = true)
    (hbw : b.wf = true) (hbr : b.rawDoc = true) (hbv : Merge.objVoidFree b = true)
    (d1 d2 : Diff) (h : Hunk) (hd : diffM o a b = d1 ++ h :: d2) :
    ∃ r, patchAll sw a (d1 ++ d2) = .ok r ∧ equals o r b = false :=
  -- `hav` is not needed: a merge hunk cannot fail, whatever `a` holds
  have _ := hav
  (RealM.pureDiff_dl ho hprec).no_redundant_hunk haw har hbw hbr
    (Merge.diffM_eq_dl o ho hm a b har hbr hbv) sw d1 d2 h hd

/-- **clauses 1–3, SET+MERGE and MULTISET+MERGE** (the statement of `merge_hunk_real`; a replaced
    array is reported as a `jsonSet` / `jsonMultiset` node, `asList` forgets that type) -/
theorem merge_setmodes_hunk_real (F : FloatEq0) (o : Opts) (hmg : isMerge o = true)
    (hm : dispatchTag o = .set ∨ dispatchTag o = .mset) (hk : keysOf o = none) (hp : precOf o = 0)
    (a b : Json) (ha : a.setDoc = true) (hav : Merge.objVoidFree a = true)
    (hb : b.setDoc = true) (hbv : Merge.objVoidFree b = true)
    (HF : HashFaithful o (Jd.subterms a ++ Jd.subterms b)) :
    ∀ h ∈ diffM o a b,
      h.merge = true ∧ keysOnly h.path = true ∧ h.remove = [] ∧ h.before = [] ∧ h.after = [] ∧
      (∃ v, h.add = [v] ∧
        (∀ w, getAt b h.path = some w → asList v = asList w) ∧
        (getAt b h.path = none → v = .void ∧ ∃ u, getAt a h.path = some u) ∧
        (∀ u, getAt a h.path = some u → equals o u v = false)) ∧
      (¬ ∃ kvs kvs', getAt a h.path = some (.obj kvs) ∧ getAt b h.path = some (.obj kvs')) ∧
      (∀ q e, h.path = q ++ [e] →
        ∃ kvs kvs', getAt a q = some (.obj kvs) ∧ getAt b q = some (.obj kvs')) :=
  fun h hh =>
    have R := (RealM.pureDiff_ds hm hp).hunk_real (RealM.setDoc_wf_raw ha).1
      (RealM.setDoc_wf_raw ha).2 (RealM.setDoc_wf_raw hb).1 (RealM.setDoc_wf_raw hb).2
      (RealM.diffM_eq_ds F o hmg hm hk hp a b ha hb hbv HF) hav h hh
    ⟨R.merge, R.keys, R.noRemove, R.noContext.1, R.noContext.2, R.one, R.wholesale, R.parents⟩

/-- **clause 1, SET+MERGE and MULTISET+MERGE**: values that are `Equals` under the set (bag) reading
    at a key path are not mentioned at or below it -/
theorem merge_setmodes_equal_subdocument_not_mentioned (F : FloatEq0) (o : Opts)
    (hmg : isMerge o = true) (hm : dispatchTag o = .set ∨ dispatchTag o = .mset)
    (hk : keysOf o = none) (hp : precOf o = 0) (a b : Json) (ha : a.setDoc = true)
    (hb : b.setDoc = true) (hbv : Merge.objVoidFree b = true)
    (HF : HashFaithful o (Jd.subterms a ++ Jd.subterms b))
    {q : Path} (hq : keysOnly q = true) {v v' : Json} (hv : getAt a q = some v)
    (hv' : getAt b q = some v') (he : equals o v v' = true) :
    ∀ h ∈ diffM o a b, ¬ q <+: h.path :=
  (RealM.pureDiff_ds hm hp).equal_subdoc_not_mentioned (RealM.setDoc_wf_raw ha).1
    (RealM.setDoc_wf_raw ha).2 (RealM.setDoc_wf_raw hb).1 (RealM.setDoc_wf_raw hb).2
    (RealM.diffM_eq_ds F o hmg hm hk hp a b ha hb hbv HF) hq hv hv' he

/-- **clause 4, SET+MERGE and MULTISET+MERGE**: no hunk is redundant (library's `Patch`) -/
theorem merge_setmodes_no_redundant_hunk (F : FloatEq0) (sw : Bool) (o : Opts)
    (hmg : isMerge o = true) (hm : dispatchTag o = .set ∨ dispatchTag o = .mset)
    (hk : keysOf o = none) (hp : precOf o = 0) (a b : Json)
    (ha : a.setDoc = true) (hav : Merge.objVoidFree a = true)
    (hb : b.setDoc = true) (hbv : Merge.objVoidFree b = true)
    (HF : HashFaithful o (Jd.subterms a ++ Jd.subterms b))
    (d1 d2 : Diff) (h : Hunk) (hd : diffM o a b = d1 ++ h :: d2) :
    ∃ r, patchAll sw a (d1 ++ d2) = .ok r ∧ equals o r b = false :=
  have _ := hav
  (RealM.pureDiff_ds hm hp).no_redundant_hunk (RealM.setDoc_wf_raw ha).1
    (RealM.setDoc_wf_raw ha).2 (RealM.setDoc_wf_raw hb).1 (RealM.setDoc_wf_raw hb).2
    (RealM.diffM_eq_ds F o hmg hm hk hp a b ha hb hbv HF) sw d1 d2 h hd

/-- why `Merge.objVoidFree a` in `merge_hunk_real` (model only; no reader produces a void member): a
    void member of the first object that the second lacks is "deleted" by a hunk `+ void`, although
    `a` holds nothing real there — and void `Equals` void -/
theorem merge_void_member_witness (o : Opts) (ho : dispatchTag o = .list) (hm : isMerge o = true) :
    diffM o (.obj [("k", .void)]) (.obj []) = [Merge.mh ["k"] .void] ∧
    equals o .void .void = true := by
  refine ⟨?_, by simp [equals, Json.isVoid]⟩
  rw [Merge.diffM_eq_dl o ho hm _ _ (by decide) (by decide) (by decide)]
  simp [Merge.dl, Merge.dlKvs, alookup]

/-! ### Non-vacuity of section 7

  `RealM.Example.mA` = `{"a":{"x":"1","y":"2"},"k":["p"],"r":"gone","t":"u"}`, `RealM.Example.mB` =
  `{"a":{"x":"1","y":"3"},"k":["q"],"n":"new","t":"u"}` under `[MERGE]`: four hunks (`RealM.Example.m_diff`:
  a member two keys deep replaced, an array replaced as a whole, a member deleted, a member added;
  the equal member `t` is not mentioned); every hypothesis holds (`RealM.Example.m_docs`). The set
  readings: the pair of JdProofs/MergeSetModes.lean (`MSet.Example.ex_docs`, `ex_hashFaithful_set`). -/

example : RealM.Example.mA.wf = true ∧ RealM.Example.mA.rawDoc = true ∧
    Merge.objVoidFree RealM.Example.mA = true ∧ RealM.Example.mB.wf = true ∧
    RealM.Example.mB.rawDoc = true ∧ Merge.objVoidFree RealM.Example.mB = true ∧
    (diffM [.merge] RealM.Example.mA RealM.Example.mB).length = 4 :=
  ⟨RealM.Example.m_docs.1, RealM.Example.m_docs.2.1, RealM.Example.m_docs.2.2.1,
    RealM.Example.m_docs.2.2.2.1, RealM.Example.m_docs.2.2.2.2.1, RealM.Example.m_docs.2.2.2.2.2,
    by rw [RealM.Example.m_diff]; rfl⟩

/-- whatever hunk of the example diff is left out, the library's `Patch` with the rest succeeds and
    does not give the target -/
example (d1 d2 : Diff) (h : Hunk)
    (hd : diffM [.merge] RealM.Example.mA RealM.Example.mB = d1 ++ h :: d2) :
    ∃ r, patchM RealM.Example.mA (d1 ++ d2) = .ok r ∧ equals [.merge] r RealM.Example.mB = false :=
  merge_no_redundant_hunk true [.merge] rfl rfl rfl _ _ RealM.Example.m_docs.1
    RealM.Example.m_docs.2.1 RealM.Example.m_docs.2.2.1 RealM.Example.m_docs.2.2.2.1
    RealM.Example.m_docs.2.2.2.2.1 RealM.Example.m_docs.2.2.2.2.2 d1 d2 h hd

/-- SET+MERGE on `{"s":["x","y"],"u":"x","v":["x"]}` → `{"s":["y","x"],"t":[true],"v":["x","z"]}` -/
example (F : FloatEq0) (d1 d2 : Diff) (h : Hunk)
    (hd : diffM [.set, .merge] MSet.Example.exA MSet.Example.exB = d1 ++ h :: d2) :
    ∃ r, patchM MSet.Example.exA (d1 ++ d2) = .ok r ∧
      equals [.set, .merge] r MSet.Example.exB = false :=
  merge_setmodes_no_redundant_hunk F true [.set, .merge] rfl (.inl rfl) rfl rfl _ _
    MSet.Example.ex_docs.1 (by decide) MSet.Example.ex_docs.2.1 MSet.Example.ex_docs.2.2.2
    MSet.Example.ex_hashFaithful_set d1 d2 h hd

/-! ## 8. No hunk is redundant: LIST reading, strict strategy, the general case

  Objects, arrays in arrays, containers as list elements at any depth. `memOK`, `HashOK`, `ZeroOK` are
  `DPL.memOK` (no void object member), `DPL.HashOK o a b` (a sub-term of `a` and a sub-term of `b` with
  the same hash code are structurally equal), `DPL.ZeroOK a b` (no `0` / `-0` pair between the numbers of
  `a` and of `b`): the domain of the C01 list theorem. -/

/-- **clause 4 in general.** Leave ANY single hunk `h` out of `a.Diff(b)` (list reading, strict
    strategy; any Precision option): if the remaining hunks apply at all under the documented
    meaning of hunks (`applyStrictAll`), the result is not structurally equal to `b` -/
theorem no_redundant_hunk_list (L : FloatLaws) (o : Opts) (ho : dispatchTag o = .list)
    (hm : isMerge o = false) (a b : Json)
    (ha1 : a.rawDoc = true) (ha2 : a.wf = true) (ha3 : a.finiteNums = true) (ha4 : memOK a = true)
    (hb1 : b.listDoc = true) (hb2 : b.wf = true) (hb3 : b.finiteNums = true) (hb4 : memOK b = true)
    (H : HashOK o a b) (Z : ZeroOK a b)
    (d1 d2 : Diff) (h : Hunk) (hd : diffM o a b = d1 ++ h :: d2) (r : Json)
    (hr : applyStrictAll a (d1 ++ d2) = some r) : specEq r b = false :=
  RealM.no_redundant_hunk_list L o ho hm a b ha1 ha2 ha3 ha4 hb1 hb2 hb3 hb4 H Z d1 d2 h hd r hr

/-- the same about the LIBRARY's `Patch` (`patchAll sw`, either variant; no Precision option):
    whatever it makes of `a` with the remaining hunks is not structurally equal to `b`, and not
    `Equals` to it -/
theorem no_redundant_hunk_list_patch (L : FloatLaws) (o : Opts) (ho : dispatchTag o = .list)
    (hm : isMerge o = false) (hp : precOf o = 0) (a b : Json)
    (ha1 : a.rawDoc = true) (ha2 : a.wf = true) (ha3 : a.finiteNums = true) (ha4 : memOK a = true)
    (hb1 : b.listDoc = true) (hb2 : b.wf = true) (hb3 : b.finiteNums = true) (hb4 : memOK b = true)
    (H : HashOK o a b) (Z : ZeroOK a b)
    (d1 d2 : Diff) (h : Hunk) (hd : diffM o a b = d1 ++ h :: d2) (sw : Bool) (r : Json)
    (hr : patchAll sw a (d1 ++ d2) = .ok r) : specEq r b = false ∧ equals o r b = false :=
  RealM.no_redundant_hunk_list_patch L o ho hm hp a b ha1 ha2 ha3 ha4 hb1 hb2 hb3 hb4 H Z d1 d2 h hd
    sw r hr

/-- why `a.rawDoc` and not only `a.listDoc` (model only: no reader produces a typed `jsonList` node):
    the diff of the EMPTY typed list and the EMPTY plain array is one hunk replacing the whole
    value, and it IS redundant — leaving it out, nothing is applied and the document is already
    structurally equal to the target -/
theorem typed_list_redundant_witness :
    diffM [] (.arr .list []) (.arr .raw []) =
      [] ++ ({ path := [], remove := [.arr .list []], add := [.arr .raw []] } : Hunk) :: [] ∧
    applyStrictAll (.arr .list []) ([] ++ []) = some (.arr .list []) ∧
    specEq (.arr .list []) (.arr .raw []) = true :=
  RealM.Witness.typed_list_redundant

/-! ### Non-vacuity of section 8

  `RealM.Example.pA` = `{"l":["a",{"k":"u"},"c"],"m":"x"}`, `RealM.Example.pB` =
  `{"l":["b",{"k":"v"},"c"],"n":"y"}`: four hunks — a list hunk at `l[0]`, a hunk INSIDE the object
  standing at `l[1]`, a removed member and an added member. Every structural hypothesis holds
  (`RealM.Example.p_docs`), there is no hash collision and no signed-zero pair (`p_hash`, 7 × 7 pairs),
  the diff is not empty (`p_diff_ne`), and every leave-one-out sub-diff does apply (`#eval`s in
  JdProofs/RealDiffListStrict.lean), so the hypothesis `hr` is satisfiable. -/

example (L : FloatLaws) : RealM.Example.pA.rawDoc = true ∧ RealM.Example.pB.listDoc = true ∧
    HashOK [] RealM.Example.pA RealM.Example.pB ∧ ZeroOK RealM.Example.pA RealM.Example.pB ∧
    diffM [] RealM.Example.pA RealM.Example.pB ≠ [] :=
  ⟨RealM.Example.p_docs.1, RealM.Example.p_docs.2.2.2.2.1, (RealM.Example.p_hash L).1,
    (RealM.Example.p_hash L).2, RealM.Example.p_diff_ne L⟩

/-- whatever hunk of the example diff is left out: neither the reference interpreter nor the
    library's `Patch` reaches the target with the rest -/
example (L : FloatLaws) (d1 d2 : Diff) (h : Hunk)
    (hd : diffM [] RealM.Example.pA RealM.Example.pB = d1 ++ h :: d2) :
    (∀ r, applyStrictAll RealM.Example.pA (d1 ++ d2) = some r → specEq r RealM.Example.pB = false) ∧
    (∀ r, patchM RealM.Example.pA (d1 ++ d2) = .ok r →
      specEq r RealM.Example.pB = false ∧ equals [] r RealM.Example.pB = false) := by
  obtain ⟨a1, a2, a3, a4, b1, b2, b3, b4⟩ := RealM.Example.p_docs
  obtain ⟨H, Z⟩ := RealM.Example.p_hash L
  exact ⟨fun r hr => no_redundant_hunk_list L [] rfl rfl _ _ a1 a2 a3 a4 b1 b2 b3 b4 H Z d1 d2 h
      hd r hr,
    fun r hr => no_redundant_hunk_list_patch L [] rfl rfl rfl _ _ a1 a2 a3 a4 b1 b2 b3 b4 H Z d1
      d2 h hd true r hr⟩

/-! ## SetKeys reading (strict strategy) — proofs in JdProofs/RealDiffKeys.lean (ns `Jd.RealK`)

   `RealK.Loc o a b q u v` navigates `a` and `b` jointly along a path (a keyed element enters THE member
   of `a` that is the last bearer of its identity, and its partner of equal identity in `b`). Every hunk
   is real with no hash hypothesis; equal sub-documents are not mentioned under `PathInj` (needed:
   `RealK.Witness.equal_member_mentioned_nullkey`, the KF-C01-keytwin shape); no PROPER SUB-LIST of the diff
   reaches `b` (stronger than leave-one-out; it is what carries the induction through the swallowed
   nested failures of `sw = true`). -/

/-- every hunk of a SetKeys diff is real (literal members / values at a location present in `a`, what it
    removes is not Equal to what it adds, set hunks list one-sided identities only) -/
theorem diffM_hunk_real_setkeys {o : Opts} (hd : dispatchTag o = .set) (hp : precOf o = 0)
    (hmg : isMerge o = false) {a b : Json} (hr : a.rawDoc = true) (hw : a.wf = true)
    (hrb : b.rawDoc = true) (hwb : b.wf = true) : ∀ h ∈ diffM o a b, Jd.RealK.HunkReal o a b [] h :=
  Jd.RealK.diffM_hunk_real hd hp hmg hr hw hrb hwb

/-- **no redundant hunk, SetKeys**: leaving any single hunk out, what the library's `Patch` returns (if it
    applies at all) is not equivalent to `b` -/
theorem no_redundant_hunk_setkeys (F : FloatEq0) (L : FloatLaws) (sw : Bool) (o : Opts) (ks : List String)
    (hd : dispatchTag o = .set) (hk : keysOf o = some ks) (hmg : isMerge o = false)
    (hp : precOf o = 0) (a b : Json) (ha : a.setDoc = true) (hb : b.setDoc = true)
    (ha' : DPL.memOK a = true) (hb' : DPL.memOK b = true) (K : Jd.DPK.KeysHyp o ks a b)
    (i : Nat) (hi : i < (diffM o a b).length) (r : Json)
    (hres : patchAll sw a ((diffM o a b).eraseIdx i) = .ok r) : equivB o r b = false :=
  Jd.RealK.no_redundant_hunk_eraseIdx F L sw o ks hd hk hmg hp a b ha hb ha' hb' K i hi r hres

/-- the stronger form: no proper sub-list of the diff turns `a` into `b` -/
theorem no_proper_sublist_setkeys (F : FloatEq0) (L : FloatLaws) (sw : Bool) (o : Opts) (ks : List String)
    (hd : dispatchTag o = .set) (hk : keysOf o = some ks) (hmg : isMerge o = false)
    (hp : precOf o = 0) (a b : Json) (ha : a.setDoc = true) (hb : b.setDoc = true)
    (ha' : DPL.memOK a = true) (hb' : DPL.memOK b = true) (K : Jd.DPK.KeysHyp o ks a b)
    (D' : Diff) (hS : D'.Sublist (diffM o a b)) (hne : D' ≠ diffM o a b) (r : Json)
    (hr : patchAll sw a D' = .ok r) : equivB o r b = false :=
  Jd.RealK.no_proper_sublist F L sw o ks hd hk hmg hp a b ha hb ha' hb' K D' hS hne r hr

#print axioms empty_hunk_void_member_witness

end Jd.Props.C07
