/-
  Property C17 — v1 library, `SetPrecision(eps)` (eps ≠ 0 allowed) COMBINED with the readings that
  had no theorem with a precision: list reading + Setkeys, SET + Setkeys (FALSE: witness), SET + MERGE
  and MULTISET + MERGE. Statement file. Proofs: JdProofs/V1PrecisionKeys.lean (namespace `Jd.V1PK`).
  JdProps/C17Precision.lean has the precision with SET, MULTISET, MERGE (list reading) alone;
  JdProps/C17.lean the same readings at precision 0.

  Model: `Jd.V1` (JdModel/V1/*). `V1.diffM m a b` is `a.Diff(b, m...)`, `V1.patchM a d` is
  `a.Patch(d)`, `V1.equals m` is `Equals` with the metadata `m`, `V1.renderM nc false (liftDiff d)` is
  `d.Render()`, `V1.readDiffM nc` is `ReadDiffString`.

  WHAT IS CLAIMED. As in C17Precision: with a precision the patched document is not `b` itself, it
  `Equals` `b` under the same metadata.
    * list reading + Setkeys + precision: HOLDS (both clauses, in memory and through the text); the
      set keys are inert in the list reading.
    * SET + Setkeys + precision: FAILS (both clauses): `setkeys_precision_breaks`. `Diff` pairs
      members by the hash of their KEY VALUES and sub-diffs a pair with `jsonObject.diff`, which
      honours the precision; `Equals` compares full hash codes, which ignore it. HOLDS (both
      clauses, in memory) under the decidable hypothesis `V1PK.arrSep eps a b` that excludes the
      witness: inside arrays no two numbers are within eps unless within 0.
    * SET + MERGE + precision, MULTISET + MERGE + precision: HOLD (both clauses, in memory and
      through the text).
    * MULTISET + Setkeys + precision: HOLDS (both clauses, in memory).

  HYPOTHESES, common
    `FloatLaws`, `FloatEq0`: the IEEE-754 facts (`|x - x| ≤ eps` for finite x and eps ≥ +0; symmetry;
      `|x - y| ≤ +0` only for equal bits away from -0) — `numWithin` is opaque to the kernel.
    precision: `nonnegBits eps` (finite float64 ≥ +0) for diff-then-patch. NEEDED:
      `precNN_needed_merge_setmodes`, `C17Precision.precNN_needed_setmodes`.
    list reading: as `V1Pr.v1_diff_patch_list_precision` (`listDoc`, `wf`, `finiteNums`, `vfree`,
      `lenLe N a` with `IdxLaws N`).
    SET/MULTISET + MERGE: `a b : setDoc` (as read from JSON text: plain arrays, sorted unique keys,
      finite numbers, no -0), `DPL.memOK b` (no void object member in `b`; `b` MAY hold nulls),
      `V1S.HashFaithful m o (subterms a ++ subterms b)`: among the sub-terms of `a` and `b` equal v1
      hash codes only for nodes equivalent at precision 0 (KF-C04-alias is its negation).
    TEXT: in addition `V1S.CodecOK nc d` (contract about encoding/json on the paths and values of
      the diff) and render success.
-/
import JdProofs.V1PrecisionKeys

set_option autoImplicit false

namespace Jd.Props.C17PrecisionKeys
open Jd Jd.Spec

/-! ## list reading + Setkeys + precision -/

/-- **Setkeys + SetPrecision(eps), no SET / MULTISET / MERGE, in memory.** In v1 `Setkeys` alone leaves
    arrays lists. `he`: eps finite and ≥ +0 (needed: `C17Precision.precNN_needed_setmodes`). `I`,
    `ha5`: list indices up to the lengths in `a` are exact float64s. `ha1 … hb4`: documents as read
    from JSON text (plain or list-typed arrays, sorted unique keys, finite numbers, no void). Then
    `a.Patch(a.Diff(b, Setkeys(ks...), SetPrecision(eps)))` succeeds; the result `Equals` `b` under
    the metadata (read from either side) and is `equivB`-equivalent to `b` under `Precision(eps)`. -/
theorem v1_list_setkeys_precision_diff_then_patch (L : FloatLaws) {N : Nat} (I : V1P.IdxLaws N)
    (ks : List String) (eps : UInt64) (he : nonnegBits eps = true) (a b : Json)
    (ha1 : a.listDoc = true) (ha2 : a.wf = true) (ha3 : a.finiteNums = true)
    (ha4 : V1P.vfree a = true) (ha5 : V1P.lenLe N a = true)
    (hb1 : b.listDoc = true) (hb2 : b.wf = true) (hb3 : b.finiteNums = true)
    (hb4 : V1P.vfree b = true) :
    ∃ r, V1.patchM a (V1.diffM [.setkeys ks, .prec eps] a b) = .ok r ∧
      V1.equals [.setkeys ks, .prec eps] r b = true ∧
      V1.equals [.setkeys ks, .prec eps] b r = true ∧
      equivB [.prec eps] r b = true ∧ r.listDoc = true ∧ r.wf = true :=
  V1Pr.v1_diff_patch_list_precision L I _ (V1PK.precMode_setkeys ks eps he) a b ha1 ha2 ha3 ha4 ha5
    hb1 hb2 hb3 hb4

/-- Setkeys + precision, list reading: the diff is empty exactly when `Equals` (with the metadata)
    holds — for ANY precision bit pattern, no float law. `ha1`: `a` has plain arrays only (a typed
    `jsonList` receiver is not dispatched: `V1Pr.typed_result_diff_nonempty`). -/
theorem v1_list_setkeys_precision_diff_empty_iff_equal (ks : List String) (eps : UInt64)
    (a b : Json) (ha1 : a.rawDoc = true) (ha2 : a.wf = true) (hb1 : b.listDoc = true)
    (hb2 : b.wf = true) :
    V1.diffM [.setkeys ks, .prec eps] a b = [] ↔
      V1.equals [.setkeys ks, .prec eps] a b = true :=
  V1Pr.v1_diff_empty_iff_equals_precision _ (V1PK.listReading_setkeys ks eps) a b ha1 ha2 hb1 hb2

/-- Setkeys + precision, list reading, through the text: the rendered diff is read back and patching
    `a` with the diff READ BACK yields a document that `Equals` `b` under the metadata. `hbv`: `b`
    is not void; `hc`: codec contract; `hr`: `Render` succeeded with `text`. -/
theorem v1_list_setkeys_precision_text_roundtrip (L : FloatLaws) {N : Nat} (I : V1P.IdxLaws N)
    (nc : NumCodec) (ks : List String) (eps : UInt64) (he : nonnegBits eps = true) (a b : Json)
    (ha1 : a.listDoc = true) (ha2 : a.wf = true) (ha3 : a.finiteNums = true)
    (ha4 : V1P.vfree a = true) (ha5 : V1P.lenLe N a = true)
    (hb1 : b.listDoc = true) (hb2 : b.wf = true) (hb3 : b.finiteNums = true)
    (hb4 : V1P.vfree b = true) (hbv : b.isVoid = false)
    (hc : V1S.CodecOK nc (V1.diffM [.setkeys ks, .prec eps] a b)) (text : String)
    (hr : V1.renderM nc false (V1.liftDiff (V1.diffM [.setkeys ks, .prec eps] a b))
      = .ok (some text)) :
    ∃ d' r, V1.readDiffM nc text = .ok d' ∧ V1.patchM a d' = .ok r ∧
      V1.equals [.setkeys ks, .prec eps] r b = true ∧ equivB [.prec eps] r b = true :=
  V1Pr.v1_text_roundtrip_list_precision L I nc _ (V1PK.precMode_setkeys ks eps he) a b ha1 ha2 ha3
    ha4 ha5 hb1 hb2 hb3 hb4 hbv hc text hr

/-- in the list reading (`hm`: no SET, no MULTISET, no MERGE) `Equals` sees nothing of the metadata
    but the precision: the set keys are inert, in any position of the metadata list -/
theorem v1_list_setkeys_inert_for_equals {m : V1.Metas} (hm : V1Pr.ListReading m) :
    V1.equals m = V1.equals [.prec (V1.precOf m)] :=
  V1PK.setkeys_inert_equals hm

/-- the list-reading theorems of V1Precision hold for ANY metadata in the list reading, wherever the
    setkeys and the precision stand; the document hypotheses of the first theorem hold on the pair
    `[1,2,{"a":[1,5]}]` → `[1.05,3,{"a":[0.95,5.01,7]}]` of V1Precision with eps = 0.1 -/
example : V1Pr.PrecMode [.prec V1Pr.Example.eps, .setkeys ["id", "k"]] ∧
    V1Pr.PrecMode [.setkeys ["id"], .prec V1Pr.Example.eps] ∧
    ¬ V1Pr.PrecMode [.setkeys ["id"], .prec V1Pr.Example.epsNeg] := by decide

example (L : FloatLaws) (I : V1P.IdxLaws 8) :
    ∃ r, V1.patchM V1Pr.Example.pA
        (V1.diffM [.setkeys ["a"], .prec V1Pr.Example.eps] V1Pr.Example.pA V1Pr.Example.pB) = .ok r ∧
      V1.equals [.setkeys ["a"], .prec V1Pr.Example.eps] r V1Pr.Example.pB = true := by
  obtain ⟨h1, h2, h3, h4, h5, h6, h7, h8, h9⟩ := V1Pr.Example.pHyps
  obtain ⟨r, q1, q2, _⟩ := v1_list_setkeys_precision_diff_then_patch L I ["a"] V1Pr.Example.eps
    (by decide) _ _ h1 h2 h3 h4 h5 h6 h7 h8 h9
  exact ⟨r, q1, q2⟩

/-! ## SET + Setkeys + precision: false -/

/-- **SET + Setkeys + SetPrecision: both clauses of C17 FAIL.** `h`: the float fact `|1 - 1.05| ≤ 0.1`
    (`numWithin` is opaque to the kernel; `#eval` gives true). For `a = [{"id":"1","v":1}]`,
    `b = [{"id":"1","v":1.05}]` (documents as read from text, no void member) under
    `SET, Setkeys("id"), SetPrecision(0.1)`: `a.Diff(b)` is EMPTY (the members have the same
    identity — the hash of the value of `id` — and their sub-diff compares `1` with `1.05` with the
    precision), `a.Equals(b)` is FALSE (full hash codes, which ignore the precision), `a.Patch` of the
    diff is `a`; so neither "diff empty ⇔ Equals" nor "the patched document Equals b" holds.
    Replayed on /repo/lib: `diff(len 0)=""`, `Equals(a,b,md)=false`, patched `[{"id":"1","v":1}]`,
    `Equals(r,b,md)=false`. -/
theorem setkeys_precision_breaks
    (h : numWithin V1PK.Witness.eps V1PK.Witness.one V1PK.Witness.x105 = true) :
    V1PK.Witness.wa.setDoc = true ∧ V1PK.Witness.wb.setDoc = true ∧
    DPL.memOK V1PK.Witness.wa = true ∧ DPL.memOK V1PK.Witness.wb = true ∧
    V1.diffM V1PK.Witness.mW V1PK.Witness.wa V1PK.Witness.wb = [] ∧
    V1.equals V1PK.Witness.mW V1PK.Witness.wa V1PK.Witness.wb = false ∧
    V1.patchM V1PK.Witness.wa (V1.diffM V1PK.Witness.mW V1PK.Witness.wa V1PK.Witness.wb)
      = .ok V1PK.Witness.wa ∧
    ¬ (V1.diffM V1PK.Witness.mW V1PK.Witness.wa V1PK.Witness.wb = [] ↔
        V1.equals V1PK.Witness.mW V1PK.Witness.wa V1PK.Witness.wb = true) ∧
    ¬ (∃ r, V1.patchM V1PK.Witness.wa
          (V1.diffM V1PK.Witness.mW V1PK.Witness.wa V1PK.Witness.wb) = .ok r ∧
        V1.equals V1PK.Witness.mW r V1PK.Witness.wb = true) :=
  V1PK.Witness.setkeys_precision_breaks h

/-- the witness is what it is said to be -/
example : V1PK.Witness.mW = [.set, .setkeys ["id"], .prec 0x3FB999999999999A] ∧
    V1PK.Witness.wa = .arr .raw [.obj [("id", .str "1"), ("v", .num 0x3FF0000000000000)]] ∧
    V1PK.Witness.wb = .arr .raw [.obj [("id", .str "1"), ("v", .num 0x3FF0CCCCCCCCCCCD)]] :=
  ⟨rfl, rfl, rfl⟩

/-! ## SET + Setkeys + precision, under the hypothesis that excludes the witness -/

/-- **SET + Setkeys + SetPrecision(eps), precision inert inside arrays, in memory.**
    `hm`: SET present, `keysOf m = some ks` with `ks ≠ []`, no MERGE, eps finite and ≥ +0.
    `ha hb ha' hb'`: documents as read from JSON text, no void member.
    `H`: the seven decidable hypotheses `V1K.KeysHyp` of the no-precision theorem
    (`C17.…`/`V1K.v1_diff_patch_setkeys`: hash-faithfulness, keyed members distinct, every member
    carries a key, …), read at the metadata WITHOUT the precision (hash codes and identities do not
    see it).
    `hsep`: `V1PK.arrSep eps a b` — for every array of `a` and every array of `b`, a number below the
    first is within eps of a number below the second only when it is within 0 of it. NEEDED:
    `setkeys_precision_breaks` (`[{"id":"1","v":1}]` vs `[{"id":"1","v":1.05}]`, eps 0.1) violates it
    and nothing else (`V1PK.ExampleK.witness_not_sep`). Numbers OUTSIDE arrays are not constrained:
    there `Diff` and `Equals` both honour the precision.
    Then `a.Patch(a.Diff(b, m...))` succeeds and the result `Equals` `b` under the same metadata. -/
theorem v1_set_setkeys_precision_diff_then_patch (F : FloatEq0) (L : FloatLaws) {m : V1.Metas}
    {ks : List String} (hm : V1PK.PKMode m ks) (a b : Json)
    (ha : a.setDoc = true) (hb : b.setDoc = true)
    (ha' : DPL.memOK a = true) (hb' : DPL.memOK b = true)
    (H : V1K.KeysHyp (V1PS.noPrec m) ks a b) (hsep : V1PK.arrSep (V1.precOf m) a b = true) :
    ∃ r, V1.patchM a (V1.diffM m a b) = .ok r ∧ V1.equals m r b = true :=
  V1PK.v1_diff_patch_setkeys_precision F L hm a b ha hb ha' hb' H hsep

/-- SET + Setkeys + precision inert inside arrays: the diff is empty exactly when `Equals` (with the
    metadata) holds — both directions; same hypotheses. -/
theorem v1_set_setkeys_precision_diff_empty_iff_equal (F : FloatEq0) (L : FloatLaws)
    {m : V1.Metas} {ks : List String} (hm : V1PK.PKMode m ks) (a b : Json)
    (ha : a.setDoc = true) (hb : b.setDoc = true)
    (ha' : DPL.memOK a = true) (hb' : DPL.memOK b = true)
    (H : V1K.KeysHyp (V1PS.noPrec m) ks a b) (hsep : V1PK.arrSep (V1.precOf m) a b = true) :
    V1.diffM m a b = [] ↔ V1.equals m a b = true :=
  V1PK.v1_diff_empty_iff_equals_setkeys_precision F L hm a b ha hb ha' hb' H hsep

/-- the restricted congruence behind the two theorems: under SET, on documents as read from text
    whose numbers are separated (`V1PK.SepN m a b`: "within eps" = "within 0" on the numbers of `a`
    against those of `b`), the strict `Diff` does not see the precision -/
theorem v1_set_diff_precision_inert {m : V1.Metas} (hd : V1.dispatchTag m = .set) (a b : Json)
    (ha : DocOk a) (hb : DocOk b) (hs : V1PK.SepN m a b) (p : List Json) :
    V1.diffNode m false a b p = V1.diffNode (V1PS.noPrec m) false a b p :=
  V1PK.diffNode_inert hd a b ha hb hs p

/-- every hypothesis holds on `{"k":1,"s":[{"id":"1","v":1},{"id":"2","v":3}]}` →
    `{"k":1.05,"s":[{"id":"1","v":3},{"id":"3","v":1}]}` under `SET, Setkeys("id"), SetPrecision(0.1)`
    (`k` moves within eps outside the array: no hunk; member 1 changed, 2 removed, 3 added), relative
    to the IEEE-754 laws and the float facts `|1 - 3| ≤ 0.1`, `|1 - 3| ≤ 0` both false (`numWithin` is
    opaque to the kernel; `#eval` confirms them). Go on this pair: the same two hunks, patched
    `{"k":1,"s":[{"id":"3","v":1},{"id":"1","v":3}]}` (a set: member order by hash), `Equals(r,b,md)=true`. -/
example (L : FloatLaws)
    (h1 : numWithin V1PK.ExampleK.eps V1PK.ExampleK.one V1PK.ExampleK.three = false)
    (h0 : numWithin 0 V1PK.ExampleK.one V1PK.ExampleK.three = false) :
    V1PK.PKMode V1PK.ExampleK.mK ["id"] ∧
    V1PK.ExampleK.kA.setDoc = true ∧ V1PK.ExampleK.kB.setDoc = true ∧
    DPL.memOK V1PK.ExampleK.kA = true ∧ DPL.memOK V1PK.ExampleK.kB = true ∧
    V1K.KeysHyp (V1PS.noPrec V1PK.ExampleK.mK) ["id"] V1PK.ExampleK.kA V1PK.ExampleK.kB ∧
    V1PK.arrSep (V1.precOf V1PK.ExampleK.mK) V1PK.ExampleK.kA V1PK.ExampleK.kB = true :=
  ⟨V1PK.ExampleK.k_mode, V1PK.ExampleK.k_docs.1, V1PK.ExampleK.k_docs.2.1,
    V1PK.ExampleK.k_docs.2.2.1, V1PK.ExampleK.k_docs.2.2.2, V1PK.ExampleK.k_keysHyp L,
    V1PK.ExampleK.k_sep L h1 h0⟩

example (F : FloatEq0) (L : FloatLaws)
    (h1 : numWithin V1PK.ExampleK.eps V1PK.ExampleK.one V1PK.ExampleK.three = false)
    (h0 : numWithin 0 V1PK.ExampleK.one V1PK.ExampleK.three = false) :
    ∃ r, V1.patchM V1PK.ExampleK.kA
        (V1.diffM V1PK.ExampleK.mK V1PK.ExampleK.kA V1PK.ExampleK.kB) = .ok r ∧
      V1.equals V1PK.ExampleK.mK r V1PK.ExampleK.kB = true :=
  V1PK.ExampleK.k_run F L h1 h0

/-- the predicate is decidable as the caller writes the metadata; MERGE, a negative precision and an
    empty key list are outside it -/
example : V1PK.PKMode [.prec V1PK.ExampleK.eps, .setkeys ["id"], .mset, .set] ["id"] ∧
    ¬ V1PK.PKMode [.set, .setkeys ["id"], .merge, .prec V1PK.ExampleK.eps] ["id"] ∧
    ¬ V1PK.PKMode [.set, .setkeys ["id"], .prec 0xBFF0000000000000] ["id"] ∧
    ¬ V1PK.PKMode [.set, .setkeys [], .prec V1PK.ExampleK.eps] [] := by decide

/-! ## SET + MERGE and MULTISET + MERGE with a precision -/

/-- **SET + MERGE + SetPrecision(eps), in memory.** `hm`: SET and MERGE present (SET wins over
    MULTISET), no setkeys, eps finite and ≥ +0. `ha hb`: documents as read from JSON text; `hb'`: no
    void member in `b` (`b` MAY hold nulls). `HF`: no hash alias / collision among the sub-terms
    (read at precision 0: the v1 hash of a number ignores the precision). Then
    `a.Patch(a.Diff(b, m...))` succeeds and the result `Equals` `b` under the same metadata. -/
theorem v1_set_merge_precision_diff_then_patch (F : FloatEq0) (L : FloatLaws) {m : V1.Metas}
    (hm : V1PK.PSetMergeMode m) (a b : Json) (ha : a.setDoc = true) (hb : b.setDoc = true)
    (hb' : DPL.memOK b = true) (HF : V1S.HashFaithful m [.set] (subterms a ++ subterms b)) :
    ∃ r, V1.patchM a (V1.diffM m a b) = .ok r ∧ V1.equals m r b = true :=
  V1PK.v1_merge_diff_patch_setmodes_precision F L hm.mode a b ha hb hb' HF

/-- **MULTISET + MERGE + SetPrecision(eps), in memory.** `hm`: MULTISET and MERGE present, SET absent,
    no setkeys, eps finite and ≥ +0; the other hypotheses as for SET. -/
theorem v1_mset_merge_precision_diff_then_patch (F : FloatEq0) (L : FloatLaws) {m : V1.Metas}
    (hm : V1PK.PMsetMergeMode m) (a b : Json) (ha : a.setDoc = true) (hb : b.setDoc = true)
    (hb' : DPL.memOK b = true) (HF : V1S.HashFaithful m [.mset] (subterms a ++ subterms b)) :
    ∃ r, V1.patchM a (V1.diffM m a b) = .ok r ∧ V1.equals m r b = true :=
  V1PK.v1_merge_diff_patch_setmodes_precision F L hm.mode a b ha hb hb' HF

/-- SET + MERGE + precision: the diff is empty exactly when `Equals` (with the metadata) holds —
    both directions; same hypotheses. -/
theorem v1_set_merge_precision_diff_empty_iff_equal (F : FloatEq0) (L : FloatLaws) {m : V1.Metas}
    (hm : V1PK.PSetMergeMode m) (a b : Json) (ha : a.setDoc = true) (hb : b.setDoc = true)
    (hb' : DPL.memOK b = true) (HF : V1S.HashFaithful m [.set] (subterms a ++ subterms b)) :
    V1.diffM m a b = [] ↔ V1.equals m a b = true :=
  V1PK.v1_merge_diff_empty_iff_equals_setmodes_precision F L hm.mode a b ha hb hb' HF

/-- MULTISET + MERGE + precision: the diff is empty exactly when `Equals` (with the metadata) holds. -/
theorem v1_mset_merge_precision_diff_empty_iff_equal (F : FloatEq0) (L : FloatLaws) {m : V1.Metas}
    (hm : V1PK.PMsetMergeMode m) (a b : Json) (ha : a.setDoc = true) (hb : b.setDoc = true)
    (hb' : DPL.memOK b = true) (HF : V1S.HashFaithful m [.mset] (subterms a ++ subterms b)) :
    V1.diffM m a b = [] ↔ V1.equals m a b = true :=
  V1PK.v1_merge_diff_empty_iff_equals_setmodes_precision F L hm.mode a b ha hb hb' HF

/-- **SET / MULTISET + MERGE + precision, through the text** (`M`: either reading, tied to the options
    `o` under which the hash hypothesis is read). In addition: `hc`: the codec contract on the
    paths / values of the diff, `hr`: `Render` succeeded with `text`. Then `ReadDiffString text`
    succeeds (it is the diff with the replaced arrays as plain arrays) and patching `a` with the
    diff READ BACK yields a document that `Equals` `b` under the metadata. -/
theorem v1_setmodes_merge_precision_text_roundtrip (F : FloatEq0) (L : FloatLaws) (nc : NumCodec)
    {m : V1.Metas} {o : Opts} (M : V1PK.PMMode m o) (a b : Json)
    (ha : a.setDoc = true) (hb : b.setDoc = true) (hb' : DPL.memOK b = true)
    (HF : V1S.HashFaithful m o (subterms a ++ subterms b))
    (hc : V1S.CodecOK nc (V1.diffM m a b)) (text : String)
    (hr : V1.renderM nc false (V1.liftDiff (V1.diffM m a b)) = .ok (some text)) :
    ∃ d' r, V1.readDiffM nc text = .ok d' ∧ V1.patchM a d' = .ok r ∧ V1.equals m r b = true :=
  V1PK.v1_text_roundtrip_merge_setmodes_precision F L nc M a b ha hb hb' HF hc text hr

/-- the metadata predicates are satisfiable as the caller writes them (any order; SET wins over
    MULTISET); a negative precision and setkeys are outside them -/
example : V1PK.PSetMergeMode [.prec V1PK.Example.eps, .mset, .merge, .set] ∧
    V1PK.PMsetMergeMode [.merge, .mset, .prec V1PK.Example.eps] ∧
    V1PK.PMMode [.set, .merge, .prec V1PK.Example.eps] [.set] ∧
    ¬ V1PK.PSetMergeMode [.set, .merge, .prec 0xBFF0000000000000] ∧
    ¬ V1PK.PSetMergeMode [.set, .merge, .setkeys ["id"], .prec V1PK.Example.eps] :=
  ⟨by decide, by decide, V1PK.Example.eps_set.mode, by decide, by decide⟩

/-- every hypothesis of the SET + MERGE theorem holds on `{"k":1,"s":[1,2,{"x":1}],"u":{"v":2}}` →
    `{"k":1.05,"s":[2,1.05,{"x":1.05}],"t":3,"u":{"v":2.05}}` with eps = 0.1 (numbers within eps at an
    object key and under a nested key: no hunk; inside a set: the array is replaced) -/
example (L : FloatLaws) : V1PS.Example.pA.setDoc = true ∧ V1PS.Example.pB.setDoc = true ∧
    DPL.memOK V1PS.Example.pB = true ∧
    V1S.HashFaithful [.set, .merge, .prec V1PK.Example.eps] [.set]
      (subterms V1PS.Example.pA ++ subterms V1PS.Example.pB) :=
  ⟨V1PS.Example.p_docs.1, V1PS.Example.p_docs.2.1, V1PS.Example.p_docs.2.2.2.1,
    V1PK.Example.hf_set L⟩

example (F : FloatEq0) (L : FloatLaws) :
    ∃ r, V1.patchM V1PS.Example.pA
        (V1.diffM [.mset, .merge, .prec V1PK.Example.eps] V1PS.Example.pA V1PS.Example.pB) = .ok r ∧
      V1.equals [.mset, .merge, .prec V1PK.Example.eps] r V1PS.Example.pB = true :=
  V1PK.Example.p_mset F L

/-- **`precNN` cannot be dropped under MERGE in the set readings** (any metadata holding MERGE):
    `hneg`: `|x - x| ≤ eps` is false (eps = -1). The merge diff of `x` and `x` is the hunk `+ x`, the
    patch returns `x`, not `Equals` to `x` under the metadata. Replayed on /repo/lib
    (`SET, MERGE, SetPrecision(-1)`: diff `@ [["MERGE"]]\n+ 1`, patched `1`, `Equals` false). -/
theorem precNN_needed_merge_setmodes (m : V1.Metas) (hm : V1.hasMerge m = true) (x : UInt64)
    (hneg : numWithin (V1.precOf m) x x = false) :
    V1.diffM m (.num x) (.num x) = [V1M.vh [] (.num x)] ∧
    V1.patchM (.num x) (V1.diffM m (.num x) (.num x)) = .ok (.num x) ∧
    V1.equals m (.num x) (.num x) = false :=
  V1PK.Witness.precNN_needed_merge_setmodes m hm x hneg

/-! ## MULTISET + Setkeys + precision -/

/-- **MULTISET + Setkeys + SetPrecision(eps), in memory.** `hm`: MULTISET present, SET absent, no
    MERGE, set keys allowed (with MULTISET they only add `"setkeys=…"` to the path metadata; members
    are compared by hash code, never by identity — so the witness `setkeys_precision_breaks` does
    not arise), eps finite and ≥ +0. `ha hb ha' hb'`: documents as read from JSON text, no void
    member. `HF`: no hash alias / collision among the sub-terms (at precision 0). Then
    `a.Patch(a.Diff(b, m...))` succeeds and the result `Equals` `b` under the same metadata. -/
theorem v1_mset_setkeys_precision_diff_then_patch (F : FloatEq0) (L : FloatLaws) {m : V1.Metas}
    (hm : V1PK.PXMsMode m) (a b : Json) (ha : a.setDoc = true) (hb : b.setDoc = true)
    (ha' : DPL.memOK a = true) (hb' : DPL.memOK b = true)
    (HF : V1S.HashFaithful m [.mset] (subterms a ++ subterms b)) :
    ∃ r, V1.patchM a (V1.diffM m a b) = .ok r ∧ V1.equals m r b = true :=
  V1PK.v1_diff_patch_mset_setkeys_precision F L hm a b ha hb ha' hb' HF

/-- MULTISET + Setkeys + precision: the diff is empty exactly when `Equals` (with the metadata)
    holds — both directions; same hypotheses. -/
theorem v1_mset_setkeys_precision_diff_empty_iff_equal (F : FloatEq0) (L : FloatLaws)
    {m : V1.Metas} (hm : V1PK.PXMsMode m) (a b : Json) (ha : a.setDoc = true)
    (hb : b.setDoc = true) (ha' : DPL.memOK a = true) (hb' : DPL.memOK b = true)
    (HF : V1S.HashFaithful m [.mset] (subterms a ++ subterms b)) :
    V1.diffM m a b = [] ↔ V1.equals m a b = true :=
  V1PK.v1_diff_empty_iff_equals_mset_setkeys_precision F L hm a b ha hb ha' hb' HF

/-- the predicate is satisfiable as the caller writes the metadata; SET is outside it; every
    hypothesis holds on the pair of V1PrecisionModes under `MULTISET, Setkeys("x"), SetPrecision(0.1)` -/
example : V1PK.PXMsMode [.prec V1PK.Example.eps, .setkeys ["x"], .mset] ∧
    ¬ V1PK.PXMsMode [.mset, .set, .setkeys ["x"], .prec V1PK.Example.eps] ∧
    ¬ V1PK.PXMsMode [.mset, .setkeys ["x"], .prec 0xBFF0000000000000] := by decide

example (F : FloatEq0) (L : FloatLaws) :
    ∃ r, V1.patchM V1PS.Example.pA
        (V1.diffM [.mset, .setkeys ["x"], .prec V1PK.Example.eps] V1PS.Example.pA V1PS.Example.pB)
          = .ok r ∧
      V1.equals [.mset, .setkeys ["x"], .prec V1PK.Example.eps] r V1PS.Example.pB = true :=
  V1PK.ExampleX.p_x F L


end Jd.Props.C17PrecisionKeys
