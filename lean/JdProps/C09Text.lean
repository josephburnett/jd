/-
  Properties C09, C10, C11, C12 of the v2 library AT THE LEVEL OF THE JSON TEXT.
  Statement file (proofs in JdProofs/RfcTextLevel.lean, namespace `Jd.RTL`). Four sections, one
  namespace each: `Jd.Props.C09Text`, `Jd.Props.C10Text`, `Jd.Props.C11Text`, `Jd.Props.C12Text`.

  JdProps/C09.lean … C12.lean stop at the patch DOCUMENT (the list of operations `{op, path, value}`,
  the merge patch document). Here the same claims are made about the STRINGS that
  `Diff.RenderPatch()` / `Diff.RenderMerge()` return and `ReadPatchString` / `ReadMergeString` parse:
    `renderPatchM nc d`, `renderMergeM nc d : Outcome (Option String)`  the text (`none`: a number the
                                                    number codec cannot print);
    `readPatchM nc s`, `readMergeM nc s : Outcome Diff`                  the readers on a text;
    `parseJson nc s : Option Json`                   the JSON parser (`json.Unmarshal` into a document);
    `nc : NumCodec`                                  decimal text ↔ binary64 (`strconv`), a PARAMETER of
                                                    the model (JdModel/Text.lean).
  Independent specifications (shared with nothing of jd's readers): `Spec.opsOfJson` — the decoder of a
  parsed JSON Patch document (an array of objects with string members `op`, `path`, and a `value`
  member for `add` / `replace` / `test`) —, `Spec.eval` (RFC 6902 / 6901 evaluator), `Spec.mergePatch`
  (RFC 7386 pseudocode), `specEq` / `equivB` (structural equality up to the Go type of array nodes).

  TEXT HYPOTHESES (all Bool-valued functions of the INPUT documents)
    `RTL.LT nc x` := `x.listDoc ∧ x.wf ∧ Yaml.voidFree x ∧ JText.NumOK nc x`
       `listDoc`, `wf`      list reading, unique sorted keys: already in the document-level theorems;
       `Yaml.voidFree x`    no void marker anywhere, ROOT INCLUDED: void has no JSON text (`raw()` prints
                            it as `""`). The document-level theorems allow a void root;
       `JText.NumOK nc x`   every number `n` of `x`: `fmtNum nc n = some s`, `s` is ONE token of the JSON
                            number grammar and `parseNumToken nc s = some n`. Needed because `strconv` is
                            a parameter; a THEOREM for integers of magnitude below 10^15
                            (`JText.numOK_int`), for every codec.
    The values that are printed are sub-terms of `a` and `b`, so nothing is asked of the diff.

  C10 section (D31; diff_read.go `readPatchElements`: the patch document is decoded by
  EXACT member names; rejected are a non-array text such as `null`, a non-object element, a missing
  or non-string `op` / `path`, an `add` / `test` without `value`): the FULL text-level statement holds —
  `C10Text.text_accepted_and_applied_is_rfc6902`: whatever text `ReadPatchString` accepts and `Patch`
  applies IS an RFC 6902 document for the independent decoder and evaluates alike. The witnesses of
  D31 (the text `null`; an operation without `path`; an `add` without `value`; case-insensitive member
  names of encoding/json's struct decoding) are regression theorems `fixed_*`.
-/
import JdProofs.RfcTextLevel
import JdProofs.MergeTextSetModes
import JdProofs.CliRoundTripModesEx

/-! # C09 — RFC 6902 output, text level -/

namespace Jd.Props.C09Text
open Jd Jd.Spec

/-- **C09 at the text level, closed.** `a`, `b` in the list-reading domain of
    `C09.rendered_patch_of_diff_yields_target_closed` (list documents, sorted unique keys, finite
    numbers, no hash collision `H`, no `0` / `-0` pair `Z`, array lengths `Na + Nb < 2^53`, every
    object key expressible as a JSON Pointer token `ka`, `kb`) and in the text domain (`RTL.LT`: no
    void node, codec-correct numbers). Then: the text of `RenderPatch(a.Diff(b))` is produced; it
    parses to a document; the INDEPENDENT decoder reads that document as RFC 6902 operations, each
    a `test`, `remove` or `add`; the independent evaluator turns `a` into a document structurally
    equal to `b` (both ways). `FloatLaws`: symmetry / reflexivity of `|x − y| ≤ eps`, as in C09. -/
theorem rendered_patch_text_yields_target (L : FloatLaws) (nc : NumCodec) (o : Opts)
    (ho : dispatchTag o = .list) (hm : isMerge o = false) (a b : Json)
    (ha : RTL.LT nc a) (ha3 : a.finiteNums = true) (hb : RTL.LT nc b) (hb3 : b.finiteNums = true)
    {Na Nb : Nat} (la : PRC.lenLe Na a = true) (lb : PRC.lenLe Nb b = true) (hN : Na + Nb < 2 ^ 53)
    (H : DPL.HashOK o a b) (Z : DPL.ZeroOK a b)
    (ka : PRC.keysExpressible a = true) (kb : PRC.keysExpressible b = true) :
    ∃ text doc sops r,
      renderPatchM nc (diffM o a b) = .ok (some text) ∧
      parseJson nc text = some doc ∧ Spec.opsOfJson doc = some sops ∧
      (∀ op ∈ sops, op.op = "test" ∨ op.op = "remove" ∨ op.op = "add") ∧
      eval a sops = some r ∧ specEq r b = true ∧ specEq b r = true :=
  RTL.patch_text_rfc_of_paths L nc o ho hm a b ha ha3 hb hb3 la lb hN H Z
    (PRC.diffM_paths_expressible o ho hm a b ha.1 hb.1 ka kb)

/-- **sharp form**: the same under "every path element of every hunk of `a.Diff(b)` is expressible"
    (`hp`), which is exactly the condition under which `RenderPatch` succeeds; keys inside removed /
    added values are unrestricted -/
theorem rendered_patch_text_yields_target_of_paths (L : FloatLaws) (nc : NumCodec) (o : Opts)
    (ho : dispatchTag o = .list) (hm : isMerge o = false) (a b : Json)
    (ha : RTL.LT nc a) (ha3 : a.finiteNums = true) (hb : RTL.LT nc b) (hb3 : b.finiteNums = true)
    {Na Nb : Nat} (la : PRC.lenLe Na a = true) (lb : PRC.lenLe Nb b = true) (hN : Na + Nb < 2 ^ 53)
    (H : DPL.HashOK o a b) (Z : DPL.ZeroOK a b)
    (hp : ∀ h ∈ diffM o a b, ∀ e ∈ h.path, expressible e) :
    ∃ text doc sops r,
      renderPatchM nc (diffM o a b) = .ok (some text) ∧
      parseJson nc text = some doc ∧ Spec.opsOfJson doc = some sops ∧
      (∀ op ∈ sops, op.op = "test" ∨ op.op = "remove" ∨ op.op = "add") ∧
      eval a sops = some r ∧ specEq r b = true ∧ specEq b r = true :=
  RTL.patch_text_rfc_of_paths L nc o ho hm a b ha ha3 hb hb3 la lb hN H Z hp

/-- REFUSAL at the text level, any diff: one hunk with a path element that is not expressible (a
    set / multiset / keyed element, a number-like key, the key "-") and `RenderPatch` returns an
    error — there is no text -/
theorem render_text_refuses_inexpressible_path (nc : NumCodec) {d : Diff} {h : Hunk} (hm : h ∈ d)
    (hb : ∃ e ∈ h.path, ¬ expressible e) : renderPatchM nc d = .err := by
  rw [JText.renderPatchM_eq, PRC.renderPatchOps_refuses hm hb]

/-- what the parser returns, for every codec and every text: plain arrays, sorted unique keys, no
    void node (so the document-level hypotheses on a parsed patch document are theorems) -/
theorem parsed_text_is_a_document {nc : NumCodec} {s : String} {v : Json}
    (h : parseJson nc s = some v) : v.rawDoc = true ∧ v.wf = true ∧ Yaml.voidFree v = true :=
  RTL.parseJson_shape h

/-! Non-vacuity: `PRC.Example.exA = {"a~/b": [true, 1, [1], null], "k": null}`,
    `exB = {"a~/b": [false, 1, [1, 1], null, null], "m": 1}` with the codec that knows no token
    (`NativeRT.exCodec`): every hypothesis holds. -/

theorem ex_LT : RTL.LT NativeRT.exCodec PRC.Example.exA ∧ RTL.LT NativeRT.exCodec PRC.Example.exB :=
  ⟨⟨by decide, by decide, by decide, CliRTM.Ex.PatchEx.numOK_exA⟩,
   ⟨by decide, by decide, by decide, CliRTM.Ex.PatchEx.numOK_exB⟩⟩

example (L : FloatLaws) :
    ∃ text doc sops r,
      renderPatchM NativeRT.exCodec (diffM [] PRC.Example.exA PRC.Example.exB) = .ok (some text) ∧
      parseJson NativeRT.exCodec text = some doc ∧ Spec.opsOfJson doc = some sops ∧
      (∀ op ∈ sops, op.op = "test" ∨ op.op = "remove" ∨ op.op = "add") ∧
      eval PRC.Example.exA sops = some r ∧ specEq r PRC.Example.exB = true ∧
      specEq PRC.Example.exB r = true := by
  obtain ⟨_, _, h3, _, _, _, h7, _, h9, h10, h11, h12, h13, h14, h15, _⟩ := PRC.Example.hyps L
  exact rendered_patch_text_yields_target L _ [] rfl rfl _ _ ex_LT.1 h3 ex_LT.2 h7 h9 h10 h11 h12
    h13 h14 h15

end Jd.Props.C09Text

/-! # C10 — RFC 6902 input, text level -/

namespace Jd.Props.C10Text
open Jd Jd.Spec

/-- **C10 at the text level, FULL statement: never more permissive than RFC 6902, never different,
    for EVERY text.** `s` any text that `ReadPatchString` accepts, reading the diff `d` (`hread`); `t`
    any list document with unique sorted keys on which `t.Patch(d)` succeeds with `r` (`hp`). THEN
    the text is a JSON text parsing to `doc`, the INDEPENDENT decoder `Spec.opsOfJson` (an array of
    objects with string `op`, `path`, and a `value` where the operation needs one) reads `doc` as
    RFC 6902 operations `sops`, and the independent evaluator applies `sops` to `t` with the same
    result up to the Go type of array nodes. There is NO hypothesis on the independent decoder
    (whatever `ReadPatchString` accepts and applies is a well-formed RFC 6902 document, D31)
    and none on the spelling of the pointers (D30). What remains is a range
    condition: `hidx` — every array-index token of every `path` member of the parsed text is below
    2^53 (`RTL.docIdxOK`, an executable predicate on the parsed text, no decoder involved) — and
    `hafter` — `i + |Remove| < 2^53` for the elements read (the index of the after-context line);
    2^53 is where the model's `int → float64` conversion of an index stops being exact.
    `FloatLaws`, `FloatEq0`: as in C10. -/
theorem text_accepted_and_applied_is_rfc6902 (L : FloatLaws) (F : FloatEq0) {nc : NumCodec}
    {s : String} {d : Diff} {t r : Json} (hw : t.wf = true) (hl : t.listDoc = true)
    (hread : readPatchM nc s = .ok d) (hp : patchM t d = .ok r)
    (hidx : ∀ doc, parseJson nc s = some doc → RTL.docIdxOK doc = true)
    (hafter : ∀ h ∈ d, ∀ i, lastIdx? h.path = some i → i + (h.remove.length : Int) < 2 ^ 53) :
    ∃ doc sops r', parseJson nc s = some doc ∧ Spec.opsOfJson doc = some sops ∧
      eval t sops = some r' ∧ untag r' = untag r :=
  RTL.patch_text_rfc6902 L F hw hl hread hp hidx hafter

/-- the operations of a text that is accepted and applied, as the INDEPENDENT decoder reads them, are
    `test`, `remove` and `add` operations only (the supported subset) -/
theorem text_accepted_and_applied_is_in_the_subset (F : FloatEq0) {nc : NumCodec} {s : String}
    {d : Diff} {t r : Json} (hl : t.listDoc = true)
    (hread : readPatchM nc s = .ok d) (hp : patchM t d = .ok r)
    (hidx : ∀ doc, parseJson nc s = some doc → RTL.docIdxOK doc = true) :
    ∃ doc sops, parseJson nc s = some doc ∧ Spec.opsOfJson doc = some sops ∧
      ∀ o ∈ sops, o.op = "test" ∨ o.op = "remove" ∨ o.op = "add" :=
  RTL.patch_text_ops_shape F hl hread hp hidx

/-- the form with the independent decoding GIVEN (`hdoc`, `hs`): the range hypothesis `hc` is then
    on the pointer texts of the independent decoder's operations (`NMP.idxTokensOK`: every token that
    is an RFC 6901 array index is below 2^53). Corollary-strength; kept because it speaks about ANY
    `sops` the independent decoder returns. -/
theorem text_never_more_permissive (L : FloatLaws) (F : FloatEq0) {nc : NumCodec} {s : String}
    {d : Diff} {t r doc : Json} {sops : List Spec.Op} (hw : t.wf = true) (hl : t.listDoc = true)
    (hread : readPatchM nc s = .ok d) (hp : patchM t d = .ok r)
    (hdoc : parseJson nc s = some doc) (hs : Spec.opsOfJson doc = some sops)
    (hc : ∀ o ∈ sops, NMP.idxTokensOK o.path = true)
    (hafter : ∀ h ∈ d, ∀ i, lastIdx? h.path = some i → i + (h.remove.length : Int) < 2 ^ 53) :
    ∃ r', eval t sops = some r' ∧ untag r' = untag r :=
  RTL.patch_text_never_more_permissive L F hw hl hread hp hdoc hs hc hafter

/-- the two decoders agree where both accept: the operations of the independent decoder carry the
    same `op`, `path` and `value` as the library's (`RTL.OpRel`; the independent one also keeps `from`) -/
theorem decoders_agree_where_both_accept {doc : Json} {ops : List PatchOp} {sops : List Spec.Op}
    (h1 : patchOpsOfJson doc = .ok ops) (h2 : Spec.opsOfJson doc = some sops) :
    List.Forall₂ RTL.OpRel sops ops :=
  RTL.opsOfJson_lib h1 h2

/-- **the library's decoder against the independent one.** Whatever parsed document the
    library's decoder (`patchOpsOfJson`, the model of `readPatchElements` of diff_read.go) accepts as
    operations none of which is a `replace` (`hne`; true of every accepted and applied text —
    `RTL.accepted_ops_wfOps` — since the element loop refuses `replace`), the independent decoder
    accepts too, reading the same `op`, `path`, `value`. (Extra members, a `from` member, members in
    another letter case, duplicate names — the last wins in the parser — make no difference between
    the two decoders; a missing or non-string `op` / `path`, an `add` / `test` without `value`, a
    non-object element, a non-array document are rejected by both.) -/
theorem library_decoder_within_rfc6902 {doc : Json} {ops : List PatchOp}
    (h1 : patchOpsOfJson doc = .ok ops) (hne : ∀ o ∈ ops, o.op ≠ "replace") :
    ∃ sops, Spec.opsOfJson doc = some sops ∧ List.Forall₂ RTL.OpRel sops ops :=
  RTL.opsOfJson_of_lib h1 hne

/-- the only shape the library's decoder lets through and the independent one does not: a document
    with a `replace` operation (one WITHOUT `value`: the Go code asks for `value` on `add` and `test`
    only; witness `RTL.Witness.replace_without_value`, which also shows the reader refusing it) -/
theorem shapes_accepted_beyond_rfc6902 {doc : Json} {ops : List PatchOp}
    (h1 : patchOpsOfJson doc = .ok ops) (h2 : Spec.opsOfJson doc = none) :
    ∃ o ∈ ops, o.op = "replace" := by
  apply Classical.byContradiction
  intro hn
  obtain ⟨sops, h3, _⟩ := RTL.opsOfJson_of_lib h1 (fun o ho he => hn ⟨o, ho, he⟩)
  rw [h2] at h3; cases h3

/-! Non-vacuity of `text_accepted_and_applied_is_rfc6902`: the text
    `[{"op":"add","path":"/k","value":"b"}]` on the target `{}`: it is accepted, applies, and every
    hypothesis holds. -/

section NonVacuity
open Jd.NMP Jd.PB

private def exS : String := "[{\"op\":\"add\",\"path\":\"/k\",\"value\":\"b\"}]"
private def exDoc : Json := .arr .raw [.obj [("op", .str "add"), ("path", .str "/k"), ("value", .str "b")]]
private def exD : Diff := [{ path := [.key "k"], add := [.str "b"] }]
private theorem ex_parse (nc : NumCodec) : parseJson nc exS = some exDoc :=
  JText.parseJson_text' nc exDoc exS rfl rfl rfl
private theorem ex_read (nc : NumCodec) : readPatchM nc exS = .ok exD := by
  have h1 : patchOpsOfJson exDoc = .ok [adp "/k" (.str "b")] := by
    simp [exDoc, patchOpsOfJson, patchOpsOfJson.go, patchOpsOfJson.strField,
      patchOpsOfJson.valueField, alookup, adp]
    rfl
  have h2 : readPatchOps [adp "/k" (.str "b")] = .ok exD := by
    simp [readPatchOps, exD, readPatchLoop, readPatchHunk, rp_k, lastIdx?, adp, readPatchCtxLoop, ctxOf,
      checkPatchCtxs, checkPatchCtx]
  simp only [readPatchM, ex_parse, readPatchDoc, h1, h2]
private theorem ex_patch : ∃ r, patchM (.obj []) exD = .ok r ∧ untag r = .obj [("k", .str "b")] := by
  have : applyStrictAll (.obj []) exD = some (.obj [("k", .str "b")]) := by
    simp [applyStrictAll, applyStrict, exD, alookup, specEq, equivB, single, Json.singleValue,
      Json.isVoid, ainsert]
  obtain ⟨r, h1, h2⟩ := patchM_of_ref (by decide) (by decide) this
  exact ⟨r, h1, by rw [h2]; simp [untag, untagKvs]⟩
private theorem ex_idx : RTL.docIdxOK exDoc = true := by
  have h : idxTokensOK "/k" = true := by
    rw [idxTokensOK_of_toks (toks := ["k"]) (by decide) (by decide)]
    decide
  simp [RTL.docIdxOK, RTL.elemIdxOK, exDoc, alookup, h]
example (L : FloatLaws) (F : FloatEq0) (nc : NumCodec) :
    ∃ r doc sops r', patchM (.obj []) exD = .ok r ∧ parseJson nc exS = some doc ∧
      Spec.opsOfJson doc = some sops ∧ eval (.obj []) sops = some r' ∧ untag r' = untag r := by
  obtain ⟨r, hr, _⟩ := ex_patch
  obtain ⟨doc, sops, r', h0, h1, h2, h3⟩ := text_accepted_and_applied_is_rfc6902 L F (t := .obj [])
    (by decide) (by decide) (ex_read nc) hr
    (by intro doc hd; rw [ex_parse] at hd; cases hd; exact ex_idx)
    (by
      intro h hm i hi
      simp only [exD, List.mem_singleton] at hm
      subst hm
      simp [lastIdx?] at hi)
  exact ⟨r, doc, sops, r', hr, h0, h1, h2, h3⟩
end NonVacuity

/-! ### REGRESSIONS for D31 (malformed documents that struct decoding with encoding/json accepts;
    RFC 6902 rejects them, and so does `ReadPatchString`; every codec) -/

/-- D31, witness 1: the text `null` is rejected; RFC 6902 §3 requires an array. Struct decoding
    accepts it as the empty patch, applied (a no-op) to every target. -/
theorem fixed_null_text_rejected (nc : NumCodec) :
    readPatchM nc "null" = .err ∧
    parseJson nc "null" = some .null ∧ Spec.opsOfJson .null = none :=
  RTL.Witness.null_text_rejected nc

/-- D31, witness 2: `[{"op":"add","path":"/k"}]` — an `add` without `value` — is rejected;
    RFC 6902 §4.1 requires the `value` member. Struct decoding reads it as `add /k null`,
    which turns `{}` into `{"k":null}`. -/
theorem fixed_add_without_value_rejected (nc : NumCodec) :
    readPatchM nc RTL.Witness.text2 = .err ∧
    parseJson nc RTL.Witness.text2 = some RTL.Witness.doc2 ∧
    Spec.opsOfJson RTL.Witness.doc2 = none :=
  RTL.Witness.add_without_value_rejected nc

/-- a `value` member holding `null` is a value: `[{"op":"add","path":"/k","value":null}]` is accepted
    by both decoders and turns `{}` into `{"k":null}` -/
theorem add_with_null_value_still_accepted (nc : NumCodec) :
    readPatchM nc RTL.Witness.text2n = .ok RTL.Witness.diff2 ∧
    (∃ r, patchM (.obj []) RTL.Witness.diff2 = .ok r ∧ untag r = .obj [("k", .null)]) ∧
    parseJson nc RTL.Witness.text2n = some RTL.Witness.doc2n ∧
    Spec.opsOfJson RTL.Witness.doc2n = some [{ op := "add", path := "/k", value := .null }] :=
  RTL.Witness.add_null_value_accepted nc

/-- D31, witness 3: `[{"op":"add","value":"x"}]` — an operation without `path` — is rejected;
    RFC 6902 §4 requires the `path` member. Struct decoding reads it as an `add` at the root
    pointer "", which turns the void document (an empty file) into `"x"`. -/
theorem fixed_op_without_path_rejected (nc : NumCodec) :
    readPatchM nc RTL.Witness.text3 = .err ∧
    parseJson nc RTL.Witness.text3 = some RTL.Witness.doc3 ∧
    Spec.opsOfJson RTL.Witness.doc3 = none :=
  RTL.Witness.op_without_path_rejected nc

/-- D31, letter case: member names in another letter case (`OP`, `Path`, `VALUE`) are not
    the members `op`, `path`, `value` — for the library's decoder as for RFC 6902 -/
theorem fixed_member_names_are_exact :
    patchOpsOfJson (.arr .raw [.obj [("OP", .str "add"), ("Path", .str "/a"), ("VALUE", .null)]]) = .err ∧
    Spec.opsOfJson (.arr .raw [.obj [("OP", .str "add"), ("Path", .str "/a"), ("VALUE", .null)]]) = none :=
  RTL.Witness.other_case_names_rejected

example : RTL.Witness.text2 = "[{\"op\":\"add\",\"path\":\"/k\"}]" ∧
    RTL.Witness.text2n = "[{\"op\":\"add\",\"path\":\"/k\",\"value\":null}]" ∧
    RTL.Witness.text3 = "[{\"op\":\"add\",\"value\":\"x\"}]" := ⟨rfl, rfl, rfl⟩

/-! ### last sentence: own output read back from the text -/

/-- **C10, last sentence, at the text level.** Hypotheses of `C10.own_patch_output_reproduces_target`
    (`Own.elemsRaw a`: no array ELEMENT of `a` is a typed `jsonList`; needed —
    `C10.typed_list_element_witness` — and true of every document a reader produces) plus the text
    domain `RTL.LT` of `a` and `b`. Then `RenderPatch(a.Diff(b))` returns a text, `ReadPatchString`
    reads that text, and `a.Patch` of the diff read succeeds with a list document structurally
    equal to `b` (and `Equals` it when the precision is monotone, e.g. absent). -/
theorem own_patch_text_reproduces_target (L : FloatLaws) (F : FloatEq0) (nc : NumCodec) (o : Opts)
    (ho : dispatchTag o = .list) (hm : isMerge o = false) (a b : Json)
    (ha : RTL.LT nc a) (ha3 : a.finiteNums = true) (ha5 : Own.elemsRaw a = true)
    (hb : RTL.LT nc b) (hb3 : b.finiteNums = true)
    {Na Nb : Nat} (la : PRC.lenLe Na a = true) (lb : PRC.lenLe Nb b = true) (hN : Na + Nb < 2 ^ 53)
    (H : DPL.HashOK o a b) (Z : DPL.ZeroOK a b)
    (ka : PRC.keysExpressible a = true) (kb : PRC.keysExpressible b = true) :
    ∃ text d' r, renderPatchM nc (diffM o a b) = .ok (some text) ∧
      readPatchM nc text = .ok d' ∧ patchM a d' = .ok r ∧
      specEq r b = true ∧ specEq b r = true ∧ r.listDoc = true ∧
      (DPL.PrecMono o → equivB o r b = true ∧ equals o r b = true) :=
  RTL.patch_text_readback_of_paths L F nc o ho hm a b ha ha3 ha5 hb hb3 la lb hN H Z
    (PRC.diffM_paths_expressible o ho hm a b ha.1 hb.1 ka kb)

/-- sharp form (expressible PATHS of the diff) -/
theorem own_patch_text_reproduces_target_of_paths (L : FloatLaws) (F : FloatEq0) (nc : NumCodec)
    (o : Opts) (ho : dispatchTag o = .list) (hm : isMerge o = false) (a b : Json)
    (ha : RTL.LT nc a) (ha3 : a.finiteNums = true) (ha5 : Own.elemsRaw a = true)
    (hb : RTL.LT nc b) (hb3 : b.finiteNums = true)
    {Na Nb : Nat} (la : PRC.lenLe Na a = true) (lb : PRC.lenLe Nb b = true) (hN : Na + Nb < 2 ^ 53)
    (H : DPL.HashOK o a b) (Z : DPL.ZeroOK a b)
    (hp : ∀ h ∈ diffM o a b, ∀ e ∈ h.path, expressible e) :
    ∃ text d' r, renderPatchM nc (diffM o a b) = .ok (some text) ∧
      readPatchM nc text = .ok d' ∧ patchM a d' = .ok r ∧
      specEq r b = true ∧ specEq b r = true ∧ r.listDoc = true ∧
      (DPL.PrecMono o → equivB o r b = true ∧ equals o r b = true) :=
  RTL.patch_text_readback_of_paths L F nc o ho hm a b ha ha3 ha5 hb hb3 la lb hN H Z hp

/-! Non-vacuity: the pair of the C09 section; then the text it produces is an instance of
    `text_never_more_permissive`'s hypothesis `hread`. -/

example (L : FloatLaws) (F : FloatEq0) :
    ∃ text d' r,
      renderPatchM NativeRT.exCodec (diffM [] PRC.Example.exA PRC.Example.exB) = .ok (some text) ∧
      readPatchM NativeRT.exCodec text = .ok d' ∧ patchM PRC.Example.exA d' = .ok r ∧
      specEq r PRC.Example.exB = true ∧ equals [] r PRC.Example.exB = true := by
  obtain ⟨_, _, h3, _, _, _, h7, _, h9, h10, h11, h12, h13, h14, h15, _⟩ := PRC.Example.hyps L
  obtain ⟨text, d', r, c1, c2, c3, c4, _, _, c7⟩ :=
    own_patch_text_reproduces_target L F _ [] rfl rfl _ _ C09Text.ex_LT.1 h3
      Own.Example.exA_elemsRaw C09Text.ex_LT.2 h7 h9 h10 h11 h12 h13 h14 h15
  exact ⟨text, d', r, c1, c2, c3, c4, (c7 (DPL.PrecMono.of_noPrecision rfl)).2⟩

end Jd.Props.C10Text

/-! # C11 — RFC 7386 output, text level -/

namespace Jd.Props.C11Text
open Jd Jd.Spec Jd.Merge

/-- **C11 at the text level** (MERGE, list reading, no Precision). Hypotheses of
    `C11.rendered_merge_patch_yields_target` (`a`: unique sorted keys, plain arrays, may contain nulls;
    `b`: the same, null-free, finite numbers; `Equals` tells them apart) with `objVoidFree b`
    strengthened to `Yaml.voidFree b` (no void node at all: void has no JSON text) and
    `JText.NumOK nc b` (codec-correct numbers; only `b`: the merge document is made of parts of `b`).
    Then `RenderMerge()` returns a text, the text parses to a document `p` that is neither void nor
    `null`, and RFC 7386 `MergePatch(a, p)` is `b` (up to the advertised equivalence, which in the
    list reading ignores only the Go type of array nodes). -/
theorem rendered_merge_text_yields_target (L : FloatLaws) (nc : NumCodec) (o : Opts)
    (hm : isMerge o = true) (ho : dispatchTag o = .list) (hprec : precOf o = 0) (a b : Json)
    (haw : a.wf = true) (har : a.rawDoc = true)
    (hbw : b.wf = true) (hbr : b.rawDoc = true) (hbn : b.nullFree = true)
    (hbf : b.finiteNums = true) (hbv : Yaml.voidFree b = true) (hbN : JText.NumOK nc b = true)
    (hne : equals o a b = false) :
    ∃ text p, renderMergeM nc (diffM o a b) = .ok (some text) ∧ parseJson nc text = some p ∧
      p.isVoid = false ∧ p.isNull = false ∧
      equivB o (mergePatch a p) b = true ∧ specEq (mergePatch a p) b = true := by
  obtain ⟨text, p, h1, h2, h3, h4, _, h6⟩ := MTS.merge_text_rfc_precision L nc o hm ho
    (by rw [hprec]; decide) (DPL.PrecMono.of_noPrecision hprec) a b haw har hbw hbr hbn hbf hbv hbN
    hne
  exact ⟨text, p, h1, h2, h3, h4, h6,
    (DPL.equivB_congr o [] ho rfl (by rw [hprec]; rfl) _ _).symm.trans h6⟩

/-- without "that differ" when the first document is an object (equal documents: the text is `{}`) -/
theorem rendered_merge_text_yields_target_object (L : FloatLaws) (nc : NumCodec) (o : Opts)
    (hm : isMerge o = true) (ho : dispatchTag o = .list) (hprec : precOf o = 0) (a b : Json)
    (haw : a.wf = true) (har : a.rawDoc = true)
    (hbw : b.wf = true) (hbr : b.rawDoc = true) (hbn : b.nullFree = true)
    (hbf : b.finiteNums = true) (hbv : Yaml.voidFree b = true) (hbN : JText.NumOK nc b = true)
    (hobj : a.isObj = true) :
    ∃ text p, renderMergeM nc (diffM o a b) = .ok (some text) ∧ parseJson nc text = some p ∧
      p.isVoid = false ∧ p.isNull = false ∧
      equivB o (mergePatch a p) b = true ∧ specEq (mergePatch a p) b = true := by
  obtain ⟨text, p, h1, h2, h3, h4, _, h6⟩ := MTS.merge_text_rfc_precision_gen L nc o hm ho
    (by rw [hprec]; decide) (DPL.PrecMono.of_noPrecision hprec) a b haw har hbw hbr hbn hbf hbv hbN
    (Or.inr hobj)
  exact ⟨text, p, h1, h2, h3, h4, h6,
    (DPL.equivB_congr o [] ho rfl (by rw [hprec]; rfl) _ _).symm.trans h6⟩

/-- `JText.NumOK nc b` cannot be dropped (a remark on the MODEL's codec parameter, not on Go): for
    `null → 10^15` and the codec that knows no token every other hypothesis holds, the text
    `1000000000000000` is produced and the model's parser does not read it back -/
theorem numOK_is_needed :
    RTL.MergeWitness.big.wf = true ∧ RTL.MergeWitness.big.rawDoc = true ∧
    RTL.MergeWitness.big.nullFree = true ∧ RTL.MergeWitness.big.finiteNums = true ∧
    Yaml.voidFree RTL.MergeWitness.big = true ∧ equals [.merge] .null RTL.MergeWitness.big = false ∧
    JText.NumOK NativeRT.exCodec RTL.MergeWitness.big = false ∧
    renderMergeM NativeRT.exCodec (diffM [.merge] .null RTL.MergeWitness.big)
      = .ok (some "1000000000000000") ∧
    parseJson NativeRT.exCodec "1000000000000000" = none ∧
    readMergeM NativeRT.exCodec "1000000000000000" = .err :=
  RTL.MergeWitness.numOK_needed_merge

/-! Non-vacuity: `V1M.Example.exA = {"a":{"b":"x","c":null},"d":["p"],"f":[{"g":1}]}` →
    `exB = {"a":{"b":"y"},"e":{"h":{}},"f":[{"g":1}]}`, codec that knows no token. -/

example : equals [.merge] V1M.Example.exA V1M.Example.exB = false ∧
    Yaml.voidFree V1M.Example.exB = true ∧ JText.NumOK NativeRT.exCodec V1M.Example.exB = true := by
  refine ⟨?_, V1T.Example.merge_hyps.1, V1T.Example.merge_hyps.2⟩
  simp [V1M.Example.exA, V1M.Example.exB, equals, equalsKvs, alookup]

example (L : FloatLaws) :
    ∃ text p, renderMergeM NativeRT.exCodec (diffM [.merge] V1M.Example.exA V1M.Example.exB)
        = .ok (some text) ∧ parseJson NativeRT.exCodec text = some p ∧
      specEq (mergePatch V1M.Example.exA p) V1M.Example.exB = true := by
  obtain ⟨_, h1, h2, h3, h4, h5, _, h7, _, _⟩ := V1M.Example.hyps
  obtain ⟨text, p, c1, c2, _, _, _, c6⟩ :=
    rendered_merge_text_yields_target_object L NativeRT.exCodec [.merge] rfl rfl rfl _ _ h1 h2 h3 h4
      h5 h7 V1T.Example.merge_hyps.1 V1T.Example.merge_hyps.2 rfl
  exact ⟨text, p, c1, c2, c6⟩

end Jd.Props.C11Text

/-! # C12 — RFC 7386 input, text level -/

namespace Jd.Props.C12Text
open Jd Jd.Spec Jd.Merge

/-- **C12 at the text level, sharp form.** For EVERY text `s` that is valid JSON (`hs`: it parses to
    `p`) and every target `t` with unique sorted keys: `ReadMergeString(s)` succeeds, and `t.Patch` of
    what it read is EXACTLY RFC 7386 `MergePatch(t, p)` if and only if the pair is outside the three
    known classes (`Clean t p`, decidable: patch `{}` on a non-object target; `{}` over a non-empty
    object member; patch `null` at the root). The hypotheses `p.wf`, `objVoidFree p` of
    `C12.read_apply_is_mergePatch_iff_clean` are theorems about the parser. -/
theorem read_text_apply_is_mergePatch_iff_clean (nc : NumCodec) (t : Json) (s : String) (p : Json)
    (ht : t.wf = true) (hs : parseJson nc s = some p) :
    ∃ d, readMergeM nc s = .ok d ∧
      (patchAll true t d = .ok (mergePatch t p) ↔ Clean t p = true) := by
  obtain ⟨_, hw, hv⟩ := RTL.parseJson_shape hs
  exact ⟨_, RTL.readMergeM_of_parseJson hs,
    merge_read_apply_iff t p ht hw (V1T.objVoidFree_of_voidFree p hv)⟩

/-- the direction used as the property; also with the entry point `patchM`, up to array tags -/
theorem read_text_apply_is_mergePatch (nc : NumCodec) (t : Json) (s : String) (p : Json)
    (ht : t.wf = true) (hs : parseJson nc s = some p) (hc : Clean t p = true) :
    ∃ d r, readMergeM nc s = .ok d ∧ patchAll true t d = .ok (mergePatch t p) ∧
      patchM t d = .ok r ∧ untag r = untag (mergePatch t p) := by
  obtain ⟨_, hw, hv⟩ := RTL.parseJson_shape hs
  have hov := V1T.objVoidFree_of_voidFree p hv
  have h := merge_read_apply_partial t p ht hw hov hc
  exact ⟨_, _, RTL.readMergeM_of_parseJson hs, h, h, rfl⟩

/-- a text that is not JSON and not blank is rejected -/
theorem invalid_text_rejected (nc : NumCodec) (s : String) (hs : parseJson nc s = none)
    (hb : (trimGoSpace s).isEmpty = false) : readMergeM nc s = .err :=
  RTL.merge_text_invalid nc s hs hb

/-- OBSERVATION (outside RFC 7386, which speaks of JSON texts only): a BLANK text is accepted by
    `ReadMergeString` and read as the empty diff; applying it is a no-op -/
theorem blank_text_is_the_empty_diff (nc : NumCodec) (s : String)
    (hb : (trimGoSpace s).isEmpty = true) (t : Json) :
    readMergeM nc s = .ok [] ∧ patchAll true t [] = .ok t := by
  refine ⟨?_, rfl⟩
  simp [readMergeM, readJsonM, hb, readMergeDoc, equals, readMergeInto, Json.isVoid]

/-! Non-vacuity: the text `{"a":{"b":null,"e":{}},"d":["w"]}` on the target
    `{"a":{"b":"x","c":"y"},"d":"z"}` (the pair of JdProps/C12.lean): it parses, the pair is `Clean`. -/

private def exT : Json := .obj [("a", .obj [("b", .str "x"), ("c", .str "y")]), ("d", .str "z")]
private def exP : Json := .obj [("a", .obj [("b", .null), ("e", .obj [])]), ("d", .arr .raw [.str "w"])]
private def exS : String := "{\"a\":{\"b\":null,\"e\":{}},\"d\":[\"w\"]}"

private theorem ex_parse (nc : NumCodec) : parseJson nc exS = some exP :=
  JText.parseJson_text' nc exP exS rfl rfl rfl

example (nc : NumCodec) : ∃ d, readMergeM nc exS = .ok d ∧
    patchAll true exT d = .ok (mergePatch exT exP) := by
  obtain ⟨d, r, h1, h2, _⟩ := read_text_apply_is_mergePatch nc exT exS exP (by decide) (ex_parse nc)
    (by decide)
  exact ⟨d, h1, h2⟩

end Jd.Props.C12Text
