/-
  Properties C01, C04, C05 of the v2 library for a `Precision(eps)` option TOGETHER WITH the SET,
  MULTISET or SetKeys reading of arrays (the combinations DESIGN.md §7 lists as "not proved").
  Statements only; the proofs are in JdProofs/SetPrecision.lean (namespace `Jd.SP`).

  WHAT THE CODE DOES (model = code). In the set readings two arrays are compared through their hash
  codes, and the hash code of a number does not depend on the precision. Scalars outside arrays are
  compared by `Equals` with the precision — except inside `Diff`, where `diff_common.go` calls
  `Equals()` WITHOUT the options (KF-C05-precision). Consequently
    * `a.Diff(b, o)` is literally the diff computed without the precision (`diff_ignores_precision`);
    * `Equals(o)` compares numbers within `eps` only OUTSIDE arrays; inside an array (at any depth
      below it) numbers must be equal (`equals_decides_equivP`): C04 as worded ("numbers within eps
      under Precision(eps)") is FALSE for members of arrays (`c04_false_inside_arrays`);
    * diff-then-patch reproduces the target up to `Equals` WITHOUT the precision, hence (monotonicity,
      `equals_monotone_in_precision`) up to `Equals(o)`: C01 HOLDS;
    * the diff is empty iff the documents are Equal WITHOUT the precision; "empty ⇒ Equals(o)" holds,
      "Equals(o) ⇒ empty" is false (`c05_converse_false`).

  NOTATION. `SP.stripPrec o` is the option list `o` with its Precision options removed. Hash
  hypotheses (`HashFaithful`, `DPK.KeysHyp`, `DES.DiffFaithful`, …) are taken for `stripPrec o`: "equal
  hash codes only for nodes equivalent in the exact reading" (for the full `o` the hypothesis would
  be weaker, since `equivB o` is coarser).
  Float hypotheses: `FloatEq0`, `FloatLaws` as everywhere; `DPL.PrecMono o`
  (`|u - v| ≤ 0 → |u - v| ≤ eps`: true for every IEEE `eps ≥ 0`, opaque to the kernel).

  SPEC DOUBT (reported, nothing changed): in the MULTISET reading `equivB` compares bags by a GREEDY
  matching; with a precision "within eps" is not transitive and the greedy matching rejects a
  permutation of a bag (`spec_bag_matching_is_greedy`). Therefore the MULTISET theorems conclude
  `equivB (stripPrec o) r b` (exact bag equivalence) and `equals o r b`, not `equivB o r b`.
-/
import JdProofs.SetPrecision

set_option autoImplicit false

namespace Jd.Props.C01Precision
open Jd Jd.Spec Jd.SP

/-! ## C01 — diff-then-patch reproduces the target -/

/-- **The diff does not see the precision** (SET, MULTISET, SetKeys; strict or MERGE strategy).
    `hm`: the options read arrays as sets or bags; `ha`: the first document is as read from text
    (every array a plain `jsonArray`; a typed `jsonList` node would be compared WITH the precision
    in MERGE mode). Then `a.Diff(b, o...)` is `a.Diff(b, o-without-Precision...)`. -/
theorem diff_ignores_precision (o : Opts)
    (hm : dispatchTag o = .set ∨ dispatchTag o = .mset) (a b : Json) (ha : a.rawDoc = true) :
    diffM o a b = diffM (stripPrec o) a b :=
  diffM_strip o hm a b ha

/-- **C01, SET + Precision, strict strategy.** For documents as read from JSON text (`setDoc`:
    plain arrays, unique sorted keys, finite numbers, no `-0`; `memOK`: no void member), options
    that read arrays as sets (`hd`), without SetKeys (`hk`) and MERGE (`hmg`), when equal hash
    codes occur only for nodes equivalent in the exact reading (`HF`; needed: KF-C04-alias), the
    hunks of `a.Diff(b, o)` apply to `a` with the library's own patch code (either variant `sw` of
    the keyed branch) and the result `Equals` `b` under `o` and is equivalent to `b` for the
    advertised equivalence (sets recursively, numbers within `eps`). `M`: the IEEE fact that
    within-0 implies within-eps. -/
theorem c01_set_precision (F : FloatEq0) (L : FloatLaws) (sw : Bool) (o : Opts)
    (hd : dispatchTag o = .set) (hk : keysOf o = none) (hmg : isMerge o = false)
    (M : DPL.PrecMono o) (a b : Json) (ha : a.setDoc = true) (hb : b.setDoc = true)
    (ha' : DPL.memOK a = true) (hb' : DPL.memOK b = true)
    (HF : HashFaithful (stripPrec o) (subterms a ++ subterms b)) :
    ∃ r, patchAll sw a (diffM o a b) = .ok r ∧ equals o r b = true ∧ equivB o r b = true :=
  diff_then_patch_set_precision F L sw o hd hk hmg M a b ha hb ha' hb' HF

/-- **C01, SET or MULTISET + Precision, strict strategy**: same hypotheses; the result `Equals` `b`
    under `o`, and — stronger — `Equals` it and is equivalent to it WITHOUT the precision (every
    number of the result is a number of `b` or within 0 of one). For MULTISET the conclusion
    `equivB o r b` is not available: `c01_mset_equivB_unavailable`. -/
theorem c01_setmodes_precision (F : FloatEq0) (L : FloatLaws) (sw : Bool) (o : Opts)
    (hm : dispatchTag o = .set ∨ dispatchTag o = .mset) (hk : keysOf o = none)
    (hmg : isMerge o = false) (M : DPL.PrecMono o) (a b : Json)
    (ha : a.setDoc = true) (hb : b.setDoc = true)
    (ha' : DPL.memOK a = true) (hb' : DPL.memOK b = true)
    (HF : HashFaithful (stripPrec o) (subterms a ++ subterms b)) :
    ∃ r, patchAll sw a (diffM o a b) = .ok r ∧ equals o r b = true ∧
      equals (stripPrec o) r b = true ∧ equivB (stripPrec o) r b = true :=
  diff_then_patch_setmodes_precision F L sw o hm hk hmg M a b ha hb ha' hb' HF

/-- **C01, SetKeys + Precision, strict strategy**: under the decidable bundle `DPK.KeysHyp` of the
    SetKeys theorem (identities pairwise distinct within an array, path objects faithful, key tuples
    faithful, no collision; each field shown necessary in JdProps/C01.lean), read for the options
    without the precision. The result `Equals` `b` and is equivalent to it under `o`. -/
theorem c01_setkeys_precision (F : FloatEq0) (L : FloatLaws) (sw : Bool) (o : Opts)
    (ks : List String) (hd : dispatchTag o = .set) (hk : keysOf o = some ks)
    (hmg : isMerge o = false) (M : DPL.PrecMono o) (a b : Json)
    (ha : a.setDoc = true) (hb : b.setDoc = true)
    (ha' : DPL.memOK a = true) (hb' : DPL.memOK b = true)
    (K : DPK.KeysHyp (stripPrec o) ks a b) :
    ∃ r, patchAll sw a (diffM o a b) = .ok r ∧ equals o r b = true ∧ equivB o r b = true := by
  obtain ⟨r, h1, h2, h3, _⟩ :=
    diff_then_patch_setkeys_precision F L sw o ks hd hk hmg M a b ha hb ha' hb' K
  exact ⟨r, h1, h2, h3⟩

/-- **C01, MERGE + SET / MULTISET + Precision** (in memory): `b` null-free and without void
    (the domain of merge patches). The last conjunct gives the advertised equivalence under `o` in
    the SET reading. -/
theorem c01_merge_setmodes_precision (F : FloatEq0) (L : FloatLaws) (sw : Bool) (o : Opts)
    (hmg : isMerge o = true) (hm : dispatchTag o = .set ∨ dispatchTag o = .mset)
    (hk : keysOf o = none) (M : DPL.PrecMono o) (a b : Json)
    (ha : a.setDoc = true) (hb : b.setDoc = true) (hbn : b.nullFree = true)
    (hbv : Merge.objVoidFree b = true)
    (HF : HashFaithful (stripPrec o) (subterms a ++ subterms b)) :
    ∃ r, patchAll sw a (diffM o a b) = .ok r ∧ equals o r b = true ∧
      equals (stripPrec o) r b = true ∧ equivB (stripPrec o) r b = true ∧
      (dispatchTag o = .set → equivB o r b = true) :=
  merge_diff_then_patch_setmodes_precision F L sw o hmg hm hk M a b ha hb hbn hbv HF

/-- **C01, SetKeys + MERGE + Precision: holds exactly on the pairs without a clash** (`KM.clash`,
    decidable, read without the precision: two members of one array with the same identity and
    different content on both sides — outside the SetKeys precondition, or KF-C01-identperm; then
    `Diff` emits a merge hunk below a keyed path element, which `Patch` rejects). `b` null-free and
    void-free (domain of merge patches); `HF` as above. -/
theorem c01_setkeys_merge_precision_iff (F : FloatEq0) (L : FloatLaws) (sw : Bool)
    (o : Opts) (hmg : isMerge o = true) (hd : dispatchTag o = .set) (M : DPL.PrecMono o)
    (a b : Json) (ha : a.setDoc = true) (hb : b.setDoc = true)
    (HF : HashFaithful (stripPrec o) (subterms a ++ subterms b))
    (hbn : b.nullFree = true) (hbv : Merge.objVoidFree b = true) :
    (∃ r, patchAll sw a (diffM o a b) = .ok r ∧ equals o r b = true ∧ equivB o r b = true)
      ↔ KM.clash (stripPrec o) a b = false :=
  merge_diff_then_patch_setkeys_precision_iff F L sw o hmg hd M a b ha hb HF hbn hbv

/-- the library calls `a.Patch(a.Diff(b, SET, Precision(eps)))` and
    `a.Patch(a.Diff(b, MULTISET, Precision(eps)))` -/
theorem c01_patchM_SET_Precision (F : FloatEq0) (L : FloatLaws) (eps : UInt64)
    (M : DPL.PrecMono [.set, .prec eps]) (a b : Json) (ha : a.setDoc = true) (hb : b.setDoc = true)
    (ha' : DPL.memOK a = true) (hb' : DPL.memOK b = true)
    (HF : HashFaithful [.set] (subterms a ++ subterms b)) :
    ∃ r, patchM a (diffM [.set, .prec eps] a b) = .ok r ∧ equals [.set, .prec eps] r b = true ∧
      equivB [.set, .prec eps] r b = true :=
  diff_then_patch_set_precision F L true [.set, .prec eps] rfl rfl rfl M a b ha hb ha' hb' HF

theorem c01_patchM_MULTISET_Precision (F : FloatEq0) (L : FloatLaws) (eps : UInt64)
    (M : DPL.PrecMono [.mset, .prec eps]) (a b : Json) (ha : a.setDoc = true)
    (hb : b.setDoc = true) (ha' : DPL.memOK a = true) (hb' : DPL.memOK b = true)
    (HF : HashFaithful [.mset] (subterms a ++ subterms b)) :
    ∃ r, patchM a (diffM [.mset, .prec eps] a b) = .ok r ∧
      equals [.mset, .prec eps] r b = true ∧ equivB [.mset] r b = true := by
  obtain ⟨r, h1, h2, _, h4⟩ := diff_then_patch_setmodes_precision F L true [.mset, .prec eps]
    (.inr rfl) rfl rfl M a b ha hb ha' hb' HF
  exact ⟨r, h1, h2, h4⟩

/-- **Why the MULTISET theorem does not conclude `equivB o r b`** (a weakness of the SPEC, not of
    the code): `a = [1, 1.001, 0.999]`, `b = [0.999, 1, 1.001]` (a permutation), MULTISET +
    `Precision(eps)` with `|1 - 0.999| ≤ eps`, `|1.001 - 1| ≤ eps`, not `|0.999 - 1.001| ≤ eps` (three
    IEEE facts, true for `eps = 0.0015`; see the `#eval` below): the diff is empty, the patched
    document is `a`, `Equals` says yes, and the greedy bag matching of `equivB` says no.
    Confirmed on the Go code (Equals true, empty diff). -/
theorem c01_mset_equivB_unavailable (eps : UInt64)
    (h1 : numWithin eps Witness.one Witness.n999 = true)
    (h2 : numWithin eps Witness.n1001 Witness.one = true)
    (h3 : numWithin eps Witness.n999 Witness.n1001 = false) :
    patchM Witness.ga (diffM [.mset, .prec eps] Witness.ga Witness.gb) = .ok Witness.ga ∧
    equals [.mset, .prec eps] Witness.ga Witness.gb = true ∧
    equivB [.mset, .prec eps] Witness.ga Witness.gb = false :=
  Witness.mset_equivB_conclusion_fails eps h1 h2 h3

/-- **`PrecMono` is needed** (any option list): were a number within `+0` of another but not within
    the precision — impossible in IEEE arithmetic for `eps ≥ +0`, but the case of `x = y` under a
    negative or NaN precision, which `Precision(-1)` allows — the diff is empty, the patched
    document is `x`, and it does not `Equals` the target under `o`. -/
theorem c01_precMono_needed (sw : Bool) (o : Opts) (x y : UInt64) (h0 : numWithin 0 x y = true)
    (h1 : numWithin (precOf o) x y = false) :
    patchAll sw (.num x) (diffM o (.num x) (.num y)) = .ok (.num x) ∧
      equals o (.num x) (.num y) = false :=
  Witness.precMono_used sw o x y h0 h1

/-! ## C04 — what `Equals` decides -/

/-- **`Equals` is monotone in the precision**, every reading, every array tag: Equal under options
    `o'` without a precision (`hp`) that read arrays like `o` (`h`) ⇒ Equal under `o`.
    `M`: within-0 implies within-eps. -/
theorem equals_monotone_in_precision {o o' : Opts} (h : dispatchTag o' = dispatchTag o)
    (hp : precOf o' = 0) (M : DPL.PrecMono o) (a b : Json) (e : equals o' a b = true) :
    equals o a b = true :=
  equals_mono h hp M a b e

/-- **C04, SET / MULTISET / SetKeys + Precision (partial: relative to `HashFaithful` for the exact
    reading).** For documents as read from text, `Equals(o)` decides exactly `SP.equivP o`: numbers
    outside arrays within `eps`, objects member by member, an array together with everything below
    it as a set / bag for the equivalence WITHOUT the precision. -/
theorem equals_decides_equivP (F : FloatEq0) (o : Opts)
    (hm : dispatchTag o = .set ∨ dispatchTag o = .mset) (a b : Json)
    (ha : a.setDoc = true) (hb : b.setDoc = true)
    (hf : HashFaithful (stripPrec o) (subterms a ++ subterms b)) :
    equals o a b = equivP o a b :=
  equals_eq_equivP_core F o hm a b (docOk_of_setDoc ha) (docOk_of_setDoc hb)
    (fun x hx y hy _ _ e =>
      hf x (List.mem_append.2 (Or.inl hx)) y (List.mem_append.2 (Or.inr hy))
        (by rw [hashCode_strip, e, hashCode_strip]))

/-- without a Precision option `equivP` IS the advertised equivalence (so the theorem above
    specialises to the existing C04 theorem) -/
theorem equivP_is_equivB_without_precision (o : Opts) (hs : stripPrec o = o) (a b : Json) :
    equivP o a b = equivB o a b :=
  equivP_eq_equivB_noPrec o hs a b

/-- SET / SetKeys reading: what `Equals` decides is FINER than the advertised equivalence -/
theorem equivP_finer_than_advertised {o : Opts} (hd : dispatchTag o = .set) (M : DPL.PrecMono o)
    (a b : Json) (e : equivP o a b = true) : equivB o a b = true :=
  equivB_of_equivP hd M a b e

/-- **C04 as worded is FALSE inside arrays**: `[1]` vs `[1.00001]` under SET (or MULTISET) +
    `Precision(eps)`: equivalent for the advertised equivalence as soon as `|1 - 1.00001| ≤ eps`
    (`h1`, an IEEE fact, true for `eps = 0.001`), but `Equals` says NO, for EVERY `eps`.
    Confirmed on the Go code. -/
theorem c04_false_inside_arrays (eps : UInt64)
    (h1 : numWithin eps Witness.one Witness.oneE = true) :
    equals [.set, .prec eps] Witness.wa Witness.wb = false ∧
    equivB [.set, .prec eps] Witness.wa Witness.wb = true ∧
    equals [.mset, .prec eps] Witness.wa Witness.wb = false ∧
    equivB [.mset, .prec eps] Witness.wa Witness.wb = true :=
  Witness.equals_exact_inside_arrays eps h1

/-- **Spec doubt**: the bag comparison of `equivB` is a greedy matching; under a precision it
    rejects a permutation of a bag which `Equals` (rightly) accepts. -/
theorem spec_bag_matching_is_greedy (eps : UInt64)
    (h1 : numWithin eps Witness.one Witness.n999 = true)
    (h2 : numWithin eps Witness.n1001 Witness.one = true)
    (h3 : numWithin eps Witness.n999 Witness.n1001 = false) :
    equals [.mset, .prec eps] Witness.ga Witness.gb = true ∧
    equivB [.mset, .prec eps] Witness.ga Witness.gb = false :=
  Witness.greedy_bag_not_monotone eps h1 h2 h3

/-! ## C05 — empty diff ⇔ Equals -/

/-- **C05 (⇒), SET / MULTISET + Precision, strict or MERGE**: an empty diff means `Equals` under
    the options — and even without the precision. No hash hypothesis. `a` as read from text, unique
    sorted keys in both documents. -/
theorem c05_empty_diff_implies_equals (o : Opts) (hm : DES.SetReading o) (M : DPL.PrecMono o)
    (a b : Json) (hr : a.rawDoc = true) (hw : a.wf = true) (hw' : b.wf = true)
    (h : diffM o a b = []) : equals o a b = true ∧ equals (stripPrec o) a b = true :=
  equals_of_diffM_nil_precision o hm M a b hr hw hw' h

/-- **C05, what is true with a Precision** (SET / MULTISET, strict or MERGE): the diff is empty iff
    the documents are Equal WITHOUT the precision; (⇐) relative to the decidable `DiffFaithful`
    (needed already without a precision: FNV collision witness in JdProps/C05.lean). -/
theorem c05_empty_diff_iff_equals_without_precision (o : Opts) (hm : DES.SetReading o) (a b : Json)
    (hr : a.rawDoc = true) (hw : a.wf = true) (hw' : b.wf = true)
    (FH : DES.DiffFaithful (stripPrec o) (subterms a) (subterms b)) :
    diffM o a b = [] ↔ equals (stripPrec o) a b = true :=
  diffM_nil_iff_equals_strip o hm a b hr hw hw' FH

/-- **C05 with SetKeys + Precision**: the same iff, under the hypotheses of the SetKeys theorem of
    C05 (identities tell members apart, objects are not hashed like non-objects, no harmful
    collision) read without the precision; and empty ⇒ `Equals(o)`. -/
theorem c05_setkeys_precision (F : FloatEq0) (o : Opts) (hd : dispatchTag o = .set)
    (a b : Json) (ha : a.setDoc = true) (hb : b.setDoc = true)
    (IA : DES.IdentInj (stripPrec o) (subterms a)) (IB : DES.IdentInj (stripPrec o) (subterms b))
    (KI : DES.KindSepI (stripPrec o) (subterms a) (subterms b))
    (KH : DES.KindSepH (stripPrec o) (subterms a) (subterms b))
    (FH : DES.DiffFaithful (stripPrec o) (subterms a) (subterms b)) :
    (diffM o a b = [] ↔ equals (stripPrec o) a b = true) ∧
    (DPL.PrecMono o → diffM o a b = [] → equals o a b = true) :=
  diffM_nil_iff_equals_strip_keys F o hd a b ha hb IA IB KI KH FH

/-- **C05 (⇐) is FALSE with a Precision in every set reading** (KF-C05-precision, numbers outside
    arrays): `{"a":x}` vs `{"a":y}` with `|x - y| ≤ eps` (`h1`) but not `|x - y| ≤ 0` (`h0`), ANY
    option list `o` (SET, MULTISET, SetKeys, with or without MERGE): Equal, and the diff is not
    empty. Confirmed on the Go code for `x = 1`, `y = 1.00001`, `eps = 0.001`. -/
theorem c05_converse_false (o : Opts) (x y : UInt64) (h1 : numWithin (precOf o) x y = true)
    (h0 : numWithin 0 x y = false) :
    equals o (.obj [("a", .num x)]) (.obj [("a", .num y)]) = true ∧
    diffM o (.obj [("a", .num x)]) (.obj [("a", .num y)]) ≠ [] :=
  Witness.converse_fails_member o x y h1 h0

/-! ## Non-vacuity -/

/-- the decidable hypotheses of the SET / MULTISET theorems hold on
    `{"n":1,"s":[1,{"k":2}]}` → `{"n":1.00001,"s":[{"k":2},1.00001]}` with `Precision(0.001)` -/
example : Example.exA.setDoc = true ∧ Example.exB.setDoc = true ∧
    DPL.memOK Example.exA = true ∧ DPL.memOK Example.exB = true ∧
    dispatchTag Example.oS = .set ∧ keysOf Example.oS = none ∧ isMerge Example.oS = false ∧
    precOf Example.oS = Example.eps ∧ stripPrec Example.oS = [.set] :=
  ⟨Example.ex_docs.1, Example.ex_docs.2.1, Example.ex_docs.2.2.1, Example.ex_docs.2.2.2,
    rfl, rfl, rfl, rfl, rfl⟩

/-- … and `HashFaithful` too, relative to reflexivity of `|x - x| ≤ 0` -/
example (L : FloatLaws) :
    HashFaithful (stripPrec Example.oS) (subterms Example.exA ++ subterms Example.exB) :=
  Example.ex_hashFaithful_set L

/-- so the SET theorem describes an actual run (two hunks: see the `#eval` below) -/
theorem example_set_run (F : FloatEq0) (L : FloatLaws) (M : DPL.PrecMono Example.oS) :
    ∃ r, patchM Example.exA (diffM Example.oS Example.exA Example.exB) = .ok r ∧
      equals Example.oS r Example.exB = true ∧ equivB Example.oS r Example.exB = true :=
  Example.ex_set F L M

theorem example_mset_run (F : FloatEq0) (L : FloatLaws) (M : DPL.PrecMono Example.oM) :
    ∃ r, patchM Example.exA (diffM Example.oM Example.exA Example.exB) = .ok r ∧
      equals Example.oM r Example.exB = true ∧ equals [.mset] r Example.exB = true ∧
      equivB [.mset] r Example.exB = true :=
  Example.ex_mset F L M

/-- SetKeys + Precision: the example of the SetKeys theorem (JdProofs/DiffPatchKeys, `ExampleB`)
    satisfies `KeysHyp` for `[SetKeys("id","k"), Precision(0.001)]` (its documents hold no numbers:
    the hypotheses are about hash codes and identities only) -/
theorem example_setkeys_run (F : FloatEq0) (L : FloatLaws)
    (M : DPL.PrecMono [.setKeys ["id", "k"], .prec Example.eps]) :
    ∃ r, patchM DPK.ExampleB.exA
        (diffM [.setKeys ["id", "k"], .prec Example.eps] DPK.ExampleB.exA DPK.ExampleB.exB) = .ok r ∧
      equals [.setKeys ["id", "k"], .prec Example.eps] r DPK.ExampleB.exB = true ∧
      equivB [.setKeys ["id", "k"], .prec Example.eps] r DPK.ExampleB.exB = true :=
  c01_setkeys_precision F L true [.setKeys ["id", "k"], .prec Example.eps] ["id", "k"] rfl rfl rfl M
    DPK.ExampleB.exA DPK.ExampleB.exB DPK.ExampleB.ex_docs.1 DPK.ExampleB.ex_docs.2.1
    DPK.ExampleB.ex_docs.2.2.1 DPK.ExampleB.ex_docs.2.2.2 DPK.ExampleB.ex_keysHyp

/-- the hypotheses of the (⇐) witness of C05 are the two IEEE facts; those of C05 (⇒) hold on the
    example pair (whose diff is not empty) and on `ga`, `gb` (whose diff is empty) -/
example : DES.SetReading Example.oM ∧ Witness.ga.rawDoc = true ∧ Witness.ga.wf = true ∧
    Witness.gb.wf = true ∧ DES.DiffFaithful [.mset] (subterms Witness.ga) (subterms Witness.gb) :=
  ⟨.inr rfl, by decide, by decide, by decide, Witness.g_faithful⟩

end Jd.Props.C01Precision

-- the runs of the examples on the model (the runtime evaluates the floats)
#eval Jd.diffM Jd.SP.Example.oS Jd.SP.Example.exA Jd.SP.Example.exB
#eval Jd.patchM Jd.SP.Example.exA (Jd.diffM Jd.SP.Example.oS Jd.SP.Example.exA Jd.SP.Example.exB)
-- the IEEE facts the witness theorems take as hypotheses, evaluated by the runtime:
-- |1 - 1.00001| ≤ 0.001, not ≤ 0; |1 - 0.999| ≤ 0.0015, |1.001 - 1| ≤ 0.0015, not |0.999 - 1.001| ≤ 0.0015
#eval (Jd.numWithin Jd.SP.Example.eps Jd.SP.Witness.one Jd.SP.Witness.oneE,
       Jd.numWithin 0 Jd.SP.Witness.one Jd.SP.Witness.oneE,
       Jd.numWithin 0x3f589374bc6a7efa Jd.SP.Witness.one Jd.SP.Witness.n999,
       Jd.numWithin 0x3f589374bc6a7efa Jd.SP.Witness.n1001 Jd.SP.Witness.one,
       Jd.numWithin 0x3f589374bc6a7efa Jd.SP.Witness.n999 Jd.SP.Witness.n1001)
-- the witnesses on the model: (Equals, equivB) of [1] vs [1.00001] under SET+Precision(0.001); of the bags
#eval (Jd.equals [.set, .prec Jd.SP.Example.eps] Jd.SP.Witness.wa Jd.SP.Witness.wb,
       Jd.Spec.equivB [.set, .prec Jd.SP.Example.eps] Jd.SP.Witness.wa Jd.SP.Witness.wb,
       Jd.equals [.mset, .prec 0x3f589374bc6a7efa] Jd.SP.Witness.ga Jd.SP.Witness.gb,
       Jd.Spec.equivB [.mset, .prec 0x3f589374bc6a7efa] Jd.SP.Witness.ga Jd.SP.Witness.gb,
       Jd.diffM [.mset, .prec 0x3f589374bc6a7efa] Jd.SP.Witness.ga Jd.SP.Witness.gb)
