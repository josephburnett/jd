/-
  Property C02 — the native jd diff text is a lossless carrier of a diff.
  Statement file (proofs in JdProofs/NativeRoundTrip.lean, namespace `Jd.NativeRT`: the TEXT clauses;
  JdProofs/Robust.lean, namespace `Jd.Robust`, group 2: the EFFECT clause;
  JdProofs/NativeEndToEnd.lean, namespace `Jd.E2E`: the diffs PRODUCED by `Diff`, END TO END, list
  reading and strict strategy; JdProofs/NativeEndToEndSet.lean, namespace `Jd.E2ES`: the same END TO END
  for the SET / MULTISET readings, the MERGE strategy, and MERGE with SET / MULTISET).

  Model side: `renderM nc opts d` is `Diff.Render(opts...)`, `readDiffM nc text` is
  `ReadDiffString(text)` (JdModel/Native.lean); the reader is the 7-state automaton with the
  transition / flush / open / close tables GENERATED from the Go source (JdModel/Gen/Reader.lean), so
  a change to the automaton changes the premises of these theorems.
  `nc : NumCodec` stands for strconv / encoding/json on number tokens (external code).

  Spec side: `normDiff d` is what reading back may at most change in a diff: payload values and the
  key objects of `{"k":v}` path elements lose the Go dynamic type of array nodes (`untag`), the path
  element `setKeys []` becomes `set` (both are written `{}`), and entries that render as nothing
  (void in `remove`, void in the `add` of a strict hunk) are dropped.

  Hypotheses and why:
    `wfDiff d`     every hunk is in the domain the reader accepts (`wfHunk`: path indices survive
                   float64; `[` only as the first context line; at least one `-` / `+` line;
                   `checkDiffElement` holds on what is rendered) and no strict hunk follows a merge
                   hunk. This covers every hunk shape the library emits: boundary markers, context
                   lines, multi-value set hunks, merge metadata lines, void additions.
    `CodecOK nc d` the contract on encoding/json for the payloads and paths OF THIS DIFF: the JSON
                   text of a value has no newline and is read back as that value (up to `untag`).
                   encoding/json is not modelled; the contract is satisfiable (`exDiff_codecOK`) and
                   is checked on the real library by the correspondence stream.
    `d.all listDocHunk` (identical re-rendering only) no set / multiset TYPED array node in payloads
                   and key objects: their text is sorted by hash, which `untag` does not preserve.
    `NoEsc nc d`   (colour only) no rendered payload / path text contains ESC (control characters
                   are escaped by encoding/json).

  THE EFFECT CLAUSE ("... and has the identical effect on every document")
  `patchM c d` is `c.Patch(d)`, `patchAll sw c d` the same with either variant `sw` of the patch code
  (`sw = true` is the library). Reading back gives `normDiff d` (`read_of_render`), so the clause is:
  `normDiff d` has the effect of `d`. It is TRUE on the following domain and FALSE outside it.
   (E1) TAG-FREE hunks — `read_back_same_effect`, `normalised_same_effect`: EXACT equality of the
        outcome (result or error) on EVERY document `c` (any array types in `c`), any mix of strict
        and merge hunks, every path kind. Per hunk:
          `rawHunk h`    payload values and the key objects of `{"k":v}` path elements carry no Go
                         array type (`rawDoc`): what every text reader produces, and what `Diff`
                         produces on documents read from text except for a removed / added array,
                         which it reports as a `jsonList` (→ E2);
          `setKeysOK h`  a STRICT hunk has no path element `.setKeys []`: it is written `{}` and read
                         back as the plain set element `.set` (`noEmptySetKeys d` says it of every
                         hunk; the merge strategy does not look at it);
          `voidOK h`     the void entries that the renderer drops are alone in their list
                         (`voidAlone`: `[void]`, never `[void, v]`), and in a STRICT hunk either
                         there is none, or the path is a `valuePath` (no set / multiset element, the
                         last element not a list index): exactly where `remove` / `add` are used
                         through `len > 1` and `singleValue` only, so `[void]` acts like `[]`.
        When a hunk has no void entry to drop at all, reading back gives the very same hunk
        (`normalised_is_identity`).
   (E2) payloads WITH `jsonList` tags, LIST-mode documents — `read_back_same_effect_list`,
        `normalised_same_effect_list`: on every `c` with `c.listDoc` the outcomes are equal up to the
        array types of the result (`Outcome.mapO untag`). Per hunk `listHunkOK h`: `voidOK h`, and a
        strict hunk is on a key / index path (`strictPath`) with list-document payloads
        (`hunkListDoc`); nothing more is asked of a merge hunk. Strict hunks first, merge hunks after
        (`mergeMono`, part of `wfDiff`). Strict key / index hunks with list-document payloads is the
        shape of the diffs the library produces in list mode (`Jd.Props.C01.diffM_list_hunks_strict`);
        that they also satisfy `voidOK` — and `wfDiff`, and the codec contract — is a theorem
        about `Diff` under `voidFree` (→ E4, `produced_diff_in_domain`).
   (E3) MERGE hunks only, any tags, any path — `normalised_same_effect_merge`: EVERY document, up
        to the array types of the result; the only hypothesis is `voidOK` (= a void entry of `remove`
        is alone in its list).
   (E4) DIFFS PRODUCED BY `Diff`, END TO END ("a diff printed by `jd a b` and applied with `jd -p`
        turns a into b"), LIST reading of arrays, STRICT strategy. `diffM o a b` is
        `a.Diff(b, options...)` (JdModel/Diff.lean). The premises of the theorems above are not
        hypotheses about the diff here but THEOREMS about `Diff`:
          `produced_diff_in_domain`     `wfDiff`, `listHunkOK` (so `voidOK`), `noEmptySetKeys`, strict,
                                        paths of keys of `a` / `b` and indices < 2^53;
          `produced_diff_rerenders`     `listDocHunk` (premise of identical re-rendering);
          `produced_diff_codec`         `CodecOK nc (a.Diff(b))` from the contract on the SUB-TERMS of
                                        `a`, `b` and on the paths of the diff
                                        (`produced_diff_paths_codec`: or on all key / index paths
                                        over the keys of the two documents).
        Composed:
          `produced_diff_text_lossless`  C02 proper for `d = a.Diff(b)`: the printed text is read back
                                        as a diff that renders to the IDENTICAL text and has the same
                                        effect as `d` on EVERY list document (up to array types). No
                                        hypothesis on hashes, numbers, key order.
          `print_read_patch`            `jd a b | jd -p a` on the model: if `Render` gives `text`, then
                                        `ReadDiffString(text)` = `normDiff d` and `a.Patch` of it is a
                                        list document structurally equal to `b` (`specEq` both ways)
                                        that `Equals` `b` under the options (`PrecMono o` when there
                                        is a Precision option; `print_read_patch_equals`: none).
          `produced_diff_renders`, `print_read_patch_total`   the total form: the text EXISTS when
                                        `json.Marshal` succeeds on the sub-terms and the paths.
        Hypotheses of E4 and why:
          `dispatchTag o = .list`, `isMerge o = false`   list reading, strict strategy;
          `a.listDoc`, `b.listDoc`                       list-mode documents;
          `E2E.voidFree a`, `E2E.voidFree b` (decidable)  no array ELEMENT and no object member inside
                the document is void (jd's in-memory "absent" value; no reader produces it inside a
                document). Contains `DPL.memOK`. The array-element part CANNOT be dropped: with a void
                element the printed diff is REJECTED by the reader (`void_element_read_witness`) or
                read back as a diff that patches `a` to something else (`void_element_effect_witness`);
                both pairs are inside the domain of the C01 list theorem and correct in memory. Not
                reachable from `jd a b | jd -p` (text never yields void inside a document): a boundary
                of the model's domain, not a defect of the Go code;
          `E2E.shortArrays b` (decidable)  every array of `b` has fewer than 2^53 elements: indices are
                written as float64 numbers (`idxOK` of `wfHunk`); nothing is asked of `a`;
          `ValOK nc z` for `z ∈ subterms a ++ subterms b`, `PathOK nc h.path` for the hunks of the
                diff   the contract on encoding/json, on the INPUTS (values) and the path arrays,
                not on the payloads of the diff;
          `a.wf`, `b.wf`, `finiteNums`, `FloatLaws`, `DPL.HashOK o a b`, `DPL.ZeroOK a b`
                (`print_read_patch*` only)   the domain of the C01 list theorem: the
                in-memory diff must be correct for the printed one to be.
        NOT in E4: SET / MULTISET readings and the MERGE strategy (→ E5, E6, E7: their hunks carry set
        path elements or merge metadata, i.e. other premises), SetKeys, colour output end to end.
   (E5) DIFFS PRODUCED BY `Diff`, END TO END, SET / MULTISET readings, STRICT strategy, no SetKeys
        option, no Precision option (`DES.SetReading o`: `dispatchTag o = .set ∧ keysOf o = none`, or
        `dispatchTag o = .mset`; `precOf o = 0`; `isMerge o = false`; in particular `jd -set`, `jd -mset`).
          `produced_diff_in_domain_set`    every hunk of `a.Diff(b)` is strict, has no context lines and
                                        sits at a path of keys of the two documents possibly followed
                                        by `{}` / `[]` (`E2ES.SPath`); the diff satisfies `wfDiff`, `rawHunk`
                                        (a replaced array is reported as the PLAIN array here, unlike
                                        the list reading), `noEmptySetKeys`, `voidOK`, `listDocHunk`: the
                                        premises of the text clauses AND of the EXACT effect theorem E1;
          `produced_diff_codec_set`, `produced_diff_paths_codec_set`, `produced_diff_renders_set`
                                        the codec contract / the success of `Render` from the contract
                                        on the sub-terms of `a`, `b` (every payload value is LITERALLY
                                        one of them) and on the paths;
          `produced_diff_text_lossless_set`  C02 proper: read back, identical text, and EXACTLY the same
                                        outcome as `a.Diff(b)` on EVERY document (any array tags);
          `print_read_patch_set`, `print_read_patch_total_set`   `jd -set a b | jd -p -set a` on the model:
                                        `a.Patch` of the diff read back succeeds with THE SAME document
                                        as the in-memory `a.Patch(a.Diff(b))`, which is equivalent to `b`
                                        (`equivB o`) and `Equals` `b` under the options of the diff.
        Hypotheses of E5 and why: `a.rawDoc`, `a.wf`, `b.rawDoc`, `b.wf` (premises / lossless) resp.
        `a.setDoc`, `b.setDoc` (end to end: plain arrays, sorted unique keys, finite numbers, no `-0`:
        documents as read from text, the domain of the C01 set theorem); `E2E.voidFree a`, `E2E.voidFree b`
        (needed: `void_element_read_witness_set`, `[void]` → `[]` under SET is printed as `@ [{}]` alone,
        which the reader rejects; no reader produces void inside a document);
        `DES.DiffFaithful o (subterms a) (subterms b)` (premises / lossless; decidable:
        `DES.diffFaithful_of_check`) resp. `HashFaithful o (subterms a ++ subterms b)` with `FloatEq0` (end
        to end; implies the former): no harmful hash collision — with an alias such as `{"a":""}` /
        `{"a":[]}` the set diff descends below a `{"k":v}` element (known finding KF-C04-alias), and the
        in-memory theorem C01 needs it anyway; `FloatLaws`, `FloatEq0` (end to end: the IEEE-754 laws of
        C01 in the set modes); the codec contract on the sub-terms and on the paths, as in E4.
   (E6) DIFFS PRODUCED BY `Diff`, END TO END, MERGE strategy, LIST reading of arrays, no Precision
        (`isMerge o = true`, `dispatchTag o = .list`; `precOf o = 0` for the `print_read_patch_merge*`
        theorems only; in particular `jd -f merge`).
          `produced_diff_in_domain_merge`  `a.Diff(b, MERGE)` is a sequence of merge hunks `Merge.mh ks v`
                                        (`^ {"Merge":true}` / `@ [keys]` / `+ v`; a bare `+` line = void =
                                        delete) over the keys of the two documents; `wfDiff`, the domain
                                        of E3, `listDocHunk` hold with NO hypothesis beyond "as read from
                                        text" and "no void member in `b`";
          `produced_diff_codec_merge`, `produced_diff_paths_codec_merge`, `produced_diff_renders_merge`
                                        from the contract on the sub-terms of `b` ONLY (every value of a
                                        merge diff comes from `b`) and on the key paths;
          `produced_diff_text_lossless_merge`  identical text; same effect on EVERY document up to the Go
                                        type of the array nodes of the result (a replaced array is
                                        reported as a `jsonList` and read back as a plain array). No
                                        hypothesis on hashes or numbers, none on `a` beyond `rawDoc`;
          `print_read_patch_merge`, `print_read_patch_total_merge`   `a.Patch` of the diff read back
                                        succeeds with a document that `Equals` `b`, is equivalent to it
                                        and structurally equal to it.
        Hypotheses of E6: `a.wf`, `a.rawDoc` (`a` may contain nulls and void members); `b.wf`, `b.rawDoc`,
        `b.nullFree` (a merge patch cannot produce a null: C11), `Merge.objVoidFree b` (no void root / member),
        `b.finiteNums`, `FloatLaws`: exactly those of the in-memory theorem `DPK.merge_diff_then_patch_list`;
        codec contract on the sub-terms of `b` and the paths of the diff. No hash hypothesis.
   (E7) DIFFS PRODUCED BY `Diff`, END TO END, MERGE strategy WITH the SET / MULTISET reading (no SetKeys,
        no Precision; `jd -set -f merge`, `jd -mset -f merge`): `produced_diff_in_domain_setMerge`,
        `produced_diff_codec_setMerge`, `produced_diff_paths_codec_setMerge`, `produced_diff_renders_setMerge`,
        `produced_diff_text_lossless_setMerge`, `print_read_patch_setMerge`, `print_read_patch_total_setMerge`.
        A replaced array is the TYPED node `jsonSet` / `jsonMultiset`; `json.Marshal` writes its members
        in stored order, so its text is the text of the plain array, the reader returns the plain
        array, and under the same options it is read as a set / bag again: nothing is lost.
        Hypotheses (`E2ES.SetMergeDom`, written out in the statements): `isMerge o`, `dispatchTag o = .set ∨
        .mset`, `keysOf o = none`, `precOf o = 0`, `a.setDoc`, `b.setDoc`, `b.nullFree`, `Merge.objVoidFree b`,
        `HashFaithful o (subterms a ++ subterms b)`, `FloatEq0` (those of `DPK.merge_diff_then_patch_setmodes`),
        `FloatLaws` end to end; codec contract on the sub-terms of `b` and the paths.
        `HashFaithful` is NEEDED HERE FOR C02 ITSELF, not only for C01 — `setMerge_collision_witness`
        (replayed on the Go library with the same outcome; class of the known finding KF-C04-alias, hash
        collisions, with a new end-to-end symptom): `{"a":"x","b":["aedb68afb","b7cdeb749"]}` →
        `{"a":"y","b":["a568b3ad2","b76a57d20"]}` under `[SET, MERGE]`. The two arrays collide (genuine
        FNV-1a 64 collision), the merge strategy takes them for `Equal` and runs the STRICT set diff:
        `Diff` emits a strict hunk AFTER a merge hunk (`wfDiff` is false). In memory `Patch` succeeds and
        `Equals` the target; in the text the strict hunk has no metadata line of its own,
        `ReadDiffString` lets it inherit `{"Merge":true}`, and `Patch` of the diff read back is an ERROR.
        The general fact behind it, `read_of_render_inherits_merge`: for ANY sequence of `wfHunk` hunks
        (no `mergeMono`) the reader returns `E2ES.inheritMerge false (normDiff d)` — the Merge flag stays in
        force for every following hunk; `read_of_render` is the case `mergeMono`. So the text format
        CANNOT carry a strict hunk after a merge hunk: that is why `wfDiff` asks `mergeMono`.
  OUTSIDE the domain the effect CAN differ; every witness below is inside `wfDiff` (the domain of the
  text clauses), so the hypotheses are not artefacts of the proof:
    `noEmptySetKeys_needed` / `emptySetKeys_witness`  `{}` as keyed element: error before, `[null]` after;
    `voidOK_needed`           a set hunk looks the void `remove` entry up in the set: error / success;
    `void_append_witness`     index `-1` (append) refuses any `remove` entry, the void one included;
    `void_pair_witness`, `void_pair_merge_witness`   `[void, v]`: `len > 1` counts the void entry;
    `void_add_in_list_witness`  a strict list hunk stores a void `add` entry in the array;
    `set_tag_witness`         a `jsonSet`-typed `remove` value (not `rawHunk`, not `hunkListDoc`):
                              error before, success after.
  NOT PROVED: END TO END for the SetKeys option (keyed `{"k":v}` path elements; E1 covers such hunks
  hunk-wise, with the premises as hypotheses) and for a Precision option together with the SET /
  MULTISET readings or the MERGE strategy (E4 has Precision; E5, E7 and `print_read_patch_merge*` ask
  `precOf o = 0`); colour output end to end (colour text is not input for the reader;
  `color_is_plain_plus_ansi` is the clause of the property); anything under a hash collision (`setMerge_collision_witness`); strict hunks whose payload
  carries set / multiset TYPED array nodes, and tagged payloads of strict hunks on set / multiset
  paths (false in general, `set_tag_witness`; not producible from text, covered by the oracle — same
  effect on `a` and `b` — only).
-/
import JdProofs.NativeRoundTrip
import JdProofs.Robust
import JdProofs.NativeEndToEnd
import JdProofs.NativeEndToEndSet
import JdProofs.NativeEndToEndKeysB
import JdProofs.NativeEndToEndKeys
import JdProps.C01Void
import JdProps.C02Precision

set_option autoImplicit false

namespace Jd.Props.C02
open Jd Jd.Spec Jd.NativeRT Jd.Robust

/-- reading the rendered text of a well-formed diff succeeds and gives the diff itself (normalised) -/
theorem read_of_render (nc : NumCodec) (d : Diff) (text : String)
    (hw : wfDiff d = true) (hc : CodecOK nc d) (hr : renderM nc [] d = some text) :
    readDiffM nc text = .ok (normDiff d) :=
  read_render nc d text hw hc hr

/-- the normalised diff renders to the identical text -/
theorem render_of_normalised (nc : NumCodec) (d : Diff) (hd : d.all listDocHunk = true) :
    renderM nc [] (normDiff d) = renderM nc [] d :=
  render_norm nc d hd

/-- render, read back, render again: the identical text -/
theorem render_read_render_identical (nc : NumCodec) (d : Diff) (text : String)
    (hw : wfDiff d = true) (hd : d.all listDocHunk = true) (hc : CodecOK nc d)
    (hr : renderM nc [] d = some text) :
    ∃ d', readDiffM nc text = .ok d' ∧ renderM nc [] d' = some text :=
  ⟨normDiff d, read_render nc d text hw hc hr, by rw [render_norm nc d hd, hr]⟩

/-- rendering with colour adds ANSI escape sequences and nothing else -/
theorem color_is_plain_plus_ansi (nc : NumCodec) (d : Diff) (hn : NoEsc nc d) :
    (renderM nc [.color] d).map (fun s => String.ofList (stripAnsi s.toList)) = renderM nc [] d :=
  renderM_color_strip nc d hn

/-- the same for one hunk -/
theorem color_is_plain_plus_ansi_hunk (nc : NumCodec) (h : Hunk) (hn : NoEsc nc [h]) :
    (renderHunk nc [.color] h).map (fun s => String.ofList (stripAnsi s.toList))
      = renderHunk nc [] h :=
  renderHunk_color_strip nc h hn

/-- path indices below 2^53 in absolute value survive the `float64` round trip (so `idxOK`, part of
    `wfHunk`, holds for every index a real document can have) -/
theorem index_survives_float64 (i : Int) (h : i.natAbs < 2 ^ 53) :
    floatTrunc (intToFloatBits i) = i :=
  NativeRT.floatTrunc_intToFloatBits i h

/-! Non-vacuity: a list hunk with boundary marker, context, two removed values and a void addition,
    followed by a merge hunk that deletes (`exDiff`), with a concrete codec: every hypothesis holds. -/

example : wfDiff exDiff = true ∧ exDiff.all listDocHunk = true ∧ CodecOK exCodec exDiff :=
  ⟨by decide, by decide, exDiff_codecOK⟩

example (text : String) (h : renderM exCodec [] exDiff = some text) :
    readDiffM exCodec text = .ok (normDiff exDiff) :=
  read_of_render exCodec exDiff text (by decide) exDiff_codecOK h

/-! ## The effect clause: the diff read back has the identical effect on every document -/

/-- **(E1) on the text.** Tag-free hunks, no `{}`-keyed element in a strict hunk, void entries
    harmless: the rendered diff is read back as a diff with EXACTLY the same outcome on EVERY
    document -/
theorem read_back_same_effect (nc : NumCodec) (d : Diff) (text : String)
    (hw : wfDiff d = true) (hc : CodecOK nc d) (hr : renderM nc [] d = some text)
    (hd : d.all (fun h => rawHunk h && setKeysOK h && voidOK h) = true) :
    ∃ d', readDiffM nc text = .ok d' ∧ ∀ c : Json, patchM c d' = patchM c d :=
  ⟨normDiff d, read_render nc d text hw hc hr, patchAll_normDiff_raw true d hd⟩

/-- **(E1) in memory**, stated with `noEmptySetKeys d` (no `.setKeys []` path element anywhere):
    the normalised diff has exactly the effect of the diff, on every document, for either variant
    of the patch code -/
theorem normalised_same_effect (sw : Bool) (d : Diff)
    (h1 : d.all rawHunk = true) (h2 : noEmptySetKeys d = true) (h3 : d.all voidOK = true) (c : Json) :
    patchAll sw c (normDiff d) = patchAll sw c d :=
  patchAll_normDiff_of_noEmptySetKeys sw d h1 h2 h3 c

/-- with no void entry to drop (`Robust.noVoid l`: no entry of `l` is void), reading back gives the
    very same hunk -/
theorem normalised_is_identity (h : Hunk) (hraw : rawHunk h = true)
    (hk : noEmptySetKeysP h.path = true) (h1 : Robust.noVoid h.remove = true)
    (h2 : (h.merge || Robust.noVoid h.add) = true) : normHunk h = h :=
  normHunk_eq_self h hraw hk h1 h2

/-- **(E2) on the text.** Payloads may carry `jsonList` tags (what `Diff` reports for a removed /
    added array); strict key / index hunks followed by merge hunks: the diff read back has the same
    effect on every LIST-mode document, up to the array types of the result -/
theorem read_back_same_effect_list (nc : NumCodec) (d : Diff) (text : String)
    (hw : wfDiff d = true) (hc : CodecOK nc d) (hr : renderM nc [] d = some text)
    (hd : d.all listHunkOK = true) :
    ∃ d', readDiffM nc text = .ok d' ∧
      ∀ c : Json, c.listDoc = true →
        Outcome.mapO untag (patchM c d') = Outcome.mapO untag (patchM c d) := by
  refine ⟨normDiff d, read_render nc d text hw hc hr, fun c hcl => ?_⟩
  have hmono : mergeMono false d = true := by
    simp only [wfDiff, Bool.and_eq_true] at hw; exact hw.2
  exact patchAll_normDiff_listMixed_gen true d hmono hd c c rfl hcl hcl

/-- **(E2) in memory** -/
theorem normalised_same_effect_list (sw : Bool) (d : Diff) (hmono : mergeMono false d = true)
    (hd : d.all listHunkOK = true) (c : Json) (hc : c.listDoc = true) :
    Outcome.mapO untag (patchAll sw c (normDiff d)) = Outcome.mapO untag (patchAll sw c d) :=
  patchAll_normDiff_listMixed_gen sw d hmono hd c c rfl hc hc

/-- **(E3)** a diff of MERGE hunks, any tags, any path kinds (`{}`-keyed elements included): same
    effect on EVERY document up to the array types of the result -/
theorem normalised_same_effect_merge (sw : Bool) (c : Json) (d : Diff)
    (hd : d.all (fun h => h.merge && voidOK h) = true) :
    Outcome.mapO untag (patchAll sw c (normDiff d)) = Outcome.mapO untag (patchAll sw c d) :=
  patchAll_normDiff_merge sw c d hd

/-! ### Outside the domain the effect can differ (all witnesses are well-formed for the reader) -/

/-- `noEmptySetKeys` cannot be dropped: a well-formed, tag-free diff with harmless void entries
    whose normal form has a different outcome on some document -/
theorem noEmptySetKeys_needed (sw : Bool) :
    ∃ (d : Diff) (c : Json), wfDiff d = true ∧ d.all rawHunk = true ∧ d.all voidOK = true ∧
      patchAll sw c (normDiff d) ≠ patchAll sw c d :=
  Robust.noEmptySetKeys_needed sw

/-- `voidOK` cannot be dropped either -/
theorem voidOK_needed (sw : Bool) :
    ∃ (d : Diff) (c : Json), wfDiff d = true ∧ d.all rawHunk = true ∧ noEmptySetKeys d = true ∧
      patchAll sw c (normDiff d) ≠ patchAll sw c d :=
  Robust.voidOK_needed sw

/-- the witness behind `noEmptySetKeys_needed`, `ceKeys` = `@ [{},"x"]` / `+ null`: on `[]` the hunk
    itself is an error (no member with the empty key object), the hunk read back (`{}` = set
    element) succeeds -/
theorem emptySetKeys_witness (sw : Bool) :
    wfHunk ceKeys = true ∧ rawHunk ceKeys = true ∧ voidOK ceKeys = true ∧
    noEmptySetKeysP ceKeys.path = false ∧
    patchNode sw false (.arr .raw []) ceKeys.path ceKeys.before ceKeys.remove ceKeys.add ceKeys.after
      = .err ∧
    patchNode sw false (.arr .raw []) (normHunk ceKeys).path (normHunk ceKeys).before
      (normHunk ceKeys).remove (normHunk ceKeys).add (normHunk ceKeys).after
      = .ok (.arr .set [.null]) :=
  ceKeys_facts sw

/-- `ceAppend` = path `[-1]`, `remove = [void]`, `add = [null]`: the void entry is alone but the path
    ends in a list index (not a `valuePath`); an append refuses any `remove` entry -/
theorem void_append_witness (sw : Bool) :
    wfHunk ceAppend = true ∧ rawHunk ceAppend = true ∧ voidAlone ceAppend.remove = true ∧
    patchNode sw false (.arr .raw []) ceAppend.path ceAppend.before ceAppend.remove ceAppend.add
      ceAppend.after = .err ∧
    patchNode sw false (.arr .raw []) (normHunk ceAppend).path (normHunk ceAppend).before
      (normHunk ceAppend).remove (normHunk ceAppend).add (normHunk ceAppend).after
      = .ok (.arr .list [.null]) := by
  refine ⟨wfHunk_of_idx (by intro i hi; simp [ceAppend] at hi; subst hi; decide) (by decide),
    by decide, by decide, ?_, ?_⟩ <;> rw [patchNode_strict] <;> rfl

/-- `ceLen` = root path, `remove = [void, {}]`: a value path, but the void entry is not alone;
    `len(remove) > 1` counts it -/
theorem void_pair_witness (sw : Bool) :
    wfHunk ceLen = true ∧ rawHunk ceLen = true ∧ valuePath ceLen.path = true ∧
    voidAlone ceLen.remove = false ∧
    patchNode sw false (.obj []) ceLen.path ceLen.before ceLen.remove ceLen.add ceLen.after = .err ∧
    patchNode sw false (.obj []) (normHunk ceLen).path (normHunk ceLen).before
      (normHunk ceLen).remove (normHunk ceLen).add (normHunk ceLen).after = .ok .void := by
  refine ⟨by decide, by decide, by decide, by decide, ?_, ?_⟩ <;> rw [patchNode_strict] <;> rfl

/-- the same in the MERGE strategy: `ceLenMerge` = merge hunk at the root, `remove = [void, null]` -/
theorem void_pair_merge_witness (sw : Bool) :
    wfHunk ceLenMerge = true ∧ rawHunk ceLenMerge = true ∧ voidOK ceLenMerge = false ∧
    patchNode sw true (.obj []) ceLenMerge.path ceLenMerge.before ceLenMerge.remove ceLenMerge.add
      ceLenMerge.after = .err ∧
    patchNode sw true (.obj []) (normHunk ceLenMerge).path (normHunk ceLenMerge).before
      (normHunk ceLenMerge).remove (normHunk ceLenMerge).add (normHunk ceLenMerge).after
      = .ok .null := by
  refine ⟨by decide, by decide, by decide, ?_, ?_⟩ <;> rw [patchNode_merge_eq] <;> rfl

/-- `ceAddVoid` = path `[0]`, `add = [void, null]`: the strict list patch stores the void entry in
    the array, the hunk read back does not -/
theorem void_add_in_list_witness (sw : Bool) :
    wfHunk ceAddVoid = true ∧ rawHunk ceAddVoid = true ∧
    patchNode sw false (.arr .raw []) ceAddVoid.path ceAddVoid.before ceAddVoid.remove ceAddVoid.add
      ceAddVoid.after = .ok (.arr .list [.void, .null]) ∧
    patchNode sw false (.arr .raw []) (normHunk ceAddVoid).path (normHunk ceAddVoid).before
      (normHunk ceAddVoid).remove (normHunk ceAddVoid).add (normHunk ceAddVoid).after
      = .ok (.arr .list [.null]) := by
  refine ⟨wfHunk_of_idx (by intro i hi; simp [ceAddVoid] at hi; subst hi; decide) (by decide),
    by decide, ?_, ?_⟩ <;> rw [patchNode_strict] <;> rfl

/-- `ceSetVoid` = path `[{}]` (set element), `remove = [void]`, `add = [null]` (the witness behind
    `voidOK_needed`): a set hunk looks the void entry up in the set -/
theorem void_in_set_hunk_witness (sw : Bool) :
    wfHunk ceSetVoid = true ∧ rawHunk ceSetVoid = true ∧ voidAlone ceSetVoid.remove = true ∧
    patchNode sw false (.arr .raw []) ceSetVoid.path ceSetVoid.before ceSetVoid.remove ceSetVoid.add
      ceSetVoid.after = .err ∧
    patchNode sw false (.arr .raw []) (normHunk ceSetVoid).path (normHunk ceSetVoid).before
      (normHunk ceSetVoid).remove (normHunk ceSetVoid).add (normHunk ceSetVoid).after
      = .ok (.arr .set [.null]) :=
  ceSetVoid_facts sw

/-- `ceTag` = root path, `remove = [a jsonSet-typed empty array]`: the Go types of payload values
    matter to the strict strategy outside list mode — a `jsonSet` never `Equals` the `jsonArray` it
    is compared with under no options; the hunk read back (plain array) applies -/
theorem set_tag_witness (sw : Bool) :
    wfHunk ceTag = true ∧ voidOK ceTag = true ∧ hunkListDoc ceTag = false ∧
    patchNode sw false (.arr .raw []) ceTag.path ceTag.before ceTag.remove ceTag.add ceTag.after
      = .err ∧
    patchNode sw false (.arr .raw []) (normHunk ceTag).path (normHunk ceTag).before
      (normHunk ceTag).remove (normHunk ceTag).add (normHunk ceTag).after = .ok .void := by
  refine ⟨by decide, by decide, by decide, ?_, ?_⟩ <;> rw [patchNode_strict] <;> rfl

/-! Non-vacuity of the effect clause.
    On the text: the merge hunk of `exDiff` (`exDiff.drop 1`, `@ ["b"]` / `+` void = delete the member)
    with the concrete codec satisfies every hypothesis of `read_back_same_effect` and of
    `read_back_same_effect_list`. (The FIRST hunk of `exDiff` is outside the effect domain on purpose:
    its `add` is `[void, true]` on a list index, the shape of `void_add_in_list_witness`.)
    In memory: `exEffect`, a strict list hunk with context, a set hunk with two removed values, a
    keyed-member hunk, a root replacement with a void `remove` entry and a merge hunk, satisfies the
    hypotheses of `normalised_same_effect`. -/

example : wfDiff (exDiff.drop 1) = true ∧ CodecOK exCodec (exDiff.drop 1) ∧
    (exDiff.drop 1).all (fun h => rawHunk h && setKeysOK h && voidOK h) = true ∧
    (exDiff.drop 1).all listHunkOK = true :=
  ⟨by decide, fun h hh => exDiff_codecOK h (List.mem_of_mem_drop hh), by decide, by decide⟩

example (text : String) (hr : renderM exCodec [] (exDiff.drop 1) = some text) :
    ∃ d', readDiffM exCodec text = .ok d' ∧ ∀ c : Json, patchM c d' = patchM c (exDiff.drop 1) :=
  read_back_same_effect exCodec _ text (by decide)
    (fun h hh => exDiff_codecOK h (List.mem_of_mem_drop hh)) hr (by decide)

/-- a diff with every hunk shape of the domain (E1) -/
def exEffect : Diff :=
  [ { path := [.key "a", .idx 1], before := [.void], remove := [.str "x"], add := [.bool true, .null],
      after := [.arr .raw [.null]] },
    { path := [.key "s", .set], remove := [.str "p", .str "q"], add := [.obj [("k", .null)]] },
    { path := [.setKeys [("id", .str "u")], .key "v"], remove := [.null], add := [.bool false] },
    { path := [.key "r"], remove := [.void], add := [.str "new"] },
    { merge := true, path := [.key "b"], add := [.void] } ]

example : wfDiff exEffect = true ∧ exEffect.all rawHunk = true ∧ noEmptySetKeys exEffect = true ∧
    exEffect.all voidOK = true := ⟨by decide, by decide, by decide, by decide⟩

example (sw : Bool) (c : Json) : patchAll sw c (normDiff exEffect) = patchAll sw c exEffect :=
  normalised_same_effect sw exEffect (by decide) (by decide) (by decide) c

/-! ## (E4) Diffs produced by `Diff`, end to end: `jd a b | jd -p a` (list reading, strict strategy)

  Names of `Jd.E2E` and `Jd.DPL` are written qualified. `E2E.voidFree x`: nothing strictly inside
  `x` is void; `E2E.shortArrays x`: every array of `x` has fewer than 2^53 elements; `DPL.subterms x`:
  all nodes of `x`; `E2E.docKeys x`: all object keys of `x`; `E2E.PathIn K N p`: `p` consists of keys
  from `K` and natural indices `≤ N`. -/

/-- **the premises are theorems about `Diff`.** For list documents with nothing void inside (arrays
    of `b` shorter than 2^53) the hunk sequence `a.Diff(b)` is in the reader's domain (`wfDiff`),
    every hunk is in the domain of the list-mode effect theorem (E2: `listHunkOK`), no hunk has a
    `{}`-keyed element, every hunk is strict, `voidOK`, and addressed by keys of the two documents
    and natural indices below 2^53 -/
theorem produced_diff_in_domain (o : Opts) (ho : dispatchTag o = .list) (hm : isMerge o = false)
    (a b : Json) (ha : a.listDoc = true) (hb : b.listDoc = true) (hva : E2E.voidFree a = true)
    (hvb : E2E.voidFree b = true) (hlen : E2E.shortArrays b = true) :
    wfDiff (diffM o a b) = true ∧ (diffM o a b).all listHunkOK = true ∧
    noEmptySetKeys (diffM o a b) = true ∧
    (∀ h ∈ diffM o a b, h.merge = false ∧ voidOK h = true ∧
      E2E.PathIn (E2E.docKeys a ++ E2E.docKeys b) (2 ^ 53 - 1) h.path) :=
  E2E.diffM_premises o ho hm a b ha hb hva hvb hlen

/-- … and the premise of identical re-rendering: no set / multiset typed array node in a payload,
    no key object in a path -/
theorem produced_diff_rerenders (o : Opts) (ho : dispatchTag o = .list) (hm : isMerge o = false)
    (a b : Json) (ha : a.listDoc = true) (hb : b.listDoc = true) (hva : E2E.voidFree a = true)
    (hvb : E2E.voidFree b = true) (hlen : E2E.shortArrays b = true) :
    (diffM o a b).all listDocHunk = true :=
  E2E.diffM_listDocHunk o ho hm a b ha hb hva hvb hlen

/-- the codec contract for the diff follows from the contract on the SUB-TERMS of the two documents
    (every payload value of `a.Diff(b)` is one, up to the Go type of a top array node) and on the
    paths of the diff -/
theorem produced_diff_codec (nc : NumCodec) (o : Opts) (ho : dispatchTag o = .list)
    (hm : isMerge o = false) (a b : Json) (ha : a.listDoc = true) (hb : b.listDoc = true)
    (hva : E2E.voidFree a = true) (hvb : E2E.voidFree b = true) (hlen : E2E.shortArrays b = true)
    (hv : ∀ z ∈ DPL.subterms a ++ DPL.subterms b, ValOK nc z)
    (hp : ∀ h ∈ diffM o a b, PathOK nc h.path) :
    CodecOK nc (diffM o a b) :=
  (E2E.diffM_readable o ho hm a b ha hb hva hvb hlen _ (E2E.valOK_retag nc .list) hv).codec nc (fun _ h => h) hp

/-- the path hypothesis at the level of the inputs: it is enough that the contract holds of every
    path made of keys of the two documents and natural indices below 2^53 -/
theorem produced_diff_paths_codec (nc : NumCodec) (o : Opts) (ho : dispatchTag o = .list)
    (hm : isMerge o = false) (a b : Json) (ha : a.listDoc = true) (hb : b.listDoc = true)
    (hva : E2E.voidFree a = true) (hvb : E2E.voidFree b = true) (hlen : E2E.shortArrays b = true)
    (hpaths : ∀ p, E2E.PathIn (E2E.docKeys a ++ E2E.docKeys b) (2 ^ 53 - 1) p → PathOK nc p) :
    ∀ h ∈ diffM o a b, PathOK nc h.path :=
  fun h hh => hpaths _ ((E2E.diffM_premises o ho hm a b ha hb hva hvb hlen).2.2.2 h hh).2.2

/-- **C02 for every diff PRODUCED by `Diff` (list reading, strict strategy).** The printed text of
    `a.Diff(b)` is read back as a diff that renders to the IDENTICAL text and has the same effect as
    `a.Diff(b)` on EVERY list document `c` (same success / failure, same result up to the Go type of
    array nodes). No hypothesis on hashes, numbers or key order -/
theorem produced_diff_text_lossless (nc : NumCodec) (o : Opts) (ho : dispatchTag o = .list)
    (hm : isMerge o = false) (a b : Json) (ha : a.listDoc = true) (hb : b.listDoc = true)
    (hva : E2E.voidFree a = true) (hvb : E2E.voidFree b = true) (hlen : E2E.shortArrays b = true)
    (hv : ∀ z ∈ DPL.subterms a ++ DPL.subterms b, ValOK nc z)
    (hp : ∀ h ∈ diffM o a b, PathOK nc h.path)
    (text : String) (hr : renderM nc [] (diffM o a b) = some text) :
    ∃ d', readDiffM nc text = .ok d' ∧ renderM nc [] d' = some text ∧
      ∀ c : Json, c.listDoc = true →
        Outcome.mapO untag (patchM c d') = Outcome.mapO untag (patchM c (diffM o a b)) :=
  E2E.diff_text_lossless nc o ho hm a b ha hb hva hvb hlen hv hp text hr

/-- **`jd a b | jd -p a`, on the model.** If `a.Diff(b).Render()` gives `text`, then
    `ReadDiffString(text)` succeeds with `d' = normDiff (a.Diff(b))`, and `a.Patch(d')` succeeds with a
    list document `r` that is structurally equal to `b` (`specEq`, from either side) and `Equals` `b`
    under the options of the diff (`DPL.PrecMono o`: when there is a Precision option) -/
theorem print_read_patch (L : FloatLaws) (nc : NumCodec) (o : Opts)
    (ho : dispatchTag o = .list) (hm : isMerge o = false) (a b : Json)
    (ha1 : a.listDoc = true) (ha2 : a.wf = true) (ha3 : a.finiteNums = true)
    (hb1 : b.listDoc = true) (hb2 : b.wf = true) (hb3 : b.finiteNums = true)
    (H : DPL.HashOK o a b) (Z : DPL.ZeroOK a b)
    (hva : E2E.voidFree a = true) (hvb : E2E.voidFree b = true) (hlen : E2E.shortArrays b = true)
    (hv : ∀ z ∈ DPL.subterms a ++ DPL.subterms b, ValOK nc z)
    (hp : ∀ h ∈ diffM o a b, PathOK nc h.path)
    (text : String) (hr : renderM nc [] (diffM o a b) = some text) :
    ∃ d', readDiffM nc text = .ok d' ∧ d' = normDiff (diffM o a b) ∧
      ∃ r, patchM a d' = .ok r ∧ specEq r b = true ∧ specEq b r = true ∧ r.listDoc = true ∧
        (DPL.PrecMono o → equivB o r b = true ∧ equals o r b = true) :=
  E2E.diff_render_read_patch L nc o ho hm a b ha1 ha2 ha3 hb1 hb2 hb3 H Z hva hvb hlen hv hp text hr

/-- the headline without a Precision option: the diff printed by `jd a b`, applied to `a` by `jd -p`,
    gives a document that is structurally equal to `b` and `Equals` `b` -/
theorem print_read_patch_equals (L : FloatLaws) (nc : NumCodec) (o : Opts)
    (ho : dispatchTag o = .list) (hm : isMerge o = false) (hprec : precOf o = 0) (a b : Json)
    (ha1 : a.listDoc = true) (ha2 : a.wf = true) (ha3 : a.finiteNums = true)
    (hb1 : b.listDoc = true) (hb2 : b.wf = true) (hb3 : b.finiteNums = true)
    (H : DPL.HashOK o a b) (Z : DPL.ZeroOK a b)
    (hva : E2E.voidFree a = true) (hvb : E2E.voidFree b = true) (hlen : E2E.shortArrays b = true)
    (hv : ∀ z ∈ DPL.subterms a ++ DPL.subterms b, ValOK nc z)
    (hp : ∀ h ∈ diffM o a b, PathOK nc h.path)
    (text : String) (hr : renderM nc [] (diffM o a b) = some text) :
    ∃ d', readDiffM nc text = .ok d' ∧
      ∃ r, patchM a d' = .ok r ∧ specEq r b = true ∧ equals o r b = true :=
  have ⟨d', h1, _, r, h2, h3, _, _, h4⟩ := E2E.diff_render_read_patch L nc o ho hm a b ha1 ha2 ha3
    hb1 hb2 hb3 H Z hva hvb hlen hv hp text hr
  ⟨d', h1, r, h2, h3, (h4 (DPL.PrecMono.of_noPrecision hprec)).2⟩

/-- `a.Diff(b).Render()` succeeds when `json.Marshal` succeeds on every sub-term of `a` and `b` and on
    the paths of the diff (it can only fail on a number, through the number codec) -/
theorem produced_diff_renders (nc : NumCodec) (o : Opts) (ho : dispatchTag o = .list)
    (hm : isMerge o = false) (a b : Json) (ha : a.listDoc = true) (hb : b.listDoc = true)
    (hva : E2E.voidFree a = true) (hvb : E2E.voidFree b = true) (hlen : E2E.shortArrays b = true)
    (hmv : ∀ z ∈ DPL.subterms a ++ DPL.subterms b, (marshalNode nc z).isSome = true)
    (hmp : ∀ h ∈ diffM o a b, (jsonM nc (pathToJson h.path)).isSome = true) :
    ∃ text, renderM nc [] (diffM o a b) = some text :=
  (E2E.diffM_readable o ho hm a b ha hb hva hvb hlen _ (E2E.marshal_retag nc .list) hmv).renders nc (fun _ h => h) hmp

/-- **end to end, total form**: when the values and paths at hand have a JSON text, the printed
    diff EXISTS, is read back, and the diff read back patches `a` to a document equal to `b` -/
theorem print_read_patch_total (L : FloatLaws) (nc : NumCodec) (o : Opts)
    (ho : dispatchTag o = .list) (hm : isMerge o = false) (a b : Json)
    (ha1 : a.listDoc = true) (ha2 : a.wf = true) (ha3 : a.finiteNums = true)
    (hb1 : b.listDoc = true) (hb2 : b.wf = true) (hb3 : b.finiteNums = true)
    (H : DPL.HashOK o a b) (Z : DPL.ZeroOK a b)
    (hva : E2E.voidFree a = true) (hvb : E2E.voidFree b = true) (hlen : E2E.shortArrays b = true)
    (hv : ∀ z ∈ DPL.subterms a ++ DPL.subterms b, (marshalNode nc z).isSome = true ∧ ValOK nc z)
    (hp : ∀ h ∈ diffM o a b, (jsonM nc (pathToJson h.path)).isSome = true ∧ PathOK nc h.path) :
    ∃ text d' r, renderM nc [] (diffM o a b) = some text ∧ readDiffM nc text = .ok d' ∧
      patchM a d' = .ok r ∧ specEq r b = true ∧ specEq b r = true ∧ r.listDoc = true ∧
      (DPL.PrecMono o → equivB o r b = true ∧ equals o r b = true) :=
  E2E.diff_print_read_patch L nc o ho hm a b ha1 ha2 ha3 hb1 hb2 hb3 H Z hva hvb hlen hv hp

/-! ### `voidFree` cannot be dropped (model-only boundary: no reader produces void inside a document)

  Both pairs satisfy every hypothesis of the C01 list theorem (`listDoc`, `wf`, `finiteNums`,
  `DPL.memOK`) and `shortArrays`, and `a.Patch(a.Diff(b))` is correct IN MEMORY; only `voidFree` fails. -/

/-- `E2E.Witness.wA` = `[void]`, `wB` = `[]`: the diff is printed as `@ [0]` / `[` / `]` (a removed void
    value has no `-` line) and `ReadDiffString` REJECTS that text -/
theorem void_element_read_witness :
    E2E.Witness.wA.listDoc = true ∧ E2E.Witness.wA.wf = true ∧ E2E.Witness.wA.finiteNums = true ∧
    DPL.memOK E2E.Witness.wA = true ∧
    E2E.Witness.wB.listDoc = true ∧ E2E.Witness.wB.wf = true ∧ E2E.Witness.wB.finiteNums = true ∧
    DPL.memOK E2E.Witness.wB = true ∧
    E2E.voidFree E2E.Witness.wA = false ∧ E2E.voidFree E2E.Witness.wB = true ∧
    E2E.shortArrays E2E.Witness.wB = true ∧
    patchM E2E.Witness.wA (diffM [] E2E.Witness.wA E2E.Witness.wB) = .ok (.arr .list []) ∧
    ∃ text, renderM exCodec [] (diffM [] E2E.Witness.wA E2E.Witness.wB) = some text ∧
      readDiffM exCodec text = .err :=
  E2E.Witness.void_element_witness_read

/-- `E2E.Witness.vA` = `[true, null]`, `vB` = `[void, null]`: the text `@ [0]` / `[` / `- true` /
    `  null` (no `+` line for the void value) IS accepted, and the diff read back patches
    `[true, null]` to `[null]` — success, but not the target -/
theorem void_element_effect_witness :
    E2E.Witness.vA.listDoc = true ∧ E2E.Witness.vA.wf = true ∧ E2E.Witness.vA.finiteNums = true ∧
    DPL.memOK E2E.Witness.vA = true ∧
    E2E.Witness.vB.listDoc = true ∧ E2E.Witness.vB.wf = true ∧ E2E.Witness.vB.finiteNums = true ∧
    DPL.memOK E2E.Witness.vB = true ∧
    E2E.voidFree E2E.Witness.vA = true ∧ E2E.voidFree E2E.Witness.vB = false ∧
    E2E.shortArrays E2E.Witness.vB = true ∧
    patchM E2E.Witness.vA (diffM [] E2E.Witness.vA E2E.Witness.vB)
      = .ok (.arr .list [.void, .null]) ∧
    ∃ text d', renderM exCodec [] (diffM [] E2E.Witness.vA E2E.Witness.vB) = some text ∧
      readDiffM exCodec text = .ok d' ∧ patchM E2E.Witness.vA d' = .ok (.arr .list [.null]) ∧
      specEq (.arr .list [.null]) E2E.Witness.vB = false :=
  E2E.Witness.void_element_witness_effect

/-! Non-vacuity of (E4): `E2E.Example.exA` = `{"k":[true,null,["x"]]}`, `E2E.Example.exB` =
    `{"k":[false,null,["x","y"]],"n":null}` (three hunks: `[` marker + after-context; a hunk inside the
    nested list with before-context + `]` marker; an added member) with the concrete codec `exCodec`:
    every decidable hypothesis holds (`E2E.Example.dom`), the codec contract holds on all sub-terms
    and on the three paths (`ex_vals`, `ex_paths`), there is no hash collision (`ex_hash`); only the
    IEEE-754 laws `FloatLaws` remain. -/

example : E2E.Example.exA.listDoc = true ∧ E2E.Example.exB.listDoc = true ∧
    E2E.voidFree E2E.Example.exA = true ∧ E2E.voidFree E2E.Example.exB = true ∧
    E2E.shortArrays E2E.Example.exB = true ∧ (diffM [] E2E.Example.exA E2E.Example.exB).length = 3 :=
  ⟨E2E.Example.dom.1, E2E.Example.dom.2.2.2.2.1, E2E.Example.dom.2.2.2.2.2.2.2.2.1,
    E2E.Example.dom.2.2.2.2.2.2.2.2.2.1, E2E.Example.dom.2.2.2.2.2.2.2.2.2.2,
    by rw [E2E.Example.ex_diff]; rfl⟩

/-- the end-to-end statement for this pair: the printed diff exists, is read back, and patches `exA`
    to a document that `Equals` `exB` -/
example (L : FloatLaws) :
    ∃ text d' r, renderM exCodec [] (diffM [] E2E.Example.exA E2E.Example.exB) = some text ∧
      readDiffM exCodec text = .ok d' ∧ patchM E2E.Example.exA d' = .ok r ∧
      specEq r E2E.Example.exB = true ∧ equals [] r E2E.Example.exB = true :=
  E2E.Example.ex_end_to_end L

example (text : String)
    (hr : renderM exCodec [] (diffM [] E2E.Example.exA E2E.Example.exB) = some text) :
    ∃ d', readDiffM exCodec text = .ok d' ∧ renderM exCodec [] d' = some text ∧
      ∀ c : Json, c.listDoc = true → Outcome.mapO untag (patchM c d')
        = Outcome.mapO untag (patchM c (diffM [] E2E.Example.exA E2E.Example.exB)) :=
  produced_diff_text_lossless exCodec [] rfl rfl _ _ E2E.Example.dom.1 E2E.Example.dom.2.2.2.2.1
    E2E.Example.dom.2.2.2.2.2.2.2.2.1 E2E.Example.dom.2.2.2.2.2.2.2.2.2.1
    E2E.Example.dom.2.2.2.2.2.2.2.2.2.2 (fun z hz => (E2E.Example.ex_vals z hz).2)
    (fun h hh => (E2E.Example.ex_paths h hh).2) text hr

/-! ## (E5) Diffs produced by `Diff`, end to end: SET / MULTISET readings, strict strategy

  Names of `Jd.E2ES`, `Jd.DES` and `Jd.Merge` are written qualified. `subterms x` (`Jd.subterms`,
  JdProofs/EqualsSet.lean) lists all nodes of `x` (the same function as `DPL.subterms`:
  `E2ES.subterms_eq`); `DES.SetReading o`: `dispatchTag o = .set ∧ keysOf o = none`, or `dispatchTag o = .mset`;
  `E2ES.SPath K p`: `p` is a path of object keys from `K`, possibly followed by one `{}` (set) or `[]`
  (multiset) element; `DES.DiffFaithful o SA SB`: a node of `SA` and a node of `SB` with the same hash
  code are arrays hashed from the same member hash codes resp. (SET reading) `Equals` objects;
  `HashFaithful o S`: equal hash codes among the nodes `S` only for equivalent nodes. -/

/-- **the premises are theorems about `Diff`, SET / MULTISET readings.** For documents as read from
    text with nothing void inside and no harmful hash collision, the hunk sequence `a.Diff(b)` is in
    the reader's domain (`wfDiff`); every hunk is tag-free (`rawHunk`: a replaced array is reported as
    the plain array), there is no `{}`-keyed element (`noEmptySetKeys`), void entries are harmless
    (`voidOK`), the hunks re-render identically (`listDocHunk`); every hunk is strict, has no context
    lines, and is addressed by keys of the two documents possibly followed by `{}` / `[]` -/
theorem produced_diff_in_domain_set {o : Opts} (hm : DES.SetReading o) (hp : precOf o = 0)
    (hmg : isMerge o = false) (a b : Json) (ha : a.rawDoc = true) (hwa : a.wf = true)
    (hb : b.rawDoc = true) (hwb : b.wf = true) (hva : E2E.voidFree a = true)
    (hvb : E2E.voidFree b = true) (FH : DES.DiffFaithful o (subterms a) (subterms b)) :
    wfDiff (diffM o a b) = true ∧ (diffM o a b).all rawHunk = true ∧
    noEmptySetKeys (diffM o a b) = true ∧ (diffM o a b).all voidOK = true ∧
    (diffM o a b).all listDocHunk = true ∧
    (∀ h ∈ diffM o a b, h.merge = false ∧ h.before = [] ∧ h.after = [] ∧
      E2ES.SPath (E2E.docKeys a ++ E2E.docKeys b) h.path) :=
  E2ES.diffM_premises_set hm hp hmg a b ha hwa hb hwb hva hvb FH

/-- the codec contract for the diff follows from the contract on the SUB-TERMS of the two documents
    (every payload value of the diff is literally one of them) and on the paths of the diff -/
theorem produced_diff_codec_set (nc : NumCodec) {o : Opts} (hm : DES.SetReading o)
    (hp : precOf o = 0) (hmg : isMerge o = false) (a b : Json) (ha : a.rawDoc = true)
    (hwa : a.wf = true) (hb : b.rawDoc = true) (hwb : b.wf = true)
    (hva : E2E.voidFree a = true) (hvb : E2E.voidFree b = true)
    (FH : DES.DiffFaithful o (subterms a) (subterms b))
    (hv : ∀ z ∈ subterms a ++ subterms b, ValOK nc z)
    (hpth : ∀ h ∈ diffM o a b, PathOK nc h.path) :
    CodecOK nc (diffM o a b) :=
  (E2ES.diffM_carried_set hm hp hmg a b ha hwa hb hwb hva hvb FH).codec nc hv hpth

/-- the path hypothesis at the level of the inputs: it is enough that the contract holds of every
    path `keys ++ ({} | [] | nothing)` over the keys of the two documents -/
theorem produced_diff_paths_codec_set (nc : NumCodec) {o : Opts} (hm : DES.SetReading o)
    (hp : precOf o = 0) (hmg : isMerge o = false) (a b : Json) (ha : a.rawDoc = true)
    (hwa : a.wf = true) (hb : b.rawDoc = true) (hwb : b.wf = true)
    (hva : E2E.voidFree a = true) (hvb : E2E.voidFree b = true)
    (FH : DES.DiffFaithful o (subterms a) (subterms b))
    (hpaths : ∀ p, E2ES.SPath (E2E.docKeys a ++ E2E.docKeys b) p → PathOK nc p) :
    ∀ h ∈ diffM o a b, PathOK nc h.path :=
  fun h hh => hpaths _ ((E2ES.diffM_carried_set hm hp hmg a b ha hwa hb hwb hva hvb FH).path h hh)

/-- **C02 for every diff PRODUCED by `Diff` in the SET / MULTISET readings (strict strategy).** The
    printed text of `a.Diff(b)` is read back as a diff that renders to the IDENTICAL text and has
    EXACTLY the same outcome (result or error) as `a.Diff(b)` on EVERY document `c`, whatever its
    array types -/
theorem produced_diff_text_lossless_set (nc : NumCodec) {o : Opts} (hm : DES.SetReading o)
    (hp : precOf o = 0) (hmg : isMerge o = false) (a b : Json) (ha : a.rawDoc = true)
    (hwa : a.wf = true) (hb : b.rawDoc = true) (hwb : b.wf = true)
    (hva : E2E.voidFree a = true) (hvb : E2E.voidFree b = true)
    (FH : DES.DiffFaithful o (subterms a) (subterms b))
    (hv : ∀ z ∈ subterms a ++ subterms b, ValOK nc z)
    (hpth : ∀ h ∈ diffM o a b, PathOK nc h.path)
    (text : String) (hr : renderM nc [] (diffM o a b) = some text) :
    ∃ d', readDiffM nc text = .ok d' ∧ renderM nc [] d' = some text ∧
      ∀ c : Json, patchM c d' = patchM c (diffM o a b) :=
  ⟨_, (E2ES.diffM_carried_set hm hp hmg a b ha hwa hb hwb hva hvb FH).lossless nc hv hpth text hr⟩

/-- **`jd -set a b | jd -p -set a` (resp. `-mset`), on the model.** If `a.Diff(b).Render()` gives `text`,
    then `ReadDiffString(text)` succeeds with `d' = normDiff (a.Diff(b))`, and `a.Patch(d')` succeeds with
    THE SAME document `r` as the in-memory `a.Patch(a.Diff(b))`; `r` is equivalent to `b` under the set
    (bag) reading and `Equals` `b` under the options of the diff -/
theorem print_read_patch_set (F : FloatEq0) (L : FloatLaws) (nc : NumCodec) (o : Opts)
    (hm : dispatchTag o = .set ∨ dispatchTag o = .mset) (hk : keysOf o = none)
    (hmg : isMerge o = false) (hp : precOf o = 0) (a b : Json)
    (ha : a.setDoc = true) (hb : b.setDoc = true)
    (hva : E2E.voidFree a = true) (hvb : E2E.voidFree b = true)
    (HF : HashFaithful o (subterms a ++ subterms b))
    (hv : ∀ z ∈ subterms a ++ subterms b, ValOK nc z)
    (hpth : ∀ h ∈ diffM o a b, PathOK nc h.path)
    (text : String) (hr : renderM nc [] (diffM o a b) = some text) :
    ∃ d', readDiffM nc text = .ok d' ∧ d' = normDiff (diffM o a b) ∧
      ∃ r, patchM a d' = .ok r ∧ patchM a (diffM o a b) = .ok r ∧
        equivB o r b = true ∧ equals o r b = true :=
  E2ES.diff_render_read_patch_set F L nc o hm hk hmg hp a b ha hb hva hvb HF hv hpth text hr

/-- `a.Diff(b).Render()` succeeds when `json.Marshal` succeeds on every sub-term of `a` and `b` and on
    the paths of the diff -/
theorem produced_diff_renders_set (nc : NumCodec) {o : Opts} (hm : DES.SetReading o)
    (hp : precOf o = 0) (hmg : isMerge o = false) (a b : Json) (ha : a.rawDoc = true)
    (hwa : a.wf = true) (hb : b.rawDoc = true) (hwb : b.wf = true)
    (hva : E2E.voidFree a = true) (hvb : E2E.voidFree b = true)
    (FH : DES.DiffFaithful o (subterms a) (subterms b))
    (hmv : ∀ z ∈ subterms a ++ subterms b, (marshalNode nc z).isSome = true)
    (hmp : ∀ h ∈ diffM o a b, (jsonM nc (pathToJson h.path)).isSome = true) :
    ∃ text, renderM nc [] (diffM o a b) = some text :=
  (E2ES.diffM_carried_set hm hp hmg a b ha hwa hb hwb hva hvb FH).renders nc hmv hmp

/-- **end to end, SET / MULTISET readings, total form**: the text EXISTS, is read back, and the
    diff read back patches `a` to a document equal to `b` -/
theorem print_read_patch_total_set (F : FloatEq0) (L : FloatLaws) (nc : NumCodec) (o : Opts)
    (hm : dispatchTag o = .set ∨ dispatchTag o = .mset) (hk : keysOf o = none)
    (hmg : isMerge o = false) (hp : precOf o = 0) (a b : Json)
    (ha : a.setDoc = true) (hb : b.setDoc = true)
    (hva : E2E.voidFree a = true) (hvb : E2E.voidFree b = true)
    (HF : HashFaithful o (subterms a ++ subterms b))
    (hv : ∀ z ∈ subterms a ++ subterms b, (marshalNode nc z).isSome = true ∧ ValOK nc z)
    (hpth : ∀ h ∈ diffM o a b, (jsonM nc (pathToJson h.path)).isSome = true ∧ PathOK nc h.path) :
    ∃ text d' r, renderM nc [] (diffM o a b) = some text ∧ readDiffM nc text = .ok d' ∧
      patchM a d' = .ok r ∧ equivB o r b = true ∧ equals o r b = true :=
  E2ES.diff_print_read_patch_set F L nc o hm hk hmg hp a b ha hb hva hvb HF hv hpth

/-- **`voidFree` cannot be dropped in the SET reading either** (model-only boundary). `E2ES.Witness.wA` =
    `[void]`, `wB` = `[]`: both satisfy every hypothesis of the C01 set theorem and of
    `print_read_patch_set` except `voidFree wA` (`HashFaithful` holds), the diff applies IN MEMORY, its
    text is `@ [{}]` alone (a removed void value has no `-` line) and `ReadDiffString` REJECTS it -/
theorem void_element_read_witness_set :
    E2ES.Witness.wA.setDoc = true ∧ E2ES.Witness.wB.setDoc = true ∧
    DPL.memOK E2ES.Witness.wA = true ∧ DPL.memOK E2ES.Witness.wB = true ∧
    HashFaithful [.set] (subterms E2ES.Witness.wA ++ subterms E2ES.Witness.wB) ∧
    E2E.voidFree E2ES.Witness.wA = false ∧ E2E.voidFree E2ES.Witness.wB = true ∧
    patchM E2ES.Witness.wA (diffM [.set] E2ES.Witness.wA E2ES.Witness.wB) = .ok (.arr .set []) ∧
    ∃ text, renderM exCodec [] (diffM [.set] E2ES.Witness.wA E2ES.Witness.wB) = some text ∧
      readDiffM exCodec text = .err :=
  E2ES.Witness.void_element_witness_set

/-! Non-vacuity of (E5): `SetDP.Example.exA` = `{"s":[true,null,{"k":null}]}`, `SetDP.Example.exB` =
    `{"s":[{"k":null},null,false],"t":null}` under `[SET]` and `[MULTISET]` (a `@ ["s",{}]` hunk next to an
    equal object member of the set, and an added member) with the codec `exCodec`: every hypothesis
    is proved in JdProofs/NativeEndToEndSet.lean (`E2ES.Example`: documents, `voidFree_set`,
    `faithful_set`, `vals_set`, `paths_set`); only `FloatEq0` / `FloatLaws` remain. -/

example (F : FloatEq0) (L : FloatLaws) : ∀ o, o = [Opt.set] ∨ o = [Opt.mset] →
    ∃ text d' r, renderM exCodec [] (diffM o SetDP.Example.exA SetDP.Example.exB) = some text ∧
      readDiffM exCodec text = .ok d' ∧ patchM SetDP.Example.exA d' = .ok r ∧
      equivB o r SetDP.Example.exB = true ∧ equals o r SetDP.Example.exB = true :=
  E2ES.Example.ex_set_end_to_end F L

/-- the hypotheses of `produced_diff_text_lossless_set` hold for the pair (no float law at all) -/
example (text : String)
    (hr : renderM exCodec [] (diffM [.set] SetDP.Example.exA SetDP.Example.exB) = some text) :
    ∃ d', readDiffM exCodec text = .ok d' ∧ renderM exCodec [] d' = some text ∧
      ∀ c : Json, patchM c d' = patchM c (diffM [.set] SetDP.Example.exA SetDP.Example.exB) :=
  produced_diff_text_lossless_set exCodec (.inl ⟨rfl, rfl⟩) rfl rfl _ _ (by decide) (by decide)
    (by decide) (by decide) E2ES.Example.voidFree_set.1 E2ES.Example.voidFree_set.2
    (E2ES.Example.faithful_set _ (.inl rfl)) (fun z hz => (E2ES.Example.vals_set z hz).2)
    (fun h hh => (E2ES.Example.paths_set _ (.inl rfl) h hh).2) text hr

/-! ## (E6) Diffs produced by `Diff`, end to end: MERGE strategy, list reading of arrays

  `Merge.mh ks v` is the merge hunk `^ {"Merge":true}` / `@ [ks]` / `+ v` (`merge := true`, path `ks` as
  keys, `add = [v]`, nothing else; `v` void: the bare `+` line, a deletion). `Merge.objVoidFree x`: `x`
  is not void and no object member inside `x` is void. -/

/-- **the premises are theorems about `Diff`, MERGE strategy.** For documents as read from text
    (`b` without void members) `a.Diff(b, MERGE)` is in the reader's domain (`wfDiff`), in the domain of
    the merge same-effect theorem (E3), re-renders identically (`listDocHunk`), and every hunk is a
    merge hunk `Merge.mh ks v` over the keys of the two documents whose value is a list document -/
theorem produced_diff_in_domain_merge (o : Opts) (ho : dispatchTag o = .list)
    (hm : isMerge o = true) (a b : Json) (ha : a.rawDoc = true) (hb : b.rawDoc = true)
    (hv : Merge.objVoidFree b = true) :
    wfDiff (diffM o a b) = true ∧
    (diffM o a b).all (fun h => h.merge && voidOK h) = true ∧
    (diffM o a b).all listDocHunk = true ∧
    (∀ h ∈ diffM o a b, ∃ ks v, h = Merge.mh ks v ∧
      (∀ k ∈ ks, k ∈ E2E.docKeys a ++ E2E.docKeys b) ∧ v.listDoc = true) :=
  E2ES.diffM_premises_mergeList o ho hm a b ha hb hv

/-- the codec contract for `a.Diff(b, MERGE)` from the contract on the sub-terms of `b` (the only
    source of values) and on the paths of the diff -/
theorem produced_diff_codec_merge (nc : NumCodec) (o : Opts) (ho : dispatchTag o = .list)
    (hm : isMerge o = true) (a b : Json) (ha : a.rawDoc = true) (hb : b.rawDoc = true)
    (hvf : Merge.objVoidFree b = true) (hv : ∀ z ∈ subterms b, ValOK nc z)
    (hpth : ∀ h ∈ diffM o a b, PathOK nc h.path) :
    CodecOK nc (diffM o a b) :=
  (E2ES.diffM_readable_mergeList o ho hm a b ha hb hvf _ (E2E.valOK_retag nc .list) hv).codec nc (fun _ h => h) hpth

/-- the path hypothesis at the level of the inputs: the contract on every key path over the keys of
    the two documents -/
theorem produced_diff_paths_codec_merge (nc : NumCodec) (o : Opts) (ho : dispatchTag o = .list)
    (hm : isMerge o = true) (a b : Json) (ha : a.rawDoc = true) (hb : b.rawDoc = true)
    (hvf : Merge.objVoidFree b = true)
    (hpaths : ∀ ks : List String, (∀ k ∈ ks, k ∈ E2E.docKeys a ++ E2E.docKeys b) →
      PathOK nc (ks.map PathElem.key)) :
    ∀ h ∈ diffM o a b, PathOK nc h.path :=
  fun h hh => let ⟨ks, hk, e⟩ := (E2ES.diffM_readable_mergeList o ho hm a b ha hb hvf (fun _ => True) (fun _ _ _ => trivial)
    (fun _ _ => trivial)).path h hh; e ▸ hpaths ks hk

/-- **C02 for every diff PRODUCED by `Diff` with the MERGE strategy (list reading).** No hypothesis
    on hashes or numbers, none on `a` beyond "as read from text": the printed text of
    `a.Diff(b, MERGE)` is read back as a diff that renders to the IDENTICAL text and has the same
    effect as the original on EVERY document `c` (same success / failure, same result up to the Go
    type of array nodes) -/
theorem produced_diff_text_lossless_merge (nc : NumCodec) (o : Opts) (ho : dispatchTag o = .list)
    (hm : isMerge o = true) (a b : Json) (ha : a.rawDoc = true) (hb : b.rawDoc = true)
    (hvf : Merge.objVoidFree b = true) (hv : ∀ z ∈ subterms b, ValOK nc z)
    (hpth : ∀ h ∈ diffM o a b, PathOK nc h.path)
    (text : String) (hr : renderM nc [] (diffM o a b) = some text) :
    ∃ d', readDiffM nc text = .ok d' ∧ renderM nc [] d' = some text ∧
      ∀ c : Json,
        Outcome.mapO untag (patchM c d') = Outcome.mapO untag (patchM c (diffM o a b)) :=
  E2ES.diff_text_lossless_mergeList nc o ho hm a b ha hb hvf hv hpth text hr

/-- **`jd -f merge a b | jd -p -f merge a` in the native text, on the model** (the diff value is
    rendered by `Render`, the jd format). `ReadDiffString(text)` succeeds with `d' = normDiff
    (a.Diff(b, MERGE))` (the same merge hunks, values as plain arrays), and `a.Patch(d')` succeeds with a
    document that `Equals` `b` under the options, is equivalent to it and structurally equal to it -/
theorem print_read_patch_merge (L : FloatLaws) (nc : NumCodec) (o : Opts)
    (hm : isMerge o = true) (ho : dispatchTag o = .list) (hprec : precOf o = 0) (a b : Json)
    (haw : a.wf = true) (har : a.rawDoc = true)
    (hbw : b.wf = true) (hbr : b.rawDoc = true) (hbn : b.nullFree = true)
    (hbv : Merge.objVoidFree b = true) (hbf : b.finiteNums = true)
    (hv : ∀ z ∈ subterms b, ValOK nc z)
    (hpth : ∀ h ∈ diffM o a b, PathOK nc h.path)
    (text : String) (hr : renderM nc [] (diffM o a b) = some text) :
    ∃ d', readDiffM nc text = .ok d' ∧ d' = normDiff (diffM o a b) ∧
      ∃ r, patchM a d' = .ok r ∧ equals o r b = true ∧ equivB o r b = true ∧
        specEq r b = true :=
  E2ES.diff_render_read_patch_mergeList L nc o hm ho hprec a b haw har hbw hbr hbn hbv hbf hv hpth
    text hr

/-- `a.Diff(b, MERGE).Render()` succeeds when `json.Marshal` succeeds on every sub-term of `b` and on
    the key paths -/
theorem produced_diff_renders_merge (nc : NumCodec) (o : Opts) (ho : dispatchTag o = .list)
    (hm : isMerge o = true) (a b : Json) (ha : a.rawDoc = true) (hb : b.rawDoc = true)
    (hvf : Merge.objVoidFree b = true)
    (hmv : ∀ z ∈ subterms b, (marshalNode nc z).isSome = true)
    (hmp : ∀ h ∈ diffM o a b, (jsonM nc (pathToJson h.path)).isSome = true) :
    ∃ text, renderM nc [] (diffM o a b) = some text :=
  (E2ES.diffM_readable_mergeList o ho hm a b ha hb hvf _ (E2E.marshal_retag nc .list) hmv).renders nc (fun _ h => h) hmp

/-- **end to end, MERGE strategy, list reading, total form** -/
theorem print_read_patch_total_merge (L : FloatLaws) (nc : NumCodec) (o : Opts)
    (hm : isMerge o = true) (ho : dispatchTag o = .list) (hprec : precOf o = 0) (a b : Json)
    (haw : a.wf = true) (har : a.rawDoc = true)
    (hbw : b.wf = true) (hbr : b.rawDoc = true) (hbn : b.nullFree = true)
    (hbv : Merge.objVoidFree b = true) (hbf : b.finiteNums = true)
    (hv : ∀ z ∈ subterms b, (marshalNode nc z).isSome = true ∧ ValOK nc z)
    (hpth : ∀ h ∈ diffM o a b, (jsonM nc (pathToJson h.path)).isSome = true ∧ PathOK nc h.path) :
    ∃ text d' r, renderM nc [] (diffM o a b) = some text ∧ readDiffM nc text = .ok d' ∧
      patchM a d' = .ok r ∧ equals o r b = true ∧ equivB o r b = true ∧ specEq r b = true :=
  E2ES.diff_print_read_patch_mergeList L nc o hm ho hprec a b haw har hbw hbr hbn hbv hbf hv hpth

/-! Non-vacuity of (E6): `MSet.Example.exA` = `{"s":["x","y"],"u":"x","v":["x"]}`, `MSet.Example.exB` =
    `{"s":["y","x"],"t":[true],"v":["x","z"]}` under `[MERGE]` (four merge hunks: `s` and `v` replaced by
    `jsonList` nodes, `u` deleted with a bare `+` line, `t` added): every hypothesis is proved
    (`E2ES.Example.docs_merge`, `vals_merge`, `flat_keys`); only `FloatLaws` remains. -/

example (L : FloatLaws) :
    ∃ text d' r, renderM exCodec [] (diffM [.merge] MSet.Example.exA MSet.Example.exB) = some text ∧
      readDiffM exCodec text = .ok d' ∧ patchM MSet.Example.exA d' = .ok r ∧
      equals [.merge] r MSet.Example.exB = true ∧ equivB [.merge] r MSet.Example.exB = true ∧
      specEq r MSet.Example.exB = true :=
  E2ES.Example.ex_merge_end_to_end L

/-! ## (E7) Diffs produced by `Diff`, end to end: MERGE strategy with the SET / MULTISET reading

  The hypotheses on options and documents are those of the structure `E2ES.SetMergeDom o a b`, written
  out here: `isMerge o`, `dispatchTag o = .set ∨ .mset`, `keysOf o = none`, `precOf o = 0`, `a.setDoc`,
  `b.setDoc`, `b.nullFree`, `Merge.objVoidFree b`, `HashFaithful o (subterms a ++ subterms b)`. -/

/-- **the premises are theorems about `Diff`, SET / MULTISET with MERGE**: a sequence of merge hunks
    over the keys of the two documents, in the domain of the reader (`wfDiff`) and of the merge
    same-effect theorem (E3); every value is void (deletion), a plain document, or a plain array
    re-typed as `jsonSet` / `jsonMultiset` at the top (so `untag v` is a plain document) -/
theorem produced_diff_in_domain_setMerge (F : FloatEq0) {o : Opts} {a b : Json}
    (hmg : isMerge o = true) (hm : dispatchTag o = .set ∨ dispatchTag o = .mset)
    (hk : keysOf o = none) (hp : precOf o = 0) (ha : a.setDoc = true) (hb : b.setDoc = true)
    (hn : b.nullFree = true) (hvf : Merge.objVoidFree b = true)
    (HF : HashFaithful o (subterms a ++ subterms b)) :
    wfDiff (diffM o a b) = true ∧
    (diffM o a b).all (fun h => h.merge && voidOK h) = true ∧
    (∀ h ∈ diffM o a b, ∃ ks v, h = Merge.mh ks v ∧
      (∀ k ∈ ks, k ∈ E2E.docKeys a ++ E2E.docKeys b) ∧ (untag v).rawDoc = true ∧
      (v.rawDoc = true ∨ ∃ ys, rawDocList ys = true ∧ v = .arr (dispatchTag o) ys)) :=
  E2ES.diffM_premises_mergeSet F ⟨hmg, hm, hk, hp, ha, hb, hn, hvf, HF⟩

/-- the codec contract for `a.Diff(b, SET, MERGE)`: the contract on a plain array carries over to the
    typed node (same text, same value read back) -/
theorem produced_diff_codec_setMerge (F : FloatEq0) (nc : NumCodec) {o : Opts} {a b : Json}
    (hmg : isMerge o = true) (hm : dispatchTag o = .set ∨ dispatchTag o = .mset)
    (hk : keysOf o = none) (hp : precOf o = 0) (ha : a.setDoc = true) (hb : b.setDoc = true)
    (hn : b.nullFree = true) (hvf : Merge.objVoidFree b = true)
    (HF : HashFaithful o (subterms a ++ subterms b))
    (hv : ∀ z ∈ subterms b, ValOK nc z) (hpth : ∀ h ∈ diffM o a b, PathOK nc h.path) :
    CodecOK nc (diffM o a b) :=
  (E2ES.diffM_readable_mergeSet F ⟨hmg, hm, hk, hp, ha, hb, hn, hvf, HF⟩ _ (E2E.valOK_retag nc _) hv).codec nc (fun _ h => h) hpth

/-- the path hypothesis at the level of the inputs -/
theorem produced_diff_paths_codec_setMerge (F : FloatEq0) (nc : NumCodec) {o : Opts} {a b : Json}
    (hmg : isMerge o = true) (hm : dispatchTag o = .set ∨ dispatchTag o = .mset)
    (hk : keysOf o = none) (hp : precOf o = 0) (ha : a.setDoc = true) (hb : b.setDoc = true)
    (hn : b.nullFree = true) (hvf : Merge.objVoidFree b = true)
    (HF : HashFaithful o (subterms a ++ subterms b))
    (hpaths : ∀ ks : List String, (∀ k ∈ ks, k ∈ E2E.docKeys a ++ E2E.docKeys b) →
      PathOK nc (ks.map PathElem.key)) :
    ∀ h ∈ diffM o a b, PathOK nc h.path :=
  fun h hh => let ⟨ks, hk, e⟩ := (E2ES.diffM_readable_mergeSet F ⟨hmg, hm, hk, hp, ha, hb, hn, hvf, HF⟩ (fun _ => True)
    (fun _ _ _ => trivial) (fun _ _ => trivial)).path h hh; e ▸ hpaths ks hk

/-- **C02 for every diff PRODUCED by `Diff` with SET / MULTISET and MERGE**: identical text when
    rendered again; same effect on EVERY document up to the Go type of array nodes of the result -/
theorem produced_diff_text_lossless_setMerge (F : FloatEq0) (nc : NumCodec) {o : Opts} {a b : Json}
    (hmg : isMerge o = true) (hm : dispatchTag o = .set ∨ dispatchTag o = .mset)
    (hk : keysOf o = none) (hp : precOf o = 0) (ha : a.setDoc = true) (hb : b.setDoc = true)
    (hn : b.nullFree = true) (hvf : Merge.objVoidFree b = true)
    (HF : HashFaithful o (subterms a ++ subterms b))
    (hv : ∀ z ∈ subterms b, ValOK nc z) (hpth : ∀ h ∈ diffM o a b, PathOK nc h.path)
    (text : String) (hr : renderM nc [] (diffM o a b) = some text) :
    ∃ d', readDiffM nc text = .ok d' ∧ renderM nc [] d' = some text ∧
      ∀ c : Json,
        Outcome.mapO untag (patchM c d') = Outcome.mapO untag (patchM c (diffM o a b)) :=
  E2ES.diff_text_lossless_mergeSet F nc ⟨hmg, hm, hk, hp, ha, hb, hn, hvf, HF⟩ hv hpth text hr

/-- **end to end, MERGE strategy with the SET / MULTISET reading.** The text printed for
    `a.Diff(b, SET, MERGE)` is read back as `d' = normDiff (a.Diff(b, SET, MERGE))`, and the library's
    `a.Patch(d')` succeeds with a document that `Equals` `b` under the options and is equivalent to it
    under the set (bag) reading -/
theorem print_read_patch_setMerge (F : FloatEq0) (L : FloatLaws) (nc : NumCodec) {o : Opts}
    {a b : Json} (hmg : isMerge o = true) (hm : dispatchTag o = .set ∨ dispatchTag o = .mset)
    (hk : keysOf o = none) (hp : precOf o = 0) (ha : a.setDoc = true) (hb : b.setDoc = true)
    (hn : b.nullFree = true) (hvf : Merge.objVoidFree b = true)
    (HF : HashFaithful o (subterms a ++ subterms b))
    (hv : ∀ z ∈ subterms b, ValOK nc z) (hpth : ∀ h ∈ diffM o a b, PathOK nc h.path)
    (text : String) (hr : renderM nc [] (diffM o a b) = some text) :
    ∃ d', readDiffM nc text = .ok d' ∧ d' = normDiff (diffM o a b) ∧
      ∃ r, patchM a d' = .ok r ∧ equals o r b = true ∧ equivB o r b = true :=
  E2ES.diff_render_read_patch_mergeSet F L nc ⟨hmg, hm, hk, hp, ha, hb, hn, hvf, HF⟩ hv hpth text hr

/-- `a.Diff(b, SET, MERGE).Render()` succeeds when `json.Marshal` succeeds on every sub-term of `b` and
    on the key paths -/
theorem produced_diff_renders_setMerge (F : FloatEq0) (nc : NumCodec) {o : Opts} {a b : Json}
    (hmg : isMerge o = true) (hm : dispatchTag o = .set ∨ dispatchTag o = .mset)
    (hk : keysOf o = none) (hp : precOf o = 0) (ha : a.setDoc = true) (hb : b.setDoc = true)
    (hn : b.nullFree = true) (hvf : Merge.objVoidFree b = true)
    (HF : HashFaithful o (subterms a ++ subterms b))
    (hmv : ∀ z ∈ subterms b, (marshalNode nc z).isSome = true)
    (hmp : ∀ h ∈ diffM o a b, (jsonM nc (pathToJson h.path)).isSome = true) :
    ∃ text, renderM nc [] (diffM o a b) = some text :=
  (E2ES.diffM_readable_mergeSet F ⟨hmg, hm, hk, hp, ha, hb, hn, hvf, HF⟩ _ (E2E.marshal_retag nc _) hmv).renders nc (fun _ h => h) hmp

/-- **end to end, SET / MULTISET with MERGE, total form** -/
theorem print_read_patch_total_setMerge (F : FloatEq0) (L : FloatLaws) (nc : NumCodec) {o : Opts}
    {a b : Json} (hmg : isMerge o = true) (hm : dispatchTag o = .set ∨ dispatchTag o = .mset)
    (hk : keysOf o = none) (hp : precOf o = 0) (ha : a.setDoc = true) (hb : b.setDoc = true)
    (hn : b.nullFree = true) (hvf : Merge.objVoidFree b = true)
    (HF : HashFaithful o (subterms a ++ subterms b))
    (hv : ∀ z ∈ subterms b, (marshalNode nc z).isSome = true ∧ ValOK nc z)
    (hpth : ∀ h ∈ diffM o a b, (jsonM nc (pathToJson h.path)).isSome = true ∧ PathOK nc h.path) :
    ∃ text d' r, renderM nc [] (diffM o a b) = some text ∧ readDiffM nc text = .ok d' ∧
      patchM a d' = .ok r ∧ equals o r b = true ∧ equivB o r b = true :=
  E2ES.diff_print_read_patch_mergeSet F L nc ⟨hmg, hm, hk, hp, ha, hb, hn, hvf, HF⟩ hv hpth

/-! Non-vacuity of (E7): the pair of (E6) under `[SET, MERGE]` and `[MULTISET, MERGE]` (`s` is unchanged
    as a set; `v` is replaced by a `jsonSet` / `jsonMultiset` node): every hypothesis is proved
    (`E2ES.Example.dom_setMerge`); only `FloatEq0` / `FloatLaws` remain. -/

example (F : FloatEq0) (L : FloatLaws) : ∀ o, o = [Opt.set, Opt.merge] ∨ o = [Opt.mset, Opt.merge] →
    ∃ text d' r, renderM exCodec [] (diffM o MSet.Example.exA MSet.Example.exB) = some text ∧
      readDiffM exCodec text = .ok d' ∧ patchM MSet.Example.exA d' = .ok r ∧
      equals o r MSet.Example.exB = true ∧ equivB o r MSet.Example.exB = true :=
  E2ES.Example.ex_setMerge_end_to_end F L

/-! ### What the text cannot carry: a strict hunk after a merge hunk

  `E2ES.setMerge m h` is `h` with its Merge flag set to `m`; `E2ES.inheritMerge m d` sets the flag of
  every hunk of `d` to "`m`, or some hunk up to and including this one is a merge hunk". -/

/-- **what `ReadDiffString` returns for ANY rendered hunk sequence** (every hunk in the reader's
    domain, `wfHunk`; NO `mergeMono`): the hunks as `normDiff` describes them, with the Merge flag
    INHERITED from the preceding hunks — a strict hunk that follows a merge hunk comes back as a
    merge hunk. `read_of_render` is the case `mergeMono` (`E2ES.read_render_inherit_mono`) -/
theorem read_of_render_inherits_merge (nc : NumCodec) (d : Diff) (text : String)
    (hw : d.all wfHunk = true) (hc : CodecOK nc d) (hr : renderM nc [] d = some text) :
    readDiffM nc text = .ok (E2ES.inheritMerge false (normDiff d)) :=
  NativeRT.read_render_inherit nc d text hw hc hr

/-- with `mergeMono` nothing is inherited that was not there -/
theorem inherits_nothing_when_merge_hunks_come_last (m : Bool) (d : Diff)
    (h : mergeMono m d = true) : E2ES.inheritMerge m d = d :=
  NativeRT.inheritMerge_of_mono m d h

/-- **`HashFaithful` cannot be dropped from (E7): a genuine FNV-1a 64 collision** (class of the known
    finding KF-C04-alias; replayed on the Go library). `E2ES.Collision.wa` =
    `{"a":"x","b":["aedb68afb","b7cdeb749"]}`, `wb` = `{"a":"y","b":["a568b3ad2","b76a57d20"]}`,
    `E2ES.Collision.o` = `[SET, MERGE]`: every other hypothesis of `print_read_patch_setMerge` holds; `Diff`
    emits a merge hunk followed by a STRICT set hunk (`wfDiff` false); in memory `Patch` succeeds and the
    result `Equals` the target; the printed text is accepted by `ReadDiffString`, and `Patch` of the
    diff read back is an ERROR -/
theorem setMerge_collision_witness :
    isMerge E2ES.Collision.o = true ∧ dispatchTag E2ES.Collision.o = .set ∧
    keysOf E2ES.Collision.o = none ∧ precOf E2ES.Collision.o = 0 ∧
    E2ES.Collision.wa.setDoc = true ∧ E2ES.Collision.wb.setDoc = true ∧
    E2ES.Collision.wb.nullFree = true ∧ Merge.objVoidFree E2ES.Collision.wb = true ∧
    ¬ HashFaithful E2ES.Collision.o (subterms E2ES.Collision.wa ++ subterms E2ES.Collision.wb) ∧
    (∃ h1 h2, diffM E2ES.Collision.o E2ES.Collision.wa E2ES.Collision.wb = [h1, h2] ∧
      h1.merge = true ∧ h2.merge = false) ∧
    wfDiff (diffM E2ES.Collision.o E2ES.Collision.wa E2ES.Collision.wb) = false ∧
    (∃ r, patchM E2ES.Collision.wa (diffM E2ES.Collision.o E2ES.Collision.wa E2ES.Collision.wb) = .ok r ∧
      equals E2ES.Collision.o r E2ES.Collision.wb = true) ∧
    ∃ text d', renderM exCodec [] (diffM E2ES.Collision.o E2ES.Collision.wa E2ES.Collision.wb)
        = some text ∧
      readDiffM exCodec text = .ok d' ∧ patchM E2ES.Collision.wa d' = .err :=
  E2ES.Collision.collision_witness_setMerge

/-! ## End to end for the SetKeys reading (`jd -setkeys k a b | jd -p`), strict strategy

   Proofs in JdProofs/NativeEndToEndKeys.lean / …KeysB.lean (ns `Jd.E2EK`). Unlike the SET reading the
   diff does descend below keyed path elements; `E2EK.Nav` describes the finitely many paths a diff of `a`
   can have. `ks ≠ []` is needed: under `SetKeys()` `Diff` emits the path element `{}`-as-keys, which the
   text reads back as the set marker (`E2EK.EmptyKeys.emptyKeys_witness`, replayed on the Go library; not
   reachable from the command line). The three fields of `KeysHyp` shown necessary in memory are shown
   necessary through the text as well (`E2EK.KeysHypNeeded.*_breaks_text`). -/

/-- **C02 proper for diffs produced under SetKeys**: the text reads back to a diff that renders to the
    identical text and has the identical outcome on EVERY document -/
theorem diff_text_lossless_setkeys (nc : NumCodec) {o : Opts} {ks : List String}
    (hd : dispatchTag o = .set) (hk : keysOf o = some ks) (hmg : isMerge o = false)
    (hks : ks ≠ []) (a b : Json) (ha : a.rawDoc = true) (hb : b.rawDoc = true)
    (hva : Jd.E2E.voidFree a = true) (hvb : Jd.E2E.voidFree b = true)
    (hv : ∀ z ∈ subterms a ++ subterms b, ValOK nc z)
    (hpth : ∀ h ∈ diffM o a b, PathOK nc h.path)
    (text : String) (hr : renderM nc [] (diffM o a b) = some text) :
    ∃ d', readDiffM nc text = .ok d' ∧ renderM nc [] d' = some text ∧
      ∀ c : Json, patchM c d' = patchM c (diffM o a b) :=
  Jd.E2EK.diff_text_lossless_setkeys nc hd hk hmg hks a b ha hb hva hvb hv hpth text hr

/-- **the end-to-end theorem, SetKeys**: print, read back, apply to `a`: the result `Equals` `b` under
    the options (and is the same document the in-memory patch gives) -/
theorem diff_render_read_patch_setkeys (F : FloatEq0) (L : FloatLaws) (nc : NumCodec) (o : Opts)
    (ks : List String) (hd : dispatchTag o = .set) (hk : keysOf o = some ks)
    (hmg : isMerge o = false) (hp : precOf o = 0) (hks : ks ≠ []) (a b : Json)
    (ha : a.setDoc = true) (hb : b.setDoc = true)
    (hva : Jd.E2E.voidFree a = true) (hvb : Jd.E2E.voidFree b = true)
    (KH : Jd.DPK.KeysHyp o ks a b)
    (hv : ∀ z ∈ subterms a ++ subterms b, ValOK nc z)
    (hpth : ∀ h ∈ diffM o a b, PathOK nc h.path)
    (text : String) (hr : renderM nc [] (diffM o a b) = some text) :
    ∃ d', readDiffM nc text = .ok d' ∧ d' = normDiff (diffM o a b) ∧
      ∃ r, patchM a d' = .ok r ∧ patchM a (diffM o a b) = .ok r ∧
        equals o r b = true ∧ equivB o r b = true ∧ hashCode o r = hashCode o b :=
  Jd.E2EK.diff_render_read_patch_setkeys F L nc o ks hd hk hmg hp hks a b ha hb hva hvb KH hv hpth text hr

#print axioms render_read_render_identical
#print axioms read_back_same_effect
#print axioms read_back_same_effect_list
end Jd.Props.C02
