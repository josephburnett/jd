/-
  Property C02 — "the native jd diff text is a lossless carrier of a diff … so a diff printed by
  `jd a b` and applied with `jd -p` turns a into b" — for the option combinations JdProps/C02.lean
  lists as NOT PROVED: a `Precision(eps)` option together with the SET / MULTISET / SetKeys reading
  (strict strategy and MERGE), MERGE + Precision in the LIST reading THROUGH THE TEXT, and the colour
  output.  Statements only; proofs in JdProofs/NativeEndToEndPrecision.lean and, for the colour
  output, JdProofs/NativeColor.lean (namespace `Jd.E2EP`).

  Model side: `diffM o a b` = `a.Diff(b, o...)`, `renderM nc opts d` = `d.Render(opts...)`,
  `readDiffM nc text` = `ReadDiffString(text)`, `patchM a d` = `a.Patch(d)`, `equals o` = `Equals`;
  `equivB o` is the hash-free spec of the advertised equivalence; `nc : NumCodec` stands for strconv
  on number tokens.

  WHY IT HOLDS.  (P1–P3) In the set readings `Diff` does not look at the precision at all
  (`SP.diffM_strip`: `diffM o a b = diffM (stripPrec o) a b` on documents as read from text), so the
  diff, its text, and what is read back are LITERALLY those of the run without the precision, and
  the existing end-to-end theorems apply; the result `Equals` `b` without the precision, hence with
  it (`SP.equals_mono`, under `PrecMono o`).  (P4) In the LIST reading with MERGE the diff DOES
  depend on the precision (arrays within eps are not reported): the in-memory theorem
  `Merge.memSound_list` is transported to the diff as read back (`E2ES.memSoundU_of`).  (P5) Colour: `Render(COLOR)` is `Render()` with ANSI
  sequences inserted, the character-level string diff included; the colour text is not reader input.

  HYPOTHESES common to the end-to-end theorems, and why:
    `dispatchTag o`, `keysOf o`, `isMerge o`    which reading / strategy the option list selects;
    `DPL.PrecMono o`   the IEEE fact `|u-v| ≤ 0 → |u-v| ≤ eps` for the precision of `o` (true for every
                       `eps ≥ +0`; `numWithin` is opaque to the kernel). NEEDED: `precMono_needed_text`;
    `nonnegBits (precOf o)` (P4 only)  the precision is a finite number `≥ +0`, so that a number
                       `Equals` itself (`FloatLaws.refl`). NEEDED: `negative_precision_breaks_text`
                       (`jd -precision=-1` is accepted by the CLI);
    `FloatEq0`, `FloatLaws`   the IEEE laws of the in-memory theorems (C01);
    `a.setDoc`, `b.setDoc`   documents as read from JSON text: plain arrays, unique sorted keys, finite
                       numbers, no `-0` (domain of the C01 set theorems); `a.wf`, `a.rawDoc`, … in P4;
    `E2E.voidFree a`, `E2E.voidFree b`   no void array element / object member (no reader produces one;
                       needed: `C02.void_element_read_witness_set`);
    `HashFaithful (stripPrec o) (subterms a ++ subterms b)` resp. `DPK.KeysHyp (stripPrec o) ks a b`
                       no harmful FNV collision among the sub-terms, READ WITHOUT THE PRECISION (hash
                       codes ignore it; for the full `o` the hypothesis would be weaker). Needed already
                       without a precision (KF-C04-alias, `C02.setMerge_collision_witness`);
    `b.nullFree`, `Merge.objVoidFree b`  (MERGE with set readings) the domain of merge patches;
    `ValOK nc z` for the sub-terms, `PathOK nc h.path` for the paths of the diff: the contract on
                       encoding/json (value text has no newline and is read back as the value);
    `NoEscVal nc z`, `NoEscPath nc p` (colour only): the JSON text has no ESC character (encoding/json
                       escapes control characters; proved outright for strings: `noEscVal_str`).
  CONCLUSIONS.  `equals o r b` always; `equivB o r b` in the SET / SetKeys reading and in P4;
  for MULTISET only `equivB (stripPrec o) r b` (exact bag equivalence — STRONGER as a statement about
  `r`, but not the advertised one): the spec's bag matching is greedy and not monotone in the
  precision (`C01Precision.spec_bag_matching_is_greedy`, a weakness of the spec, not of jd).
  NOT PROVED: SetKeys + MERGE through the text (with or without a Precision; in memory it holds iff
  no clash: `C01Precision.c01_setkeys_merge_precision_iff`).
-/
import JdProofs.NativeEndToEndPrecision

set_option autoImplicit false

namespace Jd.Props.C02Precision
open Jd Jd.Spec Jd.NativeRT Jd.Robust
open Jd.SP (stripPrec)

/-! ## (P1) SET / MULTISET + Precision, strict strategy (`jd -set a b | jd -p -set a` with a
    `Precision` option in the library call; the CLI refuses `-precision` with `-set` / `-mset`) -/

/-- **the premises of the text theorems are theorems about `Diff`.** For documents as read from
    text (`rawDoc`, `wf`) with nothing void inside (`voidFree`) and no harmful hash collision for the
    options WITHOUT the precision (`FH`, decidable), under a set reading `hm` (`dispatchTag o = .set ∧
    keysOf o = none`, or `.mset`) and the strict strategy `hmg`, whatever Precision options `o` holds:
    `a.Diff(b, o)` is in the reader's domain (`wfDiff`), tag-free, without `{}`-keyed element, with
    harmless void entries, re-renders identically, and every hunk is strict, without context, on a
    key path possibly followed by `{}` / `[]` -/
theorem produced_diff_in_domain_set_precision {o : Opts} (hm : DES.SetReading o)
    (hmg : isMerge o = false) (a b : Json) (ha : a.rawDoc = true) (hwa : a.wf = true)
    (hb : b.rawDoc = true) (hwb : b.wf = true) (hva : E2E.voidFree a = true)
    (hvb : E2E.voidFree b = true)
    (FH : DES.DiffFaithful (stripPrec o) (subterms a) (subterms b)) :
    wfDiff (diffM o a b) = true ∧ (diffM o a b).all rawHunk = true ∧
    noEmptySetKeys (diffM o a b) = true ∧ (diffM o a b).all voidOK = true ∧
    (diffM o a b).all listDocHunk = true ∧
    (∀ h ∈ diffM o a b, h.merge = false ∧ h.before = [] ∧ h.after = [] ∧
      E2ES.SPath (E2E.docKeys a ++ E2E.docKeys b) h.path) := by
  rw [E2EP.diffM_strip_reading hm a b ha]
  exact E2ES.diffM_premises_set (SP.setReading_strip hm) (SP.precOf_strip o)
    (E2EP.isMerge_strip_false hmg)
    a b ha hwa hb hwb hva hvb FH

/-- **C02 proper, SET / MULTISET + Precision**: the printed text of `a.Diff(b, o)` is read back as a
    diff that renders to the IDENTICAL text and has EXACTLY the same outcome (result or error) as
    `a.Diff(b, o)` on EVERY document `c`. `hv`, `hpth`: the codec contract on the sub-terms and on
    the paths of the diff. No float hypothesis at all. -/
theorem produced_diff_text_lossless_set_precision (nc : NumCodec) {o : Opts}
    (hm : DES.SetReading o) (hmg : isMerge o = false) (a b : Json) (ha : a.rawDoc = true)
    (hwa : a.wf = true) (hb : b.rawDoc = true) (hwb : b.wf = true)
    (hva : E2E.voidFree a = true) (hvb : E2E.voidFree b = true)
    (FH : DES.DiffFaithful (stripPrec o) (subterms a) (subterms b))
    (hv : ∀ z ∈ subterms a ++ subterms b, ValOK nc z)
    (hpth : ∀ h ∈ diffM o a b, PathOK nc h.path)
    (text : String) (hr : renderM nc [] (diffM o a b) = some text) :
    ∃ d', readDiffM nc text = .ok d' ∧ renderM nc [] d' = some text ∧
      ∀ c : Json, patchM c d' = patchM c (diffM o a b) :=
  ⟨_, (E2EP.diffM_carried_set_precision hm hmg a b ha hwa hb hwb hva hvb FH).lossless nc hv hpth text hr⟩

/-- **end to end, SET / MULTISET + Precision, strict strategy.** If `a.Diff(b, o).Render()` gives
    `text`, then `ReadDiffString(text)` succeeds with `d' = normDiff (a.Diff(b, o))`, and `a.Patch(d')`
    succeeds with THE SAME document `r` as the in-memory patch; `r` `Equals` `b` under `o` (`M`), and
    even without the precision (`Equals` and `equivB`); in the SET reading `r` is equivalent to `b` for
    the advertised equivalence under `o` (sets recursively, numbers within eps). -/
theorem print_read_patch_set_precision (F : FloatEq0) (L : FloatLaws) (nc : NumCodec)
    (o : Opts) (hm : dispatchTag o = .set ∨ dispatchTag o = .mset) (hk : keysOf o = none)
    (hmg : isMerge o = false) (M : DPL.PrecMono o) (a b : Json)
    (ha : a.setDoc = true) (hb : b.setDoc = true)
    (hva : E2E.voidFree a = true) (hvb : E2E.voidFree b = true)
    (HF : HashFaithful (stripPrec o) (subterms a ++ subterms b))
    (hv : ∀ z ∈ subterms a ++ subterms b, ValOK nc z)
    (hpth : ∀ h ∈ diffM o a b, PathOK nc h.path)
    (text : String) (hr : renderM nc [] (diffM o a b) = some text) :
    ∃ d', readDiffM nc text = .ok d' ∧ d' = normDiff (diffM o a b) ∧
      ∃ r, patchM a d' = .ok r ∧ patchM a (diffM o a b) = .ok r ∧
        equals o r b = true ∧ equals (stripPrec o) r b = true ∧
        equivB (stripPrec o) r b = true ∧ (dispatchTag o = .set → equivB o r b = true) :=
  E2EP.diff_render_read_patch_set_precision F L nc o hm hk hmg M a b ha hb hva hvb HF hv hpth text hr

/-- **the same, total form**: when `json.Marshal` succeeds on the sub-terms and the paths, the text
    EXISTS, is read back, and the diff read back patches `a` to a document that `Equals` `b` -/
theorem print_read_patch_total_set_precision (F : FloatEq0) (L : FloatLaws) (nc : NumCodec)
    (o : Opts) (hm : dispatchTag o = .set ∨ dispatchTag o = .mset) (hk : keysOf o = none)
    (hmg : isMerge o = false) (M : DPL.PrecMono o) (a b : Json)
    (ha : a.setDoc = true) (hb : b.setDoc = true)
    (hva : E2E.voidFree a = true) (hvb : E2E.voidFree b = true)
    (HF : HashFaithful (stripPrec o) (subterms a ++ subterms b))
    (hv : ∀ z ∈ subterms a ++ subterms b, (marshalNode nc z).isSome = true ∧ ValOK nc z)
    (hpth : ∀ h ∈ diffM o a b, (jsonM nc (pathToJson h.path)).isSome = true ∧ PathOK nc h.path) :
    ∃ text d' r, renderM nc [] (diffM o a b) = some text ∧ readDiffM nc text = .ok d' ∧
      patchM a d' = .ok r ∧ equals o r b = true ∧ equivB (stripPrec o) r b = true ∧
      (dispatchTag o = .set → equivB o r b = true) :=
  E2EP.diff_print_read_patch_set_precision F L nc o hm hk hmg M a b ha hb hva hvb HF hv hpth

/-! ## (P2) SetKeys + Precision, strict strategy.  The lossless-text theorem
    `C02.diff_text_lossless_setkeys` never had a hypothesis on the precision: it covers this case. -/

/-- **end to end, SetKeys + Precision**: `ks ≠ []` (under `SetKeys()` the text cannot carry the path
    element: `C02`, `E2EK.EmptyKeys.emptyKeys_witness`); `KH`: the decidable bundle of the SetKeys
    theorem (identities pairwise distinct within an array, path objects and key tuples faithful, no
    collision), read without the precision. The result is the in-memory result, `Equals` `b` and is
    equivalent to it under `o` (and without the precision), and has the hash code of `b`. -/
theorem print_read_patch_setkeys_precision (F : FloatEq0) (L : FloatLaws) (nc : NumCodec)
    (o : Opts) (ks : List String) (hd : dispatchTag o = .set) (hk : keysOf o = some ks)
    (hmg : isMerge o = false) (M : DPL.PrecMono o) (hks : ks ≠ []) (a b : Json)
    (ha : a.setDoc = true) (hb : b.setDoc = true)
    (hva : E2E.voidFree a = true) (hvb : E2E.voidFree b = true)
    (KH : DPK.KeysHyp (stripPrec o) ks a b)
    (hv : ∀ z ∈ subterms a ++ subterms b, ValOK nc z)
    (hpth : ∀ h ∈ diffM o a b, PathOK nc h.path)
    (text : String) (hr : renderM nc [] (diffM o a b) = some text) :
    ∃ d', readDiffM nc text = .ok d' ∧ d' = normDiff (diffM o a b) ∧
      ∃ r, patchM a d' = .ok r ∧ patchM a (diffM o a b) = .ok r ∧
        equals o r b = true ∧ equivB o r b = true ∧ equals (stripPrec o) r b = true ∧
        equivB (stripPrec o) r b = true ∧ hashCode o r = hashCode o b :=
  E2EP.diff_render_read_patch_setkeys_precision F L nc o ks hd hk hmg M hks a b ha hb hva hvb KH hv
    hpth text hr

/-- **the same, total form** -/
theorem print_read_patch_total_setkeys_precision (F : FloatEq0) (L : FloatLaws) (nc : NumCodec)
    (o : Opts) (ks : List String) (hd : dispatchTag o = .set) (hk : keysOf o = some ks)
    (hmg : isMerge o = false) (M : DPL.PrecMono o) (hks : ks ≠ []) (a b : Json)
    (ha : a.setDoc = true) (hb : b.setDoc = true)
    (hva : E2E.voidFree a = true) (hvb : E2E.voidFree b = true)
    (KH : DPK.KeysHyp (stripPrec o) ks a b)
    (hv : ∀ z ∈ subterms a ++ subterms b, (marshalNode nc z).isSome = true ∧ ValOK nc z)
    (hpth : ∀ h ∈ diffM o a b, (jsonM nc (pathToJson h.path)).isSome = true ∧ PathOK nc h.path) :
    ∃ text d' r, renderM nc [] (diffM o a b) = some text ∧ readDiffM nc text = .ok d' ∧
      patchM a d' = .ok r ∧ equals o r b = true ∧ equivB o r b = true :=
  have ⟨text, ht⟩ := (E2EK.diffM_readable_setkeys hd hk hmg a b (SP.rawDoc_of_setDoc ha)
    (SP.rawDoc_of_setDoc hb) hva hvb).renders nc (fun z hz => (hv z hz).1) (fun h hh => (hpth h hh).1)
  have ⟨d', h1, _, r, h2, _, h3, h4, _⟩ := E2EP.diff_render_read_patch_setkeys_precision F L nc o ks
    hd hk hmg M hks a b ha hb hva hvb KH (fun z hz => (hv z hz).2) (fun h hh => (hpth h hh).2) text ht
  ⟨text, d', r, ht, h1, h2, h3, h4⟩

/-! ## (P3) MERGE + SET / MULTISET + Precision -/

/-- **C02 proper**: identical text when rendered again; same effect on EVERY document up to the Go
    type of array nodes of the result (a replaced array is the typed node `jsonSet` / `jsonMultiset`,
    read back as a plain array) -/
theorem produced_diff_text_lossless_setMerge_precision (F : FloatEq0) (nc : NumCodec) {o : Opts}
    {a b : Json} (hmg : isMerge o = true) (hm : dispatchTag o = .set ∨ dispatchTag o = .mset)
    (hk : keysOf o = none) (ha : a.setDoc = true) (hb : b.setDoc = true)
    (hn : b.nullFree = true) (hvf : Merge.objVoidFree b = true)
    (HF : HashFaithful (stripPrec o) (subterms a ++ subterms b))
    (hv : ∀ z ∈ subterms b, ValOK nc z) (hpth : ∀ h ∈ diffM o a b, PathOK nc h.path)
    (text : String) (hr : renderM nc [] (diffM o a b) = some text) :
    ∃ d', readDiffM nc text = .ok d' ∧ renderM nc [] d' = some text ∧
      ∀ c : Json,
        Outcome.mapO untag (patchM c d') = Outcome.mapO untag (patchM c (diffM o a b)) := by
  rw [SP.diffM_strip o hm a b (SP.rawDoc_of_setDoc ha)] at hpth hr ⊢
  exact E2ES.diff_text_lossless_mergeSet F nc (E2EP.setMergeDom_strip hmg hm hk ha hb hn hvf HF) hv hpth
    text hr

/-- **end to end, MERGE + SET / MULTISET + Precision**: `b` null-free and without void (the domain
    of merge patches); the codec contract on the sub-terms of `b` only (every value of a merge diff
    comes from `b`) -/
theorem print_read_patch_setMerge_precision (F : FloatEq0) (L : FloatLaws) (nc : NumCodec)
    {o : Opts} {a b : Json} (hmg : isMerge o = true)
    (hm : dispatchTag o = .set ∨ dispatchTag o = .mset) (hk : keysOf o = none)
    (M : DPL.PrecMono o) (ha : a.setDoc = true) (hb : b.setDoc = true)
    (hn : b.nullFree = true) (hvf : Merge.objVoidFree b = true)
    (HF : HashFaithful (stripPrec o) (subterms a ++ subterms b))
    (hv : ∀ z ∈ subterms b, ValOK nc z) (hpth : ∀ h ∈ diffM o a b, PathOK nc h.path)
    (text : String) (hr : renderM nc [] (diffM o a b) = some text) :
    ∃ d', readDiffM nc text = .ok d' ∧ d' = normDiff (diffM o a b) ∧
      ∃ r, patchM a d' = .ok r ∧ equals o r b = true ∧ equals (stripPrec o) r b = true ∧
        equivB (stripPrec o) r b = true ∧ (dispatchTag o = .set → equivB o r b = true) :=
  E2EP.diff_render_read_patch_mergeSet_precision F L nc hmg hm hk M ha hb hn hvf HF hv hpth text hr

/-- **the same, total form** -/
theorem print_read_patch_total_setMerge_precision (F : FloatEq0) (L : FloatLaws) (nc : NumCodec)
    {o : Opts} {a b : Json} (hmg : isMerge o = true)
    (hm : dispatchTag o = .set ∨ dispatchTag o = .mset) (hk : keysOf o = none)
    (M : DPL.PrecMono o) (ha : a.setDoc = true) (hb : b.setDoc = true)
    (hn : b.nullFree = true) (hvf : Merge.objVoidFree b = true)
    (HF : HashFaithful (stripPrec o) (subterms a ++ subterms b))
    (hv : ∀ z ∈ subterms b, (marshalNode nc z).isSome = true ∧ ValOK nc z)
    (hpth : ∀ h ∈ diffM o a b, (jsonM nc (pathToJson h.path)).isSome = true ∧ PathOK nc h.path) :
    ∃ text d' r, renderM nc [] (diffM o a b) = some text ∧ readDiffM nc text = .ok d' ∧
      patchM a d' = .ok r ∧ equals o r b = true ∧ equivB (stripPrec o) r b = true ∧
      (dispatchTag o = .set → equivB o r b = true) :=
  E2EP.diff_print_read_patch_mergeSet_precision F L nc hmg hm hk M ha hb hn hvf HF hv hpth

/-! ## (P4) MERGE + Precision in the LIST reading, through the text (`jd -f merge -precision eps a b`
    printed in the native format, read by `jd -p`).  The lossless-text theorem
    `C02.produced_diff_text_lossless_merge` never had a hypothesis on the precision. -/

/-- **end to end, MERGE + Precision, list reading.** `a` as read from text (`wf`, `rawDoc`; it may
    hold nulls and void members); `b` as read from text, without void, finite numbers — `b` MAY hold
    nulls (a merge hunk read from the native text stores `null`; only the bare `+` line deletes).
    `hp`: the precision is a finite number `≥ +0`; `M`: within 0 implies within eps. The text is read
    back as `normDiff` of the diff, and `a.Patch` of it `Equals` `b` under the options and is
    equivalent to it. (`specEq r b` is NOT claimed: arrays within eps are kept,
    `MP.Witness.specEq_fails_array`.) -/
theorem print_read_patch_merge_precision (L : FloatLaws) (nc : NumCodec) (o : Opts)
    (hm : isMerge o = true) (ho : dispatchTag o = .list)
    (hp : nonnegBits (precOf o) = true) (M : DPL.PrecMono o) (a b : Json)
    (haw : a.wf = true) (har : a.rawDoc = true)
    (hbw : b.wf = true) (hbr : b.rawDoc = true)
    (hbv : Merge.objVoidFree b = true) (hbf : b.finiteNums = true)
    (hv : ∀ z ∈ subterms b, ValOK nc z)
    (hpth : ∀ h ∈ diffM o a b, PathOK nc h.path)
    (text : String) (hr : renderM nc [] (diffM o a b) = some text) :
    ∃ d', readDiffM nc text = .ok d' ∧ d' = normDiff (diffM o a b) ∧
      ∃ r, patchM a d' = .ok r ∧ equals o r b = true ∧ equivB o r b = true :=
  E2EP.diff_render_read_patch_mergeList_precision L nc o hm ho hp M a b haw har hbw hbr hbv hbf hv hpth
    text hr

/-- **the same, total form** -/
theorem print_read_patch_total_merge_precision (L : FloatLaws) (nc : NumCodec) (o : Opts)
    (hm : isMerge o = true) (ho : dispatchTag o = .list)
    (hp : nonnegBits (precOf o) = true) (M : DPL.PrecMono o) (a b : Json)
    (haw : a.wf = true) (har : a.rawDoc = true)
    (hbw : b.wf = true) (hbr : b.rawDoc = true)
    (hbv : Merge.objVoidFree b = true) (hbf : b.finiteNums = true)
    (hv : ∀ z ∈ subterms b, (marshalNode nc z).isSome = true ∧ ValOK nc z)
    (hpth : ∀ h ∈ diffM o a b, (jsonM nc (pathToJson h.path)).isSome = true ∧ PathOK nc h.path) :
    ∃ text d' r, renderM nc [] (diffM o a b) = some text ∧ readDiffM nc text = .ok d' ∧
      patchM a d' = .ok r ∧ equals o r b = true ∧ equivB o r b = true :=
  E2EP.diff_print_read_patch_mergeList_precision L nc o hm ho hp M a b haw har hbw hbr hbv hbf hv hpth

/-- the library calls for the option list the CLI builds for `jd -f merge -precision eps` -/
theorem print_read_patch_MERGE_Precision (L : FloatLaws) (nc : NumCodec) (eps : UInt64)
    (hp : nonnegBits eps = true) (M : DPL.PrecMono [.merge, .prec eps]) (a b : Json)
    (haw : a.wf = true) (har : a.rawDoc = true)
    (hbw : b.wf = true) (hbr : b.rawDoc = true)
    (hbv : Merge.objVoidFree b = true) (hbf : b.finiteNums = true)
    (hv : ∀ z ∈ subterms b, ValOK nc z)
    (hpth : ∀ h ∈ diffM [.merge, .prec eps] a b, PathOK nc h.path)
    (text : String) (hr : renderM nc [] (diffM [.merge, .prec eps] a b) = some text) :
    ∃ d', readDiffM nc text = .ok d' ∧
      ∃ r, patchM a d' = .ok r ∧ equals [.merge, .prec eps] r b = true ∧
        equivB [.merge, .prec eps] r b = true :=
  have ⟨d', h1, _, r, h2, h3, h4⟩ := E2EP.diff_render_read_patch_mergeList_precision L nc
    [.merge, .prec eps] rfl rfl hp M a b haw har hbw hbr hbv hbf hv hpth text hr
  ⟨d', h1, r, h2, h3, h4⟩

/-! ## the float hypotheses are needed through the text -/

/-- **`PrecMono o` cannot be dropped, in any reading** (any option list `o`): were `x` within `+0` of
    `y` (`h0`) but not within the precision of `o` (`h1`) — excluded by IEEE for `eps ≥ +0`, but the
    case of `x = y` under a negative or NaN precision, which `Precision(-1)` allows — the diff is
    empty, its text is the empty text, the empty text is read back as the empty diff, `jd -p` returns
    `x`, and `x` does not `Equals` `y` under `o` -/
theorem precMono_needed_text (nc : NumCodec) (o : Opts) (x y : UInt64)
    (h0 : numWithin 0 x y = true) (h1 : numWithin (precOf o) x y = false) :
    renderM nc [] (diffM o (.num x) (.num y)) = some "" ∧ readDiffM nc "" = .ok [] ∧
    patchM (.num x) [] = .ok (.num x) ∧ equals o (.num x) (.num y) = false :=
  have hd : diffM o (.num x) (.num y) = [] := by
    unfold diffM
    rw [DE.diffNode_scalar _ _ _ _ (fun _ _ e => by cases e) (fun _ e => by cases e)]
    simp [diffCommon, equals, precOf, h0]
  ⟨by rw [hd]; rfl, E2EP.Witness.read_empty nc, by simp [patchM, patchAll], by simp [equals, h1]⟩

/-- **`nonnegBits (precOf o)` cannot be dropped in (P4)**, relative to the IEEE fact `h` that
    `|1 - 1| ≤ eps` is false for a negative or NaN `eps`: `null → 1` under `[MERGE, Precision(eps)]` is
    printed (`^ {"Merge":true}` / `@ []` / `+ 1`), read back, applied: the result is `1`, which does not
    `Equals` the target `1` under the options -/
theorem negative_precision_breaks_text (eps : UInt64)
    (h : numWithin eps E2EP.Example.one E2EP.Example.one = false) :
    ∃ text d', renderM exCodec [] (diffM [.merge, .prec eps] .null (.num E2EP.Example.one)) = some text ∧
      readDiffM exCodec text = .ok d' ∧ patchM .null d' = .ok (.num E2EP.Example.one) ∧
      equals [.merge, .prec eps] (.num E2EP.Example.one) (.num E2EP.Example.one) = false :=
  E2EP.Witness.negative_precision_breaks_text eps h

/-! ## (P5) colour output

  `renderM nc [.color] d` is `d.Render(COLOR)`.  `stripAnsi` removes the sequences `ESC [ … m`.
  The model renders colour as the Go code does: the red / green code BEFORE the `-` / `+` header and
  the reset AFTER the newline — except for a hunk that removes exactly one string and adds exactly
  one string, where `colorStringMarshal` colours, inside the JSON string, every rune of the ESCAPED
  text that is not matched (greedily) against the longest common subsequence of the two raw strings.
  `C02.color_is_plain_plus_ansi` (`NativeRT.renderM_color_strip`) covers BOTH branches under the
  contract `NoEsc nc d`.  New here: the contract at the level of the INPUTS, the character-level
  branch without any contract on the strings, and what the reader does with the colour text. -/

/-- **the character-level colouring strips to the plain text, for ALL strings** `x`, `y` (quotes,
    backslashes, control characters, `<>&`, U+2028, non-BMP runes: encoding/json escapes ESC itself),
    any Merge flag, path and context; `hp`, `hctx`: the path text and the context values have no ESC -/
theorem color_strip_char_level (nc : NumCodec) (m : Bool) (p : Path) (bf af : List Json)
    (x y : String) (hp : E2EP.NoEscPath nc p) (hctx : ∀ v ∈ bf ++ af, E2EP.NoEscVal nc v) :
    (renderHunk nc [.color]
        { merge := m, path := p, before := bf, remove := [.str x], add := [.str y], after := af }).map
      (fun s => String.ofList (stripAnsi s.toList))
      = renderHunk nc []
        { merge := m, path := p, before := bf, remove := [.str x], add := [.str y], after := af } :=
  E2EP.color_strip_char_level nc m p bf af x y hp hctx

/-- the JSON text of a string has no ESC, whatever the string -/
theorem noEscVal_str (nc : NumCodec) (x : String) : E2EP.NoEscVal nc (.str x) :=
  E2EP.noEscVal_str nc x

/-- **`NoEsc` is a theorem about `Diff`, LIST reading / strict** (any Precision): from "the JSON text
    of every sub-term of `a`, `b` has no ESC" and the same for the paths of the diff -/
theorem noEsc_produced_list (nc : NumCodec) (o : Opts) (ho : dispatchTag o = .list)
    (hm : isMerge o = false) (a b : Json) (ha : a.listDoc = true) (hb : b.listDoc = true)
    (hva : E2E.voidFree a = true) (hvb : E2E.voidFree b = true) (hlen : E2E.shortArrays b = true)
    (hv : ∀ z ∈ DPL.subterms a ++ DPL.subterms b, E2EP.NoEscVal nc z)
    (hp : ∀ h ∈ diffM o a b, E2EP.NoEscPath nc h.path) : NoEsc nc (diffM o a b) :=
  (E2E.diffM_readable o ho hm a b ha hb hva hvb hlen _ (E2EP.noEscVal_retag nc .list) hv).noEsc nc
    (fun _ h => h) hp

/-- … SET / MULTISET reading, strict, with or without a Precision -/
theorem noEsc_produced_set (nc : NumCodec) {o : Opts} (hm : DES.SetReading o)
    (hmg : isMerge o = false) (a b : Json) (ha : a.rawDoc = true) (hwa : a.wf = true)
    (hb : b.rawDoc = true) (hwb : b.wf = true) (hva : E2E.voidFree a = true)
    (hvb : E2E.voidFree b = true)
    (FH : DES.DiffFaithful (stripPrec o) (subterms a) (subterms b))
    (hv : ∀ z ∈ subterms a ++ subterms b, E2EP.NoEscVal nc z)
    (hp : ∀ h ∈ diffM o a b, E2EP.NoEscPath nc h.path) : NoEsc nc (diffM o a b) :=
  (E2EP.diffM_carried_set_precision hm hmg a b ha hwa hb hwb hva hvb FH).noEsc nc hv hp

/-- … SetKeys reading, strict, with or without a Precision -/
theorem noEsc_produced_setkeys (nc : NumCodec) {o : Opts} {ks : List String}
    (hd : dispatchTag o = .set) (hk : keysOf o = some ks) (hmg : isMerge o = false) (a b : Json)
    (ha : a.rawDoc = true) (hb : b.rawDoc = true) (hva : E2E.voidFree a = true)
    (hvb : E2E.voidFree b = true)
    (hv : ∀ z ∈ subterms a ++ subterms b, E2EP.NoEscVal nc z)
    (hp : ∀ h ∈ diffM o a b, E2EP.NoEscPath nc h.path) : NoEsc nc (diffM o a b) :=
  (E2EK.diffM_readable_setkeys hd hk hmg a b ha hb hva hvb).noEsc nc hv hp

/-- … MERGE strategy, list reading (any Precision): the values come from `b` only -/
theorem noEsc_produced_merge (nc : NumCodec) (o : Opts) (ho : dispatchTag o = .list)
    (hm : isMerge o = true) (a b : Json) (ha : a.rawDoc = true) (hb : b.rawDoc = true)
    (hvf : Merge.objVoidFree b = true) (hv : ∀ z ∈ subterms b, E2EP.NoEscVal nc z)
    (hp : ∀ h ∈ diffM o a b, E2EP.NoEscPath nc h.path) : NoEsc nc (diffM o a b) :=
  (E2ES.diffM_readable_mergeList o ho hm a b ha hb hvf _ (E2EP.noEscVal_retag nc .list) hv).noEsc nc
    (fun _ h => h) hp

/-- … MERGE with SET / MULTISET, with or without a Precision -/
theorem noEsc_produced_setMerge (F : FloatEq0) (nc : NumCodec) {o : Opts} {a b : Json}
    (hmg : isMerge o = true) (hm : dispatchTag o = .set ∨ dispatchTag o = .mset)
    (hk : keysOf o = none) (ha : a.setDoc = true) (hb : b.setDoc = true)
    (hn : b.nullFree = true) (hvf : Merge.objVoidFree b = true)
    (HF : HashFaithful (stripPrec o) (subterms a ++ subterms b))
    (hv : ∀ z ∈ subterms b, E2EP.NoEscVal nc z)
    (hp : ∀ h ∈ diffM o a b, E2EP.NoEscPath nc h.path) : NoEsc nc (diffM o a b) :=
  (E2EP.diffM_readable_mergeSet_precision F hmg hm hk ha hb hn hvf HF _ (E2EP.noEscVal_retag nc _)
    hv).noEsc nc (fun _ h => h) hp

/-- **what holds for the colour text**: if `Render(COLOR)` gives `ctext`, then `Render()` gives `ctext`
    with its ANSI sequences stripped — so every theorem about the plain text (`C02.print_read_patch*`,
    the theorems above) applies to `stripAnsi ctext` -/
theorem color_text_then_strip (nc : NumCodec) (d : Diff) (hn : NoEsc nc d) (ctext : String)
    (hc : renderM nc [.color] d = some ctext) :
    renderM nc [] d = some (String.ofList (stripAnsi ctext.toList)) :=
  E2EP.color_text_then_strip nc d hn ctext hc

/-- … and the colour text exists whenever the plain text does -/
theorem color_text_exists (nc : NumCodec) (d : Diff) (hn : NoEsc nc d) (text : String)
    (hr : renderM nc [] d = some text) :
    ∃ ctext, renderM nc [.color] d = some ctext ∧ String.ofList (stripAnsi ctext.toList) = text :=
  E2EP.color_text_exists nc d hn text hr

/-- **`jd -color a b`, ANSI stripped, `| jd -p`, SET / MULTISET + Precision** (the composition, as an
    instance): the stripped colour text is read back as a diff that patches `a` to a document that
    `Equals` `b` -/
theorem color_strip_end_to_end_set_precision (F : FloatEq0) (L : FloatLaws) (nc : NumCodec)
    (o : Opts) (hm : dispatchTag o = .set ∨ dispatchTag o = .mset) (hk : keysOf o = none)
    (hmg : isMerge o = false) (M : DPL.PrecMono o) (a b : Json)
    (ha : a.setDoc = true) (hb : b.setDoc = true)
    (hva : E2E.voidFree a = true) (hvb : E2E.voidFree b = true)
    (HF : HashFaithful (stripPrec o) (subterms a ++ subterms b))
    (hv : ∀ z ∈ subterms a ++ subterms b, ValOK nc z ∧ E2EP.NoEscVal nc z)
    (hpth : ∀ h ∈ diffM o a b, PathOK nc h.path ∧ E2EP.NoEscPath nc h.path)
    (ctext : String) (hc : renderM nc [.color] (diffM o a b) = some ctext) :
    ∃ d', readDiffM nc (String.ofList (stripAnsi ctext.toList)) = .ok d' ∧
      ∃ r, patchM a d' = .ok r ∧ equals o r b = true ∧ equivB (stripPrec o) r b = true :=
  E2EP.color_strip_end_to_end_set_precision F L nc o hm hk hmg M a b ha hb hva hvb HF hv hpth ctext hc

/-- **a text with a line (not the first) that starts with ESC is never read as a diff**
    (`E2EP.HasEscLine s`: `s = pre ++ "\n" ++ ESC ++ rest`): the reader allows the header ESC in no
    state. No hypothesis on the codec. -/
theorem esc_line_not_read (nc : NumCodec) (s : String) (h : E2EP.HasEscLine s) (d : Diff) :
    readDiffM nc s ≠ .ok d :=
  E2EP.esc_line_not_read nc s h d

/-- **the colour text of a diff is NOT input for the reader** as soon as one hunk `h` prints a `-` /
    `+` line (`E2EP.printsChange h`; every hunk of the reader's domain does:
    `wfHunk_prints_change`) and is not of the shape "one string removed, one string added"
    (`hsingle`): the colour code precedes the `-` / `+` header, so the line starts with ESC. No
    hypothesis on the codec. -/
theorem color_diff_not_read (nc : NumCodec) (d : Diff) (s : String)
    (hs : renderM nc [.color] d = some s) (h : Hunk) (hh : h ∈ d)
    (hsingle : ∀ x y, ¬ (h.remove = [.str x] ∧ h.add = [.str y]))
    (hp : E2EP.printsChange h = true) (d' : Diff) : readDiffM nc s ≠ .ok d' :=
  E2EP.color_diff_not_read nc d s hs h hh hsingle hp d'

theorem wfHunk_prints_change {h : Hunk} (hw : wfHunk h = true) : E2EP.printsChange h = true :=
  E2EP.wfHunk_printsChange hw

/-- **the character-level shape is not reader input either** (witness): `@ ["a"]` / `- "ab"` /
    `+ "ac"` in colour is `- "a<red>b<reset>"` / `+ "a<green>c<reset>"`; no line starts with ESC, but the
    raw ESC inside the JSON string makes the JSON reader fail: `ReadDiffString` returns an error
    (the library-level content of `C14.color_breaks_round_trip`) -/
theorem char_level_not_read :
    wfDiff E2EP.CharWitness.cDiff = true ∧
    (∃ x y, E2EP.CharWitness.cDiff = [{ path := [.key "a"], remove := [.str x], add := [.str y] }]) ∧
    ∃ text, renderM exCodec [.color] E2EP.CharWitness.cDiff = some text ∧
      readDiffM exCodec text = .err :=
  E2EP.CharWitness.char_level_not_read

/-- **"the colour text is never read back" is FALSE for a degenerate hunk** (witness): `@ ["s"]` /
    `- "x"` / `+ "x"` (the same string removed and added; `Diff` never produces it) is coloured
    nowhere — every rune is in the common sequence — so its colour text IS its plain text and the
    reader returns the diff -/
theorem same_string_is_read :
    wfDiff E2EP.CharWitness.sDiff = true ∧
    renderM exCodec [.color] E2EP.CharWitness.sDiff = renderM exCodec [] E2EP.CharWitness.sDiff ∧
    ∃ text, renderM exCodec [.color] E2EP.CharWitness.sDiff = some text ∧
      readDiffM exCodec text = .ok E2EP.CharWitness.sDiff :=
  E2EP.CharWitness.same_string_is_read

/-! ## Non-vacuity.  `E2EP.Example.nA` = `{"n":1,"s":[1,{"k":2}]}`, `nB` = `{"n":3,"s":[{"k":2},3]}`,
    `oS` = `[SET, Precision(0.001)]`, `oM` = `[MULTISET, Precision(0.001)]`, codec `exCodec`: every
    decidable hypothesis holds by evaluation, the codec contract (success, no newline, read back, no
    ESC) is proved on all twelve sub-terms (`E2EP.Example.vals`) and on the paths of the diffs
    (`paths`, `merge_paths`), `HashFaithful` relative to reflexivity of `|x - x| ≤ 0` (`hf_set`,
    `hf_mset`); only the IEEE laws remain as assumptions. -/

example : E2EP.Example.nA.setDoc = true ∧ E2EP.Example.nB.setDoc = true ∧
    E2E.voidFree E2EP.Example.nA = true ∧ E2E.voidFree E2EP.Example.nB = true ∧
    E2EP.Example.nB.nullFree = true ∧ Merge.objVoidFree E2EP.Example.nB = true ∧
    nonnegBits E2EP.Example.eps = true ∧
    dispatchTag E2EP.Example.oS = .set ∧ keysOf E2EP.Example.oS = none ∧
    isMerge E2EP.Example.oS = false ∧ precOf E2EP.Example.oS = E2EP.Example.eps ∧
    stripPrec E2EP.Example.oS = [.set] :=
  ⟨E2EP.Example.docs.1, E2EP.Example.docs.2.1, E2EP.Example.docs.2.2.1, E2EP.Example.docs.2.2.2.1,
    E2EP.Example.docs.2.2.2.2.1, E2EP.Example.docs.2.2.2.2.2.1,
    E2EP.Example.docs.2.2.2.2.2.2.2.2.2.2.2, rfl, rfl, rfl, rfl, rfl⟩

/-- (P1) on the pair, SET and MULTISET with `Precision(0.001)` -/
theorem example_set_precision (F : FloatEq0) (L : FloatLaws) (o : Opts)
    (ho : o = E2EP.Example.oS ∨ o = E2EP.Example.oM) (M : DPL.PrecMono o) :
    ∃ text d' r, renderM exCodec [] (diffM o E2EP.Example.nA E2EP.Example.nB) = some text ∧
      readDiffM exCodec text = .ok d' ∧ patchM E2EP.Example.nA d' = .ok r ∧
      equals o r E2EP.Example.nB = true ∧ equivB (stripPrec o) r E2EP.Example.nB = true ∧
      (dispatchTag o = .set → equivB o r E2EP.Example.nB = true) :=
  E2EP.Example.ex_set_precision F L o ho M

/-- (P3) on the pair, `[MERGE, SET, Precision(0.001)]` and `[MERGE, MULTISET, Precision(0.001)]` -/
theorem example_setMerge_precision (F : FloatEq0) (L : FloatLaws) (o : Opts)
    (ho : o = .merge :: E2EP.Example.oS ∨ o = .merge :: E2EP.Example.oM) (M : DPL.PrecMono o) :
    ∃ text d' r, renderM exCodec [] (diffM o E2EP.Example.nA E2EP.Example.nB) = some text ∧
      readDiffM exCodec text = .ok d' ∧ patchM E2EP.Example.nA d' = .ok r ∧
      equals o r E2EP.Example.nB = true ∧ equivB (stripPrec o) r E2EP.Example.nB = true ∧
      (dispatchTag o = .set → equivB o r E2EP.Example.nB = true) :=
  E2EP.Example.ex_mergeSet_precision F L o ho M

/-- (P4) on the pair, `[MERGE, Precision(0.001)]` -/
theorem example_merge_precision (L : FloatLaws)
    (M : DPL.PrecMono [.merge, .prec E2EP.Example.eps]) :
    ∃ text d' r,
      renderM exCodec [] (diffM [.merge, .prec E2EP.Example.eps] E2EP.Example.nA E2EP.Example.nB)
        = some text ∧
      readDiffM exCodec text = .ok d' ∧ patchM E2EP.Example.nA d' = .ok r ∧
      equals [.merge, .prec E2EP.Example.eps] r E2EP.Example.nB = true ∧
      equivB [.merge, .prec E2EP.Example.eps] r E2EP.Example.nB = true :=
  have ⟨_, _, _, _, _, b4, a1, a2, b1, b2, b5, hp⟩ := E2EP.Example.docs
  E2EP.diff_print_read_patch_mergeList_precision L exCodec [.merge, .prec E2EP.Example.eps] rfl rfl hp
    M _ _ a1 a2 b1 b2 b4 b5
    (fun z hz => ⟨(E2EP.Example.vals_B z hz).1, (E2EP.Example.vals_B z hz).2.1⟩)
    (by
      rw [Merge.diffM_eq_dl [.merge, .prec E2EP.Example.eps] rfl rfl _ _ a2 b2 b4]
      exact E2ES.paths_mh_textOK exCodec _)

/-- (P2) SetKeys + Precision: the pair of the SetKeys end-to-end example (`E2EK.Example`, keys `id`,
    `k`; its documents hold no numbers) satisfies every hypothesis for
    `[SetKeys("id","k"), Precision(0.001)]`, for which `stripPrec` gives `[SetKeys("id","k")]` -/
example : stripPrec [.setKeys ["id", "k"], .prec E2EP.Example.eps] = [.setKeys ["id", "k"]] ∧
    DPK.KeysHyp (stripPrec [.setKeys ["id", "k"], .prec E2EP.Example.eps]) ["id", "k"]
      DPK.ExampleB.exA DPK.ExampleB.exB :=
  ⟨rfl, DPK.ExampleB.ex_keysHyp⟩

/-- (P5) on the pair under `[SET, Precision(0.001)]`: the colour text EXISTS, `ReadDiffString` returns
    NO diff for it, and with the ANSI sequences stripped it is read back and patches `nA` to a
    document that `Equals` `nB` -/
theorem example_color (F : FloatEq0) (L : FloatLaws) (M : DPL.PrecMono E2EP.Example.oS) :
    ∃ ctext, renderM exCodec [.color] (diffM E2EP.Example.oS E2EP.Example.nA E2EP.Example.nB)
        = some ctext ∧
      (∀ d', readDiffM exCodec ctext ≠ .ok d') ∧
      ∃ d' r, readDiffM exCodec (String.ofList (stripAnsi ctext.toList)) = .ok d' ∧
        patchM E2EP.Example.nA d' = .ok r ∧ equals E2EP.Example.oS r E2EP.Example.nB = true :=
  E2EP.Example.ex_color F L M

end Jd.Props.C02Precision

-- the runs on the model (runtime evaluation; the codec formats small integers itself)
#eval Jd.renderM Jd.NativeRT.exCodec []
  (Jd.diffM Jd.E2EP.Example.oS Jd.E2EP.Example.nA Jd.E2EP.Example.nB)
#eval Jd.renderM Jd.NativeRT.exCodec [.color]
  (Jd.diffM Jd.E2EP.Example.oS Jd.E2EP.Example.nA Jd.E2EP.Example.nB)
#eval Jd.renderM Jd.NativeRT.exCodec []
  (Jd.diffM [.merge, .prec Jd.E2EP.Example.eps] Jd.E2EP.Example.nA Jd.E2EP.Example.nB)
#eval (Jd.renderM Jd.NativeRT.exCodec [.color] Jd.E2EP.CharWitness.cDiff,
       Jd.renderM Jd.NativeRT.exCodec [.color] Jd.E2EP.CharWitness.sDiff)
