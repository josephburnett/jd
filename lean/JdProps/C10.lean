/-
  Property C10 — RFC 6902 input is read faithfully (never more permissive than the RFC).
  Statement file (proofs in JdProofs/PatchNeverMorePermissive.lean, namespace `Jd.NMP`: the main claim
  and parse-back with the full reader; JdProofs/PatchParseBack.lean, namespace `Jd.PB`: parse-back for
  the element loop, composed there with PatchRender and StrictPatch; JdProofs/PatchOwnOutput.lean,
  namespace `Jd.Own`: the LAST SENTENCE of the property as a closed theorem about `Diff`, section 2b).

  Model side (JdModel/PatchFmt.lean, JdModel/Pointer.lean):
    `readPatchOps ops`   `ReadPatchString` on the list of operations `{op, path, value}`: the element
                         loop `readPatchLoop` (context inference from up to three consecutive
                         operations, coalescing of same-path elements), THEN `checkPatchContext` on
                         every element with the operations it consumed as context (`ctxOf`; D28,
                         below);
    `readPatchDoc doc`   the same from the parsed JSON document of the patch text (`patchOpsOfJson`);
    `readPointer s`      jd's JSON Pointer reader (D30, below: a token is an index only if it
                         is `0` or digits without a leading zero; `-` = append; every other token a
                         member name; a `~` not followed by `0`/`1` is an error);
    `writePointerPath`, `renderPatchOps d`   what `Diff.RenderPatch` writes; `patchM t d` = `t.Patch(d)`.
  Spec side: `eval t (ops.map PatchOp.toSpec)` (JdSpec/Rfc6902.lean), an evaluator of RFC 6902 written
  from the RFC, independent of jd; `parsePointer` (RFC 6901). Results are compared up to the Go dynamic
  type of array nodes (`untag`).

  THE MAIN STATEMENT (section 1): `never_more_permissive` — for EVERY list of operations `ops` that
  `ReadPatchString` accepts, on every document `t`: if `t.Patch` of what was read succeeds with `r`,
  the RFC 6902 evaluation of THE SAME operations on `t` succeeds with the same result. jd may be
  stricter, never more permissive or different. It is not restricted to jd's own output or to a
  grammar of variations: the quantifier is over all accepted operation lists.
    `never_more_permissive_all_pointers`    THE STRONGEST FORM: no hypothesis
                                            on the spelling of the pointer texts; only `NMP.idxTokensOK`
                                            (index tokens below 2^53). Variants `_min`,
                                            `_from_entry_point`, `checked_patch_…_all_pointers`;
                                            `repaired_reader_is_injective` is why it holds. The
                                            statements below with `canonPtr` are corollaries;
    `never_more_permissive_rfc6901`         the pointer hypothesis stated with the independent RFC 6901
                                            parser, the range hypothesis in minimal form;
    `never_more_permissive_from_entry_point` from the parsed patch document (`readPatchDoc`);
    `checked_patch_never_more_permissive`    every hypothesis as ONE executable predicate
                                            `NMP.checkedPatch ops : Bool`; `grammar_is_checked`: jd's own
                                            layout (grammar `NMP.Gwf`) satisfies it;
    `accepted_patch_is_faithful`            WHY it holds: what the reader accepts is a fixed point of
                                            read-then-write (`NMP.Faithful d ops`: re-rendering the diff
                                            read gives the operations back, up to the value member of
                                            `remove`, which RFC 6902 ignores);
    `reader_element_shapes`                 the nine ways the reader forms one element: which
                                            operations are consumed as context, which as edits.

  DEFECT D28 (/repo commit dca0b4d "check that JSON Patch context tests are adjacent to the edit").
  For the element loop ALONE the theorem needs the HYPOTHESIS `Faithful d ops`, and not as an artefact:
  the element loop takes `test` operations in front of an edit for context lines looking only at the
  LAST index of their pointers, and without a check jd applies patches that RFC 6902 rejects (or
  applies them differently): witnesses proved on the model and replayed on the Go code. The reader
  runs `checkPatchContext`, so the hypothesis is a THEOREM (`accepted_patch_is_faithful`), and the
  witnesses are REGRESSIONS (section 3): the reader rejects each of them.
    `fixed_context_of_another_array`             `test /a/0 "x"; add /b/1 "y"` (a test of ANOTHER array);
    `fixed_non_test_taken_as_context`            `test /1 "b"; remove /3; add /2 "x"` (not a `test`);
    `fixed_context_indices_unchecked`            `test /0 "a"; test /5 "b"; add /3 "x"` (unrelated indices);
    `fixed_after_context_vs_coalesced_removals`  after-context test vs removals coalesced later;
    `fixed_unrestricted_goal_witness`            the witness that refutes the goal for the loop alone is
                                                 not read at all.
  (What the element loop ALONE does with these witnesses is in the proof file: `NMP.loop_alone_…`.)

  DEFECT D30 (section 4): RFC 6901 TOKEN SYNTAX. A `readPointer` that parses index tokens with
  `strconv.Atoi` and unescapes with the jsonpointer library is more lenient than RFC 6901: the
  pointers `/01` (leading zero), slash-minus-one (a sign; read as "append") and `/~2` (an escape
  the RFC does not allow) are accepted and applied by jd and rejected by the RFC — jd MORE PERMISSIVE.
  v2/pointer.go makes a token an index only if `strconv.Itoa(number) == t` and runs
  `checkPointerEscapes`; the witnesses are regressions
  (`fixed_noncanonical_index_tokens`, `fixed_index_token_reading`, `fixed_invalid_escape_rejected`,
  `before_repair_readings_applied`, `fixed_pointers_not_canonical`, `fixed_canonical_pointers_witness`),
  and the main statement has no hypothesis on the spelling of the pointer TEXTS:
    `NMP.idxTokensOK s`       Bool: every reference token of `s` that is an RFC 6901 array index is below
                              2^53 (the model's `int → float64` conversion is exact there; the same
                              kind of hypothesis as `HunkRange`) — the ONLY pointer hypothesis;
    `NMP.ptrOKr s`            Bool: if `readPointer s = .ok p` then `p` consists of member names and
                              indices in [−1, 2^53) and `NMP.wpL p` (the path token by token, number-like
                              member names NOT refused) is `s`; follows from `idxTokensOK`
                              (`repaired_reader_is_injective`) and from `canonPtr`;
    `NMP.canonPtr s`          Bool, the stronger hypothesis of the corollaries: `readPointer s = .ok p`, `p` consists of keys
                              `writePointer` accepts and indices in [−1, 2^53), and `writePointerPath p`
                              writes `s` back (the text is what jd itself writes);
    `NMP.canonicalPointer s`  Bool, in RFC 6901 terms only: `parsePointer` accepts `s` and every token
                              that `strconv.Atoi` accepts is the decimal text of an index in [0, 2^53);
                              it implies `canonPtr` (`canonical_pointer_rfc6901`).

  PARSE-BACK, "reading jd's own JSON Patch output and applying it to a reproduces b" (section 2), with
  the reader with the context check: `own_layout_passes_context_check` (every diff of the grammar `NMP.Gwf`:
  jd's layout per hunk, any values, any indices in [0, 2^53), appends at `-`),
  `own_output_reads_back_full_reader`, `render_read_patch_full_reader` (domain `PBwf` of list-mode
  diffs, through the library's `Patch`), `grammar_accepted_and_never_more_permissive`. Section 5 has
  the statements about the element loop alone (`readPatchLoop`), from which
  the full-reader statements are proved.

  THE LAST SENTENCE, CLOSED (section 2b). The statements of section 2 take "`d` lies in the grammar
  `PBwf`", `jdShaped`, `hunkListDoc` and "`d` turns `a` into `b`" as HYPOTHESES about the diff. For
  `d = a.Diff(b)` (list reading, strict strategy) they are THEOREMS about `Diff`, and the sentence
  is stated about the library functions only — `diffM`, `renderPatchOps` (`RenderPatch`), `readPatchOps`
  (`ReadPatchString`: element loop AND context check), `patchM` (`Patch`) — with NO hypothesis about hunks:
    `produced_diff_hunk_shapes`    every hunk of `a.Diff(b)` is `Own.OwnH` (strict; a plain replacement
                                   without context at a path that does not end in an index, or a list
                                   hunk with one context line on each side whose before-context is a
                                   real value only at an index ≥ 1) and the paths of the hunks are
                                   PAIRWISE DIFFERENT (the inter-hunk condition of the grammar);
    `produced_diff_in_grammar`, `…_of_paths`   `PBwf (a.Diff(b))`, every hunk `jdShaped`, `hunkListDoc`;
    `own_patch_output_reproduces_target` (all object keys expressible as JSON Pointer tokens),
    `…_of_paths` (sharp: the paths of the diff are expressible, which is exactly when `RenderPatch`
    succeeds), `…_noPrecision`, `…_rawDoc` (documents as read from text):
        `RenderPatch(a.Diff(b))` succeeds with operations `ops`; `ReadPatchString` reads `ops` to a diff
        `d'` (the normal form `normPB (a.Diff(b))`); `a.Patch(d')` succeeds with a list document `r` that
        is structurally equal to `b` (both ways) and `Equals` `b` under the options of the diff.
    `object_against_void_not_in_grammar`: the ONE diff of the domain outside the grammar, `{…}.Diff(void)`
        (`- {…}` / `+ void` at the root: it adds the void marker). `RenderPatch` skips an addition whose
        first value is void, the operations are those of the hunk `- {…}` alone, which is in the
        grammar; the closed theorems INCLUDE this pair (only `d' = normPB …` is stated outside it).
  Hypotheses of section 2b and why: `dispatchTag o = .list`, `isMerge o = false` (C10 is a list-mode
    property); `a.listDoc`, `a.wf`, `a.finiteNums`, the same of `b`, `DPL.HashOK o a b`, `DPL.ZeroOK a b`,
    `FloatLaws`: the C01 list theorem (the native diff applies); `PRC.vfree a`, `PRC.vfree b` (no void
    marker inside), `PRC.lenLe Na a`, `PRC.lenLe Nb b`, `Na + Nb < 2^53` (indices written travel through a
    float64): the domain of JdProofs/PatchRenderClosed.lean; `PRC.keysExpressible` (decidable: a key is
    not number-like and not "-") or `PRC.PE h.path` for the hunks; `FloatEq0` (different paths are not
    coalesced by the reader); `DPL.PrecMono o` for `Equals` under a Precision option; and
    `Own.elemsRaw a` (Bool): no array node that is an ELEMENT of an array of `a` is a typed `jsonList`
    (root and object members may be typed; nothing is asked of `b`). It follows from `a.rawDoc`
    (`raw_documents_have_no_typed_list_element`), i.e. it holds of every document a reader produces.
    It CANNOT be dropped — `typed_list_element_witness` (genuine; replayed on the Go code):
    `[null, [true]]` whose inner array is a typed `jsonList`, against `[null, [false]]` as read from
    text. Every other hypothesis holds (`typed_list_element_witness_hypotheses`), the native diff applies,
    `RenderPatch` succeeds (`test /1 [true]; remove /1 [true]; add /1 [false]`), `ReadPatchString` ACCEPTS
    these operations — and `Patch` of what was read FAILS: `jsonList.diff` type-asserts the other side
    without dispatching it and replaces the element wholesale, a hunk at an array index WITHOUT
    context lines; the reader turns "no context test" into the boundary marker on both sides, and a
    void before-context matches at index 0 only. NO READER PRODUCES SUCH A NODE: documents read from
    JSON / YAML text carry plain `jsonArray` nodes only; the state arises only when `Patch` stores a
    patched child into the receiver's backing array. A boundary of the domain, with a witness.

  HYPOTHESES and why
    `FloatLaws` (symmetry / reflexivity of IEEE `|x − y| ≤ eps`, opaque to the kernel): a context `test`
       compares document and patch value in the other order than jd's patch does;
    `FloatEq0` (`|x − y| ≤ +0` only for `x = y`): the reader coalesces two elements, and
       `checkPatchContext` compares the parents of context pointers, by `Equals` on paths whose index
       elements are float64; without the law nothing excludes that `/1` and `/2` are coalesced;
    `t.wf`, `t.listDoc`: unique sorted keys (Go map), no set / multiset typed node: the domain of C03
       (the library's `Patch` = documented meaning of strict hunks) and of the RFC simulation;
    `NMP.valueOK o.value` (Bool): not the void marker, well-formed, list-mode — what `json.Unmarshal`
       produces (derived from the parsed document in `never_more_permissive_from_entry_point`);
    `NMP.idxTokensOK o.path`: see D30 above (the only pointer hypothesis of the `_all_pointers`
       statements); `NMP.canonPtr o.path` / `NMP.canonicalPointer o.path`: the stronger
       hypothesis of the corollaries; holds of jd's own output;
    `HunkRange h` for the elements read (indices written below 2^53: they travel through a float64);
       for accepted canonical patches it reduces to `i + |Remove| < 2^53`
       (`never_more_permissive_rfc6901`);
    `PBwf d`, `NMP.Gwf d` (Bool): the domain of parse-back — strict hunks, key / index paths
       expressible as JSON Pointers, at most one line of context per side, adjacent hunks told apart
       (sections 2 and 5; for `d = a.Diff(b)` a theorem: section 2b).
    An element at the append index (`-`) that removes, or an `add` at `-` after context tests, is
    NOT excluded by a hypothesis: where the reader accepts them jd's `Patch` never applies them, so
    the main statement holds for them too.

  NOT PROVED / OUTSIDE: the text layer around the operations (JSON decoding of the patch document is
  `json.Unmarshal`, external; `never_more_permissive_from_entry_point` starts from the parsed
  document); operations other than `test` / `remove` / `add` (the reader rejects them); pointer texts
  with an array index token of 2^53 or more (outside the range of the model's index conversion); set / multiset readings and the merge strategy (C10
  is a list-mode property); the last sentence for a first document with a typed `jsonList` ELEMENT
  (false there: `typed_list_element_witness`; no reader produces such a node). The converse (jd accepts
  whatever the RFC accepts) is not claimed: jd may be stricter.
-/
import JdProofs.PatchParseBack
import JdProofs.PatchNeverMorePermissive
import JdProofs.PatchOwnOutput
import JdProps.C09Text

set_option autoImplicit false

namespace Jd.Props.C10
open Jd Jd.Spec Jd.PB

/-! ## 1. Never more permissive than RFC 6902: every operation list the reader accepts

  Names of `Jd.NMP` are written qualified. -/

/-- **C10, the main statement under `canonPtr`** (a corollary of
    `never_more_permissive_all_pointers` below). For EVERY list of operations `ops` (real values, pointer texts in the
    spelling jd writes) that `ReadPatchString` accepts, reading the diff `d`: on every document `t`, if
    `t.Patch(d)` succeeds with `r`, then the independent RFC 6902 evaluation of the same operations on
    `t` succeeds with the same result (up to the Go type of array nodes) -/
theorem never_more_permissive (L : FloatLaws) (F : FloatEq0) {ops : List PatchOp}
    {d : Diff} {t r : Json} (hw : t.wf = true) (hl : t.listDoc = true)
    (hv : ∀ o ∈ ops, NMP.valueOK o.value = true) (hc : ∀ o ∈ ops, NMP.canonPtr o.path = true)
    (hread : readPatchOps ops = .ok d) (hrange : ∀ h ∈ d, HunkRange h)
    (hp : patchM t d = .ok r) :
    ∃ r', eval t (ops.map PatchOp.toSpec) = some r' ∧ untag r' = untag r :=
  NMP.readPatchOps_never_more_permissive L F hw hl hv hc hread hrange hp

/-- **C10, the main statement WITHOUT a hypothesis on the spelling of the pointer texts** (D30).
    For EVERY list of operations `ops` that `ReadPatchString` accepts, on every
    document `t`: if `t.Patch(d)` succeeds with `r`, the RFC 6902 evaluation of the same operations
    succeeds with the same result. The only pointer hypothesis is `NMP.idxTokensOK o.path`
    (Bool): every reference token that IS an RFC 6901 array index (`0`, or digits without a leading
    zero) is below 2^53 — the range in which the model's `int → float64` conversion of an index is
    exact, the same kind of hypothesis as `HunkRange`. Tokens such as `01`, `+1`, `-1`, `-0`, `007`,
    the empty token and escaped names need no hypothesis: they are member names for jd and for
    RFC 6902 alike; a text with an invalid `~` escape is never accepted -/
theorem never_more_permissive_all_pointers (L : FloatLaws) (F : FloatEq0) {ops : List PatchOp}
    {d : Diff} {t r : Json} (hw : t.wf = true) (hl : t.listDoc = true)
    (hv : ∀ o ∈ ops, NMP.valueOK o.value = true)
    (hidx : ∀ o ∈ ops, NMP.idxTokensOK o.path = true)
    (hread : readPatchOps ops = .ok d) (hrange : ∀ h ∈ d, HunkRange h)
    (hp : patchM t d = .ok r) :
    ∃ r', eval t (ops.map PatchOp.toSpec) = some r' ∧ untag r' = untag r :=
  NMP.readPatchOps_never_more_permissive_all_pointers L F hw hl hv hidx hread hrange hp

/-- … with the range hypothesis on the elements read in minimal form (`i + |Remove| < 2^53`) -/
theorem never_more_permissive_all_pointers_min (L : FloatLaws) (F : FloatEq0)
    {ops : List PatchOp} {d : Diff} {t r : Json} (hw : t.wf = true) (hl : t.listDoc = true)
    (hv : ∀ o ∈ ops, NMP.valueOK o.value = true)
    (hidx : ∀ o ∈ ops, NMP.idxTokensOK o.path = true)
    (hread : readPatchOps ops = .ok d)
    (hafter : ∀ h ∈ d, ∀ i, lastIdx? h.path = some i → i + (h.remove.length : Int) < 2 ^ 53)
    (hp : patchM t d = .ok r) :
    ∃ r', eval t (ops.map PatchOp.toSpec) = some r' ∧ untag r' = untag r :=
  NMP.readPatchOps_never_more_permissive_all_pointers_min L F hw hl hv hidx hread hafter hp

/-- … from the entry point (the parsed JSON document of the patch) -/
theorem never_more_permissive_all_pointers_from_entry_point (L : FloatLaws) (F : FloatEq0)
    {doc : Json} {ops : List PatchOp} {d : Diff} {t r : Json} (hw : t.wf = true)
    (hl : t.listDoc = true) (hdw : doc.wf = true) (hdl : doc.listDoc = true)
    (hdv : Yaml.voidFree doc = true) (hdoc : patchOpsOfJson doc = .ok ops)
    (hidx : ∀ o ∈ ops, NMP.idxTokensOK o.path = true)
    (hread : readPatchDoc doc = .ok d) (hrange : ∀ h ∈ d, HunkRange h)
    (hp : patchM t d = .ok r) :
    ∃ r', eval t (ops.map PatchOp.toSpec) = some r' ∧ untag r' = untag r :=
  NMP.readPatchDoc_never_more_permissive_all_pointers L F hw hl hdw hdl hdv hdoc hidx hread hrange hp

/-- … with every hypothesis as ONE executable predicate (`NMP.checkedPatchAll`: real values, index
    tokens below 2^53, accepted by `ReadPatchString`, indices written below 2^53) -/
theorem checked_patch_never_more_permissive_all_pointers (L : FloatLaws) (F : FloatEq0)
    {ops : List PatchOp} {t : Json} (hf : NMP.checkedPatchAll ops = true) (hw : t.wf = true)
    (hl : t.listDoc = true) :
    ∃ d, readPatchOps ops = .ok d ∧
      ∀ r, patchM t d = .ok r →
        ∃ r', eval t (ops.map PatchOp.toSpec) = some r' ∧ untag r' = untag r :=
  NMP.checkedPatchAll_never_more_permissive L F hf hw hl

/-- **why `canonPtr` is not needed: the reader is injective.** `NMP.ptrOKr s` (Bool): IF
    `readPointer` accepts `s`, the path read consists of member names and indices in [−1, 2^53) and
    writing it token by token (`NMP.wpL`: escaped member names — number-like ones included —,
    decimal indices, `-`) gives `s` back. It holds of every text whose index tokens are below
    2^53: a valid escape is re-escaped to itself, an index token is the canonical decimal text
    of its index, every other token is a member name. (D30: a reader that makes an index of `01`
    reads `/01` and `/1` to the same path.) -/
theorem repaired_reader_is_injective {s : String} (h : NMP.idxTokensOK s = true) :
    NMP.ptrOKr s = true :=
  NMP.ptrOKr_of_idxTokens h

/-- `canonPtr` implies `ptrOKr` -/
theorem canonical_pointer_is_reader_canonical {s : String} (h : NMP.canonPtr s = true) :
    NMP.ptrOKr s = true :=
  NMP.ptrOKr_of_canonPtr h

/-- the fixed-point statement without `canonPtr`: re-rendering (jd's layout, pointers written by
    `NMP.wpL`) the diff read gives the operations back -/
theorem accepted_patch_is_faithful_all_pointers (F : FloatEq0) {ops : List PatchOp} {d : Diff}
    (hv : ∀ o ∈ ops, o.value.isVoid = false) (hidx : ∀ o ∈ ops, NMP.idxTokensOK o.path = true)
    (hread : readPatchOps ops = .ok d)
    (happ : ∀ h ∈ d, lastIdx? h.path = some (-1) → h.remove = []) : NMP.Faithful d ops :=
  NMP.readPatchOps_faithful_all_pointers F hv hidx hread happ

/-- non-vacuity: the pointer slash-zero-one (outside `canonPtr`) satisfies `idxTokensOK`, and the
    theorem speaks about an actual run: on `{}` jd's `Patch` of what was read from `add /01 "x"`
    succeeds, and RFC 6902 evaluation agrees -/
example (L : FloatLaws) (F : FloatEq0) :
    NMP.idxTokensOK "/01" = true ∧ NMP.canonPtr "/01" = false ∧
    ∃ r r', patchM (.obj []) NMP.w4Diff = .ok r ∧
      eval (.obj []) (NMP.w4Ops.map PatchOp.toSpec) = some r' ∧ untag r' = untag r :=
  ⟨NMP.idxTokensOK_01, NMP.fixed_pointers_not_canonical.1, NMP.ex_all_pointers L F⟩

/-- `never_more_permissive` with the hypothesis on the pointers in RFC 6901 terms only (`NMP.canonicalPointer`: the
    independent parser accepts the text, and a token `strconv.Atoi` accepts is the decimal text of an
    index in [0, 2^53)) and the range hypothesis in minimal form: `i + |Remove|`, the index of the
    after-context line, is below 2^53 for every element read -/
theorem never_more_permissive_rfc6901 (L : FloatLaws) (F : FloatEq0)
    {ops : List PatchOp} {d : Diff} {t r : Json} (hw : t.wf = true) (hl : t.listDoc = true)
    (hv : ∀ o ∈ ops, NMP.valueOK o.value = true)
    (hc : ∀ o ∈ ops, NMP.canonicalPointer o.path = true)
    (hread : readPatchOps ops = .ok d)
    (hafter : ∀ h ∈ d, ∀ i, lastIdx? h.path = some i → i + (h.remove.length : Int) < 2 ^ 53)
    (hp : patchM t d = .ok r) :
    ∃ r', eval t (ops.map PatchOp.toSpec) = some r' ∧ untag r' = untag r :=
  NMP.readPatchOps_never_more_permissive_rfc6901 L F hw hl hv hc hread hafter hp

/-- the RFC 6901 form of the pointer hypothesis implies the round-trip form (`readPointer` accepts
    the text and `writePointerPath` writes it back) -/
theorem canonical_pointer_rfc6901 {s : String} (h : NMP.canonicalPointer s = true) :
    NMP.canonPtr s = true :=
  NMP.canonPtr_of_canonicalPointer h

/-- from the entry point: the hypotheses on the parsed JSON document of the patch are what
    `json.Unmarshal` gives (unique keys, plain arrays, no void marker) -/
theorem never_more_permissive_from_entry_point (L : FloatLaws) (F : FloatEq0) {doc : Json}
    {ops : List PatchOp} {d : Diff} {t r : Json} (hw : t.wf = true) (hl : t.listDoc = true)
    (hdw : doc.wf = true) (hdl : doc.listDoc = true) (hdv : Yaml.voidFree doc = true)
    (hdoc : patchOpsOfJson doc = .ok ops) (hc : ∀ o ∈ ops, NMP.canonPtr o.path = true)
    (hread : readPatchDoc doc = .ok d) (hrange : ∀ h ∈ d, HunkRange h)
    (hp : patchM t d = .ok r) :
    ∃ r', eval t (ops.map PatchOp.toSpec) = some r' ∧ untag r' = untag r :=
  NMP.readPatchDoc_never_more_permissive L F hw hl hdw hdl hdv hdoc hc hread hrange hp

/-- every hypothesis as ONE executable predicate on the operations (`NMP.checkedPatch`: real values,
    canonical pointers, accepted by `ReadPatchString`, indices written below 2^53): the patch is read,
    and wherever jd applies what was read, RFC 6902 agrees -/
theorem checked_patch_never_more_permissive (L : FloatLaws) (F : FloatEq0) {ops : List PatchOp}
    {t : Json} (hf : NMP.checkedPatch ops = true) (hw : t.wf = true) (hl : t.listDoc = true) :
    ∃ d, readPatchOps ops = .ok d ∧
      ∀ r, patchM t d = .ok r →
        ∃ r', eval t (ops.map PatchOp.toSpec) = some r' ∧ untag r' = untag r :=
  NMP.checkedPatch_never_more_permissive L F hf hw hl

/-- the predicate is not empty: jd's own layout for every diff of the grammar `NMP.Gwf` (with real
    values) satisfies it -/
theorem grammar_is_checked (L : FloatLaws) (F : FloatEq0) {d0 : Diff} {ops : List PatchOp}
    (hG : NMP.Gwf d0 = true) (hr : NMP.rerender d0 = .ok ops)
    (hv : ∀ o ∈ ops, NMP.valueOK o.value = true) : NMP.checkedPatch ops = true :=
  NMP.grammar_checkedPatch L F hG hr hv

/-- **why the main statement holds — `Faithful`, a theorem about the reader (D28).** What
    `ReadPatchString` accepts is a fixed point of read-then-write: re-rendering the diff read gives
    the operations back (`NMP.Faithful d ops` = `∃ ops', NMP.rerender d = .ok ops' ∧ Forall₂ NMP.OpSim
    ops' ops`; `OpSim`: same `op`, same `path`, same `value` unless the op is `remove`). In particular
    every `test` consumed as a context line is the test jd writes for that line. (`happ`: an element
    at the append index does not remove; such an element never applies.) -/
theorem accepted_patch_is_faithful (F : FloatEq0) {ops : List PatchOp} {d : Diff}
    (hv : ∀ o ∈ ops, o.value.isVoid = false) (hc : ∀ o ∈ ops, NMP.canonPtr o.path = true)
    (hread : readPatchOps ops = .ok d)
    (happ : ∀ h ∈ d, lastIdx? h.path = some (-1) → h.remove = []) : NMP.Faithful d ops :=
  NMP.readPatchOps_faithful F hv hc hread happ

/-- **what the reader consumes, and as what**: whenever `readPatchDiffElement` (`readPatchHunk`)
    succeeds, the operations it consumed (`g`), the element it built and the operations it
    remembers as context (`ctxOf`) are in one of the nine shapes of `NMP.Shape`: `add`; `test`+`remove`
    at a key / at an index; one context `test` + `add` (after / before); two context operations +
    `add` / + `test`+`remove`; one context `test` + `test`+`remove` (after / before) -/
theorem reader_element_shapes {patch : List PatchOp} {e : Hunk} {rest : List PatchOp}
    (h : readPatchHunk patch = .ok (e, rest)) (hnv : ∀ o ∈ patch, o.value.isVoid = false) :
    ∃ g, patch = g ++ rest ∧ NMP.Shape g e (ctxOf patch) :=
  NMP.readPatchHunk_shape h hnv

/-! ## 2. Parse-back of jd's own output: the reader with the context check -/

/-- jd's own layout passes the context check: for every diff `d0` of the grammar `NMP.Gwf`,
    `ReadPatchString` reads the operations jd writes for `d0` (`NMP.rerender`: `renderPatchHunk`, an
    append hunk listing its values in application order) to the normal form of `d0` -/
theorem own_layout_passes_context_check (L : FloatLaws) (F : FloatEq0) (d0 : Diff)
    (hG : NMP.Gwf d0 = true) (ops : List PatchOp) (h : NMP.rerender d0 = .ok ops) :
    readPatchOps ops = .ok (d0.map NMP.normG) :=
  NMP.readPatchOps_rerender L F d0 hG ops h

/-- `ReadPatchString` reads what `Diff.RenderPatch` writes for a diff of the domain `PBwf` back to the
    diff in normal form (`own_output_reads_back` of section 5, for the full reader) -/
theorem own_output_reads_back_full_reader (L : FloatLaws) (F : FloatEq0) (d : Diff)
    (hwf : PBwf d = true) (ops : List PatchOp) (h : renderPatchOps d = .ok ops) :
    readPatchOps ops = .ok (normPB d) :=
  NMP.readPatchOps_render L F d hwf ops h

/-- **"reading jd's own JSON Patch output and applying it to a reproduces b"**: if the diff turns `a`
    into `b` (documented meaning of hunks; for `d = a.Diff(b)` this is C01), then what
    `ReadPatchString` reads from `RenderPatch(d)`, applied to `a` by the library's `Patch`, gives `b`
    (up to the Go type of array nodes) -/
theorem render_read_patch_full_reader (L : FloatLaws) (F : FloatEq0) (d : Diff)
    (hwf : PBwf d = true) (hs : d.all jdShaped = true) (hld : d.all hunkListDoc = true)
    (ops : List PatchOp) (h : renderPatchOps d = .ok ops)
    (a b : Json) (ha : a.listDoc = true) (hab : applyStrictAll a d = some b) :
    ∃ d' r, readPatchOps ops = .ok d' ∧ patchM a d' = .ok r ∧ untag r = untag b :=
  NMP.readPatchOps_render_patch L F d hwf hs hld ops h a b ha hab

/-- on the grammar the two halves together: `ReadPatchString` ACCEPTS jd's own layout, and wherever
    jd's `Patch` applies what was read, RFC 6902 evaluation of the operations agrees -/
theorem grammar_accepted_and_never_more_permissive (L : FloatLaws) (F : FloatEq0) {d0 : Diff}
    {ops : List PatchOp} {t : Json}
    (hG : NMP.Gwf d0 = true) (hr : NMP.rerender d0 = .ok ops)
    (hv : ∀ o ∈ ops, NMP.valueOK o.value = true) (hw : t.wf = true) (hl : t.listDoc = true) :
    readPatchOps ops = .ok (d0.map NMP.normG) ∧
    ∀ r, patchM t (d0.map NMP.normG) = .ok r →
      ∃ r', eval t (ops.map PatchOp.toSpec) = some r' ∧ untag r' = untag r :=
  NMP.grammar_never_more_permissive L F hG hr hv hw hl

/-! ## 2b. The last sentence of the property, closed: "reading jd's own JSON Patch output and
    applying it to a reproduces b"

  Names of `Jd.Own`, `Jd.PRC` and `Jd.DPL` are written qualified. `PRC.vfree x`: no void marker inside `x`;
  `PRC.lenLe N x`: every array of `x` has at most `N` elements; `PRC.keysExpressible x`: every object key
  of `x` can be written as a JSON Pointer token that reads back as that key (not number-like, not
  "-"); `PRC.PE p`: the path `p` is expressible; `Own.elemsRaw x`: no array node that is an ELEMENT of
  an array of `x` is a typed `jsonList`; `DPL.HashOK o a b`, `DPL.ZeroOK a b`: no hash collision / no `0`,
  `-0` pair between sub-terms of `a` and of `b` (C01). -/

/-- what a reader produces satisfies the extra hypothesis: a document whose array nodes are all
    plain `jsonArray` nodes has no typed `jsonList` element -/
theorem raw_documents_have_no_typed_list_element {a : Json} (h : a.rawDoc = true) :
    Own.elemsRaw a = true :=
  Own.elemsRaw_of_rawDoc h

/-- **the shape of the hunks of `a.Diff(b)`** (list reading, strict strategy): every hunk is `Own.OwnH`
    — strict; removed values are list documents, well-formed, finite; all payloads list documents;
    a plain replacement (no context, at most one value on each side) at a path that does NOT end
    in a list index, or a list hunk `pp ++ [idx s]` with one before- and one after-context line whose
    before-context is a real value only if `s ≥ 1` — and the paths of the hunks are PAIRWISE
    DIFFERENT (so the reader never coalesces two of them) -/
theorem produced_diff_hunk_shapes (o : Opts) (ho : dispatchTag o = .list) (hm : isMerge o = false)
    (a b : Json) (ha1 : a.listDoc = true) (ha2 : a.wf = true) (ha3 : a.finiteNums = true)
    (ha4 : PRC.vfree a = true) (ha5 : Own.elemsRaw a = true)
    (hb1 : b.listDoc = true) (hb2 : b.wf = true) :
    (∀ h ∈ diffM o a b, Own.OwnH h) ∧
    (diffM o a b).Pairwise (fun h1 h2 => h1.path ≠ h2.path) :=
  Own.diffM_own o ho hm a b ha1 ha2 ha3 ha4 ha5 hb1 hb2

/-- **`a.Diff(b)` lies in the parse-back grammar** (sharp form: the paths of the diff are
    expressible, which is exactly when `RenderPatch` succeeds). `(a.isObj && b.isVoid) = false`
    excludes the one diff outside the grammar (`object_against_void_not_in_grammar`) -/
theorem produced_diff_in_grammar_of_paths (F : FloatEq0) (o : Opts) (ho : dispatchTag o = .list)
    (hm : isMerge o = false) (a b : Json)
    (ha1 : a.listDoc = true) (ha2 : a.wf = true) (ha3 : a.finiteNums = true)
    (ha4 : PRC.vfree a = true) (ha5 : Own.elemsRaw a = true)
    (hb1 : b.listDoc = true) (hb2 : b.wf = true) (hb4 : PRC.vfree b = true)
    {Na Nb : Nat} (la : PRC.lenLe Na a = true) (lb : PRC.lenLe Nb b = true) (hN : Na + Nb < 2 ^ 53)
    (hv : (a.isObj && b.isVoid) = false) (hp : ∀ h ∈ diffM o a b, PRC.PE h.path) :
    PBwf (diffM o a b) = true ∧ (diffM o a b).all jdShaped = true ∧
      (diffM o a b).all hunkListDoc = true :=
  Own.diffM_in_grammar_of_paths o ho hm a b ha1 ha2 ha3 ha4 ha5 hb1 hb2 hb4 F la lb hN hv hp

/-- … when the object keys of `a` and `b` are expressible as JSON Pointer tokens -/
theorem produced_diff_in_grammar (F : FloatEq0) (o : Opts) (ho : dispatchTag o = .list)
    (hm : isMerge o = false) (a b : Json)
    (ha1 : a.listDoc = true) (ha2 : a.wf = true) (ha3 : a.finiteNums = true)
    (ha4 : PRC.vfree a = true) (ha5 : Own.elemsRaw a = true)
    (hb1 : b.listDoc = true) (hb2 : b.wf = true) (hb4 : PRC.vfree b = true)
    {Na Nb : Nat} (la : PRC.lenLe Na a = true) (lb : PRC.lenLe Nb b = true) (hN : Na + Nb < 2 ^ 53)
    (hv : (a.isObj && b.isVoid) = false)
    (ka : PRC.keysExpressible a = true) (kb : PRC.keysExpressible b = true) :
    PBwf (diffM o a b) = true ∧ (diffM o a b).all jdShaped = true ∧
      (diffM o a b).all hunkListDoc = true :=
  Own.diffM_in_grammar o ho hm a b ha1 ha2 ha3 ha4 ha5 hb1 hb2 hb4 F la lb hN hv ka kb

/-- the one diff of the domain that is NOT in the grammar: an object against "no document" is the
    single hunk `- {…}` / `+ void` at the root (`PRC.objVoidHunk`); it adds the void marker -/
theorem object_against_void_not_in_grammar (kvs : List (String × Json)) :
    PBwf [PRC.objVoidHunk kvs] = false := by
  simp [PBwf, PBwfH, PRC.objVoidHunk, Json.isVoid]

/-- **C10, last sentence, closed (sharp form).** For `a`, `b` in the C01 list domain, array lengths
    bounded with `Na + Nb < 2^53`, no typed `jsonList` node among the array elements of `a`, and the
    paths of `a.Diff(b)` expressible as JSON Pointers: `RenderPatch(a.Diff(b))` succeeds with operations
    `ops`; `ReadPatchString` (element loop AND context check) reads `ops` to a diff `d'` — the normal
    form `normPB (a.Diff(b))`, except for an object against void —; the library's `a.Patch(d')` succeeds
    with a list document `r` that is structurally equal to `b` (both ways) and `Equals` `b` under the
    options of the diff (`DPL.PrecMono o`: when there is a Precision option). There is no hypothesis
    about the hunks -/
theorem own_patch_output_reproduces_target_of_paths (L : FloatLaws) (F : FloatEq0) (o : Opts)
    (ho : dispatchTag o = .list) (hm : isMerge o = false) (a b : Json)
    (ha1 : a.listDoc = true) (ha2 : a.wf = true) (ha3 : a.finiteNums = true)
    (ha4 : PRC.vfree a = true) (ha5 : Own.elemsRaw a = true)
    (hb1 : b.listDoc = true) (hb2 : b.wf = true) (hb3 : b.finiteNums = true)
    (hb4 : PRC.vfree b = true)
    {Na Nb : Nat} (la : PRC.lenLe Na a = true) (lb : PRC.lenLe Nb b = true) (hN : Na + Nb < 2 ^ 53)
    (H : DPL.HashOK o a b) (Z : DPL.ZeroOK a b)
    (hp : ∀ h ∈ diffM o a b, PRC.PE h.path) :
    ∃ ops d' r, renderPatchOps (diffM o a b) = .ok ops ∧ readPatchOps ops = .ok d' ∧
      ((a.isObj && b.isVoid) = false → d' = normPB (diffM o a b)) ∧
      patchM a d' = .ok r ∧ specEq r b = true ∧ specEq b r = true ∧ r.listDoc = true ∧
      (DPL.PrecMono o → equivB o r b = true ∧ equals o r b = true) :=
  Own.own_patch_output_reproduces_target_of_paths L F o ho hm a b ha1 ha2 ha3 ha4 ha5 hb1 hb2 hb3 hb4
    la lb hN H Z hp

/-- **C10, last sentence, closed**: the same for documents all of whose object keys are expressible
    as JSON Pointer tokens (`PRC.keysExpressible`, decidable) -/
theorem own_patch_output_reproduces_target (L : FloatLaws) (F : FloatEq0) (o : Opts)
    (ho : dispatchTag o = .list) (hm : isMerge o = false) (a b : Json)
    (ha1 : a.listDoc = true) (ha2 : a.wf = true) (ha3 : a.finiteNums = true)
    (ha4 : PRC.vfree a = true) (ha5 : Own.elemsRaw a = true)
    (hb1 : b.listDoc = true) (hb2 : b.wf = true) (hb3 : b.finiteNums = true)
    (hb4 : PRC.vfree b = true)
    {Na Nb : Nat} (la : PRC.lenLe Na a = true) (lb : PRC.lenLe Nb b = true) (hN : Na + Nb < 2 ^ 53)
    (H : DPL.HashOK o a b) (Z : DPL.ZeroOK a b)
    (ka : PRC.keysExpressible a = true) (kb : PRC.keysExpressible b = true) :
    ∃ ops d' r, renderPatchOps (diffM o a b) = .ok ops ∧ readPatchOps ops = .ok d' ∧
      ((a.isObj && b.isVoid) = false → d' = normPB (diffM o a b)) ∧
      patchM a d' = .ok r ∧ specEq r b = true ∧ specEq b r = true ∧ r.listDoc = true ∧
      (DPL.PrecMono o → equivB o r b = true ∧ equals o r b = true) :=
  Own.own_patch_output_reproduces_target L F o ho hm a b ha1 ha2 ha3 ha4 ha5 hb1 hb2 hb3 hb4 la lb hN
    H Z ka kb

/-- the headline without a Precision option: what `ReadPatchString` reads from jd's own JSON Patch
    output, applied to `a`, gives a document that is structurally equal to `b` and `Equals` `b` -/
theorem own_patch_output_reproduces_target_noPrecision (L : FloatLaws) (F : FloatEq0) (o : Opts)
    (ho : dispatchTag o = .list) (hm : isMerge o = false) (hprec : precOf o = 0) (a b : Json)
    (ha1 : a.listDoc = true) (ha2 : a.wf = true) (ha3 : a.finiteNums = true)
    (ha4 : PRC.vfree a = true) (ha5 : Own.elemsRaw a = true)
    (hb1 : b.listDoc = true) (hb2 : b.wf = true) (hb3 : b.finiteNums = true)
    (hb4 : PRC.vfree b = true)
    {Na Nb : Nat} (la : PRC.lenLe Na a = true) (lb : PRC.lenLe Nb b = true) (hN : Na + Nb < 2 ^ 53)
    (H : DPL.HashOK o a b) (Z : DPL.ZeroOK a b)
    (ka : PRC.keysExpressible a = true) (kb : PRC.keysExpressible b = true) :
    ∃ ops d' r, renderPatchOps (diffM o a b) = .ok ops ∧ readPatchOps ops = .ok d' ∧
      patchM a d' = .ok r ∧ specEq r b = true ∧ equals o r b = true :=
  Own.own_patch_output_reproduces_target_noPrecision L F o ho hm hprec a b ha1 ha2 ha3 ha4 ha5 hb1 hb2
    hb3 hb4 la lb hN H Z ka kb

/-- **for documents as read from text** (`rawDoc`: every array node a plain `jsonArray`, what
    `ReadJsonString` / `ReadYamlString` produce): `elemsRaw` and `listDoc` follow, no hypothesis beyond
    the domain of C01 and of `RenderPatch` remains -/
theorem own_patch_output_reproduces_target_rawDoc (L : FloatLaws) (F : FloatEq0) (o : Opts)
    (ho : dispatchTag o = .list) (hm : isMerge o = false) (a b : Json)
    (ha1 : a.rawDoc = true) (ha2 : a.wf = true) (ha3 : a.finiteNums = true)
    (ha4 : PRC.vfree a = true)
    (hb1 : b.rawDoc = true) (hb2 : b.wf = true) (hb3 : b.finiteNums = true)
    (hb4 : PRC.vfree b = true)
    {Na Nb : Nat} (la : PRC.lenLe Na a = true) (lb : PRC.lenLe Nb b = true) (hN : Na + Nb < 2 ^ 53)
    (H : DPL.HashOK o a b) (Z : DPL.ZeroOK a b)
    (ka : PRC.keysExpressible a = true) (kb : PRC.keysExpressible b = true) :
    ∃ ops d' r, renderPatchOps (diffM o a b) = .ok ops ∧ readPatchOps ops = .ok d' ∧
      ((a.isObj && b.isVoid) = false → d' = normPB (diffM o a b)) ∧
      patchM a d' = .ok r ∧ specEq r b = true ∧ specEq b r = true ∧ r.listDoc = true ∧
      (DPL.PrecMono o → equivB o r b = true ∧ equals o r b = true) :=
  Own.own_patch_output_reproduces_target_rawDoc L F o ho hm a b ha1 ha2 ha3 ha4 hb1 hb2 hb3 hb4 la lb
    hN H Z ka kb

/-! ### `elemsRaw a` cannot be dropped (no reader produces such a node)

  `Own.Witness.wA` = `[null, [true]]` whose INNER array is a typed `jsonList` node, `Own.Witness.wB` =
  `[null, [false]]` as read from text; `Own.Witness.wOps` = `test /1 [true]; remove /1 [true]; add /1 [false]`;
  `Own.Witness.wRead` = the hunk `@ [1]` / `[` / `- [true]` / `+ [false]` / `]` (both context lines the array
  boundary marker). Documents read from JSON / YAML text never contain a typed `jsonList` element
  (`raw_documents_have_no_typed_list_element`); in Go the state arises only when `Patch` stores a
  patched child into the receiver's backing array. Replayed on the Go code. -/

/-- every hypothesis of `own_patch_output_reproduces_target` EXCEPT `elemsRaw` holds for the pair -/
theorem typed_list_element_witness_hypotheses :
    Own.Witness.wA.listDoc = true ∧ Own.Witness.wA.wf = true ∧ Own.Witness.wA.finiteNums = true ∧
    PRC.vfree Own.Witness.wA = true ∧
    Own.Witness.wB.listDoc = true ∧ Own.Witness.wB.wf = true ∧ Own.Witness.wB.finiteNums = true ∧
    PRC.vfree Own.Witness.wB = true ∧
    PRC.lenLe 2 Own.Witness.wA = true ∧ PRC.lenLe 2 Own.Witness.wB = true ∧ 2 + 2 < 2 ^ 53 ∧
    DPL.HashOK [] Own.Witness.wA Own.Witness.wB ∧ DPL.ZeroOK Own.Witness.wA Own.Witness.wB ∧
    PRC.keysExpressible Own.Witness.wA = true ∧ PRC.keysExpressible Own.Witness.wB = true ∧
    Own.elemsRaw Own.Witness.wA = false :=
  Own.Witness.hyps

/-- **the witness**: the native diff applies to `wA` and gives `wB` (C01); `RenderPatch` succeeds;
    `ReadPatchString` ACCEPTS the operations; but `Patch` of the diff read back returns an ERROR. The
    diff is in the grammar `PBwf` hunk-wise but its hunk is not `jdShaped`: a wholesale replacement
    at an ARRAY INDEX without context lines, which the reader reads as "both neighbours are the
    array boundary" -/
theorem typed_list_element_witness (L : FloatLaws) (F : FloatEq0) :
    (∃ r, applyStrictAll Own.Witness.wA (diffM [] Own.Witness.wA Own.Witness.wB) = some r ∧
      specEq r Own.Witness.wB = true) ∧
    renderPatchOps (diffM [] Own.Witness.wA Own.Witness.wB) = .ok Own.Witness.wOps ∧
    readPatchOps Own.Witness.wOps = .ok [Own.Witness.wRead] ∧
    patchM Own.Witness.wA [Own.Witness.wRead] = .err ∧
    PBwf (diffM [] Own.Witness.wA Own.Witness.wB) = true ∧
    (diffM [] Own.Witness.wA Own.Witness.wB).all jdShaped = false :=
  Own.Witness.typed_list_element_witness L F

/-! Non-vacuity of section 2b: `PRC.Example.exA` = `{"a~/b": [true, 1, [1], null], "k": null}`,
    `PRC.Example.exB` = `{"a~/b": [false, 1, [1, 1], null, null], "m": 1}` (five hunks, three of them list
    hunks, one in a nested list; eleven operations; a key that needs escaping): every hypothesis of
    the closed theorem holds (`PRC.Example.hyps`, `Own.Example.exA_elemsRaw`, `exA_rawDoc`); only the IEEE
    laws remain. An object against "no document" goes through the closed theorem as well. -/

example (L : FloatLaws) (F : FloatEq0) :
    ∃ ops d' r, renderPatchOps (diffM [] PRC.Example.exA PRC.Example.exB) = .ok ops ∧
      readPatchOps ops = .ok d' ∧ patchM PRC.Example.exA d' = .ok r ∧
      specEq r PRC.Example.exB = true ∧ equals [] r PRC.Example.exB = true := by
  obtain ⟨h1, h2, h3, h4, h5, h6, h7, h8, h9, h10, h11, h12, h13, h14, h15, _⟩ := PRC.Example.hyps L
  exact own_patch_output_reproduces_target_noPrecision L F [] rfl rfl rfl _ _ h1 h2 h3 h4
    Own.Example.exA_elemsRaw h5 h6 h7 h8 h9 h10 h11 h12 h13 h14 h15

example (L : FloatLaws) (F : FloatEq0) : PBwf (diffM [] PRC.Example.exA PRC.Example.exB) = true ∧
    (diffM [] PRC.Example.exA PRC.Example.exB).all jdShaped = true ∧
    (diffM [] PRC.Example.exA PRC.Example.exB).all hunkListDoc = true := by
  obtain ⟨h1, h2, h3, h4, h5, h6, _, h8, h9, h10, h11, _, _, h14, h15, h16⟩ := PRC.Example.hyps L
  exact produced_diff_in_grammar F [] rfl rfl _ _ h1 h2 h3 h4 Own.Example.exA_elemsRaw h5 h6 h8 h9
    h10 h11 h16 h14 h15

/-! ## 3. Regressions for D28 (the reader REJECTS every witness, as RFC 6902 does)

  `tst s v`, `rmv s v`, `adp s v` are the operations `test` / `remove` / `add` at the pointer `s` with
  value `v` (`Jd.PB`). What the element loop alone makes of each witness, what jd's `Patch` then does
  and what RFC 6902 gives is proved in JdProofs/PatchNeverMorePermissive.lean (`NMP.loop_alone_…`). -/

/-- F1, `NMP.w1Ops` = `test /a/0 "x"; add /b/1 "y"`: the element loop takes the test of `a[0]` as the before-context
    of the edit of `b` (jd would check `b[0]` and apply; RFC 6902 tests `a[0]` and rejects on
    `{"a":["z"],"b":["x"]}`). The reader: rejected, the parent of the context test is not the parent of the
    edit -/
theorem fixed_context_of_another_array :
    NMP.w1Ops = [tst "/a/0" (.str "x"), adp "/b/1" (.str "y")] ∧ readPatchOps NMP.w1Ops = .err :=
  ⟨rfl, NMP.fixed_context_of_another_array⟩

/-- F2, `NMP.w2Ops` = `test /1 "b"; remove /3; add /2 "x"`: the element loop takes the `remove` as the after-context
    line of the `add`, NOT to be executed. The reader: rejected, the operation taken as after-context is not
    a `test` -/
theorem fixed_non_test_taken_as_context :
    NMP.w2Ops = [tst "/1" (.str "b"), rmv "/3" (.str "c"), adp "/2" (.str "x")] ∧
    readPatchOps NMP.w2Ops = .err :=
  ⟨rfl, NMP.fixed_non_test_taken_as_context⟩

/-- F3, `NMP.w3Ops` = `test /0 "a"; test /5 "b"; add /3 "x"`: the element loop checks only `3 ≤ 5`; jd would compare
    the context lines with the elements at 2 and 3, RFC 6902 tests the elements at 0 and 5. The reader:
    rejected, the before test is at 0, not at 3 − 1 -/
theorem fixed_context_indices_unchecked :
    NMP.w3Ops = [tst "/0" (.str "a"), tst "/5" (.str "b"), adp "/3" (.str "x")] ∧
    readPatchOps NMP.w3Ops = .err :=
  ⟨rfl, NMP.fixed_context_indices_unchecked⟩

/-- F3b, `NMP.w7Ops` = `test /0 "b"; test /2 "a"; test /1 "r1"; remove /1; test /1 "r2"; remove /1`:
    with the element loop alone jd would check the after-context AFTER both (coalesced) removals,
    RFC 6902 checks it before them. The reader: rejected — the check runs once the elements are complete, with the removals coalesced into
    the element (`1 + 2 = 3 ≠ 2`). (`FloatLaws`: reading this patch coalesces two elements, which
    compares their paths with the opaque float `Equals`.) -/
theorem fixed_after_context_vs_coalesced_removals (L : FloatLaws) :
    NMP.w7Ops = [tst "/0" (.str "b"), tst "/2" (.str "a"), tst "/1" (.str "r1"),
      rmv "/1" (.str "r1"), tst "/1" (.str "r2"), rmv "/1" (.str "r2")] ∧
    readPatchOps NMP.w7Ops = .err :=
  ⟨rfl, NMP.fixed_after_context_vs_coalesced_removals L⟩

/-- the witness that refutes the main statement for the element loop alone
    (`NMP.loop_alone_unrestricted_goal_is_false`) does not reach `Patch`: nothing is read from it -/
theorem fixed_unrestricted_goal_witness : ¬ ∃ d, readPatchOps NMP.w1Ops = .ok d :=
  NMP.fixed_unrestricted_goal_witness

/-! ## 4. Regressions for D30: RFC 6901 token syntax

  `NMP.w4Ops` = `add` at the pointer slash-zero-one, `NMP.w5Ops` = `add` at the pointer slash-minus-one,
  `NMP.w6Ops` = `add` at the pointer slash-tilde-two, each with the value `"x"`; `NMP.w4Doc` = `["a","b"]`.
  `NMP.w4Diff`, `NMP.w5Diff`: what the reader builds (one hunk at the member name `01` / `-1`);
  `NMP.w4DiffOld`, `NMP.w5DiffOld`, `NMP.w6DiffOld`: the reading with the lenient token syntax of D30 (index 1, the
  append index, the member tilde-two). -/

/-- **D30, index tokens** (`strconv.Atoi` accepts a leading zero and a sign; RFC 6901 section 4 does
    not). The defect: jd reads slash-zero-one as index 1 and slash-minus-one as "append" and applies both to
    `["a","b"]`; RFC 6902 rejects both. The reader: the tokens are MEMBER NAMES; the patches are read, jd's
    `Patch` FAILS on the array as RFC 6902 does, and on the object `{}` jd and RFC 6902 both add the
    member `01` / `-1` -/
theorem fixed_noncanonical_index_tokens :
    (readPatchOps NMP.w4Ops = .ok NMP.w4Diff ∧ patchM NMP.w4Doc NMP.w4Diff = .err ∧
     eval NMP.w4Doc (NMP.w4Ops.map PatchOp.toSpec) = none ∧
     (∃ r, patchM (.obj []) NMP.w4Diff = .ok r ∧ untag r = .obj [("01", .str "x")]) ∧
     eval (.obj []) (NMP.w4Ops.map PatchOp.toSpec) = some (.obj [("01", .str "x")])) ∧
    (readPatchOps NMP.w5Ops = .ok NMP.w5Diff ∧ patchM NMP.w4Doc NMP.w5Diff = .err ∧
     eval NMP.w4Doc (NMP.w5Ops.map PatchOp.toSpec) = none ∧
     (∃ r, patchM (.obj []) NMP.w5Diff = .ok r ∧ untag r = .obj [("-1", .str "x")]) ∧
     eval (.obj []) (NMP.w5Ops.map PatchOp.toSpec) = some (.obj [("-1", .str "x")])) :=
  NMP.fixed_noncanonical_index_tokens

/-- what the pointer reader makes of the tokens: `01`, `-1`, `+1`, `-0` are member names, `-`
    alone is the append index, `0` and `1` are indices -/
theorem fixed_index_token_reading :
    readPointer "/01" = .ok [.key "01"] ∧ readPointer "/-1" = .ok [.key "-1"] ∧
    readPointer "/+1" = .ok [.key "+1"] ∧ readPointer "/-0" = .ok [.key "-0"] ∧
    readPointer "/-" = .ok [.idx (-1)] ∧ readPointer "/0" = .ok [.idx 0] ∧
    readPointer "/1" = .ok [.idx 1] :=
  NMP.fixed_index_token_reading

/-- **D30, escapes** (the defect: a `~` not followed by 0 or 1 is kept as text; RFC 6901 section 3 makes it an
    error). `readPointer` rejects slash-tilde-two and slash-a-tilde (`checkPointerEscapes`), the
    patch `add` at slash-tilde-two is not read; RFC 6902 evaluation rejects it too -/
theorem fixed_invalid_escape_rejected :
    readPointer "/~2" = .err ∧ readPointer "/a~" = .err ∧ readPatchOps NMP.w6Ops = .err ∧
    eval (.obj []) (NMP.w6Ops.map PatchOp.toSpec) = none :=
  NMP.fixed_invalid_escape_rejected

/-- what makes D30 a defect: the diffs a reader with the lenient token syntax
    builds from the three witnesses APPLY under jd's `Patch` where RFC 6902
    evaluation of the operations fails -/
theorem before_repair_readings_applied :
    ((∃ r, patchM NMP.w4Doc NMP.w4DiffOld = .ok r ∧
        untag r = .arr .raw [.str "a", .str "x", .str "b"]) ∧
     eval NMP.w4Doc (NMP.w4Ops.map PatchOp.toSpec) = none) ∧
    ((∃ r, patchM NMP.w4Doc NMP.w5DiffOld = .ok r ∧
        untag r = .arr .raw [.str "a", .str "b", .str "x"]) ∧
     eval NMP.w4Doc (NMP.w5Ops.map PatchOp.toSpec) = none) ∧
    ((∃ r, patchM (.obj []) NMP.w6DiffOld = .ok r ∧ untag r = .obj [("~2", .str "x")]) ∧
     eval (.obj []) (NMP.w6Ops.map PatchOp.toSpec) = none) :=
  NMP.before_repair_readings_applied

/-- none of the three pointer texts is canonical in the sense of `canonPtr` (the text jd itself
    writes): `01` and `-1` are member names that `writePointer` refuses, slash-tilde-two is not
    read -/
theorem fixed_pointers_not_canonical :
    NMP.canonPtr "/01" = false ∧ NMP.canonPtr "/-1" = false ∧ NMP.canonPtr "/~2" = false :=
  NMP.fixed_pointers_not_canonical

/-- `canonPtr` is not needed at the D30 witness (the pointer
    slash-zero-one on `["a","b"]`): the patch is read, every other hypothesis
    holds, and jd's `Patch` of what was read FAILS -/
theorem fixed_canonical_pointers_witness :
    readPatchOps NMP.w4Ops = .ok NMP.w4Diff ∧ (∀ h ∈ NMP.w4Diff, HunkRange h) ∧
    ¬ ∃ r, patchM NMP.w4Doc NMP.w4Diff = .ok r :=
  NMP.fixed_canonical_pointers_witness

/-! ## Non-vacuity of sections 1 and 2

  `NMP.exOps` = `test /0 "a"; test /2 "c"; test /1 "b"; remove /1; add /1 "x"` (a replacement with both
  context lines, what `RenderPatch` writes for `NMP.exDiff`), `NMP.exDoc` = `["a","b","c"]`: every
  hypothesis of the main statement holds (`ex_values`, `ex_canon`, `ex_readOps`, `ex_range`), jd's
  `Patch` applies (`ex_patch`), so the theorem speaks about an actual run. -/

example (L : FloatLaws) (F : FloatEq0) :
    (∀ o ∈ NMP.exOps, NMP.valueOK o.value = true) ∧ (∀ o ∈ NMP.exOps, NMP.canonPtr o.path = true) ∧
    readPatchOps NMP.exOps = .ok NMP.exDiff ∧ (∀ h ∈ NMP.exDiff, HunkRange h) ∧
    NMP.Gwf NMP.exDiff = true ∧ PBwf NMP.exDiff = true ∧
    renderPatchOps NMP.exDiff = .ok NMP.exOps :=
  ⟨NMP.ex_values, NMP.ex_canon, NMP.ex_readOps L F, NMP.ex_range, NMP.ex_gwf, NMP.ex_pbwf,
    NMP.ex_render⟩

example (L : FloatLaws) (F : FloatEq0) : ∃ r r', patchM NMP.exDoc NMP.exDiff = .ok r ∧
    eval NMP.exDoc (NMP.exOps.map PatchOp.toSpec) = some r' ∧ untag r' = untag r := by
  obtain ⟨r, hr, _⟩ := NMP.ex_patch
  obtain ⟨r', h1, h2⟩ := never_more_permissive L F (t := NMP.exDoc) (by decide) (by decide)
    NMP.ex_values NMP.ex_canon (NMP.ex_readOps L F) NMP.ex_range hr
  exact ⟨r, r', hr, h1, h2⟩

/-! ## 5. Parse-back, the element loop alone (JdProofs/PatchParseBack.lean)

  `readPatchLoop (ops.length + 1) ops []` is the element loop of `ReadPatchString` without the context
  check; `readPatchOps ops = .ok d` implies `readPatchLoop … = .ok d`. Domain `PBwf d` (Bool): strict
  hunks, key / index paths expressible as JSON Pointers, indices in [0, 2^53), at most one line of
  context per side, self-equal removed values, adjacent hunks on different paths (or the second
  with its own context) — what list-mode `Diff` produces: 162 409 model diffs were all inside it. -/

/-- the full reader only ever returns what the element loop read (the context check filters) -/
theorem full_reader_returns_what_the_loop_read {ops : List PatchOp} {d : Diff}
    (h : readPatchOps ops = .ok d) : readPatchLoop (ops.length + 1) ops [] = .ok d :=
  NMP.readPatchOps_loop h

/-- reading the operations jd rendered gives the diff back (normal form) -/
theorem own_output_reads_back (L : FloatLaws) (d : Diff) (hwf : PBwf d = true) (ops : List PatchOp)
    (h : renderPatchOps d = .ok ops) :
    readPatchLoop (ops.length + 1) ops [] = .ok (normPB d) :=
  readPatch_render L d hwf ops h

/-- the pointer layer round-trips -/
theorem pointer_reads_back {p : Path} {s : String} (hp : pathOK p = true)
    (hs : writePointerPath p = .ok s) : readPointer s = .ok p :=
  readPointer_write hp hs

/-- the read-back diff applies wherever the original applies, with the same result (reference semantics) -/
theorem read_back_diff_applies_like_original (L : FloatLaws) (d : Diff) (hwf : PBwf d = true)
    (hs : d.all jdShaped = true) (ops : List PatchOp) (h : renderPatchOps d = .ok ops) :
    ∃ d', readPatchLoop (ops.length + 1) ops [] = .ok d' ∧
      ∀ a b, applyStrictAll a d = some b → applyStrictAll a d' = some b :=
  ⟨normPB d, readPatch_render L d hwf ops h, applyStrictAll_normPB d hs⟩

/-- … and through the library's Patch: render, read back, patch reproduces what the diff does -/
theorem render_read_patch (L : FloatLaws) (d : Diff) (hwf : PBwf d = true)
    (hs : d.all jdShaped = true) (hld : d.all hunkListDoc = true)
    (ops : List PatchOp) (h : renderPatchOps d = .ok ops)
    (a b : Json) (ha : a.listDoc = true) (hab : applyStrictAll a d = some b) :
    ∃ d' r, readPatchLoop (ops.length + 1) ops [] = .ok d' ∧ patchM a d' = .ok r ∧ untag r = untag b :=
  readPatch_render_patch L d hwf hs hld ops h a b ha hab

#print axioms object_against_void_not_in_grammar
#print axioms read_back_diff_applies_like_original

end Jd.Props.C10
