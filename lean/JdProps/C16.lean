/-
  Property C16 — JSON and YAML are interchangeable carriers of a document.
  Statement file (proofs in JdProofs/YamlProofs.lean, namespace `Jd.Yaml`).

  WHAT THE MODEL IS (JdModel/Yaml.lean). YAML and JSON text emission / parsing is external code
  (encoding/json, gopkg.in/yaml.v2) and no text enters Lean. Modelled is jd's OWN glue:
    `rawM j`         `n.raw()`: the Go value (`interface{}`) handed to the encoder;
    `newJsonNodeM`   `NewJsonNode(interface{})` exactly as node.go has it: the Go value handed back by
                     the decoder is turned into a document, or refused;
    `Raw`            Go's `interface{}` universe as the decoders produce it;
    `yamlize`        the CONTRACT for `yaml.Unmarshal ∘ yaml.Marshal` on values `rawM` produces
                     (string-keyed maps come back as `map[interface{}]interface{}`; integral floats
                     below 10^6 come back as Go `int`; `-0` comes back as the int 0), checked against
                     the real yaml.v2 on every generated document by the harness;
    `jsonRoundTripM j = newJsonNodeM (rawM j)`             `ReadJsonString(n.Json())`
    `yamlRoundTripM j = newJsonNodeM (yamlize (rawM j))`   `ReadYamlString(n.Yaml())`.
  The spec is the identity: the document comes back.

  That strings which look like numbers, booleans, null or YAML syntax survive is part of the CONTRACT
  (`yamlize` returns strings unchanged: the emitter quotes them), checked on the real library; on the
  level of the glue a string is a string whatever it looks like, which is what the theorems say.

  WHAT IS STATED
    JSON carrier: the document comes back exactly (`json_round_trip`);
    YAML carrier: the document comes back exactly away from `-0` (`yaml_round_trip`), and with every
       `-0` replaced by `0` otherwise (`yaml_round_trip_up_to_sign_of_zero`; the counter-witness
       `yaml_loses_negative_zero` is known finding KF-C16-negzero);
    the two carriers give the same document (`yaml_equals_json`);
    for nodes with typed arrays (results of Patch in set modes): the `raw()` normal form comes back;
    one number through yaml.v2 (`number_through_yaml`); what the glue refuses (examples).
  KNOWN FINDING outside the contract: the object key `<<` (KF-C16-mergekey, yaml.v2 emits it unquoted).

  HYPOTHESES and why
    `j.rawDoc` (arrays are plain `jsonArray`: what a reader produces; otherwise use the `_norm` forms),
    `j.wf` (unique sorted keys = a Go map), `voidFree j` (void is not a JSON value: `raw()` would write
    the string ""), `finite j` (NaN / ±Inf are refused by `NewJsonNode`, see the examples),
    `noNegZero j` for the exact YAML statement.
-/
import JdProofs.YamlProofs
import JdProofs.JsonTextRoundTrip

namespace Jd.Props.C16
open Jd Jd.Yaml

/-- JSON carrier: `ReadJsonString(n.Json())` is `n` -/
theorem json_round_trip (j : Json) (hr : j.rawDoc = true) (hw : j.wf = true)
    (hv : voidFree j = true) (hf : finite j = true) : jsonRoundTripM j = .ok j :=
  json_carrier j hr hw hv hf

/-- JSON carrier, any node (typed arrays included): `raw()` comes back as its normal form -/
theorem json_round_trip_norm (j : Json) (hw : (rawNorm j).wf = true)
    (hv : voidFree (rawNorm j) = true) (hf : finite (rawNorm j) = true) :
    newJsonNodeM (rawM j) = .ok (rawNorm j) :=
  new_rawOf (rawNorm j) (rawDoc_rawNorm j) hw hv hf

/-- YAML carrier: `ReadYamlString(n.Yaml())` is `n` (no `-0` in the document) -/
theorem yaml_round_trip (j : Json) (hr : j.rawDoc = true) (hw : j.wf = true)
    (hv : voidFree j = true) (hf : finite j = true) (hz : noNegZero j = true) :
    yamlRoundTripM j = .ok j :=
  yaml_carrier j hr hw hv hf hz

/-- YAML carrier without the hypothesis on zero: `n` with every `-0` replaced by `0` -/
theorem yaml_round_trip_up_to_sign_of_zero (j : Json) (hr : j.rawDoc = true) (hw : j.wf = true)
    (hv : voidFree j = true) (hf : finite j = true) : yamlRoundTripM j = .ok (posZero j) :=
  yaml_carrier_posZero j hr hw hv hf

/-- YAML carrier, any node: the glue handles every shape `yamlize` produces -/
theorem yaml_round_trip_norm (j : Json) (hw : (rawNorm j).wf = true)
    (hv : voidFree (rawNorm j) = true) (hf : finite (rawNorm j) = true) :
    newJsonNodeM (yamlize (rawM j)) = .ok (posZero (rawNorm j)) :=
  new_yamlize_rawOf (rawNorm j) (rawDoc_rawNorm j) hw hv hf

/-- a document read from YAML equals the same document read from JSON -/
theorem yaml_equals_json (j : Json) (hr : j.rawDoc = true) (hw : j.wf = true)
    (hv : voidFree j = true) (hf : finite j = true) (hz : noNegZero j = true) :
    yamlRoundTripM j = jsonRoundTripM j := by
  rw [yaml_carrier j hr hw hv hf hz, json_carrier j hr hw hv hf]

/-- `unmarshal` (node_read.go) with a decoder satisfying the contract, on a non-blank rendering -/
theorem unmarshal_of_yaml_rendering (j : Json) (hr : j.rawDoc = true) (hw : j.wf = true)
    (hv : voidFree j = true) (hf : finite j = true) (hz : noNegZero j = true) :
    unmarshalM false (some (yamlize (rawM j))) = .ok j := by
  simpa [unmarshalM, yamlRoundTripM] using yaml_carrier j hr hw hv hf hz

/-- blank text is the void document, whatever the decoder would say -/
theorem unmarshal_of_blank_text (d : Option Raw) : unmarshalM true d = .ok .void := rfl

/-- one finite number through yaml.v2 (int detour below 10^6 included): the same number, except that
    `-0` becomes `0` -/
theorem number_through_yaml (b : UInt64) (hf : isFinite64 b = true) :
    newJsonNodeM (yamlizeNum b) = .ok (.num (posZeroBits b)) :=
  new_yamlizeNum b hf

/-- KF-C16-negzero: the sign of zero is what the YAML carrier loses -/
theorem yaml_loses_negative_zero : yamlRoundTripM (.num negZero) = .ok (.num 0) := by
  have h := yaml_carrier_posZero (.num negZero) rfl rfl rfl (by decide)
  simpa [posZero, posZeroBits] using h

/-! ### What the glue refuses (error values, never a wrong document) -/

/-- int64 / uint64 (only Go `int` is accepted), non-string keys, foreign types -/
example : newJsonNodeM (.int64 5) = .error .unsupported := rfl
example : newJsonNodeM (.uint64 5) = .error .unsupported := rfl
example : newJsonNodeM (.mapI [(.int 1, .str "a")]) = .error .unsupported := rfl
example : newJsonNodeM (.other "time.Time") = .error .unsupported := rfl
/-- NaN and +Inf (YAML `.nan`, `.inf`) are refused (repair D9) -/
example : newJsonNodeM (.f64 0x7ff8000000000000) = .error .unsupported := by
  have h : isFinite64 0x7ff8000000000000 = false := by decide
  simp [newJsonNodeM, h]
example : newJsonNodeM (.f64 0x7ff0000000000000) = .error .unsupported := by
  have h : isFinite64 0x7ff0000000000000 = false := by decide
  simp [newJsonNodeM, h]

/-! ### Non-vacuity

  `{"1e3":"true","k":["~","- x",1000,0.5],"n":null}`: keys and strings that look like a number, a
  boolean, null and YAML syntax, an integral number (int detour) and a fractional one. Every
  hypothesis holds (checked by evaluation), so both round trips return the document. -/

private def exDoc : Json :=
  .obj [("1e3", .str "true"),
        ("k", .arr .raw [.str "~", .str "- x", .num 0x408f400000000000, .num 0x3fe0000000000000]),
        ("n", .null)]

example : exDoc.rawDoc = true ∧ exDoc.wf = true ∧ voidFree exDoc = true ∧ finite exDoc = true ∧
    noNegZero exDoc = true := by decide

example : yamlRoundTripM exDoc = .ok exDoc ∧ jsonRoundTripM exDoc = .ok exDoc :=
  ⟨yaml_round_trip exDoc (by decide) (by decide) (by decide) (by decide) (by decide),
   json_round_trip exDoc (by decide) (by decide) (by decide) (by decide)⟩

/-! ## The JSON TEXT half: rendering a document as JSON and reading it back — JdProofs/JsonTextRoundTrip.lean (ns `Jd.JText`)

   The theorems above are about the glue (`NewJsonNode` / `raw()`); this one is about the TEXT: `Json()` of any
   well-formed, void-free document whose number tokens the codec round-trips (`JText.preOK nc n` = `wf ∧ voidFree ∧ NumOK nc`,
   the strconv graph supplied by the harness) parses back to the same document up to the Go dynamic type of its arrays
   (`rawNorm`: a typed set node is printed de-duplicated in hash order). All escapes, white space, duplicate-key and
   fuel questions of the codec are PROVED in that file; only the number tokens are a hypothesis. -/

theorem json_text_round_trip (nc : NumCodec) (n : Json)
    (hp : n.isVoid = true ∨ Jd.JText.preOK nc n = true) :
    ∃ s, jsonM nc n = some s ∧ readJsonM nc s = .ok (rawNorm n) :=
  Jd.JText.readJsonM_jsonM nc n hp

#print axioms json_round_trip_norm
#print axioms yaml_round_trip_norm
#print axioms yaml_equals_json
#print axioms unmarshal_of_yaml_rendering
#print axioms yaml_loses_negative_zero
end Jd.Props.C16
