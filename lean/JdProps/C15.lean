/-
  Property C15 — diffing and rendering are pure and deterministic.
  Statement file (proofs in JdProofs/MapOrder.lean).

  Two halves.
  (1) PURITY. The model's `diffM`, `equals`, `renderM`, `renderPatchM`, `renderMergeM`, `jsonM` are
      functions: they cannot change their arguments, and calling them again gives the same result.
      That the Go functions they model leave the caller-visible documents and diffs unchanged is not
      a theorem about the model but the content of the HISTORY correspondence of ./check C15 (every
      argument re-observed after every call, patch after the history = patch on fresh copies, whole
      batch re-executed in fresh processes).
  (2) INDEPENDENCE OF MAP ITERATION ORDER. The Go code ranges over maps without sorting in
      `jsonObject.Equals`, `readMetadata`, `pathIdent`, `newPathSetKeys`, `NewJsonNode`, `raw()`; the
      model visits the members of an object in list order. The theorems below say the model's result
      is the same for EVERY order of visiting (any permutation of a list with distinct keys — what a
      Go map guarantees), so representing a Go map by its sorted association list loses nothing, and
      the merge-patch reader (which sorts since fix 33ee725) produces its hunks in one fixed order.
-/
import JdProofs.MapOrder
import JdProofs.PathSites
import JdProofs.PathHeapProofs
import JdProps.C15Heap
import JdProps.C15Clone

namespace Jd.Props.C15
open Jd Jd.MapOrder

/-- `Equals` of two objects: the order in which either map is visited / stored is irrelevant -/
theorem equals_independent_of_member_order (o : Opts) {kvs₁ kvs₂ kvs'₁ kvs'₂ : List (String × Json)}
    (p : kvs₁.Perm kvs₂) (p' : kvs'₁.Perm kvs'₂) (hn' : (keys kvs'₁).Nodup) :
    equals o (.obj kvs₁) (.obj kvs'₁) = equals o (.obj kvs₂) (.obj kvs'₂) :=
  equals_obj_perm o p p' hn'

/-- metadata lines (`^ {...}`): accepted / rejected / Merge flag independent of the member order -/
theorem metadata_independent_of_member_order {kvs₁ kvs₂ : List (String × Json)} (p : kvs₁.Perm kvs₂) :
    readMetadataM (.obj kvs₁) = readMetadataM (.obj kvs₂) :=
  readMetadataM_perm p

/-- the identity used to find a keyed set member depends only on the key SET of the path object -/
theorem path_identity_independent_of_key_order (o : Opts) (kvs : List (String × Json))
    {po₁ po₂ : List (String × Json)} (p : po₁.Perm po₂) : pathIdent o kvs po₁ = pathIdent o kvs po₂ :=
  pathIdent_perm o kvs p

/-- the path element of a keyed member does not depend on the order of the SetKeys option's keys -/
theorem keyed_path_element_independent_of_key_order {ks₁ ks₂ : List String} (p : ks₁.Perm ks₂)
    (rest : Opts) (kvs : List (String × Json)) :
    newPathSetKeys (.setKeys ks₁ :: rest) kvs = newPathSetKeys (.setKeys ks₂ :: rest) kvs :=
  newPathSetKeys_perm_opts rfl rfl p kvs

/-- a Go map is faithfully represented by its sorted association list: every enumeration of the map
    gives the same sorted list, which is sorted and has the same lookups -/
theorem sorted_representative_is_canonical {kvs₁ kvs₂ : List (String × Json)} (p : kvs₁.Perm kvs₂)
    (hn : (keys kvs₁).Nodup) :
    sortKvs kvs₁ = sortKvs kvs₂ ∧ keysSorted (sortKvs kvs₁) = true ∧
      ∀ j, alookup j (sortKvs kvs₁) = alookup j kvs₁ :=
  ⟨sortKvs_perm p hn, keysSorted_sortKvs kvs₁, fun j => alookup_sortKvs hn j⟩

/-- diffs read from merge patches: one fixed hunk order whatever the enumeration of the patch object -/
theorem merge_reader_deterministic {kvs₁ kvs₂ : List (String × Json)} (p : kvs₁.Perm kvs₂)
    (hn : (keys kvs₁).Nodup) :
    readMergeDoc (.obj (sortKvs kvs₁)) = readMergeDoc (.obj (sortKvs kvs₂)) := by
  rw [sortKvs_perm p hn]

/-- non-vacuity: two different enumerations of a two-member map -/
example : ([("b", Json.null), ("a", Json.bool true)] : List (String × Json)).Perm [("a", .bool true), ("b", .null)] ∧
    (keys [("b", Json.null), ("a", Json.bool true)]).Nodup := by
  constructor
  · exact List.Perm.swap _ _ _
  · decide

/-! ### The renderers edit copies (aliasing discipline on the regenerated table of source sites)

   `Gen.pathSites` is regenerated from the Go source on every run (tools/pathfacts): for every index
   assignment into, in-place library call on (`slices.Reverse`, `sort.…`), or assignment through a pointer
   to a path / value slice in v2/ and lib/, the shape of the slice expression. The renderers may only
   edit COPIES of what the caller's diff holds (defects D11, D12 and D12-lib were exactly violations of
   this; D12-lib — v1 `RenderMerge` — was FOUND by this table). -/

/-- every slice a renderer edits in place is a copy of the caller's data -/
theorem renderers_edit_copies_only :
    (Gen.pathSites.filter Jd.PathSites.isWrite).all Jd.PathSites.ok = true :=
  Jd.PathSites.renderers_write_copies

/-- the table covers the diff-building files of both libraries and the renderers' in-place edits -/
theorem alias_table_covers_the_code :
    (["v2/object.go", "v2/list.go", "v2/set.go", "v2/multiset.go", "v2/diff_common.go", "v2/diff_read.go",
      "lib/object.go", "lib/list.go", "lib/set.go", "lib/multiset.go", "lib/diff_common.go", "lib/diff_read.go"].all
        (fun f => Gen.pathSites.any (fun s => s.1.startsWith f && s.2.1 == .store))) = true ∧
    (["v2/diff_write.go:Diff.RenderPatch", "v2/diff_write.go:Diff.RenderMerge", "lib/diff_write.go:Diff.RenderMerge",
      "v2/patch_common.go:patchAll", "lib/patch_common.go:patchAll"].all
        (fun f => Gen.pathSites.any (fun s => s.1.startsWith f && s.2.1 == .write))) = true :=
  ⟨Jd.PathSites.table_covers_the_diff_code.1, Jd.PathSites.table_covers_the_diff_code.2.2⟩

/-! ### Go slice semantics = functional model, under the discipline (refinement theorem)

   `PathHeap` (JdModel/PathHeap.lean) is an imperative model of Go slices over backing arrays: `append`
   writing in place when there is spare capacity, `clone`, `drop`, index assignment; programs are
   arbitrary nestings of "store in the result / pass to a callee / assign to a slot". For EVERY growth
   policy, a program whose expressions obey the discipline — exactly what the regenerated table of source
   sites is checked for above and in JdProps/C01, C17 — stores slices that, read at the END of the run, are
   the paths of the functional model; the caller's parameter and everything that existed before are
   unchanged. Witnesses (`PathHeap.Witness.*`): a non-fresh store is overwritten by a sibling at depth 3
   (the shape of six seeded changes), an unsafe expression or a write through a non-fresh slice changes the
   caller's data (the shape of D11 / D12 / D12-lib). -/

theorem go_slices_refine_functional_paths (grow : Nat → Nat) (prog : List PathHeap.Act)
    (hok : PathHeap.Act.okL prog = true) (h : PathHeap.Heap) (s : PathHeap.Slice) (v : s.valid h) :
    (PathHeap.Act.runL grow s prog h).2.map (PathHeap.read (PathHeap.Act.runL grow s prog h).1)
        = PathHeap.Act.valsL (PathHeap.read h s) prog ∧
    PathHeap.read (PathHeap.Act.runL grow s prog h).1 s = PathHeap.read h s ∧
    (∀ a n, a < h.length → (a ≠ s.arr ∨ n ≤ s.len) →
      ((PathHeap.Act.runL grow s prog h).1.getD a []).take n = (h.getD a []).take n) :=
  PathHeap.refinement grow prog hok h s v

/-- a program all of whose sites are in a table that passes the check is disciplined -/
theorem disciplined_of_table (table : List (PathHeap.SiteKind × PathHeap.SExpr))
    (htab : table.all (fun p => PathHeap.siteOk p.1 p.2) = true) (prog : List PathHeap.Act)
    (hsub : ∀ p ∈ PathHeap.Act.sitesL prog, p ∈ table) : PathHeap.Act.okL prog = true :=
  PathHeap.okL_of_table table htab prog hsub

/-- the shape of the path-alias defects: without the copy, two stored paths read the same at the end -/
theorem nonfresh_store_is_overwritten :
    (PathHeap.Act.runL PathHeap.growDouble PathHeap.Witness.s0 PathHeap.Witness.progAlias PathHeap.Witness.h0).2.map
        (PathHeap.read (PathHeap.Act.runL PathHeap.growDouble PathHeap.Witness.s0 PathHeap.Witness.progAlias PathHeap.Witness.h0).1)
      ≠ PathHeap.Act.valsL (PathHeap.read PathHeap.Witness.h0 PathHeap.Witness.s0) PathHeap.Witness.progAlias :=
  PathHeap.Witness.store_nonfresh_aliases

end Jd.Props.C15
