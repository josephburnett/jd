/-
  Property C15, aliasing half for VALUES — statement file (proofs in JdProofs/NodeHeapProofs.lean, model in
  JdModel/NodeHeap.lean).

  C15 says: Diff, Equals, Render, RenderPatch, RenderMerge, Json and Yaml do not change the documents or
  diffs they are given, and a diff still patches correctly after being rendered in any format. The
  functional model cannot even state the ways this failed in the Go code (D29, D29-lib, D33; D11 / D12 for
  the slices inside hunks): a call wrote through a map or a slice it SHARED with the caller's value.
  `JdModel/NodeHeap.lean` is an imperative model of Go values: a heap of maps and slice backing arrays,
  nodes that refer to them by address, the writes Go can do through a reference, and the library's
  `cloneNode` / `cloneNodes`. The theorems here say that `cloneNode` is a deep copy in the sense that
  matters — what it returns denotes the same value and shares NO address with anything that existed
  before — and that therefore no in-place edit of the copy, however long, can change the diff or the
  source document. The witnesses show that each of the two seeded weakenings of `cloneNode` (shallow copy;
  empty map returned as it is) breaks exactly this.

  Reading guide: `Heap` = list of objects (address = position); `HNode` = a Go interface value
  (`objRef a`, `arrRef tag a off len cap`, or an immutable scalar); `deref h g n : Option Json` = the
  functional value `n` denotes in `h` with fuel `g` (`none`: dangling, cyclic or too deep);
  `reach h g n` = the addresses that reading looks at; `Write` = one effect (`mapSet`, `mapDel`,
  `cellSet`, `alloc`), `runWrites` = a sequence of them.
-/
import JdProofs.NodeHeapProofs
import JdProofs.TableEval

namespace Jd.Props.C15Heap
open Jd Jd.NodeHeap

/-! ### the hypothesis "no dangling reference" and how to establish it -/

/-- `InB h n` (no reference dangles below `n`, at any depth) follows from two decidable checks: no object
    of the heap stores a reference beyond the heap (`closedHeap`), and `n`'s own reference is allocated.
    Go has no dangling pointers, so every heap that arises from a Go execution satisfies both. -/
theorem no_dangling_in_a_closed_heap {h : Heap} (hc : closedHeap h = true) {n : HNode}
    (hn : n.below h.length = true) : InB h n :=
  fun g => reach_induct (P := fun n => n.below h.length = true)
    (fun n a hn hadr => by simpa [HNode.below, hadr] using hn)
    (fun _ _ o _ _ ho => List.all_eq_true.1 (List.all_eq_true.1 hc o (List.mem_of_getElem? ho))) g hn

/-! ### (a) (b) (c): what `cloneNode` returns -/

/-- (a) SAME VALUE. If `n` has no dangling reference and the clone succeeds, the clone denotes what the
    original denotes — for every fuel `g`, so also "denotes nothing with this fuel" is preserved.
    `InB` is needed: `clone_needs_no_dangling` below. -/
theorem clone_denotes_the_same_value {f : Nat} {h h' : Heap} {n n' : HNode} (ib : InB h n)
    (hc : cloneNode f h n = some (h', n')) (g : Nat) : deref h' g n' = deref h g n :=
  (cloneNode_ok f h n h' n' ib hc).val g

/-- the clone succeeds with the very fuel with which the original denotes a value: success of
    `cloneNode` is not an extra assumption for values that exist -/
theorem clone_succeeds_on_values {f : Nat} {h : Heap} {n : HNode} {j : Json} (ib : InB h n)
    (hd : deref h f n = some j) : ∃ h' n', cloneNode f h n = some (h', n') :=
  cloneNode_total f h n j ib hd

/-- (b) FRESHNESS. Every address reachable from the clone was allocated by the clone: it is not an
    address of the old heap `h` (`h.length ≤ a`) and it exists in the new one. -/
theorem clone_reaches_only_new_addresses {f : Nat} {h h' : Heap} {n n' : HNode} (ib : InB h n)
    (hc : cloneNode f h n = some (h', n')) (g : Nat) :
    ∀ a ∈ reach h' g n', h.length ≤ a ∧ a < h'.length :=
  clone_fresh ib hc g

/-- (b') hence the clone shares nothing with any node `x` that existed before — the diff, the source
    document, anything — whether `x` is looked at in the old heap or in the new one -/
theorem clone_shares_nothing_with_old_values {f : Nat} {h h' : Heap} {n n' : HNode} (ib : InB h n)
    (hc : cloneNode f h n = some (h', n')) {x : HNode} (ibx : InB h x) (g g' : Nat) :
    ∀ a ∈ reach h' g n', a ∉ reach h g' x ∧ a ∉ reach h' g' x :=
  fun a ha => by
    have ok := cloneNode_ok f h n h' n' ib hc
    have hge := (ok.fresh g a ha).1
    refine ⟨fun hx => ?_, fun hx => ?_⟩
    · have := ibx g' a hx; omega
    · rw [reach_agree ok.agree ibx g'] at hx
      have := ibx g' a hx; omega

/-- (c) FRAME. The clone changes the content of no old address (it only allocates). -/
theorem clone_leaves_old_objects_alone {f : Nat} {h h' : Heap} {n n' : HNode} (ib : InB h n)
    (hc : cloneNode f h n = some (h', n')) :
    (∀ b, b < h.length → h'[b]? = h[b]?) ∧ ∃ e : List Obj, h' = runWrites h (e.map Write.alloc) :=
  have ok := cloneNode_ok f h n h' n' ib hc
  ⟨ok.agree, ok.ext.imp fun e he => by rw [runWrites_allocs]; exact he⟩

/-! ### (d): editing the copy cannot change the diff or the source document -/

/-- (d) After `cloneNode`, run ANY sequence of effects each of which is an allocation or writes into an
    object reachable from the clone (`m[k] = v`, `delete(m,k)`, `s[i] = v`, `append` into spare capacity
    — with ANY stored node `v`). Then every node `x` of the old heap denotes exactly what it denoted, at
    every fuel. Hypotheses: `ib`, `ibx` — no dangling references in the cloned node and in the observed
    node (needed: a dangling reference starts to denote something once its address is allocated);
    `hw` — the write targets are objects of the clone. -/
theorem editing_the_copy_changes_nothing_old {f : Nat} {h h1 : Heap} {n n1 : HNode} (ib : InB h n)
    (hc : cloneNode f h n = some (h1, n1)) (ws : List Write)
    (hw : ∀ w ∈ ws, ∀ a, w.target = some a → ∃ g, a ∈ reach h1 g n1)
    {x : HNode} (ibx : InB h x) (g : Nat) :
    deref (runWrites h1 ws) g x = deref h g x :=
  edits_below_clone_invisible ib hc ws hw ibx g

/-- (d), the `patchAll` shape: the values a hunk adds are handed to `patch` as `cloneNodes(de.Add)`;
    whatever is written below the copies, the hunk's own nodes keep their values -/
theorem editing_cloned_adds_changes_nothing_old {f : Nat} {h h1 : Heap} {adds adds1 : List HNode}
    (ib : ∀ x ∈ adds, InB h x) (hc : cloneNodes f h adds = some (h1, adds1)) (ws : List Write)
    (hw : ∀ w ∈ ws, ∀ a, w.target = some a → ∃ v ∈ adds1, ∃ g, a ∈ reach h1 g v)
    {x : HNode} (ibx : InB h x) (g : Nat) :
    deref (runWrites h1 ws) g x = deref h g x :=
  have ok := cloneNodes_ok ib hc
  writes_to_new_addresses_invisible ok.agree ws
    (fun w hwm a ha => by
      obtain ⟨v, hv, g', hg'⟩ := hw w hwm a ha
      exact (ok.fresh v hv g' a hg').1) ibx g

/-- (d), dynamic form. The targets of (d) are fixed when the clone is made; a real editor also allocates
    (further copies, new maps), hangs the new objects into the clone and edits THOSE. `okWrites w g root`
    is the executable discipline of an owner: each write goes into an object reachable from `root` at the
    time of the write, and stores only nodes that are immutable or refer to objects allocated at or after
    the watermark `w`. An editor that obeys it for the clone never changes the value of an old node. -/
theorem an_owner_of_the_copy_changes_nothing_old {f : Nat} {h h1 : Heap} {n n1 : HNode} (ib : InB h n)
    (hc : cloneNode f h n = some (h1, n1)) (g : Nat) (ws : List Write)
    (hok : okWrites h.length g n1 h1 ws = true) {x : HNode} (ibx : InB h x) (g' : Nat) :
    deref (runWrites h1 ws) g' x = deref h g' x :=
  have ok := cloneNode_ok f h n h1 n1 ib hc
  deref_agree (okWrites_agree (cloneNode_root_fresh ib hc) ws ok.agree ok.closed hok).1 ibx g'

/-- the general frame fact behind (d): effects that target no address of `h` cannot change the value of a
    node of `h` -/
theorem writes_to_new_objects_change_nothing_old {h h1 : Heap} (ag : Agree h h1) (ws : List Write)
    (hw : ∀ w ∈ ws, ∀ a, w.target = some a → h.length ≤ a) {x : HNode} (ibx : InB h x) (g : Nat) :
    deref (runWrites h1 ws) g x = deref h g x :=
  writes_to_new_addresses_invisible ag ws hw ibx g

/-- SEPARATION (what `Patch` needs, which edits its RECEIVER in place and is therefore not among the calls
    C15 declares pure): effects none of whose targets is reachable from `x` leave the value of `x` alone.
    With (b) this gives: a `Patch` that writes only into its receiver document and into the copies it made
    cannot change a diff (or any other value) that shares no object with the receiver. `hin`: no dangling
    reference below `x` at this fuel. -/
theorem writes_elsewhere_change_nothing {h : Heap} {x : HNode} {g : Nat}
    (hin : ∀ a ∈ reach h g x, a < h.length) (ws : List Write)
    (hw : ∀ w ∈ ws, ∀ a, w.target = some a → a ∉ reach h g x) :
    deref (runWrites h ws) g x = deref h g x :=
  writes_off_reach_invisible hin ws (fun _ _ => rfl) hw

/-- Go's slice operations are such effects: `s[i] = v` is a `cellSet` on the slice's backing array;
    `append` with spare capacity is a `cellSet` on it as well (IN PLACE: seen through every slice over the
    same cells); `append` without spare capacity is an allocation -/
theorem slice_operations_are_effects (grow : Nat → Nat) (h : Heap) (t : Tag) (a off len cap : Nat) (v : HNode) :
    (∀ i h', arrSet h (.arrRef t a off len cap) i v = some h' →
      i < len ∧ h' = Write.run h (.cellSet a (off + i) v)) ∧
    (len < cap → goAppend grow h (.arrRef t a off len cap) v =
      some (Write.run h (.cellSet a (off + len) v), .arrRef t a off (len + 1) cap)) ∧
    (¬ len < cap → ∀ h' s', goAppend grow h (.arrRef t a off len cap) v = some (h', s') →
      ∃ o, h' = Write.run h (.alloc o) ∧ s'.addr? = some h.length) :=
  ⟨fun _ _ e => arrSet_is_write e, fun hlt => goAppend_in_place hlt, fun hge _ _ e => goAppend_realloc hge e⟩

/-! ### non-vacuity: a concrete heap, its clone, a long edit -/

/-- `{"a":["1",{"x":"y"}],"e":{}}` built on the heap with one spare cell per array -/
def doc : Json := .obj [("a", .arr .list [.str "1", .obj [("x", .str "y")]]), ("e", .obj [])]

example : closedHeap (build 1 [] doc).1 = true ∧ (build 1 [] doc).2.below (build 1 [] doc).1.length = true := by
  decide
example : deref (build 1 [] doc).1 4 (build 1 [] doc).2 = some doc := rfl
example : (cloneNode 4 (build 1 [] doc).1 (build 1 [] doc).2).map (fun r => (reach r.1 4 r.2, (build 1 [] doc).1.length))
    = some ([7, 5, 4, 6], 4) := by decide
example : (cloneNode 4 (build 1 [] doc).1 (build 1 [] doc).2).map (fun r => deref r.1 4 r.2) = some (some doc) := rfl

/-- the hypotheses of the dynamic form hold for a five-step edit of the deep copy of `{"a":["x"]}`
    (overwrite an element, allocate a map, hang it into the copy, write into it, delete a key) … -/
theorem owner_discipline_satisfiable :
    closedHeap Witness.hS = true ∧ Witness.docS.below Witness.hS.length = true ∧
    cloneNode 3 Witness.hS Witness.docS
      = some (Witness.hS ++ [.arr [.str "x"], .map [("a", .arrRef .list 2 0 1 1)]], .objRef 3) ∧
    okWrites Witness.hS.length 4 (.objRef 3)
      (Witness.hS ++ [.arr [.str "x"], .map [("a", .arrRef .list 2 0 1 1)]]) Witness.editProg = true :=
  ⟨Witness.hS_closed.1, Witness.hS_closed.2, Witness.deep_run, Witness.editProg_ok⟩

/-- … the copy then reads `{"b":{"k":"v"}}` and the original still `{"a":["x"]}` -/
theorem owner_edit_result :
    deref (runWrites (Witness.hS ++ [.arr [.str "x"], .map [("a", .arrRef .list 2 0 1 1)]]) Witness.editProg) 4 (.objRef 3)
      = some (.obj [("b", .obj [("k", .str "v")])]) ∧
    deref (runWrites (Witness.hS ++ [.arr [.str "x"], .map [("a", .arrRef .list 2 0 1 1)]]) Witness.editProg) 4 Witness.docS
      = some (.obj [("a", .arr .list [.str "x"])]) :=
  Witness.editProg_result

/-- … and the discipline is not trivially true: it rejects storing an old node into the copy (the shape
    of D29: the diff's own value becomes part of the document) and writing into an old object -/
theorem owner_discipline_rejects_sharing :
    okWrites Witness.hS.length 4 (.objRef 3) (Witness.hS ++ [.arr [.str "x"], .map [("a", .arrRef .list 2 0 1 1)]])
      [.mapSet 3 "b" (.arrRef .list 0 0 1 1)] = false ∧
    okWrites Witness.hS.length 4 (.objRef 3) (Witness.hS ++ [.arr [.str "x"], .map [("a", .arrRef .list 2 0 1 1)]])
      [.cellSet 0 0 (.str "y")] = false :=
  Witness.okWrites_rejects

/-! ### each property of the deep copy matters (witnesses) -/

/-- A SHALLOW copy (new top-level map, nested array shared — `slices.Clone`, seeded change
    C03-clonenode-shallow-slices-clone; the shape of D29) of `{"a":["x"]}`: it denotes the same value, but
    it reaches the old address 0, and ONE write below the copy (`copy["a"][0] = "y"`) makes the ORIGINAL
    denote `{"a":["y"]}`. -/
theorem shallow_copy_lets_a_write_change_the_original :
    cloneShallow Witness.hS Witness.docS = some (Witness.hS ++ [.map [("a", .arrRef .list 0 0 1 1)]], .objRef 2) ∧
    deref (Witness.hS ++ [.map [("a", .arrRef .list 0 0 1 1)]]) 3 (.objRef 2) = deref Witness.hS 3 Witness.docS ∧
    (∃ g, 0 ∈ reach (Witness.hS ++ [.map [("a", .arrRef .list 0 0 1 1)]]) g (.objRef 2)) ∧
    deref Witness.hS 3 Witness.docS = some (.obj [("a", .arr .list [.str "x"])]) ∧
    deref (runWrites (Witness.hS ++ [.map [("a", .arrRef .list 0 0 1 1)]]) [.cellSet 0 0 (.str "y")]) 3 Witness.docS
      = some (.obj [("a", .arr .list [.str "y"])]) ∧
    Json.obj [("a", .arr .list [.str "x"])] ≠ Json.obj [("a", .arr .list [.str "y"])] :=
  ⟨Witness.shallow_run, Witness.shallow_same_value, Witness.shallow_write_changes_original.1,
   Witness.shallow_write_changes_original.2.1, Witness.shallow_write_changes_original.2.2.1,
   Witness.shallow_write_changes_original.2.2.2⟩

/-- Returning an EMPTY map as it is (seeded change C15-clonenode-empty-object-shared) on `{"a":{}}` — the
    value added by the first operation of `[add /a {}, add /a/b 1]`: the copy's `"a"` is the diff's own
    `{}`, and the second operation (`copy["a"]["b"] = 1`) makes the original denote `{"a":{"b":1}}`. An
    empty map has no content to share but it IS a place to write to. -/
theorem sharing_an_empty_map_lets_a_write_change_the_original :
    cloneNodeEmptyShared 3 Witness.hE Witness.docE = some (Witness.hE ++ [.map [("a", .objRef 0)]], .objRef 2) ∧
    (∃ g, 0 ∈ reach (Witness.hE ++ [.map [("a", .objRef 0)]]) g (.objRef 2)) ∧
    deref Witness.hE 3 Witness.docE = some (.obj [("a", .obj [])]) ∧
    deref (runWrites (Witness.hE ++ [.map [("a", .objRef 0)]]) [.mapSet 0 "b" (.num 1)]) 3 Witness.docE
      = some (.obj [("a", .obj [("b", .num 1)])]) ∧
    Json.obj [("a", .obj [])] ≠ Json.obj [("a", .obj [("b", .num 1)])] :=
  ⟨Witness.emptyShared_run, Witness.emptyShared_write_changes_original.1,
   Witness.emptyShared_write_changes_original.2.1, Witness.emptyShared_write_changes_original.2.2.1,
   Witness.emptyShared_write_changes_original.2.2.2⟩

/-- the real `cloneNode` on the same two inputs: the corresponding writes go to new addresses; the
    original keeps its value and the copy shows the edit -/
theorem deep_copy_on_the_same_inputs :
    (deref (runWrites (Witness.hS ++ [.arr [.str "x"], .map [("a", .arrRef .list 2 0 1 1)]]) [.cellSet 2 0 (.str "y")]) 3 Witness.docS
      = some (.obj [("a", .arr .list [.str "x"])]) ∧
     deref (runWrites (Witness.hS ++ [.arr [.str "x"], .map [("a", .arrRef .list 2 0 1 1)]]) [.cellSet 2 0 (.str "y")]) 3 (.objRef 3)
      = some (.obj [("a", .arr .list [.str "y"])])) ∧
    (cloneNode 3 Witness.hE Witness.docE = some (Witness.hE ++ [.map [], .map [("a", .objRef 2)]], .objRef 3) ∧
     deref (runWrites (Witness.hE ++ [.map [], .map [("a", .objRef 2)]]) [.mapSet 2 "b" (.num 1)]) 3 Witness.docE
      = some (.obj [("a", .obj [])]) ∧
     deref (runWrites (Witness.hE ++ [.map [], .map [("a", .objRef 2)]]) [.mapSet 2 "b" (.num 1)]) 3 (.objRef 3)
      = some (.obj [("a", .obj [("b", .num 1)])])) :=
  ⟨⟨Witness.deep_write_leaves_original.2.1, Witness.deep_write_leaves_original.2.2⟩,
   Witness.deep_run_empty, Witness.deep_write_leaves_original_empty.1, Witness.deep_write_leaves_original_empty.2⟩

/-- the hypothesis `InB` of (a) is needed: with a dangling second element the clone of a list succeeds
    and denotes a value although the original denotes none (the dangling address gets allocated by the
    clone of the first element) -/
theorem clone_needs_no_dangling :
    deref Witness.hD 3 (.arrRef .list 1 0 2 2) = none ∧
    (∃ h' n', cloneNode 3 Witness.hD (.arrRef .list 1 0 2 2) = some (h', n') ∧
      deref h' 3 n' = some (.arr .list [.obj [], .obj []])) :=
  Witness.dangling_needed

/-! ### the case analysis of `cloneNode` and the Go source -/

/-- the nodes `cloneNode` returns as they are (`default: return n`) are exactly the nodes that carry no
    reference, and for them nothing is allocated -/
theorem returned_as_is_iff_immutable (n : HNode) :
    (n.cloneCase = .asIs ↔ n.immutable = true) ∧
    (n.cloneCase = .asIs → ∀ f h, cloneNode (f+1) h n = some (h, n)) :=
  ⟨asIs_iff_immutable n, fun hn f h => cloneNode_asIs hn f h⟩

/-- a clone has the Go dynamic type of the original (`jsonList(cloneNodes(t))`), refers to nothing old,
    and a cloned slice has no spare capacity (`make([]JsonNode, len)`): an `append` to it reallocates -/
theorem clone_keeps_type_and_is_new {f : Nat} {h h' : Heap} {n n' : HNode} (ib : InB h n)
    (hc : cloneNode f h n = some (h', n')) :
    n'.goType = n.goType ∧ n'.freshFrom h.length = true ∧
    (∀ t a off len cap, n = .arrRef t a off len cap → ∃ a', n' = .arrRef t a' 0 len len) :=
  ⟨(cloneNode_keeps_type hc).1, cloneNode_root_fresh ib hc,
   fun t a off len cap e => by subst e; exact cloneNode_slice_full hc⟩

/-- REGENERATED TABLE (tools/pathfacts → `Gen.pathSites`), link to the model: in v2/ and lib/ `cloneNode`
    has exactly as many container-returning cases as the model has mutable kinds (five), and every one of
    them returns a copy. Seeded change C15-clonenode-empty-object-shared (`return t` inside the jsonObject
    case) adds a sixth, non-fresh site: this theorem then no longer checks. -/
theorem source_container_cases_match_the_model :
    (cloneNodeReturns "v2").length = modelContainerCases.length ∧
    (cloneNodeReturns "lib").length = modelContainerCases.length ∧
    ((cloneNodeReturns "v2") ++ (cloneNodeReturns "lib")).all (fun s => s.2.1 == .store && s.2.2.fresh) = true := by
  simp only [cloneNodeReturns, startsWith_eq_bytes]
  decide +kernel

/-- REGENERATED TABLE: the members are assigned into the new map / slice, `cloneNodes` returns a new
    slice, and `patchAll` of both libraries hands the added values over as DEEP copies -/
theorem source_fills_new_containers_and_hands_over_copies :
    (["v2/patch_common.go:cloneNode:write#1", "v2/patch_common.go:cloneNodes:write#1",
      "v2/patch_common.go:cloneNodes:store#1", "v2/patch_common.go:patchAll:write#1",
      "lib/patch_common.go:cloneNode:write#1", "lib/patch_common.go:cloneNodes:write#1",
      "lib/patch_common.go:cloneNodes:store#1", "lib/patch_common.go:patchAll:write#1"].all
        (fun l => Gen.pathSites.any (fun s => s.1 == l && s.2.2.fresh))) = true := by
  decide +kernel

/-- HAND-TRANSCRIBED TABLES (not regenerated — the generated table does not say WHICH type each case
    handles nor that the members are cloned RECURSIVELY; REPORT.md lists the facts tools/pathfacts would
    have to emit): the model's case list equals the type switch of `cloneNode` as read from the source, and
    each case follows Go's representation of the type (map → copied as a map, slice → copied as a slice,
    plain value → returned as it is) with the single exception of `jsonNull`, a `[]byte` that is returned
    SHARED. The model treats `null` as immutable; that is sound for aliasing because every jsonNull of
    the library has capacity 0 and is never indexed or appended to — see `no_write_through_capacity_0`. -/
theorem model_cases_are_the_source_cases :
    modelCloneCases = sourceCloneCases_asRead ∧
    (sourceCloneCases_asRead.zip sourceNodeRepr_asRead).all (fun p =>
      p.1.1 == p.2.1 &&
      (if p.1.1 == "jsonNull" then p.1.2 == .asIs && p.2.2 == .sliceType
       else match p.2.2 with
        | .mapType => p.1.2 == .copyMap
        | .sliceType => p.1.2 == .copySlice
        | .plain => p.1.2 == .asIs)) = true :=
  ⟨modelCloneCases_eq_source, cases_follow_representation_except_null⟩

/-- a slice of capacity 0 — every `jsonNull`, the `nil` that `cloneNodes(nil)` returns, an empty literal —
    cannot be written through: `s[i] = v` panics for every `i`, and `append` goes to a new array. Sharing
    one is unobservable by writes. (Contrast `sharing_an_empty_map_lets_a_write_change_the_original`.) -/
theorem no_write_through_capacity_0 (grow : Nat → Nat) (h : Heap) (t : Tag) (a off i : Nat) (v : HNode) :
    arrSet h (.arrRef t a off 0 0) i v = none ∧
    ∀ h' s', goAppend grow h (.arrRef t a off 0 0) v = some (h', s') →
      (∃ o, h' = Write.run h (.alloc o)) ∧ s'.addr? = some h.length :=
  cap0_no_write_through grow h t a off i v

end Jd.Props.C15Heap
