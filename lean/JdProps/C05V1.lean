/-
  Property C05, second sentence — "Consequently the CLI exits 0 exactly when the two inputs are equal
  under the flags given and 1 exactly when they differ" — and C14 ("exit 0 when there is no
  difference, 1 when there is, 2 on any error"), for the V1 LIBRARY: /repo/main.go (binary B) started
  with `-v2=false` calls package `lib` (model: `JdModel/V1/*`).
  Statement file. Proofs: JdProofs/CliExitCodesV1.lean (namespace `Jd.CliExitV1`).
  (JdProps/C05.lean states the clause for the v2 library.)

  HOW v1 MODE DECIDES THE EXIT STATUS (`diff` / `printDiff` of /repo/main.go): native format from the
  TEXT (`str != ""`), `-f patch` from the TEXT (`str != "[]"`), `-f merge` from `len(diff) > 0`; an
  error of `RenderPatch` / `RenderMerge` exits 2.

  VOCABULARY
    `CliRT.proc Ls b fl e`   THE PROCESS (JdProofs/CliRoundTrip.lean): the decision logic of `main`
                             run on what the library `Ls plan.v1` returns; `Ls true` is the v1 library;
    `CliV1.v1Lib nc Y`       the v1 library of the model as a `Lib` (JdProofs/CliRoundTripV1.lean);
    `CliV1.metasOf opts`     the `[]jd.Metadata` that `parseMetadata` built, as `V1.Metas`;
    `CliExitV1.DiffRun nc Y Ls b fl e a b'`   THE SITUATION: `Ls true = v1Lib nc Y`; `fl` is a diff
                             command line (no `-version`, `-port`, `-git-diff-driver`, `-p`, `-t`);
                             `libIsV1 b fl` (binary B with `-v2=false`); one or two arguments; both
                             inputs are read and parse (v1 reader for `-yaml`) to `a`, `b'`; writing
                             the `-o` file succeeds where asked for.  All about the command line and
                             the OS, none about the library;
    `ho : parsedOptions b fl = ok opts`   `main` accepted the flags (well-formed `-setkeys`, no
                             `-precision` with `-set` / `-mset`);
    `V1.equals (metasOf opts) a b'`       `a.Equals(b, metadata...)` of the v1 library.
-/
import JdProofs.CliExitCodesV1

set_option autoImplicit false

namespace Jd.Props.C05V1
open Jd Jd.Spec Jd.Cli Jd.CliRT Jd.CliRTM Jd.CliV1 Jd.CliExitV1

variable {nc : NumCodec} {Y : YamlCarrier} {Ls : Bool → LibPack} {b : Binary} {fl : Flags} {e : Env}
  {a b' : Json}

/-- **the two ways a v1 diff run ends.** In the situation `R`, with the flags accepted (`ho`) and a
    known format (`hf`): either the renderer of the format returned a text `T` — then `T` is what
    leaves the program (stdout or the `-o` file), nothing is logged, and the exit status is 1 when
    `haveDiff` (`T ≠ ""` / `T ≠ "[]"` / `len(diff) > 0`) and 0 otherwise — or the renderer
    (`RenderPatch`, `RenderMerge`) returned an error and the exit status is 2.  Nothing else. -/
theorem v1_exit_cases (R : DiffRun nc Y Ls b fl e a b') {opts : List Opt}
    (ho : parsedOptions b fl = .ok opts) {fmt : Format} (hf : formatOf fl.f = some fmt) :
    (∃ T, renderAs (v1Lib nc Y) fmt fl.color (V1.liftDiff (V1.diffM (metasOf opts) a b')) = .ok T ∧
      (proc Ls b fl e).exit = (if haveDiffOf fmt T (V1.diffM (metasOf opts) a b') then 1 else 0) ∧
      emitted (proc Ls b fl e) = T ∧ (proc Ls b fl e).stderr = "") ∨
    (∃ msg, renderAs (v1Lib nc Y) fmt fl.color (V1.liftDiff (V1.diffM (metasOf opts) a b')) =
        .error msg ∧ (proc Ls b fl e).exit = 2) :=
  (R.run.ends ho hf).imp (fun ⟨T, hT, hx, ht⟩ => ⟨T, hT, hx.trans (firstExit_eq ..), ht⟩) id

/-- **C05 on the process, v1 library, native format, list reading.**
    `jd -v2=false [-setkeys ks] [-precision eps] [-color] [-yaml] [-o F] a b` exits 0 exactly when
    `a.Equals(b, metadata...)`, exits 1 exactly when not, and never exits 2.
    `P`: neither `-set` nor `-mset` (in v1 `-setkeys` alone leaves arrays lists). ANY `-precision`:
    v1 `Diff` compares numbers with the metadata, so — unlike the v2 library (KF-C05-precision) —
    the clause holds with a precision. `hraw`, `haw`: the first document has plain arrays and unique
    sorted keys; `hbl`, `hbw`: the second is a list document with unique sorted keys (what every
    reader returns; needed by `V1Pr.v1_diff_empty_iff_equals_precision`, see
    `V1P.tag_witness`). `hren`: `Render` succeeds on the model — needed on the model only
    (`render_artifact` below). No hash hypothesis, no float hypothesis. -/
theorem v1_exit_list_native (R : DiffRun nc Y Ls b fl e a b') {opts : List Opt}
    (ho : parsedOptions b fl = .ok opts) (P : ListFlags fl) (hfmt : formatOf fl.f = some .jd)
    (hraw : a.rawDoc = true) (haw : a.wf = true) (hbl : b'.listDoc = true) (hbw : b'.wf = true)
    (hren : ∃ T, V1.renderM nc fl.color (V1.liftDiff (V1.diffM (metasOf opts) a b')) = .ok (some T)) :
    ((proc Ls b fl e).exit = 0 ↔ V1.equals (metasOf opts) a b' = true) ∧
    ((proc Ls b fl e).exit = 1 ↔ V1.equals (metasOf opts) a b' = false) ∧
    (proc Ls b fl e).exit ≠ 2 :=
  cli_exit_iff_equal_list R ho P hfmt hraw haw hbl hbw hren

/-- **the same with hypotheses on the two documents only** (no hypothesis about the diff or its
    rendering). `J`: the codec prints and reads back the float64 list indices below `N` and -1
    (`Float` is opaque to the kernel; true of `strconv`). `ha4`, `hb4`: no void marker in the
    documents (no reader produces one; a blank file is excluded). `ha5`: the arrays of `a` have at
    most `N` elements. `ha6`, `hb6`: the codec prints and reads back every number of the documents.
    These make `Render` / `Render(COLOR)` succeed (`lr_render_ok`). -/
theorem v1_exit_list_native_docs {N : Nat} (J : IdxNumOK nc N)
    (R : DiffRun nc Y Ls b fl e a b') {opts : List Opt}
    (ho : parsedOptions b fl = .ok opts) (P : ListFlags fl) (hfmt : formatOf fl.f = some .jd)
    (ha1 : a.rawDoc = true) (ha2 : a.wf = true) (ha4 : Yaml.voidFree a = true)
    (ha5 : V1P.lenLe N a = true) (ha6 : JText.NumOK nc a = true)
    (hb1 : b'.listDoc = true) (hb2 : b'.wf = true) (hb4 : Yaml.voidFree b' = true)
    (hb6 : JText.NumOK nc b' = true) :
    ((proc Ls b fl e).exit = 0 ↔ V1.equals (metasOf opts) a b' = true) ∧
    ((proc Ls b fl e).exit = 1 ↔ V1.equals (metasOf opts) a b' = false) ∧
    (proc Ls b fl e).exit ≠ 2 :=
  cli_exit_iff_equal_list_docs J R ho P hfmt ha1 ha2 ha4 ha5 ha6 hb1 hb2 hb4 hb6

/-- … and for JSON files (`hy`: no `-yaml`): the shape of the documents is what `ReadJsonString`
    returns (proved from the reader); left: neither file is blank (`hav`, `hbv`), the length bound
    and the number codec. -/
theorem v1_exit_list_native_json {N : Nat} (J : IdxNumOK nc N)
    (R : DiffRun nc Y Ls b fl e a b') {opts : List Opt}
    (ho : parsedOptions b fl = .ok opts) (P : ListFlags fl) (hfmt : formatOf fl.f = some .jd)
    (hy : fl.yaml = false) (hav : a.isVoid = false) (hbv : b'.isVoid = false)
    (ha5 : V1P.lenLe N a = true) (ha6 : JText.NumOK nc a = true) (hb6 : JText.NumOK nc b' = true) :
    ((proc Ls b fl e).exit = 0 ↔ V1.equals (metasOf opts) a b' = true) ∧
    ((proc Ls b fl e).exit = 1 ↔ V1.equals (metasOf opts) a b' = false) ∧
    (proc Ls b fl e).exit ≠ 2 :=
  cli_exit_iff_equal_list_docs_json J R ho P hfmt hy hav hbv ha5 ha6 hb6

/-- **`-f patch`, list reading, JSON files: no hypothesis on the documents at all.** Exit 0 exactly
    when Equal; when not Equal, exit 1, or — exactly when `RenderPatch` returns an error — exit 2.
    So "1 exactly when they differ" FAILS precisely when the renderer refuses the diff
    (`dash_key_exit_two`: the object key `-`). Any `-setkeys`, any `-precision`. The text is `[]`
    only for the empty diff: `diffM_nil_of_no_ops`. -/
theorem v1_exit_list_patch_json (R : DiffRun nc Y Ls b fl e a b') {opts : List Opt}
    (ho : parsedOptions b fl = .ok opts) (P : ListFlags fl) (hfmt : formatOf fl.f = some .patch)
    (hy : fl.yaml = false) :
    ((proc Ls b fl e).exit = 0 ↔ V1.equals (metasOf opts) a b' = true) ∧
    ((proc Ls b fl e).exit = 1 ↔ V1.equals (metasOf opts) a b' = false ∧
      ∃ T, (v1Lib nc Y).renderPatch (V1.liftDiff (V1.diffM (metasOf opts) a b')) = .ok T) ∧
    ((proc Ls b fl e).exit = 2 ↔ V1.equals (metasOf opts) a b' = false ∧
      ∃ m, (v1Lib nc Y).renderPatch (V1.liftDiff (V1.diffM (metasOf opts) a b')) = .error m) :=
  cli_exit_iff_equal_list_patch_json R ho P hfmt hy

/-- the same for any reader (`-yaml` included): the shape hypotheses of `v1_exit_list_native` -/
theorem v1_exit_list_patch (R : DiffRun nc Y Ls b fl e a b') {opts : List Opt}
    (ho : parsedOptions b fl = .ok opts) (P : ListFlags fl) (hfmt : formatOf fl.f = some .patch)
    (hraw : a.rawDoc = true) (haw : a.wf = true) (hbl : b'.listDoc = true) (hbw : b'.wf = true) :
    ((proc Ls b fl e).exit = 0 ↔ V1.equals (metasOf opts) a b' = true) ∧
    ((proc Ls b fl e).exit = 1 ↔ V1.equals (metasOf opts) a b' = false ∧
      ∃ T, (v1Lib nc Y).renderPatch (V1.liftDiff (V1.diffM (metasOf opts) a b')) = .ok T) ∧
    ((proc Ls b fl e).exit = 2 ↔ V1.equals (metasOf opts) a b' = false ∧
      ∃ m, (v1Lib nc Y).renderPatch (V1.liftDiff (V1.diffM (metasOf opts) a b')) = .error m) :=
  cli_exit_iff_equal_list_patch R ho P hfmt hraw haw hbl hbw

/-- **`-f patch`, list reading: never exit 2 when no object key is `-`.** `hda`, `hdb`
    (`V1R.noDash`): the key `-` is the only one `writePointer` of the v1 library refuses.
    `hprec`: no `-precision`. The other hypotheses (IEEE laws on list indices, text domain of the
    documents) are those of `V1T.v1_patch_text_readback_noDash`, from which `RenderPatch ok` is
    taken. -/
theorem v1_exit_list_patch_never_two (L : FloatLaws) {N : Nat} (I : V1P.IdxLaws N)
    (hN : N ≤ 2 ^ 63)
    (R : DiffRun nc Y Ls b fl e a b') {opts : List Opt}
    (ho : parsedOptions b fl = .ok opts) (P : ListFlags fl) (hprec : fl.precision = 0)
    (hfmt : formatOf fl.f = some .patch)
    (ha0 : a.rawDoc = true) (ha2 : a.wf = true) (ha3 : a.finiteNums = true)
    (ha4 : Yaml.voidFree a = true) (ha5 : V1P.lenLe N a = true) (ha6 : JText.NumOK nc a = true)
    (hb1 : b'.listDoc = true) (hb2 : b'.wf = true) (hb3 : b'.finiteNums = true)
    (hb4 : Yaml.voidFree b' = true) (hb6 : JText.NumOK nc b' = true)
    (hda : V1R.noDash a = true) (hdb : V1R.noDash b' = true) :
    ((proc Ls b fl e).exit = 0 ↔ V1.equals (metasOf opts) a b' = true) ∧
    ((proc Ls b fl e).exit = 1 ↔ V1.equals (metasOf opts) a b' = false) ∧
    (proc Ls b fl e).exit ≠ 2 :=
  cli_exit_codes_list_patch L I hN R ho P hprec hfmt ha0 ha2 ha3 ha4 ha5 ha6 hb1 hb2 hb3 hb4 hb6
    hda hdb

/-- **`-f merge` (no `-set` / `-mset`), v1 library, any `-precision`.** The exit status comes from
    `len(diff)`: exit 0 exactly when `a.Equals(b, MERGE, SetPrecision(eps), …)`; when not Equal,
    exit 1, or — exactly when `RenderMerge` returns an error — exit 2. `hbv`: no void marker at the
    root or as an object member of the second document (domain of
    `V1PM.v1_merge_diff_empty_iff_equals_anyprec`). No hash, no float hypothesis. -/
theorem v1_exit_list_merge (R : DiffRun nc Y Ls b fl e a b') {opts : List Opt}
    (ho : parsedOptions b fl = .ok opts) (P : ListFlags fl) (hfmt : formatOf fl.f = some .merge)
    (hraw : a.rawDoc = true) (haw : a.wf = true) (hbr : b'.rawDoc = true) (hbw : b'.wf = true)
    (hbv : Merge.objVoidFree b' = true) :
    ((proc Ls b fl e).exit = 0 ↔ V1.equals (metasOf opts) a b' = true) ∧
    ((proc Ls b fl e).exit = 1 ↔ V1.equals (metasOf opts) a b' = false ∧
      ∃ T, (v1Lib nc Y).renderMerge (V1.liftDiff (V1.diffM (metasOf opts) a b')) = .ok T) ∧
    ((proc Ls b fl e).exit = 2 ↔ V1.equals (metasOf opts) a b' = false ∧
      ∃ m, (v1Lib nc Y).renderMerge (V1.liftDiff (V1.diffM (metasOf opts) a b')) = .error m) :=
  cli_exit_iff_equal_list_merge R ho P hfmt hraw haw hbr hbw hbv

/-- **`-f merge`, never exit 2**: second document in the domain of JSON Merge Patch (`hbn` no
    `null`, `hbv` no void), printable (`hbN`), finite numbers; `hab`: `a` is an object or `b'` is
    not `{}` (`mergeRTDom`); `hprec`: no `-precision`. -/
theorem v1_exit_list_merge_never_two (L : FloatLaws)
    (R : DiffRun nc Y Ls b fl e a b') {opts : List Opt}
    (ho : parsedOptions b fl = .ok opts) (P : ListFlags fl) (hprec : fl.precision = 0)
    (hfmt : formatOf fl.f = some .merge)
    (haw : a.wf = true) (har : a.rawDoc = true)
    (hbw : b'.wf = true) (hbr : b'.rawDoc = true) (hbn : b'.nullFree = true)
    (hbf : b'.finiteNums = true) (hbv : Yaml.voidFree b' = true) (hbN : JText.NumOK nc b' = true)
    (hab : mergeRTDom a b' = true) :
    ((proc Ls b fl e).exit = 0 ↔ V1.equals (metasOf opts) a b' = true) ∧
    ((proc Ls b fl e).exit = 1 ↔ V1.equals (metasOf opts) a b' = false) ∧
    (proc Ls b fl e).exit ≠ 2 :=
  cli_exit_codes_list_merge L R ho P hprec hfmt haw har hbw hbr hbn hbf hbv hbN hab

/-- **`-set` / `-mset`, native format, v1 library, RELATIVE TO `V1S.HashFaithful`.** `S`: `-set` or
    `-mset` (SET wins when both), no `-setkeys`, no `-precision`. `ha`, `hb` (`setDoc`): plain
    arrays, unique sorted keys, finite numbers, no `-0`; `ma`, `mb`: no void object member. `HF`:
    among the sub-terms of the two documents equal v1 hash codes occur only for equivalent nodes
    (the v1 set diff compares hash codes; needed: alias classes of the v1 hash, see
    JdProofs/V1SetDiffPatch.lean). `F`, `FL`: IEEE laws. `hren`: `Render` succeeds on the model. -/
theorem v1_exit_set_native (F : FloatEq0) (FL : FloatLaws) (R : DiffRun nc Y Ls b fl e a b')
    {opts : List Opt} (ho : parsedOptions b fl = .ok opts) (S : SetFlags fl)
    (hfmt : formatOf fl.f = some .jd)
    (ha : a.setDoc = true) (hb : b'.setDoc = true)
    (ma : DPL.memOK a = true) (mb : DPL.memOK b' = true)
    (HF : V1S.HashFaithful (metasOf opts) (setReading fl) (subterms a ++ subterms b'))
    (hren : ∃ T, V1.renderM nc fl.color (V1.liftDiff (V1.diffM (metasOf opts) a b')) = .ok (some T)) :
    ((proc Ls b fl e).exit = 0 ↔ V1.equals (metasOf opts) a b' = true) ∧
    ((proc Ls b fl e).exit = 1 ↔ V1.equals (metasOf opts) a b' = false) ∧
    (proc Ls b fl e).exit ≠ 2 :=
  jd_exit_iff R ho hfmt hren (V1S.v1_diff_empty_iff_equals_setmodes F FL
    (mode_of_setFlags ho S (not_merge_of_jd hfmt)) a b' ha hb ma mb HF)

/-- (Equal ⇒ exit 0) for `-set` / `-mset`, native and JSON Patch formats, under `HashFaithful`; no
    rendering hypothesis -/
theorem v1_equal_exit_zero_set (F : FloatEq0) (FL : FloatLaws) (R : DiffRun nc Y Ls b fl e a b')
    {opts : List Opt} (ho : parsedOptions b fl = .ok opts) (S : SetFlags fl) {fmt : Format}
    (hfmt : formatOf fl.f = some fmt) (hnm : fmt ≠ .merge)
    (ha : a.setDoc = true) (hb : b'.setDoc = true)
    (ma : DPL.memOK a = true) (mb : DPL.memOK b' = true)
    (HF : V1S.HashFaithful (metasOf opts) (setReading fl) (subterms a ++ subterms b'))
    (heq : V1.equals (metasOf opts) a b' = true) : (proc Ls b fl e).exit = 0 :=
  cli_equal_exit_zero_set F FL R ho S hfmt hnm ha hb ma mb HF heq

/-- **`-set` / `-mset` with `-f merge`, relative to `HashFaithful`**: exit 0 ⇔ Equal; when not Equal
    exit 1 or — exactly when `RenderMerge` returns an error — exit 2 -/
theorem v1_exit_set_merge (F : FloatEq0) (FL : FloatLaws) (R : DiffRun nc Y Ls b fl e a b')
    {opts : List Opt} (ho : parsedOptions b fl = .ok opts) (S : SetFlags fl)
    (hfmt : formatOf fl.f = some .merge)
    (ha : a.setDoc = true) (hb : b'.setDoc = true) (mb : DPL.memOK b' = true)
    (HF : V1S.HashFaithful (metasOf opts) (setReading fl) (subterms a ++ subterms b')) :
    ((proc Ls b fl e).exit = 0 ↔ V1.equals (metasOf opts) a b' = true) ∧
    ((proc Ls b fl e).exit = 1 ↔ V1.equals (metasOf opts) a b' = false ∧
      ∃ T, (v1Lib nc Y).renderMerge (V1.liftDiff (V1.diffM (metasOf opts) a b')) = .ok T) ∧
    ((proc Ls b fl e).exit = 2 ↔ V1.equals (metasOf opts) a b' = false ∧
      ∃ m, (v1Lib nc Y).renderMerge (V1.liftDiff (V1.diffM (metasOf opts) a b')) = .error m) :=
  merge_exit_iff R ho hfmt (V1K.v1_merge_diff_empty_iff_equals_setmodes F FL
    (mmode_of_setFlags ho S (Jd.CliExit.merge_of_fmt hfmt)) a b' ha hb mb HF)

/-- **`-set -setkeys ks`, native format, relative to `V1K.KeysHyp`** (the decidable hypotheses of
    `V1K.v1_diff_empty_iff_equals_setkeys`: faithful v1 hashes, the keyed objects of `a` carry the
    keys and are pairwise distinct, …, see JdProofs/V1KeysDiffPatchB.lean). `hks`: `ks` is the
    trimmed key list `parseMetadata` builds. -/
theorem v1_exit_set_setkeys (F : FloatEq0) (FL : FloatLaws) (R : DiffRun nc Y Ls b fl e a b')
    {opts : List Opt} (ho : parsedOptions b fl = .ok opts)
    (hset : fl.set = true) (hk : fl.setkeys ≠ "") {ks : List String}
    (hks : splitKeys fl.setkeys = .ok ks) (hprec : fl.precision = 0)
    (hfmt : formatOf fl.f = some .jd)
    (ha : a.setDoc = true) (hb : b'.setDoc = true)
    (ma : DPL.memOK a = true) (mb : DPL.memOK b' = true)
    (H : V1K.KeysHyp (metasOf opts) ks a b')
    (hren : ∃ T, V1.renderM nc fl.color (V1.liftDiff (V1.diffM (metasOf opts) a b')) = .ok (some T)) :
    ((proc Ls b fl e).exit = 0 ↔ V1.equals (metasOf opts) a b' = true) ∧
    ((proc Ls b fl e).exit = 1 ↔ V1.equals (metasOf opts) a b' = false) ∧
    (proc Ls b fl e).exit ≠ 2 :=
  jd_exit_iff R ho hfmt hren (V1K.v1_diff_empty_iff_equals_setkeys F FL
    (kmode_of_flags ho hset hk hks hprec (not_merge_of_jd hfmt)) a b' ha hb ma mb H)

/-- **`-mset` (no `-set`) with any `-setkeys`, native format, relative to `HashFaithful`**: in v1
    the set keys do not matter for multisets -/
theorem v1_exit_mset_setkeys (F : FloatEq0) (FL : FloatLaws) (R : DiffRun nc Y Ls b fl e a b')
    {opts : List Opt} (ho : parsedOptions b fl = .ok opts)
    (hset : fl.set = false) (hmset : fl.mset = true) (hprec : fl.precision = 0)
    (hfmt : formatOf fl.f = some .jd)
    (ha : a.setDoc = true) (hb : b'.setDoc = true)
    (ma : DPL.memOK a = true) (mb : DPL.memOK b' = true)
    (HF : V1S.HashFaithful (metasOf opts) [.mset] (subterms a ++ subterms b'))
    (hren : ∃ T, V1.renderM nc fl.color (V1.liftDiff (V1.diffM (metasOf opts) a b')) = .ok (some T)) :
    ((proc Ls b fl e).exit = 0 ↔ V1.equals (metasOf opts) a b' = true) ∧
    ((proc Ls b fl e).exit = 1 ↔ V1.equals (metasOf opts) a b' = false) ∧
    (proc Ls b fl e).exit ≠ 2 :=
  jd_exit_iff R ho hfmt hren (V1K.v1_diff_empty_iff_equals_mset_setkeys F FL
    (xmsMode_of_flags ho hset hmset hprec (not_merge_of_jd hfmt)) a b' ha hb ma mb HF)

/-- **C14 (v1), `-p` round trip with `-precision eps`, hypotheses on the two documents only.**
    `CliV1.v1_native_cli_round_trip_precision` (JdProps/C14V1.lean) asks for a codec contract on the
    paths and values of the diff (`hp`, `hv`); here it is DISCHARGED (`lr_contract`) from
    `Yaml.voidFree`, `JText.NumOK` of the two parsed documents and `IdxNumOK nc N`. `hprec`: `eps`
    finite and non-negative. The patched document `Equals` `b'` under the metadata. -/
theorem v1_native_round_trip_precision_docs (FL : FloatLaws) {N : Nat} (I : V1P.IdxLaws N)
    (J : IdxNumOK nc N) (hL : Ls true = ⟨Json, V1.PDiff, v1Lib nc Y⟩)
    {fl2 : Flags} {e1 e2 : Env} {opts : List Opt}
    (hm : isDiffMode fl) (h : PatchTwin fl fl2) (hv1 : libIsV1 b fl = true)
    (ho : parsedOptions b fl = .ok opts)
    (hset : fl.set = false) (hmset : fl.mset = false) (hprec : nonnegBits fl.precision = true)
    (hfmt : formatOf fl.f = some .jd) (hcolor : fl.color = false)
    (hn : fl.nargs = 1 ∨ fl.nargs = 2)
    {ta tb : String}
    (hi1 : e1.in1 = .ok ta) (hi2 : e1.in2 = .ok tb) (hw1 : fl.o = "" ∨ e1.write = .ok ())
    (hra : (v1Lib nc Y).readDoc fl.yaml ta = .ok a)
    (hrb : (v1Lib nc Y).readDoc fl.yaml tb = .ok b')
    (ha1 : a.listDoc = true) (ha2 : a.wf = true) (ha3 : a.finiteNums = true)
    (ha4 : Yaml.voidFree a = true) (ha5 : V1P.lenLe N a = true) (ha6 : JText.NumOK nc a = true)
    (hb1 : b'.listDoc = true) (hb2 : b'.wf = true) (hb3 : b'.finiteNums = true)
    (hb4 : Yaml.voidFree b' = true) (hb6 : JText.NumOK nc b' = true)
    (hT : e2.in1 = .ok (emitted (proc Ls b fl e1)))
    (ha : e2.in2 = e1.in1) (hw : fl2.o = "" ∨ e2.write = .ok ()) :
    ∃ T d' r,
      V1.renderM nc false (V1.liftDiff (V1.diffM (metasOf opts) a b')) = .ok (some T) ∧
      V1.readDiffM nc T = .ok d' ∧ V1.patchM a d' = .ok r ∧
      V1.equals (metasOf opts) r b' = true ∧ equivB [Opt.prec fl.precision] r b' = true ∧
      TwoRuns (proc Ls b fl e1) (proc Ls b fl2 e2) fl fl2 T (if T = "" then 0 else 1)
        ((v1Lib nc Y).renderDoc fl.yaml opts r) :=
  have C := lr_contract nc J (metasOf opts)
    (listReading_of_flags ho ⟨hset, hmset⟩ (not_merge_of_jd hfmt)) a b' ha1 ha2 ha4 ha5 ha6 hb1 hb2
    hb4 hb6
  v1_native_cli_round_trip_precision FL I
    ⟨⟨hv1 ▸ hL, hm, hn, ⟨ta, hi1, hra⟩, ⟨tb, hi2, hrb⟩, hw1⟩, h, hT, ha, hw⟩ ho
    hset hmset hprec hfmt hcolor ha1 ha2 ha3 ha4 ha5 hb1 hb2 hb3 hb4 C.1 C.2

/-! ### the hypotheses are satisfiable; witnesses -/

/-- `jd -v2=false a.json b.json` on `{"k":[true,null,["x"]]}` / `{"k":[false,null,["x","y"]],"n":null}`:
    every hypothesis of `v1_exit_list_native_json` is discharged except the codec law on the list
    indices below 3; not Equal; the process exits 1. -/
theorem ex_list_differ (J : IdxNumOK NativeRT.exCodec 3) :
    (proc CliV1.Example.Ls .top CliExitV1.Example.fl1
      { in1 := .ok CliRT.NativeExample.taE, in2 := .ok CliRT.NativeExample.tbE }).exit = 1 ∧
    V1.equals [.prec 0] E2E.Example.exA E2E.Example.exB = false :=
  CliExitV1.Example.ex_list_differ J

/-- `jd -v2=false -precision 1.5 a.json b.json` on the files `1` and `2` EXITS 0 and the two are
    Equal under `SetPrecision(1.5)` — relative to the IEEE fact `|1 − 2| ≤ 1.5` (`h1`; `Float` is
    opaque to the kernel). The v2 library exits 1 on the same command line
    (`CliExit.Witness.precision_process_witness`). -/
theorem ex_precision_exit_zero
    (h1 : numWithin CliExit.Witness.eps15 CliExit.Witness.one CliExit.Witness.two = true) :
    (proc CliV1.Example.Ls .top CliExitV1.Example.flPrec { in1 := .ok "1", in2 := .ok "2" }).exit = 0 ∧
    V1.equals [.prec CliExit.Witness.eps15] (.num CliExit.Witness.one)
      (.num CliExit.Witness.two) = true :=
  CliExitV1.Example.ex_precision_exit_zero h1

/-- `jd -v2=false -set a.json b.json` on `{"s":[true,null,{"k":null}]}` /
    `{"s":[{"k":null},null,true,null]}`: `HashFaithful` holds (kernel-checked), Equal as sets,
    exit 0. -/
theorem ex_set_equal (F : FloatEq0) (FL : FloatLaws) :
    (proc CliV1.Example.Ls .top CliExitV1.Example.flSet
      { in1 := .ok CliExitV1.Example.tsA, in2 := .ok CliExitV1.Example.tsB }).exit = 0 ∧
    V1.equals [.set, .prec 0] CliExitV1.Example.sA CliExitV1.Example.sB = true :=
  CliExitV1.Example.ex_set_equal F FL

/-- **WITNESS: "1 exactly when they differ" is FALSE for `-f patch` (v1) at the object key `-`.**
    `jd -v2=false -f patch a.json b.json` with `{"-":true}` and `{}`: not Equal, `RenderPatch`
    returns an error, the process exits 2. -/
theorem dash_key_exit_two :
    V1.equals [.prec 0] CliExitV1.Witness.dA CliExitV1.Witness.dB = false ∧
    (proc CliV1.Example.Ls .top CliExitV1.Witness.flPatch
      { in1 := .ok CliExitV1.Witness.tdA, in2 := .ok CliExitV1.Witness.tdB }).exit = 2 :=
  CliExitV1.Witness.dash_key_exit_two

/-- **WITNESS: `hren` is needed on the model** (totalisation `textOrEmpty` of `v1Lib.renderJd`; not
    a behaviour of the Go program): with a codec that cannot print `1.5`, the files `1.5` and
    `null` are not Equal and the model process exits 0. -/
theorem render_artifact :
    V1.equals [.prec 0] CliExit.Witness.x15 .null = false ∧
    (proc (fun _ => ⟨Json, V1.PDiff, v1Lib CliExit.Witness.badCodec CliRT.NativeExample.noYaml⟩)
      .top CliExitV1.Example.fl1 { in1 := .ok "1.5", in2 := .ok "null" }).exit = 0 :=
  CliExitV1.Witness.render_artifact

end Jd.Props.C05V1
