/-
  Property C12 — RFC 7386 input is applied as the RFC specifies.
  Statement file (proofs in JdProofs/MergeHunks.lean, namespace `Jd.Merge`).

  Model side: `readMergeDoc p` (JdModel/MergeFmt.lean) is `ReadMergeString` after JSON decoding: the
  merge hunks jd reads from the patch DOCUMENT `p`; `patchAll true t d` is `t.Patch(d)` as the code is.
  Spec side: `mergePatch t p` (JdSpec/Rfc7386.lean) is the pseudocode of RFC 7386 section 2: objects
  merge recursively, `null` deletes a member, any non-object patch value replaces the target.

  THE PROPERTY AS WORDED ("for every target and every patch document") IS FALSE on the code as it
  is. What is proved is sharper than a partial statement: an IFF —
      reading `p` and applying it to `t` gives EXACTLY `MergePatch(t, p)`  ⇔  `Clean t p`
  (equality of documents, array tags included), where `Clean` (decidable, defined in
  JdProofs/MergeHunks.lean and re-exported here through `open Jd.Merge`) excludes exactly three
  classes, each of them inhabited (witness theorems below):
    (a) patch `{}` at the root and the target is not an object   — jd: no-op; RFC: `{}`
        (known finding KF-C12-emptyobj);
    (b) patch has `{}` where the target holds a non-empty object — jd: member replaced by `{}`; RFC:
        unchanged (KF-C12-emptyobj);
    (c) patch `null` at the root                                 — jd: void (no document); RFC: `null`
        (KF-C12-rootnull).
  So `Clean` is the WEAKEST restriction under which the property holds.

  HYPOTHESES and why
    `t.wf`, `p.wf`: unique sorted object keys (what a Go map / the JSON reader guarantees);
    `objVoidFree p`: the patch document contains no void (a JSON reader never produces one).
-/
import JdProofs.MergeProofs
import JdProps.C09Text

namespace Jd.Props.C12
open Jd Jd.Spec Jd.Merge

/-- **C12, sharp form**: the library's result is exactly `MergePatch(t, p)` if and only if the pair
    is outside the three known classes -/
theorem read_apply_is_mergePatch_iff_clean (t p : Json) (ht : t.wf = true) (hp : p.wf = true)
    (hv : objVoidFree p = true) :
    patchAll true t (readMergeDoc p) = .ok (mergePatch t p) ↔ Clean t p = true :=
  merge_read_apply_iff t p ht hp hv

/-- **C12 on its domain** (the direction used as the property) -/
theorem read_apply_is_mergePatch (t p : Json) (ht : t.wf = true) (hp : p.wf = true)
    (hv : objVoidFree p = true) (hc : Clean t p = true) :
    patchAll true t (readMergeDoc p) = .ok (mergePatch t p) :=
  merge_read_apply_partial t p ht hp hv hc

/-- the same with the library entry point `patchM` and up to array tags (existential phrasing) -/
theorem read_apply_is_mergePatch_untag (t p : Json) (ht : t.wf = true) (hp : p.wf = true)
    (hv : objVoidFree p = true) (hc : Clean t p = true) :
    ∃ r, patchM t (readMergeDoc p) = .ok r ∧ untag r = untag (mergePatch t p) :=
  ⟨_, merge_read_apply_partial t p ht hp hv hc, rfl⟩

/-- outside `Clean` the library's result is NOT the RFC 7386 result -/
theorem read_apply_differs_outside_clean (t p : Json) (ht : t.wf = true) (hp : p.wf = true)
    (hv : objVoidFree p = true) (hc : Clean t p = false) :
    patchAll true t (readMergeDoc p) ≠ .ok (mergePatch t p) :=
  merge_read_apply_unclean t p ht hp hv hc

/-! ### The three classes are inhabited (counter-witnesses, by evaluation) -/

/-- (a) patch `{}` at the root, target a number: the library does nothing, RFC 7386 gives `{}` -/
theorem witness_root_empty_object (one : UInt64) :
    patchAll true (.num one) (readMergeDoc (.obj [])) = .ok (.num one) ∧
    mergePatch (.num one) (.obj []) = .obj [] ∧ Clean (.num one) (.obj []) = false :=
  Jd.Merge.witness_root_empty_object one

/-- (b) patch `{"a":{}}`, target `{"a":{"b":1}}`: the library replaces the member by `{}`, RFC 7386
    leaves the target unchanged -/
theorem witness_nested_empty_object (one : UInt64) :
    patchAll true (.obj [("a", .obj [("b", .num one)])]) (readMergeDoc (.obj [("a", .obj [])]))
      = .ok (.obj [("a", .obj [])]) ∧
    mergePatch (.obj [("a", .obj [("b", .num one)])]) (.obj [("a", .obj [])])
      = .obj [("a", .obj [("b", .num one)])] ∧
    Clean (.obj [("a", .obj [("b", .num one)])]) (.obj [("a", .obj [])]) = false :=
  Jd.Merge.witness_nested_empty_object one

/-- (c) patch `null` at the root: the library returns void (no document), RFC 7386 gives `null` -/
theorem witness_root_null (t : Json) :
    patchAll true t (readMergeDoc .null) = .ok .void ∧ mergePatch t .null = .null ∧
    Clean t .null = false :=
  Jd.Merge.witness_root_null t

/-! Non-vacuity: target `{"a":{"b":"x","c":"y"},"d":"z"}`, patch `{"a":{"b":null,"e":{}},"d":["w"]}`
    (a null deleting at depth, an empty object over an absent key, an array replacing a scalar) is
    inside `Clean` and satisfies the hypotheses; the theorem gives the library's result. -/

private def exT : Json := .obj [("a", .obj [("b", .str "x"), ("c", .str "y")]), ("d", .str "z")]
private def exP : Json := .obj [("a", .obj [("b", .null), ("e", .obj [])]), ("d", .arr .raw [.str "w"])]

example : exT.wf = true ∧ exP.wf = true ∧ objVoidFree exP = true ∧ Clean exT exP = true := by
  decide

example : patchAll true exT (readMergeDoc exP) = .ok (mergePatch exT exP) :=
  read_apply_is_mergePatch exT exP (by decide) (by decide) (by decide) (by decide)

#print axioms read_apply_is_mergePatch_untag

end Jd.Props.C12
