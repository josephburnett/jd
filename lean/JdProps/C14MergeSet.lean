/-
  Property C14 — the `-p` round trip and the exit status, for `-f merge` and `-f patch` COMBINED WITH
  `-set` / `-mset` (v2 library, on the CLI model).  Statement file; proofs in
  JdProofs/CliRoundTripMergeSet.lean (namespace `Jd.CliRTMS`).  Companion of JdProps/C14.lean, whose
  round-trip theorems (`Jd.CliRTM`) cover `-set`/`-mset`/`-setkeys` in the native format and `-f merge`,
  `-f patch` in the list reading, and list these combinations as "not proved".

  Model side: `cliM` / `proc` (JdModel/Cli.lean, JdProofs/CliRoundTrip.lean): the decision logic of
  `main` run on what the library model `nativeLib nc Y` returns; `setOpts fl` is the option list
  `parseMetadata` builds for `-set` / `-mset` (`[SET]?, [MULTISET]?, [MERGE if -f merge], Precision 0`).

  WHAT IS STATED
  * `-f merge -set` / `-f merge -mset`: the round trip HOLDS (`merge_set_cli_round_trip`), total (the
    first process is proved not to fail), on the domain of C11 for the set readings plus the text
    hypotheses of the `-f merge` list theorem.  The target is reproduced UNDER THE READING IN FORCE
    (`Equals` and `equivB` with the options): arrays that are equal as sets are left as `a` has
    them, and with `-set` a replaced array comes back in hash order without duplicates (that is what
    `jsonSet.raw()` prints) — `["z","a","a"]` comes back as `["z","a"]`, checked on the Go binary.
    Library form: `merge_set_lib_round_trip`.
  * `-f patch -set` / `-f patch -mset`: there is NO round trip to state.  `RenderPatch` refuses every
    hunk path that holds a set (`{}`) or multiset (`[]`) element, so the first process exits 2 as
    soon as the diff holds a set hunk.  Proved: the exact exit status (`patch_set_exit_status`):
    exit 2 ⇔ some hunk path has an element that is not a JSON-Pointer-expressible key; exit 0 ⇔ the
    diff is empty; exit 1 ⇔ non-empty diff, all paths expressible (then only object members
    outside arrays differ, the output is a JSON Patch of test/remove/add on key paths — its `-p`
    round trip is the list-reading theorem's business and is NOT proved here under `-set`).

  HYPOTHESES
    `isDiffMode fl`, `PatchTwin fl fl2`, `libIsV1 b fl = false`, `fl.nargs`, the `Env` equations: the
       two command lines `jd [flags] a b` and `jd -p [same flags] T a` (as in JdProps/C14.lean);
    `SetFlags fl`: `-set` or `-mset` (both: SET wins), no `-setkeys`, `-precision` 0;
    `a.setDoc`, `b'.setDoc`: documents as read (plain arrays, unique sorted keys, finite numbers,
       no `-0`); `b'.nullFree` (domain of merge patches); `Yaml.voidFree b'`, `JText.NumOK nc b'`:
       the JSON text layer (void is not a JSON value; the number codec prints and re-reads the
       numbers of `b'`);
    `HashFaithful (setOpts fl) (subterms a ++ subterms b')`: no FNV collision / alias among the
       sub-terms (as in C11 for the set readings; without it `RenderMerge` can fail);
    `mergeRTDom a b'` = `a` is an object or `b' ≠ {}`: NEEDED (`merge_set_emptyobj_witness`,
       known finding KF-C12-emptyobj);
    `-f patch`: `rawDoc`, `wf`, `E2E.voidFree` of both documents, `DES.DiffFaithful` (the shape of
       the set-mode diff, `E2ES.diffM_shunk`), `marshalNode … isSome` on the sub-terms (a number the
       codec cannot print would also end in exit 2).
-/
import JdProofs.CliRoundTripMergeSet

set_option autoImplicit false

namespace Jd.Props.C14MergeSet
open Jd Jd.Spec Jd.Cli Jd.CliRT Jd.CliExit Jd.CliRTM Jd.CliRTMS

/-! ## `-f merge` with `-set` / `-mset` -/

/-- **library level**: `a.Diff(b, SET|MULTISET, MERGE).RenderMerge()` prints a text, `ReadMergeString`
    reads it back, `a.Patch` of the diff read succeeds and yields a document that `Equals` `b` and is
    equivalent to it (`equivB`) under the options.  `hab`: `a` is an object or `b` is not `{}`. -/
theorem merge_set_lib_round_trip (F : FloatEq0) (L : FloatLaws) (nc : NumCodec) (o : Opts)
    (hmg : isMerge o = true) (hm : dispatchTag o = .set ∨ dispatchTag o = .mset)
    (hk : keysOf o = none) (hp : precOf o = 0) (a b : Json)
    (ha : a.setDoc = true) (hb : b.setDoc = true) (hbn : b.nullFree = true)
    (hbv : Yaml.voidFree b = true) (hbN : JText.NumOK nc b = true)
    (HF : HashFaithful o (subterms a ++ subterms b))
    (hab : a.isObj = true ∨ b ≠ .obj []) :
    ∃ text d' r, renderMergeM nc (diffM o a b) = .ok (some text) ∧
      readMergeM nc text = .ok d' ∧ patchM a d' = .ok r ∧
      equals o r b = true ∧ equivB o r b = true :=
  mergeSet_lib_round_trip F L nc o hmg hm hk hp a b ha hb hbn hbv hbN HF hab

/-- **C14, `jd -f merge -set|-mset a b` then `jd -p -f merge -set|-mset T a`** (any of the three
    binaries on the v2 library; `-yaml`, `-color`, `-o` free): the option list is `setOpts fl`; the
    first process emits the RFC 7386 text `T` with exit status 1 when the diff is non-empty and 0
    otherwise, nothing on stderr; the second process exits 0, nothing on stderr, and emits
    `Json/Yaml(options…)` of a document `r` that `Equals` `b'` and is equivalent to it under the
    options (`TwoRuns`, JdProofs/CliRoundTrip.lean). -/
theorem merge_set_cli_round_trip (F : FloatEq0) (L : FloatLaws) (nc : NumCodec)
    (Y : YamlCarrier) (Ls : Bool → LibPack) (hL : Ls false = ⟨Json, Diff, nativeLib nc Y⟩)
    (b : Binary) {fl fl2 : Flags} {e1 e2 : Env}
    (hm : isDiffMode fl) (h : PatchTwin fl fl2) (hv2 : libIsV1 b fl = false)
    (hf : fl.f = "merge") (S : SetFlags fl) (hn : fl.nargs = 1 ∨ fl.nargs = 2)
    {ta tb : String} {a b' : Json}
    (hi1 : e1.in1 = .ok ta) (hi2 : e1.in2 = .ok tb) (hw1 : fl.o = "" ∨ e1.write = .ok ())
    (hra : (nativeLib nc Y).readDoc fl.yaml ta = .ok a)
    (hrb : (nativeLib nc Y).readDoc fl.yaml tb = .ok b')
    (ha : a.setDoc = true) (hb : b'.setDoc = true) (hbn : b'.nullFree = true)
    (hbv : Yaml.voidFree b' = true) (hbN : JText.NumOK nc b' = true)
    (HF : HashFaithful (setOpts fl) (subterms a ++ subterms b'))
    (hab : mergeRTDom a b' = true)
    (hT : e2.in1 = .ok (emitted (proc Ls b fl e1)))
    (ha2 : e2.in2 = e1.in1) (hw : fl2.o = "" ∨ e2.write = .ok ()) :
    ∃ T d' r,
      parsedOptions b fl = .ok (setOpts fl) ∧
      renderMergeM nc (diffM (setOpts fl) a b') = .ok (some T) ∧
      readMergeM nc T = .ok d' ∧ patchM a d' = .ok r ∧
      equals (setOpts fl) r b' = true ∧ equivB (setOpts fl) r b' = true ∧
      TwoRuns (proc Ls b fl e1) (proc Ls b fl2 e2) fl fl2 T
        (if (diffM (setOpts fl) a b').length > 0 then 1 else 0)
        ((nativeLib nc Y).renderDoc fl.yaml (setOpts fl) r) :=
  mergeSet_cli_round_trip F L nc Y Ls hL b hm h hv2 hf S hn hi1 hi2 hw1 hra hrb ha hb hbn hbv hbN HF
    hab hT ha2 hw

/-- **`mergeRTDom` cannot be dropped** (KF-C12-emptyobj in the set readings): `null` against `{}`
    under `[SET, MERGE, Precision 0]` — the text is that of `{}`, read back as the empty diff; the
    library round trip fails for every codec, with or without `-color` -/
theorem merge_set_emptyobj_witness (nc : NumCodec) (Y : YamlCarrier) (color : Bool) :
    mergeRTDom .null (.obj []) = false ∧
    ¬ LibRoundTrip (nativeLib nc Y) .merge color [Opt.set, Opt.merge, Opt.prec 0] .null (.obj [])
        (fun r => equals [Opt.set, Opt.merge, Opt.prec 0] r (.obj []) = true) :=
  Example.mergeSet_emptyobj_no_libRoundTrip nc Y color

/-- non-vacuity: the library theorem on `{"s":["x","y"],"u":"x","v":["x"]}` →
    `{"s":["y","x"],"t":[true],"v":["x","z"]}` under `[SET, MERGE]` and `[MULTISET, MERGE]` (every
    decidable hypothesis checked; only the IEEE laws remain) -/
example (F : FloatEq0) (L : FloatLaws) :
    (∃ text d' r, renderMergeM NativeRT.exCodec
        (diffM [.set, .merge] MSet.Example.exA MSet.Example.exB) = .ok (some text) ∧
      readMergeM NativeRT.exCodec text = .ok d' ∧ patchM MSet.Example.exA d' = .ok r ∧
      equals [.set, .merge] r MSet.Example.exB = true ∧
      equivB [.set, .merge] r MSet.Example.exB = true) ∧
    (∃ text d' r, renderMergeM NativeRT.exCodec
        (diffM [.mset, .merge] MSet.Example.exA MSet.Example.exB) = .ok (some text) ∧
      readMergeM NativeRT.exCodec text = .ok d' ∧ patchM MSet.Example.exA d' = .ok r ∧
      equals [.mset, .merge] r MSet.Example.exB = true ∧
      equivB [.mset, .merge] r MSet.Example.exB = true) :=
  ⟨Example.ex_merge_set F L, Example.ex_merge_mset F L⟩

/-! ## `-f patch` with `-set` / `-mset`: the exit status -/

/-- **C14, `jd -f patch -set|-mset a b`: exit status** (situation `DiffRun`: a diff command line on
    the v2 library, both inputs read and parsed to `a`, `b'`).
    `expressible x` (JdProofs/PatchRender.lean): `x` is an object key that is not number-like and
    not `-`, or a list index; the set / multiset / keyed elements are not. -/
theorem patch_set_exit_status {nc : NumCodec} {Y : YamlCarrier} {Ls : Bool → LibPack} {b : Binary}
    {fl : Flags} {e : Env} {a b' : Json} (R : DiffRun nc Y Ls b fl e a b') (S : SetFlags fl)
    (hf : formatOf fl.f = some .patch)
    (ha : a.rawDoc = true) (hwa : a.wf = true) (hb : b'.rawDoc = true) (hwb : b'.wf = true)
    (hva : E2E.voidFree a = true) (hvb : E2E.voidFree b' = true)
    (FH : DES.DiffFaithful (setOpts fl) (subterms a) (subterms b'))
    (hmar : ∀ z ∈ subterms a ++ subterms b', (marshalNode nc z).isSome = true) :
    ((proc Ls b fl e).exit = 2 ↔ ∃ h ∈ diffM (setOpts fl) a b', ∃ x ∈ h.path, ¬ expressible x) ∧
    ((proc Ls b fl e).exit = 0 ↔ diffM (setOpts fl) a b' = []) ∧
    ((proc Ls b fl e).exit = 1 ↔
      diffM (setOpts fl) a b' ≠ [] ∧ ∀ h ∈ diffM (setOpts fl) a b', ∀ x ∈ h.path, expressible x) :=
  patch_set_exit R S hf ha hwa hb hwb hva hvb FH hmar

/-- a hunk that adds / removes members of an array (path holding `{}` or `[]`) ⇒ exit 2: the first
    process fails, there is nothing for `jd -p -f patch` to read -/
theorem patch_set_exits_two_on_set_hunk {nc : NumCodec} {Y : YamlCarrier} {Ls : Bool → LibPack}
    {b : Binary} {fl : Flags} {e : Env} {a b' : Json} (R : DiffRun nc Y Ls b fl e a b')
    (S : SetFlags fl) (hf : formatOf fl.f = some .patch)
    (ha : a.rawDoc = true) (hwa : a.wf = true) (hb : b'.rawDoc = true) (hwb : b'.wf = true)
    (hva : E2E.voidFree a = true) (hvb : E2E.voidFree b' = true)
    (FH : DES.DiffFaithful (setOpts fl) (subterms a) (subterms b'))
    (hmar : ∀ z ∈ subterms a ++ subterms b', (marshalNode nc z).isSome = true)
    {h : Hunk} (hh : h ∈ diffM (setOpts fl) a b')
    (hset : PathElem.set ∈ h.path ∨ PathElem.mset ∈ h.path) :
    (proc Ls b fl e).exit = 2 :=
  patch_set_exit_two_of_set_hunk R S hf ha hwa hb hwb hva hvb FH hmar hh hset

/-- library fact behind it: `writePointer` fails exactly on the paths with an inexpressible element -/
theorem pointer_refused_iff (p : Path) :
    writePointerPath p = .err ↔ ∃ x ∈ p, ¬ expressible x :=
  writePointerPath_err_iff p

/-- non-vacuity, and the exit status on a concrete command line: `jd -f patch -set a.json b.json`
    with the files `["x"]` and `[]` (binary A, codec `exCodec`, texts parsed by the model's reader):
    the diff is the set hunk `@ [{}]  - "x"`, the process exits 2 (as the Go binary does) -/
example :
    diffM [Opt.set, Opt.prec 0] Example.pA Example.pB =
      [{ path := [.set], remove := [.str "x"], add := [] }] ∧
    (proc CliRT.NativeExample.Ls .v2jd Example.flPS
      { in1 := .ok Example.tpA, in2 := .ok Example.tpB }).exit = 2 :=
  ⟨Example.ex_diff, Example.ex_patch_set_exit_two⟩

end Jd.Props.C14MergeSet
