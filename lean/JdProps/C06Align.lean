/-
  Property C06 — list diffs are minimal (LCS), recurse into same-position containers, and carry
  adjacent context. ADDITIONAL statement file (proofs in JdProofs/ListAlignCount.lean, namespace
  `Jd.Align`, built on the alignment `Script` of JdProofs/ListScript.lean, namespace `Jd.RealL`).
  It closes three limits listed at the end of JdProps/C06.lean:

    1. with containers the count was an UPPER BOUND  →  here an EQUALITY (section 1);
    2. the recursion clause was stated along `Rec.Reach` (the cursor walk of the code)  →  here a
       STATIC, DECIDABLE criterion on the inputs, and it is EXACT (if and only if) (sections 2–3);
    3. the static context clause was stated for the top-level array only  →  here at every depth
       (section 4).

  Reading (as in JdProps/C06.lean, Part 3): `diffM o a b` = `a.Diff(b)` with `dispatchTag o = .list`
  (list reading) and `isMerge o = false` (strict strategy); `diffNode o false x y p` the recursive
  call on two nodes at path `p` (the SUB-DIFF). `ht`, `ht'`, `htt`: both arrays are plain `jsonArray`s
  or `jsonList`s in a combination the dispatcher sends to the list diff (`t = t' = .raw` for documents
  read from text). `listDocList xs`: no set / multiset typed node inside the elements (what the
  readers produce in list mode). `Rec.isTop [] h`: `h` is an ARRAY-LEVEL hunk of the top-level array
  (path of length one, with context); `Rec.removedTop [] D` / `Rec.addedTop [] D`: everything the
  array-level hunks of `D` remove / add, in hunk order.

  THE ALIGNMENT. `Align.alignment o xs ys : RealL.Script` is an EXECUTABLE function of the two arrays:
  `Align.walk` repeats the five decisions of `jsonList.diffRest` (both cursors at the next common
  element → keep; one of them → add / remove; neither → same-kind containers: recurse, else
  replace) on the common sequence `lcsValues (hashList o xs) (hashList o ys)` golcs returns, and
  records `keep x y` / `sub x y` / `edit R A` steps only (no hunks, paths, context, sub-diffs).
  `Align.keeps`, `Align.subs`: number of `keep` / `sub` steps; `Align.removedOf`, `Align.addedOf`: what the
  `edit` steps remove / add.

  THE CRITERION. The walk stops each cursor at the FIRST remaining element whose hash code is the
  next common element, so the common sequence is embedded LEFTMOST in each array; call the
  embedded elements ANCHORS and the runs between consecutive anchors GAPS. Inside a gap the code
  pairs the elements of the two arrays positionally. `Align.locate o xs c i 0 0` computes, from ONE
  array and the common sequence, `none` if `xs[i]` is an anchor and otherwise `some (gap number,
  offset in the gap)`. `Align.pairedAt o xs ys i j : Bool` says that `xs[i]` and `ys[j]` are not anchors
  and get the same answer. It is a function of the two hash lists; the diff is not run.

  NOT PROVED / LIMITS
    * what the sub-diffs remove / add INSIDE the recursed containers is not counted against any
      optimum (the count is about array-level elements, as the property says);
    * the criterion refers to the particular common sequence golcs returns (`lcsValues`) — among
      several longest common subsequences the anchors depend on that choice; two special cases
      are given in which it can be evaluated without computing it (single gap; `Diagonal` arrays);
    * "same length and same kind position by position" alone does NOT imply recursion: witness
      `same_kind_position_by_position_is_not_enough`;
    * list documents holding a typed `jsonList` element against a plain `jsonArray` element
      (`mixedPair`): as in JdProps/C06.lean, excluded where the sub-diff is spoken of literally;
    * set / multiset readings, merge strategy, Precision (section 4 asks `precOf o = 0`): out of
      scope of C06.
-/
import JdProofs.ListAlignCount

set_option autoImplicit false

namespace Jd.Props.C06Align
open Jd Jd.Spec Jd.DPL Jd.Rec Jd.RealL Jd.Align

/-! ## 1. exact counts with containers -/

/-- the alignment consumes exactly the first array and produces exactly the second, and its kept
    pairs are as many as a LONGEST common subsequence of the two hash lists (`lcsLenSpec`: the
    textbook recurrence; `Jd.lcsValues_length_spec`: the length of what golcs returns). No
    hypothesis. -/
theorem alignment_keeps_a_longest_common_subsequence (o : Opts) (xs ys : List Json) :
    src (alignment o xs ys) = xs ∧ tgt (alignment o xs ys) = ys ∧
    keeps (alignment o xs ys) = lcsLenSpec (hashList o xs) (hashList o ys) :=
  ⟨alignment_src o xs ys, alignment_tgt o xs ys, alignment_keeps o xs ys⟩

/-- what the array-level hunks of `a.Diff(b)` remove (add), as a LIST in hunk order, is what the
    `edit` steps of the alignment remove (add). Hypothesis: list documents (needed so that no hunk
    of a sub-diff is mistaken for an array-level hunk). -/
theorem array_level_hunks_are_the_edit_steps {o : Opts} (ho : dispatchTag o = .list)
    (hm : isMerge o = false) {t t' : Tag} (xs ys : List Json)
    (ht : (t == .raw || t == .list) = true) (ht' : (t' == .raw || t' == .list) = true)
    (htt : t = .raw ∨ t' = .list)
    (hla : listDocList xs = true) (hlb : listDocList ys = true) :
    removedTop [] (diffM o (.arr t xs) (.arr t' ys)) = removedOf (alignment o xs ys) ∧
    addedTop [] (diffM o (.arr t xs) (.arr t' ys)) = addedOf (alignment o xs ys) :=
  diffM_top_eq ho hm xs ys ht ht' htt hla hlb

/-- **EXACT COUNT, containers allowed** (equalities between natural numbers, no subtraction): every
    element of the first array is removed by an array-level hunk, or kept (LCS many), or recursed
    into (`subs` many) — exactly one of the three; every element of the second array is added, kept
    or recursed into. Only hypothesis on the elements: list documents. -/
theorem array_level_counts_exact {o : Opts} (ho : dispatchTag o = .list) (hm : isMerge o = false)
    {t t' : Tag} (xs ys : List Json)
    (ht : (t == .raw || t == .list) = true) (ht' : (t' == .raw || t' == .list) = true)
    (htt : t = .raw ∨ t' = .list)
    (hla : listDocList xs = true) (hlb : listDocList ys = true) :
    (removedTop [] (diffM o (.arr t xs) (.arr t' ys))).length +
        lcsLenSpec (hashList o xs) (hashList o ys) + subs (alignment o xs ys) = xs.length ∧
    (addedTop [] (diffM o (.arr t xs) (.arr t' ys))).length +
        lcsLenSpec (hashList o xs) (hashList o ys) + subs (alignment o xs ys) = ys.length :=
  diffM_counts_exact ho hm xs ys ht ht' htt hla hlb

/-- the same in the form "removes = |xs| − LCS − #sub, adds = |ys| − LCS − #sub" -/
theorem array_level_counts_exact_minus {o : Opts} (ho : dispatchTag o = .list)
    (hm : isMerge o = false) {t t' : Tag} (xs ys : List Json)
    (ht : (t == .raw || t == .list) = true) (ht' : (t' == .raw || t' == .list) = true)
    (htt : t = .raw ∨ t' = .list)
    (hla : listDocList xs = true) (hlb : listDocList ys = true) :
    (removedTop [] (diffM o (.arr t xs) (.arr t' ys))).length =
        xs.length - lcsLenSpec (hashList o xs) (hashList o ys) - subs (alignment o xs ys) ∧
    (addedTop [] (diffM o (.arr t xs) (.arr t' ys))).length =
        ys.length - lcsLenSpec (hashList o xs) (hashList o ys) - subs (alignment o xs ys) := by
  have := diffM_counts_exact ho hm xs ys ht ht' htt hla hlb
  omega

/-- **no more than an optimal LCS edit script**: for ANY common subsequence `c'` of the two hash
    lists (any matching of equal-hash elements an edit script could keep), the array-level hunks
    remove at most `|xs| − |c'|` and add at most `|ys| − |c'|` elements; each pair recursed into
    saves one removal and one addition more -/
theorem no_more_than_an_optimal_lcs_edit_script {o : Opts} (ho : dispatchTag o = .list)
    (hm : isMerge o = false) {t t' : Tag} (xs ys : List Json)
    (ht : (t == .raw || t == .list) = true) (ht' : (t' == .raw || t' == .list) = true)
    (htt : t = .raw ∨ t' = .list)
    (hla : listDocList xs = true) (hlb : listDocList ys = true)
    (c' : List UInt64) (h1 : c'.Sublist (hashList o xs)) (h2 : c'.Sublist (hashList o ys)) :
    (removedTop [] (diffM o (.arr t xs) (.arr t' ys))).length + subs (alignment o xs ys) ≤
        xs.length - c'.length ∧
    (addedTop [] (diffM o (.arr t xs) (.arr t' ys))).length + subs (alignment o xs ys) ≤
        ys.length - c'.length := by
  have hc := lcsLenSpec_upper (hashList o xs) (hashList o ys) c' h1 h2
  have := diffM_counts_exact ho hm xs ys ht ht' htt hla hlb
  omega

/-- arrays of scalars (first array): nothing is recursed into, and the count of
    `Props.C06.scalar_array_diff_counts` is recovered: exactly `|xs| − LCS` removed, `|ys| − LCS`
    added -/
theorem scalar_arrays_exactly_len_minus_lcs {o : Opts} (ho : dispatchTag o = .list)
    (hm : isMerge o = false) {t t' : Tag} (xs ys : List Json)
    (ht : (t == .raw || t == .list) = true) (ht' : (t' == .raw || t' == .list) = true)
    (htt : t = .raw ∨ t' = .list)
    (hla : listDocList xs = true) (hlb : listDocList ys = true)
    (scalars : ∀ x ∈ xs, isScalar x = true) :
    subs (alignment o xs ys) = 0 ∧
    (removedTop [] (diffM o (.arr t xs) (.arr t' ys))).length =
        xs.length - lcsLenSpec (hashList o xs) (hashList o ys) ∧
    (addedTop [] (diffM o (.arr t xs) (.arr t' ys))).length =
        ys.length - lcsLenSpec (hashList o xs) (hashList o ys) := by
  have h0 : subs (alignment o xs ys) = 0 := Min.subs_eq_zero (no_sub_of_scalars o ys scalars)
  have := diffM_counts_exact ho hm xs ys ht ht' htt hla hlb
  omega

/-- **the diff IS the rendering of the alignment** (`RealL.hunks`: a `keep` step emits nothing, a
    `sub x y` step emits the sub-diff of `x`, `y` at the index of `y`, an `edit R A` step emits one
    array-level hunk removing `R`, adding `A`, with the neighbours as context), and every step is
    `ok`: kept pairs have ONE hash code, recursed pairs are same-kind containers with DIFFERENT
    hash codes, edits are non-empty and position-wise hash-apart. Hypotheses of
    `Props.C07List.array_diff_is_alignment`, which only asserts that SOME alignment exists:
    elements `GoodL` (list documents, sorted unique keys, finite numbers, no void member),
    `NumHashOK` (numbers equal as floats hash alike), no typed list against a plain array. -/
theorem diff_is_the_rendering_of_the_alignment {o : Opts} (ho : dispatchTag o = .list)
    (hm : isMerge o = false) {t t' : Tag} (xs ys : List Json)
    (ht : (t == .raw || t == .list) = true) (ht' : (t' == .raw || t' == .list) = true)
    (htt : t = .raw ∨ t' = .list) (gx : GoodL xs) (gy : GoodL ys)
    (Z : NumHashOK o (subtermsList xs) (subtermsList ys))
    (nomix : ∀ x ∈ xs, ∀ y ∈ ys, mixedPair x y = false) :
    diffM o (.arr t xs) (.arr t' ys) = hunks o [] 0 .void (alignment o xs ys) ∧
    (∀ st ∈ alignment o xs ys, st.ok o) := by
  have al := diffNode_aligned_walk ho xs ys ht ht' htt gx gy Z nomix
  exact ⟨by rw [diffM, hm]; exact al.diff_eq [], al.ok⟩

/-! ## 2. recursion: a static criterion, and it is exact -/

/-- **the criterion is EXACT.** The alignment recurses into the pair (`xs[i]`, `ys[j]`) — it has the
    step `sub x y` after steps consuming `i` elements of `xs` and producing `j` elements of `ys` — IF
    AND ONLY IF `x = xs[i]` and `y = ys[j]` are containers of the same kind standing in the same gap
    at the same offset (`pairedAt`). No hypothesis. -/
theorem recursed_iff_same_gap_same_offset {o : Opts} {xs ys : List Json} {i j : Nat} {x y : Json} :
    (∃ S1 S2, alignment o xs ys = S1 ++ .sub x y :: S2 ∧ (src S1).length = i ∧
      (tgt S1).length = j) ↔
    (pairedAt o xs ys i j = true ∧ xs[i]? = some x ∧ ys[j]? = some y ∧
      sameContainerType o x y = true) :=
  alignment_sub_iff

/-- **"recurses into same-position containers of the same kind instead of replacing them", static
    form.** If `x = xs[i]` and `y = ys[j]` are same-kind containers, `pairedAt o xs ys i j` (same gap,
    same offset), the elements are list documents and the pair is not a typed `jsonList` against a
    plain `jsonArray` (`mixedPair`, never in documents read from text), then
    `a.Diff(b) = D1 ++ (sub-diff of x and y at [j]) ++ D2`; no hunk of the sub-diff is an array-level
    hunk; the array-level hunks of `D1` only remove elements of `xs` standing before `i` and add
    elements of `ys` standing before `j`, those of `D2` only elements standing after them. So no
    array-level hunk removes `x` or adds `y`: the pair is recursed into, not replaced. -/
theorem same_gap_same_offset_containers_are_recursed_into {o : Opts} (ho : dispatchTag o = .list)
    (hm : isMerge o = false) {t t' : Tag} (xs ys : List Json)
    (ht : (t == .raw || t == .list) = true) (ht' : (t' == .raw || t' == .list) = true)
    (htt : t = .raw ∨ t' = .list)
    (hla : listDocList xs = true) (hlb : listDocList ys = true)
    {i j : Nat} {x y : Json}
    (hp : pairedAt o xs ys i j = true) (hx : xs[i]? = some x) (hy : ys[j]? = some y)
    (hs : sameContainerType o x y = true) (hnm : mixedPair x y = false) :
    ∃ (D1 D2 : Diff),
      diffM o (.arr t xs) (.arr t' ys) = D1 ++ diffNode o false x y [.idx (j : Int)] ++ D2 ∧
      (∀ h ∈ diffNode o false x y [.idx (j : Int)], isTop [] h = false) ∧
      (removedTop [] D1).Sublist (xs.take i) ∧ (addedTop [] D1).Sublist (ys.take j) ∧
      (removedTop [] D2).Sublist (xs.drop (i + 1)) ∧ (addedTop [] D2).Sublist (ys.drop (j + 1)) :=
  diffM_recurses_static ho hm xs ys ht ht' htt hla hlb hp hx hy hs hnm

/-- the same about the whole diff (no `mixedPair` hypothesis): all array-level hunks together
    remove a sublist of `xs` with position `i` taken out and add a sublist of `ys` with position `j`
    taken out -/
theorem array_level_hunks_spare_the_paired_positions {o : Opts} (ho : dispatchTag o = .list)
    (hm : isMerge o = false) {t t' : Tag} (xs ys : List Json)
    (ht : (t == .raw || t == .list) = true) (ht' : (t' == .raw || t' == .list) = true)
    (htt : t = .raw ∨ t' = .list)
    (hla : listDocList xs = true) (hlb : listDocList ys = true)
    {i j : Nat} {x y : Json}
    (hp : pairedAt o xs ys i j = true) (hx : xs[i]? = some x) (hy : ys[j]? = some y)
    (hs : sameContainerType o x y = true) :
    (removedTop [] (diffM o (.arr t xs) (.arr t' ys))).Sublist (xs.take i ++ xs.drop (i + 1)) ∧
    (addedTop [] (diffM o (.arr t xs) (.arr t' ys))).Sublist (ys.take j ++ ys.drop (j + 1)) := by
  obtain ⟨r, e1, e2⟩ := pairedAt_iff.1 hp
  obtain ⟨_, c', hr, hA, hB⟩ := walk_sub_of_locate o xs ys _ xs ys _ [] [] Reach.start
    i j 0 0 0 r x y e1 e2 (by simp) (by simp) hx hy hs
  obtain ⟨preA, preB, ea, eb, h1, h2⟩ :=
    diffM_recurses_at_whole ho hm xs ys ht ht' htt hla hlb hr hA hB hs
  rw [(prefix_eq_take ea rfl (List.getElem?_eq_some_iff.1 hx).1).1] at h1
  rw [(prefix_eq_take eb rfl (List.getElem?_eq_some_iff.1 hy).1).1] at h2
  exact ⟨h1, h2⟩

/-- the criterion in terms of the cursor walk of JdProps/C06.lean: it implies `Rec.Reach` to the
    position with both cursor elements off the common sequence, i.e. the hypotheses of
    `Props.C06.recursion_at_reached_position` -/
theorem criterion_implies_reached {o : Opts} {xs ys : List Json} {i j : Nat} {x y : Json}
    (hp : pairedAt o xs ys i j = true) (hx : xs[i]? = some x) (hy : ys[j]? = some y)
    (hs : sameContainerType o x y = true) :
    ∃ c', Reach o xs ys (lcsValues (hashList o xs) (hashList o ys))
        (x :: xs.drop (i + 1)) (y :: ys.drop (j + 1)) c' ∧
      atC o x c' = false ∧ atC o y c' = false := by
  obtain ⟨r, e1, e2⟩ := pairedAt_iff.1 hp
  exact (walk_sub_of_locate o xs ys _ xs ys _ [] [] Reach.start i j 0 0 0 r x y e1 e2 (by simp)
    (by simp) hx hy hs).2

/-! ## 3. the criterion without computing the common sequence -/

/-- **single gap**: no element of `xs` has the hash code of an element of `ys` (the common sequence is
    empty, the arrays are one gap): `pairedAt` holds exactly between equal indices. Generalises
    `Props.C06.same_kind_containers_are_recursed_into` (no assumption on the lengths, nor that EVERY
    position holds same-kind containers). -/
theorem single_gap_pairs_equal_indices {o : Opts} {xs ys : List Json}
    (apart : ∀ x ∈ xs, ∀ y ∈ ys, hashCode o x ≠ hashCode o y) {i j : Nat}
    (hi : i < xs.length) (hj : j < ys.length) : pairedAt o xs ys i j = true ↔ i = j := by
  constructor
  · intro h
    apply Classical.byContradiction
    intro hne
    rw [not_pairedAt_of_apart apart hi hj hne] at h
    cases h
  · rintro rfl
    exact pairedAt_of_apart apart hi hj

/-- **position-wise arrays** (`Diagonal o xs ys`: a hash code of `xs` occurs in `ys` at the SAME index
    only — decidable: `Align.diagonalB`): every index whose two elements have different hash
    codes is paired with itself. Together with the theorem above: such arrays are diffed position
    by position — equal hash codes: kept; same-kind containers: recursed into; anything else:
    replaced. -/
theorem diagonal_arrays_pair_equal_indices {o : Opts} {xs ys : List Json} (hD : Diagonal o xs ys)
    {i : Nat} {x y : Json} (hx : xs[i]? = some x) (hy : ys[i]? = some y)
    (hne : hashCode o x ≠ hashCode o y) : pairedAt o xs ys i i = true :=
  pairedAt_of_diagonal hD hx hy hne

/-- the two together, for `a.Diff(b)`: in `Diagonal` arrays of list documents, two same-kind
    containers with different hash codes standing at the same index `i` are recursed into -/
theorem positionwise_containers_are_recursed_into {o : Opts} (ho : dispatchTag o = .list)
    (hm : isMerge o = false) {t t' : Tag} (xs ys : List Json)
    (ht : (t == .raw || t == .list) = true) (ht' : (t' == .raw || t' == .list) = true)
    (htt : t = .raw ∨ t' = .list)
    (hla : listDocList xs = true) (hlb : listDocList ys = true) (hD : Diagonal o xs ys)
    {i : Nat} {x y : Json} (hx : xs[i]? = some x) (hy : ys[i]? = some y)
    (hne : hashCode o x ≠ hashCode o y)
    (hs : sameContainerType o x y = true) (hnm : mixedPair x y = false) :
    ∃ (D1 D2 : Diff),
      diffM o (.arr t xs) (.arr t' ys) = D1 ++ diffNode o false x y [.idx (i : Int)] ++ D2 ∧
      (∀ h ∈ diffNode o false x y [.idx (i : Int)], isTop [] h = false) ∧
      (removedTop [] D1).Sublist (xs.take i) ∧ (addedTop [] D1).Sublist (ys.take i) ∧
      (removedTop [] D2).Sublist (xs.drop (i + 1)) ∧ (addedTop [] D2).Sublist (ys.drop (i + 1)) :=
  diffM_recurses_static ho hm xs ys ht ht' htt hla hlb (pairedAt_of_diagonal hD hx hy hne) hx hy hs
    hnm

/-- `Diagonal` from its decidable form -/
theorem diagonal_is_decidable {o : Opts} {xs ys : List Json} (h : diagonalB o xs ys = true) :
    Diagonal o xs ys :=
  diagonal_of_diagonalB h

/-! ## 4. context lines at every depth, statically -/

/-- **"every hunk that edits an array position carries exactly one line of before-context and one of
    after-context, equal to the neighbouring elements or the array boundary" — at every depth, with
    LITERAL equality, no hash-collision hypothesis.** `a` as read from text (`rawDoc`), `a`, `b` `Good`
    (list documents, sorted unique keys, finite numbers, no void member), `NumHashOK` (numbers equal
    as floats hash alike; true of all finite doubles, a hypothesis because the kernel cannot
    evaluate `Float`), no Precision. For every hunk `h` of `a.Diff(b)` whose path ends with a list
    index, `h.path = q ++ [i]`: `i = n ≥ 0`; `b` holds an array `ys` at `q` (the path read literally,
    `Real.getAt`); `a` holds an array `xs` at a path `qa` with the same keys and list levels
    (`sameShape`; the indices are shifted by the edits that precede); and `LocatedAt q xs ys h n m`
    (spelled out in `located_at_unfolded`). -/
theorem context_lines_are_the_neighbours_at_every_depth {o : Opts} (ho : dispatchTag o = .list)
    (hp : precOf o = 0) (hm : isMerge o = false) {a b : Json} (hr : a.rawDoc = true) (ha : Good a)
    (hb : Good b) (N : NumHashOK o (subterms a) (subterms b)) :
    ∀ h ∈ diffM o a b, ∀ (q : Path) (i : Int), h.path = q ++ [.idx i] →
      ∃ (qa : Path) (t : Tag) (xs : List Json) (t' : Tag) (ys : List Json) (n m : Nat),
        i = (n : Int) ∧ Real.getAt a qa = some (.arr t xs) ∧ Real.getAt b q = some (.arr t' ys) ∧
        sameShape qa q ∧ LocatedAt q xs ys h n m := by
  intro h hmem q i hpath
  obtain ⟨qa, t, xs, t', ys, _, ga, gb, hsh, L, _⟩ :=
    hunkReal_list (diffM_hunk_real ho hp hm hr ha hb N h hmem) hpath
  obtain ⟨n, m, hL⟩ := locatedAt_of_located L
  refine ⟨qa, t, xs, t', ys, n, m, ?_, ga, gb, hsh, hL⟩
  have := hL.path_eq
  rw [hpath] at this
  have := List.append_inj_right' this rfl
  simpa using this

/-- what `LocatedAt p X Y h n m` says, field by field: `h` is addressed to index `n`; it removes the run
    of `X` standing at index `m` and adds the run of `Y` standing at index `n`; it has exactly one
    before-context line `prev` and one after-context line `next`; `prev` is the boundary marker when
    `n = 0` and otherwise IS `Y[n-1]`; `next` IS the element of `X` following the removed run, or the
    boundary marker when the run ends `X` -/
theorem located_at_unfolded {p : Path} {X Y : List Json} {h : Hunk} {n m : Nat}
    (L : LocatedAt p X Y h n m) :
    h.path = p ++ [PathElem.idx (n : Int)] ∧
    h.remove = (X.drop m).take h.remove.length ∧ h.add = (Y.drop n).take h.add.length ∧
    m + h.remove.length ≤ X.length ∧ n + h.add.length ≤ Y.length ∧
    ∃ prev next, h.before = [prev] ∧ h.after = [next] ∧
      (n = 0 → prev = .void) ∧ (∀ k, n = k + 1 → Y[k]? = some prev) ∧
      (match X[m + h.remove.length]? with
       | some z => next = z
       | none => next = .void) :=
  ⟨L.path_eq, L.remove_eq, L.add_eq, L.remove_fits, L.add_fits, L.ctx⟩

/-! ## 5. witnesses -/

/-- **WITNESS: same gap, DIFFERENT offsets — replaced, not recursed.** `[{"a":"u"}]` against
    `["s", {"a":"v"}]`: the two objects are same-kind containers with different hash codes, both in
    the only gap, at offsets 0 and 1: `pairedAt … 0 1 = false`, and `a.Diff(b)` is ONE array-level hunk
    that removes the object and adds `"s"` and the other object. With the target `[{"a":"v"}, "s"]`
    (offsets 0 and 0) the criterion holds. -/
theorem different_offsets_are_replaced_not_recursed :
    sameContainerType [] Align.Example.oA Align.Example.oB = true ∧
    pairedAt [] [Align.Example.oA] [.str "s", Align.Example.oB] 0 1 = false ∧
    diffM [] (.arr .raw [Align.Example.oA]) (.arr .raw [.str "s", Align.Example.oB]) =
      [{ path := [.idx 0], before := [.void], remove := [Align.Example.oA],
         add := [.str "s", Align.Example.oB], after := [.void] }] ∧
    pairedAt [] [Align.Example.oA] [Align.Example.oB, .str "s"] 0 0 = true :=
  ⟨by decide +kernel, Align.Example.different_offsets_not_paired,
    Align.Example.different_offsets_replaced, Align.Example.same_offset_paired⟩

/-- **WITNESS: "same length, same kind position by position" is not enough.** `[A, B]` against `[C, A]`,
    three objects with different hash codes: at both positions the elements are same-kind
    containers (`Rec.sameKinds`), but `A` is the common sequence; the alignment is "add `C`, keep
    `A`, remove `B`": nothing is recursed into. The arrays are not `Diagonal`. -/
theorem same_kind_position_by_position_is_not_enough :
    sameKinds [] [Align.Example.oA, Align.Example.oB] [Align.Example.oC, Align.Example.oA] = true ∧
    alignment [] [Align.Example.oA, Align.Example.oB] [Align.Example.oC, Align.Example.oA] =
      [.edit [] [Align.Example.oC], .keep Align.Example.oA Align.Example.oA,
       .edit [Align.Example.oB] []] ∧
    subs (alignment [] [Align.Example.oA, Align.Example.oB]
      [Align.Example.oC, Align.Example.oA]) = 0 :=
  ⟨Align.Example.shifted_alignment.1, Align.Example.shifted_alignment.2,
    Align.Example.shifted_nothing_recursed⟩

/-! ## 6. non-vacuity

  `xsM = ["k", {"a":"u"}, "s", ["p"]]`, `ysM = ["k", {"a":"v"}, "t", ["p","q"]]` (no options): one kept pair
  (`"k"`), two pairs recursed into (index 1: objects, index 3: arrays), one scalar replaced
  (index 2). `a.Diff(b)` = `@ [1,"a"] - "u" + "v"`, `@ [2] {"a":"v"} - "s" + "t" ["p"]`, `@ [3,1] "p" + "q" ]`. -/

/-- hypotheses of section 1 (list documents) and the count: 1 removed + LCS 1 + 2 recursed = 4 -/
example : listDocList Align.Example.xsM = true ∧ listDocList Align.Example.ysM = true ∧
    (removedTop [] (diffM [] (.arr .raw Align.Example.xsM) (.arr .raw Align.Example.ysM))).length +
      lcsLenSpec (hashList [] Align.Example.xsM) (hashList [] Align.Example.ysM) +
      subs (alignment [] Align.Example.xsM Align.Example.ysM) = 4 :=
  ⟨Align.Example.listDocM.1, Align.Example.listDocM.2,
    (array_level_counts_exact rfl rfl _ _ rfl rfl (.inl rfl) Align.Example.listDocM.1
      Align.Example.listDocM.2).1⟩

/-- hypotheses of `diff_is_the_rendering_of_the_alignment` -/
example : diffM [] (.arr .raw Align.Example.xsM) (.arr .raw Align.Example.ysM) =
    hunks [] [] 0 .void (alignment [] Align.Example.xsM Align.Example.ysM) :=
  (diff_is_the_rendering_of_the_alignment rfl rfl _ _ rfl rfl (.inl rfl) Align.Example.goodXM
    Align.Example.goodYM Align.Example.numM Align.Example.nomixM).1

/-- hypotheses of section 2 / 3: the arrays are `Diagonal`, index 1 (two objects) and index 3 (two
    arrays) satisfy the criterion, and the objects at index 1 are recursed into -/
example : ∃ (D1 D2 : Diff),
    diffM [] (.arr .raw Align.Example.xsM) (.arr .raw Align.Example.ysM) =
      D1 ++ diffNode [] false Align.Example.oA Align.Example.oB [.idx 1] ++ D2 ∧
    (removedTop [] D1).Sublist (Align.Example.xsM.take 1) ∧
    (removedTop [] D2).Sublist (Align.Example.xsM.drop 2) := by
  obtain ⟨D1, D2, e, _, h1, _, h3, _⟩ :=
    same_gap_same_offset_containers_are_recursed_into (o := []) rfl rfl (t := .raw) (t' := .raw)
      Align.Example.xsM Align.Example.ysM rfl rfl (.inl rfl) Align.Example.listDocM.1
      Align.Example.listDocM.2 Align.Example.paired1 (x := Align.Example.oA) (y := Align.Example.oB)
      rfl rfl (by decide +kernel) (by decide +kernel)
  exact ⟨D1, D2, e, h1, h3⟩

example : pairedAt [] Align.Example.xsM Align.Example.ysM 3 3 = true := Align.Example.paired3

/-- hypotheses of section 4 -/
example : ∀ h ∈ diffM [] (.arr .raw Align.Example.xsM) (.arr .raw Align.Example.ysM),
    ∀ (q : Path) (i : Int), h.path = q ++ [.idx i] →
      ∃ (qa : Path) (t : Tag) (xs : List Json) (t' : Tag) (ys : List Json) (n m : Nat),
        i = (n : Int) ∧ Real.getAt (.arr .raw Align.Example.xsM) qa = some (.arr t xs) ∧
        Real.getAt (.arr .raw Align.Example.ysM) q = some (.arr t' ys) ∧
        sameShape qa q ∧ LocatedAt q xs ys h n m :=
  context_lines_are_the_neighbours_at_every_depth rfl rfl rfl Align.Example.rawM
    Align.Example.goodAM Align.Example.goodBM Align.Example.numM'

end Jd.Props.C06Align
