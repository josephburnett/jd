/-
  C15 (applying a diff never changes the diff): the deep copy `cloneNode` / `cloneNodes` of the SOURCE is
  the deep copy of the MODEL — with the source side regenerated from /repo on every run by tools/clonefacts
  (JdModel/Gen/CloneCases.lean). The definitions of the statements: JdProofs/CloneCases.lean; the
  statements are closed terms, checked here by kernel evaluation. They replace the
  hand-transcribed link `C15Heap.model_cases_are_the_source_cases`: what `C15Heap` proves about the model's
  `cloneNode` (same value, fresh, deep, edits of the clone invisible) is about a function with the same case
  analysis as the Go function as it stands today.

  Any edit of `cloneNode` / `cloneNodes` that is not a renaming of local variables changes the regenerated
  table (an unrecognised body is carried as `other "<text>"`) and one of the theorems below stops checking:
  a shallow `slices.Clone(t)`, a dropped or added clause, `if len(t) == 0 { return t }`, a copy of
  `jsonNull` by `append`, a `cloneNodes` that keeps spare capacity.
-/
import JdProofs.CloneCases

namespace Jd.Props.C15Clone
open Jd Jd.NodeHeap Jd.CloneCases

/-- REGENERATED: the type switch of v2's `cloneNode`, clause by clause in source order (type names and
    the shape of each body), is the model's case table `modelCloneCases` written as a type switch
    (`modelSwitch`): `case jsonObject` allocates a new map and assigns `cloneNode` of every member,
    `case jsonArray / jsonList / jsonSet / jsonMultiset` return `T(cloneNodes(t))` with their own `T`,
    `default` returns the argument. No hypothesis: both sides are closed tables. -/
theorem v2_cloneNode_is_the_model_case_table : Gen.cloneNodeCases_v2 = modelSwitch := rfl

/-- REGENERATED: the same for the v1 library (lib/patch_common.go) -/
theorem lib_cloneNode_is_the_model_case_table : Gen.cloneNodeCases_lib = modelSwitch := rfl

/-- REGENERATED: `cloneNodes` is, in both libraries, exactly: `nil` for `nil`, else a NEW slice of the same
    length and no spare capacity whose `i`-th element is `cloneNode` of the `i`-th — what the model's
    `cloneNodes` (`cloneList (cloneNode f)`) and the `arrRef t _ 0 len len` header of its slice case do -/
theorem cloneNodes_is_standard_in_both_libraries :
    Gen.cloneNodesShape_v2 = .standard ∧ Gen.cloneNodesShape_lib = .standard := by decide

/-- REGENERATED: for a node of every Go type the model knows (one representative each: void, null, bool,
    number, string, object, array, list, set, multiset) the clause the source's switch takes — first clause
    listing the type, else `default` — is the case the model's `cloneNode` takes. `caseTaken` is `none` for
    an unrecognised body or a conversion to another type, so those fail. -/
theorem every_go_type_takes_the_model_case :
    representatives.all (fun n => caseTaken Gen.cloneNodeCases_v2 n.goType == some n.cloneCase) = true ∧
    representatives.all (fun n => caseTaken Gen.cloneNodeCases_lib n.goType == some n.cloneCase) = true :=
  ⟨by decide +kernel, by decide +kernel⟩

/-- REGENERATED: the types of the package that implement `JsonNode` (all methods of the interface and of
    the embedded `jsonNodeInternals` declared) are exactly the Go types of the model's representatives —
    a new node type would need a case in `cloneNode` and in the model. lib has one more,
    `jsonStringOrInteger`, a `string`, returned as it is. -/
theorem node_types_are_the_model_types :
    sameMembers (Gen.nodeKinds_v2.map (·.1)) (representatives.map HNode.goType) = true ∧
    sameMembers (Gen.nodeKinds_lib.map (·.1)) ("jsonStringOrInteger" :: representatives.map HNode.goType) = true ∧
    Gen.nodeKinds_lib.lookup "jsonStringOrInteger" = some .other ∧
    caseTaken Gen.cloneNodeCases_lib "jsonStringOrInteger" = some .asIs :=
  ⟨by decide +kernel, by decide +kernel⟩

/-- REGENERATED: every node type whose underlying type is a map is copied as a map, every one whose
    underlying type is a slice is copied as a slice of its own type, and every other type (struct{}, bool,
    float64, string: no interior pointer to write through) is returned as it is — in both libraries, with
    the single exception of `jsonNull`, a `[]byte` returned SHARED (see
    `every_jsonNull_has_capacity_0`). `copied_according_to_kind` unfolds what the Boolean says for one type. -/
theorem every_map_or_slice_type_but_jsonNull_is_copied :
    Gen.nodeKinds_v2.all (kindAgrees Gen.cloneNodeCases_v2) = true ∧
    Gen.nodeKinds_lib.all (kindAgrees Gen.cloneNodeCases_lib) = true :=
  ⟨by decide +kernel, by decide +kernel⟩

/-- what the previous statement says for one type `ty` other than jsonNull (hypothesis `hn`; `h` is one
    conjunct of the `all`): by the kind `k` of its underlying type -/
theorem copied_according_to_kind (tbl : List (List String × Gen.CloneBody)) (ty : String) (k : Gen.GoKind)
    (h : kindAgrees tbl (ty, k) = true) (hn : ty ≠ "jsonNull") :
    (k = .map → caseTaken tbl ty = some .copyMap) ∧
    (k = .slice → caseTaken tbl ty = some .copySlice) ∧
    (k = .other → caseTaken tbl ty = some .asIs) := by
  have hne : (ty == "jsonNull") = false := by simpa using hn
  simp only [kindAgrees, hne] at h
  cases k <;> simp_all

/-- the hypotheses of `copied_according_to_kind` hold of a real entry: jsonSet (declared `jsonArray`, itself
    `[]JsonNode`) in v2 -/
example : caseTaken Gen.cloneNodeCases_v2 "jsonSet" = some .copySlice :=
  (copied_according_to_kind Gen.cloneNodeCases_v2 "jsonSet" .slice (by decide) (by decide)).2.1 rfl

/-- REGENERATED: every place the source of either library mentions the type `jsonNull` is its
    declaration, a method receiver, the type of a type-switch clause or type assertion, or one of the two
    value forms `jsonNull{}` / `jsonNull(nil)` (not under `append`, slicing or indexing); its methods only
    call methods on the receiver, pass it on as a `JsonNode`, or return it. So every `jsonNull` value has
    length 0 and capacity 0, and by `C15Heap.no_write_through_capacity_0` sharing one cannot be observed by
    a write: the model's immutable `null` is sound for aliasing. (The table is syntactic: a value built
    by reflection is outside it.) -/
theorem every_jsonNull_has_capacity_0 :
    nullDiscipline Gen.jsonNullSites_v2 Gen.jsonNullReceiverUses_v2 = true ∧
    nullDiscipline Gen.jsonNullSites_lib Gen.jsonNullReceiverUses_lib = true :=
  ⟨by decide +kernel, by decide +kernel⟩

/-- the tables NodeHeapProofs transcribed by hand (`sourceCloneCases_asRead`: the switch with `default`
    spelled out; `sourceNodeRepr_asRead`: the underlying types) say, entry by entry, what the regenerated
    tables of both libraries say — `C15Heap.model_cases_are_the_source_cases` is therefore a statement about
    the source as it is now -/
theorem hand_transcribed_tables_agree_with_the_source :
    sourceCloneCases_asRead.all (fun p =>
      caseTaken Gen.cloneNodeCases_v2 p.1 == some p.2 && caseTaken Gen.cloneNodeCases_lib p.1 == some p.2) = true ∧
    sourceNodeRepr_asRead.all (fun p =>
      (Gen.nodeKinds_v2.lookup p.1).map reprOfKind == some p.2 &&
      (Gen.nodeKinds_lib.lookup p.1).map reprOfKind == some p.2) = true ∧
    sameMembers (sourceNodeRepr_asRead.map (·.1)) (Gen.nodeKinds_v2.map (·.1)) = true := by decide +kernel

/-! ### the seeded shapes, as tables: each is refused -/

/-- a shallow copy in the jsonArray clause (`return slices.Clone(t)`) is carried as `other` and is no case
    of the model -/
example : caseTaken [(["jsonArray"], .other "return slices.Clone(t)"), (["default"], .asIs)] "jsonArray" = none := by
  decide

/-- without a jsonSet clause a set falls to `default` and is returned shared, against its slice kind -/
example : kindAgrees [(["jsonArray"], .copySlice "jsonArray"), (["default"], .asIs)] ("jsonSet", .slice) = false := by
  decide

/-- a conversion to ANOTHER slice type is no copy of the clause's own type -/
example : caseTaken [(["jsonSet"], .copySlice "jsonArray"), (["default"], .asIs)] "jsonSet" = none := by decide

end Jd.Props.C15Clone
