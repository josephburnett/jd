/-
  JdProofs.OptSites — OPTION PLUMBING: which option / metadata list every call inside v2/ and lib/ passes to a
  function that takes one. `Gen.optSites` is regenerated from the Go source on every run (tools/optfacts);
  `expected` below is the table the hand-written model was written against — the model makes exactly these
  choices, e.g.

    * v2/diff_common.go diff — `a.Equals(b)` WITHOUT the options (JdModel/Diff.lean `diffCommon`: `equals []`;
      the source of known finding KF-C05-precision); lib/diff_common.go passes the metadata (V1 honours the precision);
    * jsonList.patch / jsonObject.patch / patch_common.go compare old values and context WITHOUT options
      (`equals []` in JdModel/Patch.lean);
    * jsonSet.patch / jsonMultiset.patch hash, identify and compare with the METADATA OF THE PATH (`[.set]` / `[.mset]`),
      not with the caller's options (JdModel/Patch.lean `patchSetLeaf [.set]`, `identOf m`);
    * every `hashCode` / `Equals` / `diff` recursion inside the containers passes the caller's own list on
      (defects D3, D5c, D5c-lib and four seeded changes were violations of exactly this).

  A call that drops, adds or changes an option argument changes the regenerated table and `option_plumbing_as_modelled`
  stops checking — a broken obligation (DESIGN §5), independent of whether a generated input reaches the call. A
  harmless new call breaks it too and is then reported with `no-failing-input-found`; the table below is updated by hand
  after comparing the new call with the model.
-/
import JdModel.Gen.OptSites

namespace Jd.OptSites

def expected : List (String × String) := [
  ("v2/array.go:jsonArray.Json:dispatch#1", "own"),
  ("v2/array.go:jsonArray.Yaml:dispatch#1", "own"),
  ("v2/array.go:jsonArray.Equals:dispatch#1", "own"),
  ("v2/array.go:jsonArray.Equals:dispatch#2", "own"),
  ("v2/array.go:jsonArray.Equals:Equals#1", "own"),
  ("v2/array.go:jsonArray.hashCode:dispatch#1", "own"),
  ("v2/array.go:jsonArray.hashCode:hashCode#1", "own"),
  ("v2/array.go:jsonArray.Diff:dispatch#1", "own"),
  ("v2/array.go:jsonArray.Diff:dispatch#2", "own"),
  ("v2/array.go:jsonArray.Diff:getPatchStrategy#1", "own"),
  ("v2/array.go:jsonArray.diff:dispatch#1", "own"),
  ("v2/array.go:jsonArray.diff:dispatch#2", "own"),
  ("v2/array.go:jsonArray.patch:dispatch#1", "expr:metadata"),
  ("v2/bool.go:jsonBool.Diff:getPatchStrategy#1", "own"),
  ("v2/diff_common.go:diff:Equals#1", "none"),
  ("v2/diff_read.go:ReadPatchString:Equals#1", "none"),
  ("v2/diff_read.go:checkPatchContext:Equals#1", "none"),
  ("v2/diff_read.go:readPatchDiffElement:Equals#1", "none"),
  ("v2/diff_read.go:ReadMergeString:Equals#1", "none"),
  ("v2/list.go:jsonList.Equals:dispatch#1", "own"),
  ("v2/list.go:jsonList.Equals:Equals#1", "own"),
  ("v2/list.go:jsonList.hashCode:hashCode#1", "own"),
  ("v2/list.go:jsonList.Diff:getPatchStrategy#1", "own"),
  ("v2/list.go:jsonList.diff:diffMergePatchStrategy#1", "own"),
  ("v2/list.go:jsonList.diff:hashCode#1", "own"),
  ("v2/list.go:jsonList.diff:hashCode#2", "own"),
  ("v2/list.go:jsonList.diff:diffRest#1", "own"),
  ("v2/list.go:jsonList.diffRest:sameContainerType#1", "own"),
  ("v2/list.go:jsonList.diffRest:diffRest#1", "own"),
  ("v2/list.go:jsonList.diffMergePatchStrategy:Equals#1", "own"),
  ("v2/list.go:sameContainerType:dispatch#1", "own"),
  ("v2/list.go:sameContainerType:dispatch#2", "own"),
  ("v2/list.go:jsonList.patch:Equals#1", "none"),
  ("v2/list.go:jsonList.patch:Equals#2", "none"),
  ("v2/list.go:jsonList.patch:Equals#3", "none"),
  ("v2/list.go:jsonList.patch:Equals#4", "none"),
  ("v2/multiset.go:jsonMultiset.Equals:dispatch#1", "own"),
  ("v2/multiset.go:jsonMultiset.Equals:hashCode#1", "own"),
  ("v2/multiset.go:jsonMultiset.Equals:hashCode#2", "own"),
  ("v2/multiset.go:jsonMultiset.hashCode:hashCode#1", "own"),
  ("v2/multiset.go:jsonMultiset.Diff:getPatchStrategy#1", "own"),
  ("v2/multiset.go:jsonMultiset.diff:Equals#1", "own"),
  ("v2/multiset.go:jsonMultiset.diff:hashCode#1", "own"),
  ("v2/multiset.go:jsonMultiset.diff:hashCode#2", "own"),
  ("v2/multiset.go:jsonMultiset.patch:Equals#1", "none"),
  ("v2/multiset.go:jsonMultiset.patch:hashCode#1", "expr:metadata"),
  ("v2/multiset.go:jsonMultiset.patch:hashCode#2", "expr:metadata"),
  ("v2/multiset.go:jsonMultiset.patch:hashCode#3", "expr:metadata"),
  ("v2/node.go:nodeList:Equals#1", "none"),
  ("v2/null.go:jsonNull.Diff:getPatchStrategy#1", "own"),
  ("v2/number.go:jsonNumber.Diff:getPatchStrategy#1", "own"),
  ("v2/object.go:jsonObject.Equals:Equals#1", "own"),
  ("v2/object.go:jsonObject.hashCode:hashCode#1", "own"),
  ("v2/object.go:jsonObject.ident:hashCode#1", "own"),
  ("v2/object.go:jsonObject.ident:hashCode#2", "own"),
  ("v2/object.go:jsonObject.ident:hashCode#3", "own"),
  ("v2/object.go:jsonObject.pathIdent:hashCode#1", "own"),
  ("v2/object.go:jsonObject.Diff:getPatchStrategy#1", "own"),
  ("v2/object.go:jsonObject.patch:Equals#1", "none"),
  ("v2/patch_common.go:patch:Equals#1", "none"),
  ("v2/set.go:jsonSet.raw:hashCode#1", "expr:[]Option{setOption{}}"),
  ("v2/set.go:jsonSet.Equals:dispatch#1", "own"),
  ("v2/set.go:jsonSet.Equals:hashCode#1", "own"),
  ("v2/set.go:jsonSet.Equals:hashCode#2", "own"),
  ("v2/set.go:jsonSet.hashCode:dispatch#1", "own"),
  ("v2/set.go:jsonSet.hashCode:hashCode#1", "own"),
  ("v2/set.go:jsonSet.Diff:getPatchStrategy#1", "own"),
  ("v2/set.go:jsonSet.diff:Equals#1", "own"),
  ("v2/set.go:jsonSet.diff:ident#1", "own"),
  ("v2/set.go:jsonSet.diff:hashCode#1", "own"),
  ("v2/set.go:jsonSet.diff:ident#2", "own"),
  ("v2/set.go:jsonSet.diff:hashCode#2", "own"),
  ("v2/set.go:jsonSet.diff:newPathSetKeys#1", "own"),
  ("v2/set.go:jsonSet.patch:Equals#1", "none"),
  ("v2/set.go:jsonSet.patch:ident#1", "expr:metadata"),
  ("v2/set.go:jsonSet.patch:pathIdent#1", "expr:metadata"),
  ("v2/set.go:jsonSet.patch:ident#2", "expr:metadata"),
  ("v2/set.go:jsonSet.patch:hashCode#1", "expr:metadata"),
  ("v2/set.go:jsonSet.patch:ident#3", "expr:metadata"),
  ("v2/set.go:jsonSet.patch:hashCode#2", "expr:metadata"),
  ("v2/set.go:jsonSet.patch:Equals#2", "expr:metadata"),
  ("v2/set.go:jsonSet.patch:ident#4", "expr:metadata"),
  ("v2/set.go:jsonSet.patch:hashCode#3", "expr:metadata"),
  ("v2/string.go:jsonString.Diff:getPatchStrategy#1", "own"),
  ("v2/void.go:voidNode.Diff:getPatchStrategy#1", "own"),
  ("lib/array.go:jsonArray.Json:dispatch#1", "own"),
  ("lib/array.go:jsonArray.Yaml:dispatch#1", "own"),
  ("lib/array.go:jsonArray.Equals:dispatch#1", "own"),
  ("lib/array.go:jsonArray.Equals:dispatch#2", "own"),
  ("lib/array.go:jsonArray.Equals:Equals#1", "own"),
  ("lib/array.go:jsonArray.hashCode:dispatch#1", "own"),
  ("lib/array.go:jsonArray.hashCode:hashCode#1", "own"),
  ("lib/array.go:jsonArray.Diff:dispatch#1", "own"),
  ("lib/array.go:jsonArray.Diff:dispatch#2", "own"),
  ("lib/array.go:jsonArray.Diff:getPatchStrategy#1", "own"),
  ("lib/array.go:jsonArray.diff:dispatch#1", "own"),
  ("lib/array.go:jsonArray.diff:dispatch#2", "own"),
  ("lib/array.go:jsonArray.patch:dispatch#1", "expr:metadata"),
  ("lib/bool.go:jsonBool.Diff:getPatchStrategy#1", "own"),
  ("lib/diff_common.go:diff:Equals#1", "own"),
  ("lib/diff_read.go:checkDiffElement:Equals#1", "none"),
  ("lib/diff_read.go:readPatchDiffElement:Equals#1", "none"),
  ("lib/diff_read.go:ReadMergeString:Equals#1", "none"),
  ("lib/diff_write.go:Diff.RenderMerge:Equals#1", "none"),
  ("lib/list.go:jsonList.Equals:dispatch#1", "own"),
  ("lib/list.go:jsonList.Equals:Equals#1", "own"),
  ("lib/list.go:jsonList.hashCode:hashCode#1", "own"),
  ("lib/list.go:jsonList.Diff:getPatchStrategy#1", "own"),
  ("lib/list.go:jsonList.diff:Equals#1", "own"),
  ("lib/list.go:jsonList.diff:dispatch#1", "own"),
  ("lib/list.go:jsonList.diff:dispatch#2", "own"),
  ("lib/list.go:jsonList.patch:Equals#1", "none"),
  ("lib/metadata.go:getPatchStrategy:checkMetadata#1", "own"),
  ("lib/metadata.go:dispatch:checkMetadata#1", "own"),
  ("lib/metadata.go:dispatch:checkMetadata#2", "own"),
  ("lib/metadata.go:dispatchRenderOptions:dispatch#1", "expr:metadata"),
  ("lib/multiset.go:jsonMultiset.Equals:dispatch#1", "own"),
  ("lib/multiset.go:jsonMultiset.Equals:hashCode#1", "own"),
  ("lib/multiset.go:jsonMultiset.Equals:hashCode#2", "own"),
  ("lib/multiset.go:jsonMultiset.hashCode:hashCode#1", "own"),
  ("lib/multiset.go:jsonMultiset.Diff:getPatchStrategy#1", "own"),
  ("lib/multiset.go:jsonMultiset.diff:Equals#1", "own"),
  ("lib/multiset.go:jsonMultiset.diff:hashCode#1", "own"),
  ("lib/multiset.go:jsonMultiset.diff:hashCode#2", "own"),
  ("lib/multiset.go:jsonMultiset.diff:appendIndex#1", "own"),
  ("lib/multiset.go:jsonMultiset.patch:Equals#1", "none"),
  ("lib/multiset.go:jsonMultiset.patch:hashCode#1", "expr:metadata"),
  ("lib/multiset.go:jsonMultiset.patch:hashCode#2", "expr:metadata"),
  ("lib/multiset.go:jsonMultiset.patch:hashCode#3", "expr:metadata"),
  ("lib/node.go:nodeList:Equals#1", "none"),
  ("lib/null.go:jsonNull.Diff:getPatchStrategy#1", "own"),
  ("lib/number.go:jsonNumber.Equals:getPrecision#1", "own"),
  ("lib/number.go:jsonNumber.Diff:getPatchStrategy#1", "own"),
  ("lib/object.go:jsonObject.Equals:Equals#1", "own"),
  ("lib/object.go:jsonObject.hashCode:hashCode#1", "own"),
  ("lib/object.go:jsonObject.ident:getSetkeysMetadata#1", "own"),
  ("lib/object.go:jsonObject.ident:hashCode#1", "own"),
  ("lib/object.go:jsonObject.ident:hashCode#2", "own"),
  ("lib/object.go:jsonObject.ident:hashCode#3", "own"),
  ("lib/object.go:jsonObject.pathObject:getSetkeysMetadata#1", "own"),
  ("lib/object.go:jsonObject.pathIdent:getSetkeysMetadata#1", "own"),
  ("lib/object.go:jsonObject.pathIdent:hashCode#1", "own"),
  ("lib/object.go:jsonObject.Diff:getPatchStrategy#1", "own"),
  ("lib/object.go:jsonObject.patch:Equals#1", "none"),
  ("lib/patch_common.go:patchAll:getPatchStrategy#1", "none"),
  ("lib/patch_common.go:patch:Equals#1", "none"),
  ("lib/path.go:path.appendIndex:checkMetadata#1", "own"),
  ("lib/path.go:path.appendIndex:checkMetadata#2", "own"),
  ("lib/path.go:path.appendIndex:getSetkeysMetadata#1", "own"),
  ("lib/path.go:path.isMerge:checkMetadata#1", "expr:metadata"),
  ("lib/path.go:path.next:checkMetadata#1", "expr:metadata"),
  ("lib/path.go:path.next:checkMetadata#2", "expr:metadata"),
  ("lib/set.go:jsonSet.raw:hashCode#1", "expr:[]Metadata{SET}"),
  ("lib/set.go:jsonSet.Equals:dispatch#1", "own"),
  ("lib/set.go:jsonSet.Equals:hashCode#1", "own"),
  ("lib/set.go:jsonSet.Equals:hashCode#2", "own"),
  ("lib/set.go:jsonSet.hashCode:dispatch#1", "own"),
  ("lib/set.go:jsonSet.hashCode:hashCode#1", "own"),
  ("lib/set.go:jsonSet.Diff:getPatchStrategy#1", "own"),
  ("lib/set.go:jsonSet.diff:Equals#1", "own"),
  ("lib/set.go:jsonSet.diff:ident#1", "own"),
  ("lib/set.go:jsonSet.diff:hashCode#1", "own"),
  ("lib/set.go:jsonSet.diff:ident#2", "own"),
  ("lib/set.go:jsonSet.diff:hashCode#2", "own"),
  ("lib/set.go:jsonSet.diff:appendIndex#1", "own"),
  ("lib/set.go:jsonSet.diff:appendIndex#2", "own"),
  ("lib/set.go:jsonSet.diff:pathObject#1", "own"),
  ("lib/set.go:jsonSet.patch:Equals#1", "none"),
  ("lib/set.go:jsonSet.patch:ident#1", "expr:metadata"),
  ("lib/set.go:jsonSet.patch:pathIdent#1", "expr:metadata"),
  ("lib/set.go:jsonSet.patch:ident#2", "expr:metadata"),
  ("lib/set.go:jsonSet.patch:hashCode#1", "expr:metadata"),
  ("lib/set.go:jsonSet.patch:ident#3", "expr:metadata"),
  ("lib/set.go:jsonSet.patch:hashCode#2", "expr:metadata"),
  ("lib/set.go:jsonSet.patch:Equals#2", "expr:metadata"),
  ("lib/set.go:jsonSet.patch:ident#4", "expr:metadata"),
  ("lib/set.go:jsonSet.patch:hashCode#3", "expr:metadata"),
  ("lib/string.go:jsonString.Diff:getPatchStrategy#1", "own"),
  ("lib/string_or_integer.go:jsonStringOrInteger.Equals:Equals#1", "own"),
  ("lib/string_or_integer.go:jsonStringOrInteger.Equals:Equals#2", "own"),
  ("lib/string_or_integer.go:jsonStringOrInteger.hashCode:hashCode#1", "own"),
  ("lib/string_or_integer.go:jsonStringOrInteger.Diff:getPatchStrategy#1", "own"),
  ("lib/string_or_integer.go:jsonStringOrInteger.diff:Diff#1", "own"),
  ("lib/string_or_integer.go:jsonStringOrInteger.diff:Diff#2", "own"),
  ("lib/string_or_integer.go:jsonStringOrInteger.diff:Diff#3", "own"),
  ("lib/string_or_integer.go:jsonStringOrInteger.diff:Diff#4", "own"),
  ("lib/void.go:voidNode.Diff:getPatchStrategy#1", "own")
]

/-- the option plumbing of the Go source is the one the model implements -/
theorem option_plumbing_as_modelled : Gen.optSites = expected := rfl

/-- the leaf comparison of the v2 diff ignores the options, that of v1 passes them (what KF-C05-precision rests on) -/
theorem leaf_comparison_sites :
    (Gen.optSites.find? (fun s => s.1 == "v2/diff_common.go:diff:Equals#1")).map (·.2) = some "none" ∧
    (Gen.optSites.find? (fun s => s.1 == "lib/diff_common.go:diff:Equals#1")).map (·.2) = some "own" := by
  decide +kernel

end Jd.OptSites
