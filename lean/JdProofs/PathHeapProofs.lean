/-
  JdProofs.PathHeapProofs — the imperative path model (`JdModel/PathHeap.lean`: Go slices over a heap of
  backing arrays, `append` with in-place growth, `clone`, `drop`, index assignment) REFINES the
  functional one, for every program that obeys the discipline `Act.okL`, for EVERY growth policy.
  Imports `JdModel.PathHeap` only.

  * `refinement grow prog (hok : Act.okL prog = true) h s (v : s.valid h)`: with
    `(h', out) := Act.runL grow s prog h`,
      (a) `out.map (read h') = Act.valsL (read h s) prog`   (stored slices, read at the END of the run,
          are the paths of the functional model),
      (b) `read h' s = read h s`                            (the frame's own parameter is unchanged),
      (c) `∀ a n, a < h.length → (a ≠ s.arr ∨ n ≤ s.len) →
             (h'.getD a []).take n = (h.getD a []).take n`  (every old region survives, except slots of
          the parameter's array at or behind its length).
    `refinement'` is the same statement in `match` form, `refinement_act` the one for a single `Act`,
    `refinement_extra` adds: the heap only grows, no old array changes its number of slots, `s` stays valid,
    EVERY stored slice lives in an array allocated during the run (it shares nothing with the caller).
  * How: the frame condition `Pres h s h'` (`Pres.trans`: along a call the callee's parameter is the
    caller's grown in place, or on a new array); `goAppend_spec`, `goClone_spec`, `goDrop_spec`; the
    evaluation lemma `eval_spec` (`EvalOk`; plain form `eval_safe`); `run_spec` / `runL_spec`, a mutual
    structural induction with the invariant `RunOk` — in the list case the slices stored by the head are
    protected from the tail because they live on arrays `≥ h.length > s.arr`.
  * Hypotheses. `Act.okL prog = true`: each of its three clauses is needed (namespace `Witness`:
    (i) `store_nonfresh_aliases` — a stored `append(path, k)` without a copy, `progCloned_*` with it;
    (ii) `notsafe_changes_param`, `notsafe_changes_param_top`, `fresh_notsafe_changes_param` — a `drop` on
    the parameter itself; (iii) `write_nonfresh_changes_param`, `callee_write_changes_caller`,
    `write_nonfresh_top` — an index assignment through a non-fresh slice, `write_clone_top` on a copy).
    `s.valid h`, the invariant of a real Go slice: needed, `Witness.valid_needed`. None on `grow`.
    Non-vacuity: the `example`s on `progBig`. The witnesses are closed terms (`growDouble`, start state
    `h0 = [[]]`, `s0 = ⟨0,0,0⟩`); `PathElem` has no `DecidableEq`, so the paths are first computed by `rfl`
    and then compared by constructor injectivity.
  * The symbolic layer: `fresh_shape`, `safe_shape`; `Act.sites` / `Act.sitesL` (defined HERE: kind and
    shape of every expression of a program); `okL_eq_all_sites`, `okL_of_table` (a program all of whose
    sites occur in a table on which `siteOk` holds everywhere is ok), `refinement_of_table`.

  LIMITS. That the Go functions ARE such programs is not a theorem: it is the claim of the regenerated
  table of source sites (tools/pathfacts), checked in JdProofs/PathSites.lean. `write` out of range is a
  no-op in the model (Go panics); the discipline is sufficient, not necessary (e.g. `call (drop param) body`
  with a body that never appends is harmless but not `ok`). The slices have offset 0 (no reslicing from
  the left), as in the model file.
-/
import JdModel.PathHeap

namespace Jd.PathHeap
open Jd

/-- validity of a slice is decidable (used by the non-vacuity examples and the witnesses) -/
instance (h : Heap) (s : Slice) : Decidable (s.valid h) := by
  unfold Slice.valid
  exact inferInstance

/-! ### heap primitives -/

theorem length_writeAt (h : Heap) (a i : Nat) (x : PathElem) :
    (writeAt h a i x).length = h.length := by
  simp [writeAt]

theorem getD_writeAt (h : Heap) (a i : Nat) (x : PathElem) (b : Nat) :
    (writeAt h a i x).getD b [] = if a = b then (h.getD b []).set i x else h.getD b [] := by
  unfold writeAt
  simp only [List.getD_eq_getElem?_getD, List.getElem?_modify]
  split
  · cases h[b]? <;> simp
  · cases h[b]? <;> simp

theorem getD_append_left (h : Heap) (sl : List PathElem) (a : Nat) (ha : a < h.length) :
    (h ++ [sl]).getD a [] = h.getD a [] := by
  simp [List.getD_eq_getElem?_getD, List.getElem?_append_left ha]

theorem getD_append_new (h : Heap) (sl : List PathElem) :
    (h ++ [sl]).getD h.length [] = sl := by
  simp [List.getD_eq_getElem?_getD]


theorem take_succ_set {α} (l : List α) (i : Nat) (x : α) (hi : i < l.length) :
    (l.set i x).take (i + 1) = l.take i ++ [x] := by
  induction l generalizing i with
  | nil => simp at hi
  | cons y l ih =>
    cases i with
    | zero => simp
    | succ i =>
      simp only [List.length_cons, Nat.add_lt_add_iff_right] at hi
      simp [ih i hi]

theorem dropLast_take_le {α} (l : List α) (n : Nat) (hn : n ≤ l.length) :
    (l.take n).dropLast = l.take (n - 1) := by
  rw [List.dropLast_eq_take, List.take_take, List.length_take]
  congr 1
  omega

/-! ### the frame condition -/

/-- `h'` extends `h`; every array of `h` keeps its number of slots; every region of `h` is preserved,
    except the slots of `s`'s array at or behind `s.len` -/
structure Pres (h : Heap) (s : Slice) (h' : Heap) : Prop where
  len : h.length ≤ h'.length
  alen : ∀ a, a < h.length → (h'.getD a []).length = (h.getD a []).length
  keep : ∀ a n, a < h.length → (a ≠ s.arr ∨ n ≤ s.len) →
    (h'.getD a []).take n = (h.getD a []).take n

theorem Pres.refl (h : Heap) (s : Slice) : Pres h s h :=
  ⟨Nat.le_refl _, fun _ _ => rfl, fun _ _ _ _ => rfl⟩

/-- composition: the inner frame's slice is the outer one's grown in place, or lives in a new array -/
theorem Pres.trans {h h1 h2 : Heap} {s s1 : Slice} (p1 : Pres h s h1)
    (rel : (s1.arr = s.arr ∧ s.len ≤ s1.len) ∨ h.length ≤ s1.arr) (p2 : Pres h1 s1 h2) :
    Pres h s h2 := by
  refine ⟨Nat.le_trans p1.len p2.len, ?_, ?_⟩
  · intro a ha
    rw [p2.alen a (Nat.lt_of_lt_of_le ha p1.len), p1.alen a ha]
  · intro a n ha hn
    rw [p2.keep a n (Nat.lt_of_lt_of_le ha p1.len) (by omega), p1.keep a n ha hn]

theorem Pres.trans_same {h h1 h2 : Heap} {s : Slice} (p1 : Pres h s h1) (p2 : Pres h1 s h2) :
    Pres h s h2 :=
  p1.trans (Or.inl ⟨rfl, Nat.le_refl _⟩) p2

theorem Pres.valid {h h' : Heap} {s : Slice} (p : Pres h s h') (v : s.valid h) : s.valid h' := by
  obtain ⟨v1, v2, v3⟩ := v
  exact ⟨Nat.lt_of_lt_of_le v1 p.len, v2, by rw [p.alen _ v1]; exact v3⟩

theorem Pres.read_self {h h' : Heap} {s : Slice} (p : Pres h s h') (v : s.arr < h.length) :
    read h' s = read h s :=
  p.keep s.arr s.len v (Or.inr (Nat.le_refl _))

theorem Pres.read_other {h h' : Heap} {s : Slice} (p : Pres h s h') (t : Slice)
    (ht : t.arr < h.length) (hne : t.arr ≠ s.arr) : read h' t = read h t :=
  p.keep t.arr t.len ht (Or.inl hne)

/-- an assignment to a slot of a new array, or of `s`'s array at or behind `s.len`, keeps the frame condition -/
theorem Pres.writeAt {h0 h : Heap} {s : Slice} (p : Pres h0 s h) (a i : Nat) (x : PathElem)
    (ha : h0.length ≤ a ∨ (a = s.arr ∧ s.len ≤ i)) : Pres h0 s (writeAt h a i x) := by
  refine ⟨by rw [length_writeAt]; exact p.len, fun b hb => ?_, fun b n hb hn => ?_⟩
  · rw [getD_writeAt, ← p.alen b hb]
    split
    · exact List.length_set
    · rfl
  · rw [getD_writeAt]
    split
    · rw [List.take_set_of_le (by omega)]
      exact p.keep b n hb hn
    · exact p.keep b n hb hn

theorem Pres.alloc (h : Heap) (s : Slice) (sl : List PathElem) : Pres h s (h ++ [sl]) :=
  ⟨by simp, fun a ha => by rw [getD_append_left _ _ _ ha], fun a n ha _ => by rw [getD_append_left _ _ _ ha]⟩

/-! ### the slice operations -/

theorem length_read {h : Heap} {s : Slice} (v : s.valid h) : (read h s).length = s.len := by
  obtain ⟨_, v2, v3⟩ := v
  simp only [read, List.length_take]
  omega

theorem goAppend_spec (grow : Nat → Nat) (h : Heap) (s : Slice) (x : PathElem) (v : s.valid h) :
    Pres h s (goAppend grow h s x).1 ∧
    (goAppend grow h s x).2.valid (goAppend grow h s x).1 ∧
    read (goAppend grow h s x).1 (goAppend grow h s x).2 = read h s ++ [x] ∧
    (((goAppend grow h s x).2.arr = s.arr ∧ s.len ≤ (goAppend grow h s x).2.len) ∨
      h.length ≤ (goAppend grow h s x).2.arr) := by
  have hlen := length_read v
  obtain ⟨v1, v2, v3⟩ := v
  unfold goAppend
  split
  · rename_i hlt
    dsimp only
    refine ⟨(Pres.refl h s).writeAt _ _ x (Or.inr ⟨rfl, Nat.le_refl _⟩), ⟨?_, ?_, ?_⟩, ?_, ?_⟩
    · simpa [length_writeAt] using v1
    · show s.len + 1 ≤ s.cap
      omega
    · show s.cap ≤ _
      rw [getD_writeAt]
      simpa using v3
    · show List.take (s.len + 1) (List.getD _ s.arr []) = _
      rw [getD_writeAt, if_pos rfl, take_succ_set _ _ _ (by omega)]
      rfl
    · exact Or.inl ⟨rfl, Nat.le_succ _⟩
  · rename_i hge
    dsimp only [alloc]
    refine ⟨Pres.alloc h s _, ⟨?_, ?_, ?_⟩, ?_, ?_⟩
    · simp
    · show s.len + 1 ≤ max (grow s.cap) (s.len + 1)
      omega
    · show max (grow s.cap) (s.len + 1) ≤ _
      rw [getD_append_new]
      simp only [List.length_append, List.length_replicate, hlen, List.length_cons, List.length_nil]
      omega
    · show List.take (s.len + 1) (List.getD _ h.length []) = _
      rw [getD_append_new]
      apply List.take_left'
      simp [hlen]
    · exact Or.inr (Nat.le_refl _)

theorem goClone_spec (h : Heap) (s : Slice) (v : s.valid h) :
    Pres h s (goClone h s).1 ∧
    (goClone h s).2.valid (goClone h s).1 ∧
    read (goClone h s).1 (goClone h s).2 = read h s ∧
    h.length ≤ (goClone h s).2.arr := by
  have hlen := length_read v
  dsimp only [goClone, alloc]
  refine ⟨Pres.alloc h s _, ⟨?_, ?_, ?_⟩, ?_, ?_⟩
  · simp
  · exact Nat.le_refl _
  · show s.len ≤ _
    rw [getD_append_new, hlen]
    exact Nat.le_refl _
  · show List.take s.len (List.getD _ h.length []) = _
    rw [getD_append_new]
    exact List.take_of_length_le (by omega)
  · exact Nat.le_refl _

theorem goDrop_spec (h : Heap) (s : Slice) (v : s.valid h) :
    (goDrop s).valid h ∧ read h (goDrop s) = (read h s).dropLast ∧ (goDrop s).arr = s.arr := by
  obtain ⟨v1, v2, v3⟩ := v
  unfold goDrop
  split
  · refine ⟨⟨v1, ?_, v3⟩, ?_, rfl⟩
    · show s.len - 1 ≤ s.cap
      omega
    · show List.take (s.len - 1) _ = _
      rw [read, dropLast_take_le _ _ (by omega)]
  · refine ⟨⟨v1, v2, v3⟩, ?_, rfl⟩
    have : s.len = 0 := by omega
    simp [read, this]


/-! ### evaluation of a safe expression -/

structure EvalOk (h : Heap) (s : Slice) (e : PExpr) (r : Heap × Slice) : Prop where
  pres : Pres h s r.1
  valid : r.2.valid r.1
  val : read r.1 r.2 = e.val (read h s)
  rel : (r.2.arr = s.arr ∧ s.len ≤ r.2.len) ∨ h.length ≤ r.2.arr
  fresh : e.fresh = true → h.length ≤ r.2.arr

theorem eval_spec (grow : Nat → Nat) (s : Slice) (e : PExpr) (h : Heap)
    (hs : e.safe = true) (v : s.valid h) : EvalOk h s e (e.eval grow s h) := by
  induction e with
  | param =>
    exact ⟨Pres.refl _ _, v, rfl, Or.inl ⟨rfl, Nat.le_refl _⟩, fun hf => by simp [PExpr.fresh] at hf⟩
  | append e x ih =>
    have ih := ih hs
    obtain ⟨g1, g2, g3, g4⟩ := goAppend_spec grow _ _ x ih.valid
    have hl := ih.pres.len
    refine ⟨ih.pres.trans ih.rel g1, g2, ?_, ?_, ?_⟩
    · show read _ _ = e.val (read h s) ++ [x]
      rw [← ih.val]
      exact g3
    · have := ih.rel
      show ((goAppend grow _ _ x).2.arr = s.arr ∧ s.len ≤ (goAppend grow _ _ x).2.len) ∨
        h.length ≤ (goAppend grow _ _ x).2.arr
      omega
    · intro hf
      have := ih.fresh hf
      show h.length ≤ (goAppend grow _ _ x).2.arr
      omega
  | clone e ih =>
    have ih := ih hs
    obtain ⟨g1, g2, g3, g4⟩ := goClone_spec _ _ ih.valid
    have hl := ih.pres.len
    have : h.length ≤ (goClone (e.eval grow s h).1 (e.eval grow s h).2).2.arr := by omega
    refine ⟨ih.pres.trans ih.rel g1, g2, ?_, Or.inr this, fun _ => this⟩
    show read _ _ = e.val (read h s)
    rw [← ih.val]
    exact g3
  | drop e ih =>
    simp only [PExpr.safe, Bool.and_eq_true] at hs
    have ih := ih hs.2
    obtain ⟨g1, g2, g3⟩ := goDrop_spec _ _ ih.valid
    have hf := ih.fresh hs.1
    have : h.length ≤ (goDrop (e.eval grow s h).2).arr := by omega
    refine ⟨ih.pres, g1, ?_, Or.inr this, fun _ => this⟩
    show read _ _ = (e.val (read h s)).dropLast
    rw [← ih.val]
    exact g2

/-! ### execution of a disciplined program -/

structure RunOk (h : Heap) (s : Slice) (vals : List Path) (r : Heap × List Slice) : Prop where
  pres : Pres h s r.1
  new : ∀ t ∈ r.2, h.length ≤ t.arr ∧ t.arr < r.1.length
  vals : r.2.map (read r.1) = vals

mutual
theorem run_spec (grow : Nat → Nat) (s : Slice) (a : Act) (h : Heap)
    (hok : a.ok = true) (v : s.valid h) :
    RunOk h s (a.vals (read h s)) (a.run grow s h) := by
  cases a with
  | store e =>
    simp only [Act.ok, Bool.and_eq_true] at hok
    have ev := eval_spec grow s e h hok.2 v
    refine ⟨ev.pres, ?_, ?_⟩
    · intro t ht
      simp only [Act.run, List.mem_singleton] at ht
      subst ht
      exact ⟨ev.fresh hok.1, ev.valid.1⟩
    · simp only [Act.run, Act.vals, List.map_cons, List.map_nil]
      rw [ev.val]
  | call e body =>
    simp only [Act.ok, Bool.and_eq_true] at hok
    have ev := eval_spec grow s e h hok.1 v
    have ih := runL_spec grow (e.eval grow s h).2 body (e.eval grow s h).1 hok.2 ev.valid
    have hl := ev.pres.len
    refine ⟨ev.pres.trans ev.rel ih.pres, ?_, ?_⟩
    · intro t ht
      have := ih.new t ht
      simp only [Act.run]
      omega
    · simp only [Act.run, Act.vals]
      rw [← ev.val]
      exact ih.vals
  | write e i x =>
    simp only [Act.ok, Bool.and_eq_true] at hok
    have ev := eval_spec grow s e h hok.2 v
    refine ⟨?_, ?_, ?_⟩
    · simp only [Act.run]
      split
      · exact ev.pres.writeAt _ i x (Or.inl (ev.fresh hok.1))
      · exact ev.pres
    · intro t ht
      simp [Act.run] at ht
    · simp [Act.run, Act.vals]
theorem runL_spec (grow : Nat → Nat) (s : Slice) (l : List Act) (h : Heap)
    (hok : Act.okL l = true) (v : s.valid h) :
    RunOk h s (Act.valsL (read h s) l) (Act.runL grow s l h) := by
  cases l with
  | nil =>
    exact ⟨Pres.refl _ _, fun t ht => by simp [Act.runL] at ht, by simp [Act.runL, Act.valsL]⟩
  | cons a r =>
    simp only [Act.okL, Bool.and_eq_true] at hok
    have h1 := run_spec grow s a h hok.1 v
    have h2 := runL_spec grow s r (a.run grow s h).1 hok.2 (h1.pres.valid v)
    have hl := h1.pres.len
    have hl2 := h2.pres.len
    refine ⟨h1.pres.trans_same h2.pres, ?_, ?_⟩
    · intro t ht
      simp only [Act.runL, List.mem_append] at ht
      simp only [Act.runL]
      rcases ht with ht | ht
      · have := h1.new t ht
        omega
      · have := h2.new t ht
        omega
    · simp only [Act.runL, Act.valsL, List.map_append]
      have h2v := h2.vals
      rw [h1.pres.read_self v.1] at h2v
      rw [← h1.vals, ← h2v]
      congr 1
      apply List.map_congr_left
      intro t ht
      have := h1.new t ht
      exact h2.pres.read_other t this.2 (by have := v.1; omega)
end


/-! ### the refinement theorem -/

/-- THE REFINEMENT THEOREM (list of actions = a function body). -/
theorem refinement (grow : Nat → Nat) (prog : List Act) (hok : Act.okL prog = true)
    (h : Heap) (s : Slice) (v : s.valid h) :
    (Act.runL grow s prog h).2.map (read (Act.runL grow s prog h).1) = Act.valsL (read h s) prog ∧
    read (Act.runL grow s prog h).1 s = read h s ∧
    (∀ a n, a < h.length → (a ≠ s.arr ∨ n ≤ s.len) →
      ((Act.runL grow s prog h).1.getD a []).take n = (h.getD a []).take n) := by
  have r := runL_spec grow s prog h hok v
  exact ⟨r.vals, r.pres.read_self v.1, r.pres.keep⟩

/-- the same, in the `let (h', out) := …` form -/
theorem refinement' (grow : Nat → Nat) (prog : List Act) (hok : Act.okL prog = true)
    (h : Heap) (s : Slice) (v : s.valid h) :
    match Act.runL grow s prog h with
    | (h', out) =>
      out.map (read h') = Act.valsL (read h s) prog ∧
      read h' s = read h s ∧
      (∀ a n, a < h.length → (a ≠ s.arr ∨ n ≤ s.len) →
        (h'.getD a []).take n = (h.getD a []).take n) :=
  refinement grow prog hok h s v

theorem refinement_act (grow : Nat → Nat) (a : Act) (hok : a.ok = true)
    (h : Heap) (s : Slice) (v : s.valid h) :
    (a.run grow s h).2.map (read (a.run grow s h).1) = a.vals (read h s) ∧
    read (a.run grow s h).1 s = read h s ∧
    (∀ b n, b < h.length → (b ≠ s.arr ∨ n ≤ s.len) →
      ((a.run grow s h).1.getD b []).take n = (h.getD b []).take n) := by
  have r := run_spec grow s a h hok v
  exact ⟨r.vals, r.pres.read_self v.1, r.pres.keep⟩

/-- additional facts of a disciplined run: the heap only grows, no backing array changes its number of
    slots, the parameter stays valid, every stored slice lives in an array allocated DURING the run
    (so it shares nothing with the caller), and any slice `t` of the old heap that is not on the
    parameter's array, or is a prefix of the parameter, reads the same afterwards -/
theorem refinement_extra (grow : Nat → Nat) (prog : List Act) (hok : Act.okL prog = true)
    (h : Heap) (s : Slice) (v : s.valid h) :
    h.length ≤ (Act.runL grow s prog h).1.length ∧
    (∀ a, a < h.length → ((Act.runL grow s prog h).1.getD a []).length = (h.getD a []).length) ∧
    s.valid (Act.runL grow s prog h).1 ∧
    (∀ t ∈ (Act.runL grow s prog h).2, h.length ≤ t.arr ∧ t.arr < (Act.runL grow s prog h).1.length) ∧
    (∀ t : Slice, t.arr < h.length → (t.arr ≠ s.arr ∨ t.len ≤ s.len) →
      read (Act.runL grow s prog h).1 t = read h t) := by
  have r := runL_spec grow s prog h hok v
  exact ⟨r.pres.len, r.pres.alen, r.pres.valid v, r.new, fun t ht hn => r.pres.keep t.arr t.len ht hn⟩

/-- the evaluation lemma in plain form (for one safe expression) -/
theorem eval_safe (grow : Nat → Nat) (s : Slice) (e : PExpr) (h : Heap)
    (hs : e.safe = true) (v : s.valid h) :
    (e.eval grow s h).2.valid (e.eval grow s h).1 ∧
    read (e.eval grow s h).1 (e.eval grow s h).2 = e.val (read h s) ∧
    h.length ≤ (e.eval grow s h).1.length ∧
    (∀ a n, a < h.length → (a ≠ s.arr ∨ n ≤ s.len) →
      ((e.eval grow s h).1.getD a []).take n = (h.getD a []).take n) ∧
    (e.fresh = true → h.length ≤ (e.eval grow s h).2.arr) := by
  have r := eval_spec grow s e h hs v
  exact ⟨r.valid, r.val, r.pres.len, r.pres.keep, r.fresh⟩

/-! ### the symbolic layer -/

theorem fresh_shape (e : PExpr) : e.fresh = e.shape.fresh := by
  induction e with
  | param => rfl
  | append e x ih => simpa [PExpr.fresh, PExpr.shape, SExpr.fresh] using ih
  | clone e ih => rfl
  | drop e ih => simpa [PExpr.fresh, PExpr.shape, SExpr.fresh] using ih

theorem safe_shape (e : PExpr) : e.safe = e.shape.safe := by
  induction e with
  | param => rfl
  | append e x ih => simpa [PExpr.safe, PExpr.shape, SExpr.safe] using ih
  | clone e ih => simpa [PExpr.safe, PExpr.shape, SExpr.safe] using ih
  | drop e ih => simp [PExpr.safe, PExpr.shape, SExpr.safe, ih, fresh_shape]

theorem store_ok_of_shape (e : PExpr) : (Act.store e).ok = siteOk .store e.shape := by
  simp [Act.ok, siteOk, fresh_shape, safe_shape]

theorem write_ok_of_shape (e : PExpr) (i : Nat) (x : PathElem) :
    (Act.write e i x).ok = siteOk .write e.shape := by
  simp [Act.ok, siteOk, fresh_shape, safe_shape]

theorem call_ok_of_shape (e : PExpr) (body : List Act) :
    (Act.call e body).ok = (siteOk .call e.shape && Act.okL body) := by
  simp [Act.ok, siteOk, safe_shape]

mutual
/-- the sites of a program: kind and shape of every path expression in it -/
def Act.sites : Act → List (SiteKind × SExpr)
  | .store e => [(.store, e.shape)]
  | .call e body => (.call, e.shape) :: Act.sitesL body
  | .write e _ _ => [(.write, e.shape)]
def Act.sitesL : List Act → List (SiteKind × SExpr)
  | [] => []
  | a :: r => a.sites ++ Act.sitesL r
end

mutual
theorem ok_eq_all_sites (a : Act) : a.ok = a.sites.all (fun p => siteOk p.1 p.2) := by
  cases a with
  | store e => simp [Act.sites, store_ok_of_shape]
  | call e body => simp [Act.sites, call_ok_of_shape, okL_eq_all_sites body]
  | write e i x => simp [Act.sites, write_ok_of_shape]
theorem okL_eq_all_sites (l : List Act) : Act.okL l = (Act.sitesL l).all (fun p => siteOk p.1 p.2) := by
  cases l with
  | nil => simp [Act.okL, Act.sitesL]
  | cons a r => simp [Act.okL, Act.sitesL, List.all_append, ok_eq_all_sites a, okL_eq_all_sites r]
end

/-- a program all of whose sites occur in a table of checked sites obeys the discipline -/
theorem okL_of_table (table : List (SiteKind × SExpr))
    (htab : table.all (fun p => siteOk p.1 p.2) = true) (prog : List Act)
    (hsub : ∀ p ∈ Act.sitesL prog, p ∈ table) : Act.okL prog = true := by
  rw [okL_eq_all_sites, List.all_eq_true]
  intro p hp
  exact List.all_eq_true.mp htab p (hsub p hp)

/-- the refinement theorem from a check on the table of source sites -/
theorem refinement_of_table (table : List (SiteKind × SExpr))
    (htab : table.all (fun p => siteOk p.1 p.2) = true) (grow : Nat → Nat) (prog : List Act)
    (hsub : ∀ p ∈ Act.sitesL prog, p ∈ table) (h : Heap) (s : Slice) (v : s.valid h) :
    (Act.runL grow s prog h).2.map (read (Act.runL grow s prog h).1) = Act.valsL (read h s) prog ∧
    read (Act.runL grow s prog h).1 s = read h s ∧
    (∀ a n, a < h.length → (a ≠ s.arr ∨ n ≤ s.len) →
      ((Act.runL grow s prog h).1.getD a []).take n = (h.getD a []).take n) :=
  refinement grow prog (okL_of_table table htab prog hsub) h s v


/-! ### counter-witnesses (closed terms; `growDouble`; empty heap, empty parameter) -/

namespace Witness

/-- the start state: one empty backing array, the empty slice on it -/
def h0 : Heap := [[]]
def s0 : Slice := ⟨0, 0, 0⟩

theorem s0_valid : s0.valid h0 := by decide

def k1 : PathElem := .key "a"
def k2 : PathElem := .key "b"
def k3 : PathElem := .key "c"
def xa : PathElem := .idx 0
def xb : PathElem := .idx 1

/-- three nested calls `f(append(path, k))`, the innermost body is `inner` -/
def nest3 (inner : List Act) : List Act :=
  [.call (.append .param k1) [.call (.append .param k2) [.call (.append .param k3) inner]]]

/-- (i) two siblings at depth 3 store `append(path, _)` WITHOUT a copy -/
def progAlias : List Act := nest3 [.store (.append .param xa), .store (.append .param xb)]
/-- (i) the same with `append(path, _).clone()` -/
def progCloned : List Act :=
  nest3 [.store (.clone (.append .param xa)), .store (.clone (.append .param xb))]

theorem progAlias_not_ok : Act.okL progAlias = false := by decide
theorem progCloned_ok : Act.okL progCloned = true := by decide

/-- the functional model: two DIFFERENT paths -/
theorem progAlias_vals :
    Act.valsL (read h0 s0) progAlias = [[k1, k2, k3, xa], [k1, k2, k3, xb]] := by
  rfl

/-- the heap run: both stored slices are the same slice of the same array and read the SECOND path -/
theorem progAlias_run :
    (Act.runL growDouble s0 progAlias h0).2 = [⟨3, 4, 4⟩, ⟨3, 4, 4⟩] ∧
    (Act.runL growDouble s0 progAlias h0).2.map (read (Act.runL growDouble s0 progAlias h0).1)
      = [[k1, k2, k3, xb], [k1, k2, k3, xb]] := by
  constructor <;> rfl

/-- (i) clause (a) of the refinement theorem is FALSE for a `store` of a non-fresh expression -/
theorem store_nonfresh_aliases :
    (Act.runL growDouble s0 progAlias h0).2.map (read (Act.runL growDouble s0 progAlias h0).1)
      ≠ Act.valsL (read h0 s0) progAlias := by
  rw [progAlias_run.2, progAlias_vals]
  simp [xa, xb]

/-- (i) with the copy the run agrees with the functional model (an instance of `refinement`, here
    by evaluation) -/
theorem progCloned_run :
    (Act.runL growDouble s0 progCloned h0).2.map (read (Act.runL growDouble s0 progCloned h0).1)
      = [[k1, k2, k3, xa], [k1, k2, k3, xb]] ∧
    Act.valsL (read h0 s0) progCloned = [[k1, k2, k3, xa], [k1, k2, k3, xb]] := by
  constructor <;> rfl


/-- the state inside the first call `f(append(path, k1))` from the start state: the callee's parameter
    is the slice `s1 = [k1]` on array 1 -/
def h1 : Heap := ((PExpr.append .param k1).eval growDouble s0 h0).1
def s1 : Slice := ((PExpr.append .param k1).eval growDouble s0 h0).2

theorem h1_s1 : h1 = [[], [k1]] ∧ s1 = ⟨1, 1, 1⟩ ∧ s1.valid h1 ∧ read h1 s1 = [k1] := by
  refine ⟨rfl, rfl, by decide, rfl⟩

/-- (ii) `callee(append(path.drop(), x))`: an expression that is NOT `safe` -/
def progDrop : List Act := [.call (.append (.drop .param) xa) []]

theorem progDrop_not_ok : Act.okL progDrop = false := by decide

/-- (ii) clause (b) is FALSE for a non-safe expression: the frame's own parameter `[k1]` reads `[xa]`
    afterwards (nothing is stored, nothing is assigned: the evaluation of the argument alone does it) -/
theorem notsafe_changes_param :
    read (Act.runL growDouble s1 progDrop h1).1 s1 = [xa] ∧ read h1 s1 = [k1] ∧
    read (Act.runL growDouble s1 progDrop h1).1 s1 ≠ read h1 s1 := by
  refine ⟨rfl, rfl, ?_⟩
  show [xa] ≠ [k1]
  simp [xa, k1]

/-- (ii) the same from the start state, observable in the result: the frame stores a COPY of its
    parameter after the call; the functional model says `[k1]`, the heap run stores `[xa]` -/
def progDropTop : List Act :=
  [.call (.append .param k1) [.call (.append (.drop .param) xa) [], .store (.clone .param)]]

theorem notsafe_changes_param_top :
    (Act.runL growDouble s0 progDropTop h0).2.map (read (Act.runL growDouble s0 progDropTop h0).1)
      = [[xa]] ∧
    Act.valsL (read h0 s0) progDropTop = [[k1]] ∧
    (Act.runL growDouble s0 progDropTop h0).2.map (read (Act.runL growDouble s0 progDropTop h0).1)
      ≠ Act.valsL (read h0 s0) progDropTop := by
  refine ⟨rfl, rfl, ?_⟩
  show [[xa]] ≠ [[k1]]
  simp [xa, k1]

/-- (ii') `fresh` alone is not enough for `store`: `append(path.drop(), x).clone()` is a copy, but its
    evaluation has already overwritten the last element of the parameter -/
def progDropClone : List Act := [.store (.clone (.append (.drop .param) xa))]

theorem progDropClone_fresh_not_safe :
    (PExpr.clone (.append (.drop .param) xa)).fresh = true ∧
    (PExpr.clone (.append (.drop .param) xa)).safe = false := by decide

theorem fresh_notsafe_changes_param :
    read (Act.runL growDouble s1 progDropClone h1).1 s1 ≠ read h1 s1 := by
  show [xa] ≠ [k1]
  simp [xa, k1]

/-- (iii) `q := path; q[0] = x`: a `write` through a non-fresh expression -/
def progWrite : List Act := [.write .param 0 xa]

theorem progWrite_not_ok : Act.okL progWrite = false := by decide

/-- (iii) clause (b) is FALSE: the parameter (the caller's data) is changed -/
theorem write_nonfresh_changes_param :
    read (Act.runL growDouble s1 progWrite h1).1 s1 = [xa] ∧
    read (Act.runL growDouble s1 progWrite h1).1 s1 ≠ read h1 s1 := by
  refine ⟨rfl, ?_⟩
  show [xa] ≠ [k1]
  simp [xa, k1]

/-- the state at depth 3 (parameter `[k1,k2,k3]` on array 3 with capacity 4) -/
def e3 : PExpr := .append (.append (.append .param k1) k2) k3
def h3 : Heap := (e3.eval growDouble s0 h0).1
def s3 : Slice := (e3.eval growDouble s0 h0).2

theorem h3_s3 : s3 = ⟨3, 3, 4⟩ ∧ s3.valid h3 ∧ read h3 s3 = [k1, k2, k3] := by
  refine ⟨rfl, by decide, rfl⟩

/-- (iii) a CALLEE writes through its (non-fresh) parameter; the callee's parameter
    `append(path, xa)` is the caller's array grown in place, so the caller's own path is changed -/
def progWriteCallee : List Act := [.call (.append .param xa) [.write .param 0 xb]]

theorem callee_write_changes_caller :
    read (Act.runL growDouble s3 progWriteCallee h3).1 s3 = [xb, k2, k3] ∧
    read (Act.runL growDouble s3 progWriteCallee h3).1 s3 ≠ read h3 s3 := by
  refine ⟨rfl, ?_⟩
  show [xb, k2, k3] ≠ [k1, k2, k3]
  simp [xb, k1]

/-- (iii) from the start state, observable in the result -/
def progWriteTop : List Act :=
  [.call (.append .param k1) [.write .param 0 xa, .store (.clone .param)]]

theorem write_nonfresh_top :
    (Act.runL growDouble s0 progWriteTop h0).2.map (read (Act.runL growDouble s0 progWriteTop h0).1)
      = [[xa]] ∧
    Act.valsL (read h0 s0) progWriteTop = [[k1]] := by
  constructor <;> rfl

/-- (iii) the same edit on a copy (`q := path.clone(); q[0] = x`) is fine (instance of `refinement`) -/
def progWriteClone : List Act :=
  [.call (.append .param k1) [.write (.clone .param) 0 xa, .store (.clone .param)]]

theorem progWriteClone_ok : Act.okL progWriteClone = true := by decide

theorem write_clone_top :
    (Act.runL growDouble s0 progWriteClone h0).2.map
      (read (Act.runL growDouble s0 progWriteClone h0).1) = [[k1]] := by
  rfl

/-- the hypothesis `s.valid h` is necessary: a "slice" whose capacity exceeds its backing array
    (impossible in Go) makes `append` write into a slot that does not exist; the disciplined program
    `store(append(path, k1).clone())` then stores `[]` where the functional model says `[k1]` -/
def sBad : Slice := ⟨0, 0, 1⟩
def progOne : List Act := [.store (.clone (.append .param k1))]

theorem valid_needed :
    Act.okL progOne = true ∧ ¬ sBad.valid h0 ∧
    (Act.runL growDouble sBad progOne h0).2.map (read (Act.runL growDouble sBad progOne h0).1)
      = [[]] ∧
    Act.valsL (read h0 sBad) progOne = [[k1]] := by
  refine ⟨by decide, by decide, rfl, rfl⟩

/-- non-vacuity: a non-trivial program (nested calls, stores of copies, an in-place edit of a copy,
    `drop` then `append` on a copy) satisfies the discipline, from a valid non-empty parameter with
    spare capacity; and `refinement` applies to it -/
def progBig : List Act :=
  [ .store (.clone (.append .param xa)),
    .call (.append .param xa)
      [ .store (.clone .param),
        .write (.append (.drop (.clone .param)) xb) 3 k1,
        .call (.clone (.append .param k2)) [.store (.append (.drop (.clone .param)) xb)],
        .store (.append (.clone .param) k3) ],
    .store (.append (.drop (.clone (.append .param xb))) k1) ]

example : Act.okL progBig = true ∧ s3.valid h3 := by
  constructor <;> decide

example :
    (Act.runL growDouble s3 progBig h3).2.map (read (Act.runL growDouble s3 progBig h3).1)
      = Act.valsL (read h3 s3) progBig :=
  (refinement growDouble progBig (by decide) h3 s3 h3_s3.2.1).1

theorem progBig_vals :
    Act.valsL (read h3 s3) progBig =
      [[k1, k2, k3, xa], [k1, k2, k3, xa], [k1, k2, k3, xa, xb], [k1, k2, k3, xa, k3],
       [k1, k2, k3, k1]] := by
  rfl

end Witness

end Jd.PathHeap
