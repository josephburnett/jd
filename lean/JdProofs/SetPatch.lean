/-
  JdProofs.SetPatch — property C08: set and multiset hunks have set / bag semantics: they remove
  exactly the listed elements from the addressed array, fail if an element is absent (or not present
  often enough for a multiset), add the listed ones and leave all other members untouched,
  regardless of the order of the members in the target.

  Hash codes are 64-bit FNV values; the theorems take ONE hypothesis, `Faithful m E`, on the finitely
  many elements at hand (members of the target ++ removed ++ added): identities coincide exactly for
  equivalent elements and `equals` agrees with the specification `equivB`.

  The two leaves are analysed once for an arbitrary identity / hash function and equality test
  (`removeLoopBy`, `setLeaf`, `setLeaf_idents`; `lookupBy`, `msetLeaf`, `msetLeaf_counts`): the v2
  functions are the instances at `identOf m`, `equals m`, `hashCode m` (`patchSetLeaf_eq`,
  `patchMsetLeaf_eq`), and the v1 library differs only in these parameters.

  Main results
    SET       patchSetLeaf_spec(_of), patchSetLeaf_idents(_of) (hash level), patchSetLeaf_perm,
              patchSetLeaf_ref (vs `applySetLeaf`), patchNode_set_leaf, patchNode_set_ref
              (vs `applyHunkRef`); the result is strictly sorted by `hashLt` (`HSorted`), hence a
              function of the SET of identities (`HSorted.ext`, `bswap_inj`).
    FINDING   setHunk_duplicate_removal: a set hunk that lists two equivalent removed elements is
              rejected by the code (second `aMap` lookup fails) but accepted by the reference.
    MULTISET  patchMsetLeaf_counts (hash level, no hypothesis), patchMsetLeaf_spec (vs `bagRemove`),
              patchMsetLeaf_perm(_equiv), patchMsetLeaf_ref (vs `applyBagLeaf`), patchNode_mset_leaf,
              patchNode_mset_ref.
    NON-VACUITY  faithful_scalars and the example after it.
    KEYED     a path element with set keys runs the search loop `Keyed.keyedLoop` of
              JdProofs.PatchEqns (`Keyed.patchNode_setKeys_loop`, used by JdProofs.KeyedPatch and
              JdProofs.DiffPatchKeys); its tolerant pass hashes the object `Keyed.tolObj`, known
              through its lookups (`Keyed.alookup_tolObj`).
-/
import JdModel
import JdSpec
import JdProofs.Common
import JdProofs.PatchEqns

namespace Jd
open Jd.Spec

/-! ### 0. the hypothesis tying hashes to the advertised equivalence -/

/-- On the finitely many elements `E` at hand: identities (64-bit FNV values) coincide exactly for
    equivalent elements, and `equals` agrees with the specification `equivB`. -/
def Faithful (m : Opts) (E : List Json) : Prop :=
  ∀ x ∈ E, ∀ y ∈ E,
    (identOf m x = identOf m y ↔ equivB m x y = true) ∧ (equals m x y = equivB m x y)

theorem Faithful.mono {m : Opts} {E E' : List Json} (hF : Faithful m E)
    (h : ∀ x ∈ E', x ∈ E) : Faithful m E' :=
  fun x hx y hy => hF x (h x hx) y (h y hy)

theorem Faithful.equivB_iff {m : Opts} {E : List Json} (hF : Faithful m E) {x y : Json}
    (hx : x ∈ E) (hy : y ∈ E) : equivB m x y = true ↔ identOf m x = identOf m y :=
  (hF x hx y hy).1.symm

theorem Faithful.equals_iff {m : Opts} {E : List Json} (hF : Faithful m E) {x y : Json}
    (hx : x ∈ E) (hy : y ∈ E) : equals m x y = true ↔ identOf m x = identOf m y := by
  rw [(hF x hx y hy).2]; exact hF.equivB_iff hx hy

/-- `equivB m` is an equivalence relation on `E` -/
theorem Faithful.refl {m : Opts} {E : List Json} (hF : Faithful m E) {x : Json} (hx : x ∈ E) :
    equivB m x x = true := (hF.equivB_iff hx hx).2 rfl

theorem Faithful.symm {m : Opts} {E : List Json} (hF : Faithful m E) {x y : Json}
    (hx : x ∈ E) (hy : y ∈ E) (h : equivB m x y = true) : equivB m y x = true :=
  (hF.equivB_iff hy hx).2 ((hF.equivB_iff hx hy).1 h).symm

theorem Faithful.trans {m : Opts} {E : List Json} (hF : Faithful m E) {x y z : Json}
    (hx : x ∈ E) (hy : y ∈ E) (hz : z ∈ E) (h : equivB m x y = true) (h' : equivB m y z = true) :
    equivB m x z = true :=
  (hF.equivB_iff hx hz).2 (((hF.equivB_iff hx hy).1 h).trans ((hF.equivB_iff hy hz).1 h'))

/-- the three parts of the elements at hand -/
theorem mem_append3 {α} (s r a : List α) :
    (∀ y ∈ s, y ∈ s ++ r ++ a) ∧ (∀ y ∈ r, y ∈ s ++ r ++ a) ∧ (∀ y ∈ a, y ∈ s ++ r ++ a) := by
  simp +contextual

theorem memEq_iff {m : Opts} {E : List Json} (hF : Faithful m E) {z : Json} {l : List Json}
    (hz : z ∈ E) (hl : ∀ y ∈ l, y ∈ E) :
    memEq m z l = true ↔ identOf m z ∈ l.map (identOf m) := by
  simp only [memEq, List.any_eq_true, List.mem_map]
  constructor
  · rintro ⟨y, hy, e⟩
    exact ⟨y, hy, ((hF.equivB_iff hz (hl y hy)).1 e).symm⟩
  · rintro ⟨y, hy, e⟩
    exact ⟨y, hy, (hF.equivB_iff hz (hl y hy)).2 e.symm⟩

/-- no two elements of the list are equivalent -/
def distinctEq (m : Opts) : List Json → Bool
  | [] => true
  | x :: r => !(memEq m x r) && distinctEq m r

theorem distinctEq_iff {m : Opts} {E : List Json} (hF : Faithful m E) :
    ∀ {l : List Json}, (∀ y ∈ l, y ∈ E) →
      (distinctEq m l = true ↔ (l.map (identOf m)).Nodup)
  | [], _ => by simp [distinctEq]
  | x :: r, hl => by
    have hx : x ∈ E := hl x (by simp)
    have hr : ∀ y ∈ r, y ∈ E := fun y hy => hl y (by simp [hy])
    have ih := distinctEq_iff hF hr
    have hm := memEq_iff hF hx hr
    simp only [distinctEq, Bool.and_eq_true, Bool.not_eq_true', List.map_cons, List.nodup_cons]
    rw [← ih, ← hm]
    simp

/-! ### 1. association lists keyed by hash code -/

def hkeys (am : List (UInt64 × Json)) : List UInt64 := am.map (·.1)

theorem mem_hkeys_hmapSet (h : UInt64) (v : Json) (h' : UInt64) :
    ∀ am : List (UInt64 × Json), h' ∈ hkeys (hmapSet h v am) ↔ h' = h ∨ h' ∈ hkeys am
  | [] => by simp [hmapSet, hkeys]
  | (h1, v1) :: r => by
    have ih := mem_hkeys_hmapSet h v h' r
    simp only [hkeys] at ih
    by_cases e : h = h1 <;> simp [hmapSet, hkeys, e, ih, or_left_comm]

theorem mem_hmapSet {h : UInt64} {v : Json} {p : UInt64 × Json} :
    ∀ {am : List (UInt64 × Json)}, p ∈ hmapSet h v am → p = (h, v) ∨ p ∈ am
  | [], hp => by simpa [hmapSet] using hp
  | (h1, v1) :: r, hp => by
    by_cases e : h = h1
    · simp only [hmapSet, e, beq_self_eq_true, if_true, List.mem_cons] at hp ⊢
      exact hp.imp_right .inr
    · simp only [hmapSet, beq_iff_eq, e, if_false, List.mem_cons] at hp ⊢
      rcases hp with hp | hp
      · exact .inr (.inl hp)
      · exact (mem_hmapSet hp).imp_right .inr

theorem nodup_hkeys_hmapSet (h : UInt64) (v : Json) :
    ∀ am : List (UInt64 × Json), (hkeys am).Nodup → (hkeys (hmapSet h v am)).Nodup
  | [], _ => by simp [hmapSet, hkeys]
  | (h1, v1) :: r, hn => by
    simp only [hkeys, List.map_cons, List.nodup_cons] at hn
    by_cases e : h = h1
    · subst e; simpa [hmapSet, hkeys] using hn
    · have ih := nodup_hkeys_hmapSet h v r hn.2
      have hm := mem_hkeys_hmapSet h v h1 r
      simp only [hkeys] at ih hm
      simp [hmapSet, hkeys, e, ih, hm, hn.1, Ne.symm e]

theorem hmapGet_none {h : UInt64} :
    ∀ {am : List (UInt64 × Json)}, hmapGet h am = none ↔ h ∉ hkeys am
  | [] => by simp [hmapGet, hkeys]
  | (h1, v1) :: r => by
    have ih := @hmapGet_none h r
    simp only [hkeys] at ih
    by_cases e : h = h1 <;> simp [hmapGet, hkeys, e, ih]

theorem hmapGet_some {h : UInt64} {v : Json} :
    ∀ {am : List (UInt64 × Json)}, hmapGet h am = some v → (h, v) ∈ am
  | [], hg => by simp [hmapGet] at hg
  | (h1, v1) :: r, hg => by
    by_cases e : h = h1
    · simp_all [hmapGet]
    · simp only [hmapGet, beq_iff_eq, e, if_false] at hg
      exact List.mem_cons_of_mem _ (hmapGet_some hg)

/-- on a map with distinct keys, deleting a key filters it out -/
theorem hmapErase_eq_filter (h : UInt64) :
    ∀ {am : List (UInt64 × Json)}, (hkeys am).Nodup →
      hmapErase h am = am.filter (fun p => p.1 != h)
  | [], _ => rfl
  | (h1, v1) :: r, hn => by
    simp only [hkeys, List.map_cons, List.nodup_cons] at hn
    by_cases e : h = h1
    · subst e
      have : r.filter (fun p => p.1 != h) = r := List.filter_eq_self.2 fun p hp => by
        simpa using fun e' : p.1 = h => hn.1 (e' ▸ List.mem_map_of_mem hp)
      simp [hmapErase, this]
    · have ih := hmapErase_eq_filter h (am := r) hn.2
      simp [hmapErase, e, Ne.symm e, ih]

/-- lookups in a map filtered by a test on the keys -/
theorem hmapGet_filter (q : UInt64 → Bool) (h : UInt64) :
    ∀ am : List (UInt64 × Json),
      hmapGet h (am.filter (fun p => q p.1)) = if q h then hmapGet h am else none
  | [] => by simp [hmapGet]
  | (h1, v1) :: r => by
    have ih := hmapGet_filter q h r
    by_cases e : h = h1
    · subst e
      cases hq : q h <;> simp [hmapGet, hq, ih]
    · cases hq : q h1 <;> simp [hmapGet, hq, e, ih]

/-- the map invariant: distinct keys, every entry is an element of `E` stored under its identity.
    The identity is a parameter (`identOf m` here, `V1.identOf mm` for the v1 library): nothing below
    depends on how it is computed. -/
def MapInv (ident : Json → UInt64) (E : List Json) (am : List (UInt64 × Json)) : Prop :=
  (hkeys am).Nodup ∧ ∀ p ∈ am, p.2 ∈ E ∧ ident p.2 = p.1

theorem MapInv.nil (ident : Json → UInt64) (E : List Json) : MapInv ident E [] := by
  simp [MapInv, hkeys]

theorem MapInv.mono {ident : Json → UInt64} {E E' : List Json} {am : List (UInt64 × Json)}
    (hI : MapInv ident E am) (h : ∀ x ∈ E, x ∈ E') : MapInv ident E' am :=
  ⟨hI.1, fun p hp => ⟨h _ (hI.2 p hp).1, (hI.2 p hp).2⟩⟩

theorem MapInv.set {ident : Json → UInt64} {E : List Json} {am : List (UInt64 × Json)}
    (hI : MapInv ident E am) {v : Json} (hv : v ∈ E) : MapInv ident E (hmapSet (ident v) v am) := by
  refine ⟨nodup_hkeys_hmapSet _ _ _ hI.1, ?_⟩
  intro p hp
  rcases mem_hmapSet hp with e | e
  · subst e; exact ⟨hv, rfl⟩
  · exact hI.2 p e

theorem MapInv.filter {ident : Json → UInt64} {E : List Json} {am : List (UInt64 × Json)}
    (hI : MapInv ident E am) (q : UInt64 × Json → Bool) : MapInv ident E (am.filter q) :=
  ⟨(List.filter_sublist.map _).nodup hI.1, fun p hp => hI.2 p (List.mem_filter.1 hp).1⟩

/-- `for _, v := range l { aMap[ident(v)] = v }` -/
def buildMap (ident : Json → UInt64) (l : List Json) (am : List (UInt64 × Json)) :
    List (UInt64 × Json) :=
  l.foldl (fun acc v => hmapSet (ident v) v acc) am

theorem buildMap_inv {ident : Json → UInt64} {E : List Json} :
    ∀ (l : List Json) {am : List (UInt64 × Json)}, MapInv ident E am → (∀ v ∈ l, v ∈ E) →
      MapInv ident E (buildMap ident l am)
  | [], _, hI, _ => by simpa [buildMap] using hI
  | v :: r, am, hI, hl => by
    simp only [buildMap, List.foldl_cons]
    exact buildMap_inv r (hI.set (hl v (by simp))) (fun y hy => hl y (by simp [hy]))

theorem mem_hkeys_buildMap {ident : Json → UInt64} (h : UInt64) :
    ∀ (l : List Json) (am : List (UInt64 × Json)),
      h ∈ hkeys (buildMap ident l am) ↔ h ∈ hkeys am ∨ h ∈ l.map ident
  | [], am => by simp [buildMap]
  | v :: r, am => by
    have ih := mem_hkeys_buildMap (ident := ident) h r (hmapSet (ident v) v am)
    simp only [buildMap, List.foldl_cons] at ih ⊢
    rw [ih, mem_hkeys_hmapSet]
    simp only [List.map_cons, List.mem_cons]
    grind

/-! ### 2. the removal loop -/

/-- the removal loop of `jsonSet.patch` for any identity and any equality test: the v1 and the v2
    library differ only in these two -/
def removeLoopBy (ident : Json → UInt64) (eq : Json → Json → Bool) :
    List (UInt64 × Json) → List Json → Outcome (List (UInt64 × Json))
  | am, [] => .ok am
  | am, v :: r =>
    match hmapGet (ident v) am with
    | none => .err
    | some d => if eq d v then removeLoopBy ident eq (hmapErase (ident v) am) r else .err

theorem setRemoveLoop_eq (m : Opts) : ∀ (rem : List Json) (am : List (UInt64 × Json)),
    setRemoveLoop m am rem = removeLoopBy (identOf m) (equals m) am rem
  | [], _ => rfl
  | v :: r, am => by
    simp only [setRemoveLoop, removeLoopBy]
    cases hmapGet (identOf m v) am with
    | none => rfl
    | some d => simp only [setRemoveLoop_eq m r]

/-- **the removal loop is a guarded filter.** On a map with distinct keys it succeeds exactly when
    the removed identities are distinct and each removed value passes the equality test against the
    entry under its identity (an entry deleted once is not found again); it then deletes exactly the
    removed identities. It never panics. -/
theorem removeLoopBy_eq {ident : Json → UInt64} {eq : Json → Json → Bool} :
    ∀ (rem : List Json) {am : List (UInt64 × Json)}, (hkeys am).Nodup →
      removeLoopBy ident eq am rem =
        if (rem.map ident).Nodup ∧ ∀ v ∈ rem, (hmapGet (ident v) am).any (eq · v) = true
        then .ok (am.filter fun p => !(rem.map ident).contains p.1) else .err
  | [], am, _ => by
    rw [removeLoopBy, if_pos ⟨List.nodup_nil, nofun⟩]
    exact congrArg _ (List.filter_eq_self.2 fun _ _ => rfl).symm
  | v :: r, am, hN => by
    have hN' : (hkeys (am.filter fun p => p.1 != ident v)).Nodup :=
      (List.filter_sublist.map _).nodup hN
    have hget : ∀ v', hmapGet (ident v') (am.filter fun p => p.1 != ident v) =
        if ident v' != ident v then hmapGet (ident v') am else none :=
      fun v' => hmapGet_filter (· != ident v) _ am
    rw [removeLoopBy]
    cases hg : hmapGet (ident v) am with
    | none =>
      refine (if_neg fun hc => ?_).symm
      have := hc.2 v List.mem_cons_self
      rw [hg] at this; cases this
    | some d =>
      dsimp only
      cases he : eq d v with
      | false =>
        refine (if_neg fun hc => ?_).symm
        have := hc.2 v List.mem_cons_self
        rw [hg, Option.any_some, he] at this; cases this
      | true =>
        rw [if_pos rfl, hmapErase_eq_filter _ hN, removeLoopBy_eq r hN', List.filter_filter]
        have hG : ((r.map ident).Nodup ∧ ∀ v' ∈ r,
              (hmapGet (ident v') (am.filter fun p => p.1 != ident v)).any (eq · v') = true) ↔
            (((v :: r).map ident).Nodup ∧
              ∀ v' ∈ v :: r, (hmapGet (ident v') am).any (eq · v') = true) := by
          simp only [hget, List.map_cons, List.nodup_cons, List.forall_mem_cons, hg,
            Option.any_some, he, true_and]
          constructor
          · rintro ⟨hn, hall⟩
            have hne : ∀ v' ∈ r, ident v' ≠ ident v := fun v' hv' e => by
              have := hall v' hv'; simp [e] at this
            refine ⟨⟨fun hm => ?_, hn⟩, fun v' hv' => ?_⟩
            · obtain ⟨v', hv', e⟩ := List.mem_map.1 hm; exact hne v' hv' e
            · have := hall v' hv'; simpa [hne v' hv'] using this
          · rintro ⟨⟨hnm, hn⟩, hall⟩
            refine ⟨hn, fun v' hv' => ?_⟩
            have : ident v' ≠ ident v := fun e => hnm (e ▸ List.mem_map_of_mem hv')
            simpa [this] using hall v' hv'
        refine ite_congr (propext hG) (fun _ => congrArg Outcome.ok (List.filter_congr fun p _ => ?_))
          (fun _ => rfl)
        simp only [List.map_cons, List.contains_cons, Bool.not_or, bne, Bool.and_comm]

/-! ### 3. sorting by hash -/

theorem kinsert_perm {β} (h : UInt64) (v : β) :
    ∀ l : List (UInt64 × β), (kinsert h v l).Perm ((h, v) :: l)
  | [] => by simp [kinsert]
  | (h1, v1) :: r => by
    simp only [kinsert]
    split
    · exact List.Perm.refl _
    · exact ((kinsert_perm h v r).cons _).trans (List.Perm.swap _ _ _)

theorem ksort_perm {β} : ∀ l : List (UInt64 × β), (ksort l).Perm l
  | [] => by simp [ksort]
  | p :: r => by
    have ih := ksort_perm r
    simp only [ksort, List.foldr_cons] at ih ⊢
    exact (kinsert_perm _ _ _).trans (ih.cons _)


/-- strictly increasing in the order of `hashCodes.Less` -/
def HSorted (l : List UInt64) : Prop := l.Pairwise (fun a b => hashLt a b = true)

/-- on the keys, `ksort` is the sort `hsort` of the hash codes -/
theorem hkeys_kinsert (h : UInt64) (v : Json) :
    ∀ l : List (UInt64 × Json), hkeys (kinsert h v l) = hinsert h (hkeys l)
  | [] => rfl
  | (h1, v1) :: r => by
    simp only [kinsert, hkeys, List.map_cons, hinsert]
    split
    · rfl
    · exact congrArg (h1 :: ·) (hkeys_kinsert h v r)

theorem hkeys_ksort : ∀ l : List (UInt64 × Json), hkeys (ksort l) = hsort (hkeys l)
  | [] => rfl
  | p :: r => by
    have ih := hkeys_ksort r
    simp only [ksort, hsort, hkeys, List.foldr_cons, List.map_cons] at ih ⊢
    rw [← ih]; exact hkeys_kinsert _ _ _

/-- weakly sorted without repetition is strictly sorted -/
theorem HSortedLe.strict {l : List UInt64} (h : HSortedLe l) (hn : l.Nodup) : HSorted l := by
  unfold HSortedLe at h; unfold HSorted
  exact (h.and hn).imp fun ⟨hba, hne⟩ => hashLt_total (Ne.symm hne) hba

theorem ksort_sorted (l : List (UInt64 × Json)) (hn : (hkeys l).Nodup) : HSorted (hkeys (ksort l)) := by
  rw [hkeys_ksort]
  exact HSortedLe.strict (hsort_sorted_sp _) ((hsort_perm _).nodup_iff.2 hn)

/-- a strictly sorted list is determined by the set of its members -/
theorem HSorted.ext {l1 l2 : List UInt64} (h1 : HSorted l1) (h2 : HSorted l2)
    (h : ∀ a, a ∈ l1 ↔ a ∈ l2) : l1 = l2 := by
  have nd : ∀ {l : List UInt64}, HSorted l → l.Nodup := fun hl =>
    List.Pairwise.imp (fun hab e => by rw [e, hashLt_irrefl] at hab; cases hab) hl
  apply List.Perm.eq_of_pairwise (le := fun a b => hashLt a b = true) _ h1 h2
    ((List.perm_ext_iff_of_nodup (nd h1) (nd h2)).2 h)
  intro a b _ _ hab hba
  rw [hashLt_asymm hab] at hba; cases hba

/-! ### 4. the set leaf -/

/-- the leaf case of `jsonSet.patch` for any identity and equality test -/
def setLeaf (ident : Json → UInt64) (eq : Json → Json → Bool) (s remove add : List Json) :
    Outcome Json :=
  match removeLoopBy ident eq (buildMap ident s []) remove with
  | .ok am => .ok (.arr .set ((ksort (buildMap ident add am)).map (·.2)))
  | .err => .err
  | .panic => .panic

theorem patchSetLeaf_eq (m : Opts) (s remove add : List Json) :
    patchSetLeaf m s remove add = setLeaf (identOf m) (equals m) s remove add := by
  unfold patchSetLeaf setLeaf buildMap
  dsimp only
  rw [setRemoveLoop_eq]
  cases removeLoopBy (identOf m) (equals m)
    (List.foldl (fun acc v => hmapSet (identOf m v) v acc) [] s) remove <;> rfl

/-- the set leaf in closed form: a guard, then the members of the target that are not removed and the
    added values, in key order -/
theorem setLeaf_eq {ident : Json → UInt64} {eq : Json → Json → Bool} {s remove add : List Json} :
    setLeaf ident eq s remove add =
      if (remove.map ident).Nodup ∧
        ∀ v ∈ remove, (hmapGet (ident v) (buildMap ident s [])).any (eq · v) = true
      then .ok (.arr .set ((ksort (buildMap ident add
        ((buildMap ident s []).filter fun p => !(remove.map ident).contains p.1))).map (·.2)))
      else .err := by
  rw [setLeaf, removeLoopBy_eq remove (buildMap_inv s (MapInv.nil ident s) fun _ h => h).1]
  by_cases hc : (remove.map ident).Nodup ∧
      ∀ v ∈ remove, (hmapGet (ident v) (buildMap ident s [])).any (eq · v) = true
  · simp only [if_pos hc]
  · simp only [if_neg hc]

/-- every entry of the final map of the set leaf is a member of the target or an added value, stored
    under its identity -/
theorem setLeaf_inv {ident : Json → UInt64} {s add : List Json} (q : UInt64 × Json → Bool) :
    MapInv ident (s ++ add) (buildMap ident add ((buildMap ident s []).filter q)) :=
  buildMap_inv add
    (((buildMap_inv s (MapInv.nil ident s) fun _ h => h).filter q).mono fun x hx => by simp [hx])
    fun v hv => by simp [hv]

/-- a successful run returns an array tagged as a set whose members are members of the target or
    added values -/
theorem setLeaf_ok {ident : Json → UInt64} {eq : Json → Json → Bool} {s remove add : List Json}
    {v : Json} (h : setLeaf ident eq s remove add = .ok v) :
    ∃ zs, v = .arr .set zs ∧ ∀ z ∈ zs, z ∈ s ∨ z ∈ add := by
  rw [setLeaf_eq] at h
  split at h
  · refine ⟨_, (Outcome.ok.inj h).symm, fun z hz => ?_⟩
    obtain ⟨p, hp, rfl⟩ := List.mem_map.1 hz
    exact List.mem_append.1 ((setLeaf_inv _).2 p ((ksort_perm _).mem_iff.1 hp)).1
  · cases h

/-- the values of a map in key order, and their identities -/
theorem values_idents {ident : Json → UInt64} {E : List Json} {am : List (UInt64 × Json)}
    (hI : MapInv ident E am) : ((ksort am).map (·.2)).map ident = hkeys (ksort am) := by
  simp only [hkeys, List.map_map]
  apply List.map_congr_left
  intro p hp
  exact (hI.2 p ((ksort_perm am).mem_iff.1 hp)).2

theorem mem_hkeys_ksort {am : List (UInt64 × Json)} (h : UInt64) :
    h ∈ hkeys (ksort am) ↔ h ∈ hkeys am :=
  ((ksort_perm am).map (fun p : UInt64 × Json => p.1)).mem_iff

/-- the outcome of the set leaf in terms of identities. The only thing asked of the equality test
    is that a removed value passes it against the member stored under the same identity. -/
theorem setLeaf_idents {ident : Json → UInt64} {eq : Json → Json → Bool}
    {s remove add : List Json} :
    ((∃ r ∈ remove, ident r ∉ s.map ident) → setLeaf ident eq s remove add = .err) ∧
    (¬ (remove.map ident).Nodup → setLeaf ident eq s remove add = .err) ∧
    ((∀ d ∈ s, ∀ v ∈ remove, ident d = ident v → eq d v = true) →
      (∀ r ∈ remove, ident r ∈ s.map ident) → (remove.map ident).Nodup →
      ∃ ys, setLeaf ident eq s remove add = .ok (.arr .set ys) ∧
        (∀ y ∈ ys, y ∈ s ∨ y ∈ add) ∧
        HSorted (ys.map ident) ∧
        ∀ h, h ∈ ys.map ident ↔ (h ∈ s.map ident ∧ h ∉ remove.map ident) ∨ h ∈ add.map ident) := by
  have hI0 : MapInv ident s (buildMap ident s []) :=
    buildMap_inv s (MapInv.nil _ _) (fun _ hv => hv)
  have hk0 : ∀ h, h ∈ hkeys (buildMap ident s []) ↔ h ∈ s.map ident := by
    intro h; rw [mem_hkeys_buildMap]; simp [hkeys]
  refine ⟨?_, ?_, ?_⟩
  · rintro ⟨r, hr, hn⟩
    rw [setLeaf_eq]
    refine if_neg fun hc => ?_
    have := hc.2 r hr
    rw [hmapGet_none.2 (by rwa [hk0])] at this; cases this
  · intro hn
    rw [setLeaf_eq]
    exact if_neg fun hc => hn hc.1
  · intro heq hall hn
    have e := setLeaf_eq (ident := ident) (eq := eq) (s := s) (remove := remove) (add := add)
    rw [if_pos ⟨hn, fun v hv => by
      cases hg : hmapGet (ident v) (buildMap ident s []) with
      | none => exact absurd ((hk0 _).2 (hall v hv)) (hmapGet_none.1 hg)
      | some d =>
        have hd := hI0.2 _ (hmapGet_some hg)
        exact heq d hd.1 v hv hd.2⟩] at e
    have hI2 := setLeaf_inv (ident := ident) (s := s) (add := add)
      fun p => !(remove.map ident).contains p.1
    obtain ⟨_, e', hmem⟩ := setLeaf_ok e
    cases e'
    refine ⟨_, e, hmem, ?_, ?_⟩
    · rw [values_idents hI2]; exact ksort_sorted _ hI2.1
    · intro h
      rw [values_idents hI2, mem_hkeys_ksort, mem_hkeys_buildMap, ← hk0]
      simp [hkeys, List.mem_filter]

/-- the set leaf of the v2 library in terms of identities -/
theorem patchSetLeaf_idents_of {m : Opts} {s remove add : List Json} :
    ((∃ r ∈ remove, identOf m r ∉ s.map (identOf m)) → patchSetLeaf m s remove add = .err) ∧
    (¬ (remove.map (identOf m)).Nodup → patchSetLeaf m s remove add = .err) ∧
    ((∀ d ∈ s, ∀ v ∈ remove, identOf m d = identOf m v → equals m d v = true) →
      (∀ r ∈ remove, identOf m r ∈ s.map (identOf m)) → (remove.map (identOf m)).Nodup →
      ∃ ys, patchSetLeaf m s remove add = .ok (.arr .set ys) ∧
        (∀ y ∈ ys, y ∈ s ∨ y ∈ add) ∧
        HSorted (ys.map (identOf m)) ∧
        ∀ h, h ∈ ys.map (identOf m) ↔
          (h ∈ s.map (identOf m) ∧ h ∉ remove.map (identOf m)) ∨ h ∈ add.map (identOf m)) := by
  rw [patchSetLeaf_eq]
  exact setLeaf_idents

theorem patchSetLeaf_idents {m : Opts} {s remove add : List Json}
    (hF : Faithful m (s ++ remove ++ add)) :
    ((∃ r ∈ remove, identOf m r ∉ s.map (identOf m)) → patchSetLeaf m s remove add = .err) ∧
    (¬ (remove.map (identOf m)).Nodup → patchSetLeaf m s remove add = .err) ∧
    ((∀ r ∈ remove, identOf m r ∈ s.map (identOf m)) → (remove.map (identOf m)).Nodup →
      ∃ ys, patchSetLeaf m s remove add = .ok (.arr .set ys) ∧
        (∀ y ∈ ys, y ∈ s ∨ y ∈ add) ∧
        HSorted (ys.map (identOf m)) ∧
        ∀ h, h ∈ ys.map (identOf m) ↔
          (h ∈ s.map (identOf m) ∧ h ∉ remove.map (identOf m)) ∨ h ∈ add.map (identOf m)) := by
  obtain ⟨hs, hr, _⟩ := mem_append3 s remove add
  exact ⟨patchSetLeaf_idents_of.1, patchSetLeaf_idents_of.2.1,
    patchSetLeaf_idents_of.2.2 (fun d hd v hv e => (hF.equals_iff (hs d hd) (hr v hv)).2 e)⟩

/-- membership up to equivalence -/
theorem memEq_eq_decide {m : Opts} {E : List Json} (hF : Faithful m E) {z : Json} {l : List Json}
    (hz : z ∈ E) (hl : ∀ y ∈ l, y ∈ E) :
    memEq m z l = decide (identOf m z ∈ l.map (identOf m)) := by
  rw [Bool.eq_iff_iff, memEq_iff hF hz hl]; simp

theorem all_memEq_iff {m : Opts} {E : List Json} (hF : Faithful m E) {l s : List Json}
    (hl : ∀ y ∈ l, y ∈ E) (hs : ∀ y ∈ s, y ∈ E) :
    l.all (fun r => memEq m r s) = true ↔ ∀ r ∈ l, identOf m r ∈ s.map (identOf m) := by
  simp only [List.all_eq_true]
  constructor
  · intro h r hr; exact (memEq_iff hF (hl r hr) hs).1 (h r hr)
  · intro h r hr; exact (memEq_iff hF (hl r hr) hs).2 (h r hr)

/-- **C08, set hunks.** Under `Faithful`, the leaf case of `jsonSet.patch` fails when a removed
    element is not a member of the target, and ALSO when two removed elements are equivalent (the
    second removal finds nothing: this is stricter than the reference `applySetLeaf`); otherwise the
    result is, as a set, `(members ∖ removed) ∪ added`, its members are members of the target or
    added elements, and they are listed in strictly increasing hash order of their identities. -/
theorem patchSetLeaf_spec_of (m : Opts) (s remove add : List Json)
    (hF : Faithful m (s ++ remove ++ add)) :
    (remove.all (fun r => memEq m r s) = false → patchSetLeaf m s remove add = .err) ∧
    (distinctEq m remove = false → patchSetLeaf m s remove add = .err) ∧
    (remove.all (fun r => memEq m r s) = true → distinctEq m remove = true →
      ∃ ys, patchSetLeaf m s remove add = .ok (.arr .set ys) ∧
        (∀ y ∈ ys, y ∈ s ∨ y ∈ add) ∧
        HSorted (ys.map (identOf m)) ∧
        ∀ z ∈ s ++ remove ++ add,
          memEq m z ys = ((memEq m z s && !(memEq m z remove)) || memEq m z add)) := by
  obtain ⟨hs, hr, ha⟩ := mem_append3 s remove add
  obtain ⟨h1, h2, h3⟩ := patchSetLeaf_idents hF
  refine ⟨?_, ?_, ?_⟩
  · intro h
    apply h1
    have := mt (all_memEq_iff hF hr hs).2 (by simp [h])
    simpa only [Classical.not_forall, Classical.not_imp, exists_prop] using this
  · intro h
    apply h2
    rw [← distinctEq_iff hF hr, h]; simp
  · intro hall hd
    obtain ⟨ys, e, hsub, hsorted, hmem⟩ :=
      h3 ((all_memEq_iff hF hr hs).1 hall) ((distinctEq_iff hF hr).1 hd)
    refine ⟨ys, e, hsub, hsorted, ?_⟩
    intro z hz
    have hys : ∀ y ∈ ys, y ∈ s ++ remove ++ add := by
      intro y hy
      rcases hsub y hy with h' | h'
      · exact hs y h'
      · exact ha y h'
    rw [memEq_eq_decide hF hz hys, memEq_eq_decide hF hz hs, memEq_eq_decide hF hz hr,
      memEq_eq_decide hF hz ha, Bool.eq_iff_iff]
    simp only [decide_eq_true_eq, Bool.or_eq_true, Bool.and_eq_true, Bool.not_eq_true',
      decide_eq_false_iff_not]
    exact hmem _

/-- the statement for the options `patchNode` uses on a path ending in `{}` -/
theorem patchSetLeaf_spec (s remove add : List Json)
    (hF : Faithful [.set] (s ++ remove ++ add)) :
    (remove.all (fun r => memEq [.set] r s) = false → patchSetLeaf [.set] s remove add = .err) ∧
    (distinctEq [.set] remove = false → patchSetLeaf [.set] s remove add = .err) ∧
    (remove.all (fun r => memEq [.set] r s) = true → distinctEq [.set] remove = true →
      ∃ ys, patchSetLeaf [.set] s remove add = .ok (.arr .set ys) ∧
        (∀ y ∈ ys, y ∈ s ∨ y ∈ add) ∧
        HSorted (ys.map (identOf [.set])) ∧
        ∀ z ∈ s ++ remove ++ add,
          memEq [.set] z ys =
            ((memEq [.set] z s && !(memEq [.set] z remove)) || memEq [.set] z add)) :=
  patchSetLeaf_spec_of [.set] s remove add hF


/-! ### 5. order of the target, reference semantics, `patchNode` -/

/-- equal as sets up to equivalence -/
def setEqB (m : Opts) (xs ys : List Json) : Bool :=
  xs.all (fun x => memEq m x ys) && ys.all (fun y => memEq m y xs)

theorem setEqB_of_idents {m : Opts} {E : List Json} (hF : Faithful m E) {xs ys : List Json}
    (hx : ∀ x ∈ xs, x ∈ E) (hy : ∀ y ∈ ys, y ∈ E)
    (h : ∀ a, a ∈ xs.map (identOf m) ↔ a ∈ ys.map (identOf m)) : setEqB m xs ys = true := by
  simp only [setEqB, Bool.and_eq_true, List.all_eq_true]
  constructor
  · intro x hx'
    exact (memEq_iff hF (hx x hx') hy).2 ((h _).1 (List.mem_map_of_mem hx'))
  · intro y hy'
    exact (memEq_iff hF (hy y hy') hx).2 ((h _).2 (List.mem_map_of_mem hy'))

/-- **regardless of the order of the members in the target**: for a permutation of the target the
    hunk is rejected in both cases or applies in both, and then the two results carry the same
    identities in the same order (in particular they are equal as sets). -/
theorem patchSetLeaf_perm (m : Opts) {s s' : List Json} (hp : s'.Perm s) (remove add : List Json)
    (hF : Faithful m (s ++ remove ++ add)) :
    (patchSetLeaf m s remove add = .err ∧ patchSetLeaf m s' remove add = .err) ∨
    ∃ ys ys', patchSetLeaf m s remove add = .ok (.arr .set ys) ∧
      patchSetLeaf m s' remove add = .ok (.arr .set ys') ∧
      ys.map (identOf m) = ys'.map (identOf m) ∧ setEqB m ys ys' = true := by
  have hE : ∀ x, x ∈ s' ++ remove ++ add ↔ x ∈ s ++ remove ++ add := by
    intro x; simp only [List.mem_append, hp.mem_iff]
  have hF' : Faithful m (s' ++ remove ++ add) := hF.mono (fun x hx => (hE x).1 hx)
  have hk : ∀ a, a ∈ s'.map (identOf m) ↔ a ∈ s.map (identOf m) :=
    fun a => (hp.map (identOf m)).mem_iff
  obtain ⟨a1, a2, a3⟩ := patchSetLeaf_idents hF
  obtain ⟨b1, b2, b3⟩ := patchSetLeaf_idents hF'
  by_cases hall : ∀ r ∈ remove, identOf m r ∈ s.map (identOf m)
  · by_cases hn : (remove.map (identOf m)).Nodup
    · obtain ⟨ys, e, hsub, hsorted, hmem⟩ := a3 hall hn
      obtain ⟨ys', e', hsub', hsorted', hmem'⟩ := b3 (fun r hr => (hk _).2 (hall r hr)) hn
      have hids : ys.map (identOf m) = ys'.map (identOf m) := by
        apply HSorted.ext hsorted hsorted'
        intro a; rw [hmem, hmem', hk]
      refine Or.inr ⟨ys, ys', e, e', hids, ?_⟩
      apply setEqB_of_idents hF
      · intro y hy; rcases hsub y hy with h | h <;> simp [h]
      · intro y hy
        rcases hsub' y hy with h | h
        · simp [hp.mem_iff.1 h]
        · simp [h]
      · intro a; rw [hids]
    · exact Or.inl ⟨a2 hn, b2 hn⟩
  · simp only [Classical.not_forall] at hall
    obtain ⟨r, hr, hnr⟩ := hall
    exact Or.inl ⟨a1 ⟨r, hr, hnr⟩, b1 ⟨r, hr, fun hc => hnr ((hk _).1 hc)⟩⟩

/-- **link to the reference** `applySetLeaf` (JdSpec.HunkSem): when no two removed elements are
    equivalent, the code rejects the hunk iff the reference does, and otherwise the two results are
    equal as sets. (Without that hypothesis they differ: `setHunk_duplicate_removal`.) -/
theorem patchSetLeaf_ref (s : List Json) (h : Hunk)
    (hF : Faithful [.set] (s ++ h.remove ++ h.add)) (hd : distinctEq [.set] h.remove = true) :
    (applySetLeaf s h = none ∧ patchSetLeaf [.set] s h.remove h.add = .err) ∨
    ∃ zs ys, applySetLeaf s h = some zs ∧
      patchSetLeaf [.set] s h.remove h.add = .ok (.arr .set ys) ∧ setEqB [.set] ys zs = true := by
  obtain ⟨hs, hr, ha⟩ := mem_append3 s h.remove h.add
  obtain ⟨h1, _, h3⟩ := patchSetLeaf_idents hF
  cases hall : h.remove.all (fun r => memEq [.set] r s) with
  | false =>
    refine Or.inl ⟨by simp [applySetLeaf, hall], ?_⟩
    exact (patchSetLeaf_spec s h.remove h.add hF).1 hall
  | true =>
    obtain ⟨ys, e, hsub, _, hmem⟩ :=
      h3 ((all_memEq_iff hF hr hs).1 hall) ((distinctEq_iff hF hr).1 hd)
    refine Or.inr ⟨s.filter (fun x => !memEq [.set] x h.remove) ++ h.add, ys,
      by simp [applySetLeaf, hall], e, ?_⟩
    apply setEqB_of_idents hF
    · intro y hy; rcases hsub y hy with h' | h' <;> simp [h']
    · intro y hy
      simp only [List.mem_append, List.mem_filter] at hy
      rcases hy with ⟨h', _⟩ | h' <;> simp [h']
    · intro a
      rw [hmem]
      simp only [List.map_append, List.mem_append, List.mem_map, List.mem_filter,
        Bool.not_eq_true']
      constructor
      · rintro (⟨⟨x, hx, rfl⟩, hnr⟩ | h')
        · refine Or.inl ⟨x, ⟨hx, ?_⟩, rfl⟩
          cases hm : memEq [.set] x h.remove with
          | false => rfl
          | true =>
            have := (memEq_iff hF (hs x hx) hr).1 hm
            simp only [List.mem_map] at this
            exact absurd this hnr
        · exact Or.inr h'
      · rintro (⟨x, ⟨hx, hm⟩, rfl⟩ | h')
        · refine Or.inl ⟨⟨x, hx, rfl⟩, ?_⟩
          intro hc
          have := (memEq_iff hF (hs x hx) hr).2 (by simpa only [List.mem_map] using hc)
          rw [hm] at this; cases this
        · exact Or.inr h'

/-- how `patchNode` reaches the set leaf: a strict hunk whose remaining path starts with `{}`,
    addressed to an array read as a set -/
theorem patchNode_set_leaf (sw : Bool) (t : Tag) (ht : t = .raw ∨ t = .set) (xs : List Json)
    (rest : Path) (before remove add after : List Json) :
    patchNode sw false (.arr t xs) (.set :: rest) before remove add after =
      patchSetLeaf [.set] xs remove add := by
  have ht' : effTag [.set] t = .set := by rcases ht with rfl | rfl <;> rfl
  simp only [patchNode_strict, patchS, ht', if_true]

/-- C08 for a set hunk at the addressed array, against the reference interpreter `applyHunkRef` -/
theorem patchNode_set_ref (sw : Bool) (t : Tag) (ht : t = .raw ∨ t = .set) (xs : List Json)
    (rest : Path) (h : Hunk)
    (hF : Faithful [.set] (xs ++ h.remove ++ h.add)) (hd : distinctEq [.set] h.remove = true) :
    (applyHunkRef (.arr t xs) (.set :: rest) h = none ∧
      patchNode sw false (.arr t xs) (.set :: rest) h.before h.remove h.add h.after = .err) ∨
    ∃ zs ys, applyHunkRef (.arr t xs) (.set :: rest) h = some (.arr .raw zs) ∧
      patchNode sw false (.arr t xs) (.set :: rest) h.before h.remove h.add h.after =
        .ok (.arr .set ys) ∧ setEqB [.set] ys zs = true := by
  rw [patchNode_set_leaf sw t ht]
  rcases patchSetLeaf_ref xs h hF hd with ⟨e1, e2⟩ | ⟨zs, ys, e1, e2, e3⟩
  · exact Or.inl ⟨by simp [applyHunkRef, e1], e2⟩
  · exact Or.inr ⟨zs, ys, by simp [applyHunkRef, e1], e2, e3⟩

/-- **Finding (code stricter than the reference).** The hunk `@ [{}]`, `- null`, `- null` applied to
    `[null]`: the reference semantics (every removed element is a member) gives `[]`, the code
    reports an error, because the second removal no longer finds the entry in its map. The same
    holds for any removed list with two equivalent elements (`patchSetLeaf_spec`, second clause). -/
theorem setHunk_duplicate_removal :
    applySetLeaf [.null] { path := [.set], remove := [.null, .null] } = some [] ∧
    patchSetLeaf [.set] [.null] [.null, .null] [] = .err := by
  constructor
  · simp [applySetLeaf, memEq, equivB]
  · exact patchSetLeaf_idents_of.2.1 (by simp)

/-- non-vacuity of the hypothesis: `Faithful` holds for pairwise inequivalent scalars (the FNV
    values are evaluated by the kernel), and the theorem then describes an actual run -/
theorem faithful_scalars : Faithful [.set] ([.bool true, .null] ++ [.null] ++ [.bool false]) := by
  have h1 : identOf [.set] (.bool true) ≠ identOf [.set] .null := by
    simp [identOf, hashCode, Gen.hashTrue, Gen.seedNull]; decide
  have h2 : identOf [.set] (.bool true) ≠ identOf [.set] (.bool false) := by
    simp [identOf, hashCode, Gen.hashTrue, Gen.hashFalse]; decide
  have h3 : identOf [.set] (.bool false) ≠ identOf [.set] .null := by
    simp [identOf, hashCode, Gen.hashFalse, Gen.seedNull]; decide
  intro x hx y hy
  simp only [List.cons_append, List.nil_append, List.mem_cons, List.not_mem_nil, or_false] at hx hy
  rcases hx with rfl | rfl | rfl | rfl <;> rcases hy with rfl | rfl | rfl | rfl <;>
    simp [equivB, equals, Json.isNull, h1, h2, h3, h1.symm, h2.symm, h3.symm]

example : ∃ ys, patchSetLeaf [.set] [.bool true, .null] [.null] [.bool false] = .ok (.arr .set ys) ∧
    memEq [.set] (.bool true) ys = true ∧ memEq [.set] .null ys = false ∧
    memEq [.set] (.bool false) ys = true := by
  obtain ⟨ys, e, _, _, hm⟩ := (patchSetLeaf_spec _ _ _ faithful_scalars).2.2
    (by simp [memEq, equivB]) (by simp [distinctEq, memEq])
  refine ⟨ys, e, ?_, ?_, ?_⟩
  · rw [hm _ (by simp)]; simp [memEq, equivB]
  · rw [hm _ (by simp)]; simp [memEq, equivB]
  · rw [hm _ (by simp)]; simp [memEq, equivB]


/-! ### 6. the multiset leaf -/

/-- without SetKeys the identity of every node is its hash code (in particular for `[.mset]`) -/
theorem identOf_eq_hashCode {m : Opts} (hk : keysOf m = none) (x : Json) :
    identOf m x = hashCode m x := by
  cases x <;> simp [identOf, identObj, hk]

theorem countOcc_eq_count (h : UInt64) (hs : List UInt64) : countOcc h hs = hs.count h := by
  simp [countOcc, List.count_eq_countP, List.countP_eq_length_filter]

/-- the last member whose code under `H` is `h`: `hashLookup` of either library -/
def lookupBy (H : Json → UInt64) (h : UInt64) : List Json → Option Json
  | [] => none
  | x :: r =>
    match lookupBy H h r with
    | some y => some y
    | none => if H x == h then some x else none

theorem hashLookup_eq (m : Opts) (h : UInt64) :
    ∀ l : List Json, hashLookup m h l = lookupBy (hashCode m) h l
  | [] => rfl
  | x :: r => by
    rw [hashLookup, lookupBy, hashLookup_eq m h r]
    cases lookupBy (hashCode m) h r <;> rfl

theorem lookupBy_none {H : Json → UInt64} {h : UInt64} :
    ∀ {l : List Json}, h ∉ l.map H → lookupBy H h l = none
  | [], _ => rfl
  | y :: r, hn => by
    simp only [List.map_cons, List.mem_cons, not_or] at hn
    simp [lookupBy, lookupBy_none hn.2, Ne.symm hn.1]

theorem lookupBy_some {H : Json → UInt64} {h : UInt64} :
    ∀ {l : List Json}, h ∈ l.map H → ∃ x, lookupBy H h l = some x ∧ x ∈ l ∧ H x = h
  | [], hm => by simp at hm
  | y :: r, hm => by
    simp only [lookupBy]
    by_cases hr : h ∈ r.map H
    · obtain ⟨x, e, hx, hk⟩ := lookupBy_some hr
      exact ⟨x, by simp [e], by simp [hx], hk⟩
    · simp only [List.map_cons, List.mem_cons] at hm
      have hy : H y = h := (hm.resolve_right hr).symm
      exact ⟨y, by simp [lookupBy_none hr, hy], by simp, hy⟩

theorem filterMap_lookupBy {H : Json → UInt64} {all : List Json} :
    ∀ hs : List UInt64, (∀ h ∈ hs, h ∈ all.map H) →
      ((hs.filterMap (fun h => lookupBy H h all)).map H = hs) ∧
      ∀ y ∈ hs.filterMap (fun h => lookupBy H h all), y ∈ all
  | [], _ => by simp
  | h :: r, hm => by
    obtain ⟨x, e, hx, hk⟩ := lookupBy_some (hm h (by simp))
    obtain ⟨ih1, ih2⟩ := filterMap_lookupBy r (fun h' hh' => hm h' (by simp [hh']))
    simp only [List.filterMap_cons, e]
    constructor
    · simp [hk, ih1]
    · intro y hy
      simp only [List.mem_cons] at hy
      rcases hy with rfl | hy
      · exact hx
      · exact ih2 y hy

theorem count_flatMap_replicate (n : UInt64 → Nat) (c : UInt64) :
    ∀ D : List UInt64, D.Nodup →
      (D.flatMap (fun h => List.replicate (n h) h)).count c = if c ∈ D then n c else 0
  | [], _ => by simp
  | d :: r, hn => by
    simp only [List.nodup_cons] at hn
    have ih := count_flatMap_replicate n c r hn.2
    rw [List.flatMap_cons, List.count_append, ih, List.count_replicate]
    simp only [List.mem_cons, beq_iff_eq]
    by_cases e : d = c
    · subst e; simp [hn.1]
    · have e' : ¬ c = d := fun h => e h.symm
      simp [e, e']

/-- number of members equivalent to `z` -/
def cntEq (m : Opts) (z : Json) (l : List Json) : Nat := l.countP (fun y => equivB m z y)

theorem cntEq_eq_count {m : Opts} {E : List Json} (hF : Faithful m E) {z : Json} {l : List Json}
    (hz : z ∈ E) (hl : ∀ y ∈ l, y ∈ E) :
    cntEq m z l = (l.map (identOf m)).count (identOf m z) := by
  rw [cntEq, List.count_eq_countP, List.countP_map]
  apply List.countP_congr
  intro y hy
  rw [hF.equivB_iff hz (hl y hy)]
  simp only [Function.comp_apply, beq_iff_eq]
  exact eq_comm

/-- `removeFirst` in terms of a key function -/
theorem removeFirst_count {k : Json → UInt64} {p : Json → Bool} {c : UInt64} :
    ∀ l : List Json, (∀ y ∈ l, (p y = true ↔ k y = c)) →
      (c ∉ l.map k → removeFirst p l = none) ∧
      (c ∈ l.map k → ∃ l', removeFirst p l = some l' ∧ (∀ y ∈ l', y ∈ l) ∧
        ∀ h, (l'.map k).count h + (if h = c then 1 else 0) = (l.map k).count h) := by
  intro l hp
  constructor
  · intro hn
    rw [removeFirst_eq_none]
    intro y hy
    cases h : p y with
    | false => rfl
    | true => exact absurd (List.mem_map.2 ⟨y, hy, (hp y hy).1 h⟩) hn
  · intro hm
    cases hr : removeFirst p l with
    | none =>
      obtain ⟨y, hy, e⟩ := List.mem_map.1 hm
      have := removeFirst_eq_none.1 hr y hy
      rw [(hp y hy).2 e] at this; cases this
    | some l' =>
      -- the list is a permutation of the element taken out and the rest
      obtain ⟨y, hy, hperm⟩ := removeFirst_some p hr
      have hyl : y ∈ l := hperm.symm.subset List.mem_cons_self
      refine ⟨l', rfl, fun z hz => hperm.symm.subset (List.mem_cons_of_mem _ hz), fun h => ?_⟩
      rw [(hperm.map k).count_eq, List.map_cons, List.count_cons, (hp y hyl).1 hy]
      by_cases e : h = c
      · subst e; simp
      · simp [e, Ne.symm e]

theorem count_cons_eq (c h : UInt64) (l : List UInt64) :
    (c :: l).count h = l.count h + (if h = c then 1 else 0) := by
  rw [List.count_cons]
  by_cases e : h = c
  · subst e; simp
  · simp [e, Ne.symm e]

/-- `bagRemove` in terms of identities: it fails when some identity is removed more often than it
    occurs, and otherwise takes out exactly the removed identities -/
theorem bagRemove_count {m : Opts} {E : List Json} (hF : Faithful m E) :
    ∀ (rem l : List Json), (∀ y ∈ l, y ∈ E) → (∀ y ∈ rem, y ∈ E) →
      match bagRemove m l rem with
      | none => ∃ h, (l.map (identOf m)).count h < (rem.map (identOf m)).count h
      | some l' => (∀ y ∈ l', y ∈ l) ∧
          ∀ h, (l'.map (identOf m)).count h + (rem.map (identOf m)).count h =
            (l.map (identOf m)).count h
  | [], l, _, _ => by simp [bagRemove]
  | r :: rs, l, hl, hr => by
    obtain ⟨f1, f2⟩ := removeFirst_count (k := identOf m) (p := fun y => equivB m y r)
      (c := identOf m r) l (fun y hy => hF.equivB_iff (hl y hy) (hr r (by simp)))
    have hcons := fun h => count_cons_eq (identOf m r) h (rs.map (identOf m))
    rw [bagRemove, List.map_cons]
    by_cases hm : identOf m r ∈ l.map (identOf m)
    · obtain ⟨l1, e1, e2, e3⟩ := f2 hm
      have ih := bagRemove_count hF rs l1 (fun y hy => hl y (e2 y hy))
        (fun y hy => hr y (by simp [hy]))
      rw [e1]
      dsimp only
      cases hb : bagRemove m l1 rs with
      | none =>
        rw [hb] at ih
        obtain ⟨h, hlt⟩ := ih
        exact ⟨h, by have := e3 h; have := hcons h; omega⟩
      | some l' =>
        rw [hb] at ih
        exact ⟨fun y hy => e2 y (ih.1 y hy), fun h => by
          have := e3 h; have := hcons h; have := ih.2 h; omega⟩
    · rw [f1 hm]
      exact ⟨identOf m r, by
        have := hcons (identOf m r)
        rw [List.count_eq_zero.2 hm]; simp only [if_true] at this; omega⟩

/-- the leaf case of `jsonMultiset.patch` for any hash function -/
def msetLeaf (H : Json → UInt64) (a remove add : List Json) : Outcome Json :=
  if (hdedup (a.map H ++ remove.map H)).any
      (fun h => countOcc h (a.map H) < countOcc h (remove.map H)) then .err
  else
    .ok (.arr .mset ((hsort ((hdedup (a.map H ++ remove.map H ++ add.map H)).flatMap (fun h =>
      List.replicate (countOcc h (a.map H) - countOcc h (remove.map H) + countOcc h (add.map H)) h))
      ).filterMap (fun h => lookupBy H h (a ++ remove ++ add))))

theorem patchMsetLeaf_eq (m : Opts) (a remove add : List Json) :
    patchMsetLeaf m a remove add = msetLeaf (hashCode m) a remove add := by
  simp only [patchMsetLeaf, msetLeaf, hashList_eq_map, hashLookup_eq]

/-- the outcome of the multiset leaf in terms of hash codes -/
theorem msetLeaf_counts (H : Json → UInt64) (a remove add : List Json) :
    ((∃ h, (a.map H).count h < (remove.map H).count h) → msetLeaf H a remove add = .err) ∧
    ((∀ h, (remove.map H).count h ≤ (a.map H).count h) →
      ∃ ys, msetLeaf H a remove add = .ok (.arr .mset ys) ∧
        (∀ y ∈ ys, y ∈ a ++ remove ++ add) ∧
        HSortedLe (ys.map H) ∧
        ∀ h, (ys.map H).count h = (a.map H).count h - (remove.map H).count h + (add.map H).count h) := by
  constructor
  · rintro ⟨h, hlt⟩
    have : ((hdedup (a.map H ++ remove.map H)).any
        (fun h => decide (countOcc h (a.map H) < countOcc h (remove.map H)))) = true := by
      rw [List.any_eq_true]
      refine ⟨h, ?_, by simpa [countOcc_eq_count] using hlt⟩
      rw [mem_hdedup, List.mem_append]
      exact .inr (List.count_pos_iff.1 (by omega))
    rw [msetLeaf, if_pos this]
  · intro hle
    have hno : ((hdedup (a.map H ++ remove.map H)).any
        (fun h => decide (countOcc h (a.map H) < countOcc h (remove.map H)))) = false := by
      rw [List.any_eq_false]
      intro h _
      simpa [countOcc_eq_count] using hle h
    have hL : ∀ h ∈ hsort ((hdedup (a.map H ++ remove.map H ++ add.map H)).flatMap
        (fun h => List.replicate (countOcc h (a.map H) - countOcc h (remove.map H) +
          countOcc h (add.map H)) h)), h ∈ (a ++ remove ++ add).map H := by
      intro h hh
      have := (hsort_perm _).mem_iff.1 hh
      simp only [List.mem_flatMap, List.mem_replicate] at this
      obtain ⟨d, hd, _, rfl⟩ := this
      rw [List.map_append, List.map_append]
      exact (mem_hdedup _ _).1 hd
    obtain ⟨g1, g2⟩ := filterMap_lookupBy _ hL
    refine ⟨_, by rw [msetLeaf, if_neg (by simp [hno])], g2, ?_, ?_⟩
    · rw [g1]; exact hsort_sorted_sp _
    · intro h
      rw [g1, (hsort_perm _).count_eq, count_flatMap_replicate _ _ _ (nodup_hdedup _)]
      simp only [countOcc_eq_count, mem_hdedup, List.mem_append]
      split
      · rfl
      · rename_i hn
        simp only [not_or] at hn
        rw [List.count_eq_zero.2 hn.1.1, List.count_eq_zero.2 hn.2]
        omega

theorem patchMsetLeaf_counts (m : Opts) (a remove add : List Json) :
    ((∃ h, (a.map (hashCode m)).count h < (remove.map (hashCode m)).count h) →
      patchMsetLeaf m a remove add = .err) ∧
    ((∀ h, (remove.map (hashCode m)).count h ≤ (a.map (hashCode m)).count h) →
      ∃ ys, patchMsetLeaf m a remove add = .ok (.arr .mset ys) ∧
        (∀ y ∈ ys, y ∈ a ++ remove ++ add) ∧
        HSortedLe (ys.map (hashCode m)) ∧
        ∀ h, (ys.map (hashCode m)).count h =
          (a.map (hashCode m)).count h - (remove.map (hashCode m)).count h +
            (add.map (hashCode m)).count h) := by
  rw [patchMsetLeaf_eq]
  exact msetLeaf_counts (hashCode m) a remove add

/-- what a successful run of the multiset leaf returns -/
theorem patchMsetLeaf_ok {m : Opts} {a remove add ys : List Json}
    (e : patchMsetLeaf m a remove add = .ok (.arr .mset ys)) :
    (∀ y ∈ ys, y ∈ a ++ remove ++ add) ∧ HSortedLe (ys.map (hashCode m)) ∧
      ∀ h, (ys.map (hashCode m)).count h =
        (a.map (hashCode m)).count h - (remove.map (hashCode m)).count h +
          (add.map (hashCode m)).count h := by
  obtain ⟨c1, c2⟩ := patchMsetLeaf_counts m a remove add
  by_cases hle : ∀ h, (remove.map (hashCode m)).count h ≤ (a.map (hashCode m)).count h
  · obtain ⟨ys0, e0, r⟩ := c2 hle
    rw [e] at e0; cases e0
    exact r
  · simp only [Classical.not_forall, Nat.not_le] at hle
    rw [c1 hle] at e; cases e

/-- **C08, multiset hunks.** Under `Faithful`, the leaf case of `jsonMultiset.patch` fails exactly
    when the reference bag difference `bagRemove` fails (some removed element is not present often
    enough); otherwise the result has, for every element at hand, as many equivalent members as
    `(target minus removed) ++ added`, its members are weakly increasing in hash order. -/
theorem patchMsetLeaf_spec (a remove add : List Json)
    (hF : Faithful [.mset] (a ++ remove ++ add)) :
    (bagRemove [.mset] a remove = none → patchMsetLeaf [.mset] a remove add = .err) ∧
    (∀ l', bagRemove [.mset] a remove = some l' →
      ∃ ys, patchMsetLeaf [.mset] a remove add = .ok (.arr .mset ys) ∧
        (∀ y ∈ ys, y ∈ a ++ remove ++ add) ∧
        HSortedLe (ys.map (hashCode [.mset])) ∧
        (∀ z ∈ a ++ remove ++ add,
          cntEq [.mset] z ys =
            cntEq [.mset] z a - cntEq [.mset] z remove + cntEq [.mset] z add) ∧
        (∀ z ∈ a ++ remove ++ add, cntEq [.mset] z ys = cntEq [.mset] z (l' ++ add))) := by
  have hid : identOf [.mset] = hashCode [.mset] := funext (identOf_eq_hashCode rfl)
  obtain ⟨hs, hr, ha⟩ := mem_append3 a remove add
  have hb := bagRemove_count hF remove a hs hr
  obtain ⟨c1, c2⟩ := patchMsetLeaf_counts [.mset] a remove add
  rw [hid] at hb
  cases e0 : bagRemove [.mset] a remove with
  | none =>
    rw [e0] at hb
    exact ⟨fun _ => c1 hb, nofun⟩
  | some l0 =>
    rw [e0] at hb
    obtain ⟨sub0, cnt0⟩ := hb
    obtain ⟨ys, e, hsub, hsorted, hcnt⟩ := c2 (fun h => by have := cnt0 h; omega)
    refine ⟨nofun, ?_⟩
    intro l' hl'
    cases hl'
    refine ⟨ys, e, hsub, hsorted, ?_, ?_⟩
    · intro z hz
      rw [cntEq_eq_count hF hz hsub, cntEq_eq_count hF hz hs, cntEq_eq_count hF hz hr,
        cntEq_eq_count hF hz ha, hid]
      exact hcnt _
    · intro z hz
      have hl0 : ∀ y ∈ l0 ++ add, y ∈ a ++ remove ++ add := by
        intro y hy
        rcases List.mem_append.1 hy with h | h
        · exact hs y (sub0 y h)
        · exact ha y h
      rw [cntEq_eq_count hF hz hsub, cntEq_eq_count hF hz hl0, hid, hcnt, List.map_append,
        List.count_append]
      have := cnt0 (hashCode [.mset] z)
      omega

/-- **regardless of the order of the members in the target** (no hypothesis on hashes needed): for a
    permutation of the target the multiset hunk is rejected in both cases or applies in both, and
    the two results carry the same hash codes in the same order. -/
theorem patchMsetLeaf_perm (m : Opts) {a a' : List Json} (hp : a'.Perm a) (remove add : List Json) :
    (patchMsetLeaf m a remove add = .err ∧ patchMsetLeaf m a' remove add = .err) ∨
    ∃ ys ys', patchMsetLeaf m a remove add = .ok (.arr .mset ys) ∧
      patchMsetLeaf m a' remove add = .ok (.arr .mset ys') ∧
      ys.map (hashCode m) = ys'.map (hashCode m) := by
  have hc : ∀ h, (a'.map (hashCode m)).count h = (a.map (hashCode m)).count h :=
    fun h => (hp.map (hashCode m)).count_eq h
  obtain ⟨c1, c2⟩ := patchMsetLeaf_counts m a remove add
  obtain ⟨d1, d2⟩ := patchMsetLeaf_counts m a' remove add
  by_cases hle : ∀ h, (remove.map (hashCode m)).count h ≤ (a.map (hashCode m)).count h
  · obtain ⟨ys, e, _, hsorted, hcnt⟩ := c2 hle
    obtain ⟨ys', e', _, hsorted', hcnt'⟩ := d2 (fun h => by rw [hc]; exact hle h)
    refine Or.inr ⟨ys, ys', e, e', HSortedLe.ext hsorted hsorted' ?_⟩
    intro h; rw [hcnt, hcnt', hc]
  · simp only [Classical.not_forall, Nat.not_le] at hle
    obtain ⟨h, hlt⟩ := hle
    exact Or.inl ⟨c1 ⟨h, hlt⟩, d1 ⟨h, by rw [hc]; exact hlt⟩⟩

/-- the same, phrased with the advertised equivalence -/
theorem patchMsetLeaf_perm_equiv {a a' : List Json} (hp : a'.Perm a) (remove add : List Json)
    (hF : Faithful [.mset] (a ++ remove ++ add)) :
    (patchMsetLeaf [.mset] a remove add = .err ∧ patchMsetLeaf [.mset] a' remove add = .err) ∨
    ∃ ys ys', patchMsetLeaf [.mset] a remove add = .ok (.arr .mset ys) ∧
      patchMsetLeaf [.mset] a' remove add = .ok (.arr .mset ys') ∧
      ∀ z ∈ a ++ remove ++ add, cntEq [.mset] z ys = cntEq [.mset] z ys' := by
  have hid : identOf [.mset] = hashCode [.mset] := funext (identOf_eq_hashCode rfl)
  rcases patchMsetLeaf_perm [.mset] hp remove add with h | ⟨ys, ys', e, e', hids⟩
  · exact Or.inl h
  · refine Or.inr ⟨ys, ys', e, e', ?_⟩
    intro z hz
    have hsub := (patchMsetLeaf_ok e).1
    have hsub' : ∀ y ∈ ys', y ∈ a ++ remove ++ add := fun y hy => by
      simpa only [List.mem_append, hp.mem_iff] using (patchMsetLeaf_ok e').1 y hy
    rw [cntEq_eq_count hF hz hsub, cntEq_eq_count hF hz hsub', hid, hids]

/-- **link to the reference** `applyBagLeaf` (JdSpec.HunkSem): rejected iff the reference rejects;
    otherwise equal as bags on the elements at hand -/
theorem patchMsetLeaf_ref (a : List Json) (h : Hunk)
    (hF : Faithful [.mset] (a ++ h.remove ++ h.add)) :
    (applyBagLeaf a h = none ∧ patchMsetLeaf [.mset] a h.remove h.add = .err) ∨
    ∃ zs ys, applyBagLeaf a h = some zs ∧
      patchMsetLeaf [.mset] a h.remove h.add = .ok (.arr .mset ys) ∧
      ∀ z ∈ a ++ h.remove ++ h.add, cntEq [.mset] z ys = cntEq [.mset] z zs := by
  obtain ⟨h1, h2⟩ := patchMsetLeaf_spec a h.remove h.add hF
  cases hb : bagRemove [.mset] a h.remove with
  | none => exact Or.inl ⟨by simp [applyBagLeaf, hb], h1 hb⟩
  | some l' =>
    obtain ⟨ys, e, _, _, _, hc⟩ := h2 l' hb
    exact Or.inr ⟨l' ++ h.add, ys, by simp [applyBagLeaf, hb], e, hc⟩

/-- how `patchNode` reaches the multiset leaf -/
theorem patchNode_mset_leaf (sw : Bool) (t : Tag) (ht : t = .raw ∨ t = .mset) (xs : List Json)
    (rest : Path) (before remove add after : List Json) :
    patchNode sw false (.arr t xs) (.mset :: rest) before remove add after =
      patchMsetLeaf [.mset] xs remove add := by
  have ht' : effTag [.mset] t = .mset := by rcases ht with rfl | rfl <;> rfl
  simp only [patchNode_strict, patchS, ht', if_true]

/-- C08 for a multiset hunk at the addressed array, against the reference interpreter -/
theorem patchNode_mset_ref (sw : Bool) (t : Tag) (ht : t = .raw ∨ t = .mset) (xs : List Json)
    (rest : Path) (h : Hunk) (hF : Faithful [.mset] (xs ++ h.remove ++ h.add)) :
    (applyHunkRef (.arr t xs) (.mset :: rest) h = none ∧
      patchNode sw false (.arr t xs) (.mset :: rest) h.before h.remove h.add h.after = .err) ∨
    ∃ zs ys, applyHunkRef (.arr t xs) (.mset :: rest) h = some (.arr .raw zs) ∧
      patchNode sw false (.arr t xs) (.mset :: rest) h.before h.remove h.add h.after =
        .ok (.arr .mset ys) ∧
      ∀ z ∈ xs ++ h.remove ++ h.add, cntEq [.mset] z ys = cntEq [.mset] z zs := by
  rw [patchNode_mset_leaf sw t ht]
  rcases patchMsetLeaf_ref xs h hF with ⟨e1, e2⟩ | ⟨zs, ys, e1, e2, e3⟩
  · exact Or.inl ⟨by simp [applyHunkRef, e1], e2⟩
  · exact Or.inr ⟨zs, ys, by simp [applyHunkRef, e1], e2, e3⟩

/-! ### 7. a path element with set keys: the search loop -/

namespace Keyed

/-- how `patchNode` reaches the search loop -/
theorem patchNode_setKeys_loop (sw : Bool) (t : Tag) (ht : t = .raw ∨ t = .set) (xs : List Json)
    (po : List (String × Json)) (rest : Path) (hrest : rest ≠ [])
    (before remove add after : List Json) :
    patchNode sw false (.arr t xs) (.setKeys po :: rest) before remove add after =
      keyedLoop (keyedOut sw) (hashMatchL (keyedTol po xs) (identObj [.set] po) po)
        (fun x => patchNode sw false x rest before remove add after) [] xs := by
  have ht' : effTag [.set] t = .set := by rcases ht with rfl | rfl <;> rfl
  simp only [patchNode_strict, patchS, ht', hrest, ne_eq, not_false_eq_true, and_self, if_true]

/-! ### 8. the object hashed by the tolerant pass of the keyed lookup -/

/-- the object hashed by `pathIdentTol`: the restriction, plus `null` under every key that is null in
    the path object and absent from the member -/
def tolObj (kvs po : List (String × Json)) : List (String × Json) :=
  (po.filter (fun kv => (match kv.2 with | .null => true | _ => false) && (alookup kv.1 kvs).isNone)).foldl
    (fun acc kv => ainsert kv.1 .null acc) (restrictKeys kvs po)

theorem pathIdentTol_eq (o : Opts) (kvs po : List (String × Json)) :
    pathIdentTol o kvs po = hashCode o (.obj (tolObj kvs po)) := rfl

theorem pathIdent_eq (o : Opts) (kvs po : List (String × Json)) :
    pathIdent o kvs po = hashCode o (.obj (restrictKeys kvs po)) := rfl

theorem identObj_set (po : List (String × Json)) :
    identObj [.set] po = hashCode [.set] (.obj po) := rfl

theorem isNullMatch (v : Json) : (match v with | .null => true | _ => false) = v.isNull := by
  cases v <;> rfl

/-- lookups in the object of the tolerant pass: under a key of the path object the member's value,
    `null` where the path object holds null and the member lacks the key; no other keys -/
theorem alookup_tolObj {kvs po : List (String × Json)} (hP : (po.map Prod.fst).Nodup) (k : String) :
    alookup k (tolObj kvs po) = match alookup k po with
      | some v' => if v'.isNull && (alookup k kvs).isNone then some .null else alookup k kvs
      | none => none := by
  unfold tolObj
  rw [alookup_foldl_ainsert Prod.fst (fun _ => Json.null) (fun _ => Json.null) k _ _ (fun _ _ => rfl),
    alookup_restrictKeys]
  simp only [isNullMatch]
  cases hl : alookup k po with
  | none =>
    rw [if_neg fun hm => (alookup_none_iff k po).1 hl (by
      obtain ⟨kv, hm2, e⟩ := List.mem_map.1 hm
      exact List.mem_map.2 ⟨kv, (List.mem_filter.1 hm2).1, e⟩)]
    rfl
  | some v' =>
    have hiff : k ∈ (po.filter (fun kv => kv.2.isNull && (alookup kv.1 kvs).isNone)).map Prod.fst ↔
        (v'.isNull && (alookup k kvs).isNone) = true := by
      constructor
      · intro hm
        obtain ⟨⟨k0, w⟩, hm2, rfl⟩ := List.mem_map.1 hm
        obtain ⟨hm3, hc⟩ := List.mem_filter.1 hm2
        cases Option.some.inj ((alookup_of_mem_nodup hP hm3).symm.trans hl)
        exact hc
      · intro hc
        exact List.mem_map.2 ⟨(k, v'), List.mem_filter.2 ⟨mem_of_alookup hl, hc⟩, rfl⟩
    simp only [Option.isSome_some, if_true]
    by_cases hc : (v'.isNull && (alookup k kvs).isNone) = true
    · rw [if_pos (hiff.2 hc), if_pos hc]
    · rw [if_neg (fun h => hc (hiff.1 h)), if_neg hc]

theorem keysSorted_tolObj {kvs : List (String × Json)} (h : keysSorted kvs = true)
    (po : List (String × Json)) : keysSorted (tolObj kvs po) = true :=
  keysSorted_foldl_ainsert (fun kv : String × Json => kv.1) (fun _ => Json.null) _
    (keysSorted_restrictKeys h po)

/-- the object of the tolerant pass looks at the member only under the keys of the path object -/
theorem tolObj_congr {po kvs kvs' : List (String × Json)} (hpos : keysSorted po = true)
    (hs : keysSorted kvs = true) (hs' : keysSorted kvs' = true)
    (h : ∀ k, (alookup k po).isSome = true → alookup k kvs' = alookup k kvs) :
    tolObj kvs' po = tolObj kvs po := by
  refine kvs_ext (keysSorted_tolObj hs' _) (keysSorted_tolObj hs _) fun j => ?_
  rw [alookup_tolObj (keysSorted_nodup hpos), alookup_tolObj (keysSorted_nodup hpos)]
  cases hl : alookup j po with
  | none => rfl
  | some v' => simp only [h j (by rw [hl]; rfl)]

end Keyed

end Jd

#print axioms Jd.bswap_inj
#print axioms Jd.patchSetLeaf_spec_of
#print axioms Jd.patchSetLeaf_spec
#print axioms Jd.patchSetLeaf_perm
#print axioms Jd.patchSetLeaf_ref
#print axioms Jd.patchNode_set_ref
#print axioms Jd.setHunk_duplicate_removal
#print axioms Jd.faithful_scalars
#print axioms Jd.patchMsetLeaf_counts
#print axioms Jd.patchMsetLeaf_spec
#print axioms Jd.patchMsetLeaf_perm
#print axioms Jd.patchMsetLeaf_perm_equiv
#print axioms Jd.patchMsetLeaf_ref
#print axioms Jd.patchNode_mset_ref
