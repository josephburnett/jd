/-
  JdProofs.DiffMinimal — property C06 in LIST mode, strict strategy, arrays of scalars:
  the diff of two arrays removes exactly `len xs − |LCS|` elements and adds exactly `len ys − |LCS|`
  elements, where LCS is the golcs common sequence of the two HASH lists; hence (with `lcs_optimal`)
  no edit script that matches equal-hash elements removes (adds) fewer elements.  Every hunk carries
  exactly one line of before-context and one line of after-context, sits at `p ++ [.idx i]`, is a
  strict (non-merge) hunk and is not empty.

  Namespace `Jd.Min`. Only the elements of the FIRST array have to be scalars (`DPL.isScalar`): the
  loop of `diffRest` inspects `sameContainerType o x y` with `x` an element of the first array.
  The counts are read off the alignment (JdProofs/ListScript.lean): without recursed pairs the
  rendering removes and adds what the `edit` steps do (`counts_render`), every element is kept or
  removed resp. added (`src_length_eq`), and the kept pairs are the common sequence (`walk_keeps`).
  `diffRest_shape`: a hunk is an `edit` step. The other statements are instances for `diffNode` /
  `diffM`, with the golcs table corner `lcsLength` or the textbook recurrence `lcsLenSpec` in place
  of `|LCS|`.
-/
import JdProofs.LcsProofs
import JdProofs.DiffPatchList

namespace Jd.Min
open Jd Jd.DPL Jd.RealL Jd.Align

/-! ## 0. counting removed / added elements of a diff -/

/-- total number of removed elements of a diff -/
def removes (d : Diff) : Nat := (d.map (·.remove.length)).sum

/-- total number of added elements of a diff -/
def adds (d : Diff) : Nat := (d.map (·.add.length)).sum

theorem removes_def (d : Diff) : removes d = (d.map (·.remove.length)).sum := rfl
theorem adds_def (d : Diff) : adds d = (d.map (·.add.length)).sum := rfl

@[simp] theorem removes_nil : removes [] = 0 := rfl
@[simp] theorem adds_nil : adds [] = 0 := rfl

/-! ## 1. counting on the alignment -/

theorem length_hashList (o : Opts) (xs : List Json) : (hashList o xs).length = xs.length := by
  induction xs with
  | nil => rfl
  | cons x r ih => simp [hashList_cons, ih]

/-- without recursed pairs, what the rendering removes and adds is what the `edit` steps do -/
theorem counts_render {o : Opts} {p : Path} : ∀ (S : Script) (n : Bool) (k : Nat) (prev : Json),
    (∀ x y, Step.sub x y ∉ S) →
    removes (render o p n k prev S) = (removedOf S).length ∧
      adds (render o p n k prev S) = (addedOf S).length
  | [], _, _, _, _ => ⟨rfl, rfl⟩
  | .keep _ y :: r, _, k, _, h => by
    simpa [render, removedOf, addedOf] using
      counts_render r true (k + 1) y fun x y hm => h x y (.tail _ hm)
  | .sub x y :: _, _, _, _, h => absurd List.mem_cons_self (h x y)
  | .edit R A :: r, _, k, prev, h => by
    have := counts_render (o := o) (p := p) r false (k + A.length) (A.getLast?.getD prev)
      fun x y hm => h x y (.tail _ hm)
    simp [render, removes, adds, removedOf, addedOf] at this ⊢
    omega

theorem subs_eq_zero : ∀ {S : Script}, (∀ x y, Step.sub x y ∉ S) → subs S = 0
  | [], _ => rfl
  | .keep _ _ :: r, h => subs_eq_zero (S := r) fun x y hm => h x y (.tail _ hm)
  | .edit _ _ :: r, h => subs_eq_zero (S := r) fun x y hm => h x y (.tail _ hm)
  | .sub x y :: _, h => absurd List.mem_cons_self (h x y)

/-! ## 2. the advertised statements -/

/-- C06, arrays of scalars, list mode: the diff removes exactly `len xs − |LCS|` elements and adds
    exactly `len ys − |LCS|` elements: every element is kept (`walk_keeps`: the kept pairs are the
    common sequence) or removed, resp. added. -/
theorem removes_adds_count (o : Opts) (p : Path) (xs ys : List Json)
    (scalars : ∀ x ∈ xs, isScalar x = true) :
    let d := diffRest o p 0 0 .void xs ys (lcsValues (hashList o xs) (hashList o ys)) [] []
    (d.map (·.remove.length)).sum = xs.length - (lcsValues (hashList o xs) (hashList o ys)).length ∧
    (d.map (·.add.length)).sum = ys.length - (lcsValues (hashList o xs) (hashList o ys)).length := by
  intro d
  have hns := no_sub_of_scalars o ys scalars
  obtain ⟨h1, h2⟩ := counts_render (o := o) (p := p) (alignment o xs ys) true 0 .void hns
  have s1 := src_length_eq (alignment o xs ys)
  have s2 := tgt_length_eq (alignment o xs ys)
  have hk : keeps (alignment o xs ys) = _ := walk_keeps o xs ys _ [] []
    (lcsValues_sublist_left (hashList o xs) (hashList o ys)) (lcsValues_sublist_right _ _)
  rw [alignment_src, subs_eq_zero hns, hk] at s1
  rw [alignment_tgt, subs_eq_zero hns, hk] at s2
  show removes d = _ ∧ adds d = _
  rw [show d = _ from diffRest_alignment o p xs ys, h1, h2]
  omega

/-- the same with the corner of the golcs table -/
theorem removes_adds_count_lcsLength (o : Opts) (p : Path) (xs ys : List Json)
    (scalars : ∀ x ∈ xs, isScalar x = true) :
    let d := diffRest o p 0 0 .void xs ys (lcsValues (hashList o xs) (hashList o ys)) [] []
    (d.map (·.remove.length)).sum = xs.length - lcsLength (hashList o xs) (hashList o ys) ∧
    (d.map (·.add.length)).sum = ys.length - lcsLength (hashList o xs) (hashList o ys) := by
  intro d
  have h := removes_adds_count o p xs ys scalars
  rw [lcsValues_length] at h
  exact h

/-- the same with the textbook LCS recurrence -/
theorem removes_adds_count_spec (o : Opts) (p : Path) (xs ys : List Json)
    (scalars : ∀ x ∈ xs, isScalar x = true) :
    let d := diffRest o p 0 0 .void xs ys (lcsValues (hashList o xs) (hashList o ys)) [] []
    (d.map (·.remove.length)).sum = xs.length - lcsLenSpec (hashList o xs) (hashList o ys) ∧
    (d.map (·.add.length)).sum = ys.length - lcsLenSpec (hashList o xs) (hashList o ys) := by
  intro d
  have h := removes_adds_count o p xs ys scalars
  rw [lcsValues_length_spec] at h
  exact h

/-- minimality of the removes: no common subsequence of the two hash lists leaves fewer elements
    to remove.  (`removes + |c'| ≤ |xs|` is the subtraction-free form.) -/
theorem removes_minimal (o : Opts) (p : Path) (xs ys : List Json)
    (scalars : ∀ x ∈ xs, isScalar x = true)
    (c' : List UInt64) (h1 : c'.Sublist (hashList o xs)) (h2 : c'.Sublist (hashList o ys)) :
    let d := diffRest o p 0 0 .void xs ys (lcsValues (hashList o xs) (hashList o ys)) [] []
    (d.map (·.remove.length)).sum ≤ xs.length - c'.length ∧
    (d.map (·.remove.length)).sum + c'.length ≤ xs.length := by
  intro d
  have h := (removes_adds_count o p xs ys scalars).1
  have hopt := lcs_optimal (hashList o xs) (hashList o ys) c' h1 h2
  have hle := (lcsValues_sublist_left (hashList o xs) (hashList o ys)).length_le
  rw [length_hashList] at hle
  constructor
  · show (d.map (·.remove.length)).sum ≤ _
    rw [h]; omega
  · show (d.map (·.remove.length)).sum + _ ≤ _
    rw [h]; omega

theorem adds_minimal (o : Opts) (p : Path) (xs ys : List Json)
    (scalars : ∀ x ∈ xs, isScalar x = true)
    (c' : List UInt64) (h1 : c'.Sublist (hashList o xs)) (h2 : c'.Sublist (hashList o ys)) :
    let d := diffRest o p 0 0 .void xs ys (lcsValues (hashList o xs) (hashList o ys)) [] []
    (d.map (·.add.length)).sum ≤ ys.length - c'.length ∧
    (d.map (·.add.length)).sum + c'.length ≤ ys.length := by
  intro d
  have h := (removes_adds_count o p xs ys scalars).2
  have hopt := lcs_optimal (hashList o xs) (hashList o ys) c' h1 h2
  have hle := (lcsValues_sublist_right (hashList o xs) (hashList o ys)).length_le
  rw [length_hashList] at hle
  constructor
  · show (d.map (·.add.length)).sum ≤ _
    rw [h]; omega
  · show (d.map (·.add.length)).sum + _ ≤ _
    rw [h]; omega

/-- minimality against the textbook recurrence: the diff removes / adds exactly the textbook
    optimum, and `lcsLenSpec` dominates every common subsequence (`lcsLenSpec_upper`). -/
theorem removes_adds_minimal_spec (o : Opts) (p : Path) (xs ys : List Json)
    (scalars : ∀ x ∈ xs, isScalar x = true) :
    let d := diffRest o p 0 0 .void xs ys (lcsValues (hashList o xs) (hashList o ys)) [] []
    ((d.map (·.remove.length)).sum = xs.length - lcsLenSpec (hashList o xs) (hashList o ys) ∧
     (d.map (·.add.length)).sum = ys.length - lcsLenSpec (hashList o xs) (hashList o ys)) ∧
    ∀ c' : List UInt64, c'.Sublist (hashList o xs) → c'.Sublist (hashList o ys) →
      c'.length ≤ lcsLenSpec (hashList o xs) (hashList o ys) := by
  intro d
  exact ⟨removes_adds_count_spec o p xs ys scalars, fun c' h1 h2 => lcsLenSpec_upper _ _ c' h1 h2⟩

/-! ## 3. corollaries for `diffNode` and `diffM` -/

theorem diffNode_removes_adds_count {o : Opts} (ho : dispatchTag o = .list) {t t' : Tag}
    (xs ys : List Json)
    (ht : (t == .raw || t == .list) = true) (ht' : (t' == .raw || t' == .list) = true)
    (htt : t = .raw ∨ t' = .list) (p : Path)
    (scalars : ∀ x ∈ xs, isScalar x = true) :
    let d := diffNode o false (.arr t xs) (.arr t' ys) p
    (d.map (·.remove.length)).sum = xs.length - (lcsValues (hashList o xs) (hashList o ys)).length ∧
    (d.map (·.add.length)).sum = ys.length - (lcsValues (hashList o xs) (hashList o ys)).length := by
  intro d
  have e : d = diffRest o p 0 0 .void xs ys (lcsValues (hashList o xs) (hashList o ys)) [] [] :=
    diffNode_arr_arr ho xs ys ht ht' htt p
  rw [e]
  exact removes_adds_count o p xs ys scalars

theorem diffNode_removes_minimal {o : Opts} (ho : dispatchTag o = .list) {t t' : Tag}
    (xs ys : List Json)
    (ht : (t == .raw || t == .list) = true) (ht' : (t' == .raw || t' == .list) = true)
    (htt : t = .raw ∨ t' = .list) (p : Path)
    (scalars : ∀ x ∈ xs, isScalar x = true)
    (c' : List UInt64) (h1 : c'.Sublist (hashList o xs)) (h2 : c'.Sublist (hashList o ys)) :
    let d := diffNode o false (.arr t xs) (.arr t' ys) p
    (d.map (·.remove.length)).sum ≤ xs.length - c'.length ∧
    (d.map (·.add.length)).sum ≤ ys.length - c'.length := by
  intro d
  have e : d = diffRest o p 0 0 .void xs ys (lcsValues (hashList o xs) (hashList o ys)) [] [] :=
    diffNode_arr_arr ho xs ys ht ht' htt p
  rw [e]
  exact ⟨(removes_minimal o p xs ys scalars c' h1 h2).1, (adds_minimal o p xs ys scalars c' h1 h2).1⟩

/-- `a.Diff(b)` for two arrays of scalars, list mode, strict strategy: exact counts -/
theorem diffM_removes_adds_count {o : Opts} (ho : dispatchTag o = .list) (hm : isMerge o = false)
    {t t' : Tag} (xs ys : List Json)
    (ht : (t == .raw || t == .list) = true) (ht' : (t' == .raw || t' == .list) = true)
    (htt : t = .raw ∨ t' = .list)
    (scalars : ∀ x ∈ xs, isScalar x = true) :
    let d := diffM o (.arr t xs) (.arr t' ys)
    (d.map (·.remove.length)).sum = xs.length - (lcsValues (hashList o xs) (hashList o ys)).length ∧
    (d.map (·.add.length)).sum = ys.length - (lcsValues (hashList o xs) (hashList o ys)).length := by
  intro d
  have e : d = diffNode o false (.arr t xs) (.arr t' ys) [] := by
    show diffM o _ _ = _
    rw [diffM, hm]
  rw [e]
  exact diffNode_removes_adds_count ho xs ys ht ht' htt [] scalars

/-- `a.Diff(b)`: exact counts against the textbook LCS recurrence -/
theorem diffM_removes_adds_count_spec {o : Opts} (ho : dispatchTag o = .list)
    (hm : isMerge o = false) {t t' : Tag} (xs ys : List Json)
    (ht : (t == .raw || t == .list) = true) (ht' : (t' == .raw || t' == .list) = true)
    (htt : t = .raw ∨ t' = .list)
    (scalars : ∀ x ∈ xs, isScalar x = true) :
    let d := diffM o (.arr t xs) (.arr t' ys)
    (d.map (·.remove.length)).sum = xs.length - lcsLenSpec (hashList o xs) (hashList o ys) ∧
    (d.map (·.add.length)).sum = ys.length - lcsLenSpec (hashList o xs) (hashList o ys) := by
  intro d
  have h := diffM_removes_adds_count ho hm xs ys ht ht' htt scalars
  rw [lcsValues_length_spec] at h
  exact h

/-- `a.Diff(b)`: no edit script matching equal-hash elements removes or adds fewer elements -/
theorem diffM_removes_adds_minimal {o : Opts} (ho : dispatchTag o = .list) (hm : isMerge o = false)
    {t t' : Tag} (xs ys : List Json)
    (ht : (t == .raw || t == .list) = true) (ht' : (t' == .raw || t' == .list) = true)
    (htt : t = .raw ∨ t' = .list)
    (scalars : ∀ x ∈ xs, isScalar x = true)
    (c' : List UInt64) (h1 : c'.Sublist (hashList o xs)) (h2 : c'.Sublist (hashList o ys)) :
    let d := diffM o (.arr t xs) (.arr t' ys)
    (d.map (·.remove.length)).sum ≤ xs.length - c'.length ∧
    (d.map (·.add.length)).sum ≤ ys.length - c'.length := by
  intro d
  have e : d = diffNode o false (.arr t xs) (.arr t' ys) [] := by
    show diffM o _ _ = _
    rw [diffM, hm]
  rw [e]
  exact diffNode_removes_minimal ho xs ys ht ht' htt [] scalars c' h1 h2

/-! ## 4. the context-count clause -/

/-- shape of a list hunk: strict, at an index below `p`, one line of context on each side, and
    something to do -/
def ListHunk (p : Path) (h : Hunk) : Prop :=
  h.before.length = 1 ∧ h.after.length = 1 ∧ (∃ i : Nat, h.path = p ++ [.idx i]) ∧
    h.merge = false ∧ (h.remove ≠ [] ∨ h.add ≠ [])

theorem diffRest_shape (o : Opts) (p : Path) (xs ys : List Json)
    (scalars : ∀ x ∈ xs, isScalar x = true) :
    ∀ h ∈ diffRest o p 0 0 .void xs ys (lcsValues (hashList o xs) (hashList o ys)) [] [],
      ListHunk p h := by
  intro h hm
  rw [diffRest_alignment] at hm
  rcases mem_render _ _ _ _ hm with ⟨S1, R, A, S2, e, rfl⟩ | ⟨S1, x, y, S2, n, e, _⟩
  · exact ⟨rfl, rfl, ⟨_, rfl⟩, rfl, (alignment_ok o xs ys (.edit R A) (by rw [e]; simp)).1⟩
  · exact absurd (by rw [e]; simp) (no_sub_of_scalars o ys scalars x y)

/-- every hunk of the list diff of two arrays of scalars has exactly one before-context line, one
    after-context line, and a path ending in an index -/
theorem diff_hunk_shape (o : Opts) (p : Path) (xs ys : List Json)
    (scalars : ∀ x ∈ xs, isScalar x = true) :
    ∀ h ∈ diffRest o p 0 0 .void xs ys (lcsValues (hashList o xs) (hashList o ys)) [] [],
      h.before.length = 1 ∧ h.after.length = 1 ∧ (∃ i : Nat, h.path = p ++ [.idx i]) ∧
        h.merge = false ∧ (h.remove ≠ [] ∨ h.add ≠ []) :=
  diffRest_shape o p xs ys scalars

theorem diffNode_hunk_shape {o : Opts} (ho : dispatchTag o = .list) {t t' : Tag}
    (xs ys : List Json)
    (ht : (t == .raw || t == .list) = true) (ht' : (t' == .raw || t' == .list) = true)
    (htt : t = .raw ∨ t' = .list) (p : Path)
    (scalars : ∀ x ∈ xs, isScalar x = true) :
    ∀ h ∈ diffNode o false (.arr t xs) (.arr t' ys) p,
      h.before.length = 1 ∧ h.after.length = 1 ∧ (∃ i : Nat, h.path = p ++ [.idx i]) ∧
        h.merge = false ∧ (h.remove ≠ [] ∨ h.add ≠ []) := by
  rw [diffNode_arr_arr ho xs ys ht ht' htt p]
  exact diff_hunk_shape o p xs ys scalars

theorem diffM_hunk_shape {o : Opts} (ho : dispatchTag o = .list) (hm : isMerge o = false)
    {t t' : Tag} (xs ys : List Json)
    (ht : (t == .raw || t == .list) = true) (ht' : (t' == .raw || t' == .list) = true)
    (htt : t = .raw ∨ t' = .list)
    (scalars : ∀ x ∈ xs, isScalar x = true) :
    ∀ h ∈ diffM o (.arr t xs) (.arr t' ys),
      h.before.length = 1 ∧ h.after.length = 1 ∧ (∃ i : Nat, h.path = [.idx i]) ∧
        h.merge = false ∧ (h.remove ≠ [] ∨ h.add ≠ []) := by
  rw [diffM, hm]
  simpa using diffNode_hunk_shape ho xs ys ht ht' htt [] scalars

end Jd.Min

#print axioms Jd.Min.removes_adds_count
#print axioms Jd.Min.removes_adds_count_lcsLength
#print axioms Jd.Min.removes_adds_count_spec
#print axioms Jd.Min.removes_minimal
#print axioms Jd.Min.adds_minimal
#print axioms Jd.Min.removes_adds_minimal_spec
#print axioms Jd.Min.diffNode_removes_adds_count
#print axioms Jd.Min.diffNode_removes_minimal
#print axioms Jd.Min.diffM_removes_adds_count
#print axioms Jd.Min.diffM_removes_adds_count_spec
#print axioms Jd.Min.diffM_removes_adds_minimal
#print axioms Jd.Min.diffRest_shape
#print axioms Jd.Min.diff_hunk_shape
#print axioms Jd.Min.diffNode_hunk_shape
#print axioms Jd.Min.diffM_hunk_shape
