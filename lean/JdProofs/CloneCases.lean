/-
  The case analysis of the library's deep copy (`cloneNode` / `cloneNodes`, v2/patch_common.go and
  lib/patch_common.go) against the heap model of `JdModel/NodeHeap.lean` — with the source side REGENERATED
  on every run (tools/clonefacts → JdModel/Gen/CloneCases.lean); the hand transcription
  `sourceCloneCases_asRead`, `sourceNodeRepr_asRead` of JdProofs/NodeHeapProofs.lean is checked against it.

  What the generated file carries, per library (v2, lib):
    * `Gen.cloneNodeCases_*`   the clauses of `cloneNode`'s type switch in source order: type names and the
                               SHAPE of the body — `copyMap`, `copySlice T`, `asIs`, or `other "<text>"` for
                               any body the extractor does not recognise exactly;
    * `Gen.cloneNodesShape_*`  `standard` or `other "<text>"`;
    * `Gen.nodeKinds_*`        every type that has all methods of `JsonNode`, with the kind of its underlying
                               type (map / slice / other);
    * `Gen.jsonNullSites_*`, `Gen.jsonNullReceiverUses_*`
                               every occurrence of the type name `jsonNull` and every use of the receiver in
                               its methods, classified.

  Here: the definitions the statements of JdProps/C15Clone are written with — `modelSwitch` (the model's
  case table `modelCloneCases` written as a Go type switch), `caseTaken` (Go's semantics of a type switch
  over concrete types, read as a case of the model), `sameMembers`, `kindAgrees` (a type's case follows the
  kind of its underlying type; `jsonNull` is the one slice type returned shared), `nullDiscipline` (every
  place the source makes a `jsonNull` is `jsonNull{}` or `jsonNull(nil)` and nothing re-slices or appends to
  one, so `cap0_no_write_through` applies), `reprOfKind`. The statements are closed terms and are checked
  there by kernel evaluation.
-/
import JdModel.NodeHeap
import JdModel.Gen.CloneCases
import JdProofs.NodeHeapProofs

namespace Jd.CloneCases
open Jd Jd.NodeHeap

/-! ### the model's case table as a Go type switch -/

/-- the clause body that a case of the model stands for, at Go type `ty` -/
def bodyOf (ty : String) : CloneCase → Gen.CloneBody
  | .copyMap => .copyMap
  | .copySlice => .copySlice ty
  | .asIs => .asIs

/-- the model's case table written the way the source writes it: one single-type clause for every Go type
    that is not returned as it is (in the order of `representatives`), then `default: return n` -/
def modelSwitch : List (List String × Gen.CloneBody) :=
  (modelCloneCases.filter (fun p => p.2 != .asIs)).map (fun p => ([p.1], bodyOf p.1 p.2))
    ++ [(["default"], .asIs)]

/-! ### which clause a dynamic type takes -/

/-- Go's semantics of a type switch over concrete types: the first clause that lists the type, else the
    `default` clause wherever it stands (`none`: the switch has neither) -/
def clauseTaken (tbl : List (List String × Gen.CloneBody)) (ty : String) : Option Gen.CloneBody :=
  match tbl.find? (fun c => c.1.contains ty) with
  | some c => some c.2
  | none => (tbl.find? (fun c => c.1 == ["default"])).map (·.2)

/-- the model case a clause body amounts to for a value of type `ty` (`none`: no case of the model — an
    unrecognised body, or a conversion to ANOTHER type) -/
def caseOfBody (ty : String) : Gen.CloneBody → Option CloneCase
  | .copyMap => some .copyMap
  | .copySlice t => if t == ty then some .copySlice else none
  | .asIs => some .asIs
  | .other _ => none

def caseTaken (tbl : List (List String × Gen.CloneBody)) (ty : String) : Option CloneCase :=
  (clauseTaken tbl ty).bind (caseOfBody ty)

/-! ### the node types of the package -/

def sameMembers (a b : List String) : Bool :=
  a.length == b.length && a.all b.contains && b.all a.contains

/-- a type's case follows the kind of its underlying type: map → copied as a map, slice → copied as a
    slice of the same type, other → returned as it is; `jsonNull` is the one slice type returned as it is -/
def kindAgrees (tbl : List (List String × Gen.CloneBody)) (p : String × Gen.GoKind) : Bool :=
  if p.1 == "jsonNull" then p.2 == .slice && caseTaken tbl p.1 == some .asIs
  else match p.2 with
    | .map => caseTaken tbl p.1 == some .copyMap
    | .slice => caseTaken tbl p.1 == some .copySlice
    | .other => caseTaken tbl p.1 == some .asIs

/-! ### jsonNull: a slice type returned shared, but always of capacity 0 -/

/-- the ways the type name `jsonNull` may occur: its declaration, as a method receiver, as the type of a
    type-switch clause or of a type assertion, and in the two value forms `jsonNull{}` / `jsonNull(nil)`
    (neither directly appended to, sliced or indexed). NOT allowed, hence absent: a variable, field,
    parameter or result of that type, `make(jsonNull, …)`, a literal with elements, a conversion of
    anything but `nil`. -/
def nullSiteAllowed (c : String) : Bool :=
  ["typeDecl", "receiver", "caseType", "assertType", "emptyLit", "nilConv"].contains c

/-- what a method of `jsonNull` may do with its receiver: call a method on it, hand it to a function of
    the package as a `JsonNode`, return it -/
def receiverUseAllowed (c : String) : Bool := ["methodCall", "argument", "returned"].contains c

def nullDiscipline (sites uses : List (String × String)) : Bool :=
  sites.all (fun s => nullSiteAllowed s.2) && uses.all (fun s => receiverUseAllowed s.2) &&
  sites.any (fun s => s.2 == "emptyLit" || s.2 == "nilConv")

/-! ### the hand-transcribed tables of NodeHeapProofs are what the regenerated tables say -/

def reprOfKind : Gen.GoKind → GoRepr
  | .map => .mapType
  | .slice => .sliceType
  | .other => .plain

end Jd.CloneCases
