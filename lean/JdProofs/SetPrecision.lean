/-
  JdProofs.SetPrecision — properties C01, C04, C05 of the v2 library for a `Precision(eps)` option
  together with the SET, MULTISET or SetKeys reading of arrays (strict strategy; MERGE for SET /
  MULTISET). Namespace `Jd.SP`. Statement file: JdProps/C01Precision.lean.

  What the code does. In the set readings arrays are compared through hash codes, and the hash code
  of a number ignores the precision; `diff_common.go` compares scalars WITHOUT the options. So the
  only place where the precision is looked at is `Equals` on numbers OUTSIDE arrays. Hence:
  the diff is the diff computed without the precision (`diffM_strip`, with `stripPrec o` the option
  list without its Precision options); `Equals` and, in the SET reading, `equivB` only get coarser
  with a precision (`equals_mono`, `equivB_mono_set`, under `DPL.PrecMono o`: `|u-v| ≤ 0 → |u-v| ≤ eps`;
  false for the greedy bag matching of MULTISET: `Witness.greedy_bag_not_monotone`). Each C01
  theorem of §4 is the precision-free theorem applied to `stripPrec o` and transported by these.
  C05 (§5): the diff is empty iff the documents are `Equals` WITHOUT the precision. C04 (§5b):
  `Equals o = equivP o`, a hash-free relation that compares numbers outside arrays within eps and
  arrays, with everything below them, exactly — finer than the advertised `equivB`.
  The witnesses of §6 are relative to IEEE facts about concrete numbers (evaluated by `#eval` in
  the statement file) and were replayed on the Go library.
  Not proved: the text layer (render / read back) under these option lists; `eps = +Inf` is covered
  only through the hypothesis `PrecMono`.
-/
import JdModel
import JdSpec
import JdProofs.Common
import JdProofs.EqualsList
import JdProofs.EqualsSet
import JdProofs.DiffEmpty
import JdProofs.DiffPatchList
import JdProofs.SetDiffPatch
import JdProofs.DiffEmptySet
import JdProofs.DiffPatchKeys
import JdProofs.KeysMergeB

namespace Jd.SP
open Jd Jd.Spec Jd.SetDP
open Jd.DPL (PrecMono)

/-! ## 0. the option list without its Precision options -/

/-- the option list with every `Precision` option removed (what `diff_common.go` and the hash codes
    effectively see) -/
def stripPrec : Opts → Opts
  | [] => []
  | .prec _ :: r => stripPrec r
  | .merge :: r => .merge :: stripPrec r
  | .set :: r => .set :: stripPrec r
  | .mset :: r => .mset :: stripPrec r
  | .color :: r => .color :: stripPrec r
  | .setKeys ks :: r => .setKeys ks :: stripPrec r

@[simp] theorem dispatchTag_strip : ∀ o : Opts, dispatchTag (stripPrec o) = dispatchTag o
  | [] => rfl
  | x :: r => by cases x <;> simp [stripPrec, dispatchTag, dispatchTag_strip r]

@[simp] theorem keysOf_strip : ∀ o : Opts, keysOf (stripPrec o) = keysOf o
  | [] => rfl
  | x :: r => by cases x <;> simp [stripPrec, keysOf, keysOf_strip r]

@[simp] theorem isMerge_strip : ∀ o : Opts, isMerge (stripPrec o) = isMerge o
  | [] => rfl
  | x :: r => by cases x <;> simp [stripPrec, isMerge, isMerge_strip r]

@[simp] theorem precOf_strip : ∀ o : Opts, precOf (stripPrec o) = 0
  | [] => rfl
  | x :: r => by cases x <;> simp [stripPrec, precOf, precOf_strip r]

theorem stripPrec_of_noPrec : ∀ o : Opts, (∀ e, Opt.prec e ∉ o) → stripPrec o = o
  | [], _ => rfl
  | x :: r, h => by
    have hr := stripPrec_of_noPrec r (fun e he => h e (List.mem_cons_of_mem _ he))
    cases x <;> simp [stripPrec, hr]
    exact h _ List.mem_cons_self

theorem hashCode_strip (o : Opts) (a : Json) : hashCode (stripPrec o) a = hashCode o a :=
  hashCode_optcongr (dispatchTag_strip o) a

theorem hashList_strip (o : Opts) (xs : List Json) : hashList (stripPrec o) xs = hashList o xs :=
  hashList_optcongr (dispatchTag_strip o) xs

/-! ## 1. `Equals` is monotone in the precision -/

mutual
/-- `Equals` under options WITHOUT a precision implies `Equals` under the same options WITH one
    (`PrecMono o`: a float within `0` of another is within `eps` of it) — every reading, every tag -/
theorem equals_mono {o o' : Opts} (h : dispatchTag o' = dispatchTag o) (hp : precOf o' = 0)
    (M : PrecMono o) : ∀ a b : Json, equals o' a b = true → equals o a b = true
  | .void, b, e => by simpa [equals] using e
  | .null, b, e => by simpa [equals] using e
  | .bool _, b, e => by cases b <;> simp_all [equals]
  | .num x, b, e => by
    cases b with
    | num y => simp only [equals, hp] at e ⊢; exact M x y e
    | _ => simp [equals] at e
  | .str _, b, e => by cases b <;> simp_all [equals]
  | .arr t xs, b, e => by
    have el := equalsList_mono h hp M xs
    rw [equals] at e ⊢
    rw [effTag_optcongr h t, dispatch_optcongr h b] at e
    simp only [hashCode_optcongr h] at e
    split <;> simp_all
  | .obj kvs, b, e => by
    cases b with
    | obj kvs' =>
      simp only [equals, Bool.and_eq_true] at e ⊢
      exact ⟨e.1, equalsKvs_mono h hp M kvs kvs' e.2⟩
    | _ => simp [equals] at e
theorem equalsList_mono {o o' : Opts} (h : dispatchTag o' = dispatchTag o) (hp : precOf o' = 0)
    (M : PrecMono o) : ∀ xs ys : List Json, equalsList o' xs ys = true → equalsList o xs ys = true
  | [], ys, e => by cases ys <;> simp_all [equalsList]
  | x :: r, ys, e => by
    cases ys with
    | nil => simp [equalsList] at e
    | cons y ys =>
      simp only [equalsList, Bool.and_eq_true] at e ⊢
      exact ⟨equals_mono h hp M x y e.1, equalsList_mono h hp M r ys e.2⟩
theorem equalsKvs_mono {o o' : Opts} (h : dispatchTag o' = dispatchTag o) (hp : precOf o' = 0)
    (M : PrecMono o) :
    ∀ r kvs' : List (String × Json), equalsKvs o' r kvs' = true → equalsKvs o r kvs' = true
  | [], _, _ => by simp [equalsKvs]
  | (k, v) :: r, kvs', e => by
    simp only [equalsKvs, Bool.and_eq_true] at e ⊢
    refine ⟨?_, equalsKvs_mono h hp M r kvs' e.2⟩
    cases hl : alookup k kvs' with
    | none => simp [hl] at e
    | some v' =>
      have e1 := e.1
      simp only [hl] at e1 ⊢
      exact equals_mono h hp M v v' e1
end

/-! ## 2. the diff of the set readings does not see the precision -/

theorem diffSetElems_congr {o o' : Opts} (h : dispatchTag o' = dispatchTag o)
    (hk : keysOf o' = keysOf o) (m : Bool) (p : Path) (ys xs : List Json)
    (ih : ∀ x ∈ xs, ∀ b q, diffNode o' m x b q = diffNode o m x b q) :
    diffSetElems o' m p ys xs = diffSetElems o m p ys xs := by
  rw [diffSetElems_eq, diffSetElems_eq, identOf_congr h hk, newPathSetKeys_congr hk]
  refine setParts_congr fun x hx y _ _ => ?_
  -- not `rfl`: the kernel would compare the two `diffNode`s by unfolding them
  cases x <;> cases y <;> simp only [objPair, ih _ hx]

theorem diffKvs_congr {o o' : Opts} (m : Bool) (p : Path) (kvs' kvs : List (String × Json))
    (ih : ∀ k v, (k, v) ∈ kvs → ∀ b q, diffNode o' m v b q = diffNode o m v b q) :
    diffKvs o' m p kvs' kvs = diffKvs o m p kvs' kvs := by
  rw [DE.diffKvs_eq_flatMap, DE.diffKvs_eq_flatMap]
  exact flatMap_congr_left fun kv hkv => by simp only [DE.keyDiff, ih kv.1 kv.2 hkv]

/-- **The diff of the SET / MULTISET / SetKeys readings ignores the Precision option**, strict and
    MERGE strategy, for a first document as read from text (`rawDoc`: every array a plain
    `jsonArray`): arrays are compared through hash codes, which do not depend on the precision, and
    scalars by `diff_common.go`, which calls `Equals` without the options. -/
theorem diffNode_congr {o o' : Opts} (h : dispatchTag o' = dispatchTag o)
    (hk : keysOf o' = keysOf o) (hm : dispatchTag o = .set ∨ dispatchTag o = .mset) (m : Bool) :
    ∀ a : Json, a.rawDoc = true → ∀ b p, diffNode o' m a b p = diffNode o m a b p := by
  intro a
  induction a using jsonIndScalar with
  | scalar a h1 h2 =>
    intro _ b p
    rw [DE.diffNode_scalar o' m a b h1 h2, DE.diffNode_scalar o m a b h1 h2]
  | arr t xs ih =>
    intro hr b p
    simp only [Json.rawDoc, Bool.and_eq_true, beq_iff_eq] at hr
    obtain ⟨rfl, hrx⟩ := hr
    have ihx : ∀ x ∈ xs, ∀ b q, diffNode o' m x b q = diffNode o m x b q :=
      fun x hx => ih x hx (DES.rawDocList_mem hrx hx)
    have hbd := dispatch_optcongr h b
    by_cases hb : ∃ ys, b.dispatch o = .arr (dispatchTag o) ys
    · obtain ⟨ys, hb⟩ := hb
      rcases hm with hd | hd <;> rw [hd] at hb
      · rw [DES.diffNode_set (h.trans hd) m xs b ys (hbd.trans hb) p, DES.diffNode_set hd m xs b ys hb p]
        simp only [DES.setBody, setAdd, DES.equals_set_set, hashList_optcongr h, identOf_congr h hk,
          diffSetElems_congr h hk m p _ xs ihx, identLookup_congr h hk]
        rfl
      · rw [DES.diffNode_mset (h.trans hd) m xs b ys (hbd.trans hb) p, DES.diffNode_mset hd m xs b ys hb p]
        simp only [DES.msetBody, bagSurplus, DES.equals_mset_mset, hashList_optcongr h, hashLookup_congr h]
        rfl
    · rw [DE.diffNode_arr_other_m h hm m xs b (fun ys e => hb ⟨ys, hbd.symm.trans e⟩) p,
        DE.diffNode_arr_other_m rfl hm m xs b (fun ys e => hb ⟨ys, e⟩) p, hbd]
  | obj kvs ih =>
    intro hr b p
    simp only [Json.rawDoc] at hr
    cases b with
    | obj kvs' =>
      rw [DE.diffNode_obj_obj, DE.diffNode_obj_obj,
        diffKvs_congr m p kvs' kvs (fun k v hm => ih k v hm (DES.rawDocKvs_mem hr hm))]
    | _ => rw [diffNode.eq_def, diffNode.eq_def o]

theorem rawDoc_of_setDoc {a : Json} (h : a.setDoc = true) : a.rawDoc = true := by
  simp only [Json.setDoc, Bool.and_eq_true] at h; exact h.1.1.1

theorem diffM_strip (o : Opts) (hm : dispatchTag o = .set ∨ dispatchTag o = .mset) (a b : Json)
    (ha : a.rawDoc = true) : diffM o a b = diffM (stripPrec o) a b := by
  unfold diffM
  rw [isMerge_strip, diffNode_congr (dispatchTag_strip o) (keysOf_strip o) hm (isMerge o) a ha b []]

/-! ## 3. the advertised equivalence is monotone in the precision in the SET reading -/

/-- SET / SetKeys reading: equivalent without a precision ⇒ equivalent with it ("some member is
    equivalent" is monotone). FALSE for the MULTISET reading of the spec `equivB`, whose bag
    comparison is a greedy matching: `Witness.greedy_bag_not_monotone`. -/
theorem equivB_mono_set {o o' : Opts} (h : dispatchTag o' = dispatchTag o)
    (hd : dispatchTag o = .set) (hp : precOf o' = 0) (M : PrecMono o) :
    ∀ a b : Json, equivB o' a b = true → equivB o a b = true := by
  have hd' : dispatchTag o' = .set := by rw [h, hd]
  intro a
  induction a using jsonIndScalar with
  | scalar a h1 h2 =>
    -- on a scalar the advertised equivalence is `Equals`
    intro b e
    rw [← equals_eq_equivB_scalar o' a b h1 h2] at e
    rw [← equals_eq_equivB_scalar o a b h1 h2]
    exact equals_mono h hp M a b e
  | arr t xs ih =>
    intro b e
    cases b with
    | arr t' ys =>
      simp only [equivB, hd, hd', Bool.and_eq_true, allIn_iff, allCovered_iff] at e ⊢
      refine ⟨fun x hx => ?_, fun y hy => ?_⟩
      · obtain ⟨y, hy, e1⟩ := e.1 x hx
        exact ⟨y, hy, ih x hx y e1⟩
      · obtain ⟨x, hx, e1⟩ := e.2 y hy
        exact ⟨x, hx, ih x hx y e1⟩
    | _ => exact nomatch equivB_kind o' _ _ e
  | obj kvs ih =>
    intro b e
    cases b with
    | obj kvs' =>
      simp only [equivB, Bool.and_eq_true, equivKvs_eq_lookAll, lookAll_iff] at e ⊢
      exact ⟨e.1, fun k v hm => (e.2 k v hm).imp fun v' h => ⟨h.1, ih k v hm v' h.2⟩⟩
    | _ => exact nomatch equivB_kind o' _ _ e

theorem equals_of_strip {o : Opts} (M : PrecMono o) {a b : Json}
    (h : equals (stripPrec o) a b = true) : equals o a b = true :=
  equals_mono (dispatchTag_strip o) (precOf_strip o) M a b h

theorem equivB_of_strip {o : Opts} (hd : dispatchTag o = .set) (M : PrecMono o) {a b : Json}
    (h : equivB (stripPrec o) a b = true) : equivB o a b = true :=
  equivB_mono_set (dispatchTag_strip o) hd (precOf_strip o) M a b h

/-! ## 4. C01: diff-then-patch under SET / MULTISET / SetKeys with a Precision -/

/-- **C01, SET and MULTISET readings with a Precision option (strict strategy).** The diff is the
    diff computed without the precision (`diffM_strip`), it applies to `a` with the library's own
    patch code, and the result `Equals` `b` under the full options `o` — and, stronger, under the
    options without the precision, for `Equals` and for the advertised equivalence. -/
theorem diff_then_patch_setmodes_precision (F : FloatEq0) (L : FloatLaws) (sw : Bool) (o : Opts)
    (hm : dispatchTag o = .set ∨ dispatchTag o = .mset) (hk : keysOf o = none)
    (hmg : isMerge o = false) (M : PrecMono o) (a b : Json)
    (ha : a.setDoc = true) (hb : b.setDoc = true)
    (ha' : DPL.memOK a = true) (hb' : DPL.memOK b = true)
    (HF : HashFaithful (stripPrec o) (subterms a ++ subterms b)) :
    ∃ r, patchAll sw a (diffM o a b) = .ok r ∧ equals o r b = true ∧
      equals (stripPrec o) r b = true ∧ equivB (stripPrec o) r b = true := by
  obtain ⟨r, h1, h2, h3⟩ := diff_then_patch_setmodes F L sw (stripPrec o)
    (by simpa using hm) (by simpa using hk) (by simpa using hmg) (precOf_strip o) a b ha hb ha' hb' HF
  refine ⟨r, ?_, equals_of_strip M h3, h3, h2⟩
  rw [diffM_strip o hm a b (rawDoc_of_setDoc ha)]
  exact h1

/-- **C01, SET reading with a Precision**: in addition the result is equivalent to `b` for the
    advertised equivalence under the full options (sets recursively, numbers within `eps`). -/
theorem diff_then_patch_set_precision (F : FloatEq0) (L : FloatLaws) (sw : Bool) (o : Opts)
    (hd : dispatchTag o = .set) (hk : keysOf o = none)
    (hmg : isMerge o = false) (M : PrecMono o) (a b : Json)
    (ha : a.setDoc = true) (hb : b.setDoc = true)
    (ha' : DPL.memOK a = true) (hb' : DPL.memOK b = true)
    (HF : HashFaithful (stripPrec o) (subterms a ++ subterms b)) :
    ∃ r, patchAll sw a (diffM o a b) = .ok r ∧ equals o r b = true ∧ equivB o r b = true := by
  obtain ⟨r, h1, h2, _, h4⟩ := diff_then_patch_setmodes_precision F L sw o (.inl hd) hk hmg M a b
    ha hb ha' hb' HF
  exact ⟨r, h1, h2, equivB_of_strip hd M h4⟩

/-- **C01, SetKeys reading with a Precision (strict strategy)**, under `DPK.KeysHyp` read without
    the precision. -/
theorem diff_then_patch_setkeys_precision (F : FloatEq0) (L : FloatLaws) (sw : Bool) (o : Opts)
    (ks : List String) (hd : dispatchTag o = .set) (hk : keysOf o = some ks)
    (hmg : isMerge o = false) (M : PrecMono o) (a b : Json)
    (ha : a.setDoc = true) (hb : b.setDoc = true)
    (ha' : DPL.memOK a = true) (hb' : DPL.memOK b = true)
    (K : DPK.KeysHyp (stripPrec o) ks a b) :
    ∃ r, patchAll sw a (diffM o a b) = .ok r ∧ equals o r b = true ∧ equivB o r b = true ∧
      equals (stripPrec o) r b = true ∧ equivB (stripPrec o) r b = true ∧
      hashCode o r = hashCode o b := by
  obtain ⟨r, h1, h2, h3, h4⟩ := DPK.diff_then_patch_setkeys F L sw (stripPrec o) ks
    (by simpa using hd) (by simpa using hk) (by simpa using hmg) (precOf_strip o) a b ha hb ha' hb' K
  refine ⟨r, ?_, equals_of_strip M h2, equivB_of_strip hd M h3, h2, h3, ?_⟩
  · rw [diffM_strip o (.inl hd) a b (rawDoc_of_setDoc ha)]
    exact h1
  · rw [← hashCode_strip, ← hashCode_strip o b]; exact h4

/-- **C01, MERGE strategy with SET / MULTISET and a Precision** (in memory) -/
theorem merge_diff_then_patch_setmodes_precision (F : FloatEq0) (L : FloatLaws) (sw : Bool)
    (o : Opts) (hmg : isMerge o = true) (hm : dispatchTag o = .set ∨ dispatchTag o = .mset)
    (hk : keysOf o = none) (M : PrecMono o) (a b : Json)
    (ha : a.setDoc = true) (hb : b.setDoc = true) (hbn : b.nullFree = true)
    (hbv : Merge.objVoidFree b = true) (HF : HashFaithful (stripPrec o) (subterms a ++ subterms b)) :
    ∃ r, patchAll sw a (diffM o a b) = .ok r ∧ equals o r b = true ∧
      equals (stripPrec o) r b = true ∧ equivB (stripPrec o) r b = true ∧
      (dispatchTag o = .set → equivB o r b = true) := by
  obtain ⟨r, h1, h2, h3⟩ := DPK.merge_diff_then_patch_setmodes F L sw (stripPrec o)
    (by simpa using hmg) (by simpa using hm) (by simpa using hk) (precOf_strip o) a b ha hb hbn hbv HF
  refine ⟨r, ?_, equals_of_strip M h2, h2, h3, fun hd => equivB_of_strip hd M h3⟩
  rw [diffM_strip o hm a b (rawDoc_of_setDoc ha)]
  exact h1

/-- **C01, SetKeys + MERGE + Precision: the property holds exactly on the pairs without a clash**
    (`KM.clash`, read without the precision: two members of one array with the same identity and
    different content on both sides; then `Diff` emits a merge hunk below a keyed path element,
    which `Patch` rejects). -/
theorem merge_diff_then_patch_setkeys_precision_iff (F : FloatEq0) (L : FloatLaws) (sw : Bool)
    (o : Opts) (hmg : isMerge o = true) (hd : dispatchTag o = .set) (M : PrecMono o) (a b : Json)
    (ha : a.setDoc = true) (hb : b.setDoc = true)
    (HF : HashFaithful (stripPrec o) (subterms a ++ subterms b))
    (hbn : b.nullFree = true) (hbv : Merge.objVoidFree b = true) :
    (∃ r, patchAll sw a (diffM o a b) = .ok r ∧ equals o r b = true ∧ equivB o r b = true)
      ↔ KM.clash (stripPrec o) a b = false := by
  have hmg' : isMerge (stripPrec o) = true := by simpa using hmg
  have hd' : dispatchTag (stripPrec o) = .set := by simpa using hd
  rw [diffM_strip o (.inl hd) a b (rawDoc_of_setDoc ha)]
  constructor
  · exact fun ⟨r, h, _⟩ =>
      (KM.patch_ok_iff_noclash F (stripPrec o) hmg' hd' (precOf_strip o) a b ha hb HF sw hbv).1 ⟨r, h⟩
  · intro hc
    obtain ⟨r, h1, h2, h3⟩ := KM.merge_diff_then_patch_setkeys_noclash F (stripPrec o) hmg' hd'
      (precOf_strip o) a b ha hb HF L sw hbn hbv hc
    exact ⟨r, h1, equals_of_strip M h2, equivB_of_strip hd M h3⟩

/-! ## 5. C05: the diff is empty iff the documents are Equal WITHOUT the precision -/

theorem setReading_strip {o : Opts} (hm : DES.SetReading o) : DES.SetReading (stripPrec o) := by
  unfold DES.SetReading at hm ⊢
  simpa using hm

/-- **C05 (⇒), SET / MULTISET with a Precision, strict or MERGE**: an empty diff means `Equals`
    under the options (no hash hypothesis), and even `Equals` without the precision. -/
theorem equals_of_diffM_nil_precision (o : Opts) (hm : DES.SetReading o) (M : PrecMono o)
    (a b : Json) (hr : a.rawDoc = true) (hw : a.wf = true) (hw' : b.wf = true)
    (h : diffM o a b = []) : equals o a b = true ∧ equals (stripPrec o) a b = true := by
  rw [diffM_strip o (DES.SetReading.tag hm) a b hr] at h
  have e := DES.equals_of_diffM_nil (stripPrec o) (setReading_strip hm) (precOf_strip o) a b hr hw hw' h
  exact ⟨equals_of_strip M e, e⟩

/-- **C05, what is true in the SET / MULTISET readings with a Precision**: the diff is empty iff
    the documents are `Equals` under the options WITHOUT the precision. -/
theorem diffM_nil_iff_equals_strip (o : Opts) (hm : DES.SetReading o) (a b : Json)
    (hr : a.rawDoc = true) (hw : a.wf = true) (hw' : b.wf = true)
    (FH : DES.DiffFaithful (stripPrec o) (subterms a) (subterms b)) :
    diffM o a b = [] ↔ equals (stripPrec o) a b = true := by
  rw [diffM_strip o (DES.SetReading.tag hm) a b hr]
  exact DES.diffM_nil_iff_equals (stripPrec o) (setReading_strip hm) (precOf_strip o) a b hr hw hw' FH

/-- **C05 with SetKeys and a Precision**: empty diff iff `Equals` without the precision; and an
    empty diff implies `Equals` under the full options. -/
theorem diffM_nil_iff_equals_strip_keys (F : FloatEq0) (o : Opts) (hd : dispatchTag o = .set)
    (a b : Json) (ha : a.setDoc = true) (hb : b.setDoc = true)
    (IA : DES.IdentInj (stripPrec o) (subterms a)) (IB : DES.IdentInj (stripPrec o) (subterms b))
    (KI : DES.KindSepI (stripPrec o) (subterms a) (subterms b))
    (KH : DES.KindSepH (stripPrec o) (subterms a) (subterms b))
    (FH : DES.DiffFaithful (stripPrec o) (subterms a) (subterms b)) :
    (diffM o a b = [] ↔ equals (stripPrec o) a b = true) ∧
    (PrecMono o → diffM o a b = [] → equals o a b = true) := by
  have key := DES.diffM_nil_iff_equals_keys F (stripPrec o) (by simpa using hd) (precOf_strip o)
    a b ha hb IA IB KI KH FH
  rw [diffM_strip o (.inl hd) a b (rawDoc_of_setDoc ha)]
  exact ⟨key, fun M h => equals_of_strip M (key.1 h)⟩

/-! ## 5b. C04: what `Equals` decides in the set readings with a Precision -/

mutual
/-- what `Equals` actually decides under SET / MULTISET / SetKeys with `Precision(eps)`: numbers
    OUTSIDE arrays are compared within `eps`, objects member by member, and an array — with
    everything below it — is compared as a set / bag for the equivalence WITHOUT the precision
    (numbers inside arrays must be equal). Written without hashes. -/
def equivP (o : Opts) : Json → Json → Bool
  | .obj kvs, .obj kvs' => kvs.length == kvs'.length && equivPKvs o kvs kvs'
  | .obj _, _ => false
  | .arr t xs, b => equivB (stripPrec o) (.arr t xs) b
  | .void, b => equivB o .void b
  | .null, b => equivB o .null b
  | .bool x, b => equivB o (.bool x) b
  | .num x, b => equivB o (.num x) b
  | .str x, b => equivB o (.str x) b
def equivPKvs (o : Opts) : List (String × Json) → List (String × Json) → Bool
  | [], _ => true
  | (k, v) :: r, kvs' =>
    (match alookup k kvs' with
     | some v' => equivP o v v'
     | none => false) && equivPKvs o r kvs'
end

theorem equivP_scalar {o : Opts} {a : Json} (h1 : ∀ t xs, a ≠ .arr t xs)
    (h2 : ∀ kvs, a ≠ .obj kvs) (b : Json) : equivP o a b = equivB o a b := by
  cases a <;> first | exact absurd rfl (h1 _ _) | exact absurd rfl (h2 _) | rw [equivP]

theorem equivPKvs_eq_lookAll (o : Opts) (kvs' : List (String × Json)) :
    ∀ kvs : List (String × Json), equivPKvs o kvs kvs' = lookAll (equivP o) kvs kvs'
  | [] => by simp [equivPKvs, lookAll]
  | (k, v) :: r => by rw [equivPKvs, lookAll, equivPKvs_eq_lookAll o kvs' r]; rfl

/-- `lookAll` only compares a member of the first object with the member of the second under the
    same key -/
theorem lookAll_congr {R R' : Json → Json → Bool} {kvs' : List (String × Json)} :
    ∀ {kvs : List (String × Json)},
      (∀ k v v', (k, v) ∈ kvs → alookup k kvs' = some v' → R v v' = R' v v') →
      lookAll R kvs kvs' = lookAll R' kvs kvs'
  | [], _ => rfl
  | (k, v) :: r, h => by
    rw [lookAll, lookAll, lookAll_congr fun k v v' hm => h k v v' (List.mem_cons_of_mem _ hm)]
    cases hl : alookup k kvs' with
    | none => rfl
    | some v' => simp only [h k v v' List.mem_cons_self hl]

theorem equals_arr_strip {o : Opts} (hm : dispatchTag o = .set ∨ dispatchTag o = .mset)
    (xs : List Json) (b : Json) (hb : ∀ t ys, b = .arr t ys → t = .raw) :
    equals o (.arr .raw xs) b = equals (stripPrec o) (.arr .raw xs) b := by
  cases b with
  | arr t ys =>
    obtain rfl := hb t ys rfl
    rcases hm with hd | hd
    · rw [equals_arr_raw_set hd, equals_arr_raw_set (by simpa using hd)]
      simp only [hashCode_strip]
    · rw [equals_arr_raw_mset hd, equals_arr_raw_mset (by simpa using hd)]
      simp only [hashCode_strip]
  | _ => rcases hm with hd | hd <;> simp [equals, Json.dispatch, effTag, hd]

/-- **C04, SET / MULTISET / SetKeys with a Precision (partial: relative to hash faithfulness of the
    ARRAY nodes for the precision-free equivalence):** `Equals` is exactly `equivP`. -/
theorem equals_eq_equivP_core (F : FloatEq0) (o : Opts)
    (hm : dispatchTag o = .set ∨ dispatchTag o = .mset) :
    ∀ a b, DocOk a → DocOk b →
      (∀ x ∈ subterms a, ∀ y ∈ subterms b, x.isArr = true → y.isArr = true →
        hashCode o x = hashCode o y → equivB (stripPrec o) x y = true) →
      equals o a b = equivP o a b := by
  intro a
  induction a using jsonIndScalar with
  | scalar a h1 h2 =>
    intro b _ _ _
    rw [equals_eq_equivB_scalar o a b h1 h2, equivP_scalar h1 h2]
  | arr t xs _ =>
    intro b ha hb hf
    have ht := ha.raw
    subst ht
    rw [equals_arr_strip hm xs b (fun t ys e => by subst e; exact hb.raw), equivP]
    exact equals_eq_equivB_core F (stripPrec o) (by simpa using hm) (precOf_strip o) _ b ha hb
      (fun x hx y hy h1 h2 e => hf x hx y hy h1 h2 (by rw [← hashCode_strip, e, hashCode_strip]))
  | obj kvs ih =>
    intro b ha hb hf
    cases b with
    | obj kvs' =>
      simp only [equals, equivP, equalsKvs_eq_lookAll, equivPKvs_eq_lookAll]
      rw [lookAll_congr fun k v v' hm hl =>
        ih k v hm v' (ha.val hm) (hb.val (mem_of_alookup hl)) fun x hx y hy =>
          hf x (subterms_val_sub hm hx) y (subterms_val_sub (mem_of_alookup hl) hy)]
    | _ => simp [equals, equivP]

/-- without a precision `equivP` is the advertised equivalence -/
theorem equivP_eq_equivB_noPrec (o : Opts) (hs : stripPrec o = o) :
    ∀ a b, equivP o a b = equivB o a b := by
  intro a
  induction a using jsonIndScalar with
  | scalar a h1 h2 => intro b; exact equivP_scalar h1 h2 b
  | arr t xs _ => intro b; rw [equivP, hs]
  | obj kvs ih =>
    intro b
    cases b with
    | obj kvs' =>
      simp only [equivP, equivB, equivKvs_eq_lookAll, equivPKvs_eq_lookAll]
      rw [lookAll_congr fun k v v' hm _ => ih k v hm v']
    | _ => simp [equivP, equivB]

/-- SET / SetKeys reading: what `Equals` decides is FINER than the advertised equivalence
    (the converse fails: `Witness.equals_exact_inside_arrays`) -/
theorem equivB_of_equivP {o : Opts} (hd : dispatchTag o = .set) (M : PrecMono o) :
    ∀ a b, equivP o a b = true → equivB o a b = true := by
  intro a
  induction a using jsonIndScalar with
  | scalar a h1 h2 => intro b e; rwa [equivP_scalar h1 h2] at e
  | arr t xs _ =>
    intro b e
    rw [equivP] at e
    exact equivB_of_strip hd M e
  | obj kvs ih =>
    intro b e
    cases b with
    | obj kvs' =>
      simp only [equivP, equivB, Bool.and_eq_true, equivKvs_eq_lookAll, equivPKvs_eq_lookAll,
        lookAll_iff] at e ⊢
      exact ⟨e.1, fun k v hm => (e.2 k v hm).imp fun v' h => ⟨h.1, ih k v hm v' h.2⟩⟩
    | _ => simp [equivP] at e

/-! ## 6. witnesses -/

namespace Witness

/-- bit patterns of `1`, `1.00001`, `1.001`, `0.999` -/
abbrev one : UInt64 := 0x3ff0000000000000
abbrev oneE : UInt64 := 0x3ff0000a7c5ac472
abbrev n1001 : UInt64 := 0x3ff004189374bc6a
abbrev n999 : UInt64 := 0x3feff7ced916872b

/-- `[1]` -/
def wa : Json := .arr .raw [.num one]
/-- `[1.00001]` -/
def wb : Json := .arr .raw [.num oneE]

theorem hash_set_prec (eps : UInt64) (x : Json) : hashCode [.set, .prec eps] x = hashCode [.set] x :=
  hashCode_optcongr (o := [.set, .prec eps]) (o' := [.set]) rfl x
theorem hash_mset_prec (eps : UInt64) (x : Json) :
    hashCode [.mset, .prec eps] x = hashCode [.mset] x :=
  hashCode_optcongr (o := [.mset, .prec eps]) (o' := [.mset]) rfl x

/-- **C04 as worded is false for SET / MULTISET with a Precision**: `[1]` and `[1.00001]` are
    equivalent for the advertised equivalence under `Precision(eps)` as soon as
    `|1 - 1.00001| ≤ eps` (IEEE fact `h1`, e.g. `eps = 0.001`), but `Equals` says NO for every
    `eps`: members of arrays are compared through hash codes, which ignore the precision. -/
theorem equals_exact_inside_arrays (eps : UInt64) (h1 : numWithin eps one oneE = true) :
    equals [.set, .prec eps] wa wb = false ∧ equivB [.set, .prec eps] wa wb = true ∧
    equals [.mset, .prec eps] wa wb = false ∧ equivB [.mset, .prec eps] wa wb = true := by
  refine ⟨?_, ?_, ?_, ?_⟩
  · rw [wa, wb, equals_arr_raw_set rfl, hash_set_prec, hash_set_prec]; decide +kernel
  · simp [wa, wb, equivB, dispatchTag, allIn, allCovered, anyEquiv, precOf, h1]
  · rw [wa, wb, equals_arr_raw_mset rfl, hash_mset_prec, hash_mset_prec]; decide +kernel
  · simp [wa, wb, equivB, dispatchTag, bagSub, removeFirst, precOf, h1]

/-- **C05 (⇐) is false in the set readings with a Precision** (KF-C05-precision outside arrays):
    `{"a":x}` vs `{"a":y}` with `|x - y| ≤ eps` but not `|x - y| ≤ 0`: `Equals`, non-empty diff. -/
theorem converse_fails_member (o : Opts) (x y : UInt64) (h1 : numWithin (precOf o) x y = true)
    (h0 : numWithin 0 x y = false) :
    equals o (.obj [("a", .num x)]) (.obj [("a", .num y)]) = true ∧
    diffM o (.obj [("a", .num x)]) (.obj [("a", .num y)]) ≠ [] := by
  constructor
  · simp [equals, equalsKvs, alookup, h1]
  · unfold diffM
    rw [DE.diffNode_obj_obj, diffKvs.eq_def]
    simp only [alookup, if_true]
    rw [DE.diffNode_scalar _ _ _ _ (fun _ _ e => by cases e) (fun _ e => by cases e)]
    cases isMerge o <;> simp [diffCommon, equals, precOf, h0]

/-- the three-element bags `[1, 1.001, 0.999]` and `[0.999, 1, 1.001]` -/
def ga : Json := .arr .raw [.num one, .num n1001, .num n999]
def gb : Json := .arr .raw [.num n999, .num one, .num n1001]

/-- **The spec `equivB` is not a sound reading of "bags, numbers within eps"**: its bag comparison
    is a greedy matching, and "within eps" is not transitive. `gb` is a permutation of `ga`; `Equals`
    says yes (same bag of hash codes); `equivB` says NO when `|1 - 0.999| ≤ eps`, `|1.001 - 1| ≤ eps`
    but not `|0.999 - 1.001| ≤ eps` (e.g. `eps = 0.0015`). So `equivB` is not monotone in the
    precision in the MULTISET reading, and not even permutation invariant. -/
theorem greedy_bag_not_monotone (eps : UInt64) (h1 : numWithin eps one n999 = true)
    (h2 : numWithin eps n1001 one = true) (h3 : numWithin eps n999 n1001 = false) :
    equals [.mset, .prec eps] ga gb = true ∧ equivB [.mset, .prec eps] ga gb = false := by
  constructor
  · rw [ga, gb, equals_arr_raw_mset rfl, hash_mset_prec, hash_mset_prec]; decide +kernel
  · simp [ga, gb, equivB, dispatchTag, bagSub, removeFirst, precOf, h1, h2, h3]

theorem g_faithful : DES.DiffFaithful [.mset] (subterms ga) (subterms gb) :=
  DES.diffFaithful_of_check (by decide +kernel)

/-- consequence for C01 in the MULTISET reading with a Precision: the diff of `ga` and `gb` is
    empty, so diff-then-patch returns `ga`, which `Equals` `gb` but is NOT `equivB`-equivalent to it
    under the full options: the conclusion `equivB o r b` of the SET theorem cannot be had here. -/
theorem mset_equivB_conclusion_fails (eps : UInt64) (h1 : numWithin eps one n999 = true)
    (h2 : numWithin eps n1001 one = true) (h3 : numWithin eps n999 n1001 = false) :
    patchM ga (diffM [.mset, .prec eps] ga gb) = .ok ga ∧
    equals [.mset, .prec eps] ga gb = true ∧ equivB [.mset, .prec eps] ga gb = false := by
  have hd : diffM [.mset, .prec eps] ga gb = [] := by
    rw [diffM_nil_iff_equals_strip [.mset, .prec eps] (.inr rfl) ga gb (by decide) (by decide)
      (by decide) g_faithful]
    show equals [.mset] ga gb = true
    decide +kernel
  refine ⟨by rw [hd]; rfl, greedy_bag_not_monotone eps h1 h2 h3⟩

/-- **`PrecMono o` is what is used, and it is needed**: if a number were within `+0` of another
    but not within the precision of `o` — which IEEE arithmetic excludes for `eps ≥ +0`, but which
    HAPPENS for a negative or NaN `eps` with `x = y` (`Precision(-1)` is accepted by the library) —
    the diff is empty, diff-then-patch returns `x`, and `x` does not `Equals` `y` under `o`.
    Any option list (SET, MULTISET, SetKeys, MERGE or not). -/
theorem precMono_used (sw : Bool) (o : Opts) (x y : UInt64) (h0 : numWithin 0 x y = true)
    (h1 : numWithin (precOf o) x y = false) :
    patchAll sw (.num x) (diffM o (.num x) (.num y)) = .ok (.num x) ∧
      equals o (.num x) (.num y) = false := by
  have hd : diffM o (.num x) (.num y) = [] := by
    unfold diffM
    rw [DE.diffNode_scalar _ _ _ _ (fun _ _ e => by cases e) (fun _ e => by cases e)]
    simp [diffCommon, equals, precOf, h0]
  refine ⟨?_, by simp [equals, h1]⟩
  rw [hd]; simp [patchAll]

end Witness

/-! ## 7. non-vacuity -/

namespace Example
open Witness (one oneE)

abbrev two : UInt64 := 0x4000000000000000
/-- `0.001` -/
abbrev eps : UInt64 := 0x3f50624dd2f1a9fc

/-- `{"n":1,"s":[1,{"k":2}]}` -/
def exA : Json := .obj [("n", .num one), ("s", .arr .raw [.num one, .obj [("k", .num two)]])]
/-- `{"n":1.00001,"s":[{"k":2},1.00001]}`: the number outside the array moved by less than `eps`
    (Equal under the precision, reported by the diff all the same), the array lost `1` and gained
    `1.00001` (different members: hash codes ignore the precision) -/
def exB : Json := .obj [("n", .num oneE), ("s", .arr .raw [.obj [("k", .num two)], .num oneE])]

def oS : Opts := [.set, .prec eps]
def oM : Opts := [.mset, .prec eps]

theorem ex_docs : exA.setDoc = true ∧ exB.setDoc = true ∧ DPL.memOK exA = true ∧
    DPL.memOK exB = true := by decide

theorem ex_strip : stripPrec oS = [.set] ∧ stripPrec oM = [.mset] := ⟨rfl, rfl⟩

/-- no two sub-terms of the example collide (`L`: `|x - x| ≤ 0` for `1`, `1.00001`, `2`) -/
theorem ex_hashFaithful_set (L : FloatLaws) :
    HashFaithful (stripPrec oS) (subterms exA ++ subterms exB) :=
  faithful_of_eqCheck L _ (by decide) (by decide +kernel)

theorem ex_hashFaithful_mset (L : FloatLaws) :
    HashFaithful (stripPrec oM) (subterms exA ++ subterms exB) :=
  faithful_of_eqCheck L _ (by decide) (by decide +kernel)

/-- the SET theorem describes an actual run (only IEEE-754 facts are left as assumptions) -/
theorem ex_set (F : FloatEq0) (L : FloatLaws) (M : PrecMono oS) :
    ∃ r, patchM exA (diffM oS exA exB) = .ok r ∧ equals oS r exB = true ∧
      equivB oS r exB = true :=
  diff_then_patch_set_precision F L true oS rfl rfl rfl M exA exB ex_docs.1 ex_docs.2.1
    ex_docs.2.2.1 ex_docs.2.2.2 (ex_hashFaithful_set L)

theorem ex_mset (F : FloatEq0) (L : FloatLaws) (M : PrecMono oM) :
    ∃ r, patchM exA (diffM oM exA exB) = .ok r ∧ equals oM r exB = true ∧
      equals [.mset] r exB = true ∧ equivB [.mset] r exB = true :=
  diff_then_patch_setmodes_precision F L true oM (.inr rfl) rfl rfl M exA exB ex_docs.1
    ex_docs.2.1 ex_docs.2.2.1 ex_docs.2.2.2 (ex_hashFaithful_mset L)

end Example

end Jd.SP
