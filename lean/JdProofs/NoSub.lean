/-
  JdProofs.NoSub — "no sub-diff reaches the target", the object step once for every patch loop and
  every reading.

  * `RealK.proj k D`: the hunks of `D` addressed below the object key `k`, seen from there.
  * `NR.ObjProj Runs Ok`: the one law of a patch loop the step needs — objects act key by key, and a
    key no hunk is addressed to keeps its binding. `NR.objProj_patchAll`: the library's `patchAll sw`.
  * `NR.SubFam P`: a family of sub-diffs that the hunks below a key inherit (all proper sub-lists:
    `subFam_proper`; one hunk left out: `subFam_dropOne`). `NR.NoSub P Runs E a b D`: no sub-diff of
    `D` in the family takes `a` to something `E`-related to `b`. `NR.NoSub.obj` is the object step;
    it needs nothing about void members, `memOK` or floats.
  * `proj_diff_obj`: below a key, the diff of two objects is the diff of the two members, one
    removal, one addition, or nothing (every option set).
-/
import JdProofs.DiffPatchList
import JdProofs.PatchEqns
import JdProofs.EqualsSet

namespace Jd.RealK
open Jd Jd.Spec

/-- the hunk seen from below the object key `k` (nothing when it is not addressed below `k`) -/
def projKey (k : String) (h : Hunk) : Option Hunk :=
  match h.path with
  | .key k' :: rest => if k' = k then some { h with path := rest } else none
  | _ => none

def proj (k : String) (D : Diff) : Diff := D.filterMap (projKey k)

def KeyHeaded (D : Diff) : Prop := ∀ h ∈ D, h.merge = false ∧ ∃ k rest, h.path = .key k :: rest

theorem proj_cons_same {k : String} {rest : Path} {h : Hunk} (hp : h.path = .key k :: rest)
    (D : Diff) : proj k (h :: D) = { h with path := rest } :: proj k D := by
  simp [proj, projKey, hp]

theorem proj_cons_ne {k k0 : String} {rest : Path} {h : Hunk} (hp : h.path = .key k0 :: rest)
    (hne : k0 ≠ k) (D : Diff) : proj k (h :: D) = proj k D := by
  simp [proj, projKey, hp, hne]

theorem exists_proj_lt {D' D : Diff} (hs : D'.Sublist D) :
    D' ≠ D → (∀ h ∈ D, ∃ k rest, h.path = .key k :: rest) →
    ∃ k, (proj k D').length < (proj k D).length := by
  induction hs with
  | slnil => intro h; exact absurd rfl h
  | @cons l₁ l₂ a hs _ =>
    intro _ hk
    obtain ⟨k, rest, hp⟩ := hk a List.mem_cons_self
    refine ⟨k, ?_⟩
    rw [proj_cons_same hp]
    have := (hs.filterMap (projKey k)).length_le
    simp only [List.length_cons, proj]
    omega
  | @cons_cons l₁ l₂ a hs ih =>
    intro hne hk
    obtain ⟨k, hlt⟩ := ih (fun e => hne (by rw [e]))
      (fun h hh => hk h (List.mem_cons_of_mem _ hh))
    refine ⟨k, ?_⟩
    simp only [proj, List.filterMap_cons] at hlt ⊢
    cases projKey k a <;> simp only [List.length_cons] <;> omega

theorem proj_sublist {D' D : Diff} (hs : D'.Sublist D) (k : String) :
    (proj k D').Sublist (proj k D) := hs.filterMap _

theorem proj_map_shift_same (k : String) (D : Diff) :
    proj k (D.map (DPL.shiftHunk [.key k])) = D := by
  induction D with
  | nil => rfl
  | cons h D ih =>
    rw [List.map_cons, proj_cons_same (rest := h.path) (by simp [DPL.shiftHunk]), ih]
    congr 1

theorem proj_map_shift_ne {k k0 : String} (hne : k0 ≠ k) (D : Diff) :
    proj k (D.map (DPL.shiftHunk [.key k0])) = [] := by
  induction D with
  | nil => rfl
  | cons h D ih =>
    rw [List.map_cons, proj_cons_ne (rest := h.path) (by simp [DPL.shiftHunk]) hne, ih]

theorem proj_append (k : String) (D1 D2 : Diff) : proj k (D1 ++ D2) = proj k D1 ++ proj k D2 := by
  simp [proj, List.filterMap_append]

theorem map_shiftHunk_nil (D : Diff) : D.map (DPL.shiftHunk []) = D := by
  have : DPL.shiftHunk [] = id := funext fun h => by simp [DPL.shiftHunk]
  rw [this, List.map_id]

theorem sublist_singleton_proper {α} {l : List α} {a : α} (hs : l.Sublist [a]) (hne : l ≠ [a]) :
    l = [] := by
  cases l with
  | nil => rfl
  | cons b r =>
    exact absurd (hs.eq_of_length_le (by simp)) hne


/-- **objects act key by key**: a sequence of strict hunks addressed below object keys, applied to an
    object, applies below every key `k` the hunks addressed below `k`; a key no hunk is addressed to
    keeps its binding -/
theorem patchAll_obj_proj (sw : Bool) : ∀ (D : Diff) (kvs : List (String × Json)) (r : Json),
    KeyHeaded D → keysSorted kvs = true → patchAll sw (.obj kvs) D = .ok r →
    ∃ kvr, r = .obj kvr ∧ keysSorted kvr = true ∧
      (∀ k, patchAll sw ((alookup k kvs).getD .void) (proj k D) = .ok ((alookup k kvr).getD .void)) ∧
      ∀ k, proj k D = [] → alookup k kvr = alookup k kvs
  | [], kvs, r, _, hs, h => by
    simp only [patchAll, Outcome.ok.injEq] at h
    subst h
    exact ⟨kvs, rfl, hs, fun k => rfl, fun _ _ => rfl⟩
  | h :: D, kvs, r, hD, hs, hr => by
    obtain ⟨hmg, k0, rest, hpath⟩ := hD h List.mem_cons_self
    simp only [patchAll, hmg, hpath] at hr
    rw [patchNode_key_obj] at hr
    cases hv : patchNode sw false ((alookup k0 kvs).getD .void) rest h.before h.remove h.add
        h.after with
    | err => rw [hv] at hr; cases hr
    | panic => rw [hv] at hr; cases hr
    | ok v =>
      rw [hv] at hr
      simp only [Outcome.bind_ok] at hr
      have hs1 := Merge.keysSorted_putKvs k0 v hs
      obtain ⟨kvr, e1, e2, e3, e4⟩ := patchAll_obj_proj sw D (Merge.putKvs k0 v kvs) r
        (fun h' hh' => hD h' (List.mem_cons_of_mem _ hh')) hs1 hr
      refine ⟨kvr, e1, e2, fun k => ?_, fun k hk0 => ?_⟩
      · by_cases hk : k0 = k
        · subst hk
          rw [proj_cons_same hpath]
          simp only [patchAll, hmg, hv]
          have := e3 k0
          rw [show (alookup k0 (Merge.putKvs k0 v kvs)).getD .void = v from
            Merge.getK_putKvs_self k0 v hs] at this
          exact this
        · rw [proj_cons_ne hpath hk]
          have := e3 k
          rw [Merge.alookup_putKvs_ne _ _ (fun e => hk e.symm)] at this
          exact this
      · have hk : k0 ≠ k := fun e => by rw [← e, proj_cons_same hpath] at hk0; cases hk0
        rw [proj_cons_ne hpath hk] at hk0
        rw [e4 k hk0, Merge.alookup_putKvs_ne _ _ (fun e => hk e.symm)]

/-- the hunks of the diff of two objects sit below keys -/
theorem diff_obj_keyHeaded (o : Opts) (kvs kvs' : List (String × Json)) :
    ∀ h ∈ diffNode o false (.obj kvs) (.obj kvs') [], ∃ k rest, h.path = .key k :: rest := by
  intro h hh
  rw [DE.diffNode_obj_obj, DE.diffKvs_eq_flatMap] at hh
  rcases List.mem_append.1 hh with hh | hh
  · obtain ⟨kv, _, hin⟩ := List.mem_flatMap.1 hh
    have hpre : ([] ++ [PathElem.key kv.1]) <+: h.path := by
      rw [DE.keyDiff] at hin
      cases hl : alookup kv.1 kvs' with
      | some w => rw [hl] at hin; exact Real.diff_paths_extend_general o false kv.2 w _ h hin
      | none =>
        rw [hl] at hin
        simp only [Bool.false_eq_true, if_false, List.mem_singleton] at hin
        rw [hin]
        exact List.prefix_refl _
    obtain ⟨t, e⟩ := hpre
    exact ⟨kv.1, t, by simpa using e.symm⟩
  · obtain ⟨kv, _, rfl⟩ := List.mem_map.1 hh
    exact ⟨kv.1, [], rfl⟩

/-- of hunks grouped below pairwise different keys, those below `k` are the group under `k` -/
theorem proj_groups {β : Type} (k : String) (f : String × β → Diff) :
    ∀ (l : List (String × β)), keysSorted l = true →
      proj k (l.flatMap fun kv => (f kv).map (DPL.shiftHunk [.key kv.1])) =
        match alookup k l with
        | some v => f (k, v)
        | none => []
  | [], _ => rfl
  | (k0, v) :: r, hs => by
    rw [List.flatMap_cons, proj_append, proj_groups k f r (keysSorted_tail hs)]
    by_cases hk : k = k0
    · subst hk
      rw [proj_map_shift_same, alookup_none_of_lt (keysSorted_head_lt hs)]
      simp [alookup]
    · rw [proj_map_shift_ne (fun e => hk e.symm)]
      simp [alookup, hk]

/-- the hunks of the diff of two objects that are addressed below the key `k` are the diff of the
    two members (every option set) -/
theorem proj_diff_obj {o : Opts} (k : String) {kvs kvs' : List (String × Json)}
    (hs : keysSorted kvs = true) (hs' : keysSorted kvs' = true) :
    proj k (diffNode o false (.obj kvs) (.obj kvs') []) =
      match alookup k kvs, alookup k kvs' with
      | some v, some v' => diffNode o false v v' []
      | some v, none => [{ path := [], remove := v.nodeList }]
      | none, some v' => [{ path := [], add := v'.nodeList }]
      | none, none => [] := by
  -- both loops of the object diff are groups of hunks below the keys of one object
  have e1 : diffKvs o false [] kvs' kvs = kvs.flatMap fun kv =>
      (match alookup kv.1 kvs' with
        | some v' => diffNode o false kv.2 v' []
        | none => [{ path := [], remove := kv.2.nodeList }]).map (DPL.shiftHunk [.key kv.1]) := by
    rw [DE.diffKvs_eq_flatMap]
    refine flatMap_congr_left fun kv hkv => ?_
    rw [DE.keyDiff]
    cases hl : alookup kv.1 kvs' with
    | some v' => exact DPL.diffNode_shift o false kv.2 v' _
    | none => simp [DPL.shiftHunk]
  have e2 : ∀ l : List (String × Json), (l.filter (fun kv => (alookup kv.1 kvs).isNone)).map
        (fun kv => ({ merge := false, path := [] ++ [.key kv.1], add := kv.2.nodeList } : Hunk)) =
      l.flatMap fun kv => (if (alookup kv.1 kvs).isNone then [{ path := [], add := kv.2.nodeList }]
        else []).map (DPL.shiftHunk [.key kv.1]) := by
    intro l
    induction l with
    | nil => rfl
    | cons kv r ih =>
      rw [List.filter_cons, List.flatMap_cons, ← ih]
      split <;> simp [DPL.shiftHunk]
  rw [DE.diffNode_obj_obj, proj_append, e1, e2, proj_groups k _ kvs hs, proj_groups k _ kvs' hs']
  cases h1 : alookup k kvs <;> cases h2 : alookup k kvs' <;> simp [h1, h2]

end Jd.RealK

namespace Jd.NR
open Jd Jd.Spec Jd.RealK

/-- a family of sub-diffs that is inherited by the hunks below some key -/
structure SubFam (P : Diff → Diff → Prop) : Prop where
  sub : ∀ {D' D}, P D' D → D'.Sublist D
  lt : ∀ {D' D}, P D' D → D'.length < D.length
  below : ∀ {D' D}, P D' D → (∀ h ∈ D, ∃ k rest, h.path = .key k :: rest) →
    ∃ k, P (proj k D') (proj k D)

/-- all proper sub-lists -/
theorem subFam_proper : SubFam fun D' D => D'.Sublist D ∧ D' ≠ D where
  sub h := h.1
  lt h := Nat.lt_of_le_of_ne h.1.length_le fun e => h.2 (h.1.eq_of_length e)
  below h hk :=
    have ⟨k, hlt⟩ := exists_proj_lt h.1 h.2 hk
    ⟨k, proj_sublist h.1 k, fun e => by rw [e] at hlt; exact Nat.lt_irrefl _ hlt⟩

/-- one hunk left out -/
theorem subFam_dropOne : SubFam fun D' D => ∃ d1 h d2, D = d1 ++ h :: d2 ∧ D' = d1 ++ d2 where
  sub := fun ⟨d1, h, d2, e, e'⟩ => e ▸ e' ▸ (List.Sublist.refl d1).append (List.sublist_cons_self h d2)
  lt := fun ⟨d1, h, d2, e, e'⟩ => by simp [e, e']
  below := fun ⟨d1, h, d2, e, e'⟩ hk => by
    obtain ⟨k, rest, hp⟩ := hk h (by simp [e])
    exact ⟨k, proj k d1, { h with path := rest }, proj k d2,
      by rw [e, proj_append, proj_cons_same hp], by rw [e', proj_append]⟩

/-- **objects act key by key**, the one law of a patch loop the object step needs -/
def ObjProj (Runs : Json → Diff → Json → Prop) (Ok : Hunk → Prop) : Prop :=
  ∀ (D : Diff) (kvs : List (String × Json)) (r : Json),
    (∀ h ∈ D, Ok h ∧ ∃ k rest, h.path = .key k :: rest) → keysSorted kvs = true →
    Runs (.obj kvs) D r →
    ∃ kvr, r = .obj kvr ∧ keysSorted kvr = true ∧
      (∀ k, Runs ((alookup k kvs).getD .void) (proj k D) ((alookup k kvr).getD .void)) ∧
      ∀ k, proj k D = [] → alookup k kvr = alookup k kvs

theorem objProj_patchAll (sw : Bool) :
    ObjProj (fun a D r => patchAll sw a D = .ok r) (fun h => h.merge = false) :=
  fun D kvs r hD hs hr => patchAll_obj_proj sw D kvs r hD hs hr

/-- no sub-diff of `D` in the family `P` takes `a` to something `E`-equivalent to `b` -/
def NoSub (P : Diff → Diff → Prop) (Runs : Json → Diff → Json → Prop) (E : Json → Json → Prop)
    (a b : Json) (D : Diff) : Prop :=
  ∀ D', P D' D → ∀ r, Runs a D' r → ¬ E r b

theorem NoSub.obj {P : Diff → Diff → Prop} (F : SubFam P) {Runs : Json → Diff → Json → Prop}
    {Ok : Hunk → Prop} (R : ObjProj Runs Ok) {E : Json → Json → Prop}
    {kvs kvs' : List (String × Json)} {D : Diff} (hsa : keysSorted kvs = true)
    (hD : ∀ h ∈ D, Ok h ∧ ∃ k rest, h.path = .key k :: rest)
    (hE : ∀ kvr, keysSorted kvr = true → E (.obj kvr) (.obj kvs') →
      ∀ k, DPK.OptRel E (alookup k kvr) (alookup k kvs'))
    (below : ∀ k, match alookup k kvs, alookup k kvs' with
      | some v, some v' => NoSub P Runs E v v' (proj k D)
      | none, none => proj k D = []
      | _, _ => (proj k D).length ≤ 1) :
    NoSub P Runs E (.obj kvs) (.obj kvs') D := by
  intro D' hP r hr he
  obtain ⟨kvr, rfl, hsr, hproj, hkeep⟩ := R D' kvs r (fun h hh => hD h ((F.sub hP).subset hh)) hsa hr
  obtain ⟨k, hPk⟩ := F.below hP fun h hh => (hD h hh).2
  have hlt := F.lt hPk
  have hrel := hE kvr hsr he k
  have hb := below k
  have hp := hproj k
  have one : (proj k D).length ≤ 1 → alookup k kvr = alookup k kvs := fun h1 =>
    hkeep k (List.eq_nil_of_length_eq_zero (by omega))
  revert hrel hb hp one
  cases alookup k kvs <;> cases alookup k kvs' <;> simp only [Option.getD]
  · exact fun _ e => by rw [e] at hlt; cases hlt
  · exact fun hrel h1 _ one => by rw [one h1] at hrel; exact hrel
  · exact fun hrel h1 _ one => by rw [one h1] at hrel; exact hrel
  · intro hrel N hp _
    have hno := N _ hPk _ hp
    revert hno hrel
    cases alookup k kvr <;> simp only [DPK.OptRel]
    · exact fun h _ => h
    · exact fun h hno => hno h


/-! ### the library's patch loop, all proper sub-lists -/

/-- no sub-list of `D` other than `D` itself takes `a` to something `E`-related to `b` -/
abbrev NoProper (sw : Bool) (E : Json → Json → Prop) (a b : Json) (D : Diff) : Prop :=
  NoSub (fun D' D => D'.Sublist D ∧ D' ≠ D) (fun a D r => patchAll sw a D = .ok r) E a b D

variable {sw : Bool} {E : Json → Json → Prop}

/-- a diff of at most one hunk between values that are not related -/
theorem NoProper.of_le_one {a b : Json} {D : Diff} (hl : D.length ≤ 1) (hne : D ≠ [] → ¬ E a b) :
    NoProper sw E a b D := by
  intro D' ⟨hS, hD⟩ r hr
  match D, hl with
  | [], _ => exact absurd (List.sublist_nil.1 hS) hD
  | [h0], _ =>
    cases sublist_singleton_proper hS hD
    simp only [patchAll, Outcome.ok.injEq] at hr
    exact hr ▸ hne (by simp)

/-- leaving one hunk out is taking a proper sub-list -/
theorem NoProper.drop_one {a b : Json} {D d1 d2 : Diff} {h : Hunk} (N : NoProper sw E a b D)
    (hd : D = d1 ++ h :: d2) {r : Json} (hr : patchAll sw a (d1 ++ d2) = .ok r) : ¬ E r b :=
  N _ ⟨hd ▸ (List.Sublist.refl d1).append (List.sublist_cons_self h d2),
    fun e => by have := congrArg List.length e; simp [hd] at this⟩ r hr

end Jd.NR
