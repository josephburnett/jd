/-
  JdProofs.RealDiff — property C07 in LIST mode (`dispatchTag o = .list`), strict strategy,
  no precision (`precOf o = 0`): every hunk of `a.Diff(b)` describes a real difference.

  0.  where hunks sit (`diff_paths_extend_general`: `p` is a prefix of the path of every hunk of
      `diffNode o m a b p`; `diffNode_paths_strict`, `subAfter_diffNode_of_not_mixed`): in
      JdProofs/DiffPatchList.lean §7b, same namespace.
  1.  below keys: the hunks below a key path are hunks of the sub-diff there (`hunk_below_keys`), so
      equal sub-documents are never mentioned (`equal_subdoc_not_mentioned`).
  2.  the cursor walk of `jsonList.diffRest` as an ALIGNMENT of the two arrays (JdProofs/ListScript.lean,
      namespaces `Jd.RealL`, `Jd.Align`: `Script` with `keep` / `sub` / `edit` steps, its rendering
      `hunks`, the executable `walk`). `diffRest_walk`: the diff of two arrays IS `hunks` of their
      alignment when the recursed pairs are not mixed and have a non-empty sub-diff; kept pairs have
      equal hash codes, `sub` pairs are same-kind containers with different hash codes, `edit` steps
      pair values with different hash codes (`alignment_ok`).
  2a. arrays of scalars are the case without `sub` steps (`scalars_walk`, `scalars_hunk`): removed /
      added values are contiguous runs of the two arrays with the neighbours as context
      (`diffM_located`), sublists in hunk order (`diffM_removed_added_sublist`), position-wise
      different hash codes (`diffM_hashApart`), not `Equals` (`hashApart_not_equals`).
  2b. object members at any depth below keys, and the root (`keyed_hunk_real`, `RealOpt`): such a
      hunk removes what `a` holds there (an array is reported as a `jsonList`: `asList`), adds what
      `b` holds there, and the two are not `Equals`.
  3.  no hunk is redundant (arrays of scalars): `no_redundant_hunk_length_partial` (length argument,
      no hypothesis on hashes); `no_redundant_hunk_scalar_arrays` (any dropped hunk, documents of
      the domain without hash collision) is in JdProofs/RealDiffListStrict.lean.
  4.  `diffM_array_below_keys`: 2a for an array held by a member below keys.

  Boundaries (checked with `#eval` on the model, all OUTSIDE the domain of the theorems):
    * NaN: `diffM [] (num NaN) (num NaN)` is one hunk with `remove = add = [NaN]` (`Equals` is not
      reflexive on NaN; the library rejects non-finite numbers when a node is built).  The
      statements of 2b say "not `Equals`", which also holds there.
    * a typed `jsonList` against a plain `jsonArray` with the same elements gives a non-empty diff
      (`Jd.diff_list_vs_array_nonempty`, JdProofs/DiffEmpty.lean): 2b asks `a.rawDoc`.
  Not covered here: set / multiset modes and the merge strategy; list hunks
  below containers inside a list are in JdProofs/RealDiffList.lean.
-/
import JdProofs.LcsProofs
import JdProofs.EqualsList
import JdProofs.DiffEmpty
import JdProofs.DiffPatchList
import JdProofs.Common
import JdProofs.DiffMinimal
import JdProofs.ListScript

namespace Jd.Real
open Jd Jd.Spec Jd.DPL

/-! ## 1. below keys: the hunks below a key path are the hunks of the sub-diff there; equal
    sub-documents are never mentioned -/

/-- a path made of object keys only -/
def keysOnly : Path → Bool
  | [] => true
  | .key _ :: r => keysOnly r
  | _ => false

/-- navigation by object keys and list indices; `none` when the location does not exist -/
def getAt : Json → Path → Option Json
  | n, [] => some n
  | .obj kvs, .key k :: r => (alookup k kvs).bind (fun v => getAt v r)
  | .arr _ xs, .idx i :: r => if i < 0 then none else (xs[i.toNat]?).bind (fun v => getAt v r)
  | _, _ => none

theorem getAt_nil (n : Json) : getAt n [] = some n := by cases n <;> rfl

theorem getAt_append (n : Json) (q r : Path) :
    getAt n (q ++ r) = (getAt n q).bind (fun m => getAt m r) := by
  fun_induction getAt n q with
  | case1 n => simp
  | case2 kvs k q ih =>
    simp only [List.cons_append, getAt]
    cases alookup k kvs <;> simp [ih]
  | case3 t xs i q hi => simp [getAt, hi]
  | case4 t xs i q hi ih =>
    simp only [List.cons_append, getAt, hi, if_false]
    cases xs[i.toNat]? <;> simp [ih]
  | case5 p n h1 h2 h3 =>
    cases p with
    | nil => exact absurd rfl h1
    | cons e q =>
      exact getAt.eq_4 _ _ (by simp)
        (fun _ _ _ e1 e2 => by cases e2; exact h2 _ _ _ e1 rfl)
        (fun _ _ _ _ e1 e2 => by cases e2; exact h3 _ _ _ _ e1 rfl)

/-- two one-element extensions of `p` that are prefixes of the same path are the same -/
theorem snoc_prefix_unique {p l : Path} {e e' : PathElem} (h1 : (p ++ [e]) <+: l)
    (h2 : (p ++ [e']) <+: l) : e = e' := by
  have h3 := List.prefix_of_prefix_length_le h1 h2 (by simp)
  have h4 := h3.eq_of_length (by simp)
  have h5 := List.append_cancel_left h4
  simpa using h5

theorem prefix_snoc_of_prefix_cons {p q l : Path} {e : PathElem} (h : (p ++ e :: q) <+: l) :
    (p ++ [e]) <+: l :=
  List.IsPrefix.trans ⟨q, by simp⟩ h

/-- an element of an appended list stands in the first or in the second part -/
theorem split_append {α} {X Y d1 d2 : List α} {h : α} (e : X ++ Y = d1 ++ h :: d2) :
    (∃ x1 x2, X = x1 ++ h :: x2 ∧ d1 = x1 ∧ d2 = x2 ++ Y) ∨
    (∃ y1 y2, Y = y1 ++ h :: y2 ∧ d1 = X ++ y1 ∧ d2 = y2) := by
  rcases List.append_eq_append_iff.1 e with ⟨a', h1, h2⟩ | ⟨c', h1, h2⟩
  · exact .inr ⟨a', d2, h2, h1, rfl⟩
  · cases c' with
    | nil =>
      simp only [List.nil_append] at h2
      simp only [List.append_nil] at h1
      exact .inr ⟨[], d2, h2.symm, by simp [h1], rfl⟩
    | cons c0 c'' =>
      simp only [List.cons_append, List.cons.injEq] at h2
      obtain ⟨rfl, rfl⟩ := h2
      exact .inl ⟨d1, c'', h1, rfl, rfl⟩

/-- the first loop of the object diff (every option set): every hunk belongs to one binding of the
    first object -/
theorem mem_diffKvs (o : Opts) (p : Path) (kvs' : List (String × Json))
    {kvs : List (String × Json)} {h : Hunk} (hm : h ∈ diffKvs o false p kvs' kvs) :
    ∃ k v, (k, v) ∈ kvs ∧
      ((∃ v', alookup k kvs' = some v' ∧ h ∈ diffNode o false v v' (p ++ [.key k])) ∨
       (alookup k kvs' = none ∧ h = { path := p ++ [.key k], remove := v.nodeList })) := by
  rw [DE.diffKvs_eq_flatMap, List.mem_flatMap] at hm
  obtain ⟨⟨k, v⟩, hkv, hin⟩ := hm
  refine ⟨k, v, hkv, ?_⟩
  rw [DE.keyDiff] at hin
  cases hl : alookup k kvs' with
  | some v' => rw [hl] at hin; exact .inl ⟨v', rfl, hin⟩
  | none => rw [hl] at hin; exact .inr ⟨rfl, by simpa using hin⟩

/-- the hunks of the diff of two objects at or below the key `k`, which both hold, are hunks of the
    diff of the two members (every option set) -/
theorem below_key {o : Opts} {kvs kvs' : List (String × Json)} (hs : keysSorted kvs = true)
    {k : String} {u u' : Json} (hu : alookup k kvs = some u) (hu' : alookup k kvs' = some u')
    {p : Path} {h : Hunk} (hh : h ∈ diffNode o false (.obj kvs) (.obj kvs') p)
    (hpre : (p ++ [.key k]) <+: h.path) : h ∈ diffNode o false u u' (p ++ [.key k]) := by
  obtain ⟨k0, hpre0, hc⟩ := DE.mem_diffNode_obj hh
  cases PathElem.key.inj (snoc_prefix_unique hpre0 hpre)
  rcases hc with ⟨v, v', hv, hv', hin⟩ | ⟨_, _, hn, _⟩ | ⟨_, _, hn, _⟩
  · rw [alookup_of_mem hs hv] at hu
    rw [hu'] at hv'
    cases hu; cases hv'
    exact hin
  · rw [hu'] at hn; cases hn
  · rw [hu] at hn; cases hn

/-- what holds of an object's members holds of everything reached by a key path -/
theorem getAt_keys_induct {P : Json → Prop}
    (step : ∀ kvs k v, P (.obj kvs) → alookup k kvs = some v → P v) :
    ∀ (q : Path), keysOnly q = true → ∀ (a u : Json), P a → getAt a q = some u → P u
  | [], _, a, u, ha, hu => by
    simp only [getAt, Option.some.injEq] at hu
    subst hu; exact ha
  | .key k :: q', hq, a, u, ha, hu => by
    simp only [keysOnly] at hq
    cases a with
    | obj kvs =>
      simp only [getAt] at hu
      cases hw : alookup k kvs with
      | none => simp [hw] at hu
      | some w =>
        simp only [hw, Option.bind_some] at hu
        exact getAt_keys_induct step q' hq w u (step kvs k w ha hw) hu
    | _ => simp [getAt] at hu
  | .idx _ :: _, hq, _, _, _, _ => by simp [keysOnly] at hq
  | .set :: _, hq, _, _, _, _ => by simp [keysOnly] at hq
  | .mset :: _, hq, _, _, _, _ => by simp [keysOnly] at hq
  | .setKeys _ :: _, hq, _, _, _, _ => by simp [keysOnly] at hq
  | .msetKeys _ :: _, hq, _, _, _, _ => by simp [keysOnly] at hq

theorem getAt_keys_listDoc : ∀ (q : Path), keysOnly q = true → ∀ (a u : Json), a.listDoc = true →
    getAt a q = some u → u.listDoc = true :=
  getAt_keys_induct (P := fun n => n.listDoc = true)
    (fun _ _ _ h hl => alookup_listDoc hl (by simpa [Json.listDoc] using h))

theorem getAt_keys_rawDoc : ∀ (q : Path), keysOnly q = true → ∀ (a u : Json), a.rawDoc = true →
    getAt a q = some u → u.rawDoc = true :=
  getAt_keys_induct (P := fun n => n.rawDoc = true)
    (fun _ _ _ h hl => alookup_rawDoc hl (by simpa [Json.rawDoc] using h))

theorem getAt_keys_dom : ∀ (q : Path), keysOnly q = true → ∀ (a u : Json), Dom a →
    getAt a q = some u → Dom u :=
  getAt_keys_induct (P := Dom) (fun _ _ _ h hl => (dom_obj.1 h).2.lookup hl)

/-- the hunks of a diff whose path starts with the key path `q` are hunks of the diff of what the two
    documents hold at `q` -/
theorem hunk_below_keys {o : Opts} :
    ∀ (q : Path), keysOnly q = true → ∀ (a b : Json),
      a.wf = true → ∀ u u', getAt a q = some u → getAt b q = some u' →
      ∀ p, ∀ h ∈ diffNode o false a b p, (p ++ q) <+: h.path → h ∈ diffNode o false u u' (p ++ q)
  | [], _, a, b, _, u, u', hu, hu', p, h, hm, _ => by
    simp only [getAt, Option.some.injEq] at hu hu'
    subst hu; subst hu'
    simpa using hm
  | .key k :: q', hq, a, b, hwa, u, u', hu, hu', p, h, hm, hpre => by
    simp only [keysOnly] at hq
    cases a with
    | obj kvs =>
      cases b with
      | obj kvs' =>
        simp only [Json.wf, Bool.and_eq_true] at hwa
        simp only [getAt] at hu hu'
        cases hw : alookup k kvs with
        | none => simp [hw] at hu
        | some w =>
          cases hw' : alookup k kvs' with
          | none => simp [hw'] at hu'
          | some w' =>
            simp only [hw, hw', Option.bind_some] at hu hu'
            have hm' := below_key hwa.1 hw hw' hm
              ((List.prefix_append _ _).trans (by simpa using hpre))
            have := hunk_below_keys q' hq w w' (alookup_wf hw hwa.2) u u' hu hu' _ h hm'
              (by simpa using hpre)
            simpa using this
      | _ => simp [getAt] at hu'
    | _ => simp [getAt] at hu
  | .idx _ :: _, hq, _, _, _, _, _, _, _, _, _, _, _ => by simp [keysOnly] at hq
  | .set :: _, hq, _, _, _, _, _, _, _, _, _, _, _ => by simp [keysOnly] at hq
  | .mset :: _, hq, _, _, _, _, _, _, _, _, _, _, _ => by simp [keysOnly] at hq
  | .setKeys _ :: _, hq, _, _, _, _, _, _, _, _, _, _, _ => by simp [keysOnly] at hq
  | .msetKeys _ :: _, hq, _, _, _, _, _, _, _, _, _, _, _ => by simp [keysOnly] at hq

/-- C07, "equal sub-documents are never mentioned", object members at any depth below keys:
    if `a` and `b` hold equal values at the key path `q`, no hunk of the diff has a path that starts
    with `p ++ q` -/
theorem equal_subdoc_not_mentioned (F : FloatEq0) {o : Opts} (ho : dispatchTag o = .list)
    (hp : precOf o = 0) :
    ∀ (q : Path), keysOnly q = true → ∀ (a b : Json), a.rawDoc = true → Dom a → Dom b →
      ∀ v v', getAt a q = some v → getAt b q = some v' → equals o v v' = true →
      ∀ p, ∀ h ∈ diffNode o false a b p, ¬ (p ++ q) <+: h.path := by
  intro q hq a b hr ha hb v v' hv hv' he p h hm hpre
  have hm' := hunk_below_keys q hq a b ha.wf v v' hv hv' p h hm hpre
  rw [diffNode_nil_of_equals F o ho hp false v v' (getAt_keys_rawDoc q hq a v hr hv)
    (getAt_keys_dom q hq a v ha hv) (getAt_keys_dom q hq b v' hb hv') he (p ++ q)] at hm'
  cases hm'

/-- the advertised one-level form: a member with equal values on both sides is not mentioned -/
theorem equal_member_not_mentioned (F : FloatEq0) {o : Opts} (ho : dispatchTag o = .list)
    (hp : precOf o = 0) {kvs kvs' : List (String × Json)} (hr : (Json.obj kvs).rawDoc = true)
    (ha : Dom (.obj kvs)) (hb : Dom (.obj kvs')) {k : String} {v v' : Json}
    (hl : alookup k kvs = some v) (hl' : alookup k kvs' = some v') (he : equals o v v' = true)
    (p : Path) :
    ∀ h ∈ diffNode o false (.obj kvs) (.obj kvs') p, ¬ (p ++ [PathElem.key k]) <+: h.path :=
  equal_subdoc_not_mentioned F ho hp [.key k] rfl _ _ hr ha hb v v'
    (by simp [getAt, hl]) (by simp [getAt, hl']) he p

/-! ## 2. the cursor walk of `jsonList.diffRest` as an alignment of the two arrays -/

/-- all removed values of a diff, in hunk order -/
def removed (d : Diff) : List Json := d.flatMap (·.remove)

/-- all added values of a diff, in hunk order -/
def added (d : Diff) : List Json := d.flatMap (·.add)

@[simp] theorem removed_nil : removed [] = [] := rfl
@[simp] theorem added_nil : added [] = [] := rfl
@[simp] theorem removed_append (d e : Diff) : removed (d ++ e) = removed d ++ removed e := by
  simp [removed]
@[simp] theorem added_append (d e : Diff) : added (d ++ e) = added d ++ added e := by
  simp [added]

/-- `h` is addressed to index `i` below `p`; it removes a contiguous run of `X` and adds a contiguous
    run of `Y`; the added run stands in `Y` at index `i`; its before-context is the element of `Y`
    that precedes the added run (the array start marker when there is none) and its after-context
    the element of `X` that follows the removed run (the array end marker when there is none) -/
def Located (p : Path) (X Y : List Json) (h : Hunk) : Prop :=
  ∃ (i : Nat) (preA postA preB postB : List Json),
    h.path = p ++ [PathElem.idx i] ∧ X = preA ++ h.remove ++ postA ∧ Y = preB ++ h.add ++ postB ∧
    preB.length = i ∧ h.before = [preB.getLast?.getD .void] ∧ h.after = [postA.headD .void]

end Jd.Real

namespace Jd.RealL
open Jd Jd.Spec Jd.DPL

/-- the hunk of an `edit R A` step: `R` a contiguous run of the first array, `A` the contiguous run
    of the second array at the index it is addressed to, the context lines the neighbours; not
    empty, and position-wise different hash codes -/
theorem edit_located {o : Opts} {xs ys : List Json} {S1 S2 : Script} {R A : List Json}
    (hs : src (S1 ++ .edit R A :: S2) = xs) (ht : tgt (S1 ++ .edit R A :: S2) = ys)
    (hok : (Step.edit R A).ok o) (p : Path) {h : Hunk}
    (eh : h = { path := p ++ [.idx ((tgt S1).length : Int)],
                before := [(tgt S1).getLast?.getD .void], remove := R, add := A,
                after := [(src S2).headD .void] }) :
    Real.Located p xs ys h ∧ Real.HashApart o h.remove h.add ∧
      (h.remove ≠ [] ∨ h.add ≠ []) ∧ h.merge = false := by
  subst eh
  exact ⟨⟨(tgt S1).length, src S1, src S2, tgt S1, tgt S2, rfl, by simp [← hs, src_append, Step.src],
    by simp [← ht, tgt_append, Step.tgt], rfl, rfl, rfl⟩, hok.2, hok.1, rfl⟩

/-- without `sub` steps, what the hunks remove (add) is what the `edit` steps remove (add): a
    sublist of the first (second) array -/
theorem removed_added_hunks_sublist {o : Opts} {p : Path} : ∀ (S : Script) (k : Nat) (prev : Json),
    (∀ x y, Step.sub x y ∉ S) →
    (Real.removed (hunks o p k prev S)).Sublist (src S) ∧
      (Real.added (hunks o p k prev S)).Sublist (tgt S)
  | [], _, _, _ => by simp [hunks]
  | st :: r, k, prev, hS => by
    obtain ⟨h1, h2⟩ := removed_added_hunks_sublist (o := o) (p := p) r (k + st.tgt.length)
      (st.tgt.getLast?.getD prev) (fun x y hm => hS x y (List.mem_cons_of_mem _ hm))
    rw [hunks_cons, Real.removed_append, Real.added_append, src_cons, tgt_cons]
    cases st with
    | keep x y => exact ⟨by simpa [stepHunks, Step.src] using h1.cons x, by simpa [stepHunks, Step.tgt] using h2.cons y⟩
    | sub x y => exact absurd List.mem_cons_self (hS x y)
    | edit R A =>
      exact ⟨by simpa [stepHunks, Step.src, Real.removed] using (List.Sublist.refl R).append h1,
        by simpa [stepHunks, Step.tgt, Real.added] using (List.Sublist.refl A).append h2⟩

end Jd.RealL

namespace Jd.Align
open Jd Jd.Spec Jd.DPL Jd.RealL

/-- **the diff of two arrays is the rendering of their alignment**, every step of which is `ok`:
    when two elements that are containers of the same kind with different hash codes are not a
    typed list against a plain array and have a non-empty sub-diff, the code's rendering
    (`diffRest_alignment`) is `hunks` -/
theorem diffRest_walk (o : Opts) (xs ys : List Json)
    (hsub : ∀ x ∈ xs, ∀ y ∈ ys, sameContainerType o x y = true → hashCode o x ≠ hashCode o y →
      mixedPair x y = false ∧ ∀ q, diffNode o false x y q ≠ []) :
    (∀ st ∈ alignment o xs ys, st.ok o) ∧
      ∀ p, diffRest o p 0 0 .void xs ys (lcsValues (hashList o xs) (hashList o ys)) [] [] =
        hunks o p 0 .void (alignment o xs ys) := by
  refine ⟨alignment_ok o xs ys, fun p => ?_⟩
  rw [diffRest_alignment, render_eq_hunks]
  intro x y hm k n nx
  obtain ⟨hs, hne⟩ := alignment_ok o xs ys _ hm
  have hx := (mem_of_mem_alignment hm).1 x (by simp [Step.src])
  have hy := (mem_of_mem_alignment hm).2 y (by simp [Step.tgt])
  obtain ⟨hnm, hE⟩ := hsub x hx y hy hs hne
  exact ⟨hE _, Real.subAfter_diffNode_of_not_mixed o hs hnm p k n nx⟩

end Jd.Align

namespace Jd.Real
open Jd Jd.Spec Jd.DPL Jd.RealL Jd.Align

/-! ## 2a. arrays of scalars: each hunk is one `edit` step of the alignment -/

/-- **arrays of scalars**: the cursor walk is the rendering of the alignment, every step of which
    is `ok` and none of which is a `sub` step -/
theorem scalars_walk (o : Opts) {xs : List Json} (ys : List Json)
    (scalars : ∀ x ∈ xs, isScalar x = true) :
    (∀ st ∈ alignment o xs ys, st.ok o) ∧ (∀ x y, Step.sub x y ∉ alignment o xs ys) ∧
    ∀ p, diffRest o p 0 0 .void xs ys (lcsValues (hashList o xs) (hashList o ys)) [] [] =
      hunks o p 0 .void (alignment o xs ys) := by
  obtain ⟨hok, hd⟩ := diffRest_walk o xs ys
    (fun x hx y _ hs => by rw [sameContainerType_scalar o y (scalars x hx)] at hs; cases hs)
  exact ⟨hok, no_sub_of_scalars o ys scalars, hd⟩

/-- C07 for two arrays of scalars, hunk by hunk: the removed values are a contiguous run of the first
    array, the added values a contiguous run of the second array standing at the addressed index,
    the context lines are the neighbouring elements; the hunk is not empty and the j-th removed and
    the j-th added value have different hash codes -/
theorem scalars_hunk (o : Opts) (p : Path) (xs ys : List Json)
    (scalars : ∀ x ∈ xs, isScalar x = true) :
    ∀ h ∈ diffRest o p 0 0 .void xs ys (lcsValues (hashList o xs) (hashList o ys)) [] [],
      Located p xs ys h ∧ HashApart o h.remove h.add ∧ (h.remove ≠ [] ∨ h.add ≠ []) ∧
        h.merge = false := by
  obtain ⟨hok, hns, hd⟩ := scalars_walk o ys scalars
  intro h hm
  rw [hd p] at hm
  rcases mem_hunks _ 0 .void hm with ⟨S1, R, A, S2, e, eh⟩ | ⟨S1, x, y, S2, e, _⟩
  · exact edit_located (e ▸ alignment_src o xs ys) (e ▸ alignment_tgt o xs ys)
      (hok _ (by rw [e]; simp)) p (by simpa using eh)
  · exact absurd (by rw [e]; simp) (hns x y)

theorem removed_added_sublist (o : Opts) (p : Path) (xs ys : List Json)
    (scalars : ∀ x ∈ xs, isScalar x = true) :
    let d := diffRest o p 0 0 .void xs ys (lcsValues (hashList o xs) (hashList o ys)) [] []
    (d.flatMap (·.remove)).Sublist xs ∧ (d.flatMap (·.add)).Sublist ys := by
  obtain ⟨_, hns, hd⟩ := scalars_walk o ys scalars
  intro d
  have := removed_added_hunks_sublist (o := o) (p := p) (alignment o xs ys) 0 .void hns
  rwa [← hd p, alignment_src, alignment_tgt] at this


theorem diffNode_removed_added_sublist {o : Opts} (ho : dispatchTag o = .list) {t t' : Tag}
    (xs ys : List Json)
    (ht : (t == .raw || t == .list) = true) (ht' : (t' == .raw || t' == .list) = true)
    (htt : t = .raw ∨ t' = .list) (p : Path)
    (scalars : ∀ x ∈ xs, isScalar x = true) :
    let d := diffNode o false (.arr t xs) (.arr t' ys) p
    (d.flatMap (·.remove)).Sublist xs ∧ (d.flatMap (·.add)).Sublist ys := by
  intro d
  have e : d = diffRest o p 0 0 .void xs ys (lcsValues (hashList o xs) (hashList o ys)) [] [] :=
    DPL.diffNode_arr_arr ho xs ys ht ht' htt p
  rw [e]
  exact removed_added_sublist o p xs ys scalars

theorem diffM_removed_added_sublist {o : Opts} (ho : dispatchTag o = .list) (hm : isMerge o = false)
    {t t' : Tag} (xs ys : List Json)
    (ht : (t == .raw || t == .list) = true) (ht' : (t' == .raw || t' == .list) = true)
    (htt : t = .raw ∨ t' = .list)
    (scalars : ∀ x ∈ xs, isScalar x = true) :
    let d := diffM o (.arr t xs) (.arr t' ys)
    (d.flatMap (·.remove)).Sublist xs ∧ (d.flatMap (·.add)).Sublist ys := by
  intro d
  have e : d = diffNode o false (.arr t xs) (.arr t' ys) [] := by
    show diffM o _ _ = _
    rw [diffM, hm]
  rw [e]
  exact diffNode_removed_added_sublist ho xs ys ht ht' htt [] scalars

theorem diffM_removed_added_mem {o : Opts} (ho : dispatchTag o = .list) (hm : isMerge o = false)
    {t t' : Tag} (xs ys : List Json)
    (ht : (t == .raw || t == .list) = true) (ht' : (t' == .raw || t' == .list) = true)
    (htt : t = .raw ∨ t' = .list)
    (scalars : ∀ x ∈ xs, isScalar x = true) :
    ∀ h ∈ diffM o (.arr t xs) (.arr t' ys), (∀ v ∈ h.remove, v ∈ xs) ∧ (∀ w ∈ h.add, w ∈ ys) := by
  intro h hmem
  obtain ⟨h1, h2⟩ := diffM_removed_added_sublist ho hm xs ys ht ht' htt scalars
  exact ⟨fun v hv => h1.subset (List.mem_flatMap.2 ⟨h, hmem, hv⟩),
    fun w hw => h2.subset (List.mem_flatMap.2 ⟨h, hmem, hw⟩)⟩

theorem diffM_located {o : Opts} (ho : dispatchTag o = .list) (hm : isMerge o = false)
    {t t' : Tag} (xs ys : List Json)
    (ht : (t == .raw || t == .list) = true) (ht' : (t' == .raw || t' == .list) = true)
    (htt : t = .raw ∨ t' = .list)
    (scalars : ∀ x ∈ xs, isScalar x = true) :
    ∀ h ∈ diffM o (.arr t xs) (.arr t' ys), Located [] xs ys h := by
  rw [diffM, hm, DPL.diffNode_arr_arr ho xs ys ht ht' htt []]
  exact fun h hmem => (scalars_hunk o [] xs ys scalars h hmem).1

theorem diff_remove_ne_add (o : Opts) (p : Path) (xs ys : List Json)
    (scalars : ∀ x ∈ xs, isScalar x = true) :
    ∀ h ∈ diffRest o p 0 0 .void xs ys (lcsValues (hashList o xs) (hashList o ys)) [] [],
      h.remove ≠ h.add := by
  intro h hm e
  obtain ⟨_, hap, hne, _⟩ := scalars_hunk o p xs ys scalars h hm
  cases hadd : h.add with
  | nil => rw [e, hadd] at hne; simp at hne
  | cons w r =>
    rw [e, hadd] at hap
    exact hap 0 w w rfl rfl rfl

theorem diffM_hashApart {o : Opts} (ho : dispatchTag o = .list) (hm : isMerge o = false)
    {t t' : Tag} (xs ys : List Json)
    (ht : (t == .raw || t == .list) = true) (ht' : (t' == .raw || t' == .list) = true)
    (htt : t = .raw ∨ t' = .list)
    (scalars : ∀ x ∈ xs, isScalar x = true) :
    ∀ h ∈ diffM o (.arr t xs) (.arr t' ys),
      (∀ (j : Nat) (r a : Json), h.remove[j]? = some r → h.add[j]? = some a →
        hashCode o r ≠ hashCode o a) ∧ h.remove ≠ h.add := by
  rw [diffM, hm, DPL.diffNode_arr_arr ho xs ys ht ht' htt []]
  exact fun h hmem => ⟨(scalars_hunk o [] xs ys scalars h hmem).2.1,
    diff_remove_ne_add o [] xs ys scalars h hmem⟩

/-- hash-apart values are not `Equals` (on the domain of `hashCode_eq_of_equals`) -/
theorem hashApart_not_equals (F : FloatEq0) {o : Opts} (ho : dispatchTag o = .list)
    (hp : precOf o = 0) {R A : List Json} (h : HashApart o R A)
    (hR : ∀ r ∈ R, Dom r) (hA : ∀ a ∈ A, Dom a) :
    ∀ (j : Nat) (r a : Json), R[j]? = some r → A[j]? = some a → equals o r a = false := by
  intro j r a hr ha
  cases he : equals o r a with
  | false => rfl
  | true =>
    exact absurd (hashCode_eq_of_equals F o ho hp r a (hR r (List.mem_of_getElem? hr))
      (hA a (List.mem_of_getElem? ha)) he) (h j r a hr ha)

/-! ## 2b. object members and the root: what a hunk removes is there in `a`, what it adds is there
    in `b` -/

/-- forget the Go dynamic type of the top array node (`jsonArray.diff` reports the removed array as
    a `jsonList`) -/
def asList : Json → Json
  | .arr _ xs => .arr .list xs
  | n => n

/-- `ua` / `ub`: what the two documents hold at the location the hunk is addressed to (`none`:
    nothing there).  The hunk replaces at most one value by at most one value; what it removes is
    what the first document holds (up to the dynamic type of a top array node), what it adds is what
    the second holds; it removes nothing only when the first document holds nothing (or void) there,
    adds nothing only when the second holds nothing there; and the removed value is not `Equals` to
    the added one. -/
def RealOpt (o : Opts) (ua ub : Option Json) (h : Hunk) : Prop :=
  h.remove.length ≤ 1 ∧ h.add.length ≤ 1 ∧
  (∀ v, h.remove = [v] → ∃ u, ua = some u ∧ asList v = asList u) ∧
  (∀ w, h.add = [w] → ub = some w) ∧
  (h.remove = [] → ∀ u, ua = some u → u = .void) ∧
  (h.add = [] → ∀ u, ub = some u → u = .void) ∧
  (∀ v w, h.remove = [v] → h.add = [w] → equals o v w = false)

/-- the hunk `h`, addressed to the key path `q`, describes a real difference between `a` and `b` -/
def RealAt (o : Opts) (a b : Json) (q : Path) (h : Hunk) : Prop :=
  RealOpt o (getAt a q) (getAt b q) h

theorem nodeList_cases (n : Json) : (n = .void ∧ n.nodeList = []) ∨ (n ≠ .void ∧ n.nodeList = [n]) := by
  cases n <;> simp [Json.nodeList, Json.isVoid]

theorem asList_idem (n : Json) : asList (asList n) = asList n := by
  cases n <;> rfl

theorem realOpt_both {o : Opts} {a b : Json} {h : Hunk}
    (hr : h.remove = a.nodeList ∨ h.remove = [asList a])
    (hadd : h.add = b.nodeList ∨ h.add = [b])
    (he : equals o a b = false) (he' : equals o (asList a) b = false) :
    RealOpt o (some a) (some b) h := by
  have hra : ∀ v, h.remove = [v] → v = a ∨ v = asList a := by
    intro v hv
    rcases hr with hr | hr
    · rw [hr] at hv
      rcases nodeList_cases a with ⟨_, e⟩ | ⟨_, e⟩ <;> rw [e] at hv
      · cases hv
      · cases hv; exact .inl rfl
    · rw [hr] at hv; cases hv; exact .inr rfl
  have hab : ∀ w, h.add = [w] → w = b := by
    intro w hw
    rcases hadd with hadd | hadd
    · rw [hadd] at hw
      rcases nodeList_cases b with ⟨_, e⟩ | ⟨_, e⟩ <;> rw [e] at hw
      · cases hw
      · cases hw; rfl
    · rw [hadd] at hw; cases hw; rfl
  refine ⟨?_, ?_, ?_, ?_, ?_, ?_, ?_⟩
  · rcases hr with hr | hr
    · rw [hr]; rcases nodeList_cases a with ⟨_, e⟩ | ⟨_, e⟩ <;> simp [e]
    · simp [hr]
  · rcases hadd with hadd | hadd
    · rw [hadd]; rcases nodeList_cases b with ⟨_, e⟩ | ⟨_, e⟩ <;> simp [e]
    · simp [hadd]
  · intro v hv
    refine ⟨a, rfl, ?_⟩
    rcases hra v hv with e | e
    · rw [e]
    · rw [e, asList_idem]
  · intro w hw
    rw [hab w hw]
  · intro hnil u hu
    cases hu
    rcases hr with hr | hr
    · rw [hr] at hnil
      rcases nodeList_cases a with ⟨e, _⟩ | ⟨_, e⟩
      · exact e
      · rw [e] at hnil; cases hnil
    · rw [hr] at hnil; cases hnil
  · intro hnil u hu
    cases hu
    rcases hadd with hadd | hadd
    · rw [hadd] at hnil
      rcases nodeList_cases b with ⟨e, _⟩ | ⟨_, e⟩
      · exact e
      · rw [e] at hnil; cases hnil
    · rw [hadd] at hnil; cases hnil
  · intro v w hv hw
    rw [hab w hw]
    rcases hra v hv with e | e <;> rw [e]
    · exact he
    · exact he'

theorem realOpt_removeOnly {o : Opts} {v : Json} {h : Hunk}
    (hr : h.remove = v.nodeList) (hadd : h.add = []) : RealOpt o (some v) none h := by
  rcases nodeList_cases v with ⟨rfl, e⟩ | ⟨_, e⟩ <;> rw [e] at hr <;> simp [RealOpt, hr, hadd]

theorem realOpt_addOnly {o : Opts} {w : Json} {h : Hunk}
    (hr : h.remove = []) (hadd : h.add = w.nodeList) : RealOpt o none (some w) h := by
  rcases nodeList_cases w with ⟨rfl, e⟩ | ⟨_, e⟩ <;> rw [e] at hadd <;> simp [RealOpt, hr, hadd]

theorem path_ne_append_cons {p : Path} {e : PathElem} {r : Path} (h : p = p ++ e :: r) : False := by
  have := congrArg List.length h
  simp at this

theorem prefix_snoc_self_absurd {p : Path} {e : PathElem} (h : (p ++ [e]) <+: p) : False := by
  have := h.length_le
  simp only [List.length_append, List.length_cons, List.length_nil] at this
  omega

/-- the diff of a scalar against anything, strict strategy: nothing when they are `Equals`,
    else the one hunk replacing the one by the other -/
theorem mem_diffNode_scalar {o : Opts} {a b : Json} {p : Path} {h : Hunk}
    (h1 : ∀ t xs, a ≠ .arr t xs) (h2 : ∀ kvs, a ≠ .obj kvs) (hm : h ∈ diffNode o false a b p) :
    h = { path := p, remove := a.nodeList, add := b.nodeList } ∧ equals [] a b = false := by
  rw [DPL.diffNode_scalar o a b h1 h2] at hm
  unfold diffCommon at hm
  split at hm
  · cases hm
  · next hne => exact ⟨by simpa using hm, by simpa using hne⟩

theorem root_scalar_real {o : Opts} (hp : precOf o = 0) {a b : Json} {p : Path} {h : Hunk}
    (h1 : ∀ t xs, a ≠ .arr t xs) (h2 : ∀ kvs, a ≠ .obj kvs)
    (hm : h ∈ diffNode o false a b p) : RealOpt o (some a) (some b) h := by
  obtain ⟨rfl, hne⟩ := mem_diffNode_scalar h1 h2 hm
  rw [equals_scalar_noopts hp a b h1 h2] at hne
  have hs : asList a = a := by
    cases a with
    | arr t xs => exact absurd rfl (h1 t xs)
    | _ => rfl
  exact realOpt_both (.inl rfl) (.inl rfl) hne (by rw [hs]; exact hne)

theorem eq_obj_of_kind {b : Json} (h : b.kind = .obj) : ∃ kvs, b = .obj kvs := by
  cases b with
  | obj kvs => exact ⟨kvs, rfl⟩
  | _ => cases h

theorem eq_arr_of_kind {b : Json} (h : b.kind = .arr) : ∃ t xs, b = .arr t xs := by
  cases b with
  | arr t xs => exact ⟨t, xs, rfl⟩
  | _ => cases h

/-- unless both are objects or both are arrays, the diff replaces `a` by `b` as a whole: one hunk,
    addressed to `p` itself -/
theorem replace_real {o : Opts} (ho : dispatchTag o = .list) (hp : precOf o = 0) {a b : Json}
    (hr : a.rawDoc = true) (hobj : ∀ kvs kvs', a = .obj kvs → b ≠ .obj kvs')
    (harr : ∀ t xs t' ys, a = .arr t xs → b ≠ .arr t' ys) {p : Path} {h : Hunk}
    (hm : h ∈ diffNode o false a b p) :
    h.path = p ∧ h.before = [] ∧ h.after = [] ∧ h.merge = false ∧
      sameContainerType o a b = false ∧ RealOpt o (some a) (some b) h := by
  have hs : sameContainerType o a b = false := Bool.eq_false_iff.2 fun hs => by
    rcases sameContainerType_cases hs with ⟨kvs, kvs', e, e'⟩ | ⟨t, xs, t', ys, e, e'⟩
    · exact hobj kvs kvs' e e'
    · exact harr t xs t' ys e e'
  cases a with
  | obj kvs =>
    have hb : ∀ kvs', b ≠ .obj kvs' := fun kvs' => hobj kvs kvs' rfl
    rw [DPL.diffNode_obj_other o kvs b hb] at hm
    obtain rfl := List.mem_singleton.1 hm
    have hk : (Json.obj kvs).kind ≠ b.kind := fun e =>
      (eq_obj_of_kind e.symm).elim fun kvs' e' => hb kvs' e'
    exact ⟨rfl, rfl, rfl, rfl, hs, realOpt_both (.inr rfl) (.inr rfl) (equals_kind_ne o _ _ hk)
      (equals_kind_ne o _ _ hk)⟩
  | arr t xs =>
    simp only [Json.rawDoc, Bool.and_eq_true, beq_iff_eq] at hr
    obtain ⟨rfl, _⟩ := hr
    have hb : ∀ t' ys, b ≠ .arr t' ys := fun t' ys => harr _ xs t' ys rfl
    rw [DPL.diffNode_arr_other ho xs b rfl (.inl hb)] at hm
    obtain rfl := List.mem_singleton.1 hm
    have hk : (Json.arr .raw xs).kind ≠ b.kind := fun e =>
      (eq_arr_of_kind e.symm).elim fun t' ⟨ys, e'⟩ => hb t' ys e'
    exact ⟨rfl, rfl, rfl, rfl, hs, realOpt_both (.inr rfl) (.inl rfl) (equals_kind_ne o _ _ hk)
      (equals_kind_ne o _ _ hk)⟩
  | _ =>
    have hro := root_scalar_real hp (by intro t xs e; cases e) (by intro kvs e; cases e) hm
    obtain ⟨rfl, _⟩ := mem_diffNode_scalar (by intro t xs e; cases e) (by intro kvs e; cases e) hm
    exact ⟨rfl, rfl, rfl, rfl, hs, hro⟩
/-- C07 for object members (at any depth below keys) and the root, list mode, strict strategy:
    a hunk of `diffNode o false a b p` whose path is `p ++ q` with `q` made of keys only describes a
    real difference between what `a` and `b` hold at `q`.  Arrays are allowed anywhere as values. -/
theorem keyed_hunk_real {o : Opts} (ho : dispatchTag o = .list) (hp : precOf o = 0) :
    ∀ (q : Path), keysOnly q = true → ∀ (a b : Json), a.rawDoc = true → b.listDoc = true →
      a.wf = true → b.wf = true →
      ∀ p, ∀ h ∈ diffNode o false a b p, h.path = p ++ q → RealAt o a b q h
  | [], _, a, b, hr, hlb, _, _, p, h, hm, hpath => by
    have hla := rawDoc_listDoc a hr
    simp only [List.append_nil] at hpath
    show RealOpt o (getAt a []) (getAt b []) h
    simp only [getAt]
    refine (replace_real ho hp hr ?_ ?_ hm).2.2.2.2.2
    · rintro kvs kvs' rfl rfl
      simp only [Json.listDoc] at hla hlb
      obtain ⟨k0, hpre0, _⟩ := DE.mem_diffNode_obj hm
      rw [hpath] at hpre0
      exact prefix_snoc_self_absurd hpre0
    · rintro t xs t' ys rfl rfl
      simp only [Json.rawDoc, Bool.and_eq_true, beq_iff_eq] at hr
      obtain ⟨rfl, _⟩ := hr
      simp only [Json.listDoc, Bool.and_eq_true] at hla hlb
      rw [DPL.diffNode_arr_arr ho xs ys rfl hlb.1 (.inl rfl)] at hm
      obtain ⟨i, hi⟩ := (diff_paths_extend_all o ho).2.2 _ _ hla.2 hlb.2 p h hm
      rw [hpath] at hi
      exact prefix_snoc_self_absurd hi
  | .key k :: q', hq, a, b, hr, hlb, hwa, hwb, p, h, hm, hpath => by
    have hla := rawDoc_listDoc a hr
    simp only [keysOnly] at hq
    have hpre1 : (p ++ [PathElem.key k]) <+: h.path := by
      rw [hpath]; exact ⟨q', by simp⟩
    by_cases hobj : ∃ kvs kvs', a = .obj kvs ∧ b = .obj kvs'
    · obtain ⟨kvs, kvs', rfl, rfl⟩ := hobj
      simp only [Json.listDoc] at hla hlb
      simp only [Json.rawDoc] at hr
      simp only [Json.wf, Bool.and_eq_true] at hwa hwb
      show RealOpt o (getAt (.obj kvs) (.key k :: q')) (getAt (.obj kvs') (.key k :: q')) h
      simp only [getAt]
      obtain ⟨k0, hpre0, hc⟩ := DE.mem_diffNode_obj hm
      cases PathElem.key.inj (snoc_prefix_unique hpre0 hpre1)
      rcases hc with ⟨v0, w, hmem, hw, hmem'⟩ | ⟨v0, hmem, hn, rfl⟩ | ⟨v', hmem', hn, rfl⟩
      · have hv0 : alookup k kvs = some v0 := alookup_of_mem hwa.1 hmem
        rw [hv0, hw]
        simp only [Option.bind_some]
        exact keyed_hunk_real ho hp q' hq v0 w (alookup_rawDoc hv0 hr) (alookup_listDoc hw hlb)
          (alookup_wf hv0 hwa.2) (alookup_wf hw hwb.2) _ h hmem' (by simpa using hpath)
      · rw [alookup_of_mem hwa.1 hmem, hn]
        obtain rfl : q' = [] := by simpa [DE.remHunk] using hpath
        simp only [Option.bind_some, Option.bind_none, getAt]
        exact realOpt_removeOnly rfl rfl
      · rw [hn, alookup_of_mem hwb.1 hmem']
        obtain rfl : q' = [] := by simpa using hpath
        simp only [Option.bind_some, Option.bind_none, getAt]
        exact realOpt_addOnly rfl rfl
    · exfalso
      refine path_ne_append_cons ((replace_real ho hp hr
        (fun kvs kvs' e e' => hobj ⟨kvs, kvs', e, e'⟩) ?_ hm).1.symm.trans hpath)
      rintro t xs t' ys rfl rfl
      simp only [Json.rawDoc, Bool.and_eq_true, beq_iff_eq] at hr
      obtain ⟨rfl, _⟩ := hr
      simp only [Json.listDoc, Bool.and_eq_true] at hla hlb
      rw [DPL.diffNode_arr_arr ho xs ys rfl hlb.1 (.inl rfl)] at hm
      obtain ⟨i, hi⟩ := (diff_paths_extend_all o ho).2.2 _ _ hla.2 hlb.2 p h hm
      exact nomatch snoc_prefix_unique hpre1 hi
  | .idx _ :: _, hq, _, _, _, _, _, _, _, _, _, _ => by simp [keysOnly] at hq
  | .set :: _, hq, _, _, _, _, _, _, _, _, _, _ => by simp [keysOnly] at hq
  | .mset :: _, hq, _, _, _, _, _, _, _, _, _, _ => by simp [keysOnly] at hq
  | .setKeys _ :: _, hq, _, _, _, _, _, _, _, _, _, _ => by simp [keysOnly] at hq
  | .msetKeys _ :: _, hq, _, _, _, _, _, _, _, _, _, _ => by simp [keysOnly] at hq

/-- C07 for `a.Diff(b)`: every hunk addressed to a key path (the root included) removes what `a`
    holds there and adds what `b` holds there, and these two are not `Equals` -/
theorem diffM_keyed_hunk_real {o : Opts} (ho : dispatchTag o = .list) (hp : precOf o = 0)
    (hm : isMerge o = false) {a b : Json} (hr : a.rawDoc = true) (hlb : b.listDoc = true)
    (hwa : a.wf = true) (hwb : b.wf = true) :
    ∀ h ∈ diffM o a b, keysOnly h.path = true → RealAt o a b h.path h := by
  intro h hmem hk
  rw [diffM, hm] at hmem
  exact keyed_hunk_real ho hp h.path hk a b hr hlb hwa hwb [] h hmem (by simp)

/-! ## 3. no redundant hunk (arrays of scalars, length argument) -/

theorem prefixEq_length : ∀ (rs xs : List Json), prefixEq rs xs = true → rs.length ≤ xs.length
  | [], _, _ => by simp
  | _ :: _, [], h => by simp [prefixEq] at h
  | r :: rs, x :: xs, h => by
    simp only [prefixEq, Bool.and_eq_true] at h
    have := prefixEq_length rs xs h.2
    simp only [List.length_cons]
    omega

/-- **`splice` at a natural index**: it succeeds exactly when the index is inside the list, the
    removed values and the context lines are there, and then replaces the removed run -/
theorem splice_nat_iff {l : List Json} {i : Nat} {h : Hunk} {l' : List Json} :
    splice l (i : Int) h = some l' ↔
      i ≤ l.length ∧ prefixEq h.remove (l.drop i) = true ∧
      beforeOk l (i : Int) h.before.length 0 h.before = true ∧
      afterOk ((l.drop i).drop h.remove.length) 0 h.after = true ∧
      l' = l.take i ++ h.add ++ (l.drop i).drop h.remove.length := by
  unfold splice
  have h1 : ((i : Int) == -1) = false := by
    simp only [beq_eq_false_iff_ne, ne_eq]; omega
  simp only [h1, Bool.false_eq_true, if_false, Int.toNat_natCast]
  by_cases hi : i ≤ l.length
  · have h2 : ((i : Int) < 0 || (i : Int) > (l.length : Int)) = false := by
      simp only [Bool.or_eq_false_iff, decide_eq_false_iff_not]; omega
    simp only [h2, Bool.false_eq_true, if_false]
    constructor
    · intro hs
      split at hs
      · next hc =>
        simp only [Bool.and_eq_true] at hc
        exact ⟨hi, hc.1.1, hc.1.2, hc.2, (Option.some.inj hs).symm⟩
      · cases hs
    · rintro ⟨_, g1, g2, g3, rfl⟩
      rw [g1, g2, g3]
      rfl
  · have h2 : ((i : Int) < 0 || (i : Int) > (l.length : Int)) = true := by
      simp only [Bool.or_eq_true, decide_eq_true_eq]; omega
    simp only [h2, if_true, hi, false_and, reduceCtorEq]

/-- anatomy of a successful splice at a natural index -/
theorem splice_nat {l : List Json} {i : Nat} {h : Hunk} {l' : List Json}
    (hs : splice l (i : Int) h = some l') :
    i ≤ l.length ∧ prefixEq h.remove (l.drop i) = true ∧
      l' = l.take i ++ h.add ++ (l.drop i).drop h.remove.length :=
  have g := splice_nat_iff.1 hs
  ⟨g.1, g.2.1, g.2.2.2.2⟩

theorem splice_length {l : List Json} {i : Nat} {h : Hunk} {r : List Json}
    (hs : splice l (i : Int) h = some r) : r.length + h.remove.length = l.length + h.add.length := by
  obtain ⟨hi, hp, rfl⟩ := splice_nat hs
  have := prefixEq_length _ _ hp
  simp only [List.length_drop] at this
  simp only [List.length_append, List.length_take, List.length_drop]
  omega

theorem applyStrict_root_idx (t : Tag) (xs : List Json) (i : Int) (h : Hunk) :
    applyStrict (.arr t xs) [.idx i] h = (splice xs i h).map (Json.arr .raw ·) := by
  simp only [applyStrict]

/-- applying hunks addressed to root indices changes the length by `Σ (|add| − |remove|)` -/
theorem applyStrictAll_length : ∀ (d : Diff) (t : Tag) (xs : List Json) (r : Json),
    (∀ h ∈ d, ∃ i : Nat, h.path = [PathElem.idx i]) →
    applyStrictAll (.arr t xs) d = some r →
    ∃ t' zs, r = .arr t' zs ∧ zs.length + Min.removes d = xs.length + Min.adds d
  | [], t, xs, r, _, hr => by
    simp only [applyStrictAll, Option.some.injEq] at hr
    exact ⟨t, xs, hr.symm, by simp⟩
  | h :: d, t, xs, r, hp, hr => by
    obtain ⟨i, hi⟩ := hp h List.mem_cons_self
    simp only [applyStrictAll, hi, applyStrict_root_idx] at hr
    cases hs : splice xs (i : Int) h with
    | none => simp [hs] at hr
    | some zs1 =>
      simp only [hs, Option.map_some, Option.bind_some] at hr
      obtain ⟨t', zs, e, hlen⟩ := applyStrictAll_length d .raw zs1 r
        (fun h' hm => hp h' (List.mem_cons_of_mem _ hm)) hr
      have h1 := splice_length hs
      refine ⟨t', zs, e, ?_⟩
      simp only [Min.removes, Min.adds, List.map_cons, List.sum_cons] at hlen ⊢
      omega

theorem equivList_length (o : Opts) : ∀ (zs ys : List Json), equivList o zs ys = true →
    zs.length = ys.length
  | [], [], _ => rfl
  | [], _ :: _, h => by simp [equivList] at h
  | _ :: _, [], h => by simp [equivList] at h
  | z :: zs, y :: ys, h => by
    simp only [equivList, Bool.and_eq_true] at h
    simp [equivList_length o zs ys h.2]

/-- C07 "no hunk is redundant", two arrays of scalars, PARTIAL (length argument only): leave out any
    one hunk whose `remove` and `add` have different lengths; if the remaining hunks apply at all,
    the result is an array whose length differs from that of the second array, so it is not the
    second array (not even up to `specEq`).  Hunks with `|remove| = |add|` are NOT covered. -/
theorem no_redundant_hunk_length_partial {o : Opts} (ho : dispatchTag o = .list)
    (hm : isMerge o = false) {t t' : Tag} (xs ys : List Json)
    (ht : (t == .raw || t == .list) = true) (ht' : (t' == .raw || t' == .list) = true)
    (htt : t = .raw ∨ t' = .list)
    (scalars : ∀ x ∈ xs, isScalar x = true)
    (d1 d2 : Diff) (h : Hunk) (hd : diffM o (.arr t xs) (.arr t' ys) = d1 ++ h :: d2)
    (hne : h.remove.length ≠ h.add.length)
    (r : Json) (hr : applyStrictAll (.arr t xs) (d1 ++ d2) = some r) :
    (∃ t'' zs, r = .arr t'' zs ∧ zs.length ≠ ys.length) ∧
    (∀ t'', r ≠ .arr t'' ys) ∧ (∀ t'', specEq r (.arr t'' ys) = false) := by
  have hcount := Min.diffM_removes_adds_count ho hm xs ys ht ht' htt scalars
  have hshape := Min.diffM_hunk_shape ho hm xs ys ht ht' htt scalars
  have hle1 := (lcsValues_sublist_left (hashList o xs) (hashList o ys)).length_le
  have hle2 := (lcsValues_sublist_right (hashList o xs) (hashList o ys)).length_le
  rw [Min.length_hashList] at hle1 hle2
  simp only [hd] at hcount hshape
  have hpaths : ∀ h' ∈ d1 ++ d2, ∃ i : Nat, h'.path = [PathElem.idx i] := by
    intro h' hm'
    refine (hshape h' ?_).2.2.1
    rcases List.mem_append.1 hm' with hm' | hm'
    · exact List.mem_append_left _ hm'
    · exact List.mem_append_right _ (List.mem_cons_of_mem _ hm')
  obtain ⟨t'', zs, e, hlen⟩ := applyStrictAll_length (d1 ++ d2) t xs r hpaths hr
  have hzs : zs.length ≠ ys.length := by
    simp only [Min.removes, Min.adds, List.map_append, List.map_cons, List.sum_append,
      List.sum_cons] at hlen hcount
    omega
  refine ⟨⟨t'', zs, e, hzs⟩, ?_, ?_⟩
  · intro t3 e3
    rw [e] at e3
    cases e3
    exact hzs rfl
  · intro t3
    rw [e]
    cases hq : specEq (Json.arr t'' zs) (Json.arr t3 ys) with
    | false => rfl
    | true =>
      simp only [specEq, equivB, dispatchTag] at hq
      exact absurd (equivList_length [] zs ys hq) hzs

/-! ## 3b. splices and structural equality of arrays, element by element -/

theorem splice_take {l : List Json} {i : Nat} {h : Hunk} {l' : List Json}
    (hs : splice l (i : Int) h = some l') {n : Nat} (hn : n ≤ i) : l'.take n = l.take n := by
  obtain ⟨hi, _, e⟩ := splice_nat hs
  rw [e, List.append_assoc, List.take_append_of_le_length (by simp; omega), List.take_take]
  congr 1
  omega

theorem equivList_getElem (o : Opts) : ∀ (l l' : List Json) (i : Nat) (x y : Json),
    equivList o l l' = true → l[i]? = some x → l'[i]? = some y → equivB o x y = true
  | [], _, _, _, _, _, hx, _ => by simp at hx
  | _ :: _, [], _, _, _, _, _, hy => by simp at hy
  | z :: l, z' :: l', 0, x, y, h, hx, hy => by
    simp only [equivList, Bool.and_eq_true] at h
    simp only [List.getElem?_cons_zero, Option.some.injEq] at hx hy
    subst hx; subst hy
    exact h.1
  | z :: l, z' :: l', i + 1, x, y, h, hx, hy => by
    simp only [equivList, Bool.and_eq_true] at h
    simp only [List.getElem?_cons_succ] at hx hy
    exact equivList_getElem o l l' i x y h.2 hx hy

theorem hash_eq_of_specEq (F : FloatEq0) {o : Opts} (ho : dispatchTag o = .list) (hp : precOf o = 0)
    {x y : Json} (hx : Dom x) (hy : Dom y) (h : specEq x y = true) : hashCode o x = hashCode o y := by
  have h1 : equivB o x y = true := equivB_of_specEq ho hp h
  rw [← equals_eq_equivB_list o ho x y hx.listDoc hy.listDoc] at h1
  exact hashCode_eq_of_equals F o ho hp x y hx hy h1

/-! ## 4. arrays of scalars held by object members -/

/-- C07 for arrays of scalars held by object members (at any depth below keys): every hunk of
    `a.Diff(b)` below the key path `q`, where `a` holds the scalar array `xs` and `b` the array `ys`,
    is addressed to `q ++ [i]`, removes a contiguous run of `xs`, adds the contiguous run of `ys`
    standing at `i`, pairs only elements with different hash codes, and `remove ≠ add` -/
theorem diffM_array_below_keys {o : Opts} (ho : dispatchTag o = .list) (hm : isMerge o = false)
    {a b : Json} (hr : a.rawDoc = true) (hlb : b.listDoc = true) (hwa : a.wf = true)
    {q : Path} (hq : keysOnly q = true) {t t' : Tag} {xs ys : List Json}
    (hu : getAt a q = some (.arr t xs)) (hu' : getAt b q = some (.arr t' ys))
    (scalars : ∀ x ∈ xs, isScalar x = true) :
    ∀ h ∈ diffM o a b, q <+: h.path →
      Located q xs ys h ∧
      (∀ (j : Nat) (r w : Json), h.remove[j]? = some r → h.add[j]? = some w →
        hashCode o r ≠ hashCode o w) ∧
      h.remove ≠ h.add ∧ (∀ v ∈ h.remove, v ∈ xs) ∧ (∀ w ∈ h.add, w ∈ ys) := by
  intro h hmem hpre
  rw [diffM, hm] at hmem
  have h1 := hunk_below_keys q hq a b hwa _ _ hu hu' [] h hmem (by simpa using hpre)
  have hra := getAt_keys_rawDoc q hq a _ hr hu
  have hlb' := getAt_keys_listDoc q hq b _ hlb hu'
  simp only [Json.rawDoc, Bool.and_eq_true, beq_iff_eq] at hra
  simp only [Json.listDoc, Bool.and_eq_true] at hlb'
  obtain ⟨rfl, _⟩ := hra
  simp only [List.nil_append] at h1
  rw [DPL.diffNode_arr_arr ho xs ys rfl hlb'.1 (.inl rfl)] at h1
  obtain ⟨s1, s2⟩ := removed_added_sublist o q xs ys scalars
  obtain ⟨hloc, hap, _⟩ := scalars_hunk o q xs ys scalars h h1
  exact ⟨hloc, hap, diff_remove_ne_add o q xs ys scalars h h1,
    fun v hv => s1.subset (List.mem_flatMap.2 ⟨h, h1, hv⟩),
    fun w hw => s2.subset (List.mem_flatMap.2 ⟨h, h1, hw⟩)⟩

end Jd.Real

#print axioms Jd.Real.diff_paths_extend
#print axioms Jd.Real.diff_paths_extend_general
#print axioms Jd.Real.equal_subdoc_not_mentioned
#print axioms Jd.Real.equal_member_not_mentioned
#print axioms Jd.Align.diffRest_walk
#print axioms Jd.Real.scalars_hunk
#print axioms Jd.Real.diffM_removed_added_sublist
#print axioms Jd.Real.diffM_removed_added_mem
#print axioms Jd.Real.diffM_located
#print axioms Jd.Real.diffM_hashApart
#print axioms Jd.Real.walk_keeps_lcs
#print axioms Jd.Real.keyed_hunk_real
#print axioms Jd.Real.diffM_keyed_hunk_real
#print axioms Jd.Real.applyStrictAll_length
#print axioms Jd.Real.no_redundant_hunk_length_partial
#print axioms Jd.Real.hunk_below_keys
#print axioms Jd.Real.diffM_array_below_keys
