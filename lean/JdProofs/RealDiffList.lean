/-
  JdProofs.RealDiffList — property C07 (v2 library, LIST reading `dispatchTag o = .list`, STRICT
  strategy), clauses 1–3 for arrays whose elements may be CONTAINERS, at full nesting depth.
  Namespace `Jd.RealL`. The alignment of two arrays (`Script`, `hunks`, `Align.walk`) is in
  JdProofs/ListScript.lean, `Align.diffRest_walk` in JdProofs/RealDiff.lean.

  A. (in JdProofs/ListRecursion.lean §E) `Aligned`, `Align.diffNode_aligned_walk`: the diff of two
     arrays of good documents IS the rendering of `Align.alignment`; every hunk located
     (`aligned_hunk`).
  B. consequences at one array level: kept elements are not mentioned (`kept_not_mentioned`), hunks
     below an index belong to the `sub` step standing there (`hunk_below_index`).
  C. full depth: the joint navigation `Nav` of `a` and `b` (object keys; list indices = positions in
     `b`, the partner in `a` being the one the alignment pairs it with), `Leaf` / `HunkReal`,
     `diffNode_hunk_real` / `diffM_hunk_real`: EVERY hunk of `a.Diff(b)` is real.
  D. what `Nav` means: `Nav.getAt_b` (the path of a hunk, read literally, is a path of `b`),
     `Nav.getAt_a` (in `a` the same keys and, at each list level, the index of the partner:
     `index_shift`), `Nav.ends_idx` / `Nav.not_equals` (no step of the navigation enters an `Equals`
     pair of list elements).
  E. the `Equals` forms of clause 3.
  F. clause 1 at full depth: `equal_not_mentioned`, `kept_not_mentioned_deep`.
-/
import JdProofs.ListRecursion

set_option autoImplicit false

namespace Jd.RealL
open Jd Jd.Spec Jd.DPL Jd.Rec

/-! ## B. what an alignment says about each hunk -/

theorem split_cases {α} {l1 l2 l1' l2' : List α} {a a' : α}
    (h : l1 ++ a :: l2 = l1' ++ a' :: l2') :
    (l1 = l1' ∧ a = a' ∧ l2 = l2') ∨ (∃ m, l1' = l1 ++ a :: m) ∨ (∃ m, l1 = l1' ++ a' :: m) := by
  rcases Real.split_append h with ⟨x1, x2, e, rfl, _⟩ | ⟨y1, y2, e, rfl, rfl⟩
  · exact .inr (.inr ⟨x2, e⟩)
  · cases y1 with
    | nil =>
      simp only [List.nil_append, List.cons.injEq] at e
      exact .inl ⟨by simp, e.1, e.2⟩
    | cons b m =>
      simp only [List.cons_append, List.cons.injEq] at e
      exact .inr (.inl ⟨m, by rw [e.1]⟩)

/-- a step that produces something stands at ONE position of the second array -/
theorem decomp_unique {S1 S2 S1' S2' : Script} {st st' : Step}
    (h : S1 ++ st :: S2 = S1' ++ st' :: S2') (hl : (tgt S1).length = (tgt S1').length)
    (hs : st.tgt ≠ []) (hs' : st'.tgt ≠ []) : S1 = S1' ∧ st = st' ∧ S2 = S2' := by
  rcases split_cases h with e | ⟨m, e⟩ | ⟨m, e⟩
  · exact e
  · exfalso
    rw [e] at hl
    simp only [tgt_append, tgt_cons, List.length_append] at hl
    have := List.length_pos_iff.2 hs
    omega
  · exfalso
    rw [e] at hl
    simp only [tgt_append, tgt_cons, List.length_append] at hl
    have := List.length_pos_iff.2 hs'
    omega

/-- **localisation below a list index.** A hunk of a rendered alignment whose path goes STRICTLY
    below the index `j` (it starts with `p ++ [j, e]`) belongs to the sub-diff of a `sub` step
    standing at position `j` of the second array -/
theorem hunk_below_index {o : Opts} {p : Path} {S : Script} {h : Hunk}
    (hm : h ∈ hunks o p 0 .void S) {j : Nat} {e : PathElem}
    (hpre : (p ++ [PathElem.idx (j : Int), e]) <+: h.path) :
    ∃ S1 x y S2, S = S1 ++ .sub x y :: S2 ∧ (tgt S1).length = j ∧
      h ∈ diffNode o false x y (p ++ [.idx (j : Int)]) := by
  rcases mem_hunks S 0 .void hm with ⟨S1, R, A, S2, _, eh⟩ | ⟨S1, x, y, S2, e1, eh⟩
  · exfalso
    have := hpre.length_le
    rw [eh] at this
    simp at this
  · have hp1 := Real.diff_paths_extend_general o false x y _ h eh
    have hj : ((0 + (tgt S1).length : Nat) : Int) = (j : Int) :=
      PathElem.idx.inj (Real.snoc_prefix_unique hp1 (Real.prefix_snoc_of_prefix_cons hpre))
    have hj' : (tgt S1).length = j := by omega
    refine ⟨S1, x, y, S2, e1, hj', ?_⟩
    rw [← hj]; exact eh

/-- **clause 1 for list elements, one array level.** An element `y` of the second array that the
    alignment KEEPS (it stands for an element `x` of the first array with the same hash code) is not
    mentioned: no hunk goes below its index `j`, and a hunk addressed to `j` itself adds nothing (it
    removes elements standing before the kept one) -/
theorem kept_not_mentioned {o : Opts} {t t' : Tag} {xs ys : List Json} {S1 S2 : Script} {x y : Json}
    (al : Aligned o t xs t' ys (S1 ++ .keep x y :: S2)) (p : Path) :
    ∀ h ∈ diffNode o false (.arr t xs) (.arr t' ys) p,
      (∀ e, ¬ (p ++ [PathElem.idx ((tgt S1).length : Int), e]) <+: h.path) ∧
      (h.path = p ++ [PathElem.idx ((tgt S1).length : Int)] →
        h.add = [] ∧ ∃ S0 R S0', S1 = S0 ++ .edit R [] :: S0' ∧ tgt S0' = [] ∧ h.remove = R) := by
  intro h hm
  rw [al.diff_eq p] at hm
  constructor
  · intro e hpre
    obtain ⟨S1', x', y', S2', e1, hl, _⟩ := hunk_below_index hm hpre
    have := decomp_unique e1 hl.symm (by simp [Step.tgt]) (by simp [Step.tgt])
    cases this.2.1
  · intro hpath
    rcases mem_hunks _ 0 .void hm with ⟨S1', R, A, S2', e1, eh⟩ | ⟨S1', x', y', S2', e1, eh⟩
    · have hj : ((0 + (tgt S1').length : Nat) : Int) = ((tgt S1).length : Int) := by
        have h1 : (p ++ [PathElem.idx ((0 + (tgt S1').length : Nat) : Int)]) <+: h.path := by
          rw [eh]; exact List.prefix_refl _
        have h2 : (p ++ PathElem.idx ((tgt S1).length : Int) :: []) <+: h.path := by
          rw [hpath]; exact List.prefix_refl _
        exact PathElem.idx.inj (Real.snoc_prefix_unique h1 h2)
      have hj' : (tgt S1').length = (tgt S1).length := by omega
      rcases split_cases e1 with e2 | ⟨m, e2⟩ | ⟨m, e2⟩
      · cases e2.2.1
      · exfalso
        rw [e2] at hj'
        simp [tgt_append, Step.tgt] at hj'
      · rw [e2] at hj'
        simp only [tgt_append, tgt_cons, Step.tgt, List.length_append] at hj'
        have hA : A = [] := List.eq_nil_of_length_eq_zero (by omega)
        have hM : tgt m = [] := List.eq_nil_of_length_eq_zero (by omega)
        subst hA
        rw [eh]
        exact ⟨rfl, S1', R, m, e2, hM, rfl⟩
    · exfalso
      have hp1 := Real.diff_paths_extend_general o false x' y' _ h eh
      have hj : ((0 + (tgt S1').length : Nat) : Int) = ((tgt S1).length : Int) := by
        have h2 : (p ++ PathElem.idx ((tgt S1).length : Int) :: []) <+: h.path := by
          rw [hpath]; exact List.prefix_refl _
        exact PathElem.idx.inj (Real.snoc_prefix_unique hp1 h2)
      have hj' : (tgt S1').length = (tgt S1).length := by omega
      have := decomp_unique e1 hj'.symm (by simp [Step.tgt]) (by simp [Step.tgt])
      cases this.2.1

/-! ## C. full depth: joint navigation of `a` and `b`, every hunk is real -/

/-- **joint navigation.** `Nav o a b qa q u w`: following the path `q`, `b` leads to `w`; following `qa`,
    `a` leads to `u`; `q` is the path the hunks carry. An object key enters the member of that name
    on both sides (same key in `qa` and `q`). A list index `j` in `q` enters, in `b`, the element `y`
    at position `j`; in `a` the element `x` that the alignment of the two arrays pairs with `y` by a
    `sub` step (`S1 ++ sub x y :: S2` with `|tgt S1| = j`): `x` stands at position `|src S1|` of the
    first array, which is the index `qa` carries — `j` shifted by the edits of `S1` -/
inductive Nav (o : Opts) : Json → Json → Path → Path → Json → Json → Prop
  | here (a b : Json) : Nav o a b [] [] a b
  | key {kvs kvs' : List (String × Json)} {k : String} {v v' : Json} {qa q : Path} {u w : Json} :
      alookup k kvs = some v → alookup k kvs' = some v' → Nav o v v' qa q u w →
      Nav o (.obj kvs) (.obj kvs') (.key k :: qa) (.key k :: q) u w
  | idx {t t' : Tag} {xs ys : List Json} {S1 S2 : Script} {x y : Json} {qa q : Path} {u w : Json} :
      Aligned o t xs t' ys (S1 ++ .sub x y :: S2) → Nav o x y qa q u w →
      Nav o (.arr t xs) (.arr t' ys) (.idx ((src S1).length : Int) :: qa)
        (.idx ((tgt S1).length : Int) :: q) u w

/-- **what a hunk with path `r` says about the two values `u`, `w` standing at `r`** -/
inductive Leaf (o : Opts) (u w : Json) (r : Path) (h : Hunk) : Prop
  /-- it replaces `u` by `w` as a whole (`Real.RealOpt`: removes what `a` holds, adds what `b` holds,
      and these are not `Equals`) -/
  | value : h.path = r → h.before = [] → h.after = [] → h.merge = false →
      sameContainerType o u w = false → Real.RealOpt o (some u) (some w) h → Leaf o u w r h
  /-- `u`, `w` are objects and it removes or adds the member `k`, present on one side only -/
  | member (kvs kvs' : List (String × Json)) (k : String) : u = .obj kvs → w = .obj kvs' →
      h.path = r ++ [.key k] → h.before = [] → h.after = [] → h.merge = false →
      (alookup k kvs = none ∨ alookup k kvs' = none) →
      Real.RealOpt o (alookup k kvs) (alookup k kvs') h → Leaf o u w r h
  /-- `u`, `w` are arrays and it is the `edit R A` step of their alignment: at the index where `A`
      stands in `w`, removing the run `R` of `u`, with the neighbours as context -/
  | list (t : Tag) (xs : List Json) (t' : Tag) (ys : List Json) (S1 : Script) (R A : List Json)
      (S2 : Script) : u = .arr t xs → w = .arr t' ys →
      Aligned o t xs t' ys (S1 ++ .edit R A :: S2) →
      h = { path := r ++ [.idx ((tgt S1).length : Int)],
            before := [(tgt S1).getLast?.getD .void], remove := R, add := A,
            after := [(src S2).headD .void] } → Leaf o u w r h

/-- the hunk `h` of the diff of `a` and `b` computed below the path `p` is real: its path is `p ++ q`
    (`++ [k]`, `++ [i]`) for a joint navigation `q` of `a` and `b`, and it is a `Leaf` there -/
def HunkReal (o : Opts) (a b : Json) (p : Path) (h : Hunk) : Prop :=
  ∃ qa q u w, Nav o a b qa q u w ∧ Leaf o u w (p ++ q) h

/-- **clauses 2 and 3 at full depth.** Every hunk of the diff of `a` and `b` below `p` is real.
    `a` as read from text (`rawDoc`), both documents `Good` (list documents, sorted unique keys,
    finite numbers, no void member), numbers of `a` and `b` that are equal as floats hash alike
    (`NumHashOK` on supersets `S`, `T` of the sub-terms), no Precision. -/
theorem diffNode_hunk_real {o : Opts} (ho : dispatchTag o = .list) (hp : precOf o = 0)
    {S T : List Json} (N : NumHashOK o S T) :
    ∀ (a b : Json), a.rawDoc = true → Good a → Good b →
      Sub (subterms a) S → Sub (subterms b) T →
      ∀ p, ∀ h ∈ diffNode o false a b p, HunkReal o a b p h := by
  -- not two objects, not two lists: one hunk that replaces the value
  have other : ∀ {a b : Json} {p : Path} {h : Hunk}, a.rawDoc = true →
      (∀ kvs kvs', a = .obj kvs → b ≠ .obj kvs') →
      (∀ t xs t' ys, a = .arr t xs → b ≠ .arr t' ys) →
      h ∈ diffNode o false a b p → HunkReal o a b p h := fun hr hobj harr hm => by
    obtain ⟨e1, e2, e3, e4, hs, hro⟩ := Real.replace_real ho hp hr hobj harr hm
    exact ⟨[], [], _, _, .here _ _, .value (by simpa using e1) e2 e3 e4 hs hro⟩
  intro a
  induction a using jsonIndScalar with
  | scalar a h1 h2 =>
    exact fun b hr _ _ _ _ p h hm =>
      other hr (fun kvs _ e => absurd e (h2 kvs)) (fun t xs _ _ e => absurd e (h1 t xs)) hm
  | obj kvs ih =>
    intro b hr ha hb hS hT p h hm
    by_cases hobj : ∃ kvs', b = .obj kvs'
    · obtain ⟨kvs', rfl⟩ := hobj
      have ha' := good_obj.1 ha
      have hb' := good_obj.1 hb
      simp only [Json.rawDoc] at hr
      obtain ⟨k, _, hc⟩ := DE.mem_diffNode_obj hm
      rcases hc with ⟨v, v', hmem, hv', hh⟩ | ⟨v, hmem, hn, rfl⟩ | ⟨v', hmem', hn, rfl⟩
      · have hv : alookup k kvs = some v := alookup_of_mem ha'.1 hmem
        obtain ⟨qa, q, u, w, nav, leaf⟩ := ih k v hmem v' (alookup_rawDoc hv hr)
          (ha'.2.lookup hv).1 (hb'.2.lookup hv').1 (sub_lookup (sub_obj hS) hv)
          (sub_lookup (sub_obj hT) hv') _ h hh
        exact ⟨.key k :: qa, .key k :: q, u, w, .key hv hv' nav,
          by simpa [List.append_assoc] using leaf⟩
      · refine ⟨[], [], _, _, .here _ _,
          .member kvs kvs' k rfl rfl (by simp [DE.remHunk]) rfl rfl rfl (.inr hn) ?_⟩
        rw [alookup_of_mem ha'.1 hmem, hn]
        exact Real.realOpt_removeOnly rfl rfl
      · refine ⟨[], [], _, _, .here _ _,
          .member kvs kvs' k rfl rfl (by simp) rfl rfl rfl (.inl hn) ?_⟩
        rw [hn, alookup_of_mem hb'.1 hmem']
        exact Real.realOpt_addOnly rfl rfl
    · exact other hr (fun _ kvs' _ e' => hobj ⟨kvs', e'⟩) (fun _ _ _ _ e => nomatch e) hm
  | arr t xs ih =>
    intro b hr ha hb hS hT p h hm
    by_cases harr : ∃ t' ys, b = .arr t' ys
    · obtain ⟨t', ys, rfl⟩ := harr
      simp only [Json.rawDoc, Bool.and_eq_true, beq_iff_eq] at hr
      obtain ⟨rfl, hrx⟩ := hr
      have ha' := good_arr.1 ha
      have hb' := good_arr.1 hb
      have nomix : ∀ x ∈ xs, ∀ y ∈ ys, mixedPair x y = false :=
        fun x hx y _ => mixedPair_of_rawDoc_left y (DES.rawDocList_mem hrx hx)
      have Z : NumHashOK o (subtermsList xs) (subtermsList ys) :=
        fun u v hu hv => N u v (sub_arr hS _ hu) (sub_arr hT _ hv)
      obtain ⟨Sc, al⟩ := diffNode_aligned ho xs ys rfl hb'.1 (.inl rfl) ha'.2 hb'.2 Z nomix
      rw [al.diff_eq p] at hm
      rcases mem_hunks Sc 0 .void hm with ⟨S1, R, A, S2, e1, eh⟩ | ⟨S1, x, y, S2, e1, eh⟩
      · subst e1
        exact ⟨[], [], _, _, .here _ _, .list _ xs t' ys S1 R A S2 rfl rfl al (by simpa using eh)⟩
      · subst e1
        obtain ⟨hx, hy⟩ := al.sub_mem
        obtain ⟨qa, q, u, w, nav, leaf⟩ := ih x hx y (DES.rawDocList_mem hrx hx)
          (ha'.2.of_mem hx) (hb'.2.of_mem hy)
          (fun z hz => sub_arr hS z (DPL.subterms_sub_of_mem hx z hz))
          (fun z hz => sub_arr hT z (DPL.subterms_sub_of_mem hy z hz)) _ h eh
        refine ⟨.idx ((src S1).length : Int) :: qa, .idx ((tgt S1).length : Int) :: q, u, w,
          .idx al nav, ?_⟩
        simpa [List.append_assoc] using leaf
    · exact other hr (fun _ _ e => nomatch e) (fun _ _ t' ys _ e' => harr ⟨t', ys, e'⟩) hm

theorem diffM_hunk_real {o : Opts} (ho : dispatchTag o = .list) (hp : precOf o = 0)
    (hm : isMerge o = false) {a b : Json} (hr : a.rawDoc = true) (ha : Good a) (hb : Good b)
    (N : NumHashOK o (subterms a) (subterms b)) :
    ∀ h ∈ diffM o a b, HunkReal o a b [] h := by
  rw [diffM, hm]
  exact diffNode_hunk_real ho hp N a b hr ha hb (fun _ h => h) (fun _ h => h) []

/-! ## D. what the navigation means -/

/-- the path a hunk carries, read literally, is a path of `b` -/
theorem Nav.getAt_b {o : Opts} {a b : Json} {qa q : Path} {u w : Json} (nav : Nav o a b qa q u w) :
    Real.getAt b q = some w := by
  induction nav with
  | here a b => rfl
  | key hv hv' _ ih => simp [Real.getAt, hv', ih]
  | @idx t t' xs ys S1 S2 x y qa q u w al _ ih =>
    have e : ys = tgt S1 ++ y :: tgt S2 := by simpa [Step.tgt] using al.tgt_mid
    have h0 : ¬ ((tgt S1).length : Int) < 0 := by omega
    simp only [Real.getAt, h0, if_false, Int.toNat_natCast]
    rw [e, getElem?_mid]
    simpa using ih

/-- in `a` the hunk's location is reached by `qa`: the same keys, and at each list level the index
    of the partner element -/
theorem Nav.getAt_a {o : Opts} {a b : Json} {qa q : Path} {u w : Json} (nav : Nav o a b qa q u w) :
    Real.getAt a qa = some u := by
  induction nav with
  | here a b => rfl
  | key hv hv' _ ih => simp [Real.getAt, hv, ih]
  | @idx t t' xs ys S1 S2 x y qa q u w al _ ih =>
    have e : xs = src S1 ++ x :: src S2 := by simpa [Step.src] using al.src_mid
    have h0 : ¬ ((src S1).length : Int) < 0 := by omega
    simp only [Real.getAt, h0, if_false, Int.toNat_natCast]
    rw [e, getElem?_mid]
    simpa using ih

/-- the two paths have the same shape: the same keys at the same places, list indices at the same
    places -/
def sameShape : Path → Path → Prop
  | [], [] => True
  | .key k :: r, .key k' :: r' => k = k' ∧ sameShape r r'
  | .idx _ :: r, .idx _ :: r' => sameShape r r'
  | _, _ => False

theorem sameShape_append {qa q r r' : Path} (h : sameShape qa q) (h' : sameShape r r') :
    sameShape (qa ++ r) (q ++ r') := by
  fun_induction sameShape qa q with
  | case1 => simpa using h'
  | case2 k q k' q' ih => exact ⟨h.1, ih h.2⟩
  | case3 i q j q' ih => exact ih h
  | case4 => exact h.elim

theorem Nav.sameShape {o : Opts} {a b : Json} {qa q : Path} {u w : Json}
    (nav : Nav o a b qa q u w) : sameShape qa q := by
  induction nav with
  | here a b => trivial
  | key _ _ _ ih => exact ⟨rfl, ih⟩
  | idx _ _ ih => exact ih

/-- what an alignment removes (adds) in all: the lengths of its `edit` steps -/
def removedLen : Script → Nat
  | [] => 0
  | .edit R _ :: r => R.length + removedLen r
  | _ :: r => removedLen r

def addedLen : Script → Nat
  | [] => 0
  | .edit _ A :: r => A.length + addedLen r
  | _ :: r => addedLen r

theorem removedOf_length : ∀ (S : Script), (Align.removedOf S).length = removedLen S
  | [] => rfl
  | .keep _ _ :: r => by simp [Align.removedOf, removedLen, removedOf_length r]
  | .sub _ _ :: r => by simp [Align.removedOf, removedLen, removedOf_length r]
  | .edit _ _ :: r => by simp [Align.removedOf, removedLen, removedOf_length r]

theorem addedOf_length : ∀ (S : Script), (Align.addedOf S).length = addedLen S
  | [] => rfl
  | .keep _ _ :: r => by simp [Align.addedOf, addedLen, addedOf_length r]
  | .sub _ _ :: r => by simp [Align.addedOf, addedLen, addedOf_length r]
  | .edit _ _ :: r => by simp [Align.addedOf, addedLen, addedOf_length r]

/-- **the index shift**: the position in the first array (`|src S1|`) plus what the preceding edits
    add equals the position in the second array (`|tgt S1|`, the index in the path) plus what they
    remove: on both sides stand the kept, the recursed, the removed and the added elements -/
theorem index_shift (S1 : Script) :
    (src S1).length + addedLen S1 = (tgt S1).length + removedLen S1 := by
  rw [Align.src_length_eq, Align.tgt_length_eq, removedOf_length, addedOf_length]
  omega

/-- a navigation that ends with a list index ends at a `sub` pair: two containers of the same kind
    with different hash codes -/
theorem Nav.ends_idx {o : Opts} {a b : Json} {qa q : Path} {u w : Json} (nav : Nav o a b qa q u w) :
    ∀ (q' : Path) (i : Int), q = q' ++ [.idx i] →
      sameContainerType o u w = true ∧ hashCode o u ≠ hashCode o w := by
  induction nav with
  | here a b => intro q' i e; simp at e
  | key _ _ _ ih =>
    intro q' i e
    cases q' with
    | nil => simp at e
    | cons e0 r =>
      simp only [List.cons_append, List.cons.injEq] at e
      exact ih r i e.2
  | @idx t t' xs ys S1 S2 x y qa q u w al nav ih =>
    intro q' i e
    cases q' with
    | nil =>
      simp only [List.nil_append, List.cons.injEq] at e
      obtain ⟨_, rfl⟩ := e
      cases nav
      exact al.ok (.sub x y) (by simp)
    | cons e0 r =>
      simp only [List.cons_append, List.cons.injEq] at e
      exact ih r i e.2

theorem domL_mem {x : Json} {xs : List Json} (h : DomL xs) (hx : x ∈ xs) : Dom x :=
  domL_iff.1 h x hx

theorem hered_dom : Hered Dom :=
  ⟨fun h hx => domL_mem (dom_arr.1 h).2 hx,
   fun h hm => (dom_obj.1 h).2.lookup (alookup_of_mem (dom_obj.1 h).1 hm)⟩

/-- what the elements of an array and the member values of an object inherit passes along a
    navigation, on either side -/
theorem Nav.hered {o : Opts} {P Q : Json → Prop} (HP : Hered P) (HQ : Hered Q) {a b : Json}
    {qa q : Path} {u w : Json} (nav : Nav o a b qa q u w) : P a → Q b → P u ∧ Q w := by
  induction nav with
  | here a b => exact fun ha hb => ⟨ha, hb⟩
  | key hv hv' _ ih =>
    exact fun ha hb => ih (HP.member ha (mem_of_alookup hv)) (HQ.member hb (mem_of_alookup hv'))
  | idx al _ ih => exact fun ha hb => ih (HP.elem ha al.sub_mem.1) (HQ.elem hb al.sub_mem.2)

theorem Nav.dom {o : Opts} {a b : Json} {qa q : Path} {u w : Json} (nav : Nav o a b qa q u w) :
    Dom a → Dom b → Dom u ∧ Dom w :=
  nav.hered hered_dom hered_dom

/-! ## E. the flat reading of a list hunk, and the `Equals` forms of clause 3 -/

/-- **every hunk whose path ends with a list index, at any depth** (`h.path = q ++ [i]`): `b` holds
    an array `ys` at `q` (the path read literally); `a` holds an array `xs` at a path `qa` of the same
    shape (same keys; indices shifted, `Nav`); `remove` is a contiguous run of `xs`, `add` is the
    contiguous run of `ys` standing at index `i`, `before` / `after` are LITERALLY the neighbours
    (`Real.Located`); the hunk is not empty; the j-th removed and the j-th added value have
    different hash codes -/
theorem hunkReal_list {o : Opts} {a b : Json} {h : Hunk} (hr : HunkReal o a b [] h)
    {q : Path} {i : Int} (hpath : h.path = q ++ [.idx i]) :
    ∃ (qa : Path) (t : Tag) (xs : List Json) (t' : Tag) (ys : List Json),
      Nav o a b qa q (.arr t xs) (.arr t' ys) ∧
      Real.getAt a qa = some (.arr t xs) ∧ Real.getAt b q = some (.arr t' ys) ∧ sameShape qa q ∧
      Real.Located q xs ys h ∧ Real.HashApart o h.remove h.add ∧ (h.remove ≠ [] ∨ h.add ≠ []) ∧
      h.merge = false := by
  obtain ⟨qa, q0, u, w, nav, leaf⟩ := hr
  simp only [List.nil_append] at leaf
  cases leaf with
  | value hp0 _ _ _ hs _ =>
    exfalso
    have := (nav.ends_idx q i (hp0.symm.trans hpath)).1
    rw [hs] at this
    cases this
  | member kvs kvs' k _ _ hp0 =>
    exfalso
    rw [hpath] at hp0
    have := List.append_inj_right' hp0 (by simp)
    simp at this
  | list t xs t' ys S1 R A S2 hu hw al eh =>
    subst hu; subst hw
    have hq : q0 = q := by
      rw [eh] at hpath
      exact List.append_inj_left' hpath (by simp)
    subst hq
    exact ⟨qa, t, xs, t', ys, nav, nav.getAt_a, nav.getAt_b, nav.sameShape, al.edit_located q0 eh⟩

/-- every OTHER hunk (its path does not end with a list index) replaces one value: `a` holds `u` at
    `qa`, `b` holds `w` at the hunk's path (or one of them holds nothing there: a member removed
    or added), and `Real.RealOpt` -/
theorem hunkReal_value {o : Opts} {a b : Json} {h : Hunk} (hr : HunkReal o a b [] h)
    (hpath : ∀ q i, h.path ≠ q ++ [.idx i]) :
    h.before = [] ∧ h.after = [] ∧ h.merge = false ∧
    ∃ qa, sameShape qa h.path ∧ Real.RealOpt o (Real.getAt a qa) (Real.getAt b h.path) h := by
  obtain ⟨qa, q0, u, w, nav, leaf⟩ := hr
  simp only [List.nil_append] at leaf
  cases leaf with
  | value hp0 hb ha hm _ hro =>
    refine ⟨hb, ha, hm, qa, ?_, ?_⟩
    · rw [hp0]; exact nav.sameShape
    · rw [hp0, nav.getAt_a, nav.getAt_b]; exact hro
  | member kvs kvs' k hu hw hp0 hb ha hm _ hro =>
    subst hu; subst hw
    refine ⟨hb, ha, hm, qa ++ [.key k], ?_, ?_⟩
    · rw [hp0]; exact sameShape_append nav.sameShape ⟨rfl, trivial⟩
    · rw [hp0, Real.getAt_append, Real.getAt_append, nav.getAt_a, nav.getAt_b]
      simpa [Real.getAt] using hro
  | list t xs t' ys S1 R A S2 hu hw al eh =>
    exact absurd (by rw [eh]) (hpath q0 _)

/-- **clause 3 at full depth, `Equals` form**: in every hunk whose path ends with a list index the
    j-th removed value is not `Equals` to the j-th added value, and `remove ≠ add` -/
theorem hunkReal_list_not_equals (F : FloatEq0) {o : Opts} (ho : dispatchTag o = .list)
    (hp : precOf o = 0) {a b : Json} (da : Dom a) (db : Dom b) {h : Hunk}
    (hr : HunkReal o a b [] h) {q : Path} {i : Int} (hpath : h.path = q ++ [.idx i]) :
    (∀ (j : Nat) (r w : Json), h.remove[j]? = some r → h.add[j]? = some w → equals o r w = false) ∧
    h.remove ≠ h.add := by
  obtain ⟨qa, t, xs, t', ys, nav, _, _, _, ⟨i', preA, postA, preB, postB, _, eX, eY, _⟩, hap, hne, _⟩ :=
    hunkReal_list hr hpath
  obtain ⟨du, dw⟩ := nav.dom da db
  have hR : ∀ r ∈ h.remove, Dom r := fun r hr =>
    domL_mem (dom_arr.1 du).2 (by rw [eX]; simp [hr])
  have hA : ∀ w ∈ h.add, Dom w := fun w hw =>
    domL_mem (dom_arr.1 dw).2 (by rw [eY]; simp [hw])
  refine ⟨Real.hashApart_not_equals F ho hp hap hR hA, fun e => ?_⟩
  cases hadd : h.add with
  | nil => rw [e, hadd] at hne; simp at hne
  | cons w r =>
    rw [e, hadd] at hap
    exact hap 0 w w rfl rfl rfl

/-- **no step of the navigation enters an `Equals` pair of list elements**: whenever the path of the
    navigation ends with a list index, the two elements reached are not `Equals` -/
theorem Nav.not_equals (F : FloatEq0) {o : Opts} (ho : dispatchTag o = .list) (hp : precOf o = 0)
    {a b : Json} (da : Dom a) (db : Dom b) {qa q : Path} {u w : Json} (nav : Nav o a b qa q u w)
    {q' : Path} {i : Int} (e : q = q' ++ [.idx i]) : equals o u w = false := by
  obtain ⟨du, dw⟩ := nav.dom da db
  cases he : equals o u w with
  | false => rfl
  | true => exact absurd (hashCode_eq_of_equals F o ho hp u w du dw he) (nav.ends_idx q' i e).2

/-! ## F. clause 1 at full depth: hunks below a location belong to the sub-diff there -/

/-- **localisation.** The hunks of the diff of `a` and `b` (below `p`) whose path starts with
    `p ++ q ++ r`, where `q` is a joint navigation of `a` and `b` to `u`, `w`, are hunks of the sub-diff
    of `u` and `w` computed at `p ++ q` — provided `r ≠ []` (strictly below) or `q` does not end with
    a list index (an array-level hunk addressed TO the index `j` is not a hunk of the element
    standing at `j`). List documents with sorted unique keys. -/
theorem hunk_below_nav {o : Opts} (ho : dispatchTag o = .list) {a b : Json} {qa q : Path}
    {u w : Json} (nav : Nav o a b qa q u w) :
    a.listDoc = true → a.wf = true → b.listDoc = true → b.wf = true →
    ∀ (p : Path) (h : Hunk), h ∈ diffNode o false a b p → ∀ (r : Path), (p ++ q ++ r) <+: h.path →
      (r ≠ [] ∨ ∀ q' i, q ≠ q' ++ [PathElem.idx i]) → h ∈ diffNode o false u w (p ++ q) := by
  induction nav with
  | here a b => intro _ _ _ _ p h hm _ _ _; simpa using hm
  | @key kvs kvs' k v v' qa q0 u w hv hv' nav ih =>
    intro hla hwa hlb hwb p h hm r hpre hc
    simp only [Json.listDoc] at hla hlb
    simp only [Json.wf, Bool.and_eq_true] at hwa hwb
    have hpre1 : (p ++ [PathElem.key k]) <+: h.path := by
      refine List.IsPrefix.trans ?_ hpre
      exact ⟨q0 ++ r, by simp⟩
    have hpre2 : ((p ++ [PathElem.key k]) ++ q0 ++ r) <+: h.path := by simpa using hpre
    have hc2 : r ≠ [] ∨ ∀ q' i, q0 ≠ q' ++ [PathElem.idx i] := by
      rcases hc with hc | hc
      · exact .inl hc
      · exact .inr (fun q' i e => hc (.key k :: q') i (by rw [e]; rfl))
    have := ih (alookup_listDoc hv hla) (alookup_wf hv hwa.2) (alookup_listDoc hv' hlb)
      (alookup_wf hv' hwb.2) (p ++ [PathElem.key k]) h
      (Real.below_key hwa.1 hv hv' hm hpre1) r hpre2 hc2
    simpa using this
  | @idx t t' xs ys S1 S2 x y qa q0 u w al nav ih =>
    intro hla hwa hlb hwb p h hm r hpre hc
    simp only [Json.listDoc, Bool.and_eq_true] at hla hlb
    simp only [Json.wf] at hwa hwb
    obtain ⟨hx, hy⟩ := al.sub_mem
    have hpre2 : ((p ++ [PathElem.idx ((tgt S1).length : Int)]) ++ q0 ++ r) <+: h.path := by
      simpa using hpre
    have hc2 : r ≠ [] ∨ ∀ q' i, q0 ≠ q' ++ [PathElem.idx i] := by
      rcases hc with hc | hc
      · exact .inl hc
      · exact .inr (fun q' i e => hc (.idx ((tgt S1).length : Int) :: q') i (by rw [e]; rfl))
    obtain ⟨e, rest, he⟩ : ∃ e rest, q0 ++ r = e :: rest := by
      cases hq : q0 ++ r with
      | cons e rest => exact ⟨e, rest, rfl⟩
      | nil =>
        exfalso
        simp only [List.append_eq_nil_iff] at hq
        rcases hc with hc | hc
        · exact hc hq.2
        · exact hc [] _ (by rw [hq.1]; rfl)
    have hpre3 : (p ++ [PathElem.idx ((tgt S1).length : Int), e]) <+: h.path := by
      refine List.IsPrefix.trans ?_ hpre
      refine ⟨rest, ?_⟩
      simp only [List.append_assoc, List.cons_append, List.nil_append]
      rw [he]
    rw [al.diff_eq p] at hm
    obtain ⟨S1', x', y', S2', e1, hl, hm'⟩ := hunk_below_index hm hpre3
    obtain ⟨rfl, e2, rfl⟩ := decomp_unique e1 hl.symm (by simp [Step.tgt]) (by simp [Step.tgt])
    cases e2
    have := ih (listDoc_of_mem hla.2 hx) (wf_of_mem hwa hx) (listDoc_of_mem hlb.2 hy)
      (wf_of_mem hwb hy) (p ++ [PathElem.idx ((tgt S1).length : Int)]) h hm' r hpre2 hc2
    simpa using this

/-- **clause 1 for list elements at full depth.** `a` and `b` hold the arrays `xs`, `ys` at the joint
    location `q`, and their alignment KEEPS `x` for `y` (one hash code; `y` stands at index `j` of
    `ys`). Then no hunk of the diff goes below `q ++ [j]`, and a hunk addressed to `q ++ [j]` itself
    adds nothing -/
theorem kept_not_mentioned_deep {o : Opts} (ho : dispatchTag o = .list) {a b : Json} {qa q : Path}
    {t t' : Tag} {xs ys : List Json} (nav : Nav o a b qa q (.arr t xs) (.arr t' ys))
    {S1 S2 : Script} {x y : Json} (al : Aligned o t xs t' ys (S1 ++ .keep x y :: S2))
    (hla : a.listDoc = true) (hwa : a.wf = true) (hlb : b.listDoc = true) (hwb : b.wf = true)
    (p : Path) :
    ∀ h ∈ diffNode o false a b p,
      (∀ e, ¬ (p ++ q ++ [PathElem.idx ((tgt S1).length : Int), e]) <+: h.path) ∧
      (h.path = p ++ q ++ [PathElem.idx ((tgt S1).length : Int)] → h.add = []) := by
  intro h hm
  constructor
  · intro e hpre
    have hm' := hunk_below_nav ho nav hla hwa hlb hwb p h hm _ hpre (.inl (by simp))
    exact (kept_not_mentioned al (p ++ q) h hm').1 e hpre
  · intro hpath
    have hm' := hunk_below_nav ho nav hla hwa hlb hwb p h hm [.idx ((tgt S1).length : Int)]
      (by rw [hpath]; exact List.prefix_refl _) (.inl (by simp))
    exact ((kept_not_mentioned al (p ++ q) h hm').2 hpath).1

theorem Nav.rawDoc {o : Opts} {a b : Json} {qa q : Path} {u w : Json} (nav : Nav o a b qa q u w) :
    a.rawDoc = true → u.rawDoc = true :=
  fun hr => (nav.hered hered_rawDoc (Q := fun _ => True) ⟨fun _ _ => trivial, fun _ _ => trivial⟩
    hr trivial).1

/-- **clause 1 at full depth: `Equals` sub-documents are never mentioned.** If the joint navigation
    `q` leads to `Equals` values `u`, `w` (through object keys AND list elements), no hunk of the diff
    has a path at or below `q` -/
theorem equal_not_mentioned (F : FloatEq0) {o : Opts} (ho : dispatchTag o = .list)
    (hp : precOf o = 0) {a b : Json} (hr : a.rawDoc = true) (da : Dom a) (db : Dom b)
    {qa q : Path} {u w : Json} (nav : Nav o a b qa q u w) (he : equals o u w = true) (p : Path) :
    ∀ h ∈ diffNode o false a b p, ¬ (p ++ q) <+: h.path := by
  intro h hm hpre
  obtain ⟨du, dw⟩ := nav.dom da db
  have hc : ∀ q' i, q ≠ q' ++ [PathElem.idx i] := by
    intro q' i e
    have := nav.not_equals F ho hp da db e
    rw [he] at this
    cases this
  have hm' := hunk_below_nav ho nav da.listDoc da.wf db.listDoc db.wf p h hm []
    (by simpa using hpre) (.inr hc)
  rw [diffNode_nil_of_equals F o ho hp false u w (nav.rawDoc hr) du dw he (p ++ q)] at hm'
  cases hm'

end Jd.RealL
