/-
  JdProofs.V1ListDiffPatch — property C17 (v1 API `lib/`), arrays read as lists, strict strategy:

    patching `a` with `a.Diff(b, m...)` yields a document that `Equals` `b`, and the diff is empty
    exactly when `Equals` holds.

  Everything is about the LIBRARY functions of the v1 model (`Jd.V1.diffM`, `Jd.V1.patchM`,
  `Jd.V1.equals`); no reference interpreter in between.

  Namespaces. `Jd.V1L`: the general development, for any metadata under which arrays are read as
  lists (`V1.dispatchTag m = .list`), with whatever precision; the conclusion is `Equals` under the
  metadata. `Jd.V1P`: what does not depend on the metadata (the patch code on one hunk, frame lemmas,
  the domain), and the instance `ListMode m` (precision 0 or absent), where `Equals` is structural
  equality. JdProofs.V1Precision holds the instance with a precision. `Jd.V1S` (§9): what the strict
  diff and patch do in EVERY reading, for any relation `R` between the patched value and the
  target — `StepR R m a b p`, the step of a scalar, of a value replaced as a whole and of two objects
  (`ObjDom.obj_step`: `ObjPatch.obj_step` of JdProofs.ObjStep at the instance `objPatch` of
  `V1.patchAll`, whose one-hunk law below a key is `ap_key`) over a domain of documents `ObjDom P`. The list reading (`V1L.diff_correct`, relation `V1L.Reach`) and the SET /
  MULTISET readings of JdProofs.V1SetDiffPatch differ in the step of two arrays only.

  Domain
    * metadata `ListMode m`: no SET, no MULTISET, no MERGE, precision 0 or absent; a `setkeys`
      metadata is allowed (`V1.dispatchTag` looks at SET / MULTISET only: `Setkeys` alone leaves
      arrays as lists in v1);
    * documents: `listDoc` (array nodes are `jsonArray` / `jsonList`), `wf` (sorted unique keys),
      `finiteNums` (reflexivity of `Equals` on numbers: the patch code checks the old value),
      `vfree` (no void array element, no void object member; `DPL.memOK` only excludes void
      members: a void ARRAY ELEMENT would make the positional diff emit `old = []`, which
      `jsonList.patch` reads as an INSERTION — the statement is false there, but a reader never
      produces such a document);
    * `FloatLaws` (IEEE-754 reflexivity / symmetry of `|x - y| ≤ eps`), and `IdxLaws N` with
      `lenLe N a`: v1 list indices are `jsonNumber`s, the diff writes `float64(i)` and the patch
      reads `int(jn)`; `Float` is opaque to the kernel, so the exactness of that round trip (true for
      `i < 2^53`) and of `-1` is an explicit hypothesis, used only for indices `< N` where every
      array of `a` has at most `N` elements.
    NO hash hypothesis: v1 list mode never hashes (positional diff, `Equals` pointwise).

  How v1 treats the precision (read from /repo/lib): `jsonNumber.Equals` (number.go:33) compares
  `|n1 - n2| <= getPrecision(metadata)` and every container `Equals` passes the metadata down; `diff`
  of diff_common.go:10 calls `a.Equals(b, metadata...)` WITH the metadata; the positional
  `jsonList.diff` (list.go:55-123) recurses into the elements at the same index and never compares
  them itself; the patch checks old values with `Equals(oldValue)` WITHOUT metadata, i.e. exactly —
  they are values of `a` itself, so the check succeeds. Hence the patch always applies and its result
  has the numbers of `a` wherever they were within the precision of `b`'s: it `Equals` `b` under the
  metadata (`V1L.diff_correct`), and structurally only at precision 0 (`V1P.diff_correct`).

  Main results
    1. `v1_equals_eq` : `ListMode m → a.listDoc → V1.equals m a b = Jd.equals [] a b`
       (so the v2 theorems transfer), `v1_equals_eq_specEq`, `v1_equals_refl`, `v1_equals_symm`.
    2. `v1_diff_patch_list` :
         ∃ r, V1.patchM a (V1.diffM m a b) = .ok r ∧ V1.equals m r b = true ∧ specEq r b = true ∧
              specEq b r = true ∧ r.listDoc = true
       (`v1_diff_patch_list_untag`: the same with `untag` on both sides), from the induction
       `V1L.diff_correct` over the v1 diff (`V1L.induct`: induction on the source document with only
       the branches reachable in the list reading). The list invariant: the hunks for the indices of
       a segment turn that segment of `a` into values equal to the corresponding segment of `b` and
       touch nothing else, for both hunk orders (increasing index when the list grows, decreasing
       after the deletions otherwise).
    3. `v1_diff_empty_iff_equals` : `V1.diffM m a b = [] ↔ V1.equals m a b = true` for `a.rawDoc`
       (what the readers produce), `b.listDoc`, both `wf`. For a `jsonList`-typed array in `a`
       against a plain `jsonArray` in `b` the MODEL gives a one-hunk diff although `Equals` holds
       (`tag_witness`; see `V1Pr.typed_result_diff_nonempty` for how such a pair arises).
    4. what the hunks are made of, for the modules that render or transport a diff:
       `V1L.diff_parts` (values and path keys are parts of the two documents; no hunk without a
       value unless a void element or member stands behind it) and `V1L.diff_idx` (the list
       indices on the paths).
-/
import JdModel
import JdSpec
import JdProofs.EqualsList
import JdProofs.StrictPatch
import JdProofs.DiffPatchList
import JdProofs.Common
import JdProofs.PatchRender
import JdProofs.ObjStep
import JdProofs.V1Core

namespace Jd.V1P
open Jd Jd.Spec Jd.DPL

/-! ## 0. list mode -/

/-- v1 metadata of the theorems: no SET, no MULTISET, no MERGE, precision 0 or absent; a `setkeys`
    metadata is allowed (alone it leaves arrays as lists in v1) -/
structure ListMode (m : V1.Metas) : Prop where
  noSet : V1.hasSet m = false
  noMset : V1.hasMset m = false
  noMerge : V1.hasMerge m = false
  prec0 : V1.precOf m = 0

theorem ListMode.nil : ListMode [] := ⟨rfl, rfl, rfl, rfl⟩

theorem ListMode.setkeys (ks : List String) : ListMode [.setkeys ks] := ⟨rfl, rfl, rfl, rfl⟩

/-- without SET and MULTISET arrays are read as lists (`Setkeys` alone does not change that) -/
theorem tag_list {m : V1.Metas} (h1 : V1.hasSet m = false) (h2 : V1.hasMset m = false) :
    V1.dispatchTag m = .list := by
  simp [V1.dispatchTag, h1, h2]

theorem ListMode.tag {m : V1.Metas} (hm : ListMode m) : V1.dispatchTag m = .list :=
  tag_list hm.noSet hm.noMset

end Jd.V1P

/-! ## 1. the list reading of arrays

  All that the v1 `Equals` and the v1 diff use of the metadata is that arrays are read as lists
  (`V1.dispatchTag m = .list`: no SET, no MULTISET) and the precision `V1.precOf m`. The lemmas of
  `Jd.V1L` assume exactly that; `V1P.ListMode` (precision 0), `V1Pr.ListReading` (any precision) and
  the merge modes of `V1M` / `V1PM` are instances. -/

namespace Jd.V1L
open Jd Jd.Spec Jd.DPL Jd.V1P

theorem dispatch_listDoc {m : V1.Metas} (hl : V1.dispatchTag m = .list) {b : Json}
    (hb : b.listDoc = true) : (V1.dispatch m b).listDoc = true := by
  cases b with
  | arr t ys => cases t <;> simp_all [V1.dispatch, Json.listDoc]
  | _ => simpa [V1.dispatch] using hb

theorem dispatch_idem {m : V1.Metas} (hl : V1.dispatchTag m = .list) (b : Json) :
    V1.dispatch m (V1.dispatch m b) = V1.dispatch m b := by
  cases b with
  | arr t ys => cases t <;> simp [V1.dispatch, hl]
  | _ => rfl

theorem v2_equals_arr (o : Opts) (ho : dispatchTag o = .list) {t : Tag} (ht : okTag t)
    (xs : List Json) (b : Json) :
    equals o (.arr t xs) b =
      match b with
      | .arr .raw ys => equalsList o xs ys
      | .arr .list ys => equalsList o xs ys
      | _ => false := by
  rw [equals.eq_def]
  have : effTag o t = .list := by cases t <;> simp_all [effTag, okTag]
  simp only [this]
  cases b with
  | arr t' ys => cases t' <;> simp [Json.dispatch, ho]
  | _ => simp [Json.dispatch]

mutual
/-- the v1 `Equals` on list documents is the v2 `Equals` under any options with the list reading
    and the same precision -/
theorem equals_eq {m : V1.Metas} (hl : V1.dispatchTag m = .list) (o : Opts)
    (ho : dispatchTag o = .list) (hp : precOf o = V1.precOf m) :
    ∀ (a b : Json), a.listDoc = true → V1.equals m a b = equals o a b
  | .void, b, _ => by simp [V1.equals, equals]
  | .null, b, _ => by simp [V1.equals, equals]
  | .bool x, b, _ => by cases b <;> simp [V1.equals, equals]
  | .num x, b, _ => by cases b <;> simp [V1.equals, equals, hp]
  | .str x, b, _ => by cases b <;> simp [V1.equals, equals]
  | .arr t xs, b, ha => by
    simp only [Json.listDoc, Bool.and_eq_true] at ha
    rw [equals_arr hl ha.1, v2_equals_arr o ho ha.1]
    cases b with
    | arr t' ys => cases t' <;> simp [equalsList_eq hl o ho hp xs ys ha.2]
    | _ => rfl
  | .obj kvs, b, ha => by
    simp only [Json.listDoc] at ha
    cases b with
    | obj kvs' => simp [V1.equals, equals, equalsKvs_eq hl o ho hp kvs kvs' ha]
    | _ => simp [V1.equals, equals]
theorem equalsList_eq {m : V1.Metas} (hl : V1.dispatchTag m = .list) (o : Opts)
    (ho : dispatchTag o = .list) (hp : precOf o = V1.precOf m) :
    ∀ (xs ys : List Json), listDocList xs = true → V1.equalsList m xs ys = equalsList o xs ys
  | [], ys, _ => by cases ys <;> simp [V1.equalsList, equalsList]
  | x :: xs, [], _ => by simp [V1.equalsList, equalsList]
  | x :: xs, y :: ys, ha => by
    simp only [listDocList, Bool.and_eq_true] at ha
    simp [V1.equalsList, equalsList, equals_eq hl o ho hp x y ha.1,
      equalsList_eq hl o ho hp xs ys ha.2]
theorem equalsKvs_eq {m : V1.Metas} (hl : V1.dispatchTag m = .list) (o : Opts)
    (ho : dispatchTag o = .list) (hp : precOf o = V1.precOf m) :
    ∀ (kvs kvs' : List (String × Json)), listDocKvs kvs = true →
      V1.equalsKvs m kvs kvs' = equalsKvs o kvs kvs'
  | [], _, _ => by simp [V1.equalsKvs, equalsKvs]
  | (k, v) :: r, kvs', ha => by
    simp only [listDocKvs, Bool.and_eq_true] at ha
    rw [V1.equalsKvs, equalsKvs, equalsKvs_eq hl o ho hp r kvs' ha.2]
    cases hk : alookup k kvs' with
    | none => rfl
    | some v' => simp [equals_eq hl o ho hp v v' ha.1]
end

/-- … hence decides the specification `equivB` read with those options -/
theorem equals_eq_equivB {m : V1.Metas} (hl : V1.dispatchTag m = .list) (o : Opts)
    (ho : dispatchTag o = .list) (hp : precOf o = V1.precOf m) {a b : Json}
    (ha : a.listDoc = true) (hb : b.listDoc = true) : V1.equals m a b = equivB o a b := by
  rw [equals_eq hl o ho hp a b ha, equals_eq_equivB_list o ho a b ha hb]

theorem equals_refl (L : FloatLaws) {m : V1.Metas} (hl : V1.dispatchTag m = .list)
    (hp : nonnegBits (V1.precOf m) = true) (a : Json)
    (h1 : a.listDoc = true) (h2 : a.wf = true) (h3 : a.finiteNums = true) :
    V1.equals m a a = true := by
  rw [equals_eq hl [.prec (V1.precOf m)] rfl rfl a a h1]
  exact equals_refl_list L [.prec (V1.precOf m)] rfl hp a h1 h2 h3

theorem equals_symm (L : FloatLaws) {m : V1.Metas} (hl : V1.dispatchTag m = .list) (a b : Json)
    (ha : a.listDoc = true) (hb : b.listDoc = true) (hwa : a.wf = true) (hwb : b.wf = true) :
    V1.equals m a b = V1.equals m b a := by
  rw [equals_eq hl [.prec (V1.precOf m)] rfl rfl a b ha,
    equals_eq hl [.prec (V1.precOf m)] rfl rfl b a hb]
  exact equals_symm_list L _ rfl a b ha hb hwa hwb

/-- `Equals` dispatches its argument itself -/
theorem equals_dispatch {m : V1.Metas} (hl : V1.dispatchTag m = .list) (x y : Json) :
    V1.equals m x (V1.dispatch m y) = V1.equals m x y := by
  cases x with
  | arr t xs => rw [V1.equals.eq_def, V1.equals.eq_def]; simp only [dispatch_idem hl]
  | obj kvs =>
    cases y with
    | arr t ys => cases t <;> simp [V1.dispatch, V1.equals]
    | _ => rfl
  | _ =>
    cases y with
    | arr t ys => cases t <;> simp [V1.dispatch, V1.equals, Json.isVoid, Json.isNull]
    | _ => rfl

end Jd.V1L

namespace Jd.V1P
open Jd Jd.Spec Jd.DPL

/-! ### list mode: precision 0, the v2 `Equals` without options -/

theorem v1_equals_eq {m : V1.Metas} (hm : ListMode m) :
    ∀ (a b : Json), a.listDoc = true → V1.equals m a b = equals [] a b :=
  V1L.equals_eq hm.tag [] rfl hm.prec0.symm

theorem v1_equalsList_eq {m : V1.Metas} (hm : ListMode m) :
    ∀ (xs ys : List Json), listDocList xs = true → V1.equalsList m xs ys = equalsList [] xs ys :=
  V1L.equalsList_eq hm.tag [] rfl hm.prec0.symm

theorem v1_equalsKvs_eq {m : V1.Metas} (hm : ListMode m) :
    ∀ (kvs kvs' : List (String × Json)), listDocKvs kvs = true →
      V1.equalsKvs m kvs kvs' = equalsKvs [] kvs kvs' :=
  V1L.equalsKvs_eq hm.tag [] rfl hm.prec0.symm

/-- the v1 `Equals` in list mode decides structural equality (`specEq`, array tags ignored) -/
theorem v1_equals_eq_specEq {m : V1.Metas} (hm : ListMode m) {a b : Json}
    (ha : a.listDoc = true) (hb : b.listDoc = true) : V1.equals m a b = specEq a b :=
  V1L.equals_eq_equivB hm.tag [] rfl hm.prec0.symm ha hb

/-- reflexivity of the v1 `Equals` in list mode -/
theorem v1_equals_refl (L : FloatLaws) {m : V1.Metas} (hm : ListMode m) (a : Json)
    (h1 : a.listDoc = true) (h2 : a.wf = true) (h3 : a.finiteNums = true) :
    V1.equals m a a = true :=
  V1L.equals_refl L hm.tag (by rw [hm.prec0]; exact nonnegBits_zero) a h1 h2 h3

/-- symmetry of the v1 `Equals` in list mode -/
theorem v1_equals_symm (L : FloatLaws) {m : V1.Metas} (hm : ListMode m) (a b : Json)
    (ha : a.listDoc = true) (hb : b.listDoc = true) (hwa : a.wf = true) (hwb : b.wf = true) :
    V1.equals m a b = V1.equals m b a :=
  V1L.equals_symm L hm.tag a b ha hb hwa hwb

/-! ## 2. the positional list diff of `jsonList.diff` -/

/-- the positional list diff of `jsonList.diff` -/
def listDiff (m : V1.Metas) (p : List Json) (xs ys : List Json) : V1.VDiff :=
  if xs.length < ys.length then
    (V1.diffElems m false p 0 ys xs).flatten ++ (ys.drop xs.length).map (fun y =>
      { path := p ++ [V1.numNeg1], old := [], new := y.nodeList })
  else
    ((xs.drop ys.length).zipIdx ys.length).reverse.map (fun xi =>
      { path := p ++ [V1.numOfNat xi.2], old := xi.1.nodeList, new := [] }) ++
    (V1.diffElems m false p 0 ys xs).reverse.flatten

/-- where a hunk of the positional list diff comes from: the sub-diff of two elements at the same
    index, an append, or a deletion -/
theorem mem_listDiff {m : V1.Metas} {p xs ys : List Json} {h : V1.Hunk}
    (hm : h ∈ listDiff m p xs ys) :
    (∃ d ∈ V1.diffElems m false p 0 ys xs, h ∈ d) ∨
    (∃ y ∈ ys.drop xs.length, h = { path := p ++ [V1.numNeg1], old := [], new := y.nodeList }) ∨
    (∃ xi ∈ (xs.drop ys.length).zipIdx ys.length,
      h = { path := p ++ [V1.numOfNat xi.2], old := xi.1.nodeList, new := [] }) := by
  unfold listDiff at hm
  split at hm
  · rcases List.mem_append.1 hm with hm | hm
    · exact .inl (List.mem_flatten.1 hm)
    · obtain ⟨y, hy, rfl⟩ := List.mem_map.1 hm
      exact .inr (.inl ⟨y, hy, rfl⟩)
  · rcases List.mem_append.1 hm with hm | hm
    · obtain ⟨xi, hxi, rfl⟩ := List.mem_map.1 hm
      exact .inr (.inr ⟨xi, List.mem_reverse.1 hxi, rfl⟩)
    · obtain ⟨d, hd, hh⟩ := List.mem_flatten.1 hm
      exact .inl ⟨d, List.mem_reverse.1 hd, hh⟩

theorem diffElems_nil (m : V1.Metas) (p : List Json) (i : Nat) (ys : List Json) :
    V1.diffElems m false p i ys [] = [] := by
  rw [V1.diffElems.eq_def]

theorem diffElems_nil' (m : V1.Metas) (p : List Json) (i : Nat) (xs : List Json) :
    V1.diffElems m false p i [] xs = [] := by
  rw [V1.diffElems.eq_def]
  cases xs <;> rfl

theorem diffElems_cons (m : V1.Metas) (p : List Json) (i : Nat) (x y : Json) (xs ys : List Json) :
    V1.diffElems m false p i (y :: ys) (x :: xs) =
      V1.diffNode m false x (V1.dispatch m y) (p ++ [V1.numOfNat i]) ::
        V1.diffElems m false p (i + 1) ys xs := by
  rw [V1.diffElems.eq_def]

theorem listDiff_shift (m : V1.Metas) (p q : List Json) (xs ys : List Json)
    (h : ∀ i, V1.diffElems m false (p ++ q) i ys xs =
      (V1.diffElems m false q i ys xs).map (List.map (shift p))) :
    listDiff m (p ++ q) xs ys = (listDiff m q xs ys).map (shift p) := by
  unfold listDiff
  rw [h 0]
  split
  · simp [List.map_flatten, shift, Function.comp_def]
  · simp [List.map_flatten, List.map_reverse, shift, Function.comp_def]

/-! ## 3. the hunks of the positional list diff applied: below an index, a deletion, an append -/

/-- a hunk that can be moved below a list index: it addresses something inside the element, or
    it replaces the element as a whole by another value -/
def FOK (h : V1.Hunk) : Prop :=
  h.path ≠ [] ∨ ∃ o n, h.old = [o] ∧ h.new = [n] ∧ o.isVoid = false ∧ n.isVoid = false

/-- a hunk below a list index: applied to the element, which is replaced by the result -/
theorem ap_idx {t : Tag} (ht : okTag t) (xs : List Json) (bits : UInt64) (k : Nat) (x : Json)
    (h : V1.Hunk) (hh : HOK h) (hf : FOK h) (hx : xs[k]? = some x)
    (hb : V1.floatToInt bits = (k : Int)) :
    ap (.arr t xs) (shift [.num bits] h) =
      (ap x h >>= fun r => .ok (.arr .list (xs.set k r))) := by
  unfold ap
  simp only [shift, List.cons_append, List.nil_append, V1.liftPath, List.map_cons]
  rw [patchNode_list ht xs bits _ _ _ hh.old hh.new, idxOf_nat hb,
    listBody_at (x := x) (by omega) (by simpa using hx), Int.toNat_natCast]
  rcases hf with hp | ⟨o, n, ho, hn, hov, hnv⟩
  · cases hq : h.path with
    | nil => exact absurd hq hp
    | cons _ _ => exact Or.inl rfl
  · exact Or.inr ⟨by rw [hn]; exact hnv, by rw [ho]; exact hov⟩

/-- the deletion hunk of the positional list diff: the removed element is checked -/
theorem ap_delete {t : Tag} (ht : okTag t) (xs : List Json) (bits : UInt64) (k : Nat) (x o : Json)
    (hx : xs[k]? = some x) (hl : x.listDoc = true) (hb : V1.floatToInt bits = (k : Int))
    (he : V1.equals [] x o = true) :
    ap (.arr t xs) { path := [.num bits], old := [o], new := [] } =
      .ok (.arr .list (xs.eraseIdx k)) := by
  unfold ap
  simp only [V1.liftPath, List.map_cons, List.map_nil]
  rw [patchNode_list ht xs bits _ _ _ (by simp) (by simp), idxOf_nat hb,
    listBody_nil_del xs [o] [] _ _ (fun y hy => by simp [hx] at hy; exact hy ▸ hl) (by simp) (by simp)
      rfl]
  exact ⟨x, by omega, by simpa using hx, he, by simp⟩

/-- the append hunk of the positional list diff (index -1) -/
theorem ap_append {t : Tag} (ht : okTag t) (xs : List Json) (bits : UInt64) (y : Json)
    (hy : y.isVoid = false) (hb : V1.floatToInt bits = -1) :
    ap (.arr t xs) { path := [.num bits], old := [], new := [y] } = .ok (.arr .list (xs ++ [y])) := by
  unfold ap
  simp only [V1.liftPath, List.map_cons, List.map_nil]
  rw [patchNode_list ht xs bits _ _ _ (by simp) (by simp), idxOf_neg1 hb,
    listBody_nil_ins xs [] [y] _ _ (by simp) (by simp) hy rfl]
  exact ⟨by omega, by omega, by simp [Json.singleValue]⟩

/-- a sequence of hunks below a list index (below an object key: `ObjPatch.key_frame`) -/
theorem patchAll_idx_frame (D : V1.VDiff) (hD : ∀ h ∈ D, HOK h ∧ FOK h) (bits : UInt64) (k : Nat)
    (hb : V1.floatToInt bits = (k : Int)) :
    ∀ (t : Tag) (l : List Json) (x : Json), okTag t → l[k]? = some x →
      ∀ r, V1.patchAll x D = .ok r →
      ∃ t', okTag t' ∧
        V1.patchAll (.arr t l) (D.map (shift [.num bits])) = .ok (.arr t' (l.set k r)) := by
  induction D with
  | nil =>
    intro t l x ht hx r hr
    simp only [patchAll_nil, Outcome.ok.injEq] at hr
    subst hr
    refine ⟨t, ht, ?_⟩
    have hk := lt_of_getElem? hx
    rw [List.getElem?_eq_getElem hk] at hx
    cases hx
    simp [patchAll_nil, List.set_getElem_self]
  | cons h D ih =>
    intro t l x ht hx r hr
    have hh := hD h List.mem_cons_self
    rw [patchAll_cons _ _ _ hh.1] at hr
    cases hv : ap x h with
    | err => rw [hv] at hr; cases hr
    | panic => rw [hv] at hr; cases hr
    | ok v =>
      rw [hv] at hr
      simp only [Outcome.bind_ok] at hr
      have hk := lt_of_getElem? hx
      obtain ⟨t', ht', h'⟩ := ih (fun h' hm => hD h' (List.mem_cons_of_mem _ hm)) .list (l.set k v) v
        rfl (List.getElem?_set_self hk) r hr
      refine ⟨t', ht', ?_⟩
      rw [List.map_cons, patchAll_cons _ _ _ (hh.1.shift_num bits), ap_idx ht l bits k x h hh.1 hh.2 hx hb,
        hv]
      simp only [Outcome.bind_ok]
      rw [h', List.set_set]

/-! ## 4. the domain -/

mutual
/-- no void inside the document: no void array element, no void object member (void stands for
    "absent"; a reader never produces one inside a document) -/
def vfree : Json → Bool
  | .arr _ xs => vfreeList xs
  | .obj kvs => vfreeKvs kvs
  | _ => true
def vfreeList : List Json → Bool
  | [] => true
  | x :: r => !x.isVoid && vfree x && vfreeList r
def vfreeKvs : List (String × Json) → Bool
  | [] => true
  | (_, v) :: r => !v.isVoid && vfree v && vfreeKvs r
end

mutual
/-- every array of the document has at most `N` elements -/
def lenLe (N : Nat) : Json → Bool
  | .arr _ xs => decide (xs.length ≤ N) && lenLeList N xs
  | .obj kvs => lenLeKvs N kvs
  | _ => true
def lenLeList (N : Nat) : List Json → Bool
  | [] => true
  | x :: r => lenLe N x && lenLeList N r
def lenLeKvs (N : Nat) : List (String × Json) → Bool
  | [] => true
  | (_, v) :: r => lenLe N v && lenLeKvs N r
end

theorem vfreeList_eq_all (xs : List Json) : vfreeList xs = xs.all (fun x => !x.isVoid && vfree x) :=
  listP_eq_all rfl (fun _ _ => rfl) xs
theorem vfreeKvs_eq_all (kvs : List (String × Json)) :
    vfreeKvs kvs = kvs.all (fun kv => !kv.2.isVoid && vfree kv.2) :=
  listP_eq_all rfl (fun _ _ => rfl) kvs
theorem lenLeKvs_eq_all (N : Nat) (kvs : List (String × Json)) :
    lenLeKvs N kvs = kvs.all (fun kv => lenLe N kv.2) :=
  listP_eq_all rfl (fun _ _ => rfl) kvs

/-- this predicate is the one of the v2 JSON Patch rendering -/
theorem vfree_eq : ∀ n : Json, vfree n = PRC.vfree n := by
  intro n
  induction n using jsonInd with
  | arr t xs ih =>
    rw [vfree, PRC.vfree, vfreeList_eq_all, PRC.vfreeList_eq_all]
    exact all_congr_mem fun x hx => by rw [ih x hx]
  | obj kvs ih =>
    rw [vfree, PRC.vfree, vfreeKvs_eq_all, PRC.vfreeKvs_eq_all]
    exact all_congr_mem fun kv hkv => by rw [ih kv.1 kv.2 hkv]
  | _ => rfl

theorem lenLeList_mem {N : Nat} {xs : List Json} {x : Json} (h : lenLeList N xs = true)
    (hx : x ∈ xs) : lenLe N x = true :=
  List.all_eq_true.1 ((listP_eq_all rfl (fun _ _ => rfl) xs : lenLeList N xs = xs.all (lenLe N)) ▸ h)
    x hx

theorem lenLeKvs_mem {N : Nat} {kvs : List (String × Json)} {k : String} {v : Json}
    (h : lenLeKvs N kvs = true) (hm : (k, v) ∈ kvs) : lenLe N v = true :=
  List.all_eq_true.1 (lenLeKvs_eq_all N kvs ▸ h) (k, v) hm

/-- the laws of the float64 ↔ int conversions of list indices (`jsonNumber(i)` in the diff,
    `int(jn)` in the patch; `Float` is opaque to the kernel): exact below `N` (IEEE-754: true for
    `N = 2^53`), and for the append index -1 -/
structure IdxLaws (N : Nat) : Prop where
  nat : ∀ i : Nat, i < N → V1.floatToInt (Float.ofNat i).toBits = (i : Int)
  neg1 : V1.floatToInt (Float.ofInt (-1)).toBits = -1

theorem memOK_of_vfree : ∀ (a : Json), vfree a = true → memOK a = true :=
  fun a h => PRC.memOK_of_vfree a (vfree_eq a ▸ h)

theorem memOKList_of_vfree : ∀ (xs : List Json), vfreeList xs = true → memOKList xs = true :=
  fun xs h => memOK_of_vfree (.arr .raw xs) h

theorem memOKKvs_of_vfree : ∀ (kvs : List (String × Json)), vfreeKvs kvs = true →
    memOKKvs kvs = true :=
  fun kvs h => memOK_of_vfree (.obj kvs) h

/-- the documents of the theorems -/
structure Dom (x : Json) : Prop where
  good : Good x
  vf : vfree x = true

structure DomL (xs : List Json) : Prop where
  good : GoodL xs
  vf : vfreeList xs = true

structure DomK (kvs : List (String × Json)) : Prop where
  good : GoodK kvs
  vf : vfreeKvs kvs = true

theorem Dom.mk' {x : Json} (h1 : x.listDoc = true) (h2 : x.wf = true) (h3 : x.finiteNums = true)
    (h4 : vfree x = true) : Dom x :=
  ⟨⟨h1, h2, h3, memOK_of_vfree x h4⟩, h4⟩

theorem domL_iff : ∀ {xs : List Json}, DomL xs ↔ ∀ x ∈ xs, Dom x ∧ x.isVoid = false
  | [] => ⟨fun _ _ h => (by cases h), fun _ => ⟨GoodL.nil, rfl⟩⟩
  | x :: r => by
    rw [List.forall_mem_cons, ← domL_iff (xs := r)]
    constructor
    · rintro ⟨hg, hv⟩
      simp only [vfreeList, Bool.and_eq_true, Bool.not_eq_true'] at hv
      have := goodL_cons.1 hg
      exact ⟨⟨⟨this.1, hv.1.2⟩, hv.1.1⟩, ⟨this.2, hv.2⟩⟩
    · rintro ⟨⟨⟨hg, hv⟩, hn⟩, ⟨hg', hv'⟩⟩
      exact ⟨goodL_cons.2 ⟨hg, hg'⟩, by simp [vfreeList, hn, hv, hv']⟩

theorem domL_cons {x : Json} {r : List Json} :
    DomL (x :: r) ↔ (Dom x ∧ x.isVoid = false) ∧ DomL r := by
  simp only [domL_iff, List.forall_mem_cons]

theorem DomL.nil : DomL [] := domL_iff.2 fun _ h => (by cases h)

theorem dom_arr {t : Tag} {xs : List Json} : Dom (.arr t xs) ↔ okTag t ∧ DomL xs := by
  constructor
  · rintro ⟨hg, hv⟩
    have := good_arr.1 hg
    exact ⟨this.1, ⟨this.2, by simpa [vfree] using hv⟩⟩
  · rintro ⟨ht, ⟨hg, hv⟩⟩
    exact ⟨good_arr.2 ⟨ht, hg⟩, by simpa [vfree] using hv⟩

theorem dom_obj {kvs : List (String × Json)} :
    Dom (.obj kvs) ↔ keysSorted kvs = true ∧ DomK kvs := by
  constructor
  · rintro ⟨hg, hv⟩
    have := good_obj.1 hg
    exact ⟨this.1, ⟨this.2, by simpa [vfree] using hv⟩⟩
  · rintro ⟨hs, ⟨hg, hv⟩⟩
    exact ⟨good_obj.2 ⟨hs, hg⟩, by simpa [vfree] using hv⟩

theorem domK_iff : ∀ {kvs : List (String × Json)},
    DomK kvs ↔ ∀ kv ∈ kvs, Dom kv.2 ∧ kv.2.isVoid = false
  | [] => ⟨fun _ _ h => (by cases h), fun _ => ⟨⟨rfl, rfl, rfl, rfl⟩, rfl⟩⟩
  | (k, v) :: r => by
    rw [List.forall_mem_cons, ← domK_iff (kvs := r)]
    constructor
    · rintro ⟨hg, hv⟩
      simp only [vfreeKvs, Bool.and_eq_true, Bool.not_eq_true'] at hv
      have := goodK_cons.1 hg
      exact ⟨⟨⟨this.1.1, hv.1.2⟩, hv.1.1⟩, ⟨this.2, hv.2⟩⟩
    · rintro ⟨⟨⟨hg, hv⟩, hn⟩, ⟨hg', hv'⟩⟩
      exact ⟨goodK_cons.2 ⟨⟨hg, hn⟩, hg'⟩, by simp [vfreeKvs, hn, hv, hv']⟩

theorem domK_cons {k : String} {v : Json} {r : List (String × Json)} :
    DomK ((k, v) :: r) ↔ (Dom v ∧ v.isVoid = false) ∧ DomK r := by
  simp only [domK_iff, List.forall_mem_cons]

theorem DomK.of_mem {kvs : List (String × Json)} (h : DomK kvs) {k : String} {v : Json}
    (hm : (k, v) ∈ kvs) : Dom v ∧ v.isVoid = false :=
  domK_iff.1 h (k, v) hm

theorem DomK.lookup {kvs : List (String × Json)} (h : DomK kvs) {k : String} {v : Json}
    (hl : alookup k kvs = some v) : Dom v ∧ v.isVoid = false :=
  h.of_mem (mem_of_alookup hl)

theorem domL_append {xs ys : List Json} : DomL (xs ++ ys) ↔ DomL xs ∧ DomL ys := by
  simp only [domL_iff, List.forall_mem_append]

theorem DomL.append {xs ys : List Json} (h1 : DomL xs) (h2 : DomL ys) : DomL (xs ++ ys) :=
  domL_append.2 ⟨h1, h2⟩

theorem DomL.drop {xs : List Json} (h : DomL xs) (n : Nat) : DomL (xs.drop n) :=
  domL_iff.2 fun x hx => domL_iff.1 h x (List.mem_of_mem_drop hx)

theorem DomL.of_mem {xs : List Json} (h : DomL xs) {x : Json} (hx : x ∈ xs) :
    Dom x ∧ x.isVoid = false :=
  domL_iff.1 h x hx

theorem dispatch_isVoid (m : V1.Metas) (y : Json) : (V1.dispatch m y).isVoid = y.isVoid := by
  cases y with
  | arr t ys => cases t <;> rfl
  | _ => rfl

theorem v1_equals_self (L : FloatLaws) {x : Json} (h : Dom x) : V1.equals [] x x = true :=
  v1_equals_refl L ListMode.nil x h.good.listDoc h.good.wf h.good.fin

/-! ## 5. the loops of the diff that do not recurse: their hunks; appends and deletions applied -/

/-- the hunk appending an element (index -1) -/
def appHunk (y : Json) : V1.Hunk := { path := [] ++ [V1.numNeg1], old := [], new := y.nodeList }

/-- the hunk deleting an element: the element is the old value -/
def delHunk (xi : Json × Nat) : V1.Hunk :=
  { path := [] ++ [V1.numOfNat xi.2], old := xi.1.nodeList, new := [] }

theorem apply_appends {N : Nat} (I : IdxLaws N) :
    ∀ (ws l : List Json) (t : Tag), okTag t → (∀ w ∈ ws, w.isVoid = false) →
      ∃ t', okTag t' ∧ V1.patchAll (.arr t l) (ws.map appHunk) = .ok (.arr t' (l ++ ws))
  | [], l, t, ht, _ => ⟨t, ht, by simp [patchAll_nil]⟩
  | w :: ws, l, t, ht, hw => by
    have hwv := hw w List.mem_cons_self
    obtain ⟨t', ht', h⟩ := apply_appends I ws (l ++ [w]) .list rfl
      (fun w' hm => hw w' (List.mem_cons_of_mem _ hm))
    refine ⟨t', ht', ?_⟩
    rw [List.map_cons, patchAll_cons _ _ _ ⟨rfl, by simp [appHunk], by simp [appHunk, nodeList_length]⟩]
    have e : appHunk w = { path := [.num (Float.ofInt (-1)).toBits], old := [], new := [w] } := by
      simp [appHunk, V1.numNeg1, nodeList_of_notVoid hwv]
    rw [e, ap_append ht l _ w hwv I.neg1]
    simp only [Outcome.bind_ok]
    rw [h]
    simp

theorem apply_dels (L : FloatLaws) {N : Nat} (I : IdxLaws N) :
    ∀ (n : Nat) (ds keep : List Json) (t : Tag), ds.length = n → okTag t → DomL ds →
      keep.length + ds.length ≤ N →
      ∃ t', okTag t' ∧
        V1.patchAll (.arr t (keep ++ ds)) ((ds.zipIdx keep.length).reverse.map delHunk) =
          .ok (.arr t' keep)
  | 0, ds, keep, t, hn, ht, _, _ => by
    have : ds = [] := List.length_eq_zero_iff.1 hn
    subst this
    exact ⟨t, ht, by simp [patchAll_nil]⟩
  | n + 1, ds, keep, t, hn, ht, hd, hN => by
    rcases List.eq_nil_or_concat ds with rfl | ⟨ds', d, rfl⟩
    · simp at hn
    · rw [List.concat_eq_append] at hn hd hN ⊢
      simp only [List.length_append, List.length_cons, List.length_nil] at hn hN
      have hd' : DomL ds' ∧ Dom d ∧ d.isVoid = false := by
        have := domL_append.1 hd
        exact ⟨this.1, (domL_cons.1 this.2).1⟩
      obtain ⟨t', ht', h⟩ := apply_dels L I n ds' keep .list (by omega) rfl hd'.1 (by omega)
      refine ⟨t', ht', ?_⟩
      rw [List.zipIdx_append, List.reverse_append, List.map_append]
      simp only [List.zipIdx_cons, List.zipIdx_nil, List.reverse_cons, List.reverse_nil, List.nil_append,
        List.map_cons, List.map_nil, List.singleton_append]
      have hk : keep.length + ds'.length < N := by omega
      rw [patchAll_cons _ _ _ ⟨rfl, by simp [delHunk, nodeList_length], by simp [delHunk]⟩]
      have e : delHunk (d, keep.length + ds'.length) =
          { path := [.num (Float.ofNat (keep.length + ds'.length)).toBits], old := [d], new := [] } := by
        simp [delHunk, V1.numOfNat, nodeList_of_notVoid hd'.2.2]
      have hx : (keep ++ (ds' ++ [d]))[keep.length + ds'.length]? = some d := by
        rw [← List.append_assoc, ← List.length_append]
        simp
      rw [e, ap_delete ht _ _ (keep.length + ds'.length) d d hx hd'.2.1.good.listDoc (I.nat _ hk)
        (v1_equals_self L hd'.2.1)]
      simp only [Outcome.bind_ok]
      have her : (keep ++ (ds' ++ [d])).eraseIdx (keep.length + ds'.length) = keep ++ ds' := by
        rw [← List.append_assoc, ← List.length_append,
          List.eraseIdx_append_of_length_le (Nat.le_refl _)]
        simp
      rw [her]
      exact h

/-! ### what is known of the patched document -/

theorem listDoc_arr {t : Tag} {zs : List Json} (ht : okTag t) (h : listDocList zs = true) :
    (Json.arr t zs).listDoc = true := by
  simp only [Json.listDoc, Bool.and_eq_true]
  exact ⟨ht, h⟩

/-- what is known about the shape of the patched document: a list document with sorted unique keys -/
def LW (r : Json) : Prop := r.listDoc = true ∧ r.wf = true
def LWL (zs : List Json) : Prop := listDocList zs = true ∧ wfList zs = true

theorem dom_lw {x : Json} (h : Dom x) : LW x := ⟨h.good.listDoc, h.good.wf⟩

theorem wfList_append' {xs ys : List Json} (h1 : wfList xs = true) (h2 : wfList ys = true) :
    wfList (xs ++ ys) = true := by
  simp only [wfList_eq_all, List.all_append, Bool.and_eq_true] at *; exact ⟨h1, h2⟩

theorem wfKvs_of_lookup (l : List (String × Json)) (hs : keysSorted l = true)
    (h : ∀ k v, alookup k l = some v → v.wf = true) : wfKvs l = true := by
  rw [wfKvs_eq_all]
  exact List.all_eq_true.2 fun kv hm => h kv.1 kv.2 (alookup_of_mem hs hm)

theorem lw_arr {t : Tag} {zs : List Json} (ht : okTag t) (h : LWL zs) : LW (.arr t zs) :=
  ⟨listDoc_arr ht h.1, by simpa [Json.wf] using h.2⟩

/-- the list documents `Dom` are a domain of the object step -/
theorem _root_.Jd.V1S.objDom_dom (L : FloatLaws) : V1S.ObjDom Dom where
  listDoc h := h.good.listDoc
  self h := v1_equals_self L h
  sorted h := (dom_obj.1 h).1
  val h hm := (dom_obj.1 h).2.of_mem hm

end Jd.V1P

/-! ## 6. the strict diff in the list reading: unfolding, induction principle, shape of the hunks -/

namespace Jd.V1L
open Jd Jd.Spec Jd.V1P
open Jd.DPL hiding diffCommon_shift diffKvs_cons diffKvs_nil diffNode_obj_obj
  diffNode_obj_other diffNode_scalar

theorem diffNode_arr_arr {m : V1.Metas} (hl : V1.dispatchTag m = .list) {t t' : Tag}
    (xs ys : List Json) (ht : okTag t) (ht' : okTag t') (htt : t = .raw ∨ t' = .list) (p : List Json) :
    V1.diffNode m false (.arr t xs) (.arr t' ys) p = listDiff m p xs ys := by
  rw [V1.diffNode.eq_def]
  simp only [effTag_ok hl ht, listDiff]
  cases t <;> cases t' <;> simp_all [V1.dispatch, okTag]

theorem diffNode_arr_other {m : V1.Metas} (hl : V1.dispatchTag m = .list) {t : Tag}
    (xs : List Json) (b : Json) (ht : okTag t)
    (hb : (∀ t' ys, b ≠ .arr t' ys) ∨ (t = .list ∧ ∃ ys, b = .arr .raw ys)) (p : List Json) :
    V1.diffNode m false (.arr t xs) b p =
      [{ path := p, old := [Json.arr .list xs], new := b.nodeList }] := by
  rw [V1.diffNode.eq_def]
  simp only [effTag_ok hl ht]
  rcases hb with hb | ⟨rfl, ys, rfl⟩
  · cases b <;> simp_all [V1.dispatch, Json.nodeList, Json.isVoid]
  · simp [Json.nodeList, Json.isVoid]

/-! ### induction principle: only the branches reachable in the list reading on list documents -/

/-- Simultaneous induction on a pair of list documents along the recursion of `V1.diffNode`: the
    source document is taken apart; the target is whatever the diff pairs it with (the element at
    the same index after `dispatch`, the member under the same key). -/
theorem induct (m : V1.Metas) (hl : V1.dispatchTag m = .list)
    (mN : Json → Json → Prop) (mK : List (String × Json) → List (String × Json) → Prop)
    (mE : List Json → List Json → Prop)
    (arr_arr : ∀ t t' xs ys, okTag t → okTag t' → (t = .raw ∨ t' = .list) →
      listDocList xs = true → listDocList ys = true → mE ys xs → mN (.arr t xs) (.arr t' ys))
    (arr_other : ∀ t xs b, okTag t → listDocList xs = true → b.listDoc = true →
      ((∀ t' ys, b ≠ .arr t' ys) ∨ (t = .list ∧ ∃ ys, b = .arr .raw ys)) → mN (.arr t xs) b)
    (obj_obj : ∀ kvs kvs', listDocKvs kvs = true → listDocKvs kvs' = true → mK kvs' kvs →
      mN (.obj kvs) (.obj kvs'))
    (obj_other : ∀ kvs b, listDocKvs kvs = true → b.listDoc = true → (∀ kvs', b ≠ .obj kvs') →
      mN (.obj kvs) b)
    (scalar : ∀ a b, (∀ t xs, a ≠ .arr t xs) → (∀ kvs, a ≠ .obj kvs) → b.listDoc = true → mN a b)
    (kvs_nil : ∀ kvs', mK kvs' [])
    (kvs_cons : ∀ kvs' k v r, listDocKvs kvs' = true → v.listDoc = true → listDocKvs r = true →
      (∀ v', v'.listDoc = true → mN v v') → mK kvs' r → mK kvs' ((k, v) :: r))
    (el_nil : ∀ ys, mE ys [])
    (el_nil' : ∀ x xs, mE [] (x :: xs))
    (el_cons : ∀ x xs y ys, x.listDoc = true → listDocList xs = true → y.listDoc = true →
      listDocList ys = true → mN x (V1.dispatch m y) → mE ys xs → mE (y :: ys) (x :: xs)) :
    (∀ a b, a.listDoc = true → b.listDoc = true → mN a b) ∧
    (∀ kvs' kvs, listDocKvs kvs' = true → listDocKvs kvs = true → mK kvs' kvs) ∧
    (∀ ys xs, listDocList ys = true → listDocList xs = true → mE ys xs) := by
  have elems : ∀ xs ys, listDocList xs = true → listDocList ys = true →
      (∀ x ∈ xs, ∀ y, y.listDoc = true → mN x y) → mE ys xs := by
    intro xs
    induction xs with
    | nil => exact fun ys _ _ _ => el_nil ys
    | cons x xs ih =>
      intro ys ha hb hN
      simp only [listDocList, Bool.and_eq_true] at ha
      cases ys with
      | nil => exact el_nil' x xs
      | cons y ys =>
        simp only [listDocList, Bool.and_eq_true] at hb
        exact el_cons x xs y ys ha.1 ha.2 hb.1 hb.2
          (hN x List.mem_cons_self _ (dispatch_listDoc hl hb.1))
          (ih ys ha.2 hb.2 fun z hz => hN z (List.mem_cons_of_mem _ hz))
  obtain ⟨hN, hK⟩ := DPL.listDoc_induct (mN := mN) (mK := mK)
    (fun t t' xs ys ht ht' htt hx hy ih =>
      arr_arr t t' xs ys ht ht' htt hx hy (elems xs ys hx hy ih))
    arr_other obj_obj obj_other scalar kvs_nil kvs_cons
  exact ⟨hN, hK, fun ys xs hb ha => elems xs ys ha hb fun x hx y hy =>
    hN x y (DPL.listDoc_of_mem ha hx) hy⟩

theorem diff_shift (m : V1.Metas) (hl : V1.dispatchTag m = .list) :
    (∀ a b, a.listDoc = true → b.listDoc = true → ∀ p q,
      V1.diffNode m false a b (p ++ q) = (V1.diffNode m false a b q).map (shift p)) ∧
    (∀ kvs' kvs, listDocKvs kvs' = true → listDocKvs kvs = true → ∀ p q,
      V1.diffKvs m false (p ++ q) kvs' kvs = (V1.diffKvs m false q kvs' kvs).map (shift p)) ∧
    (∀ ys xs, listDocList ys = true → listDocList xs = true → ∀ i p q,
      V1.diffElems m false (p ++ q) i ys xs =
        (V1.diffElems m false q i ys xs).map (List.map (shift p))) := by
  apply induct m hl
    (mN := fun a b => ∀ p q,
      V1.diffNode m false a b (p ++ q) = (V1.diffNode m false a b q).map (shift p))
    (mK := fun kvs' kvs => ∀ p q,
      V1.diffKvs m false (p ++ q) kvs' kvs = (V1.diffKvs m false q kvs' kvs).map (shift p))
    (mE := fun ys xs => ∀ i p q,
      V1.diffElems m false (p ++ q) i ys xs =
        (V1.diffElems m false q i ys xs).map (List.map (shift p)))
  · intro t t' xs ys ht ht' htt _ _ ih p q
    rw [diffNode_arr_arr hl xs ys ht ht' htt, diffNode_arr_arr hl xs ys ht ht' htt]
    exact listDiff_shift m p q xs ys (fun i => ih i p q)
  · intro t xs b ht _ _ hb p q
    rw [diffNode_arr_other hl xs b ht hb, diffNode_arr_other hl xs b ht hb]
    simp [shift]
  · intro kvs kvs' _ _ ih p q
    rw [diffNode_obj_obj, diffNode_obj_obj, ih]
    simp [shift, List.map_map, Function.comp_def]
  · intro kvs b _ _ hb p q
    rw [diffNode_obj_other m kvs b hb, diffNode_obj_other m kvs b hb]
    simp [shift]
  · intro a b h1 h2 _ p q
    rw [diffNode_scalar m a b h1 h2, diffNode_scalar m a b h1 h2, diffCommon_shift]
  · intro kvs' p q
    simp [diffKvs_nil]
  · intro kvs' k v r hl' _ _ ihN ihK p q
    rw [diffKvs_cons, diffKvs_cons, ihK, List.map_append]
    congr 1
    cases hlk : alookup k kvs' with
    | none => simp [shift]
    | some v' =>
      simp only []
      rw [List.append_assoc, ihN v' (alookup_listDoc hlk hl')]
  · intro ys i p q
    simp [diffElems_nil]
  · intro x xs i p q
    simp [diffElems_nil']
  · intro x xs y ys _ _ _ _ ihN ihE i p q
    rw [diffElems_cons, diffElems_cons, List.append_assoc, ihN, ihE]
    simp

/-- the diff computed under a path element is the diff computed at the root, moved -/
theorem diffNode_at {m : V1.Metas} (hl : V1.dispatchTag m = .list) (a b : Json) (ha : a.listDoc = true)
    (hb : b.listDoc = true) (e : Json) :
    V1.diffNode m false a b ([] ++ [e]) = (V1.diffNode m false a b []).map (shift [e]) := by
  have := (diff_shift m hl).1 a b ha hb [e] []
  simpa using this

/-- the sub-diffs of the positional loop: each is the diff of the two elements at one index -/
theorem mem_diffElems {m : V1.Metas} {p : List Json} : ∀ {xs ys : List Json} {i : Nat} {d : V1.VDiff},
    d ∈ V1.diffElems m false p i ys xs → ∃ j x y, xs[j]? = some x ∧ ys[j]? = some y ∧
      d = V1.diffNode m false x (V1.dispatch m y) (p ++ [V1.numOfNat (i + j)])
  | [], _, _, _, h => by simp [diffElems_nil] at h
  | _ :: _, [], _, _, h => by simp [diffElems_nil'] at h
  | x :: xs, y :: ys, i, d, h => by
    rw [diffElems_cons] at h
    rcases List.mem_cons.1 h with rfl | h
    · exact ⟨0, x, y, rfl, rfl, rfl⟩
    · obtain ⟨j, x', y', hx, hy, rfl⟩ := mem_diffElems h
      exact ⟨j + 1, x', y', hx, hy, by rw [Nat.add_assoc, Nat.add_comm 1 j]⟩

/-- **induction over the hunks of a diff in the list reading**, the hunk-wise companion of `induct`:
    to prove `P a b h` of every hunk `h` of the diff of two list documents (computed at the root),
    seven cases, one per place a hunk can come from — the sub-diff of the two elements at one index,
    an element appended, an element deleted, the sub-diff of a member both objects hold, the
    removal / addition of a member one object holds, the replacement of a value as a whole (of an
    array as a `jsonList`; a non-object replacing an object is written even when it is void). No case
    mentions a loop of the diff. -/
theorem hunk_induct {m : V1.Metas} (hl : V1.dispatchTag m = .list) {P : Json → Json → V1.Hunk → Prop}
    (elem : ∀ t t' xs ys (j : Nat) x y h, xs[j]? = some x → ys[j]? = some y →
      h ∈ V1.diffNode m false x (V1.dispatch m y) [] → P x (V1.dispatch m y) h →
      P (.arr t xs) (.arr t' ys) (shift [V1.numOfNat j] h))
    (app : ∀ t t' xs ys y, y ∈ ys.drop xs.length →
      P (.arr t xs) (.arr t' ys) { path := [V1.numNeg1], old := [], new := y.nodeList })
    (del : ∀ t t' xs ys x (j : Nat), (x, j) ∈ (xs.drop ys.length).zipIdx ys.length →
      P (.arr t xs) (.arr t' ys) { path := [V1.numOfNat j], old := x.nodeList, new := [] })
    (key : ∀ kvs kvs' k v v' h, (k, v) ∈ kvs → alookup k kvs' = some v' →
      h ∈ V1.diffNode m false v v' [] → P v v' h → P (.obj kvs) (.obj kvs') (shift [.str k] h))
    (rem : ∀ kvs kvs' k v, (k, v) ∈ kvs → alookup k kvs' = none →
      P (.obj kvs) (.obj kvs') { path := [.str k], old := v.nodeList, new := [] })
    (add : ∀ kvs kvs' k v', (k, v') ∈ kvs' → alookup k kvs = none →
      P (.obj kvs) (.obj kvs') { path := [.str k], old := [], new := v'.nodeList })
    (whole : ∀ a b R A, (R = a.nodeList ∨ ∃ t xs, a = .arr t xs ∧ R = [.arr .list xs]) →
      (A = b.nodeList ∨ ∃ kvs, a = .obj kvs ∧ A = [b]) → (a.isVoid = false ∨ b.isVoid = false) →
      P a b { path := [], old := R, new := A }) :
    ∀ a b, a.listDoc = true → b.listDoc = true → ∀ h ∈ V1.diffNode m false a b [], P a b h := by
  refine (DPL.listDoc_induct
    (mN := fun a b => ∀ h ∈ V1.diffNode m false a b [], P a b h)
    (mK := fun kvs' kvs => ∀ k v v', (k, v) ∈ kvs → alookup k kvs' = some v' →
      v.listDoc = true ∧ ∀ h ∈ V1.diffNode m false v v' [], P v v' h) ?_ ?_ ?_ ?_ ?_ ?_ ?_).1
  · intro t t' xs ys ht ht' htt hlx hly ih h hm
    rw [diffNode_arr_arr hl xs ys ht ht' htt] at hm
    rcases mem_listDiff hm with ⟨d, hd, hh⟩ | ⟨y, hy, rfl⟩ | ⟨⟨x, j⟩, hxj, rfl⟩
    · obtain ⟨j, x, y, hx, hy, rfl⟩ := mem_diffElems hd
      have lx := DPL.listDoc_of_mem hlx (List.mem_of_getElem? hx)
      have ly := dispatch_listDoc hl (DPL.listDoc_of_mem hly (List.mem_of_getElem? hy))
      rw [Nat.zero_add, diffNode_at hl x _ lx ly] at hh
      obtain ⟨h0, hh0, rfl⟩ := List.mem_map.1 hh
      exact elem t t' xs ys j x y h0 hx hy hh0 (ih x (List.mem_of_getElem? hx) _ ly h0 hh0)
    · exact app t t' xs ys y hy
    · exact del t t' xs ys x j hxj
  · intro t xs b ht _ _ hb h hm
    rw [diffNode_arr_other hl xs b ht hb, List.mem_singleton] at hm
    subst hm
    exact whole _ b _ _ (.inr ⟨t, xs, rfl, rfl⟩) (.inl rfl) (.inl rfl)
  · intro kvs kvs' hlk hlk' ih h hm
    rw [diffNode_obj_obj, V1S.diffKvs_eq_flatMap] at hm
    rcases List.mem_append.1 hm with hm | hm
    · obtain ⟨⟨k, v⟩, hkv, hm⟩ := List.mem_flatMap.1 hm
      cases hlk0 : alookup k kvs' with
      | none =>
        simp only [hlk0, List.mem_singleton] at hm
        subst hm
        exact rem kvs kvs' k v hkv hlk0
      | some v' =>
        simp only [hlk0] at hm
        obtain ⟨lv, ihv⟩ := ih k v v' hkv hlk0
        rw [diffNode_at hl v v' lv (alookup_listDoc hlk0 hlk')] at hm
        obtain ⟨h0, hh0, rfl⟩ := List.mem_map.1 hm
        exact key kvs kvs' k v v' h0 hkv hlk0 hh0 (ihv h0 hh0)
    · obtain ⟨kv, hkv, rfl⟩ := List.mem_map.1 hm
      have := List.mem_filter.1 hkv
      exact add kvs kvs' kv.1 kv.2 this.1 (by simpa using this.2)
  · intro kvs b _ _ hb h hm
    rw [diffNode_obj_other m kvs b hb, List.mem_singleton] at hm
    subst hm
    exact whole _ b _ _ (.inl rfl) (.inr ⟨kvs, rfl, rfl⟩) (.inl rfl)
  · intro a b h1 h2 _ h hm
    rw [diffNode_scalar m a b h1 h2] at hm
    unfold V1.diffCommon at hm
    split at hm
    · cases hm
    · next hne =>
      simp only [Bool.false_eq_true, if_false, List.mem_singleton] at hm
      subst hm
      refine whole a b _ _ (.inl rfl) (.inl rfl) ?_
      cases hva : a.isVoid with
      | false => exact .inl rfl
      | true =>
        refine .inr (Bool.eq_false_iff.2 fun hvb => hne ?_)
        rw [Json.eq_void_of_isVoid hva, V1.equals]
        exact hvb
  · intro kvs' k v v' hm
    cases hm
  · intro kvs' k v r hl' lv _ ihN ihK k0 v0 v0' hm hlk
    rcases List.mem_cons.1 hm with e | hm
    · cases e; exact ⟨lv, ihN v0' (alookup_listDoc hlk hl')⟩
    · exact ihK k0 v0 v0' hm hlk

theorem diff_hunks (m : V1.Metas) (hl : V1.dispatchTag m = .list) :
    ∀ a b, a.listDoc = true → b.listDoc = true → ∀ h ∈ V1.diffNode m false a b [],
      HOK h ∧ (a.isVoid = false → b.isVoid = false → FOK h) := by
  have below : ∀ {h : V1.Hunk} {a b : Json}, HOK h → h.path ≠ [] →
      HOK h ∧ (a.isVoid = false → b.isVoid = false → FOK h) :=
    fun hk hp => ⟨hk, fun _ _ => .inl hp⟩
  refine hunk_induct hl
    (P := fun a b h => HOK h ∧ (a.isVoid = false → b.isVoid = false → FOK h)) ?_ ?_ ?_ ?_ ?_ ?_ ?_
  · intro _ _ _ _ _ _ _ h _ _ _ ih
    exact below (ih.1.shift_num _) (shift_path_ne_nil _ _)
  · intro _ _ _ _ y _
    exact below ⟨rfl, by simp, nodeList_length y⟩ (by simp)
  · intro _ _ _ _ x _ _
    exact below ⟨rfl, nodeList_length x, by simp⟩ (by simp)
  · intro _ _ k _ _ h _ _ _ ih
    exact below (ih.1.shift_str k) (shift_path_ne_nil _ _)
  · intro _ _ _ v _ _
    exact below ⟨rfl, nodeList_length v, by simp⟩ (by simp)
  · intro _ _ _ v' _ _
    exact below ⟨rfl, by simp, nodeList_length v'⟩ (by simp)
  · intro a b R A hR hA _
    have lR : R.length ≤ 1 := by
      rcases hR with rfl | ⟨_, _, _, rfl⟩
      · exact nodeList_length a
      · simp
    have lA : A.length ≤ 1 := by
      rcases hA with rfl | ⟨_, _, rfl⟩
      · exact nodeList_length b
      · simp
    refine ⟨⟨rfl, lR, lA⟩, fun hav hbv => .inr ?_⟩
    have eA : A = [b] := by
      rcases hA with rfl | ⟨_, _, rfl⟩
      · exact nodeList_of_notVoid hbv
      · rfl
    rcases hR with rfl | ⟨t, xs, rfl, rfl⟩
    · exact ⟨a, b, nodeList_of_notVoid hav, eA, hav, hbv⟩
    · exact ⟨_, b, rfl, eA, rfl, hbv⟩

/-! ### the hunks are made of parts of the two documents -/

theorem nodeList_mem {x o : Json} (h : o ∈ x.nodeList) : o = x ∧ x.isVoid = false := by
  unfold Json.nodeList at h
  split at h
  · cases h
  · rename_i hv; simp only [List.mem_singleton] at h; exact ⟨h, by simpa using hv⟩

/-- What `diff_parts` says of a hunk: the keys on its path satisfy `K`, its values satisfy `P`, and
    it removes or adds a value that is not the void marker — or it holds no value at all, and then
    it stands for a void element or member satisfying `P` (`RenderPatch` refuses such a hunk:
    "cannot render empty diff element as JSON Patch op"). -/
structure Part (P : Json → Prop) (K : String → Prop) (h : V1.Hunk) : Prop where
  keys : ∀ s, Json.str s ∈ h.path → K s
  old : ∀ v ∈ h.old, P v
  new : ∀ v ∈ h.new, P v
  value : (∃ v ∈ h.old, v.isVoid = false) ∨ (∃ v ∈ h.new, v.isVoid = false) ∨
    (h.old = [] ∧ h.new = [] ∧ ∃ v, P v ∧ v.isVoid = true)

/-- no hunk is empty when `P` excludes the void marker -/
theorem Part.ne {P : Json → Prop} {K : String → Prop} {h : V1.Hunk} (g : Part P K h)
    (hP : ∀ v, P v → v.isVoid = false) : ¬ (h.old = [] ∧ h.new = []) := by
  rintro ⟨e1, e2⟩
  rcases g.value with ⟨_, hv, _⟩ | ⟨_, hv, _⟩ | ⟨_, _, v, pv, hv⟩
  · rw [e1] at hv; cases hv
  · rw [e2] at hv; cases hv
  · rw [hP v pv] at hv; cases hv

theorem Part.shift {P : Json → Prop} {K : String → Prop} {h : V1.Hunk} (g : Part P K h)
    {e : Json} (he : ∀ s, e = .str s → K s) : Part P K (shift [e] h) :=
  ⟨fun s hs => by
    rcases List.mem_cons.1 hs with hs | hs
    · exact he s hs.symm
    · exact g.keys s hs, g.old, g.new, g.value⟩

/-- a hunk whose sides are `a`, `b` or nothing -/
theorem part_leaf {P : Json → Prop} {K : String → Prop} {p : List Json} {a b : Json}
    (hp : ∀ s, Json.str s ∈ p → K s) (ha : a.isVoid = false → P a) (hb : b.isVoid = false → P b)
    (hv : a.isVoid = true → b.isVoid = true → ∃ v, P v ∧ v.isVoid = true) :
    Part P K { path := p, old := a.nodeList, new := b.nodeList } := by
  refine ⟨hp, fun v hv => by obtain ⟨rfl, h⟩ := nodeList_mem hv; exact ha h,
    fun v hv => by obtain ⟨rfl, h⟩ := nodeList_mem hv; exact hb h, ?_⟩
  cases hav : a.isVoid with
  | false => exact .inl ⟨a, by simp [Json.nodeList, hav], hav⟩
  | true =>
    cases hbv : b.isVoid with
    | false => exact .inr (.inl ⟨b, by simp [Json.nodeList, hbv], hbv⟩)
    | true =>
      exact .inr (.inr ⟨by simp [Json.nodeList, hav], by simp [Json.nodeList, hbv], hv hav hbv⟩)

/-- **The hunks of a diff in the list reading are made of parts of the two documents.** `P` is a
    predicate on documents inherited by elements and members and kept when an array is typed
    `jsonList`, `K` a
    predicate that holds of the member names of the documents satisfying `P`: if `P a` (nothing is
    asked of "no document") and `P b`, every hunk of `a.Diff(b, metadata...)` is a `Part`. -/
theorem diff_parts (P : Json → Prop) (K : String → Prop)
    (elem : ∀ {t xs x}, P (.arr t xs) → x ∈ xs → P x)
    (member : ∀ {kvs k v}, P (.obj kvs) → (k, v) ∈ kvs → K k ∧ P v)
    (retag : ∀ {t xs}, P (.arr t xs) → P (.arr .list xs))
    (m : V1.Metas) (hl : V1.dispatchTag m = .list) :
    ∀ a b, a.listDoc = true → b.listDoc = true → (a.isVoid = false → P a) → P b →
      ∀ h ∈ V1.diffNode m false a b [], Part P K h := by
  have nokey : ∀ s, Json.str s ∈ ([] : List Json) → K s := fun s hs => by cases hs
  have num : ∀ {b : UInt64} (s : String), Json.num b = .str s → K s := fun _ h => by cases h
  have one : ∀ {e : Json}, (∀ s, e = .str s → K s) → ∀ s, Json.str s ∈ [e] → K s :=
    fun he s hs => he s (List.mem_singleton.1 hs).symm
  have str : ∀ {k : String}, K k → ∀ s, Json.str k = .str s → K s := fun hk s hs => by cases hs; exact hk
  intro a b ha hb pa pb h hm
  revert pa pb
  refine hunk_induct hl (P := fun a b h => (a.isVoid = false → P a) → P b → Part P K h)
    ?_ ?_ ?_ ?_ ?_ ?_ ?_ a b ha hb h hm
  · intro t t' xs ys j x y h hx hy _ ih pa pb
    refine (ih (fun _ => elem (pa rfl) (List.mem_of_getElem? hx)) ?_).shift num
    have py := elem pb (List.mem_of_getElem? hy)
    cases y with
    | arr t ys => cases t <;> simp only [V1.dispatch, hl] <;> first | exact py | exact retag py
    | _ => exact py
  · intro t t' xs ys y hy _ pb
    have py := elem pb (List.mem_of_mem_drop hy)
    exact part_leaf (a := .void) (one num) (fun h => by cases h) (fun _ => py)
      (fun _ hv => ⟨y, py, hv⟩)
  · intro t t' xs ys x j hxj pa _
    have px := elem (pa rfl) (List.mem_of_mem_drop (List.fst_mem_of_mem_zipIdx hxj))
    exact part_leaf (b := .void) (one num) (fun _ => px) (fun h => by cases h)
      (fun hv _ => ⟨x, px, hv⟩)
  · intro kvs kvs' k v v' h hkv hlk _ ih pa pb
    have hm := member (pa rfl) hkv
    exact (ih (fun _ => hm.2) (member pb (mem_of_alookup hlk)).2).shift (str hm.1)
  · intro kvs kvs' k v hkv _ pa _
    have hm := member (pa rfl) hkv
    exact part_leaf (b := .void) (one (str hm.1)) (fun _ => hm.2) (fun h => by cases h)
      (fun hv _ => ⟨v, hm.2, hv⟩)
  · intro kvs kvs' k v' hkv _ _ pb
    have hm := member pb hkv
    exact part_leaf (a := .void) (one (str hm.1)) (fun h => by cases h) (fun _ => hm.2)
      (fun _ hv => ⟨v', hm.2, hv⟩)
  · intro a b R A hR hA hne pa pb
    have pR : ∀ v ∈ R, P v ∧ v.isVoid = false := by
      rcases hR with rfl | ⟨t, xs, rfl, rfl⟩
      · intro v hv
        obtain ⟨rfl, h⟩ := nodeList_mem hv
        exact ⟨pa h, h⟩
      · intro v hv
        cases List.mem_singleton.1 hv
        exact ⟨retag (pa rfl), rfl⟩
    have pA : ∀ v ∈ A, v = b := by
      rcases hA with rfl | ⟨_, _, rfl⟩
      · exact fun v hv => (nodeList_mem hv).1
      · exact fun v hv => List.mem_singleton.1 hv
    refine ⟨nokey, fun v hv => (pR v hv).1, fun v hv => pA v hv ▸ pb, ?_⟩
    rcases hne with hav | hbv
    · have : ∃ v, v ∈ R := by
        rcases hR with rfl | ⟨_, _, _, rfl⟩
        · exact ⟨a, by simp [nodeList_of_notVoid hav]⟩
        · exact ⟨_, List.mem_singleton.2 rfl⟩
      obtain ⟨v, hv⟩ := this
      exact .inl ⟨v, hv, (pR v hv).2⟩
    · have : b ∈ A := by
        rcases hA with rfl | ⟨_, _, rfl⟩
        · simp [nodeList_of_notVoid hbv]
        · simp
      exact .inr (.inl ⟨b, this, hbv⟩)

/-! ### the list indices on the paths -/

/-- an index element of a diff path: the append index -1, or `float64(k)` for a `k < N` -/
def idxE (N : Nat) (e : Json) : Prop :=
  ∀ b, e = .num b → (e = V1.numNeg1 ∨ ∃ k, k < N ∧ e = V1.numOfNat k)

def idxP (N : Nat) (p : List Json) : Prop := ∀ e ∈ p, idxE N e

theorem idxP_nil (N : Nat) : idxP N [] := fun _ h => by cases h

theorem idxP_single {N : Nat} {e : Json} (he : idxE N e) : idxP N [e] := by
  intro e' h
  cases List.mem_singleton.1 h
  exact he

theorem idxP_shift {N : Nat} {e : Json} (he : idxE N e) {h : V1.Hunk} (g : idxP N h.path) :
    idxP N (shift [e] h).path := by
  intro e' h'
  rcases List.mem_cons.1 h' with rfl | h'
  · exact he
  · exact g e' h'

theorem idxE_str (N : Nat) (k : String) : idxE N (.str k) := fun _ h => by cases h

theorem idxE_nat {N i : Nat} (hi : i < N) : idxE N (V1.numOfNat i) := fun _ _ => .inr ⟨i, hi, rfl⟩

/-- **The list indices in the paths of a diff in the list reading**: `jsonNumber(-1)` (append) or
    `jsonNumber(k)` with `k` below the bound `N` on the array lengths of `a`. -/
theorem diff_idx (N : Nat) (m : V1.Metas) (hl : V1.dispatchTag m = .list) :
    ∀ a b, a.listDoc = true → b.listDoc = true → lenLe N a = true →
      ∀ h ∈ V1.diffNode m false a b [], idxP N h.path := by
  intro a b ha hb hlen h hm
  revert hlen
  refine hunk_induct hl (P := fun a _ h => lenLe N a = true → idxP N h.path)
    ?_ ?_ ?_ ?_ ?_ ?_ ?_ a b ha hb h hm
  · intro t t' xs ys j x y h hx _ _ ih hlen
    simp only [lenLe, Bool.and_eq_true, decide_eq_true_eq] at hlen
    have := lt_of_getElem? hx
    exact idxP_shift (idxE_nat (by omega)) (ih (lenLeList_mem hlen.2 (List.mem_of_getElem? hx)))
  · intro _ _ _ _ _ _ _
    exact idxP_single (fun _ _ => .inl rfl)
  · intro t t' xs ys x j hxj hlen
    simp only [lenLe, Bool.and_eq_true, decide_eq_true_eq] at hlen
    have hz := List.mem_zipIdx hxj
    simp only [List.length_drop] at hz
    exact idxP_single (idxE_nat (by omega))
  · intro kvs kvs' k v v' h hkv _ _ ih hlen
    exact idxP_shift (idxE_str N k) (ih (lenLeKvs_mem hlen hkv))
  · intro _ _ k _ _ _ _
    exact idxP_single (idxE_str N k)
  · intro _ _ k _ _ _ _
    exact idxP_single (idxE_str N k)
  · intro _ _ _ _ _ _ _ _
    exact idxP_nil N

theorem dom_dispatch {m : V1.Metas} (hl : V1.dispatchTag m = .list) {y : Json} (h : Dom y) :
    Dom (V1.dispatch m y) := by
  cases y with
  | arr t ys =>
    rw [dom_arr] at h
    cases t <;> simp only [V1.dispatch, hl] <;> first | exact dom_arr.2 ⟨rfl, h.2⟩ | exact dom_arr.2 h
  | _ => exact h

theorem equals_self (L : FloatLaws) {m : V1.Metas} (hl : V1.dispatchTag m = .list)
    (hp : nonnegBits (V1.precOf m) = true) {x : Json} (h : Dom x) : V1.equals m x x = true :=
  equals_refl L hl hp x h.good.listDoc h.good.wf h.good.fin

theorem equalsList_self (L : FloatLaws) {m : V1.Metas} (hl : V1.dispatchTag m = .list)
    (hp : nonnegBits (V1.precOf m) = true) :
    ∀ {xs : List Json}, DomL xs → V1.equalsList m xs xs = true
  | [], _ => by simp [V1.equalsList]
  | x :: r, h => by
    have h' := domL_cons.1 h
    simp [V1.equalsList, equals_self L hl hp h'.1.1, equalsList_self L hl hp h'.2]

/-! ## 7. the main induction: an element of `a` that the diff leaves in place is within the
  precision of the element of `b`; an element that a hunk writes is the element of `b`, `Equal` to
  itself because the precision is a finite non-negative number -/

/-- what the patched document is to the target in the list reading: `Equal` under the metadata, and
    a list document with sorted keys -/
abbrev Reach (m : V1.Metas) (r b : Json) : Prop := V1.equals m r b = true ∧ LW r

theorem reach_self (L : FloatLaws) {m : V1.Metas} (hl : V1.dispatchTag m = .list)
    (hp : nonnegBits (V1.precOf m) = true) {b : Json} (hb : Dom b) : Reach m b b :=
  ⟨equals_self L hl hp hb, dom_lw hb⟩

theorem reach_obj {m : V1.Metas} {cur kvs' : List (String × Json)} (hs : keysSorted cur = true)
    (hs' : keysSorted kvs' = true)
    (h : ∀ k, match alookup k kvs' with
      | none => alookup k cur = none
      | some v' => ∃ z, alookup k cur = some z ∧ Reach m z v') : Reach m (.obj cur) (.obj kvs') := by
  obtain ⟨_, key⟩ := DPK.OptRel.members hs hs' fun k => .of_lookup (h k)
  have hz : ∀ k z, alookup k cur = some z → LW z := fun k z hz =>
    let ⟨_, _, hr⟩ := key k z (mem_of_alookup hz); hr.2
  refine ⟨v1_equals_obj m hs hs' (fun k => ?_), ?_, ?_⟩
  · have := h k
    cases hlk' : alookup k kvs' with
    | none => rw [hlk'] at this; exact this
    | some v' =>
      rw [hlk'] at this
      obtain ⟨z, hz, hr, _⟩ := this
      exact ⟨z, hz, hr⟩
  · simp only [Json.listDoc]
    exact listDocKvs_of_lookup cur hs (fun k z h => (hz k z h).1)
  · simp only [Json.wf, Bool.and_eq_true]
    exact ⟨hs, wfKvs_of_lookup cur hs (fun k z h => (hz k z h).2)⟩

/-- a diff computed at the root that patches `a` to `r` is a step at any path (list reading) -/
theorem stepR_of_root {m : V1.Metas} (hl : V1.dispatchTag m = .list) {R : Json → Json → Prop}
    {a b r : Json} (ha : a.listDoc = true) (hb : b.listDoc = true)
    (h : V1.patchAll a (V1.diffNode m false a b []) = .ok r) (hR : R r b) (q : List Json) :
    V1S.StepR R m a b q :=
  ⟨V1.diffNode m false a b [], r, by simpa using (diff_shift m hl).1 a b ha hb q [],
    fun h hm => V1S.nm_of_hok (diff_hunks m hl a b ha hb h hm).1, h, hR⟩

theorem root_of_stepR {m : V1.Metas} {R : Json → Json → Prop} {a b : Json}
    (h : V1S.StepR R m a b []) : ∃ r, V1.patchAll a (V1.diffNode m false a b []) = .ok r ∧ R r b := by
  obtain ⟨D, r, e, _, hp, hR⟩ := h
  rw [e, V1S.shift_nil_map]
  exact ⟨r, hp, hR⟩

theorem diff_correct (L : FloatLaws) {N : Nat} (I : IdxLaws N) (m : V1.Metas) (hl : V1.dispatchTag m = .list)
    (hp : nonnegBits (V1.precOf m) = true) :
    ∀ a b, a.listDoc = true → b.listDoc = true → Dom a → Dom b → lenLe N a = true →
      ∃ r, V1.patchAll a (V1.diffNode m false a b []) = .ok r ∧ Reach m r b := by
  have DP := V1S.objDom_dom L
  have key := induct m hl
    (mN := fun a b => Dom a → Dom b → lenLe N a = true →
      ∃ r, V1.patchAll a (V1.diffNode m false a b []) = .ok r ∧ Reach m r b)
    (mK := fun kvs' kvs => ∀ k v, (k, v) ∈ kvs → ∀ v', alookup k kvs' = some v' →
      Dom v → Dom v' → lenLe N v = true →
      ∃ r, V1.patchAll v (V1.diffNode m false v v' []) = .ok r ∧ Reach m r v')
    (mE := fun ys xs => DomL xs → DomL ys → lenLeList N xs = true →
      ∃ zs, V1.equalsList m zs (ys.take xs.length) = true ∧ LWL zs ∧
        ∀ i pre post t, okTag t → pre.length = i → i + xs.length ≤ N →
          (∃ t', okTag t' ∧
            V1.patchAll (.arr t (pre ++ (xs.take ys.length ++ post)))
              (V1.diffElems m false [] i ys xs).flatten = .ok (.arr t' (pre ++ (zs ++ post)))) ∧
          (∃ t', okTag t' ∧
            V1.patchAll (.arr t (pre ++ (xs.take ys.length ++ post)))
              (V1.diffElems m false [] i ys xs).reverse.flatten =
                .ok (.arr t' (pre ++ (zs ++ post)))))
    ?_ ?_ ?_ ?_ ?_ ?_ ?_ ?_ ?_ ?_
  · exact key.1
  · -- list against list: positional
    intro t t' xs ys ht ht' htt hlx hly ih ha hb hlen
    rw [diffNode_arr_arr hl xs ys ht ht' htt]
    have ha' := dom_arr.1 ha
    have hb' := dom_arr.1 hb
    simp only [lenLe, Bool.and_eq_true, decide_eq_true_eq] at hlen
    obtain ⟨zs, hrel, hld, hstep⟩ := ih ha'.2 hb'.2 hlen.2
    unfold listDiff
    split
    · next hlt =>
      -- the list grows: sub-diffs by increasing index, then the appends
      obtain ⟨⟨t1, ht1, hf⟩, _⟩ := hstep 0 [] [] t ht rfl (by omega)
      simp only [List.nil_append, List.append_nil] at hf
      rw [List.take_of_length_le (by omega)] at hf
      obtain ⟨t3, ht3, happ⟩ := apply_appends I (ys.drop xs.length) zs t1 ht1
        (fun w hw => ((hb'.2.drop _).of_mem hw).2)
      refine ⟨.arr t3 (zs ++ ys.drop xs.length), ?_, ?_, ?_⟩
      · rw [patchAll_append, hf]
        exact happ
      · have := v1_equalsList_append m hrel (equalsList_self L hl hp (hb'.2.drop xs.length))
        rw [List.take_append_drop] at this
        exact (equals_arr_arr hl ht3 ht' _ _).trans this
      · exact lw_arr ht3 ⟨listDocList_append.2 ⟨hld.1, (hb'.2.drop _).good.listDoc⟩,
          wfList_append' hld.2 (hb'.2.drop _).good.wf⟩
    · next hge =>
      -- the list does not grow: deletions from the back, then the sub-diffs by decreasing index
      have hle : ys.length ≤ xs.length := by omega
      obtain ⟨t3, ht3, hdel⟩ := apply_dels L I _ (xs.drop ys.length) (xs.take ys.length) t rfl ht
        (ha'.2.drop _) (by simp; omega)
      rw [List.take_append_drop, List.length_take, Nat.min_eq_left hle] at hdel
      obtain ⟨_, ⟨t4, ht4, hr⟩⟩ := hstep 0 [] [] t3 ht3 rfl (by omega)
      simp only [List.nil_append, List.append_nil] at hr
      refine ⟨.arr t4 zs, ?_, ?_, lw_arr ht4 hld⟩
      · rw [patchAll_append]
        have e : V1.patchAll (.arr t xs) (List.map (fun xi : Json × Nat =>
            ({ path := [] ++ [V1.numOfNat xi.2], old := xi.1.nodeList, new := [] } : V1.Hunk))
            ((xs.drop ys.length).zipIdx ys.length).reverse) = .ok (.arr t3 (xs.take ys.length)) := hdel
        rw [e]
        exact hr
      · rw [List.take_of_length_le hle] at hrel
        exact (equals_arr_arr hl ht4 ht' _ _).trans hrel
  · -- list against something else: replaced as a whole
    intro t xs b ht hlx _ hb' ha hb _
    rw [diffNode_arr_other hl xs b ht hb']
    refine ⟨b, ?_, equals_self L hl hp hb, dom_lw hb⟩
    have he : V1.equals [] (.arr t xs) (Json.singleValue [Json.arr .list xs]) = true := by
      show V1.equals [] (.arr t xs) (.arr .list xs) = true
      rw [v1_equals_eq_specEq ListMode.nil ha.good.listDoc (listDoc_arr rfl hlx)]
      exact (Rel.arr (RelL.refl L (good_arr.1 ha.good).2) t .list).1
    rw [patch_root (.arr t xs) [.arr .list xs] b.nodeList ha.good.listDoc (by simp)
      (nodeList_length b) he]
    exact congrArg _ (single_nodeList b)
  · -- object against object: the members make their steps
    intro kvs kvs' _ hlb ih ha hb hlen
    have ha' := dom_obj.1 ha
    have hb' := dom_obj.1 hb
    simp only [lenLe] at hlen
    exact root_of_stepR (DP.obj_step (fun h => v1_equals_isVoid m h.1) reach_obj ha hb'.1
      (fun _ _ hm => (hb'.2.of_mem hm).2)
      (fun k v hm v' hlk q => by
        have dv := (ha'.2.of_mem hm).1
        obtain ⟨r, h1, h2⟩ := ih k v hm v' hlk dv (hb'.2.lookup hlk).1 (lenLeKvs_mem hlen hm)
        exact stepR_of_root hl dv.good.listDoc (alookup_listDoc hlk hlb) h1 h2 q)
      (fun _ _ hm => reach_self L hl hp (hb'.2.of_mem hm).1) [])
  · -- object against something else
    intro kvs b _ _ hb' ha hb _
    refine root_of_stepR (DP.replace_step ha (reach_self L hl hp hb) [] [b] (by simp) rfl ?_)
    rw [diffNode_obj_other m kvs b hb']
    rfl
  · -- scalars
    intro a b h1 h2 _ ha hb _
    exact root_of_stepR (DP.scalar_step h1 h2 ha (fun he => ⟨he, dom_lw ha⟩)
      (reach_self L hl hp hb) [])
  · -- no member left
    intro _ _ _ hm
    cases hm
  · -- one member of the source
    intro kvs' k v r hl' _ _ ihN ihK k1 v1 hm v' hlk
    rcases List.mem_cons.1 hm with e | hm
    · cases e; exact ihN v' (alookup_listDoc hlk hl')
    · exact ihK k1 v1 hm v' hlk
  · -- no element left in the source
    intro ys _ _ _
    refine ⟨[], by simp [V1.equalsList], ⟨rfl, rfl⟩, ?_⟩
    intro i pre post t ht _ _
    simp only [diffElems_nil, List.flatten_nil, List.reverse_nil, patchAll_nil, List.take_nil,
      List.nil_append]
    exact ⟨⟨t, ht, rfl⟩, ⟨t, ht, rfl⟩⟩
  · -- no element left in the target
    intro x xs _ _ _
    refine ⟨[], by simp [V1.equalsList], ⟨rfl, rfl⟩, ?_⟩
    intro i pre post t ht _ _
    simp only [diffElems_nil', List.flatten_nil, List.reverse_nil, patchAll_nil, List.length_nil,
      List.take_zero, List.nil_append]
    exact ⟨⟨t, ht, rfl⟩, ⟨t, ht, rfl⟩⟩
  · -- elements at the same index
    intro x xs y ys hx _ hy _ ihN ihE ha hb hlen
    have ha' := domL_cons.1 ha
    have hb' := domL_cons.1 hb
    simp only [lenLeList, Bool.and_eq_true] at hlen
    have hy' := dispatch_listDoc hl hy
    obtain ⟨r, hr, hrel0, hldr⟩ := ihN ha'.1.1 (dom_dispatch hl hb'.1.1) hlen.1
    obtain ⟨zs, hrel, hld, hstep⟩ := ihE ha'.2 hb'.2 hlen.2
    have hrel1 : V1.equals m r y = true := by rw [← equals_dispatch hl]; exact hrel0
    have hD0 : ∀ h ∈ V1.diffNode m false x (V1.dispatch m y) [], HOK h ∧ FOK h := by
      intro h hmem
      have := diff_hunks m hl x _ hx hy' h hmem
      exact ⟨this.1, this.2 ha'.1.2 (by rw [dispatch_isVoid]; exact hb'.1.2)⟩
    refine ⟨r :: zs, by simp [V1.equalsList, hrel1, hrel], ⟨by simp [listDocList, hldr.1, hld.1], by simp [wfList, hldr.2, hld.2]⟩, ?_⟩
    intro i pre post t ht hi hN
    simp only [List.length_cons] at hN
    have hb : V1.floatToInt (Float.ofNat i).toBits = (i : Int) := I.nat i (by omega)
    rw [diffElems_cons, diffNode_at hl x _ hx hy']
    simp only [List.length_cons, List.take_succ_cons, List.cons_append, List.flatten_cons,
      List.reverse_cons, List.flatten_append, List.flatten_nil, List.append_nil]
    constructor
    · -- increasing index: this element first
      obtain ⟨t1, ht1, h1⟩ := patchAll_idx_frame _ hD0 _ i hb t
        (pre ++ x :: (xs.take ys.length ++ post)) x ht (by rw [← hi]; simp) r hr
      rw [← hi, List.set_append_right _ _ (Nat.le_refl _), Nat.sub_self, List.set_cons_zero] at h1
      obtain ⟨⟨t2, ht2, h2⟩, _⟩ := hstep (i + 1) (pre ++ [r]) post t1 ht1 (by simp [hi]) (by omega)
      refine ⟨t2, ht2, ?_⟩
      rw [patchAll_append]
      have e : V1.numOfNat i = .num (Float.ofNat i).toBits := rfl
      rw [e, ← hi, h1]
      simp only [Outcome.bind_ok]
      simpa [hi, List.append_assoc] using h2
    · -- decreasing index: this element last
      obtain ⟨_, ⟨t1, ht1, h1⟩⟩ := hstep (i + 1) (pre ++ [x]) post t ht (by simp [hi]) (by omega)
      obtain ⟨t2, ht2, h2⟩ := patchAll_idx_frame _ hD0 _ i hb t1
        (pre ++ x :: (zs ++ post)) x ht1 (by rw [← hi]; simp) r hr
      rw [← hi, List.set_append_right _ _ (Nat.le_refl _), Nat.sub_self, List.set_cons_zero] at h2
      refine ⟨t2, ht2, ?_⟩
      rw [patchAll_append]
      have e : V1.numOfNat i = .num (Float.ofNat i).toBits := rfl
      have h1' : V1.patchAll (.arr t (pre ++ x :: (xs.take ys.length ++ post)))
          (V1.diffElems m false [] (i + 1) ys xs).reverse.flatten =
          .ok (.arr t1 (pre ++ x :: (zs ++ post))) := by
        simpa [List.append_assoc] using h1
      rw [h1']
      simp only [Outcome.bind_ok]
      rw [e, ← hi]
      exact h2

/-! ## 8. the v1 diff is empty exactly when `Equals` (with the metadata) holds -/

theorem diff_empty (m : V1.Metas) (hl : V1.dispatchTag m = .list) :
    (∀ a b, a.listDoc = true → b.listDoc = true → a.rawDoc = true → a.wf = true → b.wf = true →
      (V1.diffNode m false a b [] = [] ↔ V1.equals m a b = true)) ∧
    (∀ kvs' kvs, listDocKvs kvs' = true → listDocKvs kvs = true →
      rawDocKvs kvs = true → wfKvs kvs = true → wfKvs kvs' = true →
      (V1.diffKvs m false [] kvs' kvs = [] ↔ V1.equalsKvs m kvs kvs' = true)) ∧
    (∀ ys xs, listDocList ys = true → listDocList xs = true →
      rawDocList xs = true → wfList xs = true → wfList ys = true → xs.length = ys.length →
      ∀ i, ((∀ d ∈ V1.diffElems m false [] i ys xs, d = []) ↔ V1.equalsList m xs ys = true)) := by
  apply induct m hl
    (mN := fun a b => a.rawDoc = true → a.wf = true → b.wf = true →
      (V1.diffNode m false a b [] = [] ↔ V1.equals m a b = true))
    (mK := fun kvs' kvs => rawDocKvs kvs = true → wfKvs kvs = true → wfKvs kvs' = true →
      (V1.diffKvs m false [] kvs' kvs = [] ↔ V1.equalsKvs m kvs kvs' = true))
    (mE := fun ys xs => rawDocList xs = true → wfList xs = true → wfList ys = true →
      xs.length = ys.length →
      ∀ i, ((∀ d ∈ V1.diffElems m false [] i ys xs, d = []) ↔ V1.equalsList m xs ys = true))
  · -- list against list
    intro t t' xs ys ht ht' htt _ _ ih hr hw hw'
    simp only [Json.rawDoc, Bool.and_eq_true] at hr
    simp only [Json.wf] at hw hw'
    rw [diffNode_arr_arr hl xs ys ht ht' htt, equals_arr_arr hl ht ht']
    unfold listDiff
    split
    · next hlt =>
      constructor
      · intro h
        have := (List.append_eq_nil_iff.1 h).2
        rw [List.map_eq_nil_iff, List.drop_eq_nil_iff] at this
        omega
      · intro h
        have := v1_equalsList_length m xs ys h
        omega
    · next hge =>
      constructor
      · intro h
        have h' := List.append_eq_nil_iff.1 h
        have h1 := h'.1
        rw [List.map_eq_nil_iff, List.reverse_eq_nil_iff] at h1
        have hlen : xs.length = ys.length := by
          have : ((xs.drop ys.length).zipIdx ys.length).length = 0 := by rw [h1]; rfl
          simp only [List.length_zipIdx, List.length_drop] at this
          omega
        refine (ih hr.2 hw hw' hlen 0).1 (fun d hd => ?_)
        exact List.flatten_eq_nil_iff.1 h'.2 d (List.mem_reverse.2 hd)
      · intro h
        have hlen := v1_equalsList_length m xs ys h
        have h2 := (ih hr.2 hw hw' hlen 0).2 h
        rw [List.append_eq_nil_iff]
        constructor
        · rw [List.drop_of_length_le (by omega)]; rfl
        · exact List.flatten_eq_nil_iff.2 (fun d hd => h2 d (List.mem_reverse.1 hd))
  · -- list against something else
    intro t xs b ht _ _ hb' hr _ _
    simp only [Json.rawDoc, Bool.and_eq_true, beq_iff_eq] at hr
    rw [diffNode_arr_other hl xs b ht hb', equals_arr hl ht]
    rcases hb' with hb' | ⟨rfl, _⟩
    · cases b with
      | arr t' ys => exact absurd rfl (hb' t' ys)
      | _ => simp
    · cases hr.1
  · -- object against object
    intro kvs kvs' _ _ ih hr hw hw'
    simp only [Json.rawDoc] at hr
    simp only [Json.wf, Bool.and_eq_true] at hw hw'
    rw [diffNode_obj_obj, V1.equals, List.append_eq_nil_iff, List.map_eq_nil_iff, Bool.and_eq_true,
      ih hr hw.2 hw'.2, filter_isNone_eq_nil_iff, beq_iff_eq]
    constructor
    · rintro ⟨h1, h2⟩
      refine ⟨?_, h1⟩
      have l1 := List.Nodup.length_le_of_subset (keysSorted_nodup hw.1) (v1_equalsKvs_keys m kvs' kvs h1)
      have l2 := List.Nodup.length_le_of_subset (keysSorted_nodup hw'.1) h2
      simp only [List.length_map] at l1 l2
      omega
    · rintro ⟨h1, h2⟩
      refine ⟨h2, ?_⟩
      exact subset_of_nodup_subset_length _ _ (keysSorted_nodup hw.1) (v1_equalsKvs_keys m kvs' kvs h2)
        (by simp [h1])
  · -- object against something else
    intro kvs b _ _ hb' _ _ _
    rw [diffNode_obj_other m kvs b hb']
    cases b with
    | obj kvs' => exact absurd rfl (hb' kvs')
    | _ => simp [V1.equals]
  · -- scalars
    intro a b h1 h2 _ _ _ _
    rw [diffNode_scalar m a b h1 h2]
    unfold V1.diffCommon
    split
    · next he => simp [he]
    · next he => simp [he]
  · intro kvs' _ _ _
    simp [diffKvs_nil, V1.equalsKvs]
  · intro kvs' k v r hl' hv _ ihN ihK hr hw hw'
    simp only [rawDocKvs, wfKvs, Bool.and_eq_true] at hr hw
    rw [diffKvs_cons, V1.equalsKvs, List.append_eq_nil_iff, Bool.and_eq_true, ihK hr.2 hw.2 hw']
    cases hlk : alookup k kvs' with
    | none => simp
    | some v' =>
      simp only []
      rw [diffNode_at hl v v' hv (alookup_listDoc hlk hl'), List.map_eq_nil_iff,
        ihN v' (alookup_listDoc hlk hl') hr.1 hw.1 (alookup_wf hlk hw')]
  · intro ys _ _ _ hlen i
    have : ys = [] := List.length_eq_zero_iff.1 hlen.symm
    subst this
    simp [diffElems_nil, V1.equalsList]
  · intro x xs _ _ _ hlen
    simp at hlen
  · intro x xs y ys hx _ hy _ ihN ihE hr hw hw' hlen i
    simp only [rawDocList, wfList, Bool.and_eq_true] at hr hw hw'
    simp only [List.length_cons, Nat.add_right_cancel_iff] at hlen
    rw [diffElems_cons, V1.equalsList, Bool.and_eq_true, List.forall_mem_cons,
      ihE hr.2 hw.2 hw'.2 hlen (i + 1), diffNode_at hl x _ hx (dispatch_listDoc hl hy),
      List.map_eq_nil_iff, ihN hr.1 hw.1 (by rw [dispatch_wf]; exact hw'.1),
      equals_dispatch hl x y]

end Jd.V1L

namespace Jd.V1P
open Jd Jd.Spec Jd.DPL

/-! ## 9. list mode (precision 0 or absent): the instances, with structural equality -/

theorem diff_hunks (m : V1.Metas) (hm : ListMode m) :
    ∀ a b, a.listDoc = true → b.listDoc = true → ∀ h ∈ V1.diffNode m false a b [],
      HOK h ∧ (a.isVoid = false → b.isVoid = false → FOK h) :=
  V1L.diff_hunks m hm.tag

theorem Dom.dispatch {m : V1.Metas} (hm : ListMode m) {y : Json} (h : Dom y) :
    Dom (V1.dispatch m y) :=
  V1L.dom_dispatch hm.tag h

/-- `dispatch` only changes the Go dynamic type of the array node -/
theorem rel_dispatch (L : FloatLaws) {m : V1.Metas} (hm : ListMode m) {y : Json} (h : Dom y) :
    Rel (V1.dispatch m y) y := by
  cases y with
  | arr t ys =>
    have hl := (good_arr.1 h.good).2
    cases t <;> simp only [V1.dispatch, hm.tag] <;> exact Rel.arr (RelL.refl L hl) _ _
  | _ => exact Rel.refl L h.good

/-- at precision 0 `Equals` under the metadata, read from either side, is structural equality -/
theorem rel_of_equals (L : FloatLaws) {m : V1.Metas} (hm : ListMode m) {z y : Json}
    (h : V1.equals m z y = true) (hz : LW z) (hy : Dom y) : Rel z y := by
  refine ⟨by rw [← v1_equals_eq_specEq hm hz.1 hy.good.listDoc]; exact h, ?_⟩
  rw [← v1_equals_eq_specEq hm hy.good.listDoc hz.1,
    ← v1_equals_symm L hm z y hz.1 hy.good.listDoc hz.2 hy.good.wf]
  exact h

/-- the main induction at precision 0: the result is structurally equal to the target -/
theorem diff_correct (L : FloatLaws) {N : Nat} (I : IdxLaws N) (m : V1.Metas) (hm : ListMode m) :
    ∀ a b, a.listDoc = true → b.listDoc = true → Dom a → Dom b → lenLe N a = true →
      ∃ r, V1.patchAll a (V1.diffNode m false a b []) = .ok r ∧ Rel r b ∧ r.listDoc = true := by
  intro a b ha hb da db hlen
  obtain ⟨r, h1, h2, h3⟩ := V1L.diff_correct L I m hm.tag (by rw [hm.prec0]; exact nonnegBits_zero)
    a b ha hb da db hlen
  exact ⟨r, h1, rel_of_equals L hm h2 h3 db, h3.1⟩

/-! ## 10. C17, list mode: patching `a` with the v1 diff of `a` and `b` yields a document equal to `b` -/

/-- **C17 (v1 API, list mode, strict strategy, full nesting).** For list documents `a`, `b`
    (well-formed, finite numbers, no void inside), metadata without SET / MULTISET / MERGE and with
    precision 0 or absent: `a.Patch(a.Diff(b, m...))` succeeds and its result `Equals` `b` (with the
    metadata), and is structurally equal to `b` (`specEq`: array tags ignored).
    `IdxLaws N` / `lenLe N a`: list indices travel through float64 (`jsonNumber(i)` → `int(jn)`);
    the conversion is exact for the indices of arrays with at most `N` elements. -/
theorem v1_diff_patch_list (L : FloatLaws) {N : Nat} (I : IdxLaws N) (m : V1.Metas)
    (hm : ListMode m) (a b : Json)
    (ha1 : a.listDoc = true) (ha2 : a.wf = true) (ha3 : a.finiteNums = true) (ha4 : vfree a = true)
    (ha5 : lenLe N a = true)
    (hb1 : b.listDoc = true) (hb2 : b.wf = true) (hb3 : b.finiteNums = true) (hb4 : vfree b = true) :
    ∃ r, V1.patchM a (V1.diffM m a b) = .ok r ∧ V1.equals m r b = true ∧ specEq r b = true ∧
      specEq b r = true ∧ r.listDoc = true := by
  obtain ⟨r, h1, h2, h3⟩ := diff_correct L I m hm a b ha1 hb1 (Dom.mk' ha1 ha2 ha3 ha4)
    (Dom.mk' hb1 hb2 hb3 hb4) ha5
  refine ⟨r, ?_, ?_, h2.1, h2.2, h3⟩
  · simp only [V1.patchM, V1.diffM, hm.noMerge]
    exact h1
  · rw [v1_equals_eq_specEq hm h3 hb1]
    exact h2.1

/-- the same, stated with `untag` (the result and the target differ at most in the Go dynamic type
    of array nodes, and in the representation of numbers that `Equals` identifies) -/
theorem v1_diff_patch_list_untag (L : FloatLaws) {N : Nat} (I : IdxLaws N) (m : V1.Metas)
    (hm : ListMode m) (a b : Json)
    (ha1 : a.listDoc = true) (ha2 : a.wf = true) (ha3 : a.finiteNums = true) (ha4 : vfree a = true)
    (ha5 : lenLe N a = true)
    (hb1 : b.listDoc = true) (hb2 : b.wf = true) (hb3 : b.finiteNums = true) (hb4 : vfree b = true) :
    ∃ r, V1.patchM a (V1.diffM m a b) = .ok r ∧ specEq (untag r) (untag b) = true := by
  obtain ⟨r, h1, _, h2, _⟩ := v1_diff_patch_list L I m hm a b ha1 ha2 ha3 ha4 ha5 hb1 hb2 hb3 hb4
  exact ⟨r, h1, by rw [specEq_untag_left, specEq_untag_right]; exact h2⟩

/-- **C17, second half (v1 API, list mode).** For documents as the readers produce them (`a` with
    plain `jsonArray` nodes only, `b` a list document), well-formed: the diff is empty exactly when
    `Equals` holds. No hypothesis on numbers, void or lengths. -/
theorem v1_diff_empty_iff_equals (m : V1.Metas) (hm : ListMode m) (a b : Json)
    (ha1 : a.rawDoc = true) (ha2 : a.wf = true) (hb1 : b.listDoc = true) (hb2 : b.wf = true) :
    V1.diffM m a b = [] ↔ V1.equals m a b = true := by
  simp only [V1.diffM, hm.noMerge]
  exact (V1L.diff_empty m hm.tag).1 a b (rawDoc_listDoc a ha1) hb1 ha1 ha2 hb2

/-! ## 11. witnesses, non-vacuity -/

/-- a `jsonList` against the same elements as a plain `jsonArray`: the model's diff is one
    replacement hunk although `Equals` holds (not constructible through the public API) -/
theorem tag_witness :
    V1.diffM [] (.arr .list []) (.arr .raw []) ≠ [] ∧
      V1.equals [] (.arr .list []) (.arr .raw []) = true := by
  constructor
  · simp only [V1.diffM, V1.hasMerge]
    rw [V1L.diffNode_arr_other ListMode.nil.tag [] _ rfl (.inr ⟨rfl, [], rfl⟩)]
    simp
  · rw [V1L.equals_arr rfl rfl]
    simp [V1.equalsList]

namespace Example

def one : Json := .num 0x3FF0000000000000
def two : Json := .num 0x4000000000000000
/-- `[true, 1, [1], null, {"a":[1,2,2],"b":1}, 2, 2]` -/
def exA : Json := .arr .raw [.bool true, one, .arr .raw [one], .null,
  .obj [("a", .arr .raw [one, two, two]), ("b", one)], two, two]
/-- `[false, 1, [1, 1], null, {"a":[2],"c":{}}]` -/
def exB : Json := .arr .raw [.bool false, one, .arr .raw [one, one], .null,
  .obj [("a", .arr .raw [two]), ("c", .obj [])]]

-- shrinking at the root (deletions `[6]`, `[5]` first, then sub-diffs by decreasing index), a nested
-- shrink below `[4,"a"]`, member removed / added, a nested append `[2,-1]`, a replacement at `[0]`
#eval (V1.diffM [] exA exB).map (fun h => (h.path, h.old, h.new))
#eval V1.patchM exA (V1.diffM [] exA exB)
#eval (V1.diffM [] exB exA).map (fun h => (h.path, h.old, h.new))
#eval V1.patchM exB (V1.diffM [] exB exA)

-- the index laws on samples (they are facts about IEEE-754 binary64, opaque to the kernel)
#eval (List.range 3000).all (fun i => V1.floatToInt (Float.ofNat i).toBits == (i : Int))
#eval V1.floatToInt (Float.ofNat (2 ^ 53 - 1)).toBits == ((2 ^ 53 - 1 : Nat) : Int)
#eval V1.floatToInt (Float.ofInt (-1)).toBits

-- a void ARRAY ELEMENT (outside the domain: `vfree`) is read as an insertion by `jsonList.patch`
#eval V1.patchM (.arr .raw [.void]) (V1.diffM [] (.arr .raw [.void]) (.arr .raw [one]))

/-- the hypotheses of `v1_diff_patch_list` hold for this pair, in both directions -/
theorem hyps :
    exA.listDoc = true ∧ exA.wf = true ∧ exA.finiteNums = true ∧ vfree exA = true ∧
    lenLe 8 exA = true ∧
    exB.listDoc = true ∧ exB.wf = true ∧ exB.finiteNums = true ∧ vfree exB = true ∧
    lenLe 8 exB = true := by
  decide +kernel

example (L : FloatLaws) (I : IdxLaws 8) :
    ∃ r, V1.patchM exA (V1.diffM [.setkeys ["a"]] exA exB) = .ok r ∧
      V1.equals [.setkeys ["a"]] r exB = true := by
  obtain ⟨h1, h2, h3, h4, h5, h6, h7, h8, h9, _⟩ := hyps
  obtain ⟨r, hr, e, _⟩ :=
    v1_diff_patch_list L I _ (ListMode.setkeys ["a"]) exA exB h1 h2 h3 h4 h5 h6 h7 h8 h9
  exact ⟨r, hr, e⟩

end Example

/-! ### axioms -/

#print axioms v1_equals_eq
#print axioms v1_equals_refl
#print axioms v1_equals_symm
#print axioms diff_correct
#print axioms v1_diff_patch_list
#print axioms v1_diff_patch_list_untag
#print axioms v1_diff_empty_iff_equals
#print axioms tag_witness
#print axioms Example.hyps

end Jd.V1P
