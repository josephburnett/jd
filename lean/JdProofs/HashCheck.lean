/-
  JdProofs.HashCheck — deciding the no-collision hypothesis `HashFaithful` on concrete documents.

  `HashFaithful o S` ("equal hash codes only for equivalent nodes") is a hypothesis of the set-mode
  theorems; the examples and witnesses instantiate it on the sub-terms of one document pair. The
  specification `equivB` is defined by well-founded recursion and does not evaluate in the kernel, so
  this file gives a structurally recursive twin `equivS`, proves it equal to `equivB` on documents
  without numbers (numbers are compared through the opaque `Float`), and turns `HashFaithful` of a
  concrete number-free list into one kernel evaluation (`faithful_of_check`, for any hash function:
  the v2 `hashCode o` and the v1 `V1.hashCode m` alike). With numbers (`faithful_of_eqCheck`), members
  with equal codes must be identical (`Json.eqb`, JdProofs.Eval) or number-free; identical members are equivalent by
  `equivB_refl` (proved here), which needs the IEEE-754 law `FloatLaws.refl`. Last: a pair of documents meeting
  every hypothesis of `equals_eq_equivB_set` (`ex_equals_eq_equivB`).
-/
import JdProofs.EqualsSet
import JdProofs.Eval

namespace Jd
open Jd.Spec

mutual
/-- no number anywhere in the document -/
def Json.numFree : Json → Bool
  | .num _ => false
  | .arr _ xs => numFreeList xs
  | .obj kvs => numFreeKvs kvs
  | _ => true
def numFreeList : List Json → Bool
  | [] => true
  | x :: r => x.numFree && numFreeList r
def numFreeKvs : List (String × Json) → Bool
  | [] => true
  | (_, v) :: r => v.numFree && numFreeKvs r
end

theorem numFreeList_eq_all (xs : List Json) : numFreeList xs = xs.all Json.numFree :=
  listP_eq_all rfl (fun _ _ => rfl) xs


/-! `equivS` recurses on the first document only: a list of elements becomes the list of the
    predicates "equivalent to this element" (`predsS`), and the list comparisons of the specification
    are repeated over such predicates, outside the recursion. A mutual block with one function per
    comparison, as in the specification, is far slower to compile. -/

def equivListP : List (Json → Bool) → List Json → Bool
  | [], [] => true
  | p :: ps, y :: ys => p y && equivListP ps ys
  | _, _ => false

def bagSubP : List (Json → Bool) → List Json → Bool
  | [], _ => true
  | p :: ps, ys =>
    match removeFirst p ys with
    | some ys' => bagSubP ps ys'
    | none => false

def equivKvsP : List (String × (Json → Bool)) → List (String × Json) → Bool
  | [], _ => true
  | (k, p) :: r, kvs' =>
    (match alookup k kvs' with
     | some v' => p v'
     | none => false) && equivKvsP r kvs'

mutual
/-- `equivB` by structural recursion on the first document; two numbers are never equivalent here,
    so it agrees with `equivB` only where the first document has no number (`equivS_eq`) -/
def equivS (o : Opts) : Json → Json → Bool
  | .void, .void => true
  | .null, .null => true
  | .bool x, .bool y => x == y
  | .str x, .str y => x == y
  | .arr _ xs, .arr _ ys =>
    match dispatchTag o with
    | .set => (predsS o xs).all (fun p => ys.any p) && ys.all (fun y => (predsS o xs).any (fun p => p y))
    | .mset => xs.length == ys.length && bagSubP (predsS o xs) ys
    | _ => equivListP (predsS o xs) ys
  | .obj kvs, .obj kvs' => kvs.length == kvs'.length && equivKvsP (predsKvsS o kvs) kvs'
  | _, _ => false
def predsS (o : Opts) : List Json → List (Json → Bool)
  | [] => []
  | x :: r => equivS o x :: predsS o r
def predsKvsS (o : Opts) : List (String × Json) → List (String × (Json → Bool))
  | [] => []
  | (k, v) :: r => (k, equivS o v) :: predsKvsS o r
end

theorem allIn_eq_all (o : Opts) (xs ys : List Json) :
    allIn o xs ys = xs.all fun x => ys.any (equivB o x) :=
  Bool.eq_iff_iff.2 (by simp only [allIn_iff, List.all_eq_true, List.any_eq_true])

theorem allCovered_eq_all (o : Opts) (xs ys : List Json) :
    allCovered o xs ys = ys.all fun y => xs.any fun x => equivB o x y :=
  Bool.eq_iff_iff.2 (by simp only [allCovered_iff, List.all_eq_true, List.any_eq_true])

theorem equivList_eq_equivListP (o : Opts) :
    ∀ xs ys, equivList o xs ys = equivListP (xs.map (equivB o)) ys
  | [], [] => by simp [equivList, equivListP]
  | [], _ :: _ => by simp [equivList, equivListP]
  | _ :: _, [] => by simp [equivList, equivListP]
  | x :: r, y :: s => by rw [equivList, equivList_eq_equivListP o r s]; rfl

theorem bagSub_eq_bagSubP (o : Opts) :
    ∀ xs ys, bagSub o xs ys = bagSubP (xs.map (equivB o)) ys
  | [], _ => by simp [bagSub, bagSubP]
  | x :: r, ys => by
    rw [bagSub, List.map_cons, bagSubP]
    cases removeFirst (fun y => equivB o x y) ys with
    | none => rfl
    | some ys' => exact bagSub_eq_bagSubP o r ys'

theorem equivKvs_eq_equivKvsP (o : Opts) (kvs' : List (String × Json)) :
    ∀ kvs, equivKvs o kvs kvs' = equivKvsP (kvs.map fun kv => (kv.1, equivB o kv.2)) kvs'
  | [] => by simp [equivKvs, equivKvsP]
  | (k, v) :: r => by rw [equivKvs, equivKvs_eq_equivKvsP o kvs' r]; rfl

theorem predsS_eq (o : Opts) : ∀ xs : List Json, numFreeList xs = true →
    (∀ x ∈ xs, ∀ y, x.numFree = true → equivS o x y = equivB o x y) →
    predsS o xs = xs.map (equivB o)
  | [], _, _ => by simp [predsS]
  | x :: r, h, ih => by
    simp only [numFreeList, Bool.and_eq_true] at h
    have e : equivS o x = equivB o x := funext fun y => ih x List.mem_cons_self y h.1
    rw [predsS, e, predsS_eq o r h.2 fun y hy => ih y (List.mem_cons_of_mem _ hy)]; rfl

theorem predsKvsS_eq (o : Opts) : ∀ kvs : List (String × Json), numFreeKvs kvs = true →
    (∀ k v, (k, v) ∈ kvs → ∀ y, v.numFree = true → equivS o v y = equivB o v y) →
    predsKvsS o kvs = kvs.map fun kv => (kv.1, equivB o kv.2)
  | [], _, _ => by simp [predsKvsS]
  | (k, v) :: r, h, ih => by
    simp only [numFreeKvs, Bool.and_eq_true] at h
    have e : equivS o v = equivB o v := funext fun y => ih k v List.mem_cons_self y h.1
    rw [predsKvsS, e, predsKvsS_eq o r h.2 fun k' v' hm => ih k' v' (List.mem_cons_of_mem _ hm)]; rfl

theorem equivS_eq (o : Opts) : ∀ (a b : Json), a.numFree = true → equivS o a b = equivB o a b := by
  intro a
  induction a using jsonInd with
  | num _ => intro _ h; simp [Json.numFree] at h
  | arr t xs ih =>
    intro b h
    simp only [Json.numFree] at h
    cases b <;> simp only [equivS, equivB]
    rw [predsS_eq o xs h ih, allIn_eq_all, allCovered_eq_all, bagSub_eq_bagSubP,
      equivList_eq_equivListP, List.all_map]
    simp only [List.any_map]
    cases dispatchTag o <;> rfl
  | obj kvs ih =>
    intro b h
    simp only [Json.numFree] at h
    cases b <;> simp only [equivS, equivB]
    rw [predsKvsS_eq o kvs h ih, equivKvs_eq_equivKvsP]
  | _ => intro b _; cases b <;> simp [equivS, equivB]

/-- among the number-free documents `S`, equal codes under `H` only for `equivB`-equivalent ones:
    one evaluation of a Boolean -/
theorem faithful_of_check (H : Json → UInt64) {o : Opts} {S : List Json}
    (h : (numFreeList S && S.all fun x => S.all fun y => H x != H y || equivS o x y) = true) :
    ∀ x ∈ S, ∀ y ∈ S, H x = H y → equivB o x y = true := by
  intro x hx y hy e
  simp only [Bool.and_eq_true, List.all_eq_true] at h
  have := h.2 x hx y hy
  simp only [e, bne_self_eq_false, Bool.false_or] at this
  rw [← equivS_eq o x y (List.all_eq_true.1 (numFreeList_eq_all S ▸ h.1) x hx)]; exact this

theorem hashFaithful_of_check {o : Opts} {S : List Json}
    (h : (numFreeList S && S.all fun x => S.all fun y =>
      hashCode o x != hashCode o y || equivS o x y) = true) : HashFaithful o S :=
  faithful_of_check (hashCode o) h

/-! ### documents with numbers -/

theorem equivList_refl (o : Opts) : ∀ xs : List Json, (∀ x ∈ xs, equivB o x x = true) →
    equivList o xs xs = true
  | [], _ => by simp [equivList]
  | x :: r, h => by
    simp [equivList, h x List.mem_cons_self,
      equivList_refl o r (fun y hy => h y (List.mem_cons_of_mem _ hy))]

theorem bagSub_refl (o : Opts) : ∀ xs : List Json, (∀ x ∈ xs, equivB o x x = true) →
    bagSub o xs xs = true
  | [], _ => by simp [bagSub]
  | x :: r, h => by
    simp [bagSub, removeFirst, h x List.mem_cons_self,
      bagSub_refl o r (fun y hy => h y (List.mem_cons_of_mem _ hy))]

/-- the specification is reflexive, in every reading of arrays, on documents with sorted unique
    keys and finite numbers (precision not negative) -/
theorem equivB_refl (L : FloatLaws) (o : Opts) (hp : nonnegBits (precOf o) = true) :
    ∀ a : Json, a.wf = true → a.finiteNums = true → equivB o a a = true := by
  intro a
  induction a using jsonInd with
  | num x =>
    intro _ hf
    simp only [Json.finiteNums] at hf
    simp only [equivB]
    exact L.refl _ x hf hp
  | arr t xs ih =>
    intro hw hf
    simp only [Json.wf, Json.finiteNums, wfList_eq_all, finiteNumsList_eq_all,
      List.all_eq_true] at hw hf
    have h : ∀ x ∈ xs, equivB o x x = true := fun x hx => ih x hx (hw x hx) (hf x hx)
    simp only [equivB]
    split
    · rw [Bool.and_eq_true, allIn_iff, allCovered_iff]
      exact ⟨fun x hx => ⟨x, hx, h x hx⟩, fun x hx => ⟨x, hx, h x hx⟩⟩
    · simp [bagSub_refl o xs h]
    · exact equivList_refl o xs h
  | obj kvs ih =>
    intro hw hf
    simp only [Json.wf, Json.finiteNums, wfKvs_eq_all, finiteNumsKvs_eq_all, Bool.and_eq_true,
      List.all_eq_true] at hw hf
    simp only [equivB, beq_self_eq_true, Bool.true_and, equivKvs_eq_lookAll, lookAll_iff]
    exact fun k v hm => ⟨v, alookup_of_mem hw.1 hm, ih k v hm (hw.2 _ hm) (hf _ hm)⟩
  | _ => intro _ _; simp [equivB]

/-- among the documents `S` (sorted unique keys, finite numbers; numbers allowed), two members with equal
    codes under `H` are identical, or number-free and `equivS`-equivalent; hence `equivB`-equivalent: one
    evaluation of a Boolean. Any reading of arrays. Identity is the only safe test once numbers occur:
    the bag matching of `equivB` is greedy, so no stronger comparison of numbers implies it. -/
theorem faithful_of_eqCheck (L : FloatLaws) (H : Json → UInt64) {o : Opts} {S : List Json}
    (hp : nonnegBits (precOf o) = true)
    (h : (S.all fun x => x.wf && x.finiteNums && S.all fun y =>
      H x != H y || x.eqb y || (x.numFree && equivS o x y)) = true) :
    ∀ x ∈ S, ∀ y ∈ S, H x = H y → equivB o x y = true := by
  intro x hx y hy e
  simp only [List.all_eq_true, Bool.and_eq_true] at h
  obtain ⟨⟨hw, hf⟩, hall⟩ := h x hx
  have := hall y hy
  simp only [e, bne_self_eq_false, Bool.false_or, Bool.or_eq_true, Bool.and_eq_true] at this
  rcases this with he | ⟨hn, hs⟩
  · rw [← Json.eq_of_eqb he]; exact equivB_refl L o hp x hw hf
  · rw [← equivS_eq o x y hn]; exact hs

/-! ### non-vacuity of `equals_eq_equivB_set`

    A nested pair of documents satisfying every hypothesis of the SET theorem
    (the `FloatEq0` law is about the opaque `Float` and is the only assumption left). -/

def setExA : Json := .arr .raw [.str "a", .obj [("k", .arr .raw [.str "b", .str "a"])]]
def setExB : Json :=
  .arr .raw [.obj [("k", .arr .raw [.str "a", .str "b", .str "a"])], .str "a", .str "a"]

theorem ex_setDoc : setExA.setDoc = true ∧ setExB.setDoc = true := by decide

theorem ex_hashFaithful : HashFaithful [.set] (subterms setExA ++ subterms setExB) :=
  hashFaithful_of_check (by decide +kernel)

theorem ex_equals_eq_equivB (F : FloatEq0) :
    equals [.set] setExA setExB = equivB [.set] setExA setExB ∧ equals [.set] setExA setExB = true :=
  ⟨equals_eq_equivB_set F [.set] rfl rfl setExA setExB ex_setDoc.1 ex_setDoc.2 ex_hashFaithful,
   by decide +kernel⟩

#print axioms ex_equals_eq_equivB

end Jd
