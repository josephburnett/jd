/-
  JdProofs.ListRecursion — property C06 (v2 library, LIST mode `dispatchTag o = .list`, strict
  strategy), the clauses about arrays whose elements may be CONTAINERS (objects, arrays; any nesting):
    "… recurses into same-position containers of the same kind instead of replacing them. Every
     hunk that edits an array position carries exactly one line of before-context and one of
     after-context, equal to the neighbouring elements or the array boundary."
  Namespace `Jd.Rec`. The statements are about the library functions of the model (`diffM`,
  `diffNode`, `diffRest`); the reference semantics of hunks is `Jd.Spec.applyStrictAll` / `splice`.

  (1) RECURSION
    * `diffM_same_kind_containers` (`…_mem`): two arrays of equal length, position by position
      containers of the same kind (`sameKinds`), no element of the first with the hash code of an
      element of the second, no position holding a typed `jsonList` against a plain `jsonArray`
      (`noMixed`; true of documents read from text): `a.Diff(b)` IS the concatenation of the sub-diffs
      `diffNode o false xs[i] ys[i] [.idx i]`. A mixed pair is replaced wholesale by one hunk to which
      `subAfter` gives an after-context: `Example.mixed_not_concatenation`.
    * `diffM_recurses_at` (`diffRest_recurses_at`, `…_subAfter`, `diffM_recurses_at_whole`): `Reach` is
      the cursor walk of `jsonList.diffRest` (the decisions of the code, without the hunks). At a
      reached position whose cursor elements `x`, `y` are same-kind containers, not mixed, neither
      being the next common element, `a.Diff(b) = D1 ++ diffNode o false x y [.idx j] ++ D2` with `j`
      the position of `y`; no hunk of the sub-diff is an array-level hunk (`isTop`); the array-level
      hunks of `D1` (`D2`) remove a sublist of the elements before (after) `x` and add a sublist of
      those before (after) `y`. Hypothesis: list documents.
      For documents read from text every hunk of the sub-diff is addressed strictly inside the
      container (`diff_deep`).
    * `diffM_top_removes_adds_le`: the array-level hunks remove at most `|xs| − LCS` and add at most
      `|ys| − LCS` elements: the minimality clause extended from scalars (`Jd.Min`, equality) to
      containers (≤). From `Align.top_diffRest`: what the array-level hunks remove / add IS what the
      `edit` steps of the alignment remove / add (`keeps`, `subs`, `removedOf`, `addedOf` of a script:
      JdProofs/ListScript.lean). A position the walk reaches cuts the alignment in two (`reach_walk`),
      and the rendering with it (`render_split`).
  (3) SHAPE
    * `diffM_array_hunks` (from `Align.mem_render`; only hypothesis: no `mixedPair`): every
      hunk of the diff of two arrays is an array-level hunk of the advertised shape or belongs to the
      sub-diff at `[.idx j]` of two same-kind containers `x ∈ xs`, `y = ys[j]`
      (`sub_hunk_not_array_level`: on list documents the alternatives exclude each other).
    * `diffM_hunk_shape_all_levels` (`diff_deep`): documents read from text, every level: every hunk
      is strict; one whose path ends with a list index `i` has `0 ≤ i`, one before- and one
      after-context line and is not empty; every other hunk has no context.
  (2) CONTEXT
    * `diffM_hunk_applies`, `diffM_context_is_neighbours`, `diffM_context_all_levels`: operational
      form, every level, under the hypotheses of `DPL.diffM_list_correct` from which they are derived.
      For every split `a.Diff(b) = D1 ++ h :: D2` with `h.path = q ++ [.idx i]`: `D1` applies to `a`,
      giving `m`; the node of `m` at `q` is a list `l`; `splice l i h` succeeds and
      `CtxIsNeighbours l i h`.
    * `diffM_located_containers` (from `RealL.aligned_hunk`: the diff of two arrays is the rendering of
      `Align.alignment`, `Align.diffNode_aligned_walk`): static form, one array level.
      Hypotheses: elements `GoodL`, `NumHashOK` (numbers equal as floats have equal hash codes; true of
      all finite doubles since `0` and `-0` hash alike; implied by `ZeroOK`), no `mixedPair`; NO
      hash-collision hypothesis. Every hunk is `Real.Located` — `remove` a contiguous run of `xs`,
      `add` the contiguous run of `ys` at the addressed index, `before` LITERALLY the element of `ys`
      preceding it, `after` LITERALLY the element of `xs` following the removed run (void at the
      boundaries) — or belongs to the sub-diff of two same-kind containers.
  WITNESS (`Example.nonwf_diff`, `Example.nonwf_context_not_neighbour`): OUTSIDE the domain (an object
    with a duplicate key) two same-kind containers with different hash codes have an EMPTY sub-diff;
    the code then takes the after-context from the position after the container, it is NOT the
    neighbour and the reference interpreter rejects the diff. Hence `wf` in the context theorems;
    inside the domain that branch is unreachable (`diff_nil_hash` + optimality of the common
    sequence).

  NOT PROVED / LIMITS
    * The operational context theorems inherit `HashOK` and `ZeroOK` from `DPL.diffM_list_correct`;
      the static form needs neither, but is stated for one array level at a time.
    * (1) general is stated along `Reach`; no static criterion on `xs`, `ys` is given for a position to
      be reached, beyond the special case.
    * A typed `jsonList` element against a plain `jsonArray` element: the sub-diff is a wholesale
      replacement (`Jd.diff_list_vs_array_nonempty`), still not an array-level hunk
      (`subAfter_isTop_false`), but it may receive an after-context, so the statements that mention the
      sub-diff `diffNode o false x y …` LITERALLY exclude such pairs (`noMixed`, `mixedPair`).
-/
import JdProofs.LcsProofs
import JdProofs.DiffPatchList
import JdProofs.DiffMinimal
import JdProofs.RealDiff
import JdProofs.StrictPatch
import JdProofs.Eval

namespace Jd.Rec
open Jd Jd.Spec Jd.DPL Jd.RealL Jd.Align

/-! ## A. pairwise same-kind containers with no common hash code: only sub-diffs -/

/-- the sub-diffs of the pairs standing at the same position, the first pair at index `k` -/
def subDiffs (o : Opts) (p : Path) : Nat → List Json → List Json → Diff
  | k, x :: xs, y :: ys => diffNode o false x y (p ++ [.idx (k : Int)]) ++ subDiffs o p (k + 1) xs ys
  | _, _, _ => []

theorem subDiffs_eq_flatMap (o : Opts) (p : Path) : ∀ (xs ys : List Json) (k : Nat),
    subDiffs o p k xs ys =
      ((xs.zip ys).zipIdx k).flatMap
        (fun q => diffNode o false q.1.1 q.1.2 (p ++ [.idx (q.2 : Int)]))
  | [], _, _ => by simp [subDiffs]
  | _ :: _, [], _ => by simp [subDiffs]
  | x :: xs, y :: ys, k => by
    simp [subDiffs, List.zipIdx_cons, subDiffs_eq_flatMap o p xs ys (k + 1)]

/-- the two lists have the same length and hold, position by position, containers of the same kind
    (`sameContainerType`: two objects, or two arrays read the same way) — decidable -/
def sameKinds (o : Opts) : List Json → List Json → Bool
  | [], [] => true
  | x :: xs, y :: ys => sameContainerType o x y && sameKinds o xs ys
  | _, _ => false

theorem atC_nil (o : Opts) (x : Json) : atC o x [] = false := rfl

/-- with an EMPTY common sequence the walk over two lists of pairwise same-kind containers of
    equal length recurses into every pair -/
theorem walk_pairs (o : Opts) : ∀ (xs ys : List Json), sameKinds o xs ys = true →
    walk o xs ys [] [] [] = List.zipWith Step.sub xs ys
  | [], [], _ => by rw [walk_nilA]; rfl
  | [], _ :: _, h => by simp [sameKinds] at h
  | _ :: _, [], h => by simp [sameKinds] at h
  | x :: xs, y :: ys, h => by
    simp only [sameKinds, Bool.and_eq_true] at h
    rw [walk_cons]
    simp only [atC_nil, Bool.and_self, Bool.false_eq_true, if_false, h.1, if_true,
      walk_pairs o xs ys h.2, List.zipWith_cons_cons]
    rfl

/-- with an EMPTY common sequence and nothing accumulated, the walk over two lists of pairwise
    same-kind containers of equal length, no pair being a typed list against a plain array
    (`noMixed`: such a pair is replaced wholesale and `subAfter` gives that hunk an after-context),
    emits the sub-diffs and nothing else -/
theorem diffRest_pairs (o : Opts) (p : Path) (xs ys : List Json) (same : sameKinds o xs ys = true)
    (nomix : noMixed xs ys = true) (k : Nat) (prev : Json) :
    diffRest o p k k prev xs ys [] [] [] = subDiffs o p k xs ys := by
  rw [show diffRest o p k k prev xs ys [] [] [] = _ from diffRest_render o p xs ys [] [] [] k prev,
    walk_pairs o xs ys same]
  generalize true = n
  induction xs generalizing ys k prev n with
  | nil => cases ys <;> rfl
  | cons x xs ih =>
    cases ys with
    | nil => rfl
    | cons y ys =>
      simp only [sameKinds, Bool.and_eq_true] at same
      simp only [noMixed, Bool.and_eq_true, Bool.not_eq_true'] at nomix
      simp only [List.zipWith_cons_cons, render, subDiffs, ih ys same.2 nomix.2,
        Real.subAfter_diffNode_of_not_mixed o same.1 nomix.1]

/-- no hash code in common: the golcs common sequence is empty -/
theorem lcsValues_nil_of_apart (o : Opts) (xs ys : List Json)
    (apart : ∀ x ∈ xs, ∀ y ∈ ys, hashCode o x ≠ hashCode o y) :
    lcsValues (hashList o xs) (hashList o ys) = [] := by
  cases hc : lcsValues (hashList o xs) (hashList o ys) with
  | nil => rfl
  | cons z c =>
    have h1 : z ∈ hashList o xs :=
      (lcsValues_sublist_left (hashList o xs) (hashList o ys)).subset (by rw [hc]; simp)
    have h2 : z ∈ hashList o ys :=
      (lcsValues_sublist_right (hashList o xs) (hashList o ys)).subset (by rw [hc]; simp)
    rw [hashList_eq_map] at h1 h2
    obtain ⟨x, hx, rfl⟩ := List.mem_map.1 h1
    obtain ⟨y, hy, e⟩ := List.mem_map.1 h2
    exact absurd e.symm (apart x hx y hy)

/-- **(1), special case, at any path.** Two arrays of EQUAL length whose elements are, position by
    position, containers of the same kind, and no element of the first has the hash code of an
    element of the second: the diff is exactly the concatenation of the sub-diffs at
    `p ++ [.idx i]`; there is no array-level hunk. -/
theorem diffNode_same_kind_containers {o : Opts} (ho : dispatchTag o = .list) {t t' : Tag}
    (xs ys : List Json)
    (ht : (t == .raw || t == .list) = true) (ht' : (t' == .raw || t' == .list) = true)
    (htt : t = .raw ∨ t' = .list) (p : Path)
    (same : sameKinds o xs ys = true) (nomix : noMixed xs ys = true)
    (apart : ∀ x ∈ xs, ∀ y ∈ ys, hashCode o x ≠ hashCode o y) :
    diffNode o false (.arr t xs) (.arr t' ys) p = subDiffs o p 0 xs ys := by
  rw [diffNode_arr_arr ho xs ys ht ht' htt p, lcsValues_nil_of_apart o xs ys apart]
  exact diffRest_pairs o p xs ys same nomix 0 .void

/-- **(1), special case, `a.Diff(b)`.** -/
theorem diffM_same_kind_containers {o : Opts} (ho : dispatchTag o = .list) (hm : isMerge o = false)
    {t t' : Tag} (xs ys : List Json)
    (ht : (t == .raw || t == .list) = true) (ht' : (t' == .raw || t' == .list) = true)
    (htt : t = .raw ∨ t' = .list)
    (same : sameKinds o xs ys = true) (nomix : noMixed xs ys = true)
    (apart : ∀ x ∈ xs, ∀ y ∈ ys, hashCode o x ≠ hashCode o y) :
    diffM o (.arr t xs) (.arr t' ys) =
      ((xs.zip ys).zipIdx).flatMap
        (fun q => diffNode o false q.1.1 q.1.2 [.idx (q.2 : Int)]) := by
  rw [diffM, hm, diffNode_same_kind_containers ho xs ys ht ht' htt [] same nomix apart,
    subDiffs_eq_flatMap]
  rfl

/-- in particular every hunk belongs to the sub-diff of the two elements at some position `i`, and
    its path starts with that index: no hunk removes or adds an element of the arrays as a whole
    at array level -/
theorem diffM_same_kind_containers_mem {o : Opts} (ho : dispatchTag o = .list)
    (hm : isMerge o = false) {t t' : Tag} (xs ys : List Json)
    (ht : (t == .raw || t == .list) = true) (ht' : (t' == .raw || t' == .list) = true)
    (htt : t = .raw ∨ t' = .list)
    (same : sameKinds o xs ys = true) (nomix : noMixed xs ys = true)
    (apart : ∀ x ∈ xs, ∀ y ∈ ys, hashCode o x ≠ hashCode o y) :
    ∀ h ∈ diffM o (.arr t xs) (.arr t' ys), ∃ (i : Nat) (x y : Json),
      xs[i]? = some x ∧ ys[i]? = some y ∧ h ∈ diffNode o false x y [.idx (i : Int)] ∧
        [PathElem.idx (i : Int)] <+: h.path := by
  intro h hmem
  rw [diffM_same_kind_containers ho hm xs ys ht ht' htt same nomix apart, List.mem_flatMap] at hmem
  obtain ⟨⟨⟨x, y⟩, i⟩, hq, hh⟩ := hmem
  have hq' := List.mem_zipIdx hq
  simp only [Nat.zero_le, Nat.sub_zero, true_and, Nat.zero_add] at hq'
  obtain ⟨hi, e⟩ := hq'
  have e' : (xs.zip ys)[i]? = some (x, y) := by
    rw [List.getElem?_eq_getElem hi, e]
  rw [List.getElem?_zip_eq_some] at e'
  exact ⟨i, x, y, e'.1, e'.2, hh, Real.diff_paths_extend_general o false x y _ h hh⟩

/-! ## B. every hunk of an array diff is an array-level hunk of the advertised shape, or belongs to
    the sub-diff of two same-kind containers (only hypothesis on the elements: no `mixedPair`) -/

/-- `h` belongs to the sub-diff of two same-kind containers `x` (an element of `a`) and `y` (an
    element of `b`), computed at `p ++ [.idx j]` where `j` is `k` plus the position of `y` in `b` -/
def SubHunk (o : Opts) (p : Path) (k : Nat) (a b : List Json) (h : Hunk) : Prop :=
  ∃ (preA : List Json) (x : Json) (postA preB : List Json) (y : Json) (postB : List Json),
    a = preA ++ x :: postA ∧ b = preB ++ y :: postB ∧ sameContainerType o x y = true ∧
      h ∈ diffNode o false x y (p ++ [.idx ((k + preB.length : Nat) : Int)])

/-- **(3) for `diffNode`.** Containers allowed: a hunk of the diff of two arrays is an array-level
    hunk of the advertised shape (`Min.ListHunk`: strict, at `p ++ [.idx i]`, exactly one line of
    before- and one of after-context, not empty) — an `edit` step of the alignment — or it belongs
    to the sub-diff of two same-kind containers standing in the two arrays — a `sub` step. -/
theorem diffNode_array_hunks {o : Opts} (ho : dispatchTag o = .list) {t t' : Tag}
    (xs ys : List Json)
    (ht : (t == .raw || t == .list) = true) (ht' : (t' == .raw || t' == .list) = true)
    (htt : t = .raw ∨ t' = .list) (p : Path)
    (nomix : ∀ x ∈ xs, ∀ y ∈ ys, mixedPair x y = false) :
    ∀ h ∈ diffNode o false (.arr t xs) (.arr t' ys) p,
      (h.before.length = 1 ∧ h.after.length = 1 ∧ (∃ i : Nat, h.path = p ++ [.idx i]) ∧
        h.merge = false ∧ (h.remove ≠ [] ∨ h.add ≠ [])) ∨
      SubHunk o p 0 xs ys h := by
  intro h hm
  rw [diffNode_alignment ho xs ys ht ht' htt] at hm
  rcases mem_render _ _ _ _ hm with ⟨S1, R, A, S2, e, rfl⟩ | ⟨S1, x, y, S2, n, e, hm⟩
  · exact .inl ⟨rfl, rfl, ⟨_, rfl⟩, rfl, (alignment_ok o xs ys (.edit R A) (by rw [e]; simp)).1⟩
  · have hs := (alignment_ok o xs ys (.sub x y) (by rw [e]; simp)).1
    have hxs : xs = src S1 ++ x :: src S2 := by
      rw [← alignment_src o xs ys, e]; simp [src_append, Step.src]
    have hys : ys = tgt S1 ++ y :: tgt S2 := by
      rw [← alignment_tgt o xs ys, e]; simp [tgt_append, Step.tgt]
    rw [Real.subAfter_diffNode_of_not_mixed o hs
      (nomix x (by rw [hxs]; simp) y (by rw [hys]; simp))] at hm
    exact .inr ⟨src S1, x, src S2, tgt S1, y, tgt S2, hxs, hys, hs, hm⟩

/-- **(3) for `a.Diff(b)`**, two arrays with arbitrary elements (containers allowed, any nesting):
    every hunk is an ARRAY-LEVEL hunk — strict, addressed to an index of the array, exactly one line
    of before-context and one of after-context, removing or adding at least one element — or it
    belongs to the sub-diff, at `[.idx j]`, of two containers of the same kind `x ∈ xs` and
    `y = ys[j]`. -/
theorem diffM_array_hunks {o : Opts} (ho : dispatchTag o = .list) (hm : isMerge o = false)
    {t t' : Tag} (xs ys : List Json)
    (ht : (t == .raw || t == .list) = true) (ht' : (t' == .raw || t' == .list) = true)
    (htt : t = .raw ∨ t' = .list)
    (nomix : ∀ x ∈ xs, ∀ y ∈ ys, mixedPair x y = false) :
    ∀ h ∈ diffM o (.arr t xs) (.arr t' ys),
      (h.before.length = 1 ∧ h.after.length = 1 ∧ (∃ i : Nat, h.path = [.idx i]) ∧
        h.merge = false ∧ (h.remove ≠ [] ∨ h.add ≠ [])) ∨
      (∃ (preA : List Json) (x : Json) (postA preB : List Json) (y : Json) (postB : List Json),
        xs = preA ++ x :: postA ∧ ys = preB ++ y :: postB ∧ sameContainerType o x y = true ∧
          h ∈ diffNode o false x y [.idx (preB.length : Int)]) := by
  rw [diffM, hm]
  intro h hmem
  rcases diffNode_array_hunks ho xs ys ht ht' htt [] nomix h hmem with h1 | h1
  · exact .inl (by simpa using h1)
  · obtain ⟨preA, x, postA, preB, y, postB, ea, eb, hk, hh⟩ := h1
    exact .inr ⟨preA, x, postA, preB, y, postB, ea, eb, hk, by simpa using hh⟩

/-- on list documents the two alternatives exclude each other: a hunk of the sub-diff of two
    same-kind containers at `p ++ [.idx j]` is never an array-level hunk at `p` (its path is longer,
    or it carries no context: the wholesale replacement of a typed `jsonList` by a plain `jsonArray`,
    which documents read from text never contain) -/
theorem sub_hunk_not_array_level {o : Opts} (ho : dispatchTag o = .list) {x y : Json}
    (hx : x.listDoc = true) (hy : y.listDoc = true) (hs : sameContainerType o x y = true)
    (p : Path) (j : Int) {h : Hunk} (hm : h ∈ diffNode o false x y (p ++ [.idx j])) :
    (p ++ [PathElem.idx j]).length < h.path.length ∨ (h.before = [] ∧ h.after = []) := by
  rw [diffNode_shift] at hm
  obtain ⟨h0, hm0, rfl⟩ := List.mem_map.1 hm
  have hnv := sameContainerType_notVoid hs
  rcases diff_frameOK o ho x y hx hy hnv.1 hnv.2 h0 hm0 with hp | ⟨hb, ha, _⟩
  · left
    simp only [shiftHunk, List.length_append]
    have : 0 < h0.path.length := List.length_pos_iff.2 hp
    omega
  · exact .inr ⟨hb, ha⟩

/-! ### all levels: documents as read from text (`rawDoc`) -/

/-- what a hunk must look like given the LAST element of its path: below a list index it carries
    exactly one line of context on each side and is not empty; anywhere else it carries no context -/
def LastOK (e : PathElem) (h : Hunk) : Prop :=
  match e with
  | .idx i => 0 ≤ i ∧ h.before.length = 1 ∧ h.after.length = 1 ∧ (h.remove ≠ [] ∨ h.add ≠ [])
  | _ => h.before = [] ∧ h.after = []

/-- a hunk of a sub-diff computed at `p`: strict, and its path is `p` itself (then it carries no
    context) or a proper extension of `p` whose last element fixes the shape -/
def Deep (p : Path) (h : Hunk) : Prop :=
  h.merge = false ∧ ∃ (q : Path) (e : PathElem), h.path = p ++ q ++ [e] ∧ LastOK e h

theorem Deep.below {p : Path} {e0 : PathElem} {h : Hunk} (hd : Deep (p ++ [e0]) h) : Deep p h := by
  obtain ⟨h1, q, e, h2, h3⟩ := hd
  exact ⟨h1, e0 :: q, e, by simpa using h2, h3⟩

/-- the shape of every hunk at every level, the first document as read from text (which excludes a
    typed list against a plain array); one case per origin of a hunk -/
theorem diff_deep (o : Opts) (ho : dispatchTag o = .list) :
    ∀ a b, a.listDoc = true → b.listDoc = true → ∀ p, ∀ h ∈ diffNode o false a b p,
      a.rawDoc = true →
        (h.merge = false ∧ h.path = p ∧ h.before = [] ∧ h.after = [] ∧
          sameContainerType o a b = false) ∨ Deep p h := by
  apply hunk_induct ho (P := fun a b p h => a.rawDoc = true →
    (h.merge = false ∧ h.path = p ∧ h.before = [] ∧ h.after = [] ∧
      sameContainerType o a b = false) ∨ Deep p h)
  · intro t t' xs ys p s prev R A after _ _ hne _ _ _ _ _ _
    exact .inr ⟨rfl, [], .idx (s : Int), by simp, Int.natCast_nonneg _, rfl, rfl, hne⟩
  · intro t t' xs ys p x y j n nx h _ _ hx _ hs _ _ ih hm hr
    simp only [Json.rawDoc, Bool.and_eq_true] at hr
    have hxr := DES.rawDocList_mem hr.2 hx
    rw [Real.subAfter_diffNode_of_not_mixed o hs (mixedPair_of_rawDoc_left y hxr)] at hm
    rcases ih h hm hxr with ⟨_, _, _, _, g⟩ | hd
    · rw [hs] at g; cases g
    · exact .inr hd.below
  · intro kvs kvs' p k v v' h _ _ hv _ _ ih hr
    simp only [Json.rawDoc] at hr
    have hvr : v.rawDoc = true :=
      List.all_eq_true.1 (rawDocKvs_eq_all kvs ▸ hr) (k, v) hv
    rcases ih hvr with ⟨g1, g2, g3, g4, _⟩ | hd
    · exact .inr ⟨g1, [], .key k, by simpa using g2, g3, g4⟩
    · exact .inr hd.below
  · intro kvs kvs' p k v _ _ _ _
    exact .inr ⟨rfl, [], .key k, by simp, rfl, rfl⟩
  · intro kvs kvs' p k v' _ _ _ _
    exact .inr ⟨rfl, [], .key k, by simp, rfl, rfl⟩
  · intro a b p R A _ _ hs _ _ _ hr
    rcases hs with hs | hs
    · exact .inl ⟨rfl, rfl, rfl, rfl, hs⟩
    · cases a with
      | arr t xs =>
        cases b with
        | arr t' ys =>
          cases t' <;> simp [mixedPair] at hs
          simp only [Json.rawDoc, Bool.and_eq_true, beq_iff_eq] at hr
          exact absurd hr.1 hs
        | _ => simp [mixedPair] at hs
      | _ => simp [mixedPair] at hs

/-- **(3) at every level.** `a.Diff(b)` for two documents as read from JSON / YAML text (`rawDoc`;
    any nesting of objects and arrays): every hunk is strict; a hunk whose path ends with a list
    index (a non-negative one) carries exactly one line of before-context and one line of
    after-context and removes or adds at least one element; every other hunk (root, object member)
    carries no context. -/
theorem diffM_hunk_shape_all_levels {o : Opts} (ho : dispatchTag o = .list) (hm : isMerge o = false)
    (a b : Json) (ha : a.rawDoc = true) (hb : b.rawDoc = true) :
    ∀ h ∈ diffM o a b, h.merge = false ∧
      (match h.path.getLast? with
       | some (.idx i) =>
         0 ≤ i ∧ h.before.length = 1 ∧ h.after.length = 1 ∧ (h.remove ≠ [] ∨ h.add ≠ [])
       | _ => h.before = [] ∧ h.after = []) := by
  rw [diffM, hm]
  intro h hmem
  rcases diff_deep o ho a b (rawDoc_listDoc a ha) (rawDoc_listDoc b hb) [] h hmem ha with
    ⟨g1, g2, g3, g4, _⟩ | ⟨g1, q, e, g2, g3⟩
  · refine ⟨g1, ?_⟩
    rw [g2]
    exact ⟨g3, g4⟩
  · refine ⟨g1, ?_⟩
    rw [g2]
    simp only [List.nil_append, List.getLast?_append, List.getLast?_singleton, Option.some_or]
    cases e <;> exact g3

/-! ## C. the context lines are the neighbouring elements (reference semantics, every level) -/

/-- **what "the context lines equal the neighbours" means**, for a hunk addressed to index `i` of
    the list `l` it is applied to: it has exactly one before-context line `prev` and one
    after-context line `next`; `prev` is the boundary marker (void) when `i = 0` and otherwise
    structurally equal (`specEq`) to `l[i-1]`; the removed values are structurally equal, in order,
    to `l[i], l[i+1], …`; `next` is structurally equal to the element following the removed run,
    or is the boundary marker when the removed run ends the list. -/
structure CtxIsNeighbours (l : List Json) (i : Nat) (h : Hunk) : Prop where
  idx_le : i + h.remove.length ≤ l.length
  removed : prefixEq h.remove (l.drop i) = true
  ctx : ∃ prev next, h.before = [prev] ∧ h.after = [next] ∧
    (match i with
     | 0 => prev.isVoid = true
     | j + 1 => ∃ z, l[j]? = some z ∧ specEq prev z = true) ∧
    (match l[i + h.remove.length]? with
     | some z => specEq next z = true
     | none => next.isVoid = true)

theorem ctxIsNeighbours_of_splice {l : List Json} {i : Nat} {h : Hunk} {l' : List Json}
    (hs : splice l (i : Int) h = some l') (hb : h.before.length = 1) (ha : h.after.length = 1) :
    CtxIsNeighbours l i h := by
  obtain ⟨hi, hpre, hbe, haf, _⟩ := Real.splice_nat_iff.1 hs
  have hlen := Real.prefixEq_length _ _ hpre
  simp only [List.length_drop] at hlen
  obtain ⟨prev, eprev⟩ := List.length_eq_one_iff.1 hb
  obtain ⟨next, enext⟩ := List.length_eq_one_iff.1 ha
  refine ⟨by omega, hpre, prev, next, eprev, enext, ?_, ?_⟩
  · rw [eprev] at hbe
    have hbe' : beforeOk l (i : Int) 1 0 [prev] = true := hbe
    rw [beforeOk_one] at hbe'
    cases i with
    | zero => exact hbe'
    | succ j =>
      simp only at hbe' ⊢
      cases hz : l[j]? with
      | none => simp [hz] at hbe'
      | some z => rw [hz] at hbe'; exact ⟨z, rfl, hbe'⟩
  · rw [enext] at haf
    simp only [afterOk, Bool.and_true] at haf
    have e : ((l.drop i).drop h.remove.length)[0]? = l[i + h.remove.length]? := by
      rw [List.getElem?_drop, List.getElem?_drop]; simp
    rw [e] at haf
    cases hz : l[i + h.remove.length]? with
    | none =>
      rw [hz] at haf
      simp only [Bool.and_eq_true] at haf
      exact haf.2
    | some z => rw [hz] at haf; exact haf

theorem getAt_void_ne_arr (q : Path) (t : Tag) (l : List Json) :
    Real.getAt .void q ≠ some (.arr t l) := by
  cases q with
  | nil => simp [Real.getAt]
  | cons e r => simp [Real.getAt]

/-- a strict hunk whose path ends with a list index and that the reference interpreter accepts was
    spliced into the list standing at the path without its last element -/
theorem applyStrict_snoc_idx (i : Int) (h : Hunk) :
    ∀ (q : Path) (m m' : Json), applyStrict m (q ++ [.idx i]) h = some m' →
      ∃ (t : Tag) (l l' : List Json), Real.getAt m q = some (.arr t l) ∧ splice l i h = some l' := by
  intro q
  induction q with
  | nil =>
    intro m m' hm
    cases m with
    | arr t xs =>
      simp only [List.nil_append, applyStrict] at hm
      cases hs : splice xs i h with
      | none => simp [hs] at hm
      | some l' => exact ⟨t, xs, l', rfl, hs⟩
    | _ => simp [applyStrict] at hm
  | cons e q ih =>
    intro m m' hm
    obtain ⟨e1, r1, hr1⟩ : ∃ e1 r1, q ++ [PathElem.idx i] = e1 :: r1 := by
      cases q with
      | nil => exact ⟨_, _, rfl⟩
      | cons e1 r1 => exact ⟨_, _, rfl⟩
    cases e with
    | idx j =>
      cases m with
      | arr t xs =>
        rw [List.cons_append, hr1, applyStrict] at hm
        · rw [← hr1] at hm
          split at hm
          · cases hm
          · next hj =>
            cases hx : xs[j.toNat]? with
            | none => simp [hx] at hm
            | some x =>
              simp only [hx] at hm
              cases hv : applyStrict x (q ++ [.idx i]) h with
              | none => simp [hv] at hm
              | some v =>
                obtain ⟨t1, l, l', g1, g2⟩ := ih x v hv
                refine ⟨t1, l, l', ?_, g2⟩
                simp [Real.getAt, hj, hx, g1]
        · intro e; cases e
      | _ =>
        rw [List.cons_append, hr1] at hm
        simp [applyStrict] at hm
    | key k =>
      cases m with
      | obj kvs =>
        rw [List.cons_append, applyStrict] at hm
        cases hv : applyStrict ((alookup k kvs).getD .void) (q ++ [.idx i]) h with
        | none => simp [hv] at hm
        | some v =>
          obtain ⟨t1, l, l', g1, g2⟩ := ih _ v hv
          refine ⟨t1, l, l', ?_, g2⟩
          cases hl : alookup k kvs with
          | none =>
            rw [hl] at g1
            exact absurd g1 (getAt_void_ne_arr q t1 l)
          | some w =>
            rw [hl] at g1
            simpa [Real.getAt, hl] using g1
      | _ =>
        rw [List.cons_append, hr1] at hm
        simp [applyStrict] at hm
    | _ =>
      rw [List.cons_append, hr1] at hm
      simp [applyStrict] at hm

/-- **(2), every level, against the reference interpreter.** Documents of the C01 list theorem
    (list documents, sorted unique keys, finite numbers, no void member, no hash collision between
    a sub-term of `a` and one of `b`, no `0` / `-0` pair), any nesting.  Split `a.Diff(b)` anywhere:
    `D1 ++ h :: D2`.  The hunks before `h` apply to `a` and give a document `m`; `h` itself is
    accepted by the reference interpreter on `m`; and when `h` is addressed to a list index
    (`h.path = q ++ [.idx i]`) the node of `m` at `q` is a list `l` into which `h` is spliced at `i`,
    with its removed values and context lines checked (`splice l i h` succeeds). -/
theorem diffM_hunk_applies (L : FloatLaws) (o : Opts) (ho : dispatchTag o = .list)
    (hm : isMerge o = false) (a b : Json)
    (ha1 : a.listDoc = true) (ha2 : a.wf = true) (ha3 : a.finiteNums = true) (ha4 : memOK a = true)
    (hb1 : b.listDoc = true) (hb2 : b.wf = true) (hb3 : b.finiteNums = true) (hb4 : memOK b = true)
    (H : HashOK o a b) (Z : ZeroOK a b) (D1 : Diff) (h : Hunk) (D2 : Diff)
    (hd : diffM o a b = D1 ++ h :: D2) :
    ∃ m m', applyStrictAll a D1 = some m ∧ applyStrict m h.path h = some m' ∧
      ∀ (q : Path) (i : Nat), h.path = q ++ [.idx (i : Int)] →
        ∃ (t : Tag) (l l' : List Json), Real.getAt m q = some (.arr t l) ∧
          splice l (i : Int) h = some l' := by
  obtain ⟨r, hr, _⟩ := diffM_list_correct L o ho hm a b ha1 ha2 ha3 ha4 hb1 hb2 hb3 hb4 H Z
  rw [hd, applyStrictAll_append] at hr
  cases hm1 : applyStrictAll a D1 with
  | none => simp [hm1] at hr
  | some m =>
    rw [hm1] at hr
    simp only [Option.bind_some, applyStrictAll] at hr
    cases hm2 : applyStrict m h.path h with
    | none => simp [hm2] at hr
    | some m' =>
      refine ⟨m, m', rfl, hm2, fun q i hp => ?_⟩
      rw [hp] at hm2
      exact applyStrict_snoc_idx _ h q m m' hm2

/-- **(2), every level: the context lines ARE the neighbouring elements.** Same documents. For every
    hunk `h` of `a.Diff(b)` addressed to a list index, `h.path = q ++ [.idx i]`, with one line of
    context on each side (every array-level hunk has that shape: `diffM_array_hunks`,
    `diffM_hunk_shape_all_levels`): after the hunks that precede it have been applied to `a`, the
    node at `q` is a list `l`, and in `l` the before-context line equals the element just before
    index `i` (the boundary marker when `i = 0`), the removed values equal the elements from `i` on,
    and the after-context line equals the element following them (the boundary marker at the end
    of the list). -/
theorem diffM_context_is_neighbours (L : FloatLaws) (o : Opts) (ho : dispatchTag o = .list)
    (hm : isMerge o = false) (a b : Json)
    (ha1 : a.listDoc = true) (ha2 : a.wf = true) (ha3 : a.finiteNums = true) (ha4 : memOK a = true)
    (hb1 : b.listDoc = true) (hb2 : b.wf = true) (hb3 : b.finiteNums = true) (hb4 : memOK b = true)
    (H : HashOK o a b) (Z : ZeroOK a b) (D1 : Diff) (h : Hunk) (D2 : Diff)
    (hd : diffM o a b = D1 ++ h :: D2) (q : Path) (i : Nat) (hp : h.path = q ++ [.idx (i : Int)])
    (hbl : h.before.length = 1) (hal : h.after.length = 1) :
    ∃ (m : Json) (t : Tag) (l : List Json), applyStrictAll a D1 = some m ∧
      Real.getAt m q = some (.arr t l) ∧ CtxIsNeighbours l i h := by
  obtain ⟨m, m', g1, _, g3⟩ :=
    diffM_hunk_applies L o ho hm a b ha1 ha2 ha3 ha4 hb1 hb2 hb3 hb4 H Z D1 h D2 hd
  obtain ⟨t, l, l', g4, g5⟩ := g3 q i hp
  exact ⟨m, t, l, g1, g4, ctxIsNeighbours_of_splice g5 hbl hal⟩

/-- **(2) + (3) together, every level, documents as read from text.** `a`, `b`: raw documents with
    sorted unique keys, finite numbers, no void member, no hash collision, no `0` / `-0` pair. Split
    `a.Diff(b) = D1 ++ h :: D2` anywhere. If the path of `h` ends with a list index `i` — the hunk
    edits an array position — then after `D1` has been applied to `a` the node at the path of `h`
    without its last element is a list `l`, `h` carries exactly one before- and one after-context
    line, and they equal the neighbours of the edited run in `l` (`CtxIsNeighbours`). -/
theorem diffM_context_all_levels (L : FloatLaws) (o : Opts) (ho : dispatchTag o = .list)
    (hm : isMerge o = false) (a b : Json)
    (ha1 : a.rawDoc = true) (ha2 : a.wf = true) (ha3 : a.finiteNums = true) (ha4 : memOK a = true)
    (hb1 : b.rawDoc = true) (hb2 : b.wf = true) (hb3 : b.finiteNums = true) (hb4 : memOK b = true)
    (H : HashOK o a b) (Z : ZeroOK a b) (D1 : Diff) (h : Hunk) (D2 : Diff)
    (hd : diffM o a b = D1 ++ h :: D2) (i : Int) (hlast : h.path.getLast? = some (.idx i)) :
    ∃ (m : Json) (t : Tag) (l : List Json), applyStrictAll a D1 = some m ∧
      Real.getAt m h.path.dropLast = some (.arr t l) ∧ 0 ≤ i ∧ CtxIsNeighbours l i.toNat h := by
  have hmem : h ∈ diffM o a b := by rw [hd]; simp
  have hshape := (diffM_hunk_shape_all_levels ho hm a b ha1 hb1 h hmem).2
  rw [hlast] at hshape
  obtain ⟨hi, hbl, hal, _⟩ := hshape
  have hp : h.path = h.path.dropLast ++ [.idx ((i.toNat : Nat) : Int)] := by
    have e : ((i.toNat : Nat) : Int) = i := Int.toNat_of_nonneg hi
    obtain ⟨r, hr⟩ := List.getLast?_eq_some_iff.1 hlast
    rw [e, hr, List.dropLast_concat]
  obtain ⟨m, t, l, g1, g2, g3⟩ := diffM_context_is_neighbours L o ho hm a b
    (rawDoc_listDoc a ha1) ha2 ha3 ha4 (rawDoc_listDoc b hb1) hb2 hb3 hb4 H Z D1 h D2 hd
    h.path.dropLast i.toNat hp hbl hal
  exact ⟨m, t, l, g1, g2, hi, g3⟩

/-! ## D. recursion at any position the cursor walk reaches -/

/-- the positions visited by the cursor walk of `jsonList.diffRest` started on `a0 b0 c0`
    (remaining elements of the two arrays, remaining common sequence): exactly the decisions of the
    code, without the hunks -/
inductive Reach (o : Opts) (a0 b0 : List Json) (c0 : List UInt64) :
    List Json → List Json → List UInt64 → Prop
  | start : Reach o a0 b0 c0 a0 b0 c0
  | both {x y : Json} {a' b' : List Json} {c : List UInt64} :
      Reach o a0 b0 c0 (x :: a') (y :: b') c → atC o x c = true → atC o y c = true →
      Reach o a0 b0 c0 a' b' c.tail
  | addB {x y : Json} {a' b' : List Json} {c : List UInt64} :
      Reach o a0 b0 c0 (x :: a') (y :: b') c → atC o x c = true → atC o y c = false →
      Reach o a0 b0 c0 (x :: a') b' c
  | remA {x y : Json} {a' b' : List Json} {c : List UInt64} :
      Reach o a0 b0 c0 (x :: a') (y :: b') c → atC o x c = false → atC o y c = true →
      Reach o a0 b0 c0 a' (y :: b') c
  | sub {x y : Json} {a' b' : List Json} {c : List UInt64} :
      Reach o a0 b0 c0 (x :: a') (y :: b') c → atC o x c = false → atC o y c = false →
      sameContainerType o x y = true → Reach o a0 b0 c0 a' b' c
  | repl {x y : Json} {a' b' : List Json} {c : List UInt64} :
      Reach o a0 b0 c0 (x :: a') (y :: b') c → atC o x c = false → atC o y c = false →
      sameContainerType o x y = false → Reach o a0 b0 c0 a' b' c

/-- an array-level hunk of the array at `p`: addressed one step below `p`, with context -/
def isTop (p : Path) (h : Hunk) : Bool :=
  h.path.length == p.length + 1 && !h.before.isEmpty

/-- everything the array-level hunks at `p` remove, in hunk order -/
def removedTop (p : Path) (D : Diff) : List Json := (D.filter (isTop p)).flatMap (·.remove)

/-- everything the array-level hunks at `p` add, in hunk order -/
def addedTop (p : Path) (D : Diff) : List Json := (D.filter (isTop p)).flatMap (·.add)

@[simp] theorem removedTop_nil (p : Path) : removedTop p [] = [] := rfl
@[simp] theorem addedTop_nil (p : Path) : addedTop p [] = [] := rfl

@[simp] theorem removedTop_append (p : Path) (D E : Diff) :
    removedTop p (D ++ E) = removedTop p D ++ removedTop p E := by
  simp [removedTop]

@[simp] theorem addedTop_append (p : Path) (D E : Diff) :
    addedTop p (D ++ E) = addedTop p D ++ addedTop p E := by
  simp [addedTop]

theorem removedTop_of_all_false {p : Path} {D : Diff} (h : ∀ x ∈ D, isTop p x = false) :
    removedTop p D = [] := by
  have : D.filter (isTop p) = [] := List.filter_eq_nil_iff.2 (fun x hx => by simp [h x hx])
  simp [removedTop, this]

theorem addedTop_of_all_false {p : Path} {D : Diff} (h : ∀ x ∈ D, isTop p x = false) :
    addedTop p D = [] := by
  have : D.filter (isTop p) = [] := List.filter_eq_nil_iff.2 (fun x hx => by simp [h x hx])
  simp [addedTop, this]

/-- no hunk of the sub-diff of two same-kind containers (list documents) is an array-level hunk
    of the enclosing array -/
theorem sub_isTop_false {o : Opts} (ho : dispatchTag o = .list) {x y : Json}
    (hx : x.listDoc = true) (hy : y.listDoc = true) (hs : sameContainerType o x y = true)
    (p : Path) (j : Int) : ∀ h ∈ diffNode o false x y (p ++ [.idx j]), isTop p h = false := by
  intro h hm
  rcases sub_hunk_not_array_level ho hx hy hs p j hm with hlt | ⟨hb, _⟩
  · simp only [List.length_append, List.length_singleton] at hlt
    simp only [isTop, Bool.and_eq_false_iff, beq_eq_false_iff_ne, ne_eq]
    left; omega
  · simp [isTop, hb]

/-- the same after `subAfter` (it only touches the `after` field of a hunk without before-context) -/
theorem subAfter_isTop_false {o : Opts} (ho : dispatchTag o = .list) {x y : Json}
    (hx : x.listDoc = true) (hy : y.listDoc = true) (hs : sameContainerType o x y = true)
    (p : Path) (j : Int) (n : Bool) (nx : Json) :
    ∀ h ∈ subAfter p n nx (diffNode o false x y (p ++ [.idx j])), isTop p h = false := by
  intro h hm
  obtain ⟨h0, hm0, hp0, _, _, hb0, _⟩ := mem_subAfter' hm
  have := sub_isTop_false ho hx hy hs p j h0 hm0
  simpa [isTop, hp0, hb0] using this

end Jd.Rec

namespace Jd.Align
open Jd Jd.Spec Jd.DPL Jd.Rec Jd.RealL

theorem not_sub_mem_editIf {R A : List Json} {x y : Json} : Step.sub x y ∉ editIf R A := by
  rcases editIf_cases R A with ⟨rfl, rfl⟩ | ⟨_, e⟩
  · exact fun h => by cases h
  · rw [e]; simp

/-- a recursed pair of the walk consists of two containers of the same kind (any common sequence) -/
theorem walk_sub_kind (o : Opts) (a b : List Json) (c : List UInt64) (R A : List Json) {x y : Json} :
    Step.sub x y ∈ walk o a b c R A → sameContainerType o x y = true := by
  fun_induction walk o a b c R A with
  | case1 b c R A => exact fun h => absurd h not_sub_mem_editIf
  | case2 x' a' c R A => exact fun h => absurd h not_sub_mem_editIf
  | case3 x' a' y' b' c R A h ih =>
    intro hm
    rcases List.mem_append.1 hm with hm | hm
    · exact absurd hm not_sub_mem_editIf
    · rcases List.mem_cons.1 hm with e | hm
      · cases e
      · exact ih hm
  | case4 x' a' y' b' c R A h1 h2 ih => exact ih
  | case5 x' a' y' b' c R A h1 h2 h3 ih => exact ih
  | case6 x' a' y' b' c R A h1 h2 h3 h4 ih =>
    intro hm
    rcases List.mem_append.1 hm with hm | hm
    · exact absurd hm not_sub_mem_editIf
    · rcases List.mem_cons.1 hm with e | hm
      · cases e; exact h4
      · exact ih hm
  | case7 x' a' y' b' c R A h1 h2 h3 h4 ih => exact ih

/-- no hunk of a recursed pair of the walk over two lists of list documents is an array-level hunk -/
theorem walk_subs_not_top {o : Opts} (ho : dispatchTag o = .list) (p : Path) {xs ys : List Json}
    (c : List UInt64) (hla : listDocList xs = true) (hlb : listDocList ys = true) {S : Script}
    (hS : ∀ st ∈ S, st ∈ walk o xs ys c [] []) {x y : Json} (hm : Step.sub x y ∈ S) (j : Int)
    (n : Bool) (nx : Json) :
    ∀ h ∈ subAfter p n nx (diffNode o false x y (p ++ [.idx j])), isTop p h = false := by
  have hw := hS _ hm
  have hx := (mem_src_tgt_of_mem hw).1 x (by simp [Step.src])
  have hy := (mem_src_tgt_of_mem hw).2 y (by simp [Step.tgt])
  rw [walk_src] at hx; rw [walk_tgt] at hy
  exact subAfter_isTop_false ho (listDoc_of_mem hla (by simpa using hx))
    (listDoc_of_mem hlb (by simpa using hy)) (walk_sub_kind o xs ys c [] [] hw) p j n nx

/-- a rendering cut after `S1`: what `S1` is rendered to, then the rendering of the rest; the
    array-level hunks of the first part remove and add what the `edit` steps of `S1` do, when the
    recursed pairs contribute no array-level hunk -/
theorem render_split {o : Opts} {p : Path} (S2 : Script) : ∀ (S1 : Script) (n : Bool) (k : Nat)
    (prev : Json), (∀ x y, Step.sub x y ∈ S1 → ∀ j n nx,
      ∀ h ∈ subAfter p n nx (diffNode o false x y (p ++ [.idx j])), isTop p h = false) →
    ∃ D1 n', render o p n k prev (S1 ++ S2) =
        D1 ++ render o p n' (k + (tgt S1).length) ((tgt S1).getLast?.getD prev) S2 ∧
      removedTop p D1 = removedOf S1 ∧ addedTop p D1 = addedOf S1
  | [], n, k, prev, _ => ⟨[], n, by simp, rfl, rfl⟩
  | st :: r, n, k, prev, h => by
    obtain ⟨D1, n', e, h1, h2⟩ := render_split S2 r (!st.isEdit) (k + st.tgt.length)
      (st.tgt.getLast?.getD prev) fun x y hm => h x y (.tail _ hm)
    refine ⟨stepRender o p n k prev (r ++ S2) st ++ D1, n', ?_, ?_, ?_⟩
    · rw [List.cons_append, render_cons, e]
      simp [Nat.add_assoc]
    · cases st with
      | keep x y => simpa [stepRender, removedOf] using h1
      | sub x y =>
        simpa [stepRender, removedOf, removedTop_of_all_false (h x y List.mem_cons_self _ _ _)] using h1
      | edit R A => simp [stepRender, removedOf, removedTop, isTop, ← h1]
    · cases st with
      | keep x y => simpa [stepRender, addedOf] using h2
      | sub x y =>
        simpa [stepRender, addedOf, addedTop_of_all_false (h x y List.mem_cons_self _ _ _)] using h2
      | edit R A => simp [stepRender, addedOf, addedTop, isTop, ← h2]

theorem top_render {o : Opts} {p : Path} (S : Script) (n : Bool) (k : Nat) (prev : Json)
    (h : ∀ x y, Step.sub x y ∈ S → ∀ j n nx,
      ∀ h ∈ subAfter p n nx (diffNode o false x y (p ++ [.idx j])), isTop p h = false) :
    removedTop p (render o p n k prev S) = removedOf S ∧
      addedTop p (render o p n k prev S) = addedOf S := by
  obtain ⟨D1, n', e, h1, h2⟩ := render_split (o := o) (p := p) [] S n k prev h
  rw [List.append_nil] at e
  rw [e]
  simpa [render] using And.intro h1 h2

/-- **containers allowed, list documents only**: in hunk order, the array-level hunks of the walk
    remove EXACTLY what the `edit` steps of the alignment remove, and add exactly what they add (the
    sub-diffs contribute no array-level hunk) -/
theorem top_diffRest {o : Opts} (ho : dispatchTag o = .list) (p : Path) (xs ys : List Json)
    (c : List UInt64) (hla : listDocList xs = true) (hlb : listDocList ys = true) :
    removedTop p (diffRest o p 0 0 .void xs ys c [] []) = removedOf (walk o xs ys c [] []) ∧
    addedTop p (diffRest o p 0 0 .void xs ys c [] []) = addedOf (walk o xs ys c [] []) := by
  rw [show diffRest o p 0 0 .void xs ys c [] [] = _ from diffRest_render o p xs ys c [] [] 0 .void]
  exact top_render _ _ _ _ fun x y hm => walk_subs_not_top ho p c hla hlb (fun _ h => h) hm

end Jd.Align

namespace Jd.Rec
open Jd Jd.Spec Jd.DPL Jd.RealL Jd.Align

/-- the alignment cut at a position the walk reaches: the steps emitted before, then the walk from
    that position with what is pending there -/
theorem reach_walk {o : Opts} {a0 b0 : List Json} {c0 : List UInt64} {a b : List Json}
    {c : List UInt64} (hr : Reach o a0 b0 c0 a b c) :
    ∃ (S1 : Script) (R A : List Json), walk o a0 b0 c0 [] [] = S1 ++ walk o a b c R A ∧
      a0 = src S1 ++ R ++ a ∧ b0 = tgt S1 ++ A ++ b := by
  induction hr with
  | start => exact ⟨[], [], [], rfl, rfl, rfl⟩
  | @both x y a' b' c _ hA hB ih =>
    obtain ⟨S1, R, A, e, ea, eb⟩ := ih
    refine ⟨S1 ++ editIf R A ++ [.keep x y], [], [], ?_, ?_, ?_⟩
    · rw [e, walk_cons, if_pos (by rw [hA, hB]; rfl)]; simp
    · simp [ea, src_append, src_editIf, Step.src]
    · simp [eb, tgt_append, tgt_editIf, Step.tgt]
  | @addB x y a' b' c _ hA hB ih =>
    obtain ⟨S1, R, A, e, ea, eb⟩ := ih
    exact ⟨S1, R, A ++ [y], by rw [e, walk_cons, if_neg (by rw [hA, hB]; simp), if_pos hA], ea,
      by simp [eb]⟩
  | @remA x y a' b' c _ hA hB ih =>
    obtain ⟨S1, R, A, e, ea, eb⟩ := ih
    exact ⟨S1, R ++ [x], A, by rw [e, walk_cons, if_neg (by rw [hA]; simp), if_neg (by rw [hA]; simp),
      if_pos hB], by simp [ea], eb⟩
  | @sub x y a' b' c _ hA hB hs ih =>
    obtain ⟨S1, R, A, e, ea, eb⟩ := ih
    refine ⟨S1 ++ editIf R A ++ [.sub x y], [], [], ?_, ?_, ?_⟩
    · rw [e, walk_cons, if_neg (by rw [hA]; simp), if_neg (by rw [hA]; simp),
        if_neg (by rw [hB]; simp), if_pos hs]
      simp
    · simp [ea, src_append, src_editIf, Step.src]
    · simp [eb, tgt_append, tgt_editIf, Step.tgt]
  | @repl x y a' b' c _ hA hB hs ih =>
    obtain ⟨S1, R, A, e, ea, eb⟩ := ih
    exact ⟨S1, R ++ [x], A ++ [y], by rw [e, walk_cons, if_neg (by rw [hA]; simp),
      if_neg (by rw [hA]; simp), if_neg (by rw [hB]; simp), if_neg (by rw [hs]; simp)],
      by simp [ea], by simp [eb]⟩

/-- the general loop form behind `diffRest_recurses_at` and `diffM_recurses_at_whole`, WITHOUT the
    `mixedPair` hypothesis: the sub-diff appears passed through `subAfter` (which is the identity
    unless `x` is a typed list and `y` a plain array). -/
theorem diffRest_recurses_at_subAfter {o : Opts} (ho : dispatchTag o = .list) (p : Path)
    {xs ys : List Json} {c0 : List UInt64}
    (hla : listDocList xs = true) (hlb : listDocList ys = true)
    {x y : Json} {a' b' : List Json} {c : List UInt64}
    (hr : Reach o xs ys c0 (x :: a') (y :: b') c)
    (hA : atC o x c = false) (hB : atC o y c = false) (hs : sameContainerType o x y = true) :
    ∃ (D1 D2 : Diff) (preA preB : List Json) (n : Bool),
      xs = preA ++ x :: a' ∧ ys = preB ++ y :: b' ∧
      diffRest o p 0 0 .void xs ys c0 [] [] =
        D1 ++ subAfter p n (a'.headD .void)
          (diffNode o false x y (p ++ [.idx (preB.length : Int)])) ++ D2 ∧
      (∀ h ∈ subAfter p n (a'.headD .void)
          (diffNode o false x y (p ++ [.idx (preB.length : Int)])), isTop p h = false) ∧
      (removedTop p D1).Sublist preA ∧ (addedTop p D1).Sublist preB ∧
      (removedTop p D2).Sublist a' ∧ (addedTop p D2).Sublist b' := by
  obtain ⟨S0, R, A, e, ea, eb⟩ := reach_walk hr
  rw [walk_cons, if_neg (by rw [hA]; simp), if_neg (by rw [hA]; simp), if_neg (by rw [hB]; simp),
    if_pos hs, ← List.append_assoc] at e
  -- the alignment is `S1 ++ .sub x y :: S2`
  have hmem1 : ∀ st ∈ S0 ++ editIf R A, st ∈ walk o xs ys c0 [] [] := fun st h => by
    rw [e]; exact List.mem_append_left _ h
  have hmem2 : ∀ st ∈ walk o a' b' c [] [], st ∈ walk o xs ys c0 [] [] := fun st h => by
    rw [e]; exact List.mem_append_right _ (.tail _ h)
  obtain ⟨D1, n, e1, h1, h2⟩ := render_split (o := o) (p := p) (.sub x y :: walk o a' b' c [] [])
    (S0 ++ editIf R A) true 0 .void fun x y hm => walk_subs_not_top ho p c0 hla hlb hmem1 hm
  obtain ⟨h3, h4⟩ := top_render (o := o) (p := p) (walk o a' b' c [] []) true
    (0 + (tgt (S0 ++ editIf R A)).length + 1) y fun x y hm => walk_subs_not_top ho p c0 hla hlb hmem2 hm
  refine ⟨D1, render o p true (0 + (tgt (S0 ++ editIf R A)).length + 1) y (walk o a' b' c [] []),
    src S0 ++ R, tgt S0 ++ A, n, by simpa using ea, by simpa using eb, ?_, ?_, ?_, ?_, ?_, ?_⟩
  · rw [show diffRest o p 0 0 .void xs ys c0 [] [] = _ from diffRest_render o p xs ys c0 [] [] 0 .void,
      e, e1]
    simp [render, tgt_append, tgt_editIf, walk_src]
  · exact walk_subs_not_top ho p c0 hla hlb (S := [.sub x y])
      (fun st h => by rw [e]; simp only [List.mem_singleton] at h; simp [h]) List.mem_cons_self _ _ _
  · rw [h1]; simpa [src_append, src_editIf] using removedOf_sublist (S0 ++ editIf R A)
  · rw [h2]; simpa [tgt_append, tgt_editIf] using addedOf_sublist (S0 ++ editIf R A)
  · rw [h3]; simpa [walk_src] using removedOf_sublist (walk o a' b' c [] [])
  · rw [h4]; simpa [walk_tgt] using addedOf_sublist (walk o a' b' c [] [])

/-- **(1), general, loop form.** The walk started on `xs ys c0` reaches a position where the two
    cursor elements `x` and `y` are containers of the same kind and neither is the next element
    of the remaining common sequence (`atC … = false`: the condition as the code decides it), and
    `x`, `y` are not a typed list against a plain array (`mixedPair x y = false`; for such a pair the
    sub-diff is one wholesale hunk and `subAfter` gives it an after-context:
    `diffRest_recurses_at_subAfter`).
    Then the output is `D1 ++ diffNode o false x y (p ++ [.idx j]) ++ D2` where `j` is the position
    of `y` in `ys`; no hunk of the sub-diff is an array-level hunk; the array-level hunks of `D1`
    remove a sublist of the elements of `xs` BEFORE `x` and add a sublist of the elements of `ys`
    before `y`, those of `D2` remove a sublist of the elements AFTER `x` and add a sublist of the
    elements after `y`: no array-level hunk removes `x` or adds `y`. -/
theorem diffRest_recurses_at {o : Opts} (ho : dispatchTag o = .list) (p : Path)
    {xs ys : List Json} {c0 : List UInt64}
    (hla : listDocList xs = true) (hlb : listDocList ys = true)
    {x y : Json} {a' b' : List Json} {c : List UInt64}
    (hr : Reach o xs ys c0 (x :: a') (y :: b') c)
    (hA : atC o x c = false) (hB : atC o y c = false) (hs : sameContainerType o x y = true)
    (hnm : mixedPair x y = false) :
    ∃ (D1 D2 : Diff) (preA preB : List Json),
      xs = preA ++ x :: a' ∧ ys = preB ++ y :: b' ∧
      diffRest o p 0 0 .void xs ys c0 [] [] =
        D1 ++ diffNode o false x y (p ++ [.idx (preB.length : Int)]) ++ D2 ∧
      (∀ h ∈ diffNode o false x y (p ++ [.idx (preB.length : Int)]), isTop p h = false) ∧
      (removedTop p D1).Sublist preA ∧ (addedTop p D1).Sublist preB ∧
      (removedTop p D2).Sublist a' ∧ (addedTop p D2).Sublist b' := by
  obtain ⟨D1, D2, preA, preB, n, ea, eb, e, hf, h1, h2, h3, h4⟩ :=
    diffRest_recurses_at_subAfter ho p hla hlb hr hA hB hs
  rw [Real.subAfter_diffNode_of_not_mixed o hs hnm] at e hf
  exact ⟨D1, D2, preA, preB, ea, eb, e, hf, h1, h2, h3, h4⟩

/-- **(1), general, for `a.Diff(b)`** of two arrays (list documents: every array node a plain
    `jsonArray` or a `jsonList`). -/
theorem diffM_recurses_at {o : Opts} (ho : dispatchTag o = .list) (hm : isMerge o = false)
    {t t' : Tag} (xs ys : List Json)
    (ht : (t == .raw || t == .list) = true) (ht' : (t' == .raw || t' == .list) = true)
    (htt : t = .raw ∨ t' = .list)
    (hla : listDocList xs = true) (hlb : listDocList ys = true)
    {x y : Json} {a' b' : List Json} {c : List UInt64}
    (hr : Reach o xs ys (lcsValues (hashList o xs) (hashList o ys)) (x :: a') (y :: b') c)
    (hA : atC o x c = false) (hB : atC o y c = false) (hs : sameContainerType o x y = true)
    (hnm : mixedPair x y = false) :
    ∃ (D1 D2 : Diff) (preA preB : List Json),
      xs = preA ++ x :: a' ∧ ys = preB ++ y :: b' ∧
      diffM o (.arr t xs) (.arr t' ys) =
        D1 ++ diffNode o false x y [.idx (preB.length : Int)] ++ D2 ∧
      (∀ h ∈ diffNode o false x y [.idx (preB.length : Int)], isTop [] h = false) ∧
      (removedTop [] D1).Sublist preA ∧ (addedTop [] D1).Sublist preB ∧
      (removedTop [] D2).Sublist a' ∧ (addedTop [] D2).Sublist b' := by
  rw [diffM, hm, diffNode_arr_arr ho xs ys ht ht' htt []]
  simpa using diffRest_recurses_at ho [] hla hlb hr hA hB hs hnm

/-- the array-level hunks, all together, remove `x`'s neighbours only: a sublist of `xs` with the
    position of `x` taken out (and add a sublist of `ys` with the position of `y` taken out) -/
theorem diffM_recurses_at_whole {o : Opts} (ho : dispatchTag o = .list) (hm : isMerge o = false)
    {t t' : Tag} (xs ys : List Json)
    (ht : (t == .raw || t == .list) = true) (ht' : (t' == .raw || t' == .list) = true)
    (htt : t = .raw ∨ t' = .list)
    (hla : listDocList xs = true) (hlb : listDocList ys = true)
    {x y : Json} {a' b' : List Json} {c : List UInt64}
    (hr : Reach o xs ys (lcsValues (hashList o xs) (hashList o ys)) (x :: a') (y :: b') c)
    (hA : atC o x c = false) (hB : atC o y c = false) (hs : sameContainerType o x y = true) :
    ∃ (preA preB : List Json), xs = preA ++ x :: a' ∧ ys = preB ++ y :: b' ∧
      (removedTop [] (diffM o (.arr t xs) (.arr t' ys))).Sublist (preA ++ a') ∧
      (addedTop [] (diffM o (.arr t xs) (.arr t' ys))).Sublist (preB ++ b') := by
  obtain ⟨D1, D2, preA, preB, n, ea, eb, e, hf, h1, h2, h3, h4⟩ :=
    diffRest_recurses_at_subAfter ho [] hla hlb hr hA hB hs
  rw [diffM, hm, diffNode_arr_arr ho xs ys ht ht' htt []]
  refine ⟨preA, preB, ea, eb, ?_, ?_⟩
  · rw [e]
    simp only [removedTop_append, removedTop_of_all_false hf, List.append_nil]
    exact List.Sublist.append h1 h3
  · rw [e]
    simp only [addedTop_append, addedTop_of_all_false hf, List.append_nil]
    exact List.Sublist.append h2 h4

/-! ### the array-level hunks never remove or add more than the LCS edit script -/

/-- for any common subsequence `c` of the two hash lists handed to the walk, the array-level hunks
    remove at most `|xs| − |c|` and add at most `|ys| − |c|` elements (each recursion into a pair of
    same-kind containers saves one removal and one addition with respect to the scalar count of
    `Min.removes_adds_count`) -/
theorem diffRest_top_counts_le {o : Opts} (ho : dispatchTag o = .list) (p : Path)
    (xs ys : List Json) (c : List UInt64) (hla : listDocList xs = true) (hlb : listDocList ys = true)
    (hca : c.Sublist (hashList o xs)) (hcb : c.Sublist (hashList o ys)) :
    (removedTop p (diffRest o p 0 0 .void xs ys c [] [])).length + c.length ≤ xs.length ∧
    (addedTop p (diffRest o p 0 0 .void xs ys c [] [])).length + c.length ≤ ys.length := by
  obtain ⟨e1, e2⟩ := Align.top_diffRest ho p xs ys c hla hlb
  have hs := Align.src_length_eq (Align.walk o xs ys c [] [])
  have ht := Align.tgt_length_eq (Align.walk o xs ys c [] [])
  rw [Align.walk_src, Align.walk_keeps o xs ys c [] [] hca hcb, List.nil_append] at hs
  rw [Align.walk_tgt, Align.walk_keeps o xs ys c [] [] hca hcb, List.nil_append] at ht
  rw [e1, e2]
  omega

/-- **minimality, containers allowed.** The array-level hunks of `a.Diff(b)` remove at most
    `|xs| − LCS` and add at most `|ys| − LCS` elements, LCS the textbook longest-common-subsequence
    length of the two hash lists: never more than an optimal edit script (for arrays of scalars
    `Min.diffM_removes_adds_count_spec` gives equality). -/
theorem diffM_top_removes_adds_le {o : Opts} (ho : dispatchTag o = .list) (hm : isMerge o = false)
    {t t' : Tag} (xs ys : List Json)
    (ht : (t == .raw || t == .list) = true) (ht' : (t' == .raw || t' == .list) = true)
    (htt : t = .raw ∨ t' = .list)
    (hla : listDocList xs = true) (hlb : listDocList ys = true) :
    (removedTop [] (diffM o (.arr t xs) (.arr t' ys))).length ≤
        xs.length - lcsLenSpec (hashList o xs) (hashList o ys) ∧
    (addedTop [] (diffM o (.arr t xs) (.arr t' ys))).length ≤
        ys.length - lcsLenSpec (hashList o xs) (hashList o ys) := by
  rw [diffM, hm, diffNode_arr_arr ho xs ys ht ht' htt []]
  obtain ⟨h1, h2⟩ := diffRest_top_counts_le ho [] xs ys
    (lcsValues (hashList o xs) (hashList o ys)) hla hlb
    (lcsValues_sublist_left _ _) (lcsValues_sublist_right _ _)
  rw [lcsValues_length_spec] at h1 h2
  omega

/-! ## E. the context lines, statically: elements of the two arrays (no hash-collision hypothesis) -/

/-- on good documents the sub-diff of an element of `xs` and an element of `ys` is empty only if
    they have the same hash code -/
theorem emptyMeansSameHash_of_good {o : Opts} (ho : dispatchTag o = .list) {xs ys : List Json}
    (gx : GoodL xs) (gy : GoodL ys) (Z : NumHashOK o (subtermsList xs) (subtermsList ys)) :
    ∀ x ∈ xs, ∀ y ∈ ys, ∀ q, diffNode o false x y q = [] → hashCode o x = hashCode o y := by
  intro x hx y hy q he
  exact (diff_nil_hash o ho Z).1 x y (gx.of_mem hx).listDoc (gy.of_mem hy).listDoc
    (subterms_sub_of_mem hx) (subterms_sub_of_mem hy) (gx.of_mem hx) (gy.of_mem hy) q he

end Jd.Rec

namespace Jd.RealL
open Jd Jd.Spec Jd.DPL Jd.Rec


/-- `S` is the alignment the diff of the arrays `xs` (tag `t`) and `ys` (tag `t'`) follows: it
    consumes `xs`, produces `ys`, every step is `ok`, and below EVERY path `p` the diff is its
    rendering -/
structure Aligned (o : Opts) (t : Tag) (xs : List Json) (t' : Tag) (ys : List Json) (S : Script) :
    Prop where
  src_eq : src S = xs
  tgt_eq : tgt S = ys
  ok : ∀ st ∈ S, st.ok o
  diff_eq : ∀ p, diffNode o false (.arr t xs) (.arr t' ys) p = hunks o p 0 .void S

end Jd.RealL

namespace Jd.Align
open Jd Jd.Spec Jd.DPL Jd.Rec Jd.RealL

/-- **the diff of two arrays is the rendering of `alignment o xs ys`** (containers allowed as
    elements). Hypotheses: elements `GoodL` (list documents,
    sorted unique keys, finite numbers, no void member), `NumHashOK` (numbers equal as floats hash
    alike), no typed list against a plain array; NO hash-collision hypothesis. -/
theorem diffNode_aligned_walk {o : Opts} (ho : dispatchTag o = .list) {t t' : Tag} (xs ys : List Json)
    (ht : (t == .raw || t == .list) = true) (ht' : (t' == .raw || t' == .list) = true)
    (htt : t = .raw ∨ t' = .list) (gx : GoodL xs) (gy : GoodL ys)
    (Z : NumHashOK o (subtermsList xs) (subtermsList ys))
    (nomix : ∀ x ∈ xs, ∀ y ∈ ys, mixedPair x y = false) :
    Aligned o t xs t' ys (alignment o xs ys) := by
  obtain ⟨hok, hd⟩ := diffRest_walk o xs ys fun x hx y hy _ hne =>
    ⟨nomix x hx y hy, fun q e => hne (emptyMeansSameHash_of_good ho gx gy Z x hx y hy q e)⟩
  exact ⟨alignment_src o xs ys, alignment_tgt o xs ys, hok,
    fun p => by rw [diffNode_arr_arr ho xs ys ht ht' htt p]; exact hd p⟩

end Jd.Align

namespace Jd.RealL
open Jd Jd.Spec Jd.DPL Jd.Rec

theorem diffNode_aligned {o : Opts} (ho : dispatchTag o = .list) {t t' : Tag} (xs ys : List Json)
    (ht : (t == .raw || t == .list) = true) (ht' : (t' == .raw || t' == .list) = true)
    (htt : t = .raw ∨ t' = .list) (gx : GoodL xs) (gy : GoodL ys)
    (Z : NumHashOK o (subtermsList xs) (subtermsList ys))
    (nomix : ∀ x ∈ xs, ∀ y ∈ ys, mixedPair x y = false) :
    ∃ S, Aligned o t xs t' ys S :=
  ⟨_, Align.diffNode_aligned_walk ho xs ys ht ht' htt gx gy Z nomix⟩

/-! ### what an alignment says about each hunk -/

theorem Aligned.src_mid {o : Opts} {t t' : Tag} {xs ys : List Json} {S1 S2 : Script} {st : Step}
    (al : Aligned o t xs t' ys (S1 ++ st :: S2)) : xs = src S1 ++ st.src ++ src S2 := by
  rw [← al.src_eq]; simp [src_append]

theorem Aligned.tgt_mid {o : Opts} {t t' : Tag} {xs ys : List Json} {S1 S2 : Script} {st : Step}
    (al : Aligned o t xs t' ys (S1 ++ st :: S2)) : ys = tgt S1 ++ st.tgt ++ tgt S2 := by
  rw [← al.tgt_eq]; simp [tgt_append]

theorem Aligned.sub_mem {o : Opts} {t t' : Tag} {xs ys : List Json} {S1 S2 : Script} {x y : Json}
    (al : Aligned o t xs t' ys (S1 ++ .sub x y :: S2)) : x ∈ xs ∧ y ∈ ys :=
  ⟨by rw [al.src_mid]; simp [Step.src], by rw [al.tgt_mid]; simp [Step.tgt]⟩

theorem Aligned.edit_located {o : Opts} {t t' : Tag} {xs ys : List Json} {S1 S2 : Script}
    {R A : List Json} (al : Aligned o t xs t' ys (S1 ++ .edit R A :: S2)) (p : Path) {h : Hunk}
    (eh : h = { path := p ++ [.idx ((tgt S1).length : Int)],
                before := [(tgt S1).getLast?.getD .void], remove := R, add := A,
                after := [(src S2).headD .void] }) :
    Real.Located p xs ys h ∧ Real.HashApart o h.remove h.add ∧
      (h.remove ≠ [] ∨ h.add ≠ []) ∧ h.merge = false :=
  RealL.edit_located al.src_eq al.tgt_eq (al.ok _ (by simp)) p eh

/-- **clauses 2 and 3, one array level, static form.** Every hunk of the diff of two arrays is
    * an ARRAY-LEVEL hunk coming from one `edit R A` step of the alignment: addressed to the index at
      which `A` stands in the second array, `remove = R` a contiguous run of the first array,
      `add = A` the contiguous run of the second array at that index, the context lines LITERALLY
      the neighbours (`Real.Located`), not empty, and the j-th removed value and the j-th added
      value have different hash codes; or
    * a hunk of the sub-diff of one `sub x y` step: two same-kind containers with different hash
      codes, `y` standing at the index the sub-diff is addressed to -/
theorem aligned_hunk {o : Opts} {t t' : Tag} {xs ys : List Json} {S : Script}
    (al : Aligned o t xs t' ys S) (p : Path) :
    ∀ h ∈ diffNode o false (.arr t xs) (.arr t' ys) p,
      (Real.Located p xs ys h ∧ Real.HashApart o h.remove h.add ∧
        (h.remove ≠ [] ∨ h.add ≠ []) ∧ h.merge = false) ∨
      (∃ S1 x y S2, S = S1 ++ .sub x y :: S2 ∧ sameContainerType o x y = true ∧
        hashCode o x ≠ hashCode o y ∧
        h ∈ diffNode o false x y (p ++ [.idx ((tgt S1).length : Int)])) := by
  intro h hm
  rw [al.diff_eq p] at hm
  rcases mem_hunks S 0 .void hm with ⟨S1, R, A, S2, e1, eh⟩ | ⟨S1, x, y, S2, e1, eh⟩
  · subst e1
    exact .inl (al.edit_located p (by simpa using eh))
  · right
    have hok := al.ok (.sub x y) (by rw [e1]; simp)
    exact ⟨S1, x, y, S2, e1, hok.1, hok.2, by simpa using eh⟩

end Jd.RealL

namespace Jd.Rec
open Jd Jd.Spec Jd.DPL Jd.RealL

/-- **(2), static form, at any path** (so: for an array at any depth, as `diffNode` is called on it) -/
theorem diffNode_located_containers {o : Opts} (ho : dispatchTag o = .list)
    {t t' : Tag} (xs ys : List Json)
    (ht : (t == .raw || t == .list) = true) (ht' : (t' == .raw || t' == .list) = true)
    (htt : t = .raw ∨ t' = .list) (p : Path) (gx : GoodL xs) (gy : GoodL ys)
    (Z : NumHashOK o (subtermsList xs) (subtermsList ys))
    (nomix : ∀ x ∈ xs, ∀ y ∈ ys, mixedPair x y = false) :
    ∀ h ∈ diffNode o false (.arr t xs) (.arr t' ys) p,
      Real.Located p xs ys h ∨ SubHunk o p 0 xs ys h := by
  intro h hmem
  have al := Align.diffNode_aligned_walk ho xs ys ht ht' htt gx gy Z nomix
  rcases aligned_hunk al p h hmem with hl | ⟨S1, x, y, S2, e, hs, _, hm⟩
  · exact .inl hl.1
  · rw [e] at al
    exact .inr ⟨src S1, x, src S2, tgt S1, y, tgt S2, by simpa [Step.src] using al.src_mid,
      by simpa [Step.tgt] using al.tgt_mid, hs, by simpa using hm⟩


/-- **(2), static form, `a.Diff(b)` of two arrays with containers.** Elements: list documents with
    sorted unique keys, finite numbers, no void member (`GoodL`); `NumHashOK` (numbers equal as
    floats hash alike). NO hypothesis about hash collisions. Every hunk is an array-level hunk
    addressed to `[.idx i]` whose removed values are a contiguous run of `xs`, whose added values
    are the contiguous run of `ys` standing at index `i`, whose before-context is LITERALLY the
    element of `ys` just before that run (the boundary marker void at the start) and whose
    after-context is LITERALLY the element of `xs` following the removed run (void at the end) —
    or it belongs to the sub-diff of two same-kind containers `x ∈ xs`, `y = ys[j]` at `[.idx j]`. -/
theorem diffM_located_containers {o : Opts} (ho : dispatchTag o = .list) (hm : isMerge o = false)
    {t t' : Tag} (xs ys : List Json)
    (ht : (t == .raw || t == .list) = true) (ht' : (t' == .raw || t' == .list) = true)
    (htt : t = .raw ∨ t' = .list) (gx : GoodL xs) (gy : GoodL ys)
    (Z : NumHashOK o (subtermsList xs) (subtermsList ys))
    (nomix : ∀ x ∈ xs, ∀ y ∈ ys, mixedPair x y = false) :
    ∀ h ∈ diffM o (.arr t xs) (.arr t' ys),
      Real.Located [] xs ys h ∨
      (∃ (preA : List Json) (x : Json) (postA preB : List Json) (y : Json) (postB : List Json),
        xs = preA ++ x :: postA ∧ ys = preB ++ y :: postB ∧ sameContainerType o x y = true ∧
          h ∈ diffNode o false x y [.idx (preB.length : Int)]) := by
  rw [diffM, hm]
  intro h hmem
  rcases diffNode_located_containers ho xs ys ht ht' htt [] gx gy Z nomix h hmem with
    h1 | ⟨preA, x, postA, preB, y, postB, ea, eb, hk, hh⟩
  · exact .inl h1
  · exact .inr ⟨preA, x, postA, preB, y, postB, ea, eb, hk, by simpa using hh⟩

/-! ## F. non-vacuity, and a witness for the well-formedness hypothesis -/

namespace Example

/-- `[{"a":"u"}, ["p"]]` -/
def xsE : List Json := [.obj [("a", .str "u")], .arr .raw [.str "p"]]
/-- `[{"a":"v"}, ["p","q"]]` -/
def ysE : List Json := [.obj [("a", .str "v")], .arr .raw [.str "p", .str "q"]]

theorem same : sameKinds [] xsE ysE = true := by decide +kernel
theorem apart : ∀ x ∈ xsE, ∀ y ∈ ysE, hashCode [] x ≠ hashCode [] y := by decide +kernel
theorem nomixE : noMixed xsE ysE = true := by decide +kernel
theorem nomixE' : ∀ x ∈ xsE, ∀ y ∈ ysE, mixedPair x y = false := by decide +kernel

-- two hunks, both inside the elements: `@ [0,"a"] - "u" + "v"` and `@ [1,1] "p" + "q" ]`
#eval diffM [] (.arr .raw xsE) (.arr .raw ysE)

/-- `diffM_same_kind_containers` applies to a concrete pair -/
example : diffM [] (.arr .raw xsE) (.arr .raw ysE) =
    ((xsE.zip ysE).zipIdx).flatMap (fun q => diffNode [] false q.1.1 q.1.2 [.idx (q.2 : Int)]) :=
  diffM_same_kind_containers rfl rfl xsE ysE rfl rfl (.inl rfl) same nomixE apart

/-- `diffM_array_hunks`: the only hypothesis on the elements is "no typed list against a plain array" -/
example := diffM_array_hunks (o := []) rfl rfl (t := .raw) (t' := .raw) xsE ysE rfl rfl (.inl rfl) nomixE'

/-- `diffM_hunk_shape_all_levels`: the documents are raw -/
example : (Json.arr .raw xsE).rawDoc = true ∧ (Json.arr .raw ysE).rawDoc = true := by decide +kernel

theorem lcsE : lcsValues (hashList [] xsE) (hashList [] ysE) = [] :=
  lcsValues_nil_of_apart [] xsE ysE apart

/-- `diffM_recurses_at` at the SECOND position of the walk (index 1: `["p"]` against `["p","q"]`) -/
example : ∃ (D1 D2 : Diff) (preA preB : List Json),
    xsE = preA ++ Json.arr .raw [.str "p"] :: [] ∧
    ysE = preB ++ Json.arr .raw [.str "p", .str "q"] :: [] ∧
    diffM [] (.arr .raw xsE) (.arr .raw ysE) =
      D1 ++ diffNode [] false (.arr .raw [.str "p"]) (.arr .raw [.str "p", .str "q"])
        [.idx (preB.length : Int)] ++ D2 ∧
    (∀ h ∈ diffNode [] false (.arr .raw [.str "p"]) (.arr .raw [.str "p", .str "q"])
        [.idx (preB.length : Int)], isTop [] h = false) ∧
    (removedTop [] D1).Sublist preA ∧ (addedTop [] D1).Sublist preB ∧
    (removedTop [] D2).Sublist [] ∧ (addedTop [] D2).Sublist [] := by
  have h0 : Reach [] xsE ysE (lcsValues (hashList [] xsE) (hashList [] ysE)) xsE ysE [] := by
    have := Reach.start (o := []) (a0 := xsE) (b0 := ysE)
      (c0 := lcsValues (hashList [] xsE) (hashList [] ysE))
    rw [lcsE] at this ⊢
    exact this
  have h1 := Reach.sub h0 rfl rfl (by decide +kernel)
  exact diffM_recurses_at rfl rfl xsE ysE rfl rfl (.inl rfl) (by decide +kernel) (by decide +kernel)
    h1 rfl rfl (by decide +kernel) (by decide +kernel)

/-- `diffRest_recurses_at` with a NON-empty common sequence: `["k", X]` against `["k", Y]` -/
theorem reachK : Reach [] (.str "k" :: xsE) (.str "k" :: ysE) [hashCode [] (.str "k")] xsE ysE [] :=
  Reach.both Reach.start (by simp [atC]) (by simp [atC])

example := diffRest_recurses_at (o := []) rfl [] (xs := .str "k" :: xsE) (ys := .str "k" :: ysE)
  (by decide +kernel) (by decide +kernel) reachK rfl rfl (by decide +kernel) (by decide +kernel)

theorem goodX : GoodL xsE := ⟨by decide +kernel, by decide +kernel, by decide +kernel, by decide +kernel⟩
theorem goodY : GoodL ysE := ⟨by decide +kernel, by decide +kernel, by decide +kernel, by decide +kernel⟩

/-- `diffM_located_containers`: the hypotheses hold (there is no number at all) -/
example : GoodL xsE ∧ GoodL ysE ∧ NumHashOK [] (subtermsList xsE) (subtermsList ysE) := by
  refine ⟨goodX, goodY, ?_⟩
  intro u v hu
  simp [xsE, subtermsList, subterms, subtermsKvs] at hu

/-- `diffM_top_removes_adds_le`: the arrays are list documents -/
example : listDocList xsE = true ∧ listDocList ysE = true := by decide +kernel

/-- the context theorems: the three-hunk example of `DPL.Example` (one hunk inside a nested list)
    satisfies the hypotheses of `diffM_context_all_levels` -/
example (L : FloatLaws) (D1 : Diff) (h : Hunk) (D2 : Diff)
    (hd : diffM [] DPL.Example.exA DPL.Example.exB = D1 ++ h :: D2) (i : Int)
    (hlast : h.path.getLast? = some (.idx i)) :
    ∃ (m : Json) (t : Tag) (l : List Json), applyStrictAll DPL.Example.exA D1 = some m ∧
      Real.getAt m h.path.dropLast = some (.arr t l) ∧ 0 ≤ i ∧ CtxIsNeighbours l i.toNat h := by
  obtain ⟨_, h2, h3, h4, _, h6, h7, h8, h9, h10⟩ := DPL.Example.hyps L
  exact diffM_context_all_levels L [] rfl rfl _ _ (by decide +kernel) h2 h3 h4 (by decide +kernel) h6 h7 h8
    h9 h10 D1 h D2 hd i hlast

/-- … and those of `diffM_hunk_applies` / `diffM_context_is_neighbours` (list documents) -/
example (L : FloatLaws) (D1 : Diff) (h : Hunk) (D2 : Diff)
    (hd : diffM [] DPL.Example.exA DPL.Example.exB = D1 ++ h :: D2) :
    ∃ m m', applyStrictAll DPL.Example.exA D1 = some m ∧ applyStrict m h.path h = some m' := by
  obtain ⟨h1, h2, h3, h4, h5, h6, h7, h8, h9, h10⟩ := DPL.Example.hyps L
  obtain ⟨m, m', g1, g2, _⟩ :=
    diffM_hunk_applies L [] rfl rfl _ _ h1 h2 h3 h4 h5 h6 h7 h8 h9 h10 D1 h D2 hd
  exact ⟨m, m', g1, g2⟩

/-! ### why `noMixed` / `mixedPair … = false` is a hypothesis of the statements that speak of the
  sub-diff `diffNode o false x y …` literally

  A typed `jsonList` element against a plain `jsonArray` element: same-kind containers, the
  sub-diff is ONE wholesale hunk at the element's own path, and the end block of `diffRest`
  (`subAfter`) gives it the after-context (here the array-end marker): the diff is not the bare
  concatenation of the sub-diffs. -/

def xsM : List Json := [.arr .list [.bool true]]
def ysM : List Json := [.arr .raw [.bool false]]

theorem mixed_not_concatenation :
    sameKinds [] xsM ysM = true ∧ (∀ x ∈ xsM, ∀ y ∈ ysM, hashCode [] x ≠ hashCode [] y) ∧
    noMixed xsM ysM = false ∧
    diffM [] (.arr .raw xsM) (.arr .raw ysM) =
      [{ path := [.idx 0], remove := [.arr .list [.bool true]], add := [.arr .raw [.bool false]],
         after := [.void] }] ∧
    ((xsM.zip ysM).zipIdx).flatMap (fun q => diffNode [] false q.1.1 q.1.2 [.idx (q.2 : Int)]) =
      [{ path := [.idx 0], remove := [.arr .list [.bool true]], add := [.arr .raw [.bool false]] }] := by
  have hap : ∀ x ∈ xsM, ∀ y ∈ ysM, hashCode [] x ≠ hashCode [] y := by decide +kernel
  refine ⟨by decide +kernel, hap, by decide +kernel, diffM_of_eqb (by decide +kernel), ?_⟩
  simp only [xsM, ysM, List.zip_cons_cons, List.zip_nil_right, List.zipIdx_cons, List.zipIdx_nil,
    List.flatMap_cons, List.flatMap_nil, List.append_nil]
  exact diffNode_of_eqb (by decide +kernel)

/-! ### why well-formedness (unique keys) is a hypothesis of the context theorems

  OUTSIDE the domain (an object with a duplicate key, which a Go map cannot hold): the two objects
  below have different hash codes and an EMPTY sub-diff, `diffRest` then takes the after-context of
  the accumulated hunk from the position AFTER the object (`if sub.isEmpty then a'.headD .void`),
  here the end of the array, while the element following the removed `"p"` is the object: the
  context line is not the neighbour and the reference interpreter rejects the hunk. Inside the
  domain this branch is never taken (`diff_nil_hash`, `LOpt.heads_ne`). -/

def xw : List Json := [.str "p", .obj [("a", .str "u")]]
def yw : List Json := [.str "q", .obj [("a", .str "u"), ("a", .str "v")]]

/-! Kernel evaluations of the hash on small values. They tie the regenerated seed tables of
    JdModel/Gen/Seeds.lean to the values this block was written against: a changed or dropped seed
    breaks them, whereas the evaluated runs below would not notice. -/
theorem apartw : ∀ x ∈ xw, ∀ y ∈ yw, hashCode [] x ≠ hashCode [] y := by decide +kernel

theorem nonwf_diff : diffM [] (.arr .raw xw) (.arr .raw yw) =
    [{ path := [.idx 0], before := [.void], remove := [.str "p"], add := [.str "q"],
       after := [.void] }] := diffM_of_eqb (by decide +kernel)

/-- the after-context `void` is not the neighbour `{"a":"u"}`: the hunk is rejected -/
theorem nonwf_context_not_neighbour :
    (Json.arr .raw yw).wf = false ∧
    applyStrictAll (.arr .raw xw) (diffM [] (.arr .raw xw) (.arr .raw yw)) = none := by
  refine ⟨by decide +kernel, ?_⟩
  rw [nonwf_diff]
  simp [applyStrictAll, applyStrict, splice, xw, prefixEq, beforeOk, afterOk, specEq, equivB,
    Json.isVoid]

end Example

end Jd.Rec

#print axioms Jd.Rec.diffM_same_kind_containers
#print axioms Jd.Rec.diffM_same_kind_containers_mem
#print axioms Jd.Rec.diffM_array_hunks
#print axioms Jd.Rec.sub_hunk_not_array_level
#print axioms Jd.Rec.diffM_hunk_shape_all_levels
#print axioms Jd.Rec.diffM_hunk_applies
#print axioms Jd.Rec.diffM_context_is_neighbours
#print axioms Jd.Rec.diffM_context_all_levels
#print axioms Jd.Rec.diffRest_recurses_at
#print axioms Jd.Rec.diffM_recurses_at
#print axioms Jd.Rec.diffM_recurses_at_whole
#print axioms Jd.Rec.diffM_top_removes_adds_le
#print axioms Jd.Rec.diffNode_located_containers
#print axioms Jd.Rec.diffM_located_containers
#print axioms Jd.Rec.Example.mixed_not_concatenation
#print axioms Jd.Rec.Example.nonwf_diff
#print axioms Jd.Rec.Example.nonwf_context_not_neighbour
