/-
  JdProofs.CliProofs — theorems about the CLI model `Jd.Cli.cliM` (JdModel/Cli.lean).  Core Lean only.
  The exit status is 0, 1 or 2; it is 2 exactly when one of the checks `main` performs for these flags
  reported an error, and the error reported is the FIRST failing check; in diff mode without an error,
  exit = 0 ↔ ¬haveDiff and the bytes that leave the program are exactly the library rendering; with `-o F`
  stdout is empty, the file carries what stdout would have carried, same exit; the option list is the same
  in binary A, binary B and (modulo naming) B -v2=false; the model does not distinguish a second input from
  stdin from a named file.  `run_diff_eq`, `run_patch_eq`: `main` on a diff / `-p` command line as one
  equation each.  The statements about `-o` and about stdin are made in JdProps.C14, from
  `run_without_o`, `run_toFile` and `run_nargs_irrelevant` here.
-/
import JdModel.Cli

namespace Jd.Cli
open Jd

/-! ### (i) exit ∈ {0,1,2} -/

theorem deliver_code {fl : Flags} {r : LibResults} {c : Nat} {s : String} {e : Emit}
    (h : deliver fl r c s = .ok e) : e.code = c ∧ e.text = s ∧ e.toFile = (fl.o != "") := by
  unfold deliver at h
  split at h
  · cases h; simp_all
  · split at h
    · cases h
    · cases h; simp_all

theorem run_code {b : Binary} {fl : Flags} {r : LibResults} {e : Emit}
    (h : run b fl r = .ok e) : e.code = 0 ∨ e.code = 1 := by
  revert h
  fun_cases run b fl r
  all_goals intro h
  all_goals first
    | (cases h; done)
    | (cases h; simp; done)
    | (have := deliver_code h; split at this <;> omega)
    | (have := deliver_code h; omega)

theorem exit_range (b : Binary) (fl : Flags) (r : LibResults) :
    (cliM b fl r).exit = 0 ∨ (cliM b fl r).exit = 1 ∨ (cliM b fl r).exit = 2 := by
  unfold cliM
  cases h : run b fl r with
  | error e => cases e <;> simp [outcomeOf]
  | ok e =>
    have := run_code h
    simp only [outcomeOf]
    split <;> simp only [] <;> omega

/-! ### (ii) exit = 2 ↔ some check reported an error -/

/-- forget the value of a library result -/
def chk {α} (x : Except String α) : Except Err Unit :=
  match x with
  | .ok _ => .ok ()
  | .error e => .error (.msg e)

def guardMsg (bad : Bool) (m : String) : Except Err Unit := if bad then .error (.msg m) else .ok ()

/-- the format / translation specific library steps -/
def renderChecks (fl : Flags) (r : LibResults) : List (Except Err Unit) :=
  [ chk r.parse1, chk r.parse2,
    match formatOf fl.f with
    | some .jd => .ok ()
    | some .patch => chk r.renderPatch
    | some .merge => chk r.renderMerge
    | none => .error (.msg ("Invalid format: " ++ goQuote fl.f)) ]

def inputChecks (srcs : List Src) (r : LibResults) : List (Except Err Unit) :=
  chk r.file1 :: (if srcs.length ≥ 2 then [chk r.file2] else [])

def patchChecks (fl : Flags) (r : LibResults) : List (Except Err Unit) :=
  [ (match formatOf fl.f with
     | none => .error (.msg ("Invalid format: " ++ goQuote fl.f))
     | some _ => .ok ()),
    chk r.readDiff, chk r.parse2, chk r.patch ]

def translateChecks (fl : Flags) (r : LibResults) : List (Except Err Unit) :=
  [ guardMsg (!translations.contains fl.t) ("unsupported translation: " ++ goQuote fl.t),
    chk r.translate ]

def writeChecks (fl : Flags) (r : LibResults) : List (Except Err Unit) :=
  if fl.o == "" then [] else [chk r.write]

/-- the checks `main` performs for these flags, in program order; which checks are made depends on the
    flags only, each check's verdict on the flags and on `LibResults` -/
def checks (b : Binary) (fl : Flags) (r : LibResults) : List (Except Err Unit) :=
  if fl.version then []
  else if fl.port != 0 then [guardMsg (fl.nargs > 0) portArgs, chk r.serve]
  else
    chk (parsedOptions b fl) ::
    (if fl.gitDiffDriver then
      guardMsg (fl.nargs != 7) gitDriverArgs :: (inputChecks [.arg 1, .arg 4] r ++ renderChecks fl r)
    else
      guardMsg (fl.p && fl.t != "") patchAndTranslate ::
      (match inputsOf fl with
       | .error e => [.error e]
       | .ok srcs =>
         inputChecks srcs r ++
         ((match modeOf fl with
          | .diff => renderChecks fl r
          | .patch => patchChecks fl r
          | .translate => translateChecks fl r) ++
         writeChecks fl r)))

def firstErr : List (Except Err Unit) → Option Err
  | [] => none
  | .ok _ :: l => firstErr l
  | .error e :: _ => some e

def runErr (b : Binary) (fl : Flags) (r : LibResults) : Option Err :=
  match run b fl r with
  | .ok _ => none
  | .error e => some e

@[simp] theorem firstErr_nil : firstErr [] = none := rfl
@[simp] theorem firstErr_ok (u : Unit) (l) : firstErr (.ok u :: l) = firstErr l := rfl
@[simp] theorem firstErr_error (e : Err) (l) : firstErr (.error e :: l) = some e := rfl

theorem firstErr_append (l₁ l₂ : List (Except Err Unit)) :
    firstErr (l₁ ++ l₂) = match firstErr l₁ with | some e => some e | none => firstErr l₂ := by
  induction l₁ with
  | nil => simp
  | cons x l ih => cases x <;> simp [ih]

theorem firstErr_some_iff (l : List (Except Err Unit)) :
    (firstErr l).isSome ↔ ∃ c ∈ l, ∃ e, c = .error e := by
  induction l with
  | nil => simp
  | cons x l ih => cases x <;> simp [ih]


@[simp] theorem chk_ok {α} (a : α) : chk (.ok a : Except String α) = .ok () := rfl
@[simp] theorem chk_error {α} (e : String) : chk (.error e : Except String α) = .error (.msg e) := rfl
@[simp] theorem step_ok {α} (a : α) : step (.ok a : Except String α) = .ok a := rfl
@[simp] theorem step_error {α} (e : String) : step (.error e : Except String α) = .error (.msg e) := rfl

def errOf {α} : Except Err α → Option Err
  | .ok _ => none
  | .error e => some e
@[simp] theorem errOf_ok {α} (a : α) : errOf (.ok a : Except Err α) = none := rfl
@[simp] theorem errOf_error {α} (e : Err) : errOf (.error e : Except Err α) = some e := rfl

theorem diffCore_err (fl : Flags) (r : LibResults) :
    errOf (diffCore fl r) = firstErr (renderChecks fl r) := by
  unfold diffCore renderChecks
  cases r.parse1 <;> cases r.parse2 <;> simp
  cases formatOf fl.f with
  | none => simp
  | some f => cases f <;> simp <;> (first | cases r.renderPatch <;> simp | cases r.renderMerge <;> simp)

theorem readInputs_err (srcs : List Src) (r : LibResults) :
    errOf (readInputs srcs r) = firstErr (inputChecks srcs r) := by
  unfold readInputs inputChecks
  cases r.file1 <;> simp
  by_cases h : 2 ≤ srcs.length <;> simp [h]
  cases r.file2 <;> simp

theorem deliver_err (fl : Flags) (r : LibResults) (c : Nat) (s : String) :
    errOf (deliver fl r c s) = firstErr (writeChecks fl r) := by
  unfold deliver writeChecks
  by_cases h : (fl.o == "") = true <;> simp [h]
  cases r.write <;> simp

theorem patchCore_err (fl : Flags) (r : LibResults) :
    errOf (patchCore fl r) = firstErr (patchChecks fl r) := by
  unfold patchCore patchChecks
  cases formatOf fl.f <;> simp
  cases r.readDiff <;> cases r.parse2 <;> cases r.patch <;> simp

theorem translateCore_err (fl : Flags) (r : LibResults) :
    errOf (translateCore fl r) = firstErr (translateChecks fl r) := by
  unfold translateCore translateChecks guardMsg
  by_cases h : fl.t ∈ translations <;> simp [h]
  cases r.translate <;> simp

@[simp] theorem guardMsg_true (m : String) : guardMsg true m = .error (.msg m) := rfl
@[simp] theorem guardMsg_false (m : String) : guardMsg false m = .ok () := rfl

theorem firstErr_chk {α} (x : Except String α) (l : List (Except Err Unit)) :
    firstErr (chk x :: l) = match step x with | .ok _ => firstErr l | .error e => some e := by
  cases x <;> rfl

/-- by the cases of `run`: in each, the error of the run and the first failing check are computed
    from the case hypotheses and the equations `*_err` of the parts -/
theorem run_error_eq_firstErr (b : Binary) (fl : Flags) (r : LibResults) :
    errOf (run b fl r) = firstErr (checks b fl r) := by
  unfold checks
  fun_cases run b fl r <;>
    simp [*, guardMsg, firstErr_chk, firstErr_append, ← readInputs_err, ← diffCore_err,
      ← patchCore_err, ← translateCore_err, deliver_err]

/-- (ii) exit status 2 exactly when one of the checks made for these flags reported an error -/
theorem exit_two_iff_error (b : Binary) (fl : Flags) (r : LibResults) :
    (cliM b fl r).exit = 2 ↔ ∃ c ∈ checks b fl r, ∃ e, c = .error e := by
  rw [← firstErr_some_iff, ← run_error_eq_firstErr]
  unfold cliM
  cases h : run b fl r with
  | error e => cases e <;> simp [outcomeOf]
  | ok e =>
    have := run_code h
    simp only [outcomeOf, errOf_ok, Option.isSome_none]
    split <;> simp only [] <;> constructor <;> intro h' <;> first | omega | cases h'

/-! ### (iii) diff mode -/

def isDiffMode (fl : Flags) : Prop :=
  fl.version = false ∧ fl.port = 0 ∧ fl.gitDiffDriver = false ∧ fl.p = false ∧ fl.t = ""

def okText : Except String String → Option String
  | .ok s => some s
  | .error _ => none

def libRendering (fl : Flags) (r : LibResults) : Option String :=
  match formatOf fl.f with
  | some .jd => some r.renderJd
  | some .patch => okText r.renderPatch
  | some .merge => okText r.renderMerge
  | none => none

def haveDiff (fl : Flags) (r : LibResults) (s : String) : Bool :=
  match formatOf fl.f with
  | some .jd => s != ""
  | some .patch => s != "[]"
  | some .merge => decide (r.diffLen > 0)
  | none => false

theorem diffCore_ok {fl : Flags} {r : LibResults} {s : String} {hd : Bool}
    (h : diffCore fl r = .ok (s, hd)) :
    r.parse1 = .ok () ∧ r.parse2 = .ok () ∧ libRendering fl r = some s ∧ hd = haveDiff fl r s := by
  unfold diffCore at h
  unfold libRendering haveDiff
  cases h1 : r.parse1 <;> cases h2 : r.parse2 <;> simp [h1, h2, step] at h
  cases hf : formatOf fl.f with
  | none => simp [hf] at h
  | some f =>
    cases f <;> simp [hf] at h ⊢
    · exact ⟨h.1, by rw [← h.1]; exact h.2.symm⟩
    · cases hp : r.renderPatch <;> simp [hp, okText] at h ⊢
      exact ⟨h.1, by rw [← h.1]; exact h.2.symm⟩
    · cases hp : r.renderMerge <;> simp [hp, okText] at h ⊢
      exact ⟨h.1, h.2.symm⟩

/-- `main` on a diff command line: five steps, the first error ends the run -/
theorem run_diff_eq (b : Binary) {fl : Flags} (r : LibResults) (hm : isDiffMode fl) :
    run b fl r = (do
      let _ ← step (parsedOptions b fl)
      let srcs ← inputsOf fl
      readInputs srcs r
      let (s, hd) ← diffCore fl r
      deliver fl r (if hd then 1 else 0) s) := by
  obtain ⟨hv, hp, hg, hpp, ht⟩ := hm
  have hmode : modeOf fl = .diff := by simp [modeOf, hpp, ht]
  unfold run
  simp only [hv, hp, hg, hpp, ht, hmode]
  cases step (parsedOptions b fl) <;> simp [bind, Except.bind]
  cases inputsOf fl <;> simp
  cases readInputs _ r <;> simp
  cases diffCore fl r <;> simp

/-- `main` on a `-p` command line -/
theorem run_patch_eq (b : Binary) {fl : Flags} (r : LibResults)
    (hv : fl.version = false) (hp : fl.port = 0) (hg : fl.gitDiffDriver = false)
    (hpp : fl.p = true) (ht : fl.t = "") :
    run b fl r = (do
      let _ ← step (parsedOptions b fl)
      let srcs ← inputsOf fl
      readInputs srcs r
      let s ← patchCore fl r
      deliver fl r 0 s) := by
  have hmode : modeOf fl = .patch := by simp [modeOf, hpp, ht]
  unfold run
  simp only [hv, hp, hg, hpp, ht, hmode]
  cases step (parsedOptions b fl) <;> simp [bind, Except.bind]
  cases inputsOf fl <;> simp
  cases readInputs _ r <;> simp
  cases patchCore fl r <;> simp

theorem run_diff_mode {b : Binary} {fl : Flags} {r : LibResults} {e : Emit}
    (hm : isDiffMode fl) (h : run b fl r = .ok e) :
    ∃ s hd, diffCore fl r = .ok (s, hd) ∧ deliver fl r (if hd then 1 else 0) s = .ok e := by
  rw [run_diff_eq b r hm] at h
  cases h1 : step (parsedOptions b fl) <;> simp [h1, bind, Except.bind] at h
  cases h2 : inputsOf fl with
  | error x => simp [h2] at h
  | ok srcs =>
  cases h3 : readInputs srcs r with
  | error x => simp [h2, h3] at h
  | ok _ =>
  cases h4 : diffCore fl r with
  | error x => simp [h2, h3, h4] at h
  | ok p => exact ⟨p.1, p.2, rfl, by simpa [h2, h3, h4] using h⟩

theorem exit_ne_two_run {b : Binary} {fl : Flags} {r : LibResults}
    (h : (cliM b fl r).exit ≠ 2) : ∃ e, run b fl r = .ok e := by
  unfold cliM at h
  cases hr : run b fl r with
  | ok e => exact ⟨e, rfl⟩
  | error e => cases e <;> simp [hr, outcomeOf] at h

theorem diff_mode_contract {b : Binary} {fl : Flags} {r : LibResults}
    (hm : isDiffMode fl) (hne : (cliM b fl r).exit ≠ 2) :
    ∃ s, libRendering fl r = some s ∧
      ((cliM b fl r).exit = 0 ↔ haveDiff fl r s = false) ∧
      ((cliM b fl r).exit = 1 ↔ haveDiff fl r s = true) ∧
      (fl.o = "" → (cliM b fl r).stdout = s ∧ (cliM b fl r).outfile = none) ∧
      (fl.o ≠ "" → (cliM b fl r).stdout = "" ∧ (cliM b fl r).outfile = some s) := by
  obtain ⟨e, he⟩ := exit_ne_two_run hne
  obtain ⟨s, hd, hdc, hdel⟩ := run_diff_mode hm he
  obtain ⟨_, _, hren, hhd⟩ := diffCore_ok hdc
  obtain ⟨hc, ht, hf⟩ := deliver_code hdel
  refine ⟨s, hren, ?_⟩
  unfold cliM
  rw [he]
  subst hhd
  by_cases ho : fl.o = "" <;> cases hh : haveDiff fl r s <;>
    simp [outcomeOf, hf, ho, hc, ht, hh]

/-! ### (iv) -o -/

theorem parsedOptions_without_o (b : Binary) (fl : Flags) :
    parsedOptions b { fl with o := "" } = parsedOptions b fl := by cases b <;> rfl

theorem deliver_without_o (fl : Flags) (r : LibResults) (c : Nat) (s : String) :
    deliver { fl with o := "" } r c s = .ok ⟨c, s, false⟩ := by simp [deliver]

theorem run_without_o {b : Binary} {fl : Flags} {r : LibResults} {e : Emit}
    (h : run b fl r = .ok e) : run b { fl with o := "" } r = .ok ⟨e.code, e.text, false⟩ := by
  have hd : diffCore { fl with o := "" } r = diffCore fl r := rfl
  have hp : patchCore { fl with o := "" } r = patchCore fl r := rfl
  have ht : translateCore { fl with o := "" } r = translateCore fl r := rfl
  have hi : inputsOf { fl with o := "" } = inputsOf fl := rfl
  have hm : modeOf { fl with o := "" } = modeOf fl := rfl
  unfold run
  simp only [parsedOptions_without_o, hd, hp, ht, hi, hm, deliver_without_o]
  revert h
  fun_cases run b fl r
  all_goals intro h
  all_goals first
    | (cases h; done)
    | (cases h; simp [*]; done)
    | (have := deliver_code h; simp [*]; done)

theorem run_toFile {b : Binary} {fl : Flags} {r : LibResults} {e : Emit}
    (ho : fl.o ≠ "") (hv : fl.version = false) (hp : fl.port = 0) (hg : fl.gitDiffDriver = false)
    (h : run b fl r = .ok e) : e.toFile = true := by
  revert h
  fun_cases run b fl r
  all_goals intro h
  all_goals first
    | (cases h; done)
    | (have := deliver_code h; simp_all; done)
    | (simp_all; done)

/-- on exit 2 no output file is written and stdout is empty or the usage text -/
theorem error_writes_nothing {b : Binary} {fl : Flags} {r : LibResults}
    (h : (cliM b fl r).exit = 2) :
    (cliM b fl r).outfile = none ∧ ((cliM b fl r).stdout = "" ∨ (cliM b fl r).stdout = usageText b) := by
  unfold cliM at h ⊢
  cases hr : run b fl r with
  | error e => cases e <;> simp [outcomeOf]
  | ok e =>
    have := run_code hr
    rw [hr] at h
    simp only [outcomeOf] at h
    split at h <;> simp only [] at h <;> omega

/-! ### (v) the option list -/

/-- the option list `parseMetadata` builds, when it builds one: `ks` are the trimmed keys of
    `-setkeys`, if given -/
theorem optionsOf_ok {fl : Flags} {opts : List Opt} (ho : optionsOf fl = .ok opts) :
    ∃ ks, (if fl.setkeys != "" then (splitKeys fl.setkeys).map some else .ok none) = .ok ks ∧
      opts = (if fl.set then [Opt.set] else []) ++ (if fl.mset then [Opt.mset] else []) ++
        ks.toList.map Opt.setKeys ++ (if fl.f == "merge" then [Opt.merge] else []) ++
        [Opt.prec fl.precision] := by
  unfold optionsOf at ho
  split at ho
  · cases ho
  · split at ho
    · cases ho
    · rename_i ks hks
      exact ⟨ks, hks, by cases ks <;> exact (Except.ok.inj ho).symm⟩

theorem ofV1_toV1 (o : Opt) : ofV1 (toV1 o) = o := by cases o <;> rfl
theorem toV1_ofV1 (m : Meta) : toV1 (ofV1 m) = m := by cases m <;> rfl

theorem metadata_v1_is_image (fl : Flags) :
    metadataOfTopV1 fl = (optionsOf fl).map (List.map toV1) := by
  unfold metadataOfTopV1 optionsOf
  split
  · rfl
  · split
    · rfl
    · rename_i ks _
      cases ks <;> cases fl.set <;> cases fl.mset <;> cases (fl.f == "merge") <;> rfl

theorem map_ofV1_toV1 (l : List Opt) : (l.map toV1).map ofV1 = l := by
  induction l with
  | nil => rfl
  | cons x l ih => simp [ofV1_toV1, ih]

theorem parsedOptions_same (b : Binary) (fl : Flags) : parsedOptions b fl = optionsOf fl := by
  have h1 : (metadataOfTopV1 fl).map (List.map ofV1) = optionsOf fl := by
    rw [metadata_v1_is_image]
    cases optionsOf fl with
    | error e => rfl
    | ok l => simp only [Except.map, map_ofV1_toV1]
  cases b <;> simp only [parsedOptions]
  all_goals
    split
    · exact h1
    · rfl

/-! ### (vi) stdin ≡ file -/

theorem parsedOptions_nargs (b : Binary) (fl : Flags) (n : Nat) :
    parsedOptions b { fl with nargs := n } = parsedOptions b fl := by cases b <;> rfl

theorem run_nargs_irrelevant {b : Binary} {fl : Flags} {r : LibResults} {n m : Nat} {s1 s2 : List Src}
    (hv : fl.version = false) (hp : fl.port = 0) (hg : fl.gitDiffDriver = false)
    (h1 : inputsOf { fl with nargs := n } = .ok s1) (h2 : inputsOf { fl with nargs := m } = .ok s2)
    (hl : (s1.length ≥ 2) = (s2.length ≥ 2)) :
    run b { fl with nargs := n } r = run b { fl with nargs := m } r := by
  have hr : readInputs s1 r = readInputs s2 r := by simp only [readInputs, hl]
  have hd (k) : diffCore { fl with nargs := k } r = diffCore fl r := rfl
  have hpc (k) : patchCore { fl with nargs := k } r = patchCore fl r := rfl
  have htc (k) : translateCore { fl with nargs := k } r = translateCore fl r := rfl
  have hm (k) : modeOf { fl with nargs := k } = modeOf fl := rfl
  have hdl (k) (c) (s) : deliver { fl with nargs := k } r c s = deliver fl r c s := rfl
  unfold run
  simp only [parsedOptions_nargs, h1, h2, hr, hd, hpc, htc, hm, hdl]
  simp [hv, hp, hg]

end Jd.Cli
