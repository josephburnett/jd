/-
  JdProofs.StrictPatch — property C03: strict patches apply only where they match; otherwise an
  error, never a silently different document.

  On list-mode documents the library's patch of a strict hunk whose path consists of object keys
  and list indices IS the reference interpreter `applyStrict` (JdSpec.HunkSem), up to the Go dynamic
  type tags of array nodes (`untag`).
-/
import JdModel
import JdSpec
import JdProofs.EqualsList
import JdProofs.NoPanic

namespace Jd
open Jd.Spec

/-! ### 1. `untag` -/

theorem untagList_eq_map : ∀ xs : List Json, untagList xs = xs.map untag :=
  listF_eq_map rfl (fun _ _ => rfl)

theorem untagKvs_eq_map : ∀ kvs : List (String × Json),
    untagKvs kvs = kvs.map (fun kv => (kv.1, untag kv.2)) :=
  listF_eq_map rfl (fun _ _ => rfl)

theorem untag_idem : ∀ a : Json, untag (untag a) = untag a := by
  intro a
  induction a using jsonInd with
  | arr t xs ih =>
    simp only [untag, untagList_eq_map, List.map_map, Json.arr.injEq, true_and]
    exact List.map_congr_left fun x hx => ih x hx
  | obj kvs ih =>
    simp only [untag, untagKvs_eq_map, List.map_map, Json.obj.injEq]
    exact List.map_congr_left fun kv hkv => congrArg (Prod.mk kv.1) (ih kv.1 kv.2 hkv)
  | _ => rfl

theorem untagList_idem : ∀ xs : List Json, untagList (untagList xs) = untagList xs := fun xs => by
  simp only [untagList_eq_map, List.map_map]
  exact List.map_congr_left fun x _ => untag_idem x

theorem untagKvs_idem : ∀ kvs : List (String × Json), untagKvs (untagKvs kvs) = untagKvs kvs :=
  fun kvs => by
    simp only [untagKvs_eq_map, List.map_map]
    exact List.map_congr_left fun kv _ => congrArg (Prod.mk kv.1) (untag_idem kv.2)

/-- a document as read from text carries no tag -/
theorem Robust.untag_rawDoc : ∀ a : Json, a.rawDoc = true → untag a = a :=
  Yaml.fixes_rawDoc (fun xs => by simp only [untag, untagList_eq_map])
    (fun kvs => by simp only [untag, untagKvs_eq_map])
    (fun d h1 h2 => by cases d <;> first | rfl | exact absurd rfl (h1 _ _) | exact absurd rfl (h2 _))

theorem Robust.untagList_rawDoc : ∀ xs : List Json, rawDocList xs = true → untagList xs = xs :=
  fun xs h => by
    rw [untagList_eq_map]
    exact Yaml.map_eq_self fun x hx => Robust.untag_rawDoc x
      (List.all_eq_true.1 (rawDocList_eq_all xs ▸ h) x hx)

theorem Robust.untagKvs_rawDoc : ∀ kvs : List (String × Json), rawDocKvs kvs = true →
    untagKvs kvs = kvs := fun kvs h => by
  rw [untagKvs_eq_map]
  exact Yaml.mapSnd_eq_self fun kv hkv => Robust.untag_rawDoc kv.2
    (List.all_eq_true.1 (rawDocKvs_eq_all kvs ▸ h) kv hkv)

theorem Robust.map_untag_rawDoc {l : List Json} (h : rawDocList l = true) : l.map untag = l := by
  rw [← untagList_eq_map]; exact Robust.untagList_rawDoc l h

theorem untag_comp_untag : untag ∘ untag = untag := funext untag_idem

theorem untag_isVoid (a : Json) : (untag a).isVoid = a.isVoid := by
  cases a <;> simp [untag, Json.isVoid]

theorem alookup_untagKvs (k : String) :
    ∀ kvs : List (String × Json), alookup k (untagKvs kvs) = (alookup k kvs).map untag :=
  fun kvs => by rw [untagKvs_eq_map, alookup_map]

theorem untagKvs_length : ∀ kvs : List (String × Json), (untagKvs kvs).length = kvs.length
  | [] => by simp [untagKvs]
  | (k, v) :: r => by simp [untagKvs, untagKvs_length r]

theorem keysSorted_untagKvs : ∀ kvs : List (String × Json), keysSorted (untagKvs kvs) = keysSorted kvs
  | [] => rfl
  | [(_, _)] => rfl
  | (k, v) :: (k', v') :: r => by
    have := keysSorted_untagKvs ((k', v') :: r)
    simp only [untagKvs] at this
    simp [untagKvs, keysSorted, this]

theorem untagKvs_aerase (k : String) :
    ∀ kvs : List (String × Json), untagKvs (aerase k kvs) = aerase k (untagKvs kvs) :=
  fun kvs => by rw [untagKvs_eq_map, untagKvs_eq_map, aerase_mapSnd]

theorem untagKvs_ainsert (k : String) (v : Json) :
    ∀ kvs : List (String × Json), untagKvs (ainsert k v kvs) = ainsert k (untag v) (untagKvs kvs) :=
  fun kvs => by rw [untagKvs_eq_map, untagKvs_eq_map, ainsert_mapSnd]

/-! the reference equality ignores the tags -/

mutual
theorem equivB_untag_left (o : Opts) (h : dispatchTag o = .list) :
    ∀ a b : Json, equivB o (untag a) b = equivB o a b
  | .void, b => by simp [untag]
  | .null, b => by simp [untag]
  | .bool _, b => by simp [untag]
  | .num _, b => by simp [untag]
  | .str _, b => by simp [untag]
  | .arr t xs, b => by
    cases b <;> simp [untag, equivB, h, equivList_untag_left o h xs]
  | .obj kvs, b => by
    cases b <;> simp [untag, equivB, untagKvs_length, equivKvs_untag_left o h kvs]
theorem equivList_untag_left (o : Opts) (h : dispatchTag o = .list) :
    ∀ xs ys : List Json, equivList o (untagList xs) ys = equivList o xs ys
  | [], ys => by simp [untagList]
  | x :: r, [] => by simp [untagList, equivList]
  | x :: r, y :: ys => by
    simp [untagList, equivList, equivB_untag_left o h x y, equivList_untag_left o h r ys]
theorem equivKvs_untag_left (o : Opts) (h : dispatchTag o = .list) :
    ∀ kvs kvs' : List (String × Json), equivKvs o (untagKvs kvs) kvs' = equivKvs o kvs kvs'
  | [], kvs' => by simp [untagKvs]
  | (k, v) :: r, kvs' => by
    rw [untagKvs, equivKvs, equivKvs, equivKvs_untag_left o h r kvs']
    cases alookup k kvs' with
    | none => rfl
    | some v' => simp [equivB_untag_left o h v v']
end

mutual
theorem equivB_untag_right (o : Opts) (h : dispatchTag o = .list) :
    ∀ a b : Json, equivB o a (untag b) = equivB o a b
  | .void, b => by cases b <;> simp [untag, equivB]
  | .null, b => by cases b <;> simp [untag, equivB]
  | .bool _, b => by cases b <;> simp [untag, equivB]
  | .num _, b => by cases b <;> simp [untag, equivB]
  | .str _, b => by cases b <;> simp [untag, equivB]
  | .arr t xs, b => by
    cases b <;> simp [untag, equivB, h, equivList_untag_right o h xs]
  | .obj kvs, b => by
    cases b <;> simp [untag, equivB, untagKvs_length, equivKvs_untag_right o h kvs]
theorem equivList_untag_right (o : Opts) (h : dispatchTag o = .list) :
    ∀ xs ys : List Json, equivList o xs (untagList ys) = equivList o xs ys
  | [], ys => by cases ys <;> simp [untagList, equivList]
  | x :: r, [] => by simp [untagList]
  | x :: r, y :: ys => by
    simp [untagList, equivList, equivB_untag_right o h x y, equivList_untag_right o h r ys]
theorem equivKvs_untag_right (o : Opts) (h : dispatchTag o = .list) :
    ∀ kvs kvs' : List (String × Json), equivKvs o kvs (untagKvs kvs') = equivKvs o kvs kvs'
  | [], kvs' => by simp [equivKvs]
  | (k, v) :: r, kvs' => by
    rw [equivKvs, equivKvs, equivKvs_untag_right o h r kvs', alookup_untagKvs]
    cases alookup k kvs' with
    | none => rfl
    | some v' => simp [equivB_untag_right o h v v']
end

theorem specEq_untag_left (a b : Json) : specEq (untag a) b = specEq a b :=
  equivB_untag_left [] rfl a b

theorem specEq_untag_right (a b : Json) : specEq a (untag b) = specEq a b :=
  equivB_untag_right [] rfl a b

/-- documents that agree up to array tags are the same to `equivB` in the list reading, and to
    `specEq`, on either side -/
theorem equivB_left_of_untag_eq (o : Opts) (h : dispatchTag o = .list) {r r' b : Json}
    (hu : untag r = untag r') : equivB o r b = equivB o r' b := by
  rw [← equivB_untag_left o h, hu, equivB_untag_left o h]

theorem specEq_left_of_untag_eq {r r' b : Json} (hu : untag r = untag r') :
    specEq r b = specEq r' b :=
  equivB_left_of_untag_eq [] rfl hu

theorem specEq_right_of_untag_eq {r r' b : Json} (hu : untag r = untag r') :
    specEq b r = specEq b r' := by
  rw [← specEq_untag_right, hu, specEq_untag_right]

/-! ### 2. list-mode documents -/

theorem listDocList_iff {l : List Json} : listDocList l = true ↔ ∀ x ∈ l, x.listDoc = true := by
  rw [listDocList_eq_all, List.all_eq_true]

theorem listDocList_append {l l' : List Json} :
    listDocList (l ++ l') = true ↔ listDocList l = true ∧ listDocList l' = true := by
  simp only [listDocList_eq_all, List.all_append, Bool.and_eq_true]

theorem listDocList_take {l : List Json} (k : Nat) (h : listDocList l = true) :
    listDocList (l.take k) = true :=
  listDocList_iff.2 fun x hx => listDocList_iff.1 h x (List.mem_of_mem_take hx)

theorem listDocList_drop {l : List Json} (k : Nat) (h : listDocList l = true) :
    listDocList (l.drop k) = true :=
  listDocList_iff.2 fun x hx => listDocList_iff.1 h x (List.mem_of_mem_drop hx)

theorem listDocList_getElem? {l : List Json} {k : Nat} {x : Json} (h : listDocList l = true)
    (hx : l[k]? = some x) : x.listDoc = true :=
  listDocList_iff.1 h x (List.mem_of_getElem? hx)

theorem listDocList_set {l : List Json} {k : Nat} {v : Json} (h : listDocList l = true)
    (hv : v.listDoc = true) : listDocList (l.set k v) = true :=
  listDocList_iff.2 fun x hx => (List.mem_or_eq_of_mem_set hx).elim (listDocList_iff.1 h x) (· ▸ hv)

theorem listDocKvs_aerase (k : String) {kvs : List (String × Json)} (h : listDocKvs kvs = true) :
    listDocKvs (aerase k kvs) = true := by
  rw [listDocKvs_eq_all] at h ⊢; exact all_aerase k h

theorem listDocKvs_ainsert (k : String) {v : Json} (hv : v.listDoc = true)
    {kvs : List (String × Json)} (h : listDocKvs kvs = true) : listDocKvs (ainsert k v kvs) = true := by
  rw [listDocKvs_eq_all] at h ⊢; exact all_ainsert hv h

theorem listDocKvs_putKvs (k : String) {v : Json} (hv : v.listDoc = true)
    {kvs : List (String × Json)} (h : listDocKvs kvs = true) :
    listDocKvs (Merge.putKvs k v kvs) = true := by
  unfold Merge.putKvs; split
  · exact listDocKvs_aerase k h
  · exact listDocKvs_ainsert k hv h

theorem listDocList_nodeList {v : Json} (h : v.listDoc = true) : listDocList v.nodeList = true := by
  unfold Json.nodeList
  split <;> simp [listDocList, h]

theorem singleValue_listDoc {l : List Json} (h : listDocList l = true) :
    (Json.singleValue l).listDoc = true := by
  cases l with
  | nil => simp [Json.singleValue, Json.listDoc]
  | cons x r => simp only [listDocList, Bool.and_eq_true] at h; exact h.1

/-- on list-mode documents the library's `Equals` with no options is the reference equality -/
theorem equals_nil_eq_specEq {a b : Json} (ha : a.listDoc = true) (hb : b.listDoc = true) :
    equals [] a b = specEq a b :=
  equals_eq_equivB_list [] rfl a b ha hb

/-! ### 3. the list leaf: `patchListLeaf` is `splice` -/

theorem idxP_eq {l : List Json} {i : Int} {x : Json} (h0 : 0 ≤ i) (hx : l[i.toNat]? = some x) :
    idxP l i = .ok x := by
  simp [idxP, show ¬ i < 0 by omega, hx]

theorem checkBefore_eq (l : List Json) (i : Int) (n : Nat) :
    ∀ (j : Nat) (bs : List Json), i ≤ (l.length : Int) → j + bs.length = n →
      listDocList l = true → listDocList bs = true →
      checkBefore l i n j bs = cond (beforeOk l i n j bs) (.ok ()) .err
  | _, [], _, _, _, _ => by simp [checkBefore, beforeOk]
  | j, b :: r, hi, hj, hl, hb => by
    simp only [listDocList, Bool.and_eq_true] at hb
    have ih := checkBefore_eq l i n (j + 1) r hi (by simp at hj; omega) hl hb.2
    simp only [checkBefore, beforeOk]
    split
    · rw [ih]
      cases hc : (i - ((n : Int) - (j : Int)) == -1 && b.isVoid) <;> simp
    · rename_i hneg
      have hlt : (i - ((n : Int) - (j : Int))).toNat < l.length := by simp at hj; omega
      have hx := List.getElem?_eq_getElem hlt
      rw [idxP_eq (by omega) hx, Outcome.bind_ok, hx]
      simp only
      rw [equals_nil_eq_specEq hb.1 (listDocList_getElem? hl hx), ih]
      cases specEq b l[(i - ((n : Int) - (j : Int))).toNat] <;> simp

theorem removeLoop_eq (pre : List Json) :
    ∀ (rs rest : List Json), listDocList rest = true → listDocList rs = true →
      removeLoop (pre ++ rest) (pre.length : Int) rs =
        cond (prefixEq rs rest) (.ok (pre ++ rest.drop rs.length)) .err
  | [], rest, _, _ => by simp [removeLoop, prefixEq]
  | r :: rs, [], _, _ => by
    simp only [removeLoop, prefixEq]
    rw [if_pos (by simp; omega)]; simp
  | r :: rs, x :: xs, hl, hr => by
    simp only [listDocList, Bool.and_eq_true] at hl hr
    have ih := removeLoop_eq pre rs xs hl.2 hr.2
    simp only [removeLoop, prefixEq]
    rw [if_neg (by simp; omega)]
    rw [idxP_eq (x := x) (by omega) (by simp), Outcome.bind_ok, equals_nil_eq_specEq hl.1 hr.1]
    cases specEq x r
    · simp
    · have hrm : removeAtP (pre ++ x :: xs) (pre.length : Int) = .ok (pre ++ xs) := by
        simp [removeAtP, List.eraseIdx_append_of_length_le]
      simp [hrm, ih]

theorem checkAfter_eq (pre post : List Json) :
    ∀ (j : Nat) (as : List Json), listDocList post = true → listDocList as = true →
      checkAfter (pre ++ post) (pre.length : Int) j as = cond (afterOk post j as) (.ok ()) .err
  | _, [], _, _ => by simp [checkAfter, afterOk]
  | j, a :: r, hl, ha => by
    simp only [listDocList, Bool.and_eq_true] at ha
    have ih := checkAfter_eq pre post (j + 1) r hl ha.2
    simp only [checkAfter, afterOk]
    by_cases hlt : j < post.length
    case neg =>
      have hge : post.length ≤ j := by omega
      rw [if_pos (by simp; omega), ih, List.getElem?_eq_none hge]
      simp only
      have : (((pre.length : Int) + (j : Int)) == (((pre ++ post).length : Nat) : Int))
          = (j == post.length) := by
        rw [Bool.eq_iff_iff]
        simp only [beq_iff_eq, List.length_append]
        omega
      rw [this]
      cases hc : (j == post.length && a.isVoid) <;> simp
    case pos =>
      have hx := List.getElem?_eq_getElem hlt
      generalize post[j] = x at hx
      rw [if_neg (by simp; omega), hx]
      simp only
      have hx' : (pre ++ post)[((pre.length : Int) + (j : Int)).toNat]? = some x := by
        have : ((pre.length : Int) + (j : Int)).toNat = pre.length + j := by omega
        rw [this, List.getElem?_append_right (by omega)]
        simpa using hx
      rw [idxP_eq (by omega) hx', Outcome.bind_ok,
        equals_nil_eq_specEq ha.1 (listDocList_getElem? hl hx), ih]
      cases specEq a x <;> simp

theorem spliceP_eq (pre post add : List Json) :
    spliceP (pre ++ post) (pre.length : Int) add = .ok (pre ++ add ++ post) := by
  simp [spliceP]

/-- the list leaf of `jsonList.patch` is the reference `splice` (the result is a `jsonList`) -/
theorem patchListLeaf_eq_splice (l : List Json) (i : Int) (h : Hunk)
    (hl : listDocList l = true) (hh : hunkListDoc h = true) :
    patchListLeaf l i h.before h.remove h.add h.after
      = optToOutcome ((splice l i h).map (Json.arr .list)) := by
  simp only [hunkListDoc, Bool.and_eq_true] at hh
  obtain ⟨⟨⟨hb, hr⟩, ha⟩, haf⟩ := hh
  unfold patchListLeaf splice
  split
  · cases hrm : h.remove <;> simp [optToOutcome]
  · split
    · simp [optToOutcome]
    · rename_i h1 h2
      have h0 : 0 ≤ i := by simp at h2; omega
      have hi : i ≤ (l.length : Int) := by simp at h2; omega
      obtain ⟨pre, rest, rfl, rfl⟩ : ∃ pre rest, l = pre ++ rest ∧ i = (pre.length : Int) :=
        ⟨l.take i.toNat, l.drop i.toNat, (List.take_append_drop _ _).symm, by simp; omega⟩
      have hrest : listDocList rest = true := (listDocList_append.1 hl).2
      rw [checkBefore_eq _ _ _ 0 h.before hi (by simp) hl hb, removeLoop_eq pre h.remove rest hrest hr]
      simp only [Int.toNat_natCast, List.take_left', List.drop_left']
      cases prefixEq h.remove rest
      · cases beforeOk (pre ++ rest) (↑pre.length) h.before.length 0 h.before <;> simp [optToOutcome]
      · cases beforeOk (pre ++ rest) (↑pre.length) h.before.length 0 h.before
        · simp [optToOutcome]
        · simp only [cond_true, Outcome.bind_ok, spliceP_eq,
            checkAfter_eq pre _ 0 h.after (listDocList_drop _ hrest) haf]
          cases afterOk (List.drop h.remove.length rest) 0 h.after <;> simp [optToOutcome, pure]

/-! ### 4. one step of `patchNode` on a strict path (strict strategy) -/

/-- strict strategy at the end of the path: whatever the kind of the node, it is compared with the
    one removed value and replaced by the one added value -/
theorem patchNode_strict_nil (sw : Bool) (n : Json) (b r a af : List Json) :
    patchNode sw false n [] b r a af =
      if r.length > 1 || a.length > 1 then .err
      else if equals [] n (Json.singleValue r) then .ok (Json.singleValue a) else .err := by
  rw [patchNode_strict]; rfl

/-! ### 5. one strict hunk: the library is the reference interpreter -/

theorem untag_objUpdate (k : String) (kvs : List (String × Json)) {v v' : Json}
    (h : untag v = untag v') :
    untag (if v.isVoid then Json.obj (aerase k kvs) else Json.obj (ainsert k v kvs))
      = untag (if v'.isVoid then Json.obj (aerase k kvs) else Json.obj (ainsert k v' kvs)) := by
  have hv : v.isVoid = v'.isVoid := by rw [← untag_isVoid v, h, untag_isVoid]
  rw [hv]
  cases v'.isVoid
  · simp [untag, untagKvs_ainsert, h]
  · simp

theorem untag_arrSet (t t' : Tag) (xs : List Json) (k : Nat) {v v' : Json}
    (h : untag v = untag v') :
    untag (.arr t (xs.set k v)) = untag (.arr t' (xs.set k v')) := by
  simp [untag, untagList_eq_map, List.map_set, h]

/-- the library's outcome `P` against the reference interpreter's `S`: both accept, the results are
    equal up to array tags and the library's is a list document; or both reject (no panic) -/
def StrictAgree (P : Outcome Json) (S : Option Json) : Prop :=
  (∃ v v', P = .ok v ∧ S = some v' ∧ untag v = untag v' ∧ v.listDoc = true) ∨ (P = .err ∧ S = none)

theorem StrictAgree.ok {v v' : Json} (hu : untag v = untag v') (hl : v.listDoc = true) :
    StrictAgree (.ok v) (some v') := .inl ⟨v, v', rfl, rfl, hu, hl⟩

theorem StrictAgree.err : StrictAgree (.err : Outcome Json) none := .inr ⟨rfl, rfl⟩

theorem StrictAgree.mapO {P : Outcome Json} {S : Option Json} (h : StrictAgree P S) :
    Outcome.mapO untag P = Outcome.mapO untag (optToOutcome S) := by
  rcases h with ⟨v, v', rfl, rfl, hu, _⟩ | ⟨rfl, rfl⟩
  · simp [Outcome.mapO, optToOutcome, hu]
  · rfl

theorem StrictAgree.listDoc {P : Outcome Json} {S : Option Json} (h : StrictAgree P S) {r : Json}
    (he : P = .ok r) : r.listDoc = true := by
  rcases h with ⟨v, _, rfl, _, _, hl⟩ | ⟨rfl, _⟩
  · cases he; exact hl
  · cases he

theorem splice_listDoc {l l' : List Json} {i : Int} {h : Hunk} (he : splice l i h = some l')
    (hl : listDocList l = true) (ha : listDocList h.add = true) : listDocList l' = true := by
  unfold splice at he
  split at he
  · split at he
    · cases he; exact listDocList_append.2 ⟨hl, ha⟩
    · cases he
  · split at he
    · cases he
    · simp only at he
      split at he
      · cases he
        exact listDocList_append.2 ⟨listDocList_append.2 ⟨listDocList_take _ hl, ha⟩,
          listDocList_drop _ (listDocList_drop _ hl)⟩
      · cases he

/-- agreement is kept by a step that puts the result of the child back in place -/
theorem StrictAgree.step {P : Outcome Json} {S : Option Json} (h : StrictAgree P S)
    {C C' : Json → Json}
    (hC : ∀ v v', untag v = untag v' → v.listDoc = true →
      untag (C v) = untag (C' v') ∧ (C v).listDoc = true) :
    StrictAgree (P >>= fun v => .ok (C v)) (S.map C') := by
  rcases h with ⟨v, v', rfl, rfl, hu, hl⟩ | ⟨rfl, rfl⟩
  · exact .ok (hC v v' hu hl).1 (hC v v' hu hl).2
  · exact .err

/-- one strict hunk, by induction along its path: the library is the reference interpreter up to
    array tags, and list documents stay list documents -/
theorem patchNode_strict_agree (sw : Bool) (n : Json) (h : Hunk) (p : Path)
    (hp : strictPath p = true) (hn : n.listDoc = true) (hh : hunkListDoc h = true) :
    StrictAgree (patchNode sw false n p h.before h.remove h.add h.after) (applyStrict n p h) := by
  have hh' := hh
  simp only [hunkListDoc, Bool.and_eq_true] at hh'
  obtain ⟨⟨⟨hb, hr⟩, ha⟩, haf⟩ := hh'
  rw [patchNode_strict]
  induction p generalizing n with
  | nil =>
    have es : ∀ l, single l = Json.singleValue l := fun _ => rfl
    rw [patchS, replaceS, applyStrict, equals_nil_eq_specEq hn (singleValue_listDoc hr), es, es]
    split
    · exact .err
    · split
      · exact .ok rfl (singleValue_listDoc ha)
      · exact .err
  | cons e rest ih =>
    cases e with
    | key k =>
      cases n with
      | obj kvs =>
        have hkvs : listDocKvs kvs = true := by simpa [Json.listDoc] using hn
        have hv : ((alookup k kvs).getD .void).listDoc = true := by
          cases hl : alookup k kvs with
          | none => simp [Json.listDoc]
          | some v => simpa using alookup_listDoc hl hkvs
        simp only [patchS, applyStrict]
        refine StrictAgree.step (ih _ hp hv) fun v v' hu hl =>
          ⟨(congrArg untag (obj_putKvs k v kvs)).trans (untag_objUpdate k kvs hu), ?_⟩
        simpa [Json.listDoc] using listDocKvs_putKvs k hl hkvs
      | _ => simpa [applyStrict, patchS] using StrictAgree.err
    | idx i =>
      cases n with
      | arr t xs =>
        simp only [Json.listDoc, Bool.and_eq_true] at hn
        have ht : effTag [] t = .list := effTag_list rfl hn.1
        simp only [patchS, ht, if_true]
        cases rest with
        | nil =>
          simp only [List.isEmpty_nil, if_true, applyStrict, patchListLeaf_eq_splice xs i h hn.2 hh]
          cases hs : splice xs i h with
          | none => exact .err
          | some l' =>
            exact .ok (by simp [untag]) (by simpa [Json.listDoc] using splice_listDoc hs hn.2 ha)
        | cons e' rest' =>
          simp only [List.isEmpty_cons, Bool.false_eq_true, if_false, applyStrict]
          by_cases h0 : i < 0
          · simp only [h0, if_true]; exact .err
          · simp only [h0, if_false]
            cases hx : xs[i.toNat]? with
            | none => exact .err
            | some x =>
              exact StrictAgree.step (ih x hp (listDocList_getElem? hn.2 hx)) fun v v' hu hl =>
                ⟨untag_arrSet .list .raw xs i.toNat hu,
                  by simpa [Json.listDoc] using listDocList_set hn.2 hl⟩
      | _ => cases rest <;> simpa [applyStrict, patchS] using StrictAgree.err
    | _ => simp [strictPath] at hp

theorem patchNode_strict_eq_ref (sw : Bool) (n : Json) (h : Hunk) (p : Path)
    (hp : strictPath p = true) (hn : n.listDoc = true) (hh : hunkListDoc h = true) :
    Outcome.mapO untag (patchNode sw false n p h.before h.remove h.add h.after)
      = Outcome.mapO untag (optToOutcome (applyStrict n p h)) :=
  (patchNode_strict_agree sw n h p hp hn hh).mapO

theorem patchNode_strict_listDoc (sw : Bool) (n : Json) (h : Hunk) (p : Path)
    (hp : strictPath p = true) (hn : n.listDoc = true) (hh : hunkListDoc h = true) (n1 : Json)
    (he : patchNode sw false n p h.before h.remove h.add h.after = .ok n1) : n1.listDoc = true :=
  (patchNode_strict_agree sw n h p hp hn hh).listDoc he

/-! ### 7. the reference interpreter sees the document and the payload of a hunk up to array tags only -/

/-- the hunk with its payload values untagged -/
def Robust.untagHunk (h : Hunk) : Hunk :=
  { h with before := h.before.map untag, remove := h.remove.map untag, add := h.add.map untag,
           after := h.after.map untag }

open Robust (untagHunk)

theorem untagHunk_idem (h : Hunk) : untagHunk (untagHunk h) = untagHunk h := by
  simp [untagHunk, untag_comp_untag]

theorem single_map_untag (l : List Json) : single (l.map untag) = untag (single l) := by
  cases l <;> simp [single, Json.singleValue, untag]

theorem map_untag_eq {S S' : Option Json} (h : S.map untag = S'.map untag) :
    (∃ v v', S = some v ∧ S' = some v' ∧ untag v = untag v') ∨ (S = none ∧ S' = none) := by
  cases S <;> cases S' <;> simp_all

theorem prefixEq_map_untag : ∀ rs l : List Json,
    prefixEq (rs.map untag) (l.map untag) = prefixEq rs l
  | [], _ => by simp [prefixEq]
  | _ :: _, [] => by simp [prefixEq]
  | r :: rs, x :: xs => by
    simp [prefixEq, specEq_untag_left, specEq_untag_right, prefixEq_map_untag rs xs]

theorem beforeOk_map_untag (l : List Json) (i : Int) (n : Nat) :
    ∀ (j : Nat) (bs : List Json),
      beforeOk (l.map untag) i n j (bs.map untag) = beforeOk l i n j bs
  | _, [] => by simp [beforeOk]
  | j, b :: r => by
    simp only [List.map_cons, beforeOk, beforeOk_map_untag l i n (j + 1) r, List.getElem?_map,
      untag_isVoid]
    cases l[(i - ((n : Int) - (j : Int))).toNat]? <;>
      simp [specEq_untag_left, specEq_untag_right]

theorem afterOk_map_untag (post : List Json) :
    ∀ (j : Nat) (as : List Json), afterOk (post.map untag) j (as.map untag) = afterOk post j as
  | _, [] => by simp [afterOk]
  | j, a :: r => by
    simp only [List.map_cons, afterOk, afterOk_map_untag post (j + 1) r, List.getElem?_map,
      List.length_map, untag_isVoid]
    cases post[j]? <;> simp [specEq_untag_left, specEq_untag_right]

theorem splice_map_untag (l : List Json) (i : Int) (h : Hunk) :
    (splice (l.map untag) i (untagHunk h)).map (List.map untag)
      = (splice l i h).map (List.map untag) := by
  unfold splice
  simp only [untagHunk, List.length_map, List.isEmpty_map, ← List.map_take, ← List.map_drop,
    prefixEq_map_untag, beforeOk_map_untag, afterOk_map_untag]
  split
  · split <;> simp [untag_comp_untag]
  · split
    · rfl
    · split <;> simp [untag_comp_untag]

/-- untagging the document and the payload of the hunk changes the reference result in its tags
    only; the statements about the document alone and about the payload alone follow -/
theorem applyStrict_untag_both (p : Path) (h : Hunk) : ∀ n : Json,
    (applyStrict (untag n) p (untagHunk h)).map untag = (applyStrict n p h).map untag := by
  induction p with
  | nil =>
    intro n
    simp only [applyStrict]
    rw [show (untagHunk h).remove = h.remove.map untag from rfl,
      show (untagHunk h).add = h.add.map untag from rfl]
    simp only [List.length_map, single_map_untag, specEq_untag_left, specEq_untag_right]
    split
    · rfl
    · split <;> simp [untag_idem]
  | cons e rest ih =>
    intro n
    cases e with
    | key k =>
      cases n with
      | obj kvs =>
        have hg : (alookup k (untagKvs kvs)).getD .void = untag ((alookup k kvs).getD .void) := by
          rw [alookup_untagKvs]; cases alookup k kvs <;> simp [untag]
        simp only [untag, applyStrict, hg]
        rcases map_untag_eq (ih ((alookup k kvs).getD .void)) with ⟨v, v', hS, hS', hv⟩ | ⟨hS, hS'⟩ <;>
          simp only [hS, hS', Option.map_some, Option.map_none]
        rw [untag_objUpdate k (untagKvs kvs) hv]
        cases v'.isVoid <;> simp [untag, untagKvs_aerase, untagKvs_ainsert, untagKvs_idem]
      | _ => simp [untag, applyStrict]
    | idx i =>
      cases rest with
      | nil =>
        cases n with
        | arr t xs =>
          simp only [untag, applyStrict, untagList_eq_map, Option.map_map]
          have e := splice_map_untag xs i h
          cases hS : splice (xs.map untag) i (untagHunk h) <;> cases hS' : splice xs i h <;>
            simp [hS, hS'] at e ⊢
          simpa [untag, untagList_eq_map] using e
        | _ => simp [untag, applyStrict]
      | cons e' rest' =>
        cases n with
        | arr t xs =>
          simp only [untag, applyStrict, untagList_eq_map, List.getElem?_map]
          split
          · rfl
          · cases hx : xs[i.toNat]? with
            | none => simp
            | some x =>
              simp only [Option.map_some]
              rcases map_untag_eq (ih x) with ⟨v, v', hS, hS', hv⟩ | ⟨hS, hS'⟩
              · simp [hS, hS', untag, untagList_eq_map, List.map_set, hv, untag_comp_untag]
              · simp [hS, hS']
        | _ => simp [untag, applyStrict]
    | _ => intros; simp [applyStrict]

theorem applyStrict_untag (n : Json) (p : Path) (h : Hunk) :
    (applyStrict (untag n) p h).map untag = (applyStrict n p h).map untag := by
  have e := applyStrict_untag_both p h (untag n)
  rw [untag_idem] at e
  exact e.symm.trans (applyStrict_untag_both p h n)

/-- the reference interpreter does not look at the tags of the payload values -/
theorem Robust.applyStrict_untagHunk (p : Path) (h : Hunk) (n : Json) :
    (applyStrict n p (untagHunk h)).map untag = (applyStrict n p h).map untag := by
  have e := applyStrict_untag_both p (untagHunk h) n
  rw [untagHunk_idem] at e
  exact e.symm.trans (applyStrict_untag_both p h n)

theorem applyStrict_untag_congr {n n' : Json} (e : untag n = untag n') (p : Path) (h : Hunk) :
    (applyStrict n p h).map untag = (applyStrict n' p h).map untag := by
  rw [← applyStrict_untag n, ← applyStrict_untag n', e]

/-! ### 8. sequences of strict hunks -/

/-- the library run on `n` and the reference run on any document equal to `n` up to tags agree
    (after the first hunk the two sides continue from documents that agree only up to tags) -/
theorem patchAll_strict_agree (sw : Bool) (d : Diff) :
    ∀ (n n' : Json), untag n = untag n' → n.listDoc = true →
      d.all (fun h => !h.merge && strictPath h.path && hunkListDoc h) = true →
      StrictAgree (patchAll sw n d) (applyStrictAll n' d) := by
  induction d with
  | nil => intro n n' e hn _; exact .ok e hn
  | cons h d ih =>
    intro n n' e hn hd
    simp only [List.all_cons, Bool.and_eq_true, Bool.not_eq_true'] at hd
    obtain ⟨⟨⟨hm, hp⟩, hh⟩, hd⟩ := hd
    have h2 := applyStrict_untag_congr e h.path h
    simp only [patchAll, applyStrictAll, hm]
    rcases patchNode_strict_agree sw n h h.path hp hn hh with ⟨v, v', hP, hS, hu, hl⟩ | ⟨hP, hS⟩
    · rw [hS] at h2
      cases hS' : applyStrict n' h.path h with
      | none => simp [hS'] at h2
      | some m' =>
        simp only [hS', Option.map_some, Option.some.injEq] at h2
        simpa [hP] using ih v m' (hu.trans h2) hl hd
    · rw [hS] at h2
      cases hS' : applyStrict n' h.path h with
      | some m' => simp [hS'] at h2
      | none => rw [hP]; exact .err

/-- a sequence of strict key / index hunks with list-document payloads keeps list documents list
    documents -/
theorem patchAll_listDoc (sw : Bool) (d : Diff) :
    ∀ (n : Json), d.all (fun h => !h.merge && strictPath h.path && hunkListDoc h) = true →
      n.listDoc = true → ∀ r, patchAll sw n d = .ok r → r.listDoc = true :=
  fun n hd hn _ he => (patchAll_strict_agree sw d n n rfl hn hd).listDoc he

/-- C03, sequences: `patchAll` on strict key / index hunks is the reference interpreter up to tags -/
theorem patchAll_strict_eq_ref (sw : Bool) (n : Json) (d : Diff)
    (hd : d.all (fun h => !h.merge && strictPath h.path && hunkListDoc h) = true)
    (hn : n.listDoc = true) :
    Outcome.mapO untag (patchAll sw n d) = Outcome.mapO untag (optToOutcome (applyStrictAll n d)) :=
  (patchAll_strict_agree sw d n n rfl hn hd).mapO

/-! ### 9. the clauses of property C03 -/

/-- a strict hunk applies exactly when the reference interpreter accepts it (every expectation
    encoded in the hunk holds in the document), and the patch never panics -/
theorem strict_applies_iff (sw : Bool) (n : Json) (h : Hunk) (p : Path)
    (hp : strictPath p = true) (hn : n.listDoc = true) (hh : hunkListDoc h = true) :
    ((∃ r, patchNode sw false n p h.before h.remove h.add h.after = .ok r)
      ↔ (applyStrict n p h).isSome = true)
    ∧ patchNode sw false n p h.before h.remove h.add h.after ≠ .panic := by
  refine ⟨?_, patchNode_ne_panic _ _ _ _ _ _ _ _⟩
  rcases patchNode_strict_agree sw n h p hp hn hh with ⟨a, b, hP, hS, _⟩ | ⟨hP, hS⟩
  · simp [hP, hS]
  · simp [hP, hS]

/-- … and otherwise the outcome is an error (never a panic, never a document) -/
theorem strict_rejects_iff (sw : Bool) (n : Json) (h : Hunk) (p : Path)
    (hp : strictPath p = true) (hn : n.listDoc = true) (hh : hunkListDoc h = true) :
    patchNode sw false n p h.before h.remove h.add h.after = .err ↔ applyStrict n p h = none := by
  rcases patchNode_strict_agree sw n h p hp hn hh with ⟨a, b, hP, hS, _⟩ | ⟨hP, hS⟩
  · simp [hP, hS]
  · simp [hP, hS]

/-- when a strict hunk applies, the result is the reference result up to array tags, and it is
    again a list-mode document -/
theorem strict_result (sw : Bool) (n : Json) (h : Hunk) (p : Path)
    (hp : strictPath p = true) (hn : n.listDoc = true) (hh : hunkListDoc h = true) (r : Json)
    (he : patchNode sw false n p h.before h.remove h.add h.after = .ok r) :
    (∃ m, applyStrict n p h = some m ∧ untag r = untag m) ∧ r.listDoc = true := by
  refine ⟨?_, patchNode_strict_listDoc sw n h p hp hn hh r he⟩
  rcases patchNode_strict_agree sw n h p hp hn hh with ⟨a, b, hP, hS, hu, _⟩ | ⟨hP, hS⟩
  · rw [hP] at he; cases he; exact ⟨b, hS, hu⟩
  · rw [hP] at he; cases he

/-- the same three clauses for a sequence of strict hunks -/
theorem strictAll_applies_iff (sw : Bool) (n : Json) (d : Diff)
    (hd : d.all (fun h => !h.merge && strictPath h.path && hunkListDoc h) = true)
    (hn : n.listDoc = true) :
    (∃ r, patchAll sw n d = .ok r) ↔ (applyStrictAll n d).isSome = true := by
  rcases patchAll_strict_agree sw d n n rfl hn hd with ⟨a, b, hP, hS, _⟩ | ⟨hP, hS⟩
  · simp [hP, hS]
  · simp [hP, hS]

theorem strictAll_rejects_iff (sw : Bool) (n : Json) (d : Diff)
    (hd : d.all (fun h => !h.merge && strictPath h.path && hunkListDoc h) = true)
    (hn : n.listDoc = true) :
    patchAll sw n d = .err ↔ applyStrictAll n d = none := by
  rcases patchAll_strict_agree sw d n n rfl hn hd with ⟨a, b, hP, hS, _⟩ | ⟨hP, hS⟩
  · simp [hP, hS]
  · simp [hP, hS]

theorem strictAll_result (sw : Bool) (n : Json) (d : Diff)
    (hd : d.all (fun h => !h.merge && strictPath h.path && hunkListDoc h) = true)
    (hn : n.listDoc = true) (r : Json) (he : patchAll sw n d = .ok r) :
    ∃ m, applyStrictAll n d = some m ∧ untag r = untag m := by
  rcases patchAll_strict_agree sw d n n rfl hn hd with ⟨a, b, hP, hS, hu, _⟩ | ⟨hP, hS⟩
  · rw [hP] at he; cases he; exact ⟨b, hS, hu⟩
  · rw [hP] at he; cases he

/-- the library's behaviour (`sw = true`, the code as it is) on strict key / index hunks -/
theorem patchM_strict_eq_ref (n : Json) (d : Diff)
    (hd : d.all (fun h => !h.merge && strictPath h.path && hunkListDoc h) = true)
    (hn : n.listDoc = true) :
    Outcome.mapO untag (patchM n d) = Outcome.mapO untag (optToOutcome (applyStrictAll n d)) :=
  patchAll_strict_eq_ref true n d hd hn

/-! ### axioms -/

#print axioms patchListLeaf_eq_splice
#print axioms patchNode_strict_eq_ref
#print axioms patchNode_strict_listDoc
#print axioms applyStrict_untag
#print axioms patchAll_strict_eq_ref
#print axioms strict_applies_iff
#print axioms strict_rejects_iff
#print axioms strict_result
#print axioms strictAll_applies_iff
#print axioms strictAll_rejects_iff
#print axioms strictAll_result

end Jd
