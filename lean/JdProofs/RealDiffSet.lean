/-
  JdProofs.RealDiffSet — property C07 ("a diff reports only real differences: no no-op, no redundant
  hunk") in the SET and MULTISET readings of the v2 library: strict strategy, no SetKeys, no
  Precision; for every option list `o` with `DES.SetReading o`, `precOf o = 0`, `isMerge o = false`
  (in particular `[.set]` and `[.mset]`: `c07_setmodes`).  Namespace `Jd.RealS`.  (LIST reading:
  JdProofs.RealDiff; SetKeys: JdProofs.RealDiffKeys.)  All theorems are about the library functions of
  the model (`diffM` / `diffNode`, `patchAll`, `equals`, `identOf`, `hashCode`), at full depth.

  NAVIGATION.  `navS o a q` follows a path of object keys and `PathSetKeys` elements (`navPath q`):
  `.setKeys po`, on an array, enters the LAST member that has the identity of the object `po`, provided
  it is an object — the member `jsonSet.diff` matched (the Go map `map[[8]byte]JsonNode` built by
  ranging over the slice keeps the last bearer of a hash code).  On key paths it is `Real.getAt`.

  (1)+(2) `hunk_real` / `diffM_hunk_real`: every hunk is `HunkReal` (a value replaced at a location, or
      a `SetHunkReal` / `MsetHunkReal` of the two arrays held at a location).  Hypotheses `rawDoc`, `wf`
      only.  `diffM_set_hunk_members`, `diffM_mset_hunk_members`: the same read off the hunk's path.
      `SetHunkReal.apart`, `MsetHunkReal.apart`, `SetHunkReal.no_counterpart`, `MsetHunkReal.surplus`;
      `HunkReal.not_equals` (`FloatEq0`, `DocOk`); `HunkReal.nonempty` (`DPL.memOK`: no void object
      member; `Props.C07.empty_hunk_void_member_witness` is the model-only exception).
  (3) `equal_subdoc_not_mentioned`, `diffM_equal_subdoc_not_mentioned`, `equal_member_not_mentioned`:
      `DES.DiffFaithful o (subterms v) (subterms v')` on the two `Equals` values only.
  (4) `no_proper_sublist` (no sub-list of the diff other than the whole diff yields the target;
      `DiffFaithful` on the two documents, either behaviour `sw` of the keyed branch),
      `no_redundant_hunk` (one hunk left out), `no_redundant_hunk_hashFaithful` (`setDoc`,
      `HashFaithful`, `FloatEq0`).
      Proof (`noProper_node`): under `DiffFaithful` a set diff has no sub-diff (`subs_nil`), so two
      values that are not both objects have at most one hunk, and none when they are `Equals`
      (`leaf_hunk`); two objects by the object step `NR.NoProper.obj_diff` over JdProofs.NoSub (objects
      act key by key, and below a key their diff is the diff of the two members).

  WHICH HASH HYPOTHESES, AND WHY (`DES.DiffFaithful o SA SB`, decidable: `DES.diffFaithful_of_check`;
  for a node of `SA` and a node of `SB` with the same hash code: two arrays were hashed from the same
  member hash codes — no FNV collision —, and, SET reading only, two objects are `Equals` — no
  collision and no alias between object members of sets):
    * (1), (2): none.  With an alias between two OBJECT members (`{"a":""}` / `{"a":[]}`) the set diff
      descends into the matched pair and reports a hunk below a `PathSetKeys` element; that hunk is
      real as well (`Example`, the keyed example).
    * (3) is FALSE without it — `Witness.equal_member_mentioned_alias` (KF-C04-alias class, the Go
      code behaves the same).  (A genuine FNV collision gives the same:
      `DES.Witness.fnv_collision_breaks_converse`, both readings.)
    * (4) is FALSE without it — `Witness.redundant_hunk_alias` (KF-C04-alias class) and
      `Witness.redundant_hunk_fnv_collision` (no alias: the genuine FNV-1a 64 collision
      `["aedb68afb","b7cdeb749"]` / `["a568b3ad2","b76a57d20"]`, SET and MULTISET).  Both are
      consequences of the known findings (`Equals` compares hash codes of arrays), not new defects.
      All three witnesses were replayed on the Go library (v2, `ReadJsonString` / `Diff` / `Patch` /
      `Equals` with `jd.SET`, `jd.MULTISET`): `Equals` = true, one hunk, and the leave-one-out result
      `Equals` the target.
  OTHER HYPOTHESES
    * `a.rawDoc`, `b.rawDoc`: documents as read from text (a typed `jsonSet` / `jsonList` node on
      either side is replaced wholesale or makes `Equals` and the diff disagree:
      `DES.Witness.typed_set_left_is_excluded`).
    * `a.wf`, `b.wf`: strictly increasing keys, the model's invariant standing for Go maps.
    * `FloatEq0` (`|x - y| ≤ +0` only for `x = y`), `DocOk` (`docOk_of_setDoc`: plain arrays, sorted
      keys, finite numbers, no `-0`): only for the `Equals` forms of (2).
  NON-VACUITY: `Example` (a pair with four hunks in each reading; every main theorem is instantiated,
  and the `#eval`s show that leave-one-out sub-diffs do apply).
-/
import JdProofs.RealDiff
import JdProofs.SetDiffPatch
import JdProofs.DiffEmptySet

namespace Jd.RealS
open Jd Jd.Spec Jd.SetDP

/-- the path elements through which the diff descends in the set readings: object keys and, inside
    an array read as a set, the object member designated by a `PathSetKeys` element -/
def navPath : Path → Bool
  | [] => true
  | .key _ :: r => navPath r
  | .setKeys _ :: r => navPath r
  | _ => false

/-- navigation by object keys and keyed set members: `.setKeys po` designates the LAST member of the
    array that has the identity of the object `po` (the map `map[[8]byte]JsonNode` built by ranging
    over the slice), and that member has to be an object -/
def navS (o : Opts) : Json → Path → Option Json
  | n, [] => some n
  | .obj kvs, .key k :: r => (alookup k kvs).bind (fun v => navS o v r)
  | .arr _ xs, .setKeys po :: r =>
    match identLookup o (identOf o (.obj po)) xs with
    | some (.obj kvs) => navS o (.obj kvs) r
    | _ => none
  | _, _ => none

theorem navS_nil (o : Opts) (n : Json) : navS o n [] = some n := by
  cases n <;> rfl

theorem navS_key (o : Opts) (kvs : List (String × Json)) (k : String) (r : Path) :
    navS o (.obj kvs) (.key k :: r) = (alookup k kvs).bind (fun v => navS o v r) := rfl

theorem navS_setKeys (o : Opts) (t : Tag) (xs : List Json) (po : List (String × Json)) (r : Path) :
    navS o (.arr t xs) (.setKeys po :: r) =
      match identLookup o (identOf o (.obj po)) xs with
      | some (.obj kvs) => navS o (.obj kvs) r
      | _ => none := rfl

theorem keysOnly_induct {P : ∀ q : Path, Real.keysOnly q = true → Prop} (nil : P [] rfl)
    (cons : ∀ k r (h : Real.keysOnly r = true), P r h → P (.key k :: r) h) :
    ∀ q h, P q h
  | [], _ => nil
  | .key k :: r, h => cons k r h (keysOnly_induct nil cons r h)
  | .idx _ :: _, h => by simp [Real.keysOnly] at h
  | .set :: _, h => by simp [Real.keysOnly] at h
  | .mset :: _, h => by simp [Real.keysOnly] at h
  | .setKeys _ :: _, h => by simp [Real.keysOnly] at h
  | .msetKeys _ :: _, h => by simp [Real.keysOnly] at h

/-- on key paths `navS` is the navigation of JdProofs.RealDiff -/
theorem navS_keys (o : Opts) (q : Path) (hq : Real.keysOnly q = true) :
    ∀ n : Json, navS o n q = Real.getAt n q := by
  induction q, hq using keysOnly_induct with
  | nil => intro n; rw [navS_nil]; cases n <;> rfl
  | cons k r _ ih =>
    intro n
    cases n with
    | obj kvs =>
      rw [navS_key]
      simp only [Real.getAt]
      cases alookup k kvs with
      | none => rfl
      | some v => exact ih v
    | _ => rfl

/-- a set hunk describes a real difference between the arrays `xs` and `ys` -/
structure SetHunkReal (o : Opts) (xs ys : List Json) (h : Hunk) : Prop where
  merge : h.merge = false
  before : h.before = []
  after : h.after = []
  rem_mem : ∀ z ∈ h.remove, z ∈ xs
  add_mem : ∀ z ∈ h.add, z ∈ ys
  rem_ids : ∀ c, c ∈ h.remove.map (identOf o) ↔ c ∈ xs.map (identOf o) ∧ c ∉ ys.map (identOf o)
  add_ids : ∀ c, c ∈ h.add.map (identOf o) ↔ c ∈ ys.map (identOf o) ∧ c ∉ xs.map (identOf o)
  rem_nodup : (h.remove.map (identOf o)).Nodup
  add_nodup : (h.add.map (identOf o)).Nodup
  nonempty : h.remove ≠ [] ∨ h.add ≠ []

/-- a multiset hunk describes a real difference between the arrays `xs` and `ys` -/
structure MsetHunkReal (o : Opts) (xs ys : List Json) (h : Hunk) : Prop where
  merge : h.merge = false
  before : h.before = []
  after : h.after = []
  rem_mem : ∀ z ∈ h.remove, z ∈ xs
  add_mem : ∀ z ∈ h.add, z ∈ ys
  rem_count : ∀ c, (h.remove.map (hashCode o)).count c =
    (xs.map (hashCode o)).count c - (ys.map (hashCode o)).count c
  add_count : ∀ c, (h.add.map (hashCode o)).count c =
    (ys.map (hashCode o)).count c - (xs.map (hashCode o)).count c
  nonempty : h.remove ≠ [] ∨ h.add ≠ []

/-- the one hunk `h0` written unless nothing is removed and nothing added -/
theorem mem_hunk_unless_empty {rm ad : List Json} {h0 h : Hunk}
    (hm : h ∈ (if rm.isEmpty && ad.isEmpty then [] else [h0])) : h = h0 ∧ (rm ≠ [] ∨ ad ≠ []) := by
  split at hm
  · cases hm
  · next hne =>
    simp only [Bool.and_eq_true, List.isEmpty_iff, not_and] at hne
    refine ⟨List.mem_singleton.1 hm, ?_⟩
    by_cases h1 : rm = []
    · exact .inr (hne h1)
    · exact .inl h1

/-- **one array, SET reading**: the hunk addressed to the array itself is real -/
theorem set_hunk_real (o : Opts) (p : Path) (xs ys : List Json) {h : Hunk}
    (hm : h ∈ (if ((ksort (diffSetElems o false p ys xs)).filterMap remOf).isEmpty &&
            (setAdd o xs ys).isEmpty then []
         else [{ path := p ++ [.set],
                 remove := (ksort (diffSetElems o false p ys xs)).filterMap remOf,
                 add := setAdd o xs ys : Hunk }])) :
    h.path = p ++ [.set] ∧ SetHunkReal o xs ys h := by
  obtain ⟨rfl, hne⟩ := mem_hunk_unless_empty hm
  have D := setDelta o false p xs ys
  exact ⟨rfl, ⟨rfl, rfl, rfl, D.rem_sub, D.add_sub, D.rem_keys, D.add_keys, D.rem_nodup,
    D.add_nodup, hne⟩⟩

/-- **one array, MULTISET reading**: the hunk is real -/
theorem mset_hunk_real {o : Opts} (hd : dispatchTag o = .mset) (p : Path) (xs ys : List Json)
    {h : Hunk} (hm : h ∈ diffNode o false (.arr .raw xs) (.arr .raw ys) p) :
    h.path = p ++ [.mset] ∧ MsetHunkReal o xs ys h := by
  rw [diffNode_mset_mset hd, bagSurplus_eq, bagSurplus_eq] at hm
  obtain ⟨rfl, hne⟩ := mem_hunk_unless_empty hm
  obtain ⟨r1, r2⟩ := surplusBy_spec (hashCode o) xs ys
  obtain ⟨a1, a2⟩ := surplusBy_spec (hashCode o) ys xs
  exact ⟨rfl, ⟨rfl, rfl, rfl, r1, a1, r2, a2, hne⟩⟩

theorem SetHunkReal.apart {o : Opts} {xs ys : List Json} {h : Hunk} (H : SetHunkReal o xs ys h) :
    ∀ r ∈ h.remove, ∀ w ∈ h.add, identOf o r ≠ identOf o w := by
  intro r hr w hw e
  have h1 := ((H.rem_ids _).1 (List.mem_map_of_mem (f := identOf o) hr)).2
  have h2 := ((H.add_ids _).1 (List.mem_map_of_mem (f := identOf o) hw)).1
  exact h1 (e ▸ h2)

/-- a removed member of a multiset hunk is in surplus in the first array, an added member in the
    second (occurrences counted by hash code, as the code does) -/
theorem MsetHunkReal.surplus {o : Opts} {xs ys : List Json} {h : Hunk} (H : MsetHunkReal o xs ys h) :
    (∀ z ∈ h.remove, (ys.map (hashCode o)).count (hashCode o z) <
      (xs.map (hashCode o)).count (hashCode o z)) ∧
    (∀ z ∈ h.add, (xs.map (hashCode o)).count (hashCode o z) <
      (ys.map (hashCode o)).count (hashCode o z)) := by
  constructor
  · intro z hz
    have h1 : 0 < (h.remove.map (hashCode o)).count (hashCode o z) :=
      List.count_pos_iff.2 (List.mem_map_of_mem hz)
    rw [H.rem_count] at h1
    omega
  · intro z hz
    have h1 : 0 < (h.add.map (hashCode o)).count (hashCode o z) :=
      List.count_pos_iff.2 (List.mem_map_of_mem hz)
    rw [H.add_count] at h1
    omega

theorem MsetHunkReal.apart {o : Opts} {xs ys : List Json} {h : Hunk} (H : MsetHunkReal o xs ys h) :
    ∀ r ∈ h.remove, ∀ w ∈ h.add, hashCode o r ≠ hashCode o w := by
  intro r hr w hw e
  have h1 := H.surplus.1 r hr
  have h2 := H.surplus.2 w hw
  rw [e] at h1
  omega

/-- the hunk `h` of `diffNode o false a b p` describes a real difference between `a` and `b`:
    * `value`: it is addressed to the location `q` (keys and keyed set members below `p`) and replaces
      what `a` holds there by what `b` holds there (`Real.RealOpt`: at most one value each way, the
      removed value is what `a` holds — an array is reported plain —, the added value is what `b`
      holds, nothing is removed / added only if nothing (or void) is held, and the two are not
      `Equals`); at least one of the two documents holds something there, and they do not both hold
      void; `lit`: in these readings the removed value is LITERALLY what `a` holds (a plain array
      is reported as a plain array);
    * `set` / `mset`: it is addressed to the array both documents hold at `q`, read as a set / multiset,
      and is a real set / multiset hunk of these two arrays. -/
inductive HunkReal (o : Opts) (a b : Json) (p : Path) (h : Hunk) : Prop
  | value (q : Path) (hq : navPath q = true) (hpath : h.path = p ++ q) (hm : h.merge = false)
      (hb : h.before = []) (ha : h.after = [])
      (loc : (navS o a q).isSome = true ∨ (navS o b q).isSome = true)
      (ne : ¬ (navS o a q = some .void ∧ navS o b q = some .void))
      (lit : ∀ v, h.remove = [v] → navS o a q = some v)
      (real : Real.RealOpt o (navS o a q) (navS o b q) h)
  | set (q : Path) (xs ys : List Json) (hq : navPath q = true) (hpath : h.path = p ++ q ++ [.set])
      (na : navS o a q = some (.arr .raw xs)) (nb : navS o b q = some (.arr .raw ys))
      (real : SetHunkReal o xs ys h)
  | mset (q : Path) (xs ys : List Json) (hq : navPath q = true) (hpath : h.path = p ++ q ++ [.mset])
      (na : navS o a q = some (.arr .raw xs)) (nb : navS o b q = some (.arr .raw ys))
      (real : MsetHunkReal o xs ys h)

/-- the hunk `h` at `p` replaces the value `a` by `b` as a whole (the hunk of two values the diff
    does not descend into); the clauses are those of `HunkReal.value` at the empty location -/
structure RootReal (o : Opts) (a b : Json) (p : Path) (h : Hunk) : Prop where
  hpath : h.path = p
  hm : h.merge = false
  hb : h.before = []
  ha : h.after = []
  ne : ¬ (a = .void ∧ b = .void)
  lit : ∀ v, h.remove = [v] → a = v
  real : Real.RealOpt o (some a) (some b) h

theorem HunkReal.root {o : Opts} {a b : Json} {p : Path} {h : Hunk} (R : RootReal o a b p h) :
    HunkReal o a b p h :=
  .value [] rfl (by simp [R.hpath]) R.hm R.hb R.ha (.inl (by simp [navS_nil]))
    (by simpa [navS_nil] using R.ne) (by simpa [navS_nil] using R.lit)
    (by simpa [navS_nil] using R.real)

/-- a hunk that is real below the path element `e`, through which navigation in `a`, `b` continues
    in `a'`, `b'`, is real for `a`, `b` -/
theorem HunkReal.lift {o : Opts} {a b a' b' : Json} {e : PathElem} {p : Path} {h : Hunk}
    (he : ∀ q, navPath (e :: q) = navPath q) (e1 : ∀ q, navS o a (e :: q) = navS o a' q)
    (e2 : ∀ q, navS o b (e :: q) = navS o b' q) (H : HunkReal o a' b' (p ++ [e]) h) :
    HunkReal o a b p h := by
  cases H with
  | value q hq hpath hm hb ha loc ne lit real =>
    exact .value (e :: q) (by rw [he]; exact hq) (by simpa using hpath) hm hb ha
      (by rw [e1, e2]; exact loc) (by rw [e1, e2]; exact ne) (by rw [e1]; exact lit)
      (by rw [e1, e2]; exact real)
  | set q xs ys hq hpath na nb real =>
    exact .set (e :: q) xs ys (by rw [he]; exact hq) (by simpa using hpath)
      (by rw [e1]; exact na) (by rw [e2]; exact nb) real
  | mset q xs ys hq hpath na nb real =>
    exact .mset (e :: q) xs ys (by rw [he]; exact hq) (by simpa using hpath)
      (by rw [e1]; exact na) (by rw [e2]; exact nb) real

theorem HunkReal.lift_key {o : Opts} {kvs kvs' : List (String × Json)} {k : String} {v v' : Json}
    {p : Path} {h : Hunk} (hl : alookup k kvs = some v) (hl' : alookup k kvs' = some v')
    (H : HunkReal o v v' (p ++ [.key k]) h) : HunkReal o (.obj kvs) (.obj kvs') p h :=
  H.lift (fun _ => rfl) (fun q => by rw [navS_key, hl]; rfl) (fun q => by rw [navS_key, hl']; rfl)

theorem HunkReal.lift_member {o : Opts} {t t' : Tag} {xs ys : List Json}
    {kvs kvs' : List (String × Json)} {p : Path} {h : Hunk}
    (hx : identLookup o (identOf o (.obj kvs)) xs = some (.obj kvs))
    (hy : identLookup o (identOf o (.obj kvs)) ys = some (.obj kvs'))
    (H : HunkReal o (.obj kvs) (.obj kvs') (p ++ [.setKeys kvs]) h) :
    HunkReal o (.arr t xs) (.arr t' ys) p h :=
  H.lift (fun _ => rfl) (fun q => by rw [navS_setKeys, hx]) (fun q => by rw [navS_setKeys, hy])

theorem nodeList_single {a v : Json} (h : a.nodeList = [v]) : a = v := by
  rcases Real.nodeList_cases a with ⟨_, e⟩ | ⟨_, e⟩ <;> rw [e] at h
  · cases h
  · cases h; rfl

theorem diffCommon_fields {a b : Json} {p : Path} {h : Hunk} (hm : h ∈ diffCommon false a b p) :
    h.path = p ∧ h.merge = false ∧ h.before = [] ∧ h.after = [] := by
  unfold diffCommon at hm
  split at hm
  · cases hm
  · simp only [Bool.false_eq_true, if_false, List.mem_singleton] at hm
    subst hm
    exact ⟨rfl, rfl, rfl, rfl⟩

theorem scalar_root_real {o : Opts} (hp : precOf o = 0) {a b : Json} {p : Path} {h : Hunk}
    (h1 : ∀ t xs, a ≠ .arr t xs) (h2 : ∀ kvs, a ≠ .obj kvs)
    (hm : h ∈ diffNode o false a b p) : RootReal o a b p h := by
  have real := Real.root_scalar_real hp h1 h2 hm
  rw [DPL.diffNode_scalar o a b h1 h2] at hm
  obtain ⟨e1, e2, e3, e4⟩ := diffCommon_fields hm
  refine ⟨e1, e2, e3, e4, ?_, ?_, real⟩
  · rintro ⟨rfl, rfl⟩
    simp [diffCommon, equals, Json.isVoid] at hm
  · intro v hv
    unfold diffCommon at hm
    split at hm
    · cases hm
    · simp only [Bool.false_eq_true, if_false, List.mem_singleton] at hm
      subst hm
      exact nodeList_single hv

theorem kind_ne_arr {b : Json} (hb : ∀ t ys, b ≠ .arr t ys) : Kind.arr ≠ b.kind := by
  cases b <;> first | exact absurd rfl (hb _ _) | nofun

theorem kind_ne_obj {b : Json} (hb : ∀ kvs, b ≠ .obj kvs) : Kind.obj ≠ b.kind := by
  cases b <;> first | exact absurd rfl (hb _) | nofun

/-- an array against a value that is not an array: one hunk replacing the value -/
theorem arr_other_root_real {o : Opts} (hd : dispatchTag o = .set ∨ dispatchTag o = .mset)
    (xs : List Json) (b : Json) (hb : ∀ t ys, b ≠ .arr t ys) {p : Path} {h : Hunk}
    (hm : h ∈ diffNode o false (.arr .raw xs) b p) : RootReal o (.arr .raw xs) b p h := by
  rw [diffNode_arr_other hd xs b hb] at hm
  simp only [List.mem_singleton] at hm
  subst hm
  have hk := kind_ne_arr hb
  exact ⟨rfl, rfl, rfl, rfl, (fun e => by cases e.1), (fun v hv => by cases hv; rfl),
    Real.realOpt_both (.inl rfl) (.inl rfl) (equals_kind_ne o _ _ hk) (equals_kind_ne o _ _ hk)⟩

/-- an object against a value that is not an object: one hunk replacing the value -/
theorem obj_other_root_real {o : Opts} (kvs : List (String × Json)) (b : Json)
    (hb : ∀ kvs', b ≠ .obj kvs') {p : Path} {h : Hunk}
    (hm : h ∈ diffNode o false (.obj kvs) b p) : RootReal o (.obj kvs) b p h := by
  rw [DPL.diffNode_obj_other o kvs b hb] at hm
  simp only [List.mem_singleton] at hm
  subst hm
  have hk := kind_ne_obj hb
  exact ⟨rfl, rfl, rfl, rfl, (fun e => by cases e.1), (fun v hv => by cases hv; rfl),
    Real.realOpt_both (.inl rfl) (.inr rfl) (equals_kind_ne o _ _ hk) (equals_kind_ne o _ _ hk)⟩

/-- **how the hunks of a diff arise** in the set readings (documents as read from text, any
    SetKeys): a property that holds of the hunk of a pair the diff does not descend into (`root`), of
    the hunk for a removed and for an added member, of the set / multiset hunk of two arrays, and
    that the hunks of two objects inherit from the diff of two members (`key`) and those of two arrays
    read as sets from the diff of two matched object members (`member`), holds of every hunk -/
theorem hunk_cases {o : Opts} (hm : dispatchTag o = .set ∨ dispatchTag o = .mset) (hp : precOf o = 0)
    {P : Json → Json → Path → Hunk → Prop}
    (root : ∀ {a b p h}, RootReal o a b p h → P a b p h)
    (key : ∀ {kvs kvs' k v v' p h}, alookup k kvs = some v → alookup k kvs' = some v' →
      P v v' (p ++ [.key k]) h → P (.obj kvs) (.obj kvs') p h)
    (removed : ∀ {kvs kvs' k v} (p : Path), alookup k kvs = some v → alookup k kvs' = none →
      P (.obj kvs) (.obj kvs') p { path := p ++ [.key k], remove := v.nodeList })
    (added : ∀ {kvs kvs' k v'} (p : Path), alookup k kvs = none → alookup k kvs' = some v' →
      P (.obj kvs) (.obj kvs') p { path := p ++ [.key k], add := v'.nodeList })
    (member : ∀ {xs ys kvs kvs' p h}, dispatchTag o = .set →
      identLookup o (identOf o (.obj kvs)) xs = some (.obj kvs) →
      identLookup o (identOf o (.obj kvs)) ys = some (.obj kvs') →
      P (.obj kvs) (.obj kvs') (p ++ [newPathSetKeys o kvs]) h → P (.arr .raw xs) (.arr .raw ys) p h)
    (set : ∀ {xs ys p h}, h.path = p ++ [.set] → SetHunkReal o xs ys h →
      P (.arr .raw xs) (.arr .raw ys) p h)
    (mset : ∀ {xs ys p h}, dispatchTag o = .mset → h.path = p ++ [.mset] → MsetHunkReal o xs ys h →
      P (.arr .raw xs) (.arr .raw ys) p h) :
    ∀ a : Json, a.rawDoc = true → a.wf = true → ∀ b : Json, b.rawDoc = true → b.wf = true →
      ∀ p, ∀ h ∈ diffNode o false a b p, P a b p h := by
  intro a
  induction a using jsonInd with
  | arr t xs ih =>
    intro hr hw b hrb hwb p h hh
    simp only [Json.rawDoc, Bool.and_eq_true, beq_iff_eq] at hr
    obtain ⟨rfl, hrx⟩ := hr
    simp only [Json.wf] at hw
    by_cases hb : ∃ t' ys, b = .arr t' ys
    · obtain ⟨t', ys, rfl⟩ := hb
      simp only [Json.rawDoc, Bool.and_eq_true, beq_iff_eq] at hrb
      obtain ⟨rfl, hry⟩ := hrb
      simp only [Json.wf] at hwb
      rcases hm with hd | hd
      · rw [diffNode_set_set hd] at hh
        rcases List.mem_append.1 hh with hh | hh
        · obtain ⟨⟨c, part⟩, hkp, hin⟩ := List.mem_flatMap.1 hh
          cases part with
          | removed z => simp [subOf] at hin
          | sub d =>
            simp only [subOf] at hin
            obtain ⟨kvs, kvs', rfl, _, hx, hy, hxm, hym, rfl⟩ :=
              sub_origin ((ksort_perm _).mem_iff.1 hkp)
            exact member hd hx hy (ih _ hxm (DES.rawDocList_mem hrx hxm) (DES.wfList_mem hw hxm) _
              (DES.rawDocList_mem hry hym) (DES.wfList_mem hwb hym) _ h hin)
        · obtain ⟨e, real⟩ := set_hunk_real o p xs ys hh
          exact set e real
      · obtain ⟨e, real⟩ := mset_hunk_real hd p xs ys hh
        exact mset hd e real
    · exact root (arr_other_root_real hm xs b (fun t' ys e => hb ⟨t', ys, e⟩) hh)
  | obj kvs ih =>
    intro hr hw b hrb hwb p h hh
    by_cases hb : ∃ kvs', b = .obj kvs'
    · obtain ⟨kvs', rfl⟩ := hb
      simp only [Json.rawDoc] at hr hrb
      simp only [Json.wf, Bool.and_eq_true] at hw hwb
      obtain ⟨k, _, ⟨v, v', hmem, hl', hin⟩ | ⟨v, hmem, hn, rfl⟩ | ⟨v', hmem', hn, rfl⟩⟩ :=
        DE.mem_diffNode_obj hh
      · have hmem' := mem_of_alookup hl'
        exact key (alookup_of_mem hw.1 hmem) hl' (ih k v hmem (DES.rawDocKvs_mem hr hmem)
          (DES.wfKvs_mem hw.2 hmem) v' (DES.rawDocKvs_mem hrb hmem') (DES.wfKvs_mem hwb.2 hmem') _ h hin)
      · exact removed p (alookup_of_mem hw.1 hmem) hn
      · exact added p hn (alookup_of_mem hwb.1 hmem')
    · exact root (obj_other_root_real kvs b (fun kvs' e => hb ⟨kvs', e⟩) hh)
  | _ =>
    intro _ _ b _ _ p h hh
    exact root (scalar_root_real hp nofun nofun hh)

/-- **C07 (1)+(2), SET and MULTISET readings, any depth**: every hunk of `diffNode o false a b p`
    describes a real difference (`HunkReal`) -/
theorem hunk_real {o : Opts} (hm : DES.SetReading o) (hp : precOf o = 0) :
    ∀ a : Json, a.rawDoc = true → a.wf = true → ∀ b : Json, b.rawDoc = true → b.wf = true →
      ∀ p, ∀ h ∈ diffNode o false a b p, HunkReal o a b p h := by
  refine hunk_cases (DES.SetReading.tag hm) hp .root .lift_key ?_ ?_ ?_ ?_ ?_
  · intro kvs kvs' k v p hl hn
    have e1 : navS o (.obj kvs) [.key k] = some v := by rw [navS_key, hl]; rfl
    have e2 : navS o (.obj kvs') [.key k] = none := by rw [navS_key, hn]; rfl
    refine .value [.key k] rfl rfl rfl rfl rfl (.inl (by rw [e1]; rfl))
      (by rw [e2]; rintro ⟨_, e⟩; cases e) (fun v0 hv0 => by rw [e1, nodeList_single hv0]) ?_
    rw [e1, e2]
    exact Real.realOpt_removeOnly rfl rfl
  · intro kvs kvs' k v' p hn hl'
    have e1 : navS o (.obj kvs) [.key k] = none := by rw [navS_key, hn]; rfl
    have e2 : navS o (.obj kvs') [.key k] = some v' := by rw [navS_key, hl']; rfl
    refine .value [.key k] rfl rfl rfl rfl rfl (.inr (by rw [e2]; rfl))
      (by rw [e1]; rintro ⟨e, _⟩; cases e) (fun v hv => by cases hv) ?_
    rw [e1, e2]
    exact Real.realOpt_addOnly rfl rfl
  · intro xs ys kvs kvs' p h hd hx hy H
    rcases hm with ⟨_, hk⟩ | hd'
    · have hnp : newPathSetKeys o kvs = .setKeys kvs := by simp [newPathSetKeys, hk]
      rw [hnp] at H
      exact .lift_member hx hy H
    · rw [hd] at hd'; cases hd'
  · intro xs ys p h e real
    exact .set [] xs ys rfl (by simpa using e) (navS_nil _ _) (navS_nil _ _) real
  · intro xs ys p h _ e real
    exact .mset [] xs ys rfl (by simpa using e) (navS_nil _ _) (navS_nil _ _) real

/-- **C07 (1)+(2) for `a.Diff(b)`** in the SET / MULTISET readings (strict strategy) -/
theorem diffM_hunk_real {o : Opts} (hm : DES.SetReading o) (hp : precOf o = 0)
    (hmg : isMerge o = false) {a b : Json} (hr : a.rawDoc = true) (hw : a.wf = true)
    (hrb : b.rawDoc = true) (hwb : b.wf = true) : ∀ h ∈ diffM o a b, HunkReal o a b [] h := by
  rw [diffM, hmg]
  exact hunk_real hm hp a hr hw b hrb hwb []

theorem navS_induct {o : Opts} {P : Json → Path → Json → Prop} (nil : ∀ n, P n [] n)
    (key : ∀ {kvs k r u v}, alookup k kvs = some u → navS o u r = some v → P u r v →
      P (.obj kvs) (.key k :: r) v)
    (member : ∀ {t xs po r kvs v}, identLookup o (identOf o (.obj po)) xs = some (.obj kvs) →
      navS o (.obj kvs) r = some v → P (.obj kvs) r v → P (.arr t xs) (.setKeys po :: r) v) :
    ∀ (q : Path) (a v : Json), navS o a q = some v → P a q v
  | [], a, v, h => by
    rw [navS_nil] at h
    cases h
    exact nil a
  | .key k :: r, a, v, h => by
    cases a with
    | obj kvs =>
      rw [navS_key] at h
      cases hl : alookup k kvs with
      | none => rw [hl] at h; cases h
      | some u =>
        rw [hl] at h
        exact key hl h (navS_induct nil key member r u v h)
    | _ => cases h
  | .setKeys po :: r, a, v, h => by
    cases a with
    | arr t xs =>
      rw [navS_setKeys] at h
      split at h
      · next kvs e => exact member e h (navS_induct nil key member r _ v h)
      · cases h
    | _ => cases h
  | .idx _ :: _, a, _, h => by cases a <;> cases h
  | .set :: _, a, _, h => by cases a <;> cases h
  | .mset :: _, a, _, h => by cases a <;> cases h
  | .msetKeys _ :: _, a, _, h => by cases a <;> cases h

theorem navS_subterm (o : Opts) : ∀ (q : Path) (a v : Json), navS o a q = some v → v ∈ subterms a :=
  navS_induct (fun _ => mem_subterms_self _)
    (fun hl _ ih => subterms_val_sub (mem_of_alookup hl) ih)
    (fun e _ ih => subterms_elem_sub (identLookup_some e).1 ih)

theorem memOK_alookup {kvs : List (String × Json)} {k : String} {x : Json}
    (hm : DPL.memOK (.obj kvs) = true) (hx : alookup k kvs = some x) :
    x ≠ .void ∧ DPL.memOK x = true := by
  obtain ⟨h1, h2⟩ := memOKKvs_mem (by simpa [DPL.memOK] using hm) (mem_of_alookup hx)
  exact ⟨fun e => by simp [e, Json.isVoid] at h1, h2⟩

theorem memOK_elem {t : Tag} {xs : List Json} {x : Json} (hm : DPL.memOK (.arr t xs) = true)
    (hx : x ∈ xs) : DPL.memOK x = true :=
  memOKList_mem (by simpa [DPL.memOK] using hm) hx

/-- without void object members, navigation reaches void only at a void root -/
theorem navS_void (o : Opts) (q : Path) (a : Json) (hm : DPL.memOK a = true)
    (h : navS o a q = some .void) : q = [] ∧ a = .void := by
  refine navS_induct (P := fun a q v => DPL.memOK a = true → v = .void → q = [] ∧ a = .void)
    (fun _ _ e => ⟨rfl, e⟩) ?_ ?_ q a _ h hm rfl
  · intro kvs k r u v hl _ ih hm e
    exact absurd (ih (memOK_alookup hm hl).2 e).2 (memOK_alookup hm hl).1
  · intro t xs po r kvs v e _ ih hm e'
    cases (ih (memOK_elem hm (identLookup_some e).1) e').2

/-- **C07 (2), no hunk is empty**: documents without void object members (void stands for "absent";
    the readers never produce it) -/
theorem HunkReal.nonempty {o : Opts} {a b : Json} {p : Path} {h : Hunk}
    (ha : DPL.memOK a = true) (hb : DPL.memOK b = true) (H : HunkReal o a b p h) :
    h.remove ≠ [] ∨ h.add ≠ [] := by
  cases H with
  | set q xs ys hq hpath na nb real => exact real.nonempty
  | mset q xs ys hq hpath na nb real => exact real.nonempty
  | value q hq hpath hm hbf haf loc ne lit real =>
    obtain ⟨_, _, _, _, r5, r6, _⟩ := real
    apply Classical.byContradiction
    intro hcon
    have h1 : h.remove = [] := Classical.byContradiction fun e => hcon (.inl e)
    have h2 : h.add = [] := Classical.byContradiction fun e => hcon (.inr e)
    have key : ∀ {x y : Json}, DPL.memOK x = true → (∀ u, navS o x q = some u → u = .void) →
        (∀ u, navS o y q = some u → u = .void) → (navS o x q).isSome = true →
        navS o x q = some .void ∧ navS o y q = some .void := by
      intro x y hx hxv hyv hs
      obtain ⟨u, hu⟩ := Option.isSome_iff_exists.1 hs
      have := hxv u hu
      subst this
      obtain ⟨rfl, rfl⟩ := navS_void o q x hx hu
      refine ⟨hu, ?_⟩
      rw [navS_nil]
      rw [hyv y (navS_nil o y)]
    rcases loc with hs | hs
    · exact ne (key ha (r5 h1) (r6 h2) hs)
    · exact ne (key hb (r6 h2) (r5 h1) hs).symm

theorem docOk_subterm {a v : Json} (h : DocOk a) (hv : v ∈ subterms a) : DocOk v :=
  fun z hz => h z (DES.subterms_trans hz a hv)

/-- `Equals` values as read from text have the same identity, with or without SetKeys -/
theorem ident_eq_of_equals (F : FloatEq0) {o : Opts}
    (hd : dispatchTag o = .set ∨ dispatchTag o = .mset) (hp : precOf o = 0) {r w : Json}
    (dr : DocOk r) (dw : DocOk w) (he : equals o r w = true) : identOf o r = identOf o w := by
  have hkind := equals_kind o r w he
  cases r with
  | obj kr =>
    cases w with
    | obj kw => exact DES.ident_eq_of_equals F hd hp dr dw he
    | _ => cases hkind
  | _ =>
    have hw' : w.isObj = false := by cases w <;> first | rfl | cases hkind
    rw [DES.identOf_nonobj o rfl, DES.identOf_nonobj o hw']
    exact DES.hash_eq_of_equals F hd hp _ _ dr dw he

/-- a hunk replacing at most one value by at most one: the removed value is not `Equals` to the
    added one -/
theorem realOpt_not_equals {o : Opts} {ua ub : Option Json} {h : Hunk} (R : Real.RealOpt o ua ub h) :
    ∀ r ∈ h.remove, ∀ w ∈ h.add, equals o r w = false := by
  intro r hr w hw
  obtain ⟨l1, l2, _, _, _, _, r7⟩ := R
  have e1 : h.remove = [r] := by
    match hrm : h.remove, l1, hr with
    | [x], _, hr => simp only [List.mem_singleton] at hr; rw [hr]
  have e2 : h.add = [w] := by
    match hrm : h.add, l2, hw with
    | [x], _, hw => simp only [List.mem_singleton] at hw; rw [hw]
  exact r7 r w e1 e2

/-- a value whose identity no member of `ys` has is `Equals` to no member of `ys`, either way round
    (`Equals` values as read from text have the same identity) -/
theorem not_equals_of_ident_absent (F : FloatEq0) {o : Opts}
    (hd : dispatchTag o = .set ∨ dispatchTag o = .mset) (hp : precOf o = 0) {z : Json}
    {ys : List Json} (dz : DocOk z) (dy : ∀ y ∈ ys, DocOk y)
    (hz : identOf o z ∉ ys.map (identOf o)) :
    ∀ y ∈ ys, equals o z y = false ∧ equals o y z = false := fun y hy =>
  ⟨Bool.eq_false_iff.2 fun he =>
      hz (ident_eq_of_equals F hd hp dz (dy y hy) he ▸ List.mem_map_of_mem hy),
    Bool.eq_false_iff.2 fun he =>
      hz (ident_eq_of_equals F hd hp (dy y hy) dz he ▸ List.mem_map_of_mem hy)⟩

/-- a removed member of a set hunk has no counterpart in the second array, an added member none in
    the first: no member there is `Equals` to it (`FloatEq0`: `Equals` numbers hash alike); with or
    without SetKeys, and in whatever reading the identities are taken -/
theorem SetHunkReal.no_counterpart_keys (F : FloatEq0) {o : Opts}
    (hd : dispatchTag o = .set ∨ dispatchTag o = .mset) (hp : precOf o = 0) {xs ys : List Json}
    {h : Hunk} (dx : ∀ x ∈ xs, DocOk x) (dy : ∀ y ∈ ys, DocOk y) (H : SetHunkReal o xs ys h) :
    (∀ z ∈ h.remove, ∀ y ∈ ys, equals o z y = false) ∧
    (∀ z ∈ h.add, ∀ x ∈ xs, equals o x z = false) :=
  ⟨fun z hz y hy => (not_equals_of_ident_absent F hd hp (dx z (H.rem_mem z hz)) dy
      ((H.rem_ids _).1 (List.mem_map_of_mem hz)).2 y hy).1,
    fun z hz x hx => (not_equals_of_ident_absent F hd hp (dy z (H.add_mem z hz)) dx
      ((H.add_ids _).1 (List.mem_map_of_mem hz)).2 x hx).2⟩

/-- in a set hunk of two arrays as read from text no removed member is `Equals` to an added one:
    they would have the same identity -/
theorem SetHunkReal.not_equals (F : FloatEq0) {o : Opts}
    (hd : dispatchTag o = .set ∨ dispatchTag o = .mset) (hp : precOf o = 0) {xs ys : List Json}
    {h : Hunk} (dx : ∀ x ∈ xs, DocOk x) (dy : ∀ y ∈ ys, DocOk y) (H : SetHunkReal o xs ys h) :
    ∀ r ∈ h.remove, ∀ w ∈ h.add, equals o r w = false := fun r hr w hw =>
  (H.no_counterpart_keys F hd hp dx dy).1 r hr w (H.add_mem w hw)

/-- **C07 (2), up to `Equals`**: no removed value is `Equals` to an added value of the same hunk
    (`FloatEq0`: numbers that are `Equals` have the same hash code) -/
theorem HunkReal.not_equals (F : FloatEq0) {o : Opts}
    (hd : dispatchTag o = .set ∨ dispatchTag o = .mset) (_ : keysOf o = none) (hp : precOf o = 0)
    {a b : Json} {p : Path} {h : Hunk} (da : DocOk a) (db : DocOk b) (H : HunkReal o a b p h) :
    ∀ r ∈ h.remove, ∀ w ∈ h.add, equals o r w = false := by
  cases H with
  | value q hq hpath hmg hbf haf loc ne lit real => exact realOpt_not_equals real
  | set q xs ys hq hpath na nb real =>
    exact real.not_equals F hd hp (fun _ => (docOk_subterm da (navS_subterm o q a _ na)).elem)
      (fun _ => (docOk_subterm db (navS_subterm o q b _ nb)).elem)
  | mset q xs ys hq hpath na nb real =>
    intro r hr w hw
    have dr : DocOk r := (docOk_subterm da (navS_subterm o q a _ na)).elem (real.rem_mem r hr)
    have dw : DocOk w := (docOk_subterm db (navS_subterm o q b _ nb)).elem (real.add_mem w hw)
    cases he : equals o r w with
    | false => rfl
    | true => exact absurd (DES.hash_eq_of_equals F hd hp r w dr dw he) (real.apart r hr w hw)

theorem navPath_snoc (q : Path) {e : PathElem} (he : navPath [e] = false) :
    navPath (q ++ [e]) = false := by
  induction q with
  | nil => exact he
  | cons e' r ih => cases e' <;> simp [navPath, ih]

/-- a real hunk read off its own path: if the path ends in `e`, one of `{}` / `[]`, it is the set /
    multiset hunk of the arrays that the two documents hold at what precedes `e` -/
theorem HunkReal.of_tail {o : Opts} {a b : Json} {p : Path} {h : Hunk} (H : HunkReal o a b p h)
    {q : Path} {e : PathElem} (he : navPath [e] = false) (hpath : h.path = p ++ q ++ [e]) :
    ∃ xs ys, navS o a q = some (.arr .raw xs) ∧ navS o b q = some (.arr .raw ys) ∧
      (e = .set ∧ SetHunkReal o xs ys h ∨ e = .mset ∧ MsetHunkReal o xs ys h) := by
  cases H with
  | value q0 hq e0 _ _ _ _ _ _ _ =>
    rw [hpath, List.append_assoc] at e0
    rw [← List.append_cancel_left e0, navPath_snoc _ he] at hq
    cases hq
  | set q0 xs ys hq e0 na nb real =>
    rw [hpath] at e0
    obtain ⟨e1, e2⟩ := List.append_inj' e0 rfl
    cases List.append_cancel_left e1
    cases e2
    exact ⟨xs, ys, na, nb, .inl ⟨rfl, real⟩⟩
  | mset q0 xs ys hq e0 na nb real =>
    rw [hpath] at e0
    obtain ⟨e1, e2⟩ := List.append_inj' e0 rfl
    cases List.append_cancel_left e1
    cases e2
    exact ⟨xs, ys, na, nb, .inr ⟨rfl, real⟩⟩

/-- **C07 (1), SET reading, a hunk located by its own path**: a hunk of `a.Diff(b)` whose path is
    `q ++ [{}]` is addressed to the arrays that `a` and `b` hold at `q`; every value it removes is a
    member of the first, every value it adds a member of the second (`SetHunkReal`) -/
theorem diffM_set_hunk_members {o : Opts} (hm : DES.SetReading o) (hp : precOf o = 0)
    (hmg : isMerge o = false) {a b : Json} (hr : a.rawDoc = true) (hw : a.wf = true)
    (hrb : b.rawDoc = true) (hwb : b.wf = true) {h : Hunk} (hh : h ∈ diffM o a b) {q : Path}
    (hpath : h.path = q ++ [.set]) :
    ∃ xs ys, navS o a q = some (.arr .raw xs) ∧ navS o b q = some (.arr .raw ys) ∧
      SetHunkReal o xs ys h := by
  obtain ⟨xs, ys, na, nb, ⟨_, real⟩ | ⟨e, _⟩⟩ :=
    (diffM_hunk_real hm hp hmg hr hw hrb hwb h hh).of_tail rfl hpath
  · exact ⟨xs, ys, na, nb, real⟩
  · cases e

/-- **C07 (1), MULTISET reading, a hunk located by its own path** -/
theorem diffM_mset_hunk_members {o : Opts} (hm : DES.SetReading o) (hp : precOf o = 0)
    (hmg : isMerge o = false) {a b : Json} (hr : a.rawDoc = true) (hw : a.wf = true)
    (hrb : b.rawDoc = true) (hwb : b.wf = true) {h : Hunk} (hh : h ∈ diffM o a b) {q : Path}
    (hpath : h.path = q ++ [.mset]) :
    ∃ xs ys, navS o a q = some (.arr .raw xs) ∧ navS o b q = some (.arr .raw ys) ∧
      MsetHunkReal o xs ys h := by
  obtain ⟨xs, ys, na, nb, ⟨e, _⟩ | ⟨_, real⟩⟩ :=
    (diffM_hunk_real hm hp hmg hr hw hrb hwb h hh).of_tail rfl hpath
  · cases e
  · exact ⟨xs, ys, na, nb, real⟩

/-- the hunks of a set diff of two arrays at or below a path element `e` other than `{}` are hunks
    of the diff of two matched object members (the last bearers of one identity on either side),
    and `e` is the path element written for the member of the first array -/
theorem below_member {o : Opts} (hd : dispatchTag o = .set) {xs ys : List Json} {p : Path}
    {h : Hunk} {e : PathElem} (hh : h ∈ diffNode o false (.arr .raw xs) (.arr .raw ys) p)
    (hpre : (p ++ [e]) <+: h.path) (he : e ≠ .set) :
    ∃ kvs kvs', newPathSetKeys o kvs = e ∧
      identLookup o (identOf o (.obj kvs)) xs = some (.obj kvs) ∧
      identLookup o (identOf o (.obj kvs)) ys = some (.obj kvs') ∧
      h ∈ diffNode o false (.obj kvs) (.obj kvs') (p ++ [e]) := by
  rw [diffNode_set_set hd] at hh
  rcases List.mem_append.1 hh with hh | hh
  · obtain ⟨⟨c, part⟩, hkp, hin⟩ := List.mem_flatMap.1 hh
    cases part with
    | removed z => simp [subOf] at hin
    | sub d =>
      simp only [subOf] at hin
      obtain ⟨kvs, kvs', rfl, _, hx, hy, _, _, rfl⟩ := sub_origin ((ksort_perm _).mem_iff.1 hkp)
      have hee : newPathSetKeys o kvs = e :=
        Real.snoc_prefix_unique (Real.diff_paths_extend_general o false _ _ _ h hin) hpre
      exact ⟨kvs, kvs', hee, hx, hy, hee ▸ hin⟩
  · obtain ⟨e0, _⟩ := set_hunk_real o p xs ys hh
    rw [e0] at hpre
    exact absurd (Real.snoc_prefix_unique hpre (List.prefix_refl _)) he

/-- **C07 (3), SET and MULTISET readings**: if `a` and `b` hold `Equals` values at the location `q`
    (object keys and keyed set members), no hunk of the diff lies at or below `p ++ q`.
    `DiffFaithful` on the nodes of the two equal values: no FNV collision between array nodes, no
    collision / alias between object members of sets (JdProofs.DiffEmptySet). -/
theorem equal_subdoc_not_mentioned {o : Opts} (hm : DES.SetReading o) (hp : precOf o = 0)
    (q : Path) (_ : navPath q = true) (a b : Json) (hr : a.rawDoc = true) (hw : a.wf = true)
    (hrb : b.rawDoc = true) (hwb : b.wf = true) (v v' : Json) (hv : navS o a q = some v)
    (hv' : navS o b q = some v') (he : equals o v v' = true)
    (FH : DES.DiffFaithful o (subterms v) (subterms v')) :
    ∀ p, ∀ h ∈ diffNode o false a b p, ¬ (p ++ q) <+: h.path := by
  refine navS_induct (P := fun a q v => ∀ b, a.rawDoc = true → a.wf = true → b.rawDoc = true →
    b.wf = true → ∀ v', navS o b q = some v' → equals o v v' = true →
    DES.DiffFaithful o (subterms v) (subterms v') →
    ∀ p, ∀ h ∈ diffNode o false a b p, ¬ (p ++ q) <+: h.path) ?_ ?_ ?_ q a v hv b hr hw hrb hwb v'
    hv' he FH
  · intro a b hr hw _ hwb v' hv' he FH p h hh
    rw [navS_nil] at hv'
    cases hv'
    rw [DES.diffNode_nil_of_equals hm hp false FH a hr hw (DES.within_subterms a) b hwb
      (DES.within_subterms b) he p] at hh
    cases hh
  · intro kvs k q' u v hu _ ih b hr hw hrb hwb v' hv' he FH p h hh hpre
    cases b with
    | obj kvs' =>
      simp only [Json.rawDoc] at hr hrb
      simp only [Json.wf, Bool.and_eq_true] at hw hwb
      rw [navS_key] at hv'
      cases hu' : alookup k kvs' with
      | none => rw [hu'] at hv'; cases hv'
      | some u' =>
        rw [hu'] at hv'
        have hmu := mem_of_alookup hu
        have hmu' := mem_of_alookup hu'
        exact ih u' (DES.rawDocKvs_mem hr hmu) (DES.wfKvs_mem hw.2 hmu) (DES.rawDocKvs_mem hrb hmu')
          (DES.wfKvs_mem hwb.2 hmu') v' hv' he FH _ h
          (Real.below_key hw.1 hu hu' hh (Real.prefix_snoc_of_prefix_cons hpre)) (by simpa using hpre)
    | _ => cases hv'
  · intro t xs po q' kx v ex _ ih b hr hw hrb hwb v' hv' he FH p h hh hpre
    have hpre1 := Real.prefix_snoc_of_prefix_cons hpre
    cases b with
    | arr t' ys =>
      simp only [Json.rawDoc, Bool.and_eq_true, beq_iff_eq] at hr hrb
      obtain ⟨rfl, hrx⟩ := hr
      obtain ⟨rfl, hry⟩ := hrb
      simp only [Json.wf] at hw hwb
      rcases hm with ⟨hd, hk⟩ | hd
      · obtain ⟨kvs, kvs', hee, hx, hy, hin⟩ := below_member hd hh hpre1 nofun
        have hkk : kvs = po := by simpa [newPathSetKeys, hk] using hee
        subst hkk
        rw [ex] at hx
        cases hx
        rw [navS_setKeys, hy] at hv'
        have hxm := (identLookup_some ex).1
        have hym := (identLookup_some hy).1
        exact ih _ (DES.rawDocList_mem hrx hxm) (DES.wfList_mem hw hxm) (DES.rawDocList_mem hry hym)
          (DES.wfList_mem hwb hym) v' hv' he FH _ h hin (by simpa using hpre)
      · obtain ⟨e, _⟩ := mset_hunk_real hd p xs ys hh
        rw [e] at hpre1
        cases Real.snoc_prefix_unique hpre1 (List.prefix_refl _)
    | _ => cases hv'

theorem diffM_equal_subdoc_not_mentioned {o : Opts} (hm : DES.SetReading o) (hp : precOf o = 0)
    (hmg : isMerge o = false) {a b : Json} (hr : a.rawDoc = true) (hw : a.wf = true)
    (hrb : b.rawDoc = true) (hwb : b.wf = true) {q : Path} (hq : navPath q = true) {v v' : Json}
    (hv : navS o a q = some v) (hv' : navS o b q = some v') (he : equals o v v' = true)
    (FH : DES.DiffFaithful o (subterms v) (subterms v')) :
    ∀ h ∈ diffM o a b, ¬ q <+: h.path := by
  rw [diffM, hmg]
  simpa using equal_subdoc_not_mentioned hm hp q hq a b hr hw hrb hwb v v' hv hv' he FH []

/-- the advertised one-level form: a member with `Equals` values on both sides is not mentioned -/
theorem equal_member_not_mentioned {o : Opts} (hm : DES.SetReading o) (hp : precOf o = 0)
    {kvs kvs' : List (String × Json)} (hr : (Json.obj kvs).rawDoc = true)
    (hw : (Json.obj kvs).wf = true) (hrb : (Json.obj kvs').rawDoc = true)
    (hwb : (Json.obj kvs').wf = true) {k : String} {v v' : Json}
    (hl : alookup k kvs = some v) (hl' : alookup k kvs' = some v') (he : equals o v v' = true)
    (FH : DES.DiffFaithful o (subterms v) (subterms v')) (p : Path) :
    ∀ h ∈ diffNode o false (.obj kvs) (.obj kvs') p, ¬ (p ++ [PathElem.key k]) <+: h.path :=
  equal_subdoc_not_mentioned hm hp [.key k] rfl _ _ hr hw hrb hwb v v'
    (by rw [navS_key, hl]; rfl) (by rw [navS_key, hl']; rfl) he FH p

/-- what follows the keys of a hunk path in the set readings: nothing, `{}` or `[]` -/
def isTail (tl : Path) : Prop := tl = [] ∨ tl = [.set] ∨ tl = [.mset]

theorem getAt_nil (n : Json) : Real.getAt n [] = some n := Real.getAt_nil n

/-- the two documents hold `Equals` values at a location, or both hold nothing there -/
abbrev Agree (o : Opts) : Option Json → Option Json → Prop :=
  DPK.OptRel fun x y => equals o x y = true

/-- under `DiffFaithful`, members of the two arrays with the same identity have an empty diff: the
    set diff has no sub-diff -/
theorem subs_nil {o : Opts} (hd : dispatchTag o = .set) (hk : keysOf o = none) (hp : precOf o = 0)
    {SA SB : List Json} (FH : DES.DiffFaithful o SA SB) {xs ys : List Json}
    (hrx : rawDocList xs = true) (hwx : wfList xs = true) (hwy : wfList ys = true)
    (wa : Within SA (.arr .raw xs)) (wb : Within SB (.arr .raw ys)) (p : Path) :
    (ksort (diffSetElems o false p ys xs)).flatMap subOf = [] := by
  apply DES.subs_nil_of
  intro kvs kvs' hx hy e q
  rw [identOf_eq_hashCode hk, identOf_eq_hashCode hk] at e
  have hok := FH _ (wa.elem hx).self _ (wb.elem hy).self e.symm
  simp only [DES.pairOK, hd] at hok
  have : (Tag.set == Tag.mset) = false := rfl
  rw [this, Bool.false_or] at hok
  exact DES.diffNode_nil_of_equals (.inl ⟨hd, hk⟩) hp false FH _ (DES.rawDocList_mem hrx hx)
    (DES.wfList_mem hwx hx) (wa.elem hx) _ (DES.wfList_mem hwy hy) (wb.elem hy) hok q

/-- the hunks of two values that are not both objects: addressed to the value itself (or to the array
    read as a set / multiset), and the two values are not `Equals` -/
theorem leaf_hunk {o : Opts} (hm : DES.SetReading o) (hp : precOf o = 0) {SA SB : List Json}
    (FH : DES.DiffFaithful o SA SB) {a b : Json} (hr : a.rawDoc = true) (hw : a.wf = true)
    (wa : Within SA a) (hrb : b.rawDoc = true) (hwb : b.wf = true) (wb : Within SB b)
    (hno : ¬ ((∃ kvs, a = .obj kvs) ∧ ∃ kvs', b = .obj kvs')) (p : Path) :
    (diffNode o false a b p).length ≤ 1 ∧
    ∀ h ∈ diffNode o false a b p, (∃ tl, isTail tl ∧ h.path = p ++ tl) ∧ h.merge = false ∧
      ¬ Agree o (Real.getAt a []) (Real.getAt b []) := by
  have hd' := DES.SetReading.tag hm
  have hdiff : ∀ h ∈ diffNode o false a b p, ¬ Agree o (Real.getAt a []) (Real.getAt b []) := by
    intro h hh hag
    rw [getAt_nil, getAt_nil] at hag
    rw [DES.diffNode_nil_of_equals hm hp false FH a hr hw wa b hwb wb hag p] at hh
    cases hh
  have fin : (diffNode o false a b p).length ≤ 1 ∧
      ∀ h ∈ diffNode o false a b p, (∃ tl, isTail tl ∧ h.path = p ++ tl) ∧ h.merge = false := by
    by_cases ha : ∃ kvs, a = .obj kvs
    · obtain ⟨kvs, rfl⟩ := ha
      have hb : ∀ kvs', b ≠ .obj kvs' := fun kvs' e => hno ⟨⟨kvs, rfl⟩, kvs', e⟩
      rw [DPL.diffNode_obj_other o kvs b hb]
      refine ⟨by simp, fun h hh => ?_⟩
      simp only [List.mem_singleton] at hh
      subst hh
      exact ⟨⟨[], .inl rfl, by simp⟩, rfl⟩
    · by_cases ha2 : ∃ t xs, a = .arr t xs
      · obtain ⟨t, xs, rfl⟩ := ha2
        simp only [Json.rawDoc, Bool.and_eq_true, beq_iff_eq] at hr
        obtain ⟨rfl, hrx⟩ := hr
        simp only [Json.wf] at hw
        by_cases hb : ∃ t' ys, b = .arr t' ys
        · obtain ⟨t', ys, rfl⟩ := hb
          simp only [Json.rawDoc, Bool.and_eq_true, beq_iff_eq] at hrb
          obtain ⟨rfl, hry⟩ := hrb
          simp only [Json.wf] at hwb
          rcases hm with ⟨hd, hk⟩ | hd
          · rw [diffNode_set_set hd, subs_nil hd hk hp FH hrx hw hwb wa wb p, List.nil_append]
            refine ⟨by split <;> simp, fun h hh => ?_⟩
            obtain ⟨e, real⟩ := set_hunk_real o p xs ys hh
            exact ⟨⟨[.set], .inr (.inl rfl), e⟩, real.merge⟩
          · refine ⟨by rw [diffNode_mset_mset hd]; split <;> simp, fun h hh => ?_⟩
            obtain ⟨e, real⟩ := mset_hunk_real hd p xs ys hh
            exact ⟨⟨[.mset], .inr (.inr rfl), e⟩, real.merge⟩
        · rw [diffNode_arr_other hd' xs b (fun t' ys e => hb ⟨t', ys, e⟩)]
          refine ⟨by simp, fun h hh => ?_⟩
          simp only [List.mem_singleton] at hh
          subst hh
          exact ⟨⟨[], .inl rfl, by simp⟩, rfl⟩
      · rw [DPL.diffNode_scalar o a b (fun t xs e => ha2 ⟨t, xs, e⟩) (fun kvs e => ha ⟨kvs, e⟩)]
        refine ⟨by unfold diffCommon; split <;> simp, fun h hh => ?_⟩
        obtain ⟨e1, e2, _, _⟩ := diffCommon_fields hh
        exact ⟨⟨[], .inl rfl, by simp [e1]⟩, e2⟩
  exact ⟨fin.1, fun h hh => ⟨(fin.2 h hh).1, (fin.2 h hh).2, hdiff h hh⟩⟩

/-- every hunk of a strict diff in the set readings is a strict hunk -/
theorem diff_merge_false {o : Opts} (hm : dispatchTag o = .set ∨ dispatchTag o = .mset)
    (hp : precOf o = 0) : ∀ a : Json, a.rawDoc = true → a.wf = true → ∀ b : Json,
      b.rawDoc = true → b.wf = true → ∀ p, ∀ h ∈ diffNode o false a b p, h.merge = false :=
  hunk_cases hm hp (P := fun _ _ _ h => h.merge = false) (fun R => R.hm) (fun _ _ h => h)
    (fun _ _ _ => rfl) (fun _ _ _ => rfl) (fun _ _ _ h => h) (fun _ R => R.merge)
    (fun _ _ R => R.merge)

/-- **the object step for the diff of two objects** (set readings, documents as read from text): the
    hunks below a key are the diff of the two members, one removal, one addition, or none -/
theorem _root_.Jd.NR.NoProper.obj_diff {sw : Bool} {E : Json → Json → Prop} {o : Opts}
    (hm : dispatchTag o = .set ∨ dispatchTag o = .mset)
    (hp : precOf o = 0) {kvs kvs' : List (String × Json)}
    (hr : (Json.obj kvs).rawDoc = true) (hw : (Json.obj kvs).wf = true)
    (hrb : (Json.obj kvs').rawDoc = true) (hwb : (Json.obj kvs').wf = true)
    (hE : ∀ kvr, keysSorted kvr = true → E (.obj kvr) (.obj kvs') →
      ∀ k, DPK.OptRel E (alookup k kvr) (alookup k kvs'))
    (ih : ∀ k v v', alookup k kvs = some v → alookup k kvs' = some v' →
      NR.NoProper sw E v v' (diffNode o false v v' [])) :
    NR.NoProper sw E (.obj kvs) (.obj kvs') (diffNode o false (.obj kvs) (.obj kvs') []) := by
  have hw' := hw
  have hwb' := hwb
  simp only [Json.wf, Bool.and_eq_true] at hw' hwb'
  refine NR.NoSub.obj NR.subFam_proper (NR.objProj_patchAll sw) hw'.1
    (fun h hh => ⟨diff_merge_false hm hp _ hr hw _ hrb hwb [] h hh,
      RealK.diff_obj_keyHeaded o kvs kvs' h hh⟩) hE fun k => ?_
  rw [RealK.proj_diff_obj k hw'.1 hwb'.1]
  cases h1 : alookup k kvs <;> cases h2 : alookup k kvs' <;> simp only []
  · exact Nat.le_refl 1
  · exact Nat.le_refl 1
  · exact ih k _ _ h1 h2

/-- **no proper sub-list of a set / multiset diff reaches the target**, node by node -/
theorem noProper_node {o : Opts} (hm : DES.SetReading o) (hp : precOf o = 0) (sw : Bool)
    {SA SB : List Json} (FH : DES.DiffFaithful o SA SB) :
    ∀ a : Json, a.rawDoc = true → a.wf = true → Within SA a →
      ∀ b : Json, b.rawDoc = true → b.wf = true → Within SB b →
      NR.NoProper sw (fun x y => equals o x y = true) a b (diffNode o false a b []) := by
  -- values that are not both objects: at most one hunk, and none if they are `Equals`
  have leaf : ∀ {a b : Json}, a.rawDoc = true → a.wf = true → Within SA a → b.rawDoc = true →
      b.wf = true → Within SB b → ¬ ((∃ kvs, a = .obj kvs) ∧ ∃ kvs', b = .obj kvs') →
      NR.NoProper sw (fun x y => equals o x y = true) a b (diffNode o false a b []) := by
    intro a b hr hw wa hrb hwb wb hno
    obtain ⟨hl, hd⟩ := leaf_hunk hm hp FH hr hw wa hrb hwb wb hno []
    refine .of_le_one hl fun hne he => ?_
    obtain ⟨h, hh⟩ := List.exists_mem_of_ne_nil _ hne
    exact (hd h hh).2.2 (by rw [getAt_nil, getAt_nil]; exact he)
  intro a
  induction a using jsonInd with
  | obj kvs ih =>
    intro hr hw wa b hrb hwb wb
    by_cases hb : ∃ kvs', b = .obj kvs'
    · obtain ⟨kvs', rfl⟩ := hb
      have hw' := hw
      have hwb' := hwb
      simp only [Json.wf, Bool.and_eq_true] at hw' hwb'
      refine NR.NoProper.obj_diff (DES.SetReading.tag hm) hp hr hw hrb hwb
        (fun kvr hsr he => (equals_obj_optRel o hsr hwb'.1).1 he) fun k v v' h1 h2 => ?_
      have hm1 := mem_of_alookup h1
      have hm2 := mem_of_alookup h2
      exact ih k v hm1 (DES.rawDocKvs_mem (by simpa [Json.rawDoc] using hr) hm1)
        (DES.wfKvs_mem hw'.2 hm1) (wa.val hm1) v'
        (DES.rawDocKvs_mem (by simpa [Json.rawDoc] using hrb) hm2) (DES.wfKvs_mem hwb'.2 hm2)
        (wb.val hm2)
    · exact leaf hr hw wa hrb hwb wb (fun hc => hb hc.2)
  | _ =>
    intro hr hw wa b hrb hwb wb
    exact leaf hr hw wa hrb hwb wb (fun hc => by obtain ⟨⟨_, e⟩, _⟩ := hc; cases e)

/-- **C07 (4), SET and MULTISET readings, general form: no proper sub-list of `a.Diff(b)` yields the
    target.**  Whatever any sub-list of the diff other than the whole diff makes of `a` (if it
    applies at all) is not `Equals` to `b`. -/
theorem no_proper_sublist {o : Opts} (hm : DES.SetReading o) (hp : precOf o = 0)
    (hmg : isMerge o = false) {a b : Json} (hr : a.rawDoc = true) (hw : a.wf = true)
    (hrb : b.rawDoc = true) (hwb : b.wf = true)
    (FH : DES.DiffFaithful o (subterms a) (subterms b)) (sw : Bool) :
    NR.NoProper sw (fun x y => equals o x y = true) a b (diffM o a b) := by
  rw [diffM, hmg]
  exact noProper_node hm hp sw FH a hr hw (DES.within_subterms a) b hrb hwb (DES.within_subterms b)

/-- **C07 (4), SET and MULTISET readings: no hunk is redundant.**  Leave any single hunk `h` out of
    `a.Diff(b)`: whatever the remaining hunks make of `a` (if they apply at all) is not `Equals` to
    `b`.  All documents as read from text (arrays nested anywhere); `DiffFaithful`: no FNV collision
    between array nodes of `a` and `b`, no collision / alias between object nodes (set reading). -/
theorem no_redundant_hunk {o : Opts} (hm : DES.SetReading o) (hp : precOf o = 0)
    (hmg : isMerge o = false) {a b : Json} (hr : a.rawDoc = true) (hw : a.wf = true)
    (hrb : b.rawDoc = true) (hwb : b.wf = true)
    (FH : DES.DiffFaithful o (subterms a) (subterms b))
    (d1 d2 : Diff) (h : Hunk) (hd : diffM o a b = d1 ++ h :: d2) (sw : Bool) (r : Json)
    (hres : patchAll sw a (d1 ++ d2) = .ok r) : equals o r b = false :=
  Bool.eq_false_iff.2 ((no_proper_sublist hm hp hmg hr hw hrb hwb FH sw).drop_one hd hres)

/-- (4) under the hypothesis family of JdProofs.EqualsSet / SetDiffPatch: `setDoc` documents (finite
    numbers, no `-0`), `HashFaithful` (equal hash codes only for equivalent nodes), `FloatEq0` -/
theorem no_redundant_hunk_hashFaithful (F : FloatEq0) {o : Opts} (hm : DES.SetReading o)
    (hp : precOf o = 0) (hmg : isMerge o = false) {a b : Json} (ha : a.setDoc = true)
    (hb : b.setDoc = true) (HF : HashFaithful o (subterms a ++ subterms b))
    (d1 d2 : Diff) (h : Hunk) (hd : diffM o a b = d1 ++ h :: d2) (sw : Bool) (r : Json)
    (hres : patchAll sw a (d1 ++ d2) = .ok r) : equals o r b = false := by
  have hm' := DES.SetReading.tag hm
  have ha' := ha
  have hb' := hb
  simp only [Json.setDoc, Bool.and_eq_true] at ha' hb'
  exact no_redundant_hunk hm hp hmg ha'.1.1.1 ha'.1.1.2 hb'.1.1.1 hb'.1.1.2
    (DES.diffFaithful_of_hashFaithful F hm' hp (docOk_of_setDoc ha) (docOk_of_setDoc hb) HF)
    d1 d2 h hd sw r hres

/-- the hypothesis `keysOf o = none` is not used -/
theorem SetHunkReal.no_counterpart (F : FloatEq0) {o : Opts} (hd : dispatchTag o = .set)
    (_ : keysOf o = none) (hp : precOf o = 0) {xs ys : List Json} {h : Hunk}
    (dx : ∀ x ∈ xs, DocOk x) (dy : ∀ y ∈ ys, DocOk y) (H : SetHunkReal o xs ys h) :
    (∀ z ∈ h.remove, ∀ y ∈ ys, equals o z y = false) ∧
    (∀ z ∈ h.add, ∀ x ∈ xs, equals o x z = false) :=
  H.no_counterpart_keys F (.inl hd) hp dx dy

/-- **property C07 in the SET and MULTISET readings** (`o = [.set]` or `o = [.mset]`, strict
    strategy, documents as read from text):
    (1)+(2) every hunk is real (`HunkReal`: located, members of the addressed arrays, removed and
        added apart, not empty for a set / multiset hunk);
    (2')    no hunk is empty (no void object member);
    (3)     `Equals` sub-documents are never mentioned (no harmful collision inside them);
    (4)     no hunk is redundant (no harmful collision between the two documents). -/
theorem c07_setmodes {o : Opts} (ho : o = [.set] ∨ o = [.mset]) {a b : Json}
    (hr : a.rawDoc = true) (hw : a.wf = true) (hrb : b.rawDoc = true) (hwb : b.wf = true) :
    (∀ h ∈ diffM o a b, HunkReal o a b [] h) ∧
    (DPL.memOK a = true → DPL.memOK b = true → ∀ h ∈ diffM o a b, h.remove ≠ [] ∨ h.add ≠ []) ∧
    (∀ q v v', navPath q = true → navS o a q = some v → navS o b q = some v' →
      equals o v v' = true → DES.DiffFaithful o (subterms v) (subterms v') →
      ∀ h ∈ diffM o a b, ¬ q <+: h.path) ∧
    (DES.DiffFaithful o (subterms a) (subterms b) →
      ∀ d1 h d2, diffM o a b = d1 ++ h :: d2 →
      ∀ sw r, patchAll sw a (d1 ++ d2) = .ok r → equals o r b = false) := by
  have hm : DES.SetReading o := by
    rcases ho with rfl | rfl
    · exact .inl ⟨rfl, rfl⟩
    · exact .inr rfl
  have hp : precOf o = 0 := by rcases ho with rfl | rfl <;> rfl
  have hmg : isMerge o = false := by rcases ho with rfl | rfl <;> rfl
  refine ⟨diffM_hunk_real hm hp hmg hr hw hrb hwb, ?_, ?_, ?_⟩
  · intro ma mb h hh
    exact (diffM_hunk_real hm hp hmg hr hw hrb hwb h hh).nonempty ma mb
  · intro q v v' hq hv hv' he FH
    exact diffM_equal_subdoc_not_mentioned hm hp hmg hr hw hrb hwb hq hv hv' he FH
  · intro FH d1 h d2 hd sw r hres
    exact no_redundant_hunk hm hp hmg hr hw hrb hwb FH d1 d2 h hd sw r hres

namespace Witness
open DES.Witness

/-- the diff of `[{"a":""}]` and `[{"a":[]}]` read as sets: the two members have the same hash code
    (KF-C04-alias: the empty string and the empty set hash alike), are matched, and are then
    diffed member by member -/
theorem alias_diff (p : Path) :
    diffNode [.set] false wa wb p =
      [{ path := p ++ [.setKeys [("a", .str "")]] ++ [.key "a"], remove := [.str ""],
         add := [.arr .raw []] }] := by
  have e : identOf [.set] (.obj [("a", .arr .raw [])]) = identOf [.set] (.obj [("a", .str "")]) := by
    decide +kernel
  unfold wa wb
  rw [diffNode_set_set rfl, diffSetElems_cons, DE.diffSetElems_nil_m]
  have h1 : identLookup [.set] (identOf [.set] (.obj [("a", .str "")])) [.obj [("a", .arr .raw [])]]
      = some (.obj [("a", .arr .raw [])]) := by
    simp [identLookup, e]
  have h2 : setAdd [.set] [.obj [("a", .str "")]] [.obj [("a", .arr .raw [])]] = [] := by
    rw [DES.add_nil_iff]
    intro h hh
    simpa [e] using hh
  simp only [List.map_nil, List.contains_nil, Bool.false_eq_true, if_false, h1, h2]
  rw [DE.diffNode_obj_obj, DE.diffKvs_cons, DE.diffKvs_nil]
  simp only [alookup, if_true]
  rw [DE.diffNode_scalar _ _ _ _ (fun _ _ e => by cases e) (fun _ e => by cases e)]
  simp [diffCommon, equals, ksort, kinsert, subOf, remOf, newPathSetKeys, keysOf, Json.nodeList,
    Json.isVoid]

/-- `{"m":[{"a":""}]}` -/
def ma : Json := .obj [("m", wa)]
/-- `{"m":[{"a":[]}]}` -/
def mb : Json := .obj [("m", wb)]

/-- **(3) is FALSE without `DiffFaithful`** (consequence of the known finding KF-C04-alias; the Go
    code behaves the same): the members at key `m` of `{"m":[{"a":""}]}` and `{"m":[{"a":[]}]}` are
    `Equals` under SET, the documents are as read from text, and yet the diff has a hunk below `m` -/
theorem equal_member_mentioned_alias :
    ma.rawDoc = true ∧ ma.wf = true ∧ mb.rawDoc = true ∧ mb.wf = true ∧
    navS [.set] ma [.key "m"] = some wa ∧ navS [.set] mb [.key "m"] = some wb ∧
    equals [.set] wa wb = true ∧
    ∃ h ∈ diffM [.set] ma mb, [PathElem.key "m"] <+: h.path := by
  refine ⟨by decide, by decide, by decide, by decide, rfl, rfl, by decide +kernel, ?_⟩
  have hd : diffM [.set] ma mb =
      [⟨false, [.key "m", .setKeys [("a", .str "")], .key "a"], [], [.str ""], [.arr .raw []], []⟩] :=
    diffM_of_eqb (by decide +kernel)
  exact ⟨_, hd ▸ List.mem_cons_self, ⟨[.setKeys [("a", .str "")], .key "a"], rfl⟩⟩

/-- **(4) is FALSE without `DiffFaithful`, alias class** (KF-C04-alias): the diff of `[{"a":""}]` and
    `[{"a":[]}]` under SET is one hunk, and leaving it out — applying nothing — already gives a
    document `Equals` to the target -/
theorem redundant_hunk_alias (sw : Bool) :
    ∃ h, diffM [.set] wa wb = [] ++ h :: [] ∧ patchAll sw wa ([] ++ []) = .ok wa ∧
      equals [.set] wa wb = true := by
  refine ⟨{ path := [.setKeys [("a", .str "")], .key "a"], remove := [.str ""],
            add := [.arr .raw []] }, diffM_of_eqb (by decide +kernel), rfl, by decide +kernel⟩

theorem scalar_arrays_one_hunk {o : Opts} (hm : DES.SetReading o) (xs ys : List Json)
    (hx : ∀ kvs, Json.obj kvs ∉ xs) (p : Path) :
    (diffNode o false (.arr .raw xs) (.arr .raw ys) p).length ≤ 1 := by
  rcases hm with ⟨hd, _⟩ | hd
  · rw [diffNode_set_set hd,
      DES.subs_nil_of o false p xs ys (fun kvs _ h => absurd h (hx kvs)), List.nil_append]
    split <;> simp
  · rw [diffNode_mset_mset hd]
    split <;> simp

/-- **(4) is FALSE without `DiffFaithful`, outright** (a genuine FNV-1a 64 collision, no alias): the
    diff of `["aedb68afb","b7cdeb749"]` and `["a568b3ad2","b76a57d20"]` is one hunk under SET and
    under MULTISET (two members removed, two added), and leaving it out gives a document `Equals`
    to the target: the two arrays have the same hash code -/
theorem redundant_hunk_fnv_collision (sw : Bool) : ∀ o ∈ [[Opt.set], [Opt.mset]],
    ∃ h, diffM o ca cb = [] ++ h :: [] ∧ patchAll sw ca ([] ++ []) = .ok ca ∧
      equals o ca cb = true := by
  intro o ho
  have ho' : o ∈ DES.setOptions := by
    simp only [List.mem_cons, List.not_mem_nil, or_false] at ho
    rcases ho with rfl | rfl <;> simp [DES.setOptions]
  obtain ⟨he, hne⟩ := fnv_collision_breaks_converse.2.2.2.2 o ho'
  have hm : DES.SetReading o ∧ isMerge o = false := by
    simp only [List.mem_cons, List.not_mem_nil, or_false] at ho
    rcases ho with rfl | rfl
    · exact ⟨.inl ⟨rfl, rfl⟩, rfl⟩
    · exact ⟨.inr rfl, rfl⟩
  have hlen : (diffM o ca cb).length ≤ 1 := by
    rw [diffM, hm.2]
    exact scalar_arrays_one_hunk hm.1 _ _ (by simp) []
  match hd : diffM o ca cb, hne, hlen with
  | [h], _, _ => exact ⟨h, rfl, rfl, he⟩

end Witness

namespace Example

/-- `{"e":["p","q"],"n":{"s":["a","b",{"k":["x"]}]},"t":"u","v":"old","x":["k"]}` -/
def exA : Json :=
  .obj [("e", .arr .raw [.str "p", .str "q"]),
        ("n", .obj [("s", .arr .raw [.str "a", .str "b", .obj [("k", .arr .raw [.str "x"])]])]),
        ("t", .str "u"), ("v", .str "old"), ("x", .arr .raw [.str "k"])]
/-- `{"e":["q","p"],"n":{"s":[{"k":["x"]},"b","d"]},"t":"u","v":"new","y":"added"}` -/
def exB : Json :=
  .obj [("e", .arr .raw [.str "q", .str "p"]),
        ("n", .obj [("s", .arr .raw [.obj [("k", .arr .raw [.str "x"])], .str "b", .str "d"])]),
        ("t", .str "u"), ("v", .str "new"), ("y", .str "added")]

theorem ex_docs : exA.rawDoc = true ∧ exA.wf = true ∧ exB.rawDoc = true ∧ exB.wf = true ∧
    DPL.memOK exA = true ∧ DPL.memOK exB = true ∧ exA.setDoc = true ∧ exB.setDoc = true := by
  decide

theorem ex_faithful_set : DES.DiffFaithful [.set] (subterms exA) (subterms exB) :=
  DES.diffFaithful_of_check (by decide +kernel)
theorem ex_faithful_mset : DES.DiffFaithful [.mset] (subterms exA) (subterms exB) :=
  DES.diffFaithful_of_check (by decide +kernel)

/-- the diffs are not empty (four hunks each: a set / multiset hunk two keys deep, a replaced
    string, a removed member, an added member; see the `#eval`s) -/
theorem ex_diff_ne : diffM [.set] exA exB ≠ [] ∧ diffM [.mset] exA exB ≠ [] := by
  refine ⟨fun h => ?_, fun h => ?_⟩
  · have := DES.equals_of_diffM_nil _ (.inl ⟨rfl, rfl⟩) rfl exA exB ex_docs.1 ex_docs.2.1
      ex_docs.2.2.2.1 h
    exact absurd this (by decide +kernel)
  · have := DES.equals_of_diffM_nil _ (.inr rfl) rfl exA exB ex_docs.1 ex_docs.2.1
      ex_docs.2.2.2.1 h
    exact absurd this (by decide +kernel)

#eval diffM [.set] exA exB
#eval diffM [.mset] exA exB

/-- `hunk_real` / `diffM_hunk_real`, `HunkReal.nonempty`, `HunkReal.not_equals` on the pair -/
example (F : FloatEq0) : ∀ h ∈ diffM [.set] exA exB,
    HunkReal [.set] exA exB [] h ∧ (h.remove ≠ [] ∨ h.add ≠ []) ∧
      ∀ r ∈ h.remove, ∀ w ∈ h.add, equals [.set] r w = false := fun h hh =>
  have H := diffM_hunk_real (.inl ⟨rfl, rfl⟩) rfl rfl ex_docs.1 ex_docs.2.1 ex_docs.2.2.1
    ex_docs.2.2.2.1 h hh
  ⟨H, H.nonempty ex_docs.2.2.2.2.1 ex_docs.2.2.2.2.2.1,
    H.not_equals F (.inl rfl) rfl rfl (docOk_of_setDoc ex_docs.2.2.2.2.2.2.1)
      (docOk_of_setDoc ex_docs.2.2.2.2.2.2.2)⟩

example (F : FloatEq0) : ∀ h ∈ diffM [.mset] exA exB,
    HunkReal [.mset] exA exB [] h ∧ (h.remove ≠ [] ∨ h.add ≠ []) ∧
      ∀ r ∈ h.remove, ∀ w ∈ h.add, equals [.mset] r w = false := fun h hh =>
  have H := diffM_hunk_real (.inr rfl) rfl rfl ex_docs.1 ex_docs.2.1 ex_docs.2.2.1
    ex_docs.2.2.2.1 h hh
  ⟨H, H.nonempty ex_docs.2.2.2.2.1 ex_docs.2.2.2.2.2.1,
    H.not_equals F (.inr rfl) rfl rfl (docOk_of_setDoc ex_docs.2.2.2.2.2.2.1)
      (docOk_of_setDoc ex_docs.2.2.2.2.2.2.2)⟩

/-- `diffM_set_hunk_members`: the set hunk at `n.s` removes members of `["a","b",{"k":["x"]}]` and adds
    members of `[{"k":["x"]},"b","d"]` -/
example {h : Hunk} (hh : h ∈ diffM [.set] exA exB)
    (hpath : h.path = [.key "n", .key "s"] ++ [.set]) :
    ∃ xs ys, navS [.set] exA [.key "n", .key "s"] = some (.arr .raw xs) ∧
      navS [.set] exB [.key "n", .key "s"] = some (.arr .raw ys) ∧ SetHunkReal [.set] xs ys h :=
  diffM_set_hunk_members (.inl ⟨rfl, rfl⟩) rfl rfl ex_docs.1 ex_docs.2.1 ex_docs.2.2.1
    ex_docs.2.2.2.1 hh hpath

/-- keyed descent: the hunk of `[{"a":""}]` against `[{"a":[]}]` (path `[{"a":""}, a]`) is real: it
    replaces what the designated member holds at `a` -/
example : ∀ h ∈ diffM [.set] DES.Witness.wa DES.Witness.wb,
    HunkReal [.set] DES.Witness.wa DES.Witness.wb [] h :=
  diffM_hunk_real (.inl ⟨rfl, rfl⟩) rfl rfl (by decide) (by decide) (by decide) (by decide)

/-- `diffM_equal_subdoc_not_mentioned`: the members at `e` (`["p","q"]`, `["q","p"]`) are `Equals` in
    both readings and are not mentioned; likewise the object member `{"k":["x"]}` of the set at `n.s` -/
example : ∀ h ∈ diffM [.set] exA exB, ¬ [PathElem.key "e"] <+: h.path :=
  diffM_equal_subdoc_not_mentioned (.inl ⟨rfl, rfl⟩) rfl rfl ex_docs.1 ex_docs.2.1 ex_docs.2.2.1
    ex_docs.2.2.2.1 (q := [.key "e"]) rfl (v := .arr .raw [.str "p", .str "q"])
    (v' := .arr .raw [.str "q", .str "p"]) rfl rfl (by decide +kernel)
    (DES.diffFaithful_of_check (by decide +kernel))

example : ∀ h ∈ diffM [.mset] exA exB, ¬ [PathElem.key "e"] <+: h.path :=
  diffM_equal_subdoc_not_mentioned (.inr rfl) rfl rfl ex_docs.1 ex_docs.2.1 ex_docs.2.2.1
    ex_docs.2.2.2.1 (q := [.key "e"]) rfl (v := .arr .raw [.str "p", .str "q"])
    (v' := .arr .raw [.str "q", .str "p"]) rfl rfl (by decide +kernel)
    (DES.diffFaithful_of_check (by decide +kernel))

theorem ex_navA : navS [.set] exA [.key "n", .key "s", .setKeys [("k", .arr .raw [.str "x"])]] =
    some (.obj [("k", .arr .raw [.str "x"])]) := by
  simp [exA, navS_key, alookup, navS_setKeys, identLookup, navS_nil]

theorem ex_navB : navS [.set] exB [.key "n", .key "s", .setKeys [("k", .arr .raw [.str "x"])]] =
    some (.obj [("k", .arr .raw [.str "x"])]) := by
  have h1 : (identOf [.set] (.str "d") == identOf [.set] (.obj [("k", .arr .raw [.str "x"])]))
      = false := by decide +kernel
  have h2 : (identOf [.set] (.str "b") == identOf [.set] (.obj [("k", .arr .raw [.str "x"])]))
      = false := by decide +kernel
  simp [exB, navS_key, alookup, navS_setKeys, identLookup, h1, h2, navS_nil]

example : ∀ h ∈ diffM [.set] exA exB,
    ¬ [PathElem.key "n", .key "s", .setKeys [("k", .arr .raw [.str "x"])]] <+: h.path :=
  diffM_equal_subdoc_not_mentioned (.inl ⟨rfl, rfl⟩) rfl rfl ex_docs.1 ex_docs.2.1 ex_docs.2.2.1
    ex_docs.2.2.2.1 (q := [.key "n", .key "s", .setKeys [("k", .arr .raw [.str "x"])]]) rfl
    ex_navA ex_navB (by decide +kernel) (DES.diffFaithful_of_check (by decide +kernel))

/-- `no_redundant_hunk` on the pair, both readings, whatever hunk is left out -/
example (d1 d2 : Diff) (h : Hunk) (hd : diffM [.set] exA exB = d1 ++ h :: d2) (sw : Bool) (r : Json)
    (hres : patchAll sw exA (d1 ++ d2) = .ok r) : equals [.set] r exB = false :=
  no_redundant_hunk (.inl ⟨rfl, rfl⟩) rfl rfl ex_docs.1 ex_docs.2.1 ex_docs.2.2.1 ex_docs.2.2.2.1
    ex_faithful_set d1 d2 h hd sw r hres

example (d1 d2 : Diff) (h : Hunk) (hd : diffM [.mset] exA exB = d1 ++ h :: d2) (sw : Bool) (r : Json)
    (hres : patchAll sw exA (d1 ++ d2) = .ok r) : equals [.mset] r exB = false :=
  no_redundant_hunk (.inr rfl) rfl rfl ex_docs.1 ex_docs.2.1 ex_docs.2.2.1 ex_docs.2.2.2.1
    ex_faithful_mset d1 d2 h hd sw r hres

-- the remaining hunks do apply on the example: the statement is not vacuous (leave out the first
-- hunk, or the last)
#eval (patchAll true exA ((diffM [.set] exA exB).drop 1)).isOk
#eval (patchAll true exA ((diffM [.set] exA exB).take 3)).isOk
#eval (patchAll true exA ((diffM [.mset] exA exB).drop 1)).isOk

/-- `c07_setmodes` on the pair -/
example := (c07_setmodes (o := [.set]) (.inl rfl) ex_docs.1 ex_docs.2.1 ex_docs.2.2.1
  ex_docs.2.2.2.1).2.2.2 ex_faithful_set
example := (c07_setmodes (o := [.mset]) (.inr rfl) ex_docs.1 ex_docs.2.1 ex_docs.2.2.1
  ex_docs.2.2.2.1).2.2.2 ex_faithful_mset

end Example

#print axioms hunk_real
#print axioms diffM_hunk_real
#print axioms diffM_set_hunk_members
#print axioms diffM_mset_hunk_members
#print axioms SetHunkReal.apart
#print axioms MsetHunkReal.apart
#print axioms SetHunkReal.no_counterpart
#print axioms MsetHunkReal.surplus
#print axioms HunkReal.nonempty
#print axioms HunkReal.not_equals
#print axioms equal_subdoc_not_mentioned
#print axioms diffM_equal_subdoc_not_mentioned
#print axioms equal_member_not_mentioned
#print axioms no_redundant_hunk
#print axioms no_redundant_hunk_hashFaithful
#print axioms c07_setmodes
#print axioms Witness.alias_diff
#print axioms Witness.equal_member_mentioned_alias
#print axioms Witness.redundant_hunk_alias
#print axioms Witness.redundant_hunk_fnv_collision
#print axioms Example.ex_docs
#print axioms Example.ex_faithful_set
#print axioms Example.ex_diff_ne

end Jd.RealS
