/-
  JdProofs.V1PatchRender (namespace `Jd.V1R`) — property C18 (v1 API `lib/`), JSON Patch half, LIST mode:

    the JSON Patch (RFC 6902) rendered by the v1 library from `a.Diff(b)`, evaluated by an
    independent RFC 6902 evaluator on `a`, yields `b`; reading it back with the v1 reader and
    patching `a` also yields `b`.

  Everything is about the LIBRARY functions of the v1 model: `V1.diffM`, `V1.renderPatchOps`
  (`Diff.RenderPatch`: `renderPatchHunk`, `writePointer`), `V1.readPatchLoop` / `readPatchHunk` /
  `readPointer` (`ReadPatchString`), `V1.patchP` / `patchM` (`Patch`, including the deferred
  string-or-integer decision `PElem.sori`), against the specification `Jd.Spec.eval`
  (JdSpec.Rfc6902). The leaf, navigation and pointer lemmas of the v2 proof (PatchRender,
  PatchParseBack) are used as they are.

  Domain = the domain of `V1P.v1_diff_patch_list` (JdProofs.V1ListDiffPatch):
    * metadata `ListMode m` (no SET / MULTISET / MERGE, precision 0; `setkeys` alone allowed);
    * `a`, `b`: `listDoc`, `wf`, `finiteNums`, `vfree` (why: see V1ListDiffPatch; `finiteNums` is
      also what makes the `test` of the rendered patch and the reader's `test`/`remove` value
      comparison succeed on the removed value itself);
    * `FloatLaws`, `IdxLaws N` with `lenLe N a` (list indices travel through float64: `Float` is
      opaque to the kernel); for the read-back additionally `N ≤ 2^63` (the index is printed in
      decimal and re-read by `strconv.Atoi`, whose round trip `PB.atoi?_toString` holds below
      2^63; IEEE-754 makes `IdxLaws N` true only for `N ≤ 2^53` anyway);
    * KEYS: the only object key v1 cannot express is "-" (`writePointer` returns an error for
      it: `render_refuses_dash`, concrete witness `Example.dash_key_refused`). The theorems assume
      `∀ h ∈ a.Diff(b), noDashP h.path` (no diff path holds the key "-"), which is NECESSARY AND
      SUFFICIENT for `RenderPatch` to succeed (`v1_render_ok_iff`), and follows from the decidable
      input condition `noDash a ∧ noDash b` (`noDash_diffM`; versions `…_noDash` of the theorems).
      Keys inside removed / added VALUES are unrestricted.
    * INTEGER-LOOKING KEYS ("0", "+5", "-1", "007" …: everything `strconv.Atoi` accepts) are NOT
      excluded: `writePointer` writes them as they are (escaped), the RFC evaluator resolves the
      token against an object as a member name; `readPointer` turns the token into a
      `jsonStringOrInteger` (`rtok`), which `jsonObject.patch` reads as the key (`rtok_key`) and
      `jsonList.patch` as the index (`rtok_idx`). The path of a diff hunk follows the structure of
      the document it was computed from, so an index token only ever meets a list and a key token an
      object (`patch_rpath`); both clauses are proved with such keys present (`Example.exA`, `exB`).

  Main results: `v1_render_patch_rfc` (clause 1: v1 emits the hunks of a list so that indices stay
  valid, and the evaluator is run on the ops in the emitted order, hunk by hunk, in lock step with
  `patchAll`: `diff_sim`), `v1_render_read_patch` (clause 2: the diff read back is
  `d.flatMap readBack` — a hunk with an old and a new value has become two diff elements, every
  integer-looking token a `jsonStringOrInteger` — and patching with it gives EXACTLY the document
  the original diff gives), `v1_render_ok_iff`.
  Section 1 is the bridge between the strict v1 patch on a key / index path and the reference
  interpreter `applyStrict`, in both directions (`patch_applyStrict`, `applyStrict_patch`, both by
  the steps of `patchNode_plain_induct`); the rendering uses the first, JdProofs.V1SetDiffPatch both.

  NOT covered here: the text layer around the ops (JdProofs.V1JsonText), set / multiset / merge
  metadata (C18's merge half is a different rendering), documents outside `Dom`.
-/
import JdModel
import JdSpec
import JdProofs.V1ListDiffPatch
import JdProofs.PointerText
import JdProofs.PatchRender
import JdProofs.PatchParseBack
import JdProofs.MergeProofs
import JdProofs.Eval

namespace Jd.V1R
open Jd Jd.Spec Jd.DPL Jd.V1P
open Jd.V1L (nodeList_mem idxE)

/-! ## 1. one v1 hunk in the reference semantics `applyStrict` -/

/-- a v1 path element as a v2 path element: the index a number denotes is `int(jn)` -/
def vpe : Json → PathElem
  | .str k => .key k
  | .num b => .idx (V1.floatToInt b)
  | _ => .set

def vpath (p : List Json) : Path := p.map vpe

/-- the values of a hunk side that are not the void marker -/
def nv (l : List Json) : List Json := l.filter (fun x => !x.isVoid)

/-- the v1 hunk as a context-free v2 hunk -/
def vh (q : Path) (old new : List Json) : Hunk := { path := q, remove := nv old, add := nv new }

theorem nv_of_void {l : List Json} (h1 : l.length ≤ 1) (hv : (Json.singleValue l).isVoid = true) :
    nv l = [] := by
  match l, h1 with
  | [], _ => rfl
  | [x], _ => simp only [Json.singleValue] at hv; simp [nv, hv]

theorem nv_of_nonvoid {l : List Json} (h1 : l.length ≤ 1)
    (hv : (Json.singleValue l).isVoid = false) :
    nv l = [Json.singleValue l] ∧ l = [Json.singleValue l] := by
  match l, h1 with
  | [], _ => simp [Json.singleValue, Json.isVoid] at hv
  | [x], _ => simp only [Json.singleValue] at hv; simp [nv, hv, Json.singleValue]

theorem single_nv {l : List Json} (h1 : l.length ≤ 1) : single (nv l) = Json.singleValue l := by
  cases hv : (Json.singleValue l).isVoid
  · rw [(nv_of_nonvoid h1 hv).1]; rfl
  · rw [nv_of_void h1 hv, Json.eq_void_of_isVoid hv]; rfl

theorem nv_length_le (l : List Json) : (nv l).length ≤ l.length := List.length_filter_le _ _

theorem listDocList_nv {l : List Json} (h : listDocList l = true) : listDocList (nv l) = true :=
  listDocList_iff.2 fun x hx => listDocList_iff.1 h x (List.mem_filter.1 hx).1

theorem untag_putKvs (k : String) (kvs : List (String × Json)) {v v' : Json}
    (h : untag v = untag v') :
    untag (.obj (Merge.putKvs k v kvs)) = untag (.obj (Merge.putKvs k v' kvs)) := by
  have := untag_objUpdate k kvs h
  unfold Merge.putKvs
  split at this <;> split at this <;> simp_all

theorem listDoc_putKvs (k : String) {kvs : List (String × Json)} {v : Json}
    (hk : listDocKvs kvs = true) (hv : v.listDoc = true) :
    (Json.obj (Merge.putKvs k v kvs)).listDoc = true :=
  listDocKvs_putKvs k hv hk

theorem getD_listDoc {k : String} {kvs : List (String × Json)} (hk : listDocKvs kvs = true) :
    ((alookup k kvs).getD .void).listDoc = true := by
  cases hl : alookup k kvs with
  | none => rfl
  | some c => exact alookup_listDoc hl hk

theorem untag_arr_congr (t t' : Tag) {xs ys : List Json} (h : xs = ys) :
    untag (.arr t xs) = untag (.arr t' ys) := by
  subst h; simp [untag]

theorem idxOf_of_lt {b : UInt64} {xs : List Json} {x : Json} (hx : xs[(idxOf b xs.length).toNat]? = some x) :
    idxOf b xs.length = V1.floatToInt b := by
  have hlt := V1P.lt_of_getElem? hx
  unfold idxOf at hlt ⊢
  split
  · rename_i h; rw [if_pos h] at hlt; omega
  · rfl

theorem plain_tail {e : Json} {r : List Json} (hp : plain (e :: r) = true) : plain r = true := by
  cases e <;> simp_all [plain]

theorem simple_of_plain {e : Json} {r : List Json} (hp : plain (e :: r) = true) :
    simple (.node e) = true := by
  cases e <;> simp_all [plain, simple]

/-- what a context-free splice that succeeds has done (`j`: the index, -1 read as the length) -/
theorem splice_inv {xs l : List Json} {i : Int} {H : Hunk} (hb : H.before = []) (hf : H.after = [])
    (h : splice xs i H = some l) :
    ((i == -1) = true → H.remove = []) ∧
    0 ≤ (if i == -1 then (xs.length : Int) else i) ∧
    (if i == -1 then (xs.length : Int) else i) ≤ (xs.length : Int) ∧
    prefixEq H.remove (xs.drop (if i == -1 then (xs.length : Int) else i).toNat) = true ∧
    l = xs.take (if i == -1 then (xs.length : Int) else i).toNat ++ H.add ++
      (xs.drop (if i == -1 then (xs.length : Int) else i).toNat).drop H.remove.length := by
  unfold splice at h
  by_cases hi : (i == -1) = true
  · simp only [hi, if_true] at h ⊢
    cases hr : H.remove with
    | nil =>
      simp only [hr, List.isEmpty_nil, if_true, Option.some.injEq] at h
      subst h
      refine ⟨fun _ => rfl, by omega, by omega, rfl, ?_⟩
      simp
    | cons r rs => simp [hr] at h
  · simp only [hi, Bool.false_eq_true, if_false] at h ⊢
    by_cases hr : (decide (i < 0) || decide (i > (xs.length : Int))) = true
    · simp [hr] at h
    · simp only [hr, Bool.false_eq_true, if_false, hb, hf, beforeOk, afterOk, Bool.and_true] at h
      simp only [Bool.or_eq_true, decide_eq_true_eq, not_or] at hr
      split at h
      · rename_i hp
        cases h
        exact ⟨False.elim, by omega, by omega, hp, rfl⟩
      · cases h

/-- one removed value against the list from index `k` on -/
theorem prefixEq_single_iff {o : Json} {xs : List Json} {k : Nat} :
    prefixEq [o] (xs.drop k) = true ↔ ∃ x, xs[k]? = some x ∧ specEq x o = true := by
  have hk : (xs.drop k)[0]? = xs[k]? := by simp
  cases hd : xs.drop k with
  | nil => rw [hd] at hk; simp [prefixEq, ← hk]
  | cons x r => rw [hd] at hk; simp [prefixEq, ← hk]

/-- **a context-free splice**, `j` the index with -1 read as the length: nothing is removed at -1, the
    index is in range, the removed values are what stands there -/
theorem splice_ctxfree {xs l : List Json} {i j : Int} {H : Hunk} (hb : H.before = [])
    (hf : H.after = []) (hj : (if i == -1 then (xs.length : Int) else i) = j) :
    splice xs i H = some l ↔
      ((i == -1) = true → H.remove = []) ∧ 0 ≤ j ∧ j ≤ (xs.length : Int) ∧
      prefixEq H.remove (xs.drop j.toNat) = true ∧
      l = xs.take j.toNat ++ H.add ++ (xs.drop j.toNat).drop H.remove.length := by
  subst hj
  refine ⟨splice_inv hb hf, ?_⟩
  rintro ⟨hm, h0, hl, hp, rfl⟩
  unfold splice
  by_cases hi : (i == -1) = true
  · simp [hi, hm hi]
  · simp only [hi, Bool.false_eq_true, if_false] at h0 hl hp ⊢
    have e2 : (decide (i < 0) || decide (i > (xs.length : Int))) = false := by
      simp only [Bool.or_eq_false_iff, decide_eq_false_iff_not]; omega
    simp [e2, hb, hf, beforeOk, afterOk, hp]

/-- **the index leaf**: `jsonList.patch` at the end of a path is the context-free splice of the
    hunk's values that are not the void marker -/
theorem listBody_nil_splice (q : Path) {old new : List Json} (h1 : old.length ≤ 1)
    (h2 : new.length ≤ 1)
    (hne : (Json.singleValue old).isVoid = false ∨ (Json.singleValue new).isVoid = false)
    (hlo : listDocList old = true) {xs : List Json} (hxs : listDocList xs = true) (b : UInt64)
    (r : Json) :
    listBody xs [] old new (idxOf b xs.length) = .ok r ↔
      ∃ l, splice xs (V1.floatToInt b) (vh q old new) = some l ∧ r = .arr .list l := by
  have hx' : ∀ x, xs[(idxOf b xs.length).toNat]? = some x → x.listDoc = true :=
    fun _ h => listDocList_getElem? hxs h
  have heq : ∀ {x}, xs[(idxOf b xs.length).toNat]? = some x →
      V1.equals [] x (Json.singleValue old) = specEq x (Json.singleValue old) :=
    fun h => v1_equals_eq_specEq ListMode.nil (hx' _ h) (singleValue_listDoc hlo)
  -- an element at the index: the index is not the append index
  have hin : ∀ {x}, xs[(idxOf b xs.length).toNat]? = some x →
      ¬ (V1.floatToInt b == -1) = true ∧ idxOf b xs.length ≤ (xs.length : Int) := by
    intro x hx
    have hlt := V1P.lt_of_getElem? hx
    refine ⟨fun hm => ?_, by omega⟩
    simp only [idxOf, hm, if_true, Int.toNat_natCast] at hlt
    omega
  simp only [splice_ctxfree (H := vh q old new) rfl rfl (j := idxOf b xs.length) rfl]
  cases hnv : (Json.singleValue new).isVoid with
  | true =>
    have hov : (Json.singleValue old).isVoid = false := hne.resolve_right (by rw [hnv]; simp)
    rw [listBody_nil_del xs old new _ r hx' h1 h2 hnv]
    simp only [show (vh q old new).remove = [Json.singleValue old] from (nv_of_nonvoid h1 hov).1,
      show (vh q old new).add = [] from nv_of_void h2 hnv, prefixEq_single_iff]
    constructor
    · rintro ⟨x, h0, hx, he, rfl⟩
      exact ⟨_, ⟨fun hm => absurd hm (hin hx).1, h0, (hin hx).2, ⟨x, hx, heq hx ▸ he⟩, rfl⟩,
        by rw [List.eraseIdx_eq_take_drop_succ]; simp⟩
    · rintro ⟨l, ⟨_, h0, _, ⟨x, hx, he⟩, rfl⟩, rfl⟩
      exact ⟨x, h0, hx, by rw [heq hx]; exact he, by rw [List.eraseIdx_eq_take_drop_succ]; simp⟩
  | false =>
    have ea : (vh q old new).add = [Json.singleValue new] := (nv_of_nonvoid h2 hnv).1
    cases hov : (Json.singleValue old).isVoid with
    | true =>
      rw [listBody_nil_ins xs old new _ r h1 h2 hnv hov]
      simp only [show (vh q old new).remove = [] from nv_of_void h1 hov, ea, prefixEq]
      constructor
      · rintro ⟨h0, hl, rfl⟩
        exact ⟨_, ⟨fun _ => trivial, h0, hl, trivial, rfl⟩, by simp⟩
      · rintro ⟨l, ⟨_, h0, hl, _, rfl⟩, rfl⟩
        exact ⟨h0, hl, by simp⟩
    | false =>
      rw [listBody_nil_rep xs old new _ r hx' h1 h2 hnv hov]
      simp only [show (vh q old new).remove = [Json.singleValue old] from (nv_of_nonvoid h1 hov).1,
        ea, prefixEq_single_iff]
      constructor
      · rintro ⟨x, h0, hx, he, rfl⟩
        have hlt := V1P.lt_of_getElem? hx
        exact ⟨_, ⟨fun hm => absurd hm (hin hx).1, h0, (hin hx).2, ⟨x, hx, heq hx ▸ he⟩, rfl⟩,
          by rw [List.set_eq_take_append_cons_drop]; simp [hlt]⟩
      · rintro ⟨l, ⟨_, h0, _, ⟨x, hx, he⟩, rfl⟩, rfl⟩
        have hlt := V1P.lt_of_getElem? hx
        exact ⟨x, h0, hx, by rw [heq hx]; exact he,
          by rw [List.set_eq_take_append_cons_drop]; simp [hlt]⟩

theorem idxOf_of_nonneg {b : UInt64} (n : Nat) (h0 : 0 ≤ V1.floatToInt b) :
    idxOf b n = V1.floatToInt b := by
  unfold idxOf
  split
  · rename_i hm; simp only [beq_iff_eq] at hm; omega
  · rfl

/-! The strict patch along a key / index path, one step at a time, as equations (an index followed
    by more path: as a characterisation of success). `patchNode_plain_induct` reads the steps from
    left to right, the converses (`applyStrict_patch`, `patch_split`) from right to left. -/

theorem patch_key (k : String) (rest : List Json) (kvs : List (String × Json))
    (old new : List Json) :
    V1.patchNode false (.obj kvs) (V1.liftPath (.str k :: rest)) old new =
      (V1.patchNode false ((alookup k kvs).getD .void) (V1.liftPath rest) old new >>= fun v =>
        .ok (.obj (Merge.putKvs k v kvs))) := by
  simp only [V1.liftPath, List.map_cons]
  rw [patchNode_obj (e := .node (.str k)) rfl]
  rfl

theorem patch_idx (b : UInt64) {e0 : Json} {r0 : List Json} (hp : plain (e0 :: r0) = true)
    {t : Tag} (ht : okTag t) (xs old new : List Json) (h1 : old.length ≤ 1) (h2 : new.length ≤ 1)
    (r : Json) :
    V1.patchNode false (.arr t xs) (V1.liftPath (.num b :: e0 :: r0)) old new = .ok r ↔
      ∃ x v, 0 ≤ V1.floatToInt b ∧ xs[(V1.floatToInt b).toNat]? = some x ∧
        V1.patchNode false x (V1.liftPath (e0 :: r0)) old new = .ok v ∧
        r = .arr .list (xs.set (V1.floatToInt b).toNat v) := by
  simp only [V1.liftPath, List.map_cons]
  rw [patchNode_arr (e := .node (.num b)) rfl ht xs _ old new h1 h2]
  simp only [V1.asIndexBits]
  rw [listBody_cons (simple_of_plain hp)]
  constructor
  · rintro ⟨x, v, h0, hx, hv, rfl⟩
    have hi := idxOf_of_lt hx
    rw [hi] at h0 hx ⊢
    exact ⟨x, v, h0, hx, hv, rfl⟩
  · rintro ⟨x, v, h0, hx, hv, rfl⟩
    rw [idxOf_of_nonneg _ h0]
    exact ⟨x, v, h0, hx, hv, rfl⟩

theorem patch_leaf (b : UInt64) {t : Tag} (ht : okTag t) (xs old new : List Json)
    (h1 : old.length ≤ 1) (h2 : new.length ≤ 1) :
    V1.patchNode false (.arr t xs) (V1.liftPath [.num b]) old new =
      listBody xs [] old new (idxOf b xs.length) := by
  simp only [V1.liftPath, List.map_cons, List.map_nil]
  rw [patchNode_arr (e := .node (.num b)) rfl ht xs _ old new h1 h2]
  rfl

/-- **the strict patch along a key / index path**, by induction on the path: the root; a key into
    an object; an index into a list followed by more path; an index at the end of the path. Nothing
    else succeeds on a list document. -/
theorem patchNode_plain_induct (old new : List Json) (h1 : old.length ≤ 1) (h2 : new.length ≤ 1)
    {motive : List Json → Json → Json → Prop}
    (root : ∀ n r, n.listDoc = true → V1.patchNode false n [] old new = .ok r → motive [] n r)
    (key : ∀ k rest kvs v, plain rest = true → listDocKvs kvs = true →
      V1.patchNode false ((alookup k kvs).getD .void) (V1.liftPath rest) old new = .ok v →
      motive rest ((alookup k kvs).getD .void) v →
      motive (.str k :: rest) (.obj kvs) (.obj (Merge.putKvs k v kvs)))
    (idx : ∀ b e0 r0 t xs x v, plain (e0 :: r0) = true → okTag t → listDocList xs = true →
      0 ≤ V1.floatToInt b → xs[(V1.floatToInt b).toNat]? = some x →
      V1.patchNode false x (V1.liftPath (e0 :: r0)) old new = .ok v → motive (e0 :: r0) x v →
      motive (.num b :: e0 :: r0) (.arr t xs) (.arr .list (xs.set (V1.floatToInt b).toNat v)))
    (leaf : ∀ b t xs r, okTag t → listDocList xs = true →
      listBody xs [] old new (idxOf b xs.length) = .ok r → motive [.num b] (.arr t xs) r) :
    ∀ (p : List Json) (n r : Json), plain p = true → n.listDoc = true →
      V1.patchNode false n (V1.liftPath p) old new = .ok r → motive p n r
  | [], n, r, _, hn, e => root n r hn e
  | .str k :: rest, n, r, hp, hn, e => by
    cases n with
    | obj kvs =>
      rw [patch_key, Outcome.bind_eq_ok] at e
      obtain ⟨v, hv, e⟩ := e
      cases e
      simp only [Json.listDoc] at hn
      exact key k rest kvs v (plain_tail hp) hn hv
        (patchNode_plain_induct old new h1 h2 root key idx leaf rest _ v (plain_tail hp)
          (getD_listDoc hn) hv)
    | arr t xs =>
      simp only [Json.listDoc, Bool.and_eq_true] at hn
      simp only [V1.liftPath, List.map_cons] at e
      rw [patchNode_arr (e := .node (.str k)) rfl hn.1 xs _ old new h1 h2] at e
      simp [V1.asIndexBits] at e
    | _ =>
      simp only [V1.liftPath, List.map_cons] at e
      rw [patchNode_other (e := .node (.str k)) rfl _ _ _ _ (by intro t xs h; cases h)
        (by intro kvs h; cases h)] at e
      cases e
  | .num b :: rest, n, r, hp, hn, e => by
    cases n with
    | obj kvs =>
      simp only [V1.liftPath, List.map_cons] at e
      rw [patchNode_obj (e := .node (.num b)) rfl] at e
      simp [V1.asKey] at e
    | arr t xs =>
      simp only [Json.listDoc, Bool.and_eq_true] at hn
      cases rest with
      | nil => exact leaf b t xs r hn.1 hn.2 (patch_leaf b hn.1 xs old new h1 h2 ▸ e)
      | cons e0 r0 =>
        obtain ⟨x, v, h0, hx, hv, rfl⟩ := (patch_idx b (plain_tail hp) hn.1 xs old new h1 h2 r).1 e
        exact idx b e0 r0 t xs x v (plain_tail hp) hn.1 hn.2 h0 hx hv
          (patchNode_plain_induct old new h1 h2 root key idx leaf (e0 :: r0) x v (plain_tail hp)
            (listDocList_getElem? hn.2 hx) hv)
    | _ =>
      simp only [V1.liftPath, List.map_cons] at e
      rw [patchNode_other (e := .node (.num b)) rfl _ _ _ _ (by intro t xs h; cases h)
        (by intro kvs h; cases h)] at e
      cases e

/-- **v1 patch ⇒ reference semantics.** Wherever `jsonNode.patch` (strict strategy) accepts a hunk
    with a key / index path on a list document, the reference interpreter accepts the
    corresponding context-free hunk, with the same result up to array tags; the result is again a
    list document. -/
theorem patch_applyStrict (q : Path) (old new : List Json) (h1 : old.length ≤ 1)
    (h2 : new.length ≤ 1)
    (hne : (Json.singleValue old).isVoid = false ∨ (Json.singleValue new).isVoid = false)
    (hlo : listDocList old = true) (hln : listDocList new = true) :
    ∀ (p : List Json) (n n' : Json), plain p = true → n.listDoc = true →
      V1.patchNode false n (V1.liftPath p) old new = .ok n' →
      ∃ n'', applyStrict n (vpath p) (vh q old new) = some n'' ∧ untag n'' = untag n' ∧
        n'.listDoc = true := by
  refine patchNode_plain_induct old new h1 h2 (motive := fun p n n' =>
    ∃ n'', applyStrict n (vpath p) (vh q old new) = some n'' ∧ untag n'' = untag n' ∧
      n'.listDoc = true) ?_ ?_ ?_ ?_
  · intro n n' hn e
    rw [patchNode_root n old new hn h1 h2] at e
    split at e
    · rename_i he
      cases e
      rw [v1_equals_eq_specEq ListMode.nil hn (singleValue_listDoc hlo)] at he
      refine ⟨Json.singleValue new, ?_, rfl, singleValue_listDoc hln⟩
      have l1 := nv_length_le old
      have l2 := nv_length_le new
      simp only [vpath, List.map_nil, applyStrict, vh, single_nv h1, single_nv h2, he, if_true]
      rw [if_neg]
      simp only [Bool.or_eq_true, decide_eq_true_eq, not_or]
      omega
    · cases e
  · rintro k rest kvs v _ hn _ ⟨v'', e1, e2, e3⟩
    refine ⟨.obj (Merge.putKvs k v'' kvs), ?_, untag_putKvs k kvs e2, listDoc_putKvs k hn e3⟩
    simp only [vpath, List.map_cons, vpe]
    rw [applyStrict_key]
    simp only [vpath] at e1
    rw [e1]; rfl
  · rintro b e0 r0 t xs x v _ _ hxs h0 hx _ ⟨v'', e1, e2, e3⟩
    have hlt := V1P.lt_of_getElem? hx
    refine ⟨.arr .raw (xs.set (V1.floatToInt b).toNat v''), ?_, untag_arrSet _ _ _ _ e2,
      by simpa [Json.listDoc] using listDocList_set hxs e3⟩
    simp only [vpath, List.map_cons, vpe] at e1 ⊢
    rw [applyStrict]
    · rw [if_neg (by omega), hx]
      simp only [e1, Option.map_some]
    · intro h; cases h
  · intro b t xs n' _ hxs e
    obtain ⟨l, hs, rfl⟩ := (listBody_nil_splice q h1 h2 hne hlo hxs b n').1 e
    simp only [vpath, List.map_cons, List.map_nil, vpe, applyStrict_idx_nil, hs, Option.map_some]
    exact ⟨_, rfl, untag_arr_congr _ _ rfl,
      by simpa [Json.listDoc] using splice_listDoc hs hxs (listDocList_nv hln)⟩


/-- **reference semantics ⇒ v1 patch**: the converse of `patch_applyStrict` -/
theorem applyStrict_patch (q : Path) (old new : List Json) (h1 : old.length ≤ 1)
    (h2 : new.length ≤ 1)
    (hne : (Json.singleValue old).isVoid = false ∨ (Json.singleValue new).isVoid = false)
    (hlo : listDocList old = true) (hln : listDocList new = true) :
    ∀ (p : List Json) (n n'' : Json), plain p = true → n.listDoc = true →
      applyStrict n (vpath p) (vh q old new) = some n'' →
      ∃ n', V1.patchNode false n (V1.liftPath p) old new = .ok n' ∧ untag n'' = untag n' ∧
        n'.listDoc = true
  | [], n, n'', _, hn, e => by
    simp only [vpath, List.map_nil, applyStrict, vh, single_nv h1, single_nv h2] at e
    split at e
    · cases e
    · split at e
      · rename_i he
        cases e
        refine ⟨Json.singleValue new, ?_, rfl, singleValue_listDoc hln⟩
        simp only [V1.liftPath, List.map_nil]
        rw [patchNode_root n old new hn h1 h2,
          v1_equals_eq_specEq ListMode.nil hn (singleValue_listDoc hlo), if_pos he]
      · cases e
  | .str k :: rest, n, n'', hp, hn, e => by
    simp only [vpath, List.map_cons, vpe] at e
    cases n with
    | obj kvs =>
      rw [applyStrict_key] at e
      simp only [Json.listDoc] at hn
      cases hv : applyStrict ((alookup k kvs).getD .void) (List.map vpe rest) (vh q old new) with
      | none => rw [hv] at e; cases e
      | some v'' =>
        rw [hv] at e
        cases e
        obtain ⟨v, e1, e2, e3⟩ := applyStrict_patch q old new h1 h2 hne hlo hln rest _ v''
          (plain_tail hp) (getD_listDoc hn) hv
        exact ⟨.obj (Merge.putKvs k v kvs), by rw [patch_key, e1]; rfl, untag_putKvs k kvs e2,
          listDoc_putKvs k hn e3⟩
    | _ => simp [applyStrict] at e
  | .num b :: rest, n, n'', hp, hn, e => by
    simp only [vpath, List.map_cons, vpe] at e
    cases n with
    | arr t xs =>
      simp only [Json.listDoc, Bool.and_eq_true] at hn
      cases rest with
      | cons e0 r0 =>
        simp only [List.map_cons] at e
        rw [applyStrict_idx_cons] at e
        split at e
        · cases e
        · rename_i h0
          cases hx : xs[(V1.floatToInt b).toNat]? with
          | none => rw [hx] at e; cases e
          | some x =>
            rw [hx] at e
            simp only at e
            cases hv : applyStrict x (vpe e0 :: List.map vpe r0) (vh q old new) with
            | none => rw [hv] at e; cases e
            | some v'' =>
              rw [hv] at e
              cases e
              obtain ⟨v, e1, e2, e3⟩ := applyStrict_patch q old new h1 h2 hne hlo hln (e0 :: r0) x v''
                (plain_tail hp) (listDocList_getElem? hn.2 hx) hv
              exact ⟨.arr .list (xs.set (V1.floatToInt b).toNat v),
                (patch_idx b (plain_tail hp) hn.1 xs old new h1 h2 _).2
                  ⟨x, v, by omega, hx, e1, rfl⟩,
                untag_arrSet _ _ _ _ e2,
                by simpa [Json.listDoc] using listDocList_set hn.2 e3⟩
      | nil =>
        simp only [List.map_nil] at e
        rw [applyStrict_idx_nil] at e
        simp only at e
        cases hsp : splice xs (V1.floatToInt b) (vh q old new) with
        | none => rw [hsp] at e; cases e
        | some l =>
          rw [hsp] at e
          cases e
          exact ⟨.arr .list l, by
              rw [patch_leaf b hn.1 xs old new h1 h2]
              exact (listBody_nil_splice q h1 h2 hne hlo hn.2 b _).2 ⟨l, hsp, rfl⟩,
            untag_arr_congr _ _ rfl,
            by simpa [Json.listDoc] using splice_listDoc hsp hn.2 (listDocList_nv hln)⟩
    | _ => cases rest <;> simp [applyStrict] at e


theorem nv_map_untag (l : List Json) : nv (l.map untag) = (nv l).map untag := by
  simp only [nv, List.filter_map]
  congr 2
  funext x
  simp [Function.comp, untag_isVoid]

theorem untagHunk_vh (q : Path) (old new : List Json) :
    Robust.untagHunk (vh q old new) = vh q (old.map untag) (new.map untag) := by
  simp [Robust.untagHunk, vh, nv_map_untag]

/-! ## 2. the v1 pointer layer: `writePointer`, RFC 6901 parsing, `readPointer` -/

/-- the reference token of a v1 path element: keys as they are (integer-looking or not), indices
    in decimal, `-` for the append index -1 -/
def tokOf : Json → String
  | .str s => s
  | .num b => idxTok (V1.floatToInt b)
  | _ => ""

def toks (p : List Json) : List String := p.map tokOf

theorem ptoks_vpath : ∀ {p : List Json}, plain p = true → ptoks (vpath p) = toks p
  | [], _ => rfl
  | .str k :: r, h => by
    have := ptoks_vpath (p := r) (by simpa [plain] using h)
    simp only [ptoks, vpath, toks] at this ⊢
    simp [vpe, elemTok, tokOf, this]
  | .num b :: r, h => by
    have := ptoks_vpath (p := r) (by simpa [plain] using h)
    simp only [ptoks, vpath, toks] at this ⊢
    simp [vpe, elemTok, tokOf, this]

/-- no path element is the key "-" (which `writePointer` refuses) -/
def noDashP : List Json → Bool
  | [] => true
  | .str s :: r => s != "-" && noDashP r
  | _ :: r => noDashP r

/-- the text `/esc(t₁)/esc(t₂)…` -/
def ptrText (tk : List String) : List Char := tk.flatMap (fun t => '/' :: escChars t.toList)

/-- `writePointer` accepts every key / index path without the key "-" and writes its tokens -/
theorem writePointer_plain : ∀ (p : List Json), plain p = true → noDashP p = true →
    ∃ s, V1.writePointer (V1.liftPath p) = .ok s ∧ s.toList = ptrText (toks p)
  | [], _, _ => ⟨"", rfl, rfl⟩
  | .str k :: r, hp, hd => by
    simp only [noDashP, Bool.and_eq_true, bne_iff_ne, ne_eq] at hd
    obtain ⟨rest, h1, h2⟩ := writePointer_plain r (by simpa [plain] using hp) hd.2
    refine ⟨"/" ++ ptrEscape k ++ rest, ?_, ?_⟩
    · simp only [V1.liftPath, List.map_cons] at h1 ⊢
      simp only [V1.writePointer, h1]
      rw [if_neg (by simpa using hd.1)]
    · simp [String.toList_append, ptrEscape_toList, h2, ptrText, toks, tokOf]
  | .num b :: r, hp, hd => by
    obtain ⟨rest, h1, h2⟩ := writePointer_plain r (by simpa [plain] using hp) (by simpa [noDashP] using hd)
    by_cases hi : (V1.floatToInt b == -1) = true
    · refine ⟨"/" ++ "-" ++ rest, ?_, ?_⟩
      · simp only [V1.liftPath, List.map_cons] at h1 ⊢
        simp only [V1.writePointer, h1, hi, if_true]
      · have : ("-" : String).toList = escChars ("-" : String).toList := by decide
        simp [String.toList_append, h2, ptrText, toks, tokOf, idxTok, hi, escChars]
    · refine ⟨"/" ++ ptrEscape (toString (V1.floatToInt b)) ++ rest, ?_, ?_⟩
      · simp only [V1.liftPath, List.map_cons] at h1 ⊢
        simp only [V1.writePointer, h1, hi, if_false, Bool.false_eq_true]
      · simp [String.toList_append, ptrEscape_toList, h2, ptrText, toks, tokOf, idxTok, hi]

theorem writePointer_tail {e : V1.PElem} {r : V1.PPath} {s : String}
    (h : V1.writePointer (e :: r) = .ok s) : ∃ rest, V1.writePointer r = .ok rest := by
  cases hw : V1.writePointer r with
  | ok rest => exact ⟨rest, rfl⟩
  | err =>
    exfalso
    unfold V1.writePointer at h
    simp only [hw] at h
    split at h <;> cases h
  | panic =>
    exfalso
    unfold V1.writePointer at h
    simp only [hw] at h
    split at h <;> cases h

/-- `writePointer` refuses a path holding the key "-" -/
theorem writePointer_dash (pre post : List Json) :
    ∀ s, V1.writePointer (V1.liftPath (pre ++ .str "-" :: post)) ≠ .ok s := by
  induction pre with
  | nil =>
    intro s
    simp only [List.nil_append, V1.liftPath, List.map_cons, V1.writePointer]
    simp
  | cons e pre ih =>
    intro s h
    simp only [List.cons_append, V1.liftPath, List.map_cons] at h ih
    obtain ⟨rest, hr⟩ := writePointer_tail h
    exact ih rest hr

/-- the element `readPointer` makes of a decoded token -/
def rtok (t : String) : V1.PElem :=
  if (atoi? t).isSome then .sori t
  else if t == "-" then .node V1.numNeg1
  else .node (.str t)

theorem readPointer_of_toList {s : String} {tk : List String} (h : s.toList = ptrText tk) :
    V1.readPointer s = .ok (tk.map rtok) := by
  unfold V1.readPointer
  cases tk with
  | nil =>
    have : s = "" := by apply String.toList_inj.1; simpa [ptrText] using h
    simp [this]
  | cons t r =>
    obtain ⟨hne, hsw⟩ := slash_first (rest := _) h
    obtain ⟨ht, hns⟩ := ptrText_toks h
    simp only [idxOf, hne, hsw, Bool.false_eq_true, if_false, Bool.not_true, splitOn_drop_of_toks ht hns,
      List.map_map]
    refine congrArg Outcome.ok (List.map_congr_left fun a _ => ?_)
    simp only [Function.comp, PB.ptrUnescape_esc, String.ofList_toList, rtok]

/-! ## 3. the rendered operations of one hunk -/

theorem remOpsOf_nv_single (s : String) (v : Json) :
    remOpsOf s (nv [v]) = if v.isVoid then []
      else [{ op := "test", path := s, value := v }, { op := "remove", path := s, value := v }] := by
  cases hv : v.isVoid <;> simp [nv, remOpsOf, hv]

theorem addOpsOf_nv_single (s : String) (v : Json) :
    addOpsOf s (nv [v]) = if v.isVoid then [] else [{ op := "add", path := s, value := v }] := by
  cases hv : v.isVoid <;> simp [nv, addOpsOf, hv]

/-- `renderPatchHunk` in closed form: the pointer, at most one value on each side and not both
    sides empty, then the v2 operation lists of the values that are not the void marker -/
theorem renderPatchHunk_ops (p : V1.PPath) (old new : List Json) :
    V1.renderPatchHunk { path := p, old := old, new := new } =
      (V1.writePointer p >>= fun s =>
        if old.length > 1 ∨ new.length > 1 ∨ (old.isEmpty && new.isEmpty) = true then .err
        else .ok (remOpsOf s (nv old) ++ addOpsOf s (nv new))) := by
  simp only [V1.renderPatchHunk]
  cases V1.writePointer p with
  | err => rfl
  | panic => rfl
  | ok s =>
    simp only [Outcome.bind_ok]
    rcases old with _ | ⟨o, _ | _⟩ <;> rcases new with _ | ⟨v, _ | _⟩ <;>
      simp [remOpsOf_nv_single, addOpsOf_nv_single, show nv [] = [] from rfl,
        show remOpsOf s [] = [] from rfl, show addOpsOf s [] = [] from rfl] <;> rfl

/-- a hunk that is rendered: its pointer is written and its operations are those of its values -/
theorem renderPatchHunk_inv {p : V1.PPath} {old new : List Json} {ops : List PatchOp}
    (e : V1.renderPatchHunk { path := p, old := old, new := new } = .ok ops) :
    ∃ s, V1.writePointer p = .ok s ∧
      ¬ (old.length > 1 ∨ new.length > 1 ∨ (old.isEmpty && new.isEmpty) = true) ∧
      ops = remOpsOf s (nv old) ++ addOpsOf s (nv new) := by
  rw [renderPatchHunk_ops] at e
  cases hw : V1.writePointer p with
  | err => rw [hw] at e; cases e
  | panic => rw [hw] at e; cases e
  | ok s =>
    rw [hw] at e
    simp only [Outcome.bind_ok] at e
    split at e
    · cases e
    · rename_i hg; cases e; exact ⟨s, rfl, hg, rfl⟩

theorem renderPatchOps_cons_inv {h : V1.PHunk} {d : V1.PDiff} {ops : List PatchOp}
    (e : V1.renderPatchOps (h :: d) = .ok ops) :
    ∃ a b, V1.renderPatchHunk h = .ok a ∧ V1.renderPatchOps d = .ok b ∧ ops = a ++ b := by
  simp only [V1.renderPatchOps] at e
  cases h1 : V1.renderPatchHunk h with
  | err => rw [h1] at e; cases e
  | panic => rw [h1] at e; cases e
  | ok a =>
    cases h2 : V1.renderPatchOps d with
    | err => rw [h1, h2] at e; cases e
    | panic => rw [h1, h2] at e; cases e
    | ok b => rw [h1, h2] at e; cases e; exact ⟨a, b, rfl, rfl, rfl⟩

theorem renderPatchOps_cons {h : V1.PHunk} {d : V1.PDiff} {a b : List PatchOp}
    (h1 : V1.renderPatchHunk h = .ok a) (h2 : V1.renderPatchOps d = .ok b) :
    V1.renderPatchOps (h :: d) = .ok (a ++ b) := by
  simp only [V1.renderPatchOps, h1, h2]; rfl

theorem renderPatchHunk_v1 {h : V1.Hunk} {s : String}
    (hs : V1.writePointer (V1.liftPath h.path) = .ok s) (h1 : h.old.length ≤ 1)
    (h2 : h.new.length ≤ 1)
    (hne : (Json.singleValue h.old).isVoid = false ∨ (Json.singleValue h.new).isVoid = false) :
    V1.renderPatchHunk h.toP = .ok (remOpsOf s (nv h.old) ++ addOpsOf s (nv h.new)) := by
  simp only [V1.Hunk.toP, renderPatchHunk_ops, hs, Outcome.bind_ok]
  rw [if_neg]
  rintro (h | h | h)
  · omega
  · omega
  · simp only [Bool.and_eq_true, List.isEmpty_iff] at h
    rw [h.1, h.2] at hne
    simp [Json.singleValue, Json.isVoid] at hne

theorem noVoid_nv (l : List Json) : noVoid (nv l) := by
  intro x hx
  simpa [nv] using (List.mem_filter.1 hx).2

theorem nv_sub {l : List Json} {x : Json} (hx : x ∈ nv l) : x ∈ l := (List.mem_filter.1 hx).1

theorem nv_isEmpty {old new : List Json} (h1 : old.length ≤ 1) (h2 : new.length ≤ 1)
    (hne : (Json.singleValue old).isVoid = false ∨ (Json.singleValue new).isVoid = false) :
    ((nv old).isEmpty && (nv new).isEmpty) = false := by
  rcases hne with h | h
  · rw [(nv_of_nonvoid h1 h).1]; rfl
  · rw [(nv_of_nonvoid h2 h).1]; simp

/-- the values of a hunk of a list-mode v1 diff: not both absent, the old value a finite well-formed
    list document that is not void, the new value a well-formed list document -/
structure HV (h : V1.Hunk) : Prop where
  ne : (Json.singleValue h.old).isVoid = false ∨ (Json.singleValue h.new).isVoid = false
  oldOK : ∀ o ∈ h.old, o.listDoc = true ∧ o.wf = true ∧ o.finiteNums = true ∧ o.isVoid = false
  newOK : ∀ v ∈ h.new, v.listDoc = true ∧ v.wf = true

/-- the hunks of the theorems (what a list-mode v1 diff of documents without the key "-" is made of):
    key / index path without the key "-", at most one old and one new value, the values as in `HV`,
    the new value the void marker only at the root -/
structure HK (h : V1.Hunk) : Prop extends HV h where
  hok : HOK h
  nodash : noDashP h.path = true
  newV : noVoid h.new ∨ h.path = []

theorem HK.listDocOld {h : V1.Hunk} (hk : HK h) : listDocList h.old = true :=
  listDocList_iff.2 (fun o ho => (hk.oldOK o ho).1)

theorem HK.listDocNew {h : V1.Hunk} (hk : HK h) : listDocList h.new = true :=
  listDocList_iff.2 (fun o ho => (hk.newOK o ho).1)

/-- **one hunk, RFC 6902.** If the v1 patch code accepts the hunk on `c`, the operations rendered
    for it evaluate (independent evaluator) on any document equal to `c` up to array tags, with the
    same result up to array tags; list-document-ness and well-formedness are kept. -/
theorem hunk_sim (L : FloatLaws) {h : V1.Hunk} (hk : HK h) {c c2 c1 : Json}
    (hc : c.listDoc = true) (hw : c.wf = true) (hu : untag c2 = untag c) (e : ap c h = .ok c1) :
    ∃ ops, V1.renderPatchHunk h.toP = .ok ops ∧ (∀ o ∈ ops, o.wfOp) ∧
      c1.listDoc = true ∧ c1.wf = true ∧
      ∃ r', eval c2 (ops.map PatchOp.toSpec) = some r' ∧ untag r' = untag c1 := by
  obtain ⟨s, hs, htl⟩ := writePointer_plain h.path hk.hok.plain hk.nodash
  have hp : parsePointer s = some (toks h.path) := parsePointer_of_toList htl
  refine ⟨_, renderPatchHunk_v1 hs hk.hok.old hk.hok.new hk.ne, ?_, ?_⟩
  · intro o ho
    rcases List.mem_append.1 ho with ho | ho
    · exact remOpsOf_wf _ _ o ho
    · exact addOpsOf_wf _ _ o ho
  obtain ⟨n'', e1, e2, e3⟩ := patch_applyStrict [] h.old h.new hk.hok.old hk.hok.new hk.ne
    hk.listDocOld hk.listDocNew h.path c c1 hk.hok.plain hc e
  have hwadd : wfList (vh [] h.old h.new).add = true :=
    wfList_iff.2 (fun x hx => (hk.newOK x (nv_sub hx)).2)
  have hw1 : c1.wf = true := by
    rw [← untag_wf, ← e2, untag_wf]
    exact applyStrict_wf hw hwadd e1
  refine ⟨e3, hw1, ?_⟩
  have hcg := applyStrict_untag_congr hu (vpath h.path) (vh [] h.old h.new)
  rw [e1] at hcg
  cases e4 : applyStrict c2 (vpath h.path) (vh [] h.old h.new) with
  | none => rw [e4] at hcg; cases hcg
  | some m =>
    rw [e4] at hcg
    simp only [Option.map_some, Option.some.injEq] at hcg
    have hw2 : c2.wf = true := by rw [← untag_wf, hu, untag_wf]; exact hw
    obtain ⟨r', e5, e6⟩ := hunkT_sim L hw2 (h := vh [] h.old h.new) (p := vpath h.path)
      ⟨noVoid_nv _, noVoid_nv _, rfl, rfl, hwadd,
        fun _ => ⟨Nat.le_trans (nv_length_le _) hk.hok.new, nofun, nofun⟩⟩
      (nv_isEmpty hk.hok.old hk.hok.new hk.ne) (Nat.zero_le 1) (Nat.zero_le 1) e4
    refine ⟨r', ?_, by rw [e6, hcg, e2]⟩
    rw [hunkT_noCtx rfl rfl, ptoks_vpath hk.hok.plain] at e5
    rw [eval_of_rep ((repL_rem hp _ (noVoid_nv _)).append (repL_add hp _ (noVoid_nv _)))]
    exact e5


/-! ## 4. a whole diff, RFC 6902 -/

theorem diff_sim (L : FloatLaws) :
    ∀ (d : V1.VDiff) {c c2 r : Json}, c.listDoc = true → c.wf = true → untag c2 = untag c →
      (∀ h ∈ d, HK h) → V1.patchAll c d = .ok r →
      ∃ ops, V1.renderPatchOps (V1.liftDiff d) = .ok ops ∧ (∀ o ∈ ops, o.wfOp) ∧
        r.listDoc = true ∧ r.wf = true ∧
        ∃ r', eval c2 (ops.map PatchOp.toSpec) = some r' ∧ untag r' = untag r
  | [], c, c2, r, hc, hw, hu, _, e => by
    simp only [patchAll_nil, Outcome.ok.injEq] at e
    subst e
    exact ⟨[], rfl, by simp, hc, hw, c2, rfl, hu⟩
  | h :: d, c, c2, r, hc, hw, hu, hd, e => by
    have hk := hd h List.mem_cons_self
    rw [patchAll_cons _ _ _ hk.hok] at e
    cases e1 : ap c h with
    | err => rw [e1] at e; cases e
    | panic => rw [e1] at e; cases e
    | ok c1 =>
      rw [e1] at e
      simp only [Outcome.bind_ok] at e
      obtain ⟨ops1, hr1, hwf1, hc1, hw1, r1, hev1, hu1⟩ := hunk_sim L hk hc hw hu e1
      obtain ⟨ops2, hr2, hwf2, hc2, hw2, r2, hev2, hu2⟩ := diff_sim L d hc1 hw1 hu1
        (fun h' hm => hd h' (List.mem_cons_of_mem _ hm)) e
      refine ⟨ops1 ++ ops2, ?_, ?_, hc2, hw2, r2, ?_, hu2⟩
      · exact renderPatchOps_cons hr1 hr2
      · intro o ho
        rcases List.mem_append.1 ho with ho | ho
        · exact hwf1 o ho
        · exact hwf2 o ho
      · rw [List.map_append, eval_append, hev1]
        exact hev2


/-! ## 5. the shape of the hunks of a list-mode v1 diff -/

mutual
/-- no object key is "-" (the one key `writePointer` refuses) -/
def noDash : Json → Bool
  | .arr _ xs => noDashL xs
  | .obj kvs => noDashK kvs
  | _ => true
def noDashL : List Json → Bool
  | [] => true
  | x :: r => noDash x && noDashL r
def noDashK : List (String × Json) → Bool
  | [] => true
  | (k, v) :: r => k != "-" && noDash v && noDashK r
end

theorem noDashL_eq_all (xs : List Json) : noDashL xs = xs.all noDash :=
  listP_eq_all rfl (fun _ _ => rfl) xs

theorem noDashK_eq_all (kvs : List (String × Json)) :
    noDashK kvs = kvs.all (fun kv => kv.1 != "-" && noDash kv.2) :=
  listP_eq_all rfl (fun _ _ => rfl) kvs

theorem noDashL_mem : ∀ {l : List Json} {x : Json}, noDashL l = true → x ∈ l → noDash x = true :=
  fun h hx => List.all_eq_true.1 (noDashL_eq_all _ ▸ h) _ hx

theorem noDashK_mem {l : List (String × Json)} {k : String} {v : Json} (h : noDashK l = true)
    (hx : (k, v) ∈ l) : k ≠ "-" ∧ noDash v = true := by
  have := List.all_eq_true.1 (noDashK_eq_all _ ▸ h) (k, v) hx
  simpa only [Bool.and_eq_true, bne_iff_ne, ne_eq] using this

theorem noDashP_single_num (b : UInt64) : noDashP [Json.num b] = true := rfl

theorem dom_vals {x : Json} (h : Dom x) :
    x.listDoc = true ∧ x.wf = true ∧ x.finiteNums = true :=
  ⟨h.good.listDoc, h.good.wf, h.good.fin⟩

/-- every hunk of `a.Diff(b)` has `HV`, and its new side holds no void marker unless it is the root
    hunk against "no document". For a document `b` this is `V1L.diff_parts` at "a document of the
    domain that is not void"; against "no document" the diff is one hunk at the root. -/
theorem diff_shape (m : V1.Metas) (hm : ListMode m) (a b : Json) (ha1 : a.listDoc = true)
    (hb1 : b.listDoc = true) (ha : Dom a) (hb : Dom b) :
    ∀ h ∈ V1.diffNode m false a b [], HV h ∧ (noVoid h.new ∨ h.path = []) := by
  intro h hmem
  cases hbv : b.isVoid with
  | false =>
    have g := (V1L.diff_parts (fun v => Dom v ∧ v.isVoid = false) (fun _ => True)
      (fun p hx => (dom_arr.1 p.1).2.of_mem hx)
      (fun p hx => ⟨trivial, (dom_obj.1 p.1).2.of_mem hx⟩)
      (fun p => ⟨dom_arr.2 ⟨rfl, (dom_arr.1 p.1).2⟩, rfl⟩) m hm.tag) a b ha1 hb1
      (fun hv => ⟨ha, hv⟩) ⟨hb, hbv⟩ h hmem
    refine ⟨⟨?_, fun o ho => ⟨(dom_vals (g.old o ho).1).1, (dom_vals (g.old o ho).1).2.1,
        (dom_vals (g.old o ho).1).2.2, (g.old o ho).2⟩,
      fun v hv => ⟨(dom_vals (g.new v hv).1).1, (dom_vals (g.new v hv).1).2.1⟩⟩,
      .inl fun v hv => (g.new v hv).2⟩
    have hne := g.ne (fun v pv => pv.2)
    cases ho : h.old with
    | cons o _ => exact .inl (g.old o (by rw [ho]; exact List.mem_cons_self)).2
    | nil =>
      cases hn : h.new with
      | cons n _ => exact .inr (g.new n (by rw [hn]; exact List.mem_cons_self)).2
      | nil => exact absurd ⟨ho, hn⟩ hne
  | true =>
    cases Json.eq_void_of_isVoid hbv
    have root : ∀ {o : Json} {n : List Json}, Dom o → o.isVoid = false → (∀ v ∈ n, v = Json.void) →
        h = { path := [], old := [o], new := n } → HV h ∧ (noVoid h.new ∨ h.path = []) := by
      rintro o n ho hv hn rfl
      refine ⟨⟨.inl hv, fun o' h' => ?_, fun v h' => ?_⟩, .inr rfl⟩
      · cases List.mem_singleton.1 h'
        exact ⟨(dom_vals ho).1, (dom_vals ho).2.1, (dom_vals ho).2.2, hv⟩
      · rw [hn v h']; exact ⟨(dom_vals hb).1, (dom_vals hb).2.1⟩
    cases a with
    | arr t xs =>
      rw [V1L.diffNode_arr_other hm.tag xs .void (dom_arr.1 ha).1
        (.inl (fun _ _ e => by cases e))] at hmem
      exact root (dom_arr.2 ⟨rfl, (dom_arr.1 ha).2⟩) rfl (fun _ hv => by cases hv)
        (List.mem_singleton.1 hmem)
    | obj kvs =>
      rw [V1P.diffNode_obj_other m kvs .void (fun _ e => by cases e)] at hmem
      exact root ha rfl (fun _ hv => List.mem_singleton.1 hv) (List.mem_singleton.1 hmem)
    | void =>
      rw [V1P.diffNode_scalar m _ _ (fun _ _ e => by cases e) (fun _ e => by cases e)] at hmem
      simp [V1.diffCommon, V1.equals, Json.isVoid] at hmem
    | _ =>
      rw [V1P.diffNode_scalar m _ _ (fun _ _ e => by cases e) (fun _ e => by cases e)] at hmem
      unfold V1.diffCommon at hmem
      split at hmem
      · cases hmem
      · simp only [Bool.false_eq_true, if_false, List.mem_singleton] at hmem
        exact root ha rfl (fun _ hv => by cases hv) hmem


/-! ## 6. reading back: the path `readPointer` makes is as good as the original one -/

/-- the path `readPointer` makes of the pointer written for `p` -/
def rpath (p : List Json) : V1.PPath := (toks p).map rtok

theorem rpath_cons (e : Json) (p : List Json) : rpath (e :: p) = rtok (tokOf e) :: rpath p := rfl

/-- a key token is read as a `jsonStringOrInteger` when it looks like an integer, as a string
    otherwise: either way `jsonObject.patch` uses it as the key -/
theorem rtok_key {k : String} (hk : k ≠ "-") :
    simple (rtok k) = true ∧ V1.asKey (rtok k) = some k := by
  unfold rtok
  split
  · exact ⟨rfl, rfl⟩
  · rw [if_neg (by simpa using hk)]; exact ⟨rfl, rfl⟩

/-- an index token is read as `-1` for `-` and as a `jsonStringOrInteger` otherwise, which
    `jsonList.patch` turns into the same `float64` -/
theorem rtok_idx {N : Nat} (I : IdxLaws N) (hN : N ≤ 2 ^ 63) {b : UInt64}
    (hb : idxE N (.num b)) :
    simple (rtok (tokOf (.num b))) = true ∧ V1.asIndexBits (rtok (tokOf (.num b))) = some b := by
  rcases hb b rfl with h | ⟨k, hk, h⟩
  · have hbits : b = (Float.ofInt (-1)).toBits := by
      simpa [V1.numNeg1] using h
    have : tokOf (.num b) = "-" := by
      simp only [tokOf, hbits, I.neg1, idxTok]; rfl
    rw [this]
    have e1 : rtok "-" = .node V1.numNeg1 := by
      unfold rtok
      rw [if_neg (by decide), if_pos (by decide)]
    rw [e1]
    exact ⟨rfl, by simp [V1.numNeg1, V1.asIndexBits, hbits]⟩
  · have hbits : b = (Float.ofNat k).toBits := by
      simpa [V1.numOfNat] using h
    have hne : ((k : Int) == -1) = false := natCast_beq_neg1 k
    have : tokOf (.num b) = toString (k : Int) := by
      simp only [tokOf, hbits, I.nat k hk, idxTok, hne, Bool.false_eq_true, if_false]
    rw [this]
    have hat : atoi? (toString (k : Int)) = some (k : Int) :=
      PB.atoi?_toString (by omega) (by
        have : (k : Int) < ((2 ^ 63 : Nat) : Int) := by exact_mod_cast Nat.lt_of_lt_of_le hk hN
        simpa using this)
    have e1 : rtok (toString (k : Int)) = .sori (toString (k : Int)) := by
      unfold rtok
      rw [if_pos (by rw [hat]; rfl)]
    rw [e1]
    refine ⟨rfl, ?_⟩
    simp only [V1.asIndexBits, hat, Option.map_some, hbits]
    rfl

theorem rtok_simple {N : Nat} (I : IdxLaws N) (hN : N ≤ 2 ^ 63) {e : Json} {r : List Json}
    (hp : plain (e :: r) = true) (hd : noDashP (e :: r) = true) (hi : V1L.idxP N (e :: r)) :
    simple (rtok (tokOf e)) = true := by
  cases e with
  | str k =>
    simp only [noDashP, Bool.and_eq_true, bne_iff_ne, ne_eq] at hd
    exact (rtok_key hd.1).1
  | num b => exact (rtok_idx I hN (hi _ List.mem_cons_self)).1
  | _ => simp [plain] at hp

theorem noDashP_tail {e : Json} {r : List Json} (hp : noDashP (e :: r) = true) :
    noDashP r = true := by
  cases e <;> simp_all [noDashP]

theorem idxP_tail {N : Nat} {e : Json} {r : List Json} (hp : V1L.idxP N (e :: r)) : V1L.idxP N r :=
  fun x hx => hp x (List.mem_cons_of_mem _ hx)

/-- **the path read back patches like the original path**: wherever the strict patch succeeds
    along the path of a diff, it succeeds with the same result along the path that `readPointer`
    makes of the pointer `writePointer` wrote (integer-looking tokens are `jsonStringOrInteger`s,
    read as keys by objects and as indices by lists) -/
theorem patch_rpath {N : Nat} (I : IdxLaws N) (hN : N ≤ 2 ^ 63) (old new : List Json)
    (h1 : old.length ≤ 1) (h2 : new.length ≤ 1) :
    ∀ (p : List Json) (n r : Json), plain p = true → noDashP p = true → V1L.idxP N p →
      n.listDoc = true →
      V1.patchNode false n (V1.liftPath p) old new = .ok r →
      V1.patchNode false n (rpath p) old new = .ok r := by
  intro p n r hp hd hi hn e
  refine patchNode_plain_induct old new h1 h2 (motive := fun p n r => plain p = true →
    noDashP p = true → V1L.idxP N p → V1.patchNode false n (rpath p) old new = .ok r)
    ?_ ?_ ?_ ?_ p n r hp hn e hp hd hi
  · intro n r _ e _ _ _; exact e
  · intro k rest kvs v _ _ _ ih _ hd hi
    simp only [noDashP, Bool.and_eq_true, bne_iff_ne, ne_eq] at hd
    obtain ⟨hs', hk'⟩ := rtok_key hd.1
    rw [rpath_cons, tokOf, patchNode_obj hs', hk']
    simp only [ih ‹_› hd.2 (idxP_tail hi), Outcome.bind_ok]
  · intro b e0 r0 t xs x v hp0 ht _ h0 hx _ ih hp hd hi
    obtain ⟨hs', hb'⟩ := rtok_idx I hN (hi _ List.mem_cons_self)
    have hlt := V1P.lt_of_getElem? hx
    rw [rpath_cons, patchNode_arr hs' ht xs _ old new h1 h2, hb', rpath_cons,
      listBody_cons (rtok_simple I hN hp0 (noDashP_tail hd) (idxP_tail hi))]
    have hne : (V1.floatToInt b == -1) = false := by
      simp only [beq_eq_false_iff_ne, ne_eq]; omega
    simp only [idxOf, hne, Bool.false_eq_true, if_false]
    exact ⟨x, v, h0, hx, ih hp0 (noDashP_tail hd) (idxP_tail hi), rfl⟩
  · intro b t xs r ht _ e _ _ hi
    obtain ⟨hs', hb'⟩ := rtok_idx I hN (hi _ List.mem_cons_self)
    rw [rpath_cons, patchNode_arr hs' ht xs _ old new h1 h2, hb']
    exact e


/-! ## 7. reading back: a replacement is read as a removal followed by an addition -/

theorem wf_getD {k : String} {kvs : List (String × Json)} (h : wfKvs kvs = true) :
    ((alookup k kvs).getD .void).wf = true := by
  cases hl : alookup k kvs with
  | none => rfl
  | some c => exact alookup_wf hl h

theorem set_eq_insert_erase {xs : List Json} {k : Nat} (hk : k < xs.length) (v : Json) :
    xs.set k v = (xs.eraseIdx k).take k ++ v :: (xs.eraseIdx k).drop k := by
  rw [List.set_eq_take_append_cons_drop, if_pos hk, List.eraseIdx_eq_take_drop_succ]
  have h1 : (List.take k xs).length = k := by simp; omega
  rw [List.take_left' h1, List.drop_left' h1]

/-- **a replacement hunk = its removal then its addition** (what `ReadPatchString` makes of the
    `test`, `remove`, `add` triple rendered for it), on well-formed list documents -/
theorem patch_split (o v : Json) (ho : o.isVoid = false) (hv : v.isVoid = false) :
    ∀ (p : List Json) (n r : Json), plain p = true → n.listDoc = true → n.wf = true →
      V1.patchNode false n (V1.liftPath p) [o] [v] = .ok r →
      ∃ n1, V1.patchNode false n (V1.liftPath p) [o] [] = .ok n1 ∧
        V1.patchNode false n1 (V1.liftPath p) [] [v] = .ok r := by
  intro p n r hp hn hw e
  have l1 : ∀ x : Json, [x].length ≤ 1 := fun _ => Nat.le_refl 1
  have l0 : ([] : List Json).length ≤ 1 := Nat.zero_le 1
  refine patchNode_plain_induct [o] [v] (l1 o) (l1 v) (motive := fun p n r => n.wf = true →
    ∃ n1, V1.patchNode false n (V1.liftPath p) [o] [] = .ok n1 ∧
      V1.patchNode false n1 (V1.liftPath p) [] [v] = .ok r) ?_ ?_ ?_ ?_ p n r hp hn e hw
  · intro n r hn e _
    rw [patchNode_root n [o] [v] hn (l1 o) (l1 v)] at e
    split at e
    · rename_i he
      cases e
      refine ⟨.void, ?_, ?_⟩
      · rw [V1.liftPath, List.map_nil, patchNode_root n [o] [] hn (l1 o) l0, if_pos he]; rfl
      · rw [V1.liftPath, List.map_nil, patchNode_root .void [] [v] rfl l0 (l1 v), equals_void_left]; rfl
    · cases e
  · intro k rest kvs c' _ hn _ ih hw
    simp only [Json.wf, Bool.and_eq_true] at hw
    obtain ⟨c1, e1, e2⟩ := ih (wf_getD hw.2)
    refine ⟨.obj (Merge.putKvs k c1 kvs), by rw [patch_key, e1]; rfl, ?_⟩
    rw [patch_key, show (alookup k (Merge.putKvs k c1 kvs)).getD .void = c1 from
      Merge.getK_putKvs_self k c1 hw.1, e2]
    simp only [Outcome.bind_ok, Merge.putKvs_putKvs k c' c1 hw.1]
  · intro b e0 r0 t xs x c' hp0 ht hxs h0 hx _ ih hw
    have hlt := V1P.lt_of_getElem? hx
    simp only [Json.wf] at hw
    obtain ⟨c1, e1, e2⟩ := ih (wfList_iff.1 hw _ (List.mem_of_getElem? hx))
    exact ⟨.arr .list (xs.set (V1.floatToInt b).toNat c1),
      (patch_idx b hp0 ht xs _ _ (l1 o) l0 _).2 ⟨x, c1, h0, hx, e1, rfl⟩,
      (patch_idx b hp0 (t := .list) rfl _ _ _ l0 (l1 v) _).2
        ⟨c1, c', h0, List.getElem?_set_self hlt, e2, by rw [List.set_set]⟩⟩
  · intro b t xs r ht hxs e _
    rw [listBody_nil_rep xs [o] [v] _ _ (fun _ h => listDocList_getElem? hxs h) (l1 o) (l1 v) hv ho] at e
    obtain ⟨x, h0, hx, he, rfl⟩ := e
    have hi := idxOf_of_lt hx
    rw [hi] at h0 hx ⊢
    have hlt := V1P.lt_of_getElem? hx
    refine ⟨.arr .list (xs.eraseIdx (V1.floatToInt b).toNat), ?_, ?_⟩
    · rw [patch_leaf b ht xs _ _ (l1 o) l0, hi,
        listBody_nil_del xs [o] [] _ _ (fun _ h => listDocList_getElem? hxs h) (l1 o) l0 rfl]
      exact ⟨x, h0, hx, he, rfl⟩
    · rw [patch_leaf b (t := .list) rfl _ _ _ l0 (l1 v), idxOf_of_nonneg _ h0,
        listBody_nil_ins _ [] [v] _ _ l0 (l1 v) hv rfl]
      refine ⟨h0, ?_, ?_⟩
      · rw [List.length_eraseIdx, if_pos hlt]; omega
      · simp only [Json.singleValue]
        rw [set_eq_insert_erase hlt]


/-! ## 8. `ReadPatchString` (element loop) on the rendered operations -/

/-- `ops` is read by `readPatchDiffElement` as the diff `d`: a `test`/`remove` pair with equal
    values is a removal, an `add` an addition, each a diff element of its own -/
inductive Reads : List PatchOp → V1.PDiff → Prop where
  | nil : Reads [] []
  | del {s : String} {p : V1.PPath} {o : Json} {ops : List PatchOp} {d : V1.PDiff} :
      V1.readPointer s = .ok p → V1.equals [] o o = true → Reads ops d →
      Reads ({ op := "test", path := s, value := o } :: { op := "remove", path := s, value := o } :: ops)
        ({ path := p, old := [o] } :: d)
  | add {s : String} {p : V1.PPath} {v : Json} {ops : List PatchOp} {d : V1.PDiff} :
      V1.readPointer s = .ok p → Reads ops d →
      Reads ({ op := "add", path := s, value := v } :: ops) ({ path := p, new := [v] } :: d)

theorem Reads.append {a b : List PatchOp} {c d : V1.PDiff} (h1 : Reads a c) (h2 : Reads b d) :
    Reads (a ++ b) (c ++ d) := by
  induction h1 with
  | nil => exact h2
  | del hp he _ ih => exact .del hp he ih
  | add hp _ ih => exact .add hp ih

theorem Reads.length_le {ops : List PatchOp} {d : V1.PDiff} (h : Reads ops d) :
    d.length ≤ ops.length := by
  induction h with
  | nil => exact Nat.le_refl _
  | del _ _ _ ih => simp only [List.length_cons]; omega
  | add _ _ ih => simp only [List.length_cons]; omega

theorem Reads.loop {ops : List PatchOp} {d : V1.PDiff} (h : Reads ops d) :
    ∀ (fuel : Nat) (acc : V1.PDiff), d.length < fuel →
      V1.readPatchLoop fuel ops acc = .ok (acc ++ d) := by
  induction h with
  | nil =>
    intro fuel acc hf
    cases fuel with
    | zero => omega
    | succ f => simp [V1.readPatchLoop]
  | @del s p o ops d hp he _ ih =>
    intro fuel acc hf
    cases fuel with
    | zero => omega
    | succ f =>
      simp only [List.length_cons] at hf
      have e : V1.readPatchHunk ({ op := "test", path := s, value := o } ::
          { op := "remove", path := s, value := o } :: ops) =
          .ok ({ path := p, old := [o] }, ops) := by
        simp [V1.readPatchHunk, hp, he]
      simp only [V1.readPatchLoop, e]
      rw [ih f _ (by omega)]
      simp
  | @add s p v ops d hp _ ih =>
    intro fuel acc hf
    cases fuel with
    | zero => omega
    | succ f =>
      simp only [List.length_cons] at hf
      have e : V1.readPatchHunk ({ op := "add", path := s, value := v } :: ops) =
          .ok ({ path := p, new := [v] }, ops) := by
        have : ("add" == "test") = false := by decide
        simp [V1.readPatchHunk, hp, this]
      simp only [V1.readPatchLoop, e]
      rw [ih f _ (by omega)]
      simp

/-- what `ReadPatchString` makes of the operations rendered for one hunk -/
def readBack (h : V1.Hunk) : V1.PDiff :=
  (nv h.old).map (fun o => { path := rpath h.path, old := [o] }) ++
    (nv h.new).map (fun v => { path := rpath h.path, new := [v] })

theorem reads_hunk (L : FloatLaws) {h : V1.Hunk} (hk : HK h) {s : String}
    (hs : V1.readPointer s = .ok (rpath h.path)) :
    Reads (remOpsOf s (nv h.old) ++ addOpsOf s (nv h.new)) (readBack h) := by
  unfold readBack
  apply Reads.append
  · rw [remOpsOf_eq (noVoid_nv _)]
    have : ∀ l : List Json, (∀ o ∈ l, V1.equals [] o o = true) →
        Reads (l.flatMap (fun e => [({ op := "test", path := s, value := e } : PatchOp),
          { op := "remove", path := s, value := e }]))
          (l.map (fun o => ({ path := rpath h.path, old := [o] } : V1.PHunk))) := by
      intro l hl
      induction l with
      | nil => exact .nil
      | cons o r ih =>
        simp only [List.flatMap_cons, List.map_cons, List.cons_append, List.nil_append]
        exact .del hs (hl o List.mem_cons_self) (ih (fun o' ho' => hl o' (List.mem_cons_of_mem _ ho')))
    apply this
    intro o ho
    obtain ⟨h1, h2, h3, _⟩ := hk.oldOK o (nv_sub ho)
    exact v1_equals_refl L ListMode.nil o h1 h2 h3
  · rw [addOpsOf_eq (noVoid_nv _)]
    have hlen : (nv h.new).length ≤ 1 := Nat.le_trans (nv_length_le _) hk.hok.new
    match hn : nv h.new, hlen with
    | [], _ => exact .nil
    | [v], _ => exact .add hs .nil


/-! ## 9. patching with what was read back -/

theorem patchAllP_cons_ok {n n' : Json} {hp : V1.PHunk} {d : V1.PDiff}
    (hm : V1.pathIsMerge hp.path = false)
    (e : V1.patchNode false n hp.path hp.old hp.new = .ok n') :
    V1.patchAllP n (hp :: d) = V1.patchAllP n' d := by
  simp only [V1.patchAllP, hm, e]

theorem patchAllP_append (n : Json) (d1 d2 : V1.PDiff) :
    V1.patchAllP n (d1 ++ d2) = (V1.patchAllP n d1 >>= fun n' => V1.patchAllP n' d2) := by
  induction d1 generalizing n with
  | nil => rfl
  | cons h d ih =>
    simp only [List.cons_append, V1.patchAllP]
    cases V1.patchNode (V1.pathIsMerge h.path) n h.path h.old h.new with
    | ok n' => exact ih n'
    | err => rfl
    | panic => rfl

theorem pathIsMerge_rpath {N : Nat} (I : IdxLaws N) (hN : N ≤ 2 ^ 63) {p : List Json}
    (hp : plain p = true) (hd : noDashP p = true) (hi : V1L.idxP N p) :
    V1.pathIsMerge (rpath p) = false := by
  cases p with
  | nil => rfl
  | cons e r => rw [rpath_cons]; exact pathIsMerge_simple (rtok_simple I hN hp hd hi) _

theorem nv_of_noVoid {l : List Json} (h : noVoid l) : nv l = l := by
  unfold nv
  rw [List.filter_eq_self]
  intro x hx
  simp [h x hx]

/-- **one hunk, read back.** If the v1 patch code accepts the hunk on `c`, it accepts, with the
    same result, the one or two diff elements that `ReadPatchString` makes of the operations
    rendered for the hunk. -/
theorem hunk_readBack {N : Nat} (I : IdxLaws N) (hN : N ≤ 2 ^ 63) {h : V1.Hunk} (hk : HK h)
    (hi : V1L.idxP N h.path) {c c1 : Json} (hc : c.listDoc = true) (hw : c.wf = true)
    (e : ap c h = .ok c1) : V1.patchAllP c (readBack h) = .ok c1 := by
  have hm := pathIsMerge_rpath I hN hk.hok.plain hk.nodash hi
  have hvo : noVoid h.old := fun o ho => (hk.oldOK o ho).2.2.2
  have hne := hk.ne
  have hnewV := hk.newV
  have hoOK := hk.oldOK
  -- one element of the diff read back, from the strict patch along the original path
  have step : ∀ {n n' : Json} {o' v' : List Json} (d : V1.PDiff), n.listDoc = true →
      o'.length ≤ 1 → v'.length ≤ 1 → V1.patchNode false n (V1.liftPath h.path) o' v' = .ok n' →
      V1.patchAllP n ({ path := rpath h.path, old := o', new := v' } :: d) = V1.patchAllP n' d :=
    fun d hn l1 l2 e' => patchAllP_cons_ok hm
      (patch_rpath I hN _ _ l1 l2 _ _ _ hk.hok.plain hk.nodash hi hn e')
  obtain ⟨p, old, new⟩ := h
  simp only [ap, readBack] at e hne hnewV hoOK step hvo ⊢
  rw [nv_of_noVoid hvo]
  have h1 := hk.hok.old
  have h2 := hk.hok.new
  rcases old with _ | ⟨o, _ | _⟩ <;> rcases new with _ | ⟨v, _ | _⟩ <;>
    simp only [List.length_cons, List.length_nil] at h1 h2 <;> try omega
  · rcases hne with h | h <;> simp [Json.singleValue, Json.isVoid] at h
  · have hv : v.isVoid = false := by
      rcases hne with h | h
      · simp [Json.singleValue, Json.isVoid] at h
      · exact h
    rw [nv_of_noVoid (by simpa [noVoid] using hv)]
    exact (step [] hc (by simp) (by simp) e).trans rfl
  · exact (step [] hc (by simp) (by simp) e).trans rfl
  · have ho : o.isVoid = false := hvo o List.mem_cons_self
    cases hv : v.isVoid with
    | false =>
      rw [nv_of_noVoid (by simpa [noVoid] using hv)]
      obtain ⟨n1, e1, e2⟩ := patch_split o v ho hv _ c c1 hk.hok.plain hc hw e
      have hn1 : n1.listDoc = true := by
        obtain ⟨_, _, _, h3⟩ := patch_applyStrict [] [o] [] (by simp) (by simp) (.inl ho)
          (by simpa [listDocList] using (hoOK o List.mem_cons_self).1) rfl _ c n1 hk.hok.plain hc e1
        exact h3
      exact (step _ hc (by simp) (by simp) e1).trans ((step [] hn1 (by simp) (by simp) e2).trans rfl)
    | true =>
      -- a void marker as new value: only at the root, where the removal alone leaves "no document"
      have hp : p = [] := by
        rcases hnewV with h | h
        · have := h v List.mem_cons_self; rw [hv] at this; cases this
        · exact h
      subst hp
      have hnv : nv [v] = [] := by simp [nv, hv]
      rw [hnv]
      simp only [V1.liftPath, List.map_nil] at e step
      rw [patchNode_root c [o] [v] hc (by simp) (by simp)] at e
      split at e
      · rename_i he
        cases e
        refine (step (n' := .void) [] hc (by simp) (by simp) ?_).trans ?_
        · rw [patchNode_root c [o] [] hc (by simp) (by simp), if_pos he]; rfl
        · rw [Json.singleValue, Json.eq_void_of_isVoid hv]; rfl
      · cases e


theorem diff_readBack (L : FloatLaws) {N : Nat} (I : IdxLaws N) (hN : N ≤ 2 ^ 63) :
    ∀ (d : V1.VDiff) {c r : Json}, c.listDoc = true → c.wf = true →
      (∀ h ∈ d, HK h ∧ V1L.idxP N h.path) → V1.patchAll c d = .ok r →
      ∃ ops, V1.renderPatchOps (V1.liftDiff d) = .ok ops ∧ Reads ops (d.flatMap readBack) ∧
        V1.patchAllP c (d.flatMap readBack) = .ok r
  | [], c, r, _, _, _, e => by
    simp only [patchAll_nil, Outcome.ok.injEq] at e
    subst e
    exact ⟨[], rfl, .nil, rfl⟩
  | h :: d, c, r, hc, hw, hd, e => by
    obtain ⟨hk, hi⟩ := hd h List.mem_cons_self
    rw [patchAll_cons _ _ _ hk.hok] at e
    cases e1 : ap c h with
    | err => rw [e1] at e; cases e
    | panic => rw [e1] at e; cases e
    | ok c1 =>
      rw [e1] at e
      simp only [Outcome.bind_ok] at e
      obtain ⟨_, _, _, hc1, hw1, _⟩ := hunk_sim L hk hc hw rfl e1
      obtain ⟨ops2, hr2, hrd2, hp2⟩ := diff_readBack L I hN d hc1 hw1
        (fun h' hm => hd h' (List.mem_cons_of_mem _ hm)) e
      obtain ⟨s, hs, htl⟩ := writePointer_plain h.path hk.hok.plain hk.nodash
      have hrp : V1.readPointer s = .ok (rpath h.path) := readPointer_of_toList htl
      refine ⟨_ ++ ops2, ?_, (reads_hunk L hk hrp).append hrd2, ?_⟩
      · exact renderPatchOps_cons (renderPatchHunk_v1 hs hk.hok.old hk.hok.new hk.ne) hr2
      · rw [List.flatMap_cons, patchAllP_append, hunk_readBack I hN hk hi hc hw e1]
        exact hp2

/-! ## 10. C18, JSON Patch half -/

theorem noDashP_false : ∀ {p : List Json}, noDashP p = false →
    ∃ pre post, p = pre ++ .str "-" :: post
  | [], h => by simp [noDashP] at h
  | e :: r, h => by
    by_cases he : e = .str "-"
    · subst he; exact ⟨[], r, rfl⟩
    · have hr : noDashP r = false := by
        cases e with
        | str s =>
          have hs : s ≠ "-" := fun h' => he (by rw [h'])
          simpa [noDashP, hs] using h
        | _ => simpa [noDashP] using h
      obtain ⟨pre, post, rfl⟩ := noDashP_false hr
      exact ⟨e :: pre, post, rfl⟩

/-- the path condition of the theorems holds when neither document has the object key "-" -/
theorem noDash_diffM (m : V1.Metas) (hm : ListMode m) (a b : Json) (ha1 : a.listDoc = true)
    (hb1 : b.listDoc = true) (hda : noDash a = true) (hdb : noDash b = true) :
    ∀ h ∈ V1.diffM m a b, noDashP h.path = true := by
  intro h hmem
  simp only [V1.diffM, hm.noMerge] at hmem
  have g := ((V1L.diff_parts (fun x => noDash x = true) (· ≠ "-")
    (fun hx hm' => noDashL_mem (by simpa only [noDash] using hx) hm')
    (fun hx hm' => noDashK_mem (by simpa only [noDash] using hx) hm')
    (fun hx => by simpa only [noDash] using hx) m hm.tag) a b ha1 hb1 (fun _ => hda) hdb h
    hmem).keys
  cases hnd : noDashP h.path with
  | true => rfl
  | false =>
    obtain ⟨pre, post, hp⟩ := noDashP_false hnd
    exact absurd rfl (g "-" (by rw [hp]; simp))

/-- every hunk of a list-mode v1 diff of documents in the domain whose path does not hold the key
    "-" is a hunk of the theorems -/
theorem diff_HK {N : Nat} (m : V1.Metas) (hm : ListMode m) (a b : Json)
    (ha1 : a.listDoc = true) (ha2 : a.wf = true) (ha3 : a.finiteNums = true) (ha4 : vfree a = true)
    (ha5 : lenLe N a = true)
    (hb1 : b.listDoc = true) (hb2 : b.wf = true) (hb3 : b.finiteNums = true) (hb4 : vfree b = true) :
    ∀ h ∈ V1.diffNode m false a b [], noDashP h.path = true → HK h ∧ V1L.idxP N h.path := by
  intro h hmem hnd
  have q := diff_shape m hm a b ha1 hb1 (Dom.mk' ha1 ha2 ha3 ha4) (Dom.mk' hb1 hb2 hb3 hb4) h hmem
  have hok := (diff_hunks m hm a b ha1 hb1 h hmem).1
  exact ⟨⟨q.1, hok, hnd, q.2⟩,
    V1L.diff_idx N m hm.tag a b ha1 hb1 ha5 h hmem⟩

/-- **C18 (v1 library, JSON Patch), clause 1: the RFC 6902 evaluation of the rendered patch.**
    For list-mode metadata and documents `a`, `b` in the domain of `v1_diff_patch_list` such that
    no path of the diff holds the object key "-": `Diff.RenderPatch` of `a.Diff(b)` succeeds, its
    operations are `test`, `remove`, `add` only, and the independent RFC 6902 evaluator applied to
    `a` yields a document structurally equal to `b` (array tags ignored). Integer-looking keys and
    keys needing `~0` / `~1` escaping are covered. -/
theorem v1_render_patch_rfc (L : FloatLaws) {N : Nat} (I : IdxLaws N) (m : V1.Metas)
    (hm : ListMode m) (a b : Json)
    (ha1 : a.listDoc = true) (ha2 : a.wf = true) (ha3 : a.finiteNums = true) (ha4 : vfree a = true)
    (ha5 : lenLe N a = true)
    (hb1 : b.listDoc = true) (hb2 : b.wf = true) (hb3 : b.finiteNums = true) (hb4 : vfree b = true)
    (hdash : ∀ h ∈ V1.diffM m a b, noDashP h.path = true) :
    ∃ ops r, V1.renderPatchOps (V1.liftDiff (V1.diffM m a b)) = .ok ops ∧
      (∀ o ∈ ops, o.wfOp) ∧
      eval a (ops.map PatchOp.toSpec) = some r ∧
      specEq r b = true ∧ specEq b r = true ∧ specEq (untag r) (untag b) = true := by
  obtain ⟨r0, h1, h2, _⟩ := diff_correct L I m hm a b ha1 hb1 (Dom.mk' ha1 ha2 ha3 ha4)
    (Dom.mk' hb1 hb2 hb3 hb4) ha5
  simp only [V1.diffM, hm.noMerge] at hdash ⊢
  obtain ⟨ops, hr, hwf, _, _, r, hev, hu⟩ := diff_sim L _ ha1 ha2 rfl
    (fun h hm' => (diff_HK m hm a b ha1 ha2 ha3 ha4 ha5 hb1 hb2 hb3 hb4 h hm' (hdash h hm')).1) h1
  refine ⟨ops, r, hr, hwf, hev, ?_, ?_, ?_⟩
  · exact (specEq_left_of_untag_eq hu).trans h2.1
  · exact (specEq_right_of_untag_eq hu).trans h2.2
  · rw [specEq_untag_left, specEq_untag_right, ← specEq_untag_left, hu, specEq_untag_left]
    exact h2.1

/-- **C18 (v1 library, JSON Patch), clause 2: reading the rendered patch back.** Under the same
    hypotheses (and `N ≤ 2^63`: indices are re-read with `strconv.Atoi`), the element loop of
    `ReadPatchString` accepts the rendered operations, and `a.Patch` of the diff read back —
    whose paths hold `jsonStringOrInteger` tokens for every integer-looking pointer token —
    succeeds with EXACTLY the result of patching with the original diff, which `Equals` `b`. -/
theorem v1_render_read_patch (L : FloatLaws) {N : Nat} (I : IdxLaws N) (hN : N ≤ 2 ^ 63)
    (m : V1.Metas) (hm : ListMode m) (a b : Json)
    (ha1 : a.listDoc = true) (ha2 : a.wf = true) (ha3 : a.finiteNums = true) (ha4 : vfree a = true)
    (ha5 : lenLe N a = true)
    (hb1 : b.listDoc = true) (hb2 : b.wf = true) (hb3 : b.finiteNums = true) (hb4 : vfree b = true)
    (hdash : ∀ h ∈ V1.diffM m a b, noDashP h.path = true) :
    ∃ ops d' r, V1.renderPatchOps (V1.liftDiff (V1.diffM m a b)) = .ok ops ∧
      V1.readPatchLoop (ops.length + 1) ops [] = .ok d' ∧
      V1.patchP a d' = .ok r ∧ V1.patchM a (V1.diffM m a b) = .ok r ∧
      V1.equals m r b = true ∧ specEq r b = true ∧ specEq b r = true := by
  obtain ⟨r, h1, h2, h3⟩ := diff_correct L I m hm a b ha1 hb1 (Dom.mk' ha1 ha2 ha3 ha4)
    (Dom.mk' hb1 hb2 hb3 hb4) ha5
  simp only [V1.diffM, hm.noMerge] at hdash ⊢
  obtain ⟨ops, hr, hrd, hp⟩ := diff_readBack L I hN _ ha1 ha2
    (fun h hm' => diff_HK m hm a b ha1 ha2 ha3 ha4 ha5 hb1 hb2 hb3 hb4 h hm' (hdash h hm')) h1
  refine ⟨ops, _, r, hr, ?_, hp, ?_, ?_, h2.1, h2.2⟩
  · have := hrd.loop (ops.length + 1) [] (Nat.lt_succ_of_le hrd.length_le)
    simpa using this
  · simp only [V1.patchM]; exact h1
  · rw [v1_equals_eq_specEq hm h3 hb1]; exact h2.1

/-- the text level: `Diff.RenderPatch()` does not fail (its result is `none` only when the number
    codec cannot print a number) -/
theorem v1_renderPatchM_ok (L : FloatLaws) {N : Nat} (I : IdxLaws N) (nc : NumCodec)
    (m : V1.Metas) (hm : ListMode m) (a b : Json)
    (ha1 : a.listDoc = true) (ha2 : a.wf = true) (ha3 : a.finiteNums = true) (ha4 : vfree a = true)
    (ha5 : lenLe N a = true)
    (hb1 : b.listDoc = true) (hb2 : b.wf = true) (hb3 : b.finiteNums = true) (hb4 : vfree b = true)
    (hdash : ∀ h ∈ V1.diffM m a b, noDashP h.path = true) :
    ∃ t, V1.renderPatchM nc (V1.liftDiff (V1.diffM m a b)) = .ok t := by
  obtain ⟨ops, _, hr, _⟩ := v1_render_patch_rfc L I m hm a b ha1 ha2 ha3 ha4 ha5 hb1 hb2 hb3 hb4
    hdash
  unfold V1.renderPatchM
  split
  · exact ⟨_, rfl⟩
  · rw [hr]; exact ⟨_, rfl⟩

/-! ## 11. what v1 refuses: the key "-" -/

/-- a diff with a hunk whose path holds the key "-" is not rendered -/
theorem render_refuses_dash (d1 d2 : V1.VDiff) (h : V1.Hunk) (pre post : List Json)
    (hp : h.path = pre ++ .str "-" :: post) :
    ∀ ops, V1.renderPatchOps (V1.liftDiff (d1 ++ h :: d2)) ≠ .ok ops := by
  induction d1 with
  | nil =>
    intro ops e
    obtain ⟨a, _, hr, _⟩ := renderPatchOps_cons_inv e
    obtain ⟨s, hw, _⟩ := renderPatchHunk_inv hr
    rw [hp] at hw
    exact writePointer_dash pre post s hw
  | cons h0 d1 ih =>
    intro ops e
    obtain ⟨_, b, _, hr2, _⟩ := renderPatchOps_cons_inv e
    exact ih b hr2

/-- **which diffs v1 can render**: on the domain of the theorems, `Diff.RenderPatch` succeeds
    exactly when no path of the diff holds the object key "-" (every other key — integer-looking,
    empty, with `/` or `~` — is expressible) -/
theorem v1_render_ok_iff (L : FloatLaws) {N : Nat} (I : IdxLaws N) (m : V1.Metas)
    (hm : ListMode m) (a b : Json)
    (ha1 : a.listDoc = true) (ha2 : a.wf = true) (ha3 : a.finiteNums = true) (ha4 : vfree a = true)
    (ha5 : lenLe N a = true)
    (hb1 : b.listDoc = true) (hb2 : b.wf = true) (hb3 : b.finiteNums = true) (hb4 : vfree b = true) :
    (∃ ops, V1.renderPatchOps (V1.liftDiff (V1.diffM m a b)) = .ok ops) ↔
      ∀ h ∈ V1.diffM m a b, noDashP h.path = true := by
  constructor
  · rintro ⟨ops, hr⟩ h hmem
    cases hnd : noDashP h.path with
    | true => rfl
    | false =>
      exfalso
      obtain ⟨pre, post, hp⟩ := noDashP_false hnd
      obtain ⟨d1, d2, hd⟩ := List.append_of_mem hmem
      rw [hd] at hr
      exact render_refuses_dash d1 d2 h pre post hp ops hr
  · intro hdash
    obtain ⟨ops, _, hr, _⟩ := v1_render_patch_rfc L I m hm a b ha1 ha2 ha3 ha4 ha5 hb1 hb2 hb3 hb4
      hdash
    exact ⟨ops, hr⟩

/-- clause 1 with the decidable hypothesis on the inputs: neither document has the object key "-" -/
theorem v1_render_patch_rfc_noDash (L : FloatLaws) {N : Nat} (I : IdxLaws N) (m : V1.Metas)
    (hm : ListMode m) (a b : Json)
    (ha1 : a.listDoc = true) (ha2 : a.wf = true) (ha3 : a.finiteNums = true) (ha4 : vfree a = true)
    (ha5 : lenLe N a = true)
    (hb1 : b.listDoc = true) (hb2 : b.wf = true) (hb3 : b.finiteNums = true) (hb4 : vfree b = true)
    (hda : noDash a = true) (hdb : noDash b = true) :
    ∃ ops r, V1.renderPatchOps (V1.liftDiff (V1.diffM m a b)) = .ok ops ∧
      (∀ o ∈ ops, o.wfOp) ∧
      eval a (ops.map PatchOp.toSpec) = some r ∧
      specEq r b = true ∧ specEq b r = true ∧ specEq (untag r) (untag b) = true :=
  v1_render_patch_rfc L I m hm a b ha1 ha2 ha3 ha4 ha5 hb1 hb2 hb3 hb4
    (noDash_diffM m hm a b ha1 hb1 hda hdb)

/-- clause 2 with the decidable hypothesis on the inputs -/
theorem v1_render_read_patch_noDash (L : FloatLaws) {N : Nat} (I : IdxLaws N) (hN : N ≤ 2 ^ 63)
    (m : V1.Metas) (hm : ListMode m) (a b : Json)
    (ha1 : a.listDoc = true) (ha2 : a.wf = true) (ha3 : a.finiteNums = true) (ha4 : vfree a = true)
    (ha5 : lenLe N a = true)
    (hb1 : b.listDoc = true) (hb2 : b.wf = true) (hb3 : b.finiteNums = true) (hb4 : vfree b = true)
    (hda : noDash a = true) (hdb : noDash b = true) :
    ∃ ops d' r, V1.renderPatchOps (V1.liftDiff (V1.diffM m a b)) = .ok ops ∧
      V1.readPatchLoop (ops.length + 1) ops [] = .ok d' ∧
      V1.patchP a d' = .ok r ∧ V1.patchM a (V1.diffM m a b) = .ok r ∧
      V1.equals m r b = true ∧ specEq r b = true ∧ specEq b r = true :=
  v1_render_read_patch L I hN m hm a b ha1 ha2 ha3 ha4 ha5 hb1 hb2 hb3 hb4
    (noDash_diffM m hm a b ha1 hb1 hda hdb)

namespace Example

def one : Json := .num 0x3FF0000000000000
def two : Json := .num 0x4000000000000000

/-- **the key "-" is refused** (`pointer.go`: "JSON Pointer does not support object key '-'"):
    `{"-":1}` → `{}` has a perfectly good native diff which `RenderPatch` cannot express. -/
theorem dash_key_refused :
    V1.renderPatchOps (V1.liftDiff (V1.diffM [] (.obj [("-", one)]) (.obj []))) = .err := by
  have hd : V1.diffM [] (.obj [("-", one)]) (.obj []) =
      [{ path := [.str "-"], old := [one], new := [] }] := V1.diffM_of_eqb (by decide +kernel)
  rw [hd]
  simp [V1.liftDiff, V1.Hunk.toP, V1.liftPath, V1.renderPatchOps, V1.renderPatchHunk, V1.writePointer]

/-- `{"0":[1,2],"1":1,"a/b~c":{"7":1},"k":2}`: integer-looking keys, a key needing both escapes -/
def exA : Json := .obj [("0", .arr .raw [one, two]), ("1", one), ("a/b~c", .obj [("7", one)]), ("k", two)]
/-- `{"0":[2],"2":1,"a/b~c":{"+5":1,"7":2},"k":[]}` -/
def exB : Json := .obj [("0", .arr .raw [two]), ("2", one),
  ("a/b~c", .obj [("+5", one), ("7", two)]), ("k", .arr .raw [])]

-- the rendered pointers (`/0/1`, `/0/0`, `/1`, `/a~1b~0c/7`, `/a~1b~0c/+5`, `/k`, `/2`), the RFC
-- evaluation, the paths read back (`sori` = jsonStringOrInteger) and the patch with them
#eval (V1.renderPatchOps (V1.liftDiff (V1.diffM [] exA exB))) |> fun
  | .ok ops => ops.map (fun (o : PatchOp) => (o.op, o.path))
  | _ => []
#eval (V1.renderPatchOps (V1.liftDiff (V1.diffM [] exA exB))) |> fun
  | .ok ops => (eval exA (ops.map PatchOp.toSpec)).map (fun r => specEq r exB)
  | _ => none
#eval (V1.renderPatchOps (V1.liftDiff (V1.diffM [] exA exB))) |> fun
  | .ok ops => match V1.readPatchLoop (ops.length + 1) ops [] with
    | .ok d' => (d'.map (fun (h : V1.PHunk) => repr h.path),
        match V1.patchP exA d' with | .ok r => some (specEq r exB) | _ => none)
    | _ => ([], none)
  | _ => ([], none)

/-- an integer-looking key is read back as a `jsonStringOrInteger`, which `jsonObject.patch`
    uses as the key: nothing is lost -/
example : rtok "0" = .sori "0" ∧ V1.asKey (rtok "0") = some "0" ∧ rtok "+5" = .sori "+5" := by
  refine ⟨?_, ?_, ?_⟩
  · unfold rtok; rw [if_pos (by decide)]
  · exact (rtok_key (by decide)).2
  · unfold rtok; rw [if_pos (by decide)]

/-- the hypotheses of the two theorems hold for this pair, in both directions -/
theorem hyps :
    exA.listDoc = true ∧ exA.wf = true ∧ exA.finiteNums = true ∧ vfree exA = true ∧
    lenLe 8 exA = true ∧ noDash exA = true ∧
    exB.listDoc = true ∧ exB.wf = true ∧ exB.finiteNums = true ∧ vfree exB = true ∧
    lenLe 8 exB = true ∧ noDash exB = true := by
  decide +kernel

example (L : FloatLaws) (I : IdxLaws 8) :
    ∃ ops r, V1.renderPatchOps (V1.liftDiff (V1.diffM [] exA exB)) = .ok ops ∧
      eval exA (ops.map PatchOp.toSpec) = some r ∧ specEq r exB = true := by
  obtain ⟨h1, h2, h3, h4, h5, h6, h7, h8, h9, h10, _, h12⟩ := hyps
  obtain ⟨ops, r, hr, _, he, hs, _⟩ :=
    v1_render_patch_rfc_noDash L I [] ListMode.nil exA exB h1 h2 h3 h4 h5 h7 h8 h9 h10 h6 h12
  exact ⟨ops, r, hr, he, hs⟩

example (L : FloatLaws) (I : IdxLaws 8) :
    ∃ ops d' r, V1.renderPatchOps (V1.liftDiff (V1.diffM [.setkeys ["a"]] exB exA)) = .ok ops ∧
      V1.readPatchLoop (ops.length + 1) ops [] = .ok d' ∧ V1.patchP exB d' = .ok r ∧
      V1.equals [.setkeys ["a"]] r exA = true := by
  obtain ⟨h1, h2, h3, h4, h5, h6, h7, h8, h9, h10, h11, h12⟩ := hyps
  obtain ⟨ops, d', r, hr, hl, hp, _, he, _⟩ :=
    v1_render_read_patch_noDash L I (by decide) _ (ListMode.setkeys ["a"]) exB exA h7 h8 h9 h10 h11
      h1 h2 h3 h4 h12 h6
  exact ⟨ops, d', r, hr, hl, hp, he⟩

end Example

/-! ### axioms -/

#print axioms patch_applyStrict
#print axioms patch_rpath
#print axioms patch_split
#print axioms diff_shape
#print axioms v1_render_patch_rfc
#print axioms v1_render_read_patch
#print axioms v1_renderPatchM_ok
#print axioms v1_render_ok_iff
#print axioms v1_render_patch_rfc_noDash
#print axioms v1_render_read_patch_noDash
#print axioms render_refuses_dash
#print axioms Example.dash_key_refused
#print axioms Example.hyps

end Jd.V1R
