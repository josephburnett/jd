/-
  JdProofs.PatchEqns — `patchNode` as a structural recursion on the PATH.

  `patchNode` is a well-founded mutual recursion on the node (`patchObjChild`, `patchListChild`,
  `patchKeyed` walk the members), but every recursive call is on the tail of the path, and the
  strategy `merge` never changes on the way. `patchS` (strict) and `patchMg` (merge) are that
  recursion written out: the member walks are `alookup`, `xs[i]?` and the first-match loop
  `Keyed.keyedLoop`. `patchNode_strict` and `patchNode_merge_eq` are the only proofs that unfold
  `patchNode`; everything else reads the twins (`simp only [patchS]`, `fun_induction patchS`,
  induction on the path), and concrete runs are evaluated through them.
-/
import JdModel.Patch
import JdProofs.Doc

namespace Jd

/-- the store step of `jsonObject.patch`: a void result deletes the key -/
abbrev putKey (k : String) (kvs : List (String × Json)) (v : Json) : Outcome Json :=
  .ok (.obj (Merge.putKvs k v kvs))

/-- the stored object in the spelling of the model and of the reference interpreters -/
theorem obj_putKvs (k : String) (v : Json) (kvs : List (String × Json)) :
    Json.obj (Merge.putKvs k v kvs)
      = if v.isVoid then .obj (aerase k kvs) else .obj (ainsert k v kvs) := by
  unfold Merge.putKvs; split <;> rfl

theorem putKey_eq (k : String) (kvs : List (String × Json)) (v : Json) :
    (if v.isVoid then (pure (.obj (aerase k kvs)) : Outcome Json) else pure (.obj (ainsert k v kvs)))
      = putKey k kvs v := by
  unfold putKey Merge.putKvs; split <;> rfl

/-- the value-replacing leaf of the strict strategy -/
abbrev replaceS (n : Json) (r a : List Json) : Outcome Json :=
  if r.length > 1 || a.length > 1 then .err
  else if equals [] n (Json.singleValue r) then .ok (Json.singleValue a) else .err

namespace Keyed

/-- the member test of `jsonSet.patch` (pass `tol`), for an arbitrary identity looked for -/
def hashMatchL (tol : Bool) (lf : UInt64) (po : List (String × Json)) : Json → Bool
  | .obj kvs => (if tol then pathIdentTol [.set] kvs po else pathIdent [.set] kvs po) == lf
  | _ => false

/-- what `jsonSet.patch` does with the outcome of the nested patch of the member `m` found between
    `l1` and `l2` -/
def keyedOut (sw : Bool) (l1 : List Json) (m : Json) (l2 : List Json) : Outcome Json → Outcome Json
  | .ok v' => .ok (.arr .set (l1 ++ v' :: l2))
  | .err => if sw then .ok (.arr .set (l1 ++ m :: l2)) else .err
  | .panic => .panic

/-- the search loop of `jsonSet.patch` over any member test `test`, nested patch `f` and way `out` of
    putting the outcome for the member found back between the members before and after it -/
def keyedLoop (out : List Json → Json → List Json → Outcome Json → Outcome Json)
    (test : Json → Bool) (f : Json → Outcome Json) : List Json → List Json → Outcome Json
  | _, [] => .err
  | pre, x :: r =>
    if test x then out pre x r (f x) else keyedLoop out test f (pre ++ [x]) r

section
variable (out : List Json → Json → List Json → Outcome Json → Outcome Json)
  (test : Json → Bool) (f : Json → Outcome Json)

/-- the loop passes over members that fail the test -/
theorem keyedLoop_skip (tail : List Json) : ∀ (l1 pre : List Json), (∀ x ∈ l1, test x = false) →
      keyedLoop out test f pre (l1 ++ tail) = keyedLoop out test f (pre ++ l1) tail
  | [], pre, _ => by rw [List.nil_append, List.append_nil]
  | x :: r, pre, h => by
    rw [List.cons_append, keyedLoop, h x List.mem_cons_self, if_neg Bool.false_ne_true,
      keyedLoop_skip tail r (pre ++ [x]) (fun y hy => h y (List.mem_cons_of_mem _ hy)),
      List.append_assoc, List.singleton_append]

theorem keyedLoop_none (xs pre : List Json) (h : ∀ x ∈ xs, test x = false) :
    keyedLoop out test f pre xs = .err := by
  have := keyedLoop_skip out test f [] xs pre h
  rw [List.append_nil] at this
  rw [this, keyedLoop]

/-- the first member that passes the test is patched and put back in place -/
theorem keyedLoop_found {m : Json} (l2 : List Json) (hm : test m = true) (l1 pre : List Json)
    (h : ∀ x ∈ l1, test x = false) :
    keyedLoop out test f pre (l1 ++ m :: l2) = out (pre ++ l1) m l2 (f m) := by
  rw [keyedLoop_skip out test f _ l1 pre h, keyedLoop, if_pos hm]

end

end Keyed

open Keyed

/-- the strict strategy: each path element asks for one kind of node (the nested patch of a keyed
    member is written `fun x => …` so that `fun_induction patchS` has its hypothesis for every
    member) -/
def patchS (sw : Bool) (b r a af : List Json) : Path → Json → Outcome Json
  | [], n => replaceS n r a
  | .key k :: rest, .obj kvs =>
    patchS sw b r a af rest ((alookup k kvs).getD .void) >>= putKey k kvs
  | .idx i :: rest, .arr t xs =>
    if effTag [] t = .list then
      if rest.isEmpty then patchListLeaf xs i b r a af
      else if i < 0 then .err
      else match xs[i.toNat]? with
        | some x => patchS sw b r a af rest x >>= fun v => pure (.arr .list (xs.set i.toNat v))
        | none => .err
    else .err
  | .set :: _, .arr t xs => if effTag [.set] t = .set then patchSetLeaf [.set] xs r a else .err
  | .mset :: _, .arr t xs => if effTag [.mset] t = .mset then patchMsetLeaf [.mset] xs r a else .err
  | .setKeys po :: rest, .arr t xs =>
    if effTag [.set] t = .set ∧ rest ≠ [] then
      keyedLoop (keyedOut sw) (hashMatchL (keyedTol po xs) (identObj [.set] po) po)
        (fun x => patchS sw b r a af rest x) [] xs
    else .err
  | _ :: _, _ => .err

/-- the merge strategy: only objects are entered, everything else is overwritten -/
def patchMg (b r a af : List Json) : Path → Json → Outcome Json
  | [], .obj _ => if r.length > 1 || a.length > 1 then .err else .ok (Json.singleValue a)
  | .key k :: rest, .obj kvs =>
    (match alookup k kvs with
      | some v => patchMg b r a af rest v
      | none => patchNew true (!rest.isEmpty) rest b r a af) >>= putKey k kvs
  | _ :: _, .obj _ => .err
  | pa, n => patchFresh true n pa b r a af

/-! ### the one place where `patchNode` is unfolded -/

theorem patchObjChild_eq (sw merge : Bool) (k : String) (rest : Path)
    (before remove add after : List Json) :
    ∀ (kvs : List (String × Json)) (v : Json), alookup k kvs = some v →
      patchObjChild sw merge kvs k rest before remove add after
        = patchNode sw merge v rest before remove add after
  | [], _, h => by simp [alookup] at h
  | (k', v') :: r, v, h => by
    rw [patchObjChild.eq_def]
    simp only [alookup] at h ⊢
    split
    · rename_i hk; rw [if_pos hk] at h; cases h; rfl
    · rename_i hk; rw [if_neg hk] at h
      exact patchObjChild_eq sw merge k rest before remove add after r v h

theorem patchListChild_eq (sw : Bool) (rest : Path) (before remove add after : List Json) :
    ∀ (xs : List Json) (i : Nat) (x : Json), xs[i]? = some x →
      patchListChild sw i rest before remove add after xs
        = patchNode sw false x rest before remove add after
  | [], _, _, h => by simp at h
  | y :: r, 0, x, h => by
    rw [patchListChild.eq_def]; simp at h; subst h; rfl
  | y :: r, i + 1, x, h => by
    rw [patchListChild.eq_def]
    simp only [List.getElem?_cons_succ] at h
    exact patchListChild_eq sw rest before remove add after r i x h

theorem patchKeyed_eq (sw tol : Bool) (lf : UInt64) (po : List (String × Json)) (rest : Path)
    (b r a af : List Json) :
    ∀ (xs pre : List Json), patchKeyed sw tol lf po rest b r a af pre xs
      = keyedLoop (keyedOut sw) (hashMatchL tol lf po)
          (fun x => patchNode sw false x rest b r a af) pre xs
  | [], pre => by rw [patchKeyed.eq_def]; rfl
  | x :: xs, pre => by
    rw [patchKeyed.eq_def, keyedLoop]
    cases x <;> simp only [hashMatchL, Bool.false_eq_true, if_false, patchKeyed_eq sw tol lf po rest b r a af xs]
    split
    · cases patchNode sw false (.obj _) rest b r a af <;> rfl
    · rfl

theorem patchFresh_false_cons (n : Json) (e : PathElem) (rest : Path) (b r a af : List Json) :
    patchFresh false n (e :: rest) b r a af = .err := by
  rw [patchFresh.eq_def]
  cases Path.isLeaf (e :: rest) <;> simp

theorem setAtP_eq_set {xs : List Json} {i : Int} (h0 : ¬ i < 0) (h1 : i.toNat < xs.length) (v : Json) :
    setAtP xs i v = .ok (xs.set i.toNat v) := by
  simp [setAtP, h0, h1]

/-- **the strict strategy is `patchS`** -/
theorem patchNode_strict (sw : Bool) (b r a af : List Json) :
    ∀ (pa : Path) (n : Json), patchNode sw false n pa b r a af = patchS sw b r a af pa n := by
  intro pa
  induction pa with
  | nil =>
    intro n
    rw [patchNode.eq_def, patchS]
    cases n with
    | obj kvs => rfl
    | arr t xs =>
      cases t <;> simp only [pathMeta, effTag, dispatchTag, Bool.false_eq_true, if_false]
      all_goals
        split
        · rfl
        · cases r with
          | nil => simp [Json.singleValue, equals, effTag, Json.dispatch]
          | cons r0 _ => cases a <;> rfl
    | _ => simp [patchFresh, Path.isLeaf, replaceS]
  | cons e rest ih =>
    intro n
    cases n with
    | obj kvs =>
      rw [patchNode.eq_def]
      cases e with
      | key k =>
        simp only [patchS]
        cases hl : alookup k kvs with
        | some v =>
          simp only [patchObjChild_eq _ _ _ _ _ _ _ _ kvs v hl, ih, Option.getD_some, putKey_eq]
        | none =>
          rw [← ih, Option.getD_none, patchNode.eq_def sw false .void]
          simp only [patchNew, Bool.false_and, putKey_eq]
      | _ => rfl
    | arr t xs =>
      rw [patchNode.eq_def]
      cases e with
      | key k => cases t <;> rfl
      | idx i =>
        simp only [patchS, pathMeta]
        by_cases ht : effTag [] t = .list
        · simp only [ht, if_true, Bool.false_eq_true, if_false]
          cases hre : rest.isEmpty with
          | true => rfl
          | false =>
            simp only [Bool.false_eq_true, if_false]
            by_cases h0 : i < 0
            · simp [h0]
            · by_cases h1 : i.toNat < xs.length
              · have hx := List.getElem?_eq_getElem h1
                rw [hx]
                simp only [patchListChild_eq sw rest b r a af xs i.toNat _ hx, ih,
                  funext (setAtP_eq_set h0 h1)]
                simp [h0, show ¬ (i > (xs.length : Int) - 1) by omega]
              · rw [List.getElem?_eq_none (by omega)]
                simp [h0, show (i > (xs.length : Int) - 1) by omega]
        · rw [if_neg ht]
          cases t <;> first | exact absurd rfl ht | rfl
      | set => simp only [patchS, pathMeta]; cases t <;> rfl
      | mset => simp only [patchS, pathMeta]; cases t <;> rfl
      | setKeys po =>
        simp only [patchS, pathMeta, patchKeyed_eq, ← funext (ih ·)]
        cases rest with
        | nil => cases t <;> simp [effTag, dispatchTag]
        | cons e' r' => cases t <;> simp [effTag, dispatchTag]
      | msetKeys po => cases t <;> rfl
    | _ => rw [patchNode.eq_def]; simp only [patchFresh_false_cons, patchS]

theorem patchFresh_merge_node (n n' : Json) (b r a af : List Json) :
    ∀ pa : Path, patchFresh true n pa b r a af = patchFresh true n' pa b r a af := by
  intro pa
  induction pa with
  | nil => rw [patchFresh.eq_def, patchFresh.eq_def true n']; simp
  | cons e rest ih =>
    rw [patchFresh.eq_def, patchFresh.eq_def true n']
    cases e <;> simp [ih]

/-- **the merge strategy is `patchMg`** -/
theorem patchNode_merge_eq (sw : Bool) (b r a af : List Json) :
    ∀ (pa : Path) (n : Json), patchNode sw true n pa b r a af = patchMg b r a af pa n := by
  intro pa
  induction pa with
  | nil =>
    intro n
    rw [patchNode.eq_def]
    cases n with
    | obj kvs => simp [patchMg]
    | arr t xs => simp only [if_true, patchMg]; split <;> exact patchFresh_merge_node _ _ _ _ _ _ _
    | _ => simp only [patchMg]
  | cons e rest ih =>
    intro n
    rw [patchNode.eq_def]
    cases n with
    | obj kvs =>
      cases e with
      | key k =>
        simp only [patchMg, Bool.true_and]
        cases hl : alookup k kvs with
        | some v => simp only [patchObjChild_eq _ _ _ _ _ _ _ _ kvs v hl, ih, putKey_eq]
        | none => simp only [putKey_eq]
      | _ => rfl
    | arr t xs => simp only [if_true, patchMg]; split <;> exact patchFresh_merge_node _ _ _ _ _ _ _
    | _ => simp only [patchMg]

/-- outside an object the merge strategy hands the node to `patchFresh`, which does not look at it -/
theorem patchMg_notObj {n : Json} (hn : ∀ kvs, n ≠ .obj kvs) (b r a af : List Json) (pa : Path) :
    patchMg b r a af pa n = patchFresh true n pa b r a af := by
  cases n with
  | obj kvs => exact absurd rfl (hn kvs)
  | _ => simp only [patchMg]

/-! ### the steps of the strict strategy, stated on `patchNode` -/

/-- an object key: patch the member (absent = void), then store or delete -/
theorem patchNode_key_obj (sw : Bool) (kvs : List (String × Json)) (k : String) (rest : Path)
    (before remove add after : List Json) :
    patchNode sw false (.obj kvs) (.key k :: rest) before remove add after
      = patchNode sw false ((alookup k kvs).getD .void) rest before remove add after
          >>= putKey k kvs := by
  simp only [patchNode_strict, patchS]

/-- a list index with more path ahead: patch the element in place -/
theorem patchNode_idx_arr (sw : Bool) (t : Tag) (ht : t = .raw ∨ t = .list) (xs : List Json)
    (i : Int) (rest : Path) (before remove add after : List Json) (hrest : rest ≠ []) :
    patchNode sw false (.arr t xs) (.idx i :: rest) before remove add after
      = if i < 0 then .err
        else match xs[i.toNat]? with
          | some x => do
            let v ← patchNode sw false x rest before remove add after
            pure (.arr .list (xs.set i.toNat v))
          | none => .err := by
  have ht' : effTag [] t = .list := by rcases ht with rfl | rfl <;> rfl
  simp only [patchNode_strict, patchS, ht', if_true, List.isEmpty_iff, hrest, if_false]

/-- a key addresses nothing in a value that is not an object -/
theorem patchNode_key_nonobj {n : Json} (hn : ∀ kvs, n ≠ .obj kvs) {sw : Bool} {k : String}
    {rest : Path} {before remove add after : List Json} :
    patchNode sw false n (.key k :: rest) before remove add after = .err := by
  rw [patchNode_strict]
  cases n <;> first | rfl | exact absurd rfl (hn _)

/-- an index, a keyed element or a set / multiset leaf addressed to anything but an array -/
theorem patchNode_nonarr {n : Json} (hn : ∀ t xs, n ≠ .arr t xs) {e : PathElem}
    (he : ∀ k, e ≠ .key k) {sw : Bool} {rest : Path} {before remove add after : List Json} :
    patchNode sw false n (e :: rest) before remove add after = .err := by
  rw [patchNode_strict]
  cases n <;> cases e <;> first | rfl | exact absurd rfl (hn _ _) | exact absurd rfl (he _)

/-! ### sequences of hunks -/

theorem patchAll_cons_bind (sw : Bool) (n : Json) (h : Hunk) (d : Diff) :
    patchAll sw n (h :: d) =
      patchNode sw h.merge n h.path h.before h.remove h.add h.after >>= (patchAll sw · d) := by
  rw [patchAll]
  cases patchNode sw h.merge n h.path h.before h.remove h.add h.after <;> rfl

/-- an appended diff: the first part, then the second on its result -/
theorem patchAll_append_bind (sw : Bool) : ∀ (d1 d2 : Diff) (n : Json),
    patchAll sw n (d1 ++ d2) = patchAll sw n d1 >>= (patchAll sw · d2)
  | [], _, _ => rfl
  | h :: d1, d2, n => by
    rw [List.cons_append, patchAll_cons_bind, patchAll_cons_bind]
    cases patchNode sw h.merge n h.path h.before h.remove h.add h.after with
    | ok n1 => exact patchAll_append_bind sw d1 d2 n1
    | err => rfl
    | panic => rfl

end Jd
