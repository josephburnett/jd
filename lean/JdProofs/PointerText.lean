/-
  JdProofs.PointerText — JSON Pointer (RFC 6901) as text: what jd writes for a path and what an
  RFC 6901 parser makes of it.

  Escape / decode (`escChars`, `decodeToken_escChars`); the decimal text of an index is an RFC array
  index (`arrayIndex_toString`); the reference tokens of a path (`elemTok`, `ptoks`); a path by its
  last element (`eq_nil_or_snoc`, `lastIdx?` / `setLastIdx` on `pp ++ [e]`); `wpOf w`, the
  pointer text of a path written token by token by any token writer `w`, of which `writePointerPath`
  is the instance `wtok` (`writePointerPath_ok` / `_refuses`: exactly the `expressible` paths are
  written); `parsePointer_of_toList`: the text `/esc(t₁)/esc(t₂)…` parses to `t₁, t₂, …`, hence
  `ptrOK_of_range`. Indices travel through a float64 (`IdxRT`, true below 2^53: `idxRT_of_bound`).
  `String.splitOn` is computed through JdProofs/SplitOn.lean.
-/
import JdModel.PatchFmt
import JdSpec.Rfc6902
import JdProofs.SplitOn
import JdProofs.FloatBits

namespace Jd
open Spec

/-! ### escape / decode -/

def escChars : List Char → List Char
  | [] => []
  | c :: r => if c = '~' then '~' :: '0' :: escChars r
              else if c = '/' then '~' :: '1' :: escChars r
              else c :: escChars r

theorem replaceChar_toList (c : Char) (b : String) (s : String) :
    (replaceChar c b s).toList = s.toList.flatMap (fun x => if x == c then b.toList else [x]) := by
  unfold replaceChar
  rw [String.toList_join, List.flatMap_map]
  congr 1
  funext x
  split <;> simp

theorem ptrEscape_toList (k : String) : (ptrEscape k).toList = escChars k.toList := by
  unfold ptrEscape
  rw [replaceChar_toList, replaceChar_toList]
  induction k.toList with
  | nil => rfl
  | cons c r ih =>
    rw [List.flatMap_cons, List.flatMap_append, ih, escChars]
    by_cases h1 : c = '~'
    · subst h1; rfl
    · by_cases h2 : c = '/'
      · subst h2; rfl
      · simp [h1, h2]

theorem decodeToken_escChars : ∀ l : List Char, decodeToken (escChars l) = some l
  | [] => rfl
  | c :: r => by
    unfold escChars
    by_cases h1 : c = '~'
    · subst h1; simp [decodeToken, decodeToken_escChars r]
    · by_cases h2 : c = '/'
      · subst h2; simp [decodeToken, decodeToken_escChars r]
      · simp only [h1, h2, if_false]
        rw [decodeToken]
        · simp [decodeToken_escChars r]
        · intro r' h; exact absurd h h1
        · intro r' h; exact absurd h h1
        · intro h; exact absurd h h1

theorem escChars_no_slash : ∀ l : List Char, '/' ∉ escChars l
  | [] => by simp [escChars]
  | c :: r => by
    have ih := escChars_no_slash r
    unfold escChars
    split
    · simp [ih]
    · split
      · simp [ih]
      · rename_i h2; simp [ih]; exact fun h => h2 h.symm

/-! ### index tokens -/

/-- the decimal text of a positive number does not start with `0` -/
theorem toDigits_head : ∀ n : Nat, 0 < n → ∃ c r, Nat.toDigits 10 n = c :: r ∧ c ≠ '0' := by
  intro n
  induction n using Nat.strongRecOn with
  | _ n ih =>
    intro hn
    rw [Nat.toDigits_eq_if (by decide)]
    split
    · next hlt =>
      have : ∀ m < 10, 0 < m → Nat.digitChar m ≠ '0' := by decide
      exact ⟨_, [], rfl, this n hlt hn⟩
    · next hge =>
      obtain ⟨c, r, e, hc⟩ := ih (n / 10) (by omega) (by omega)
      exact ⟨c, r ++ [Nat.digitChar (n % 10)], by rw [e]; rfl, hc⟩

theorem foldl_digits (l : List Char) (init : Nat) :
    l.foldl (fun (acc : Nat) c => acc * 10 + (c.toNat - 48)) init = Nat.ofDigitChars 10 l init := by
  induction l generalizing init with
  | nil => rfl
  | cons c r ih => simp [Nat.ofDigitChars_cons, ih, Nat.mul_comm]

theorem arrayIndex_natRepr (n : Nat) : arrayIndex? n.repr = some n := by
  unfold arrayIndex?
  simp only [Nat.toList_repr]
  have h1 : (Nat.toDigits 10 n).isEmpty = false := by
    cases h : Nat.toDigits 10 n with
    | nil => exact absurd h Nat.toDigits_ne_nil
    | cons _ _ => rfl
  have h2 : (Nat.toDigits 10 n).all (fun c => decide ('0' ≤ c) && decide (c ≤ '9')) = true := by
    rw [List.all_eq_true]
    intro c hc
    have := Nat.isDigit_of_mem_toDigits (by decide) (by decide) hc
    simp only [Char.isDigit, Bool.and_eq_true, decide_eq_true_eq] at this
    simp only [Bool.and_eq_true, decide_eq_true_eq]
    exact ⟨this.1, this.2⟩
  have h3 : (decide ((Nat.toDigits 10 n).length > 1) && (Nat.toDigits 10 n).head? == some '0') = false := by
    by_cases hn : 10 ≤ n
    · obtain ⟨c, r, e, hc⟩ := toDigits_head n (by omega)
      simp [e, hc]
    · have : (Nat.toDigits 10 n).length ≤ 1 := (Nat.length_toDigits_le_iff (by decide) (by decide)).2 (by omega)
      simp; omega
  simp only [h1, h2, h3, Bool.not_true, Bool.or_false, Bool.false_eq_true, if_false]
  rw [foldl_digits, Nat.ofDigitChars_ten_toDigits]

/-- the decimal text of a non-negative index is an RFC 6901 array index denoting it -/
theorem arrayIndex_toString {i : Int} (h : 0 ≤ i) : arrayIndex? (toString i) = some i.toNat := by
  rw [Int.toString_eq_repr, Int.repr_eq_if, if_pos h]
  exact arrayIndex_natRepr _

/-- the reference token of a list index (`-1` is written `-`) -/
def idxTok (i : Int) : String := if i == -1 then "-" else toString i

theorem arrayIndex_idxTok {i : Int} (h : 0 ≤ i) : arrayIndex? (idxTok i) = some i.toNat := by
  have : (i == -1) = false := by simp; omega
  simp only [idxTok, this]
  exact arrayIndex_toString h

/-! ### the reference tokens of a path -/

/-- the reference token of a path element (keys are themselves, indices in decimal, `-` for -1) -/
def elemTok : PathElem → String
  | .key k => k
  | .idx i => idxTok i
  | _ => ""

def ptoks (p : Path) : List String := p.map elemTok

theorem ptoks_concat (pp : Path) (e : PathElem) : ptoks (pp ++ [e]) = ptoks pp ++ [elemTok e] := by
  simp [ptoks]

/-! ### a path by its last element -/

theorem eq_nil_or_snoc {α} (l : List α) : l = [] ∨ ∃ l' b, l = l' ++ [b] := by
  rcases List.eq_nil_or_concat l with h | ⟨l', b, h⟩
  · exact Or.inl h
  · exact Or.inr ⟨l', b, by simpa using h⟩

theorem setLastIdx_concat (pp : Path) (e : PathElem) (j : Int) :
    setLastIdx (pp ++ [e]) j = pp ++ [.idx j] := by
  simp [setLastIdx]

theorem mem_setLastIdx {p : Path} {j : Int} {e : PathElem} (h : e ∈ setLastIdx p j) :
    e ∈ p ∨ e = .idx j := by
  rcases List.mem_append.1 h with h | h
  · exact .inl (List.dropLast_subset _ h)
  · exact .inr (List.mem_singleton.1 h)

theorem lastIdx_concat_key (pp : Path) (k : String) : lastIdx? (pp ++ [.key k]) = none := by
  simp [lastIdx?]

theorem lastIdx_concat_idx (pp : Path) (i : Int) : lastIdx? (pp ++ [.idx i]) = some i := by
  simp [lastIdx?]

theorem lastIdx_mem {p : Path} {i : Int} (h : lastIdx? p = some i) : PathElem.idx i ∈ p := by
  unfold lastIdx? at h
  split at h
  · rename_i j hj
    injection h with h; subst h
    exact List.mem_of_getLast? hj
  · cases h

/-- the pointer jd writes for `p` parses (RFC 6901) to the tokens of `p` -/
def PtrOK (p : Path) : Prop := ∀ s, writePointerPath p = .ok s → parsePointer s = some (ptoks p)

/-- the same for an arbitrary pointer writer -/
def PtrOKW (W : Path → Outcome String) (p : Path) : Prop := ∀ s, W p = .ok s → parsePointer s = some (ptoks p)

/-! ### the pointer layer -/

/-- the token `writePointer` writes for a path element; `none` = refused -/
def wtok : PathElem → Option String
  | .key k => if (atoi? k).isSome then none else if k == "-" then none else some (ptrEscape k)
  | .idx i =>
    let j := floatTrunc (intToFloatBits i)
    some (if j == -1 then "-" else ptrEscape (toString j))
  | _ => none

def pe2json : PathElem → Json
  | .key k => .str k
  | .idx i => .num (intToFloatBits i)
  | .set => .obj []
  | .mset => .arr .raw []
  | .setKeys o => .obj o
  | .msetKeys o => .arr .raw [.obj o]

theorem writePointerPath_eq (p : Path) : writePointerPath p = writePointer (p.map pe2json) := by
  unfold writePointerPath pathToJson
  simp only
  congr 1

theorem writePointer_cons (e : PathElem) (r : List Json) :
    writePointer (pe2json e :: r) =
      match wtok e with
      | some t => (match writePointer r with | .ok rest => .ok ("/" ++ t ++ rest) | e' => e')
      | none => .err := by
  cases e with
  | key k =>
    simp only [pe2json, writePointer, wtok]
    by_cases h1 : (atoi? k).isSome = true <;> by_cases h2 : (k == "-") = true <;> simp [h1, h2]
    cases writePointer r <;> rfl
  | idx i =>
    simp only [pe2json, writePointer, wtok]
    by_cases h : (floatTrunc (intToFloatBits i) == -1) = true <;> simp [h] <;>
      cases writePointer r <;> rfl
  | _ => rfl

theorem writePointerPath_cons (e : PathElem) (p : Path) :
    writePointerPath (e :: p) =
      match wtok e with
      | some t => (match writePointerPath p with | .ok rest => .ok ("/" ++ t ++ rest) | e' => e')
      | none => .err := by
  rw [writePointerPath_eq, writePointerPath_eq, List.map_cons, writePointer_cons]

theorem writePointerPath_nil : writePointerPath [] = .ok "" := rfl

/-- the pointer text of a path written token by token by `w` (`none` = the element is refused);
    `writePointerPath` is `wpOf wtok` -/
def wpOf (w : PathElem → Option String) : Path → Outcome String
  | [] => .ok ""
  | e :: p =>
    match w e with
    | some t => (match wpOf w p with | .ok rest => .ok ("/" ++ t ++ rest) | e' => e')
    | none => .err

theorem writePointerPath_eq_wpOf : ∀ p : Path, writePointerPath p = wpOf wtok p
  | [] => rfl
  | e :: p => by rw [writePointerPath_cons, writePointerPath_eq_wpOf p]; rfl

section WpOf
variable {w w' : PathElem → Option String}

theorem wpOf_cons_ok {e : PathElem} {p : Path} {s : String} (h : wpOf w (e :: p) = .ok s) :
    ∃ t rest, w e = some t ∧ wpOf w p = .ok rest ∧ s = "/" ++ t ++ rest := by
  simp only [wpOf] at h
  cases ht : w e with
  | none => rw [ht] at h; cases h
  | some t =>
    rw [ht] at h
    cases hp : wpOf w p with
    | err => rw [hp] at h; cases h
    | panic => rw [hp] at h; cases h
    | ok rest => rw [hp] at h; exact ⟨t, rest, rfl, rfl, (Outcome.ok.inj h).symm⟩

theorem wpOf_congr : ∀ {p : Path}, (∀ e ∈ p, w e = w' e) → wpOf w p = wpOf w' p
  | [], _ => rfl
  | e :: p, h => by
    simp only [wpOf, h e List.mem_cons_self,
      wpOf_congr (p := p) (fun e' he' => h e' (List.mem_cons_of_mem _ he'))]

/-- a token writer that refuses less writes the same text -/
theorem wpOf_mono (hw : ∀ e t, w e = some t → w' e = some t) :
    ∀ {p : Path} {s : String}, wpOf w p = .ok s → wpOf w' p = .ok s
  | [], _, h => h
  | e :: p, s, h => by
    obtain ⟨t, rest, ht, hp, rfl⟩ := wpOf_cons_ok h
    simp only [wpOf, hw e t ht, wpOf_mono hw hp]

/-- the path is written exactly when every element has a token … -/
theorem wpOf_ok_iff : ∀ {p : Path}, (∃ s, wpOf w p = .ok s) ↔ ∀ e ∈ p, (w e).isSome = true
  | [] => Iff.intro (fun _ _ h => nomatch h) (fun _ => Exists.intro "" rfl)
  | e :: p => by
    constructor
    · rintro ⟨s, h⟩ e' he'
      obtain ⟨t, rest, ht, hp, _⟩ := wpOf_cons_ok h
      rcases List.mem_cons.1 he' with rfl | he'
      · simp [ht]
      · exact wpOf_ok_iff.1 ⟨rest, hp⟩ e' he'
    · intro h
      obtain ⟨t, ht⟩ := Option.isSome_iff_exists.1 (h e List.mem_cons_self)
      obtain ⟨rest, hp⟩ := wpOf_ok_iff.2 (fun e' he' => h e' (List.mem_cons_of_mem _ he'))
      exact ⟨"/" ++ t ++ rest, by simp only [wpOf, ht, hp]⟩

/-- … and is refused otherwise (`.panic` does not occur) -/
theorem wpOf_err_or_ok : ∀ (p : Path), wpOf w p = .err ∨ ∃ s, wpOf w p = .ok s
  | [] => .inr ⟨"", rfl⟩
  | e :: p => by
    simp only [wpOf]
    cases w e with
    | none => exact .inl rfl
    | some t =>
      rcases wpOf_err_or_ok p with h | ⟨s, h⟩ <;> rw [h]
      · exact .inl rfl
      · exact .inr ⟨_, rfl⟩

end WpOf

/-- the Int → float64 → Int conversion of an index is the identity (true for `|i| < 2^53`) -/
def IdxRT (i : Int) : Prop := floatTrunc (intToFloatBits i) = i

def idxRange (p : Path) : Prop := ∀ i, PathElem.idx i ∈ p → IdxRT i

/-- a path element jd can express as a JSON Pointer token -/
def expressible : PathElem → Prop
  | .key k => atoi? k = none ∧ k ≠ "-"
  | .idx _ => True
  | _ => False

theorem expressible_of_wtok {e : PathElem} {t : String} (h : wtok e = some t) : expressible e := by
  cases e with
  | key k =>
    simp only [wtok] at h
    split at h
    · cases h
    · split at h
      · cases h
      · rename_i h1 h2; exact ⟨by simpa using h1, by simpa using h2⟩
  | idx i => trivial
  | _ => simp [wtok] at h

theorem wtok_some {e : PathElem} {t : String} (h : wtok e = some t) (hr : ∀ i, e = .idx i → IdxRT i) :
    expressible e ∧ t.toList = escChars (elemTok e).toList := by
  refine ⟨expressible_of_wtok h, ?_⟩
  cases e with
  | key k =>
    have hk : t = ptrEscape k := by
      simp only [wtok] at h
      split at h
      · cases h
      · split at h
        · cases h
        · exact (Option.some.inj h).symm
    rw [hk]
    exact ptrEscape_toList k
  | idx i =>
    simp only [wtok] at h
    injection h with h; subst h
    rw [hr i rfl]
    simp only [elemTok, idxTok]
    split
    · rfl
    · exact ptrEscape_toList _
  | _ => simp [wtok] at h

/-- the text written, when every token written is the escaped reference token of its element -/
theorem wpOf_text {w : PathElem → Option String}
    (hw : ∀ e t, w e = some t → (∀ i, e = .idx i → IdxRT i) → t.toList = escChars (elemTok e).toList) :
    ∀ {p : Path} {s : String}, wpOf w p = .ok s → idxRange p →
      s.toList = (ptoks p).flatMap (fun t => '/' :: escChars t.toList)
  | [], s, h, _ => by cases Outcome.ok.inj h; rfl
  | e :: p, s, h, hr => by
    obtain ⟨t, rest, ht, hp, rfl⟩ := wpOf_cons_ok h
    have h2 := hw e t ht (fun i hi => hr i (by rw [hi]; exact List.mem_cons_self))
    have h4 := wpOf_text hw hp (fun i hi => hr i (List.mem_cons_of_mem _ hi))
    simp [ptoks, h2, h4]

/-- what `writePointerPath` accepts, and the text it writes -/
theorem writePointerPath_ok : ∀ {p : Path} {s : String}, writePointerPath p = .ok s → idxRange p →
    (∀ e ∈ p, expressible e) ∧
    s.toList = (ptoks p).flatMap (fun t => '/' :: escChars t.toList) := by
  intro p s h hr
  rw [writePointerPath_eq_wpOf] at h
  refine ⟨fun e he => ?_, wpOf_text (fun _ _ ht hi => (wtok_some ht hi).2) h hr⟩
  obtain ⟨t, ht⟩ := Option.isSome_iff_exists.1 (wpOf_ok_iff.1 ⟨s, h⟩ e he)
  exact expressible_of_wtok ht

/-- refusal: a path with a set / multiset / keyed element, a number-like key or the key
    `-` is refused -/
theorem writePointerPath_refuses : ∀ {p : Path}, (∃ e ∈ p, ¬ expressible e) → writePointerPath p = .err := by
  intro p h
  rw [writePointerPath_eq_wpOf]
  refine (wpOf_err_or_ok p).resolve_right fun h' => ?_
  obtain ⟨e, he, hn⟩ := h
  obtain ⟨t, ht⟩ := Option.isSome_iff_exists.1 (wpOf_ok_iff.1 h' e he)
  exact hn (expressible_of_wtok ht)

section SplitOn
open String

theorem splitOn_slash (s : String) :
    s.splitOn "/" = (List.splitOnP (· == '/') s.toList).map ofList :=
  splitOn_char '/' s

end SplitOn

theorem splitOnP_tokens (p : Char → Bool) (sep : Char) (hsep : p sep = true) :
    ∀ (tl : List (List Char)) (t0 : List Char), (∀ x ∈ t0, p x = false) →
      (∀ t ∈ tl, ∀ x ∈ t, p x = false) →
      List.splitOnP p (t0 ++ tl.flatMap (fun t => sep :: t)) = t0 :: tl
  | [], t0, h0, _ => by simpa using List.splitOnP_eq_singleton h0
  | t :: tl, t0, h0, h => by
    simp only [List.flatMap_cons, List.cons_append]
    rw [List.splitOnP_append_cons_of_forall_mem h0 sep hsep]
    congr 1
    exact splitOnP_tokens p sep hsep tl t (h t List.mem_cons_self)
      (fun t' ht' => h t' (List.mem_cons_of_mem _ ht'))

theorem mapM_decode (toks : List String) :
    (toks.map (fun t => String.ofList (escChars t.toList))).mapM
      (fun t => (decodeToken t.toList).map String.ofList) = some toks := by
  induction toks with
  | nil => rfl
  | cons t r ih =>
    simp only [List.map_cons, List.mapM_cons, String.toList_ofList, decodeToken_escChars,
      Option.map_some, String.ofList_toList, ih]
    rfl

/-- the reference tokens of a text `/t₁/t₂…` whose tokens contain no slash -/
theorem splitOn_drop_of_raw {s : String} {raw : List (List Char)}
    (h : s.toList = raw.flatMap (fun t => '/' :: t))
    (hns : ∀ t ∈ raw, ∀ x ∈ t, (x == '/') = false) :
    (s.splitOn "/").drop 1 = raw.map String.ofList := by
  rw [splitOn_slash, h]
  have := splitOnP_tokens (· == '/') '/' (by simp) raw [] (by simp) hns
  simp only [List.nil_append] at this
  rw [this]; rfl

theorem splitOn_drop_of_toks {s : String} {toks : List String}
    (h : s.toList = toks.flatMap (fun t => '/' :: t.toList))
    (hns : ∀ t ∈ toks, ∀ x ∈ t.toList, (x == '/') = false) :
    (s.splitOn "/").drop 1 = toks := by
  rw [splitOn_drop_of_raw (raw := toks.map String.toList) (by rw [h, List.flatMap_map])
    (fun t ht => by obtain ⟨t', h1, rfl⟩ := List.mem_map.1 ht; exact hns t' h1)]
  simp

/-- the text `/esc(t₁)/esc(t₂)…` is the text `/u₁/u₂…` of the slash-free tokens `uᵢ = esc(tᵢ)` -/
theorem ptrText_toks {s : String} {toks : List String}
    (h : s.toList = toks.flatMap (fun t => '/' :: escChars t.toList)) :
    s.toList = (toks.map fun t => String.ofList (escChars t.toList)).flatMap (fun t => '/' :: t.toList) ∧
    ∀ t ∈ toks.map (fun t => String.ofList (escChars t.toList)), ∀ x ∈ t.toList, (x == '/') = false := by
  refine ⟨by rw [h, List.flatMap_map]; simp only [String.toList_ofList], fun t ht x hx => ?_⟩
  obtain ⟨t', _, rfl⟩ := List.mem_map.1 ht
  rw [String.toList_ofList] at hx
  rw [beq_eq_false_iff_ne]
  rintro rfl
  exact escChars_no_slash _ hx

/-- a text with a slash in front is not empty and starts with a slash -/
theorem slash_first {s : String} {rest : List Char} (h : s.toList = '/' :: rest) :
    (s == "") = false ∧ s.startsWith "/" = true := by
  constructor
  · rw [beq_eq_false_iff_ne]
    rintro rfl
    cases h
  · rw [String.startsWith_string_iff, h]
    exact ⟨_, rfl⟩

/-- the text `/esc(t₁)/esc(t₂)…` parses (RFC 6901) to the tokens `t₁, t₂, …` -/
theorem parsePointer_of_toList {s : String} {toks : List String}
    (h : s.toList = toks.flatMap (fun t => '/' :: escChars t.toList)) :
    parsePointer s = some toks := by
  unfold parsePointer
  cases toks with
  | nil =>
    have : s = "" := by apply String.toList_inj.1; simpa using h
    simp [this]
  | cons t r =>
    obtain ⟨hne, hsw⟩ := slash_first (rest := _) h
    obtain ⟨ht, hns⟩ := ptrText_toks h
    simp only [hne, hsw, Bool.false_eq_true, if_false, Bool.not_true, splitOn_drop_of_toks ht hns]
    exact mapM_decode (t :: r)

/-- the pointer jd writes for an expressible path parses to the path's tokens -/
theorem ptrOK_of_range {p : Path} (hr : idxRange p) : PtrOK p := by
  intro s hs
  exact parsePointer_of_toList (writePointerPath_ok hs hr).2

/-! ### the Int → float64 → Int conversion of indices -/

theorem idxRT_of_bound {i : Int} (h : i.natAbs < 2 ^ 53) : IdxRT i := floatTrunc_intToFloatBits h

/-! ### axioms -/

#print axioms writePointerPath_ok
#print axioms writePointerPath_refuses
#print axioms ptrOK_of_range
#print axioms floatTrunc_intToFloatBits
#print axioms arrayIndex_toString

end Jd
