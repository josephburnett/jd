/-
  JdProofs.V1MergeRender — property C18, JSON Merge Patch half (v1 library `lib/`):
  `Diff.RenderMerge` / `ReadMergeString` / `Patch` of the v1 library against RFC 7386.
  Namespace `Jd.V1M`. Everything is about the LIBRARY functions of the v1 model (`Jd.V1.diffM`,
  `Jd.V1.renderMergeDoc`, `Jd.V1.readMergeDoc`, `Jd.V1.patchM`, `Jd.V1.equals`) and the transcription
  of the RFC (`Jd.Spec.mergePatch`).

  Domain
    * metadata `MergeMode m`: MERGE present, no SET, no MULTISET, precision 0 or absent (a `setkeys`
      metadata is allowed: alone it leaves arrays lists in v1). `MergeMode.single : MergeMode [.merge]`.
    * first document `a`: `rawDoc` (plain `jsonArray` nodes: what the readers produce), `wf` (sorted
      unique keys). `a` MAY contain nulls (they are overwritten or deleted, never kept). `a.wf` is
      needed already for the shape of the diff: on EQUAL lists the v1 merge diff still runs the
      positional loop of `jsonList.diff`, and the sub-diff of two equal objects is empty only for
      unique keys.
    * second document `b`: `rawDoc`, `wf`, `nullFree` (RFC 7386 cannot express "set to null": the
      domain of the property), `objVoidFree` (no void at the root / as a member: a reader never
      produces one), `finiteNums` + `FloatLaws` (reflexivity of `|x - y| ≤ 0` on copied numbers).
    * `V1.equals m a b = false` ("that differ"): for equal NON-object documents the empty diff
      renders to `{}` and `MergePatch(a, {})` is `{}`; not needed when `a` is an object (`…_obj`).
    NO hash hypothesis (list reading never hashes), no `IdxLaws` (merge hunks carry no indices).

  Main results
   (1) `v1_merge_render_correct` (and `…_obj`):
         ∃ p, V1.renderMergeDoc (liftDiff (V1.diffM m a b)) = .ok p ∧ p is not void, not null ∧
              specEq (mergePatch a p) b = true
       (`specEq` = `equivB []`: structural equality, ignoring only the Go dynamic type of array
       nodes; `renderMergeDoc` takes the diff lifted to `PDiff` by `liftDiff`, as in the model).
       `v1_renderMergeM_eq`: the text is the JSON encoding of that document.
   (2) `v1_merge_render_readback` (and `…_obj`): additionally `a.isObj ∨ b ≠ {}`; for the `p` of (1)
         V1.patchM a (V1.readMergeDoc p) = .ok r ∧ r = mergePatch a p ∧ V1.equals m r b = true ∧
         specEq r b = true ∧ r.listDoc = true.
       COUNTEREXAMPLE on the excluded pairs, `v1_witness_readback_nonobj_to_empty_object`: for EVERY
       non-object `a` (rawDoc, wf) and `b = {}` the documents differ, the rendered patch is `{}`,
       RFC 7386 gives `{}` = b, but `ReadMergeString("{}")` is the empty diff and `Patch` returns `a`
       unchanged: read-back does NOT yield `b`. Confirmed on the Go code (/repo/lib) for
       a = `1`, `[]` and b = `{}`: RenderMerge = "{}", ReadMergeString("{}") = empty diff,
       Patch result `1` / `[]`, `Equals(b)` false. (Class (a) of `Merge.Clean`, also in v2.)
   (3) `v1_read_apply_eq_v2` : `V1.patchM t (V1.readMergeDoc p) = patchAll true t (readMergeDoc p)`
       for ALL t, p (the v1 reader + v1 patch is the v2 reader + v2 patch: no hypothesis), hence
       `v1_merge_read_apply_iff` : for wf t, wf void-free p,
         V1.patchM t (V1.readMergeDoc p) = .ok (mergePatch t p) ↔ Merge.Clean t p = true
       (`v1_merge_read_apply`: the `←` direction; `v1_merge_read_apply_unclean`: outside `Clean` the
       results differ); the witnesses of the three excluded classes are the v2 ones read through
       `v1_read_apply_eq_v2` (JdProps/C18).

  NOT proved here: the TEXT round trip (`renderMergeM` then `readMergeM`: JSON encoding / parsing
  of the patch document) — (2) starts from the document `p`; SET / MULTISET + MERGE.

  Method: transfer to the pure functions of JdProofs/MergeHunks.lean (`mset`, `mapply`, `rdInto`)
  and JdProofs/MergeProofs.lean (`dl`). One v1 merge hunk
  `{path = ["MERGE"] :: keys, new = [v]}` is `Merge.mset` (`patchNode_mm_kp`), so `patchM` on such hunks
  is `Merge.mapply` (`patchM_vh`); the v1 reader is `Merge.rdInto` (`readMergeDoc_eq`); in merge mode
  the v1 `Equals` is the v2 `Equals []` (instance of `V1L.equals_eq`); equal documents have an EMPTY
  merge diff at any path (`V1L.empty_node`: the positional loop over equal lists produces nothing), so
  the v1 merge diff is the pure diff `V1PM.dlp m` with the v1 `Equals` as comparison (`diffNode_eq_dlp`,
  any precision), which at precision 0 is `Merge.dl []` (`dlp_eq_dl`, `diffM_eq_dl`); (1) then
  follows from `Merge.sound`. The rendered
  patch is wf, void-free, a list document (`pdoc_shape`: its values are parts of `b`, `PDiff.vals`, and
  the three predicates survive storing a member, `PutP.mapply_of_ne`) and `cleanIn a`
  (`Merge.mergePatch_doc`): `xnode`; `mergePatch` keeps list documents; (2) = (1) + (3) + these.
-/
import JdModel
import JdSpec
import JdProofs.EqualsList
import JdProofs.Common
import JdProofs.MergeProofs
import JdProofs.V1ListDiffPatch

namespace Jd.V1M
open Jd Jd.Spec Jd.Merge

/-! ## 1. one v1 merge hunk is `mset` -/

/-- the metadata path element `["MERGE"]` -/
def mm : V1.PElem := .node V1.mergeMetaElem

/-- a path of object keys -/
def kp (ks : List String) : V1.PPath := ks.map (fun k => V1.PElem.node (.str k))

theorem kp_cons (k : String) (ks : List String) : kp (k :: ks) = .node (.str k) :: kp ks := rfl

theorem leaf_kp : ∀ ks : List String, V1.pathIsLeaf (kp ks) = ks.isEmpty
  | [] => rfl
  | [_] => rfl
  | _ :: _ :: _ => rfl

theorem leaf_mm_kp : ∀ ks : List String, V1.pathIsLeaf (mm :: kp ks) = ks.isEmpty
  | [] => rfl
  | _ :: _ => rfl

theorem next_kp (k : String) (ks : List String) :
    V1.pathNext (kp (k :: ks)) = (.node (.str k), [], kp ks) := rfl

theorem next_mm_kp (k : String) (ks : List String) :
    V1.pathNext (mm :: kp (k :: ks)) = (.node (.str k), [.merge], kp ks) := by
  simp [V1.pathNext, V1.pathNextAux, mm, V1.mergeMetaElem, kp, V1.metaOfItems]

/-! What the patch functions read of the path of a merge hunk is `pathIsLeaf` and `pathNext`; a
    metadata element in front changes neither the next key nor the rest, so each function is
    described once for a leaf path and once for a path whose next element is a key. -/

theorem patchCommon_leaf (n v : Json) {p : V1.PPath} (hl : V1.pathIsLeaf p = true) :
    V1.patchCommon true n p [] [v] = .ok v := by
  rw [V1P.patchCommon_leaf hl]; rfl

theorem patchCommon_step (n v : Json) {p : V1.PPath} {k : String} {rest : List String}
    {M : V1.Metas} (hl : V1.pathIsLeaf p = false)
    (hn : V1.pathNext p = (.node (.str k), M, kp rest))
    (ih : V1.patchCommon true n (kp rest) [] [v] = .ok (nest rest v)) :
    V1.patchCommon true n p [] [v] = .ok (nest (k :: rest) v) := by
  rw [V1P.patchCommon_merge_key hl hn, ih]
  simp only [leaf_kp]
  cases rest with
  | nil =>
    cases hv : v.isVoid <;> simp [nest, putKvs, hv, aerase, ainsert]
  | cons k' r' =>
    simp [nest, putKvs, Json.isVoid, ainsert]

theorem patchCommon_kp (n v : Json) :
    ∀ ks : List String, V1.patchCommon true n (kp ks) [] [v] = .ok (nest ks v)
  | [] => patchCommon_leaf n v rfl
  | k :: rest => patchCommon_step n v (leaf_kp _) (next_kp k rest) (patchCommon_kp n v rest)

/-- a freshly created empty object patched along a non-empty key path -/
theorem patchEmptyObj_kp (v : Json) :
    ∀ (k : String) (ks : List String),
      V1.patchEmptyObj true (kp (k :: ks)) [] [v] = .ok (nest (k :: ks) v)
  | k, [] => by
    rw [V1.patchEmptyObj.eq_def]
    simp only [leaf_kp, List.isEmpty_cons, Bool.false_eq_true, dite_false]
    rw [next_kp]
    simp only [V1.asKey, leaf_kp, List.isEmpty_nil, Bool.not_true, Bool.and_false,
      Bool.false_eq_true, if_false, patchCommon_kp]
    have : (kp [k]).isEmpty = false := rfl
    simp only [this, Bool.false_and, Bool.false_eq_true, if_false]
    cases hv : v.isVoid <;> simp [nest, putKvs, hv, aerase, ainsert]
  | k, k' :: r => by
    rw [V1.patchEmptyObj.eq_def]
    have ih := patchEmptyObj_kp v k' r
    simp only [leaf_kp, List.isEmpty_cons, Bool.false_eq_true, dite_false]
    rw [next_kp]
    have : (kp (k :: k' :: r)).isEmpty = false := rfl
    simp only [this, Bool.false_and, Bool.false_eq_true, if_false, V1.asKey, leaf_kp,
      List.isEmpty_cons, Bool.not_false, Bool.and_self, if_true, ih]
    simp [nest, putKvs, Json.isVoid, ainsert]

theorem patchMissing_kp (v : Json) (ks : List String) :
    V1.patchMissing true (kp ks) [] [v] = .ok (nest ks v) := by
  unfold V1.patchMissing
  cases ks with
  | nil => simp [leaf_kp, patchCommon_kp]
  | cons k r => simp [leaf_kp, patchEmptyObj_kp]

theorem patchNode_leaf (v t : Json) {p : V1.PPath} (hl : V1.pathIsLeaf p = true) :
    V1.patchNode true t p [] [v] = .ok v := by
  cases t with
  | obj kvs => rw [V1P.patchNode_obj_eq]; simp [hl, Json.singleValue]
  | arr tg xs =>
    obtain ⟨t', e⟩ := V1P.patchNode_arr_merge tg xs p (old := []) (new := [v]) (by simp) (by simp)
    rw [e, patchCommon_leaf _ v hl]
  | _ =>
    rw [V1P.patchNode_scalar true (fun _ _ e => by cases e) (fun _ e => by cases e),
      patchCommon_leaf _ v hl]

/-- a path whose next element is the key `k`: the member is patched along the rest (`ih`); on
    anything but an object the merge hunk creates nested objects -/
theorem patchNode_step (v : Json) {p : V1.PPath} {k : String} {rest : List String}
    {M : V1.Metas} (hl : V1.pathIsLeaf p = false)
    (hn : V1.pathNext p = (.node (.str k), M, kp rest))
    (ih : ∀ c, V1.patchNode true c (kp rest) [] [v] = .ok (mset c rest v)) (t : Json) :
    V1.patchNode true t p [] [v] = .ok (mset t (k :: rest) v) := by
  have hc := fun n => patchCommon_step n v hl hn (patchCommon_kp n v rest)
  cases t with
  | obj kvs =>
    have hp : p.isEmpty = false := by cases p <;> simp_all [V1.pathIsLeaf]
    rw [V1P.patchNode_obj_eq]
    simp only [hp, Bool.false_and, Bool.false_eq_true, if_false, hl, hn, V1.asKey]
    cases hlk : alookup k kvs with
    | some c =>
      simp only [ih c, Outcome.bind_ok, putKey]
      simp only [mset, getK, hlk, Option.getD_some]
    | none =>
      simp only [patchMissing_kp, Outcome.bind_ok, putKey]
      simp only [mset, getK, hlk, Option.getD_none, mset_void]
  | arr tg xs =>
    obtain ⟨t', e⟩ := V1P.patchNode_arr_merge tg xs p (old := []) (new := [v]) (by simp) (by simp)
    rw [e]; simpa [mset] using hc _
  | _ =>
    rw [V1P.patchNode_scalar true (fun _ _ e => by cases e) (fun _ e => by cases e)]
    simpa [mset] using hc _

/-- one merge hunk along a key path (no metadata element: the recursive calls), as the v1 library
    applies it, is `Merge.mset` -/
theorem patchNode_kp (v : Json) :
    ∀ (ks : List String) (t : Json), V1.patchNode true t (kp ks) [] [v] = .ok (mset t ks v)
  | [], t => (patchNode_leaf v t rfl).trans (by cases t <;> rfl)
  | k :: rest, t => patchNode_step v (leaf_kp _) (next_kp k rest) (patchNode_kp v rest) t

/-- one merge hunk `{path = ["MERGE"] :: keys, new = [v]}`, as the v1 library applies it -/
theorem patchNode_mm_kp (v : Json) :
    ∀ (ks : List String) (t : Json), V1.patchNode true t (mm :: kp ks) [] [v] = .ok (mset t ks v)
  | [], t => (patchNode_leaf v t rfl).trans (by cases t <;> rfl)
  | k :: rest, t => patchNode_step v (leaf_mm_kp _) (next_mm_kp k rest) (patchNode_kp v rest) t

/-- the v1 merge hunk with key path `ks` and value `v` -/
def vh (ks : List String) (v : Json) : V1.Hunk :=
  { path := V1.mergeMetaElem :: ks.map Json.str, old := [], new := [v] }

theorem vh_toP (ks : List String) (v : Json) :
    (vh ks v).toP = { path := mm :: kp ks, old := [], new := [v] } := by
  simp [vh, V1.Hunk.toP, V1.liftPath, mm, kp]

theorem pathIsMerge_mm (p : V1.PPath) : V1.pathIsMerge (mm :: p) = true := by
  simp [V1.pathIsMerge, mm, V1.mergeMetaElem]

theorem patchAllP_vh :
    ∀ (l : List (List String × Json)) (t : Json),
      V1.patchAllP t (V1.liftDiff (l.map (fun e => vh e.1 e.2))) = .ok (mapply l t)
  | [], t => by simp [V1.patchAllP, V1.liftDiff, mapply]
  | e :: l, t => by
    simp only [List.map_cons, V1.liftDiff, V1.patchAllP, vh_toP, pathIsMerge_mm, patchNode_mm_kp]
    exact patchAllP_vh l _

theorem patchM_vh (l : List (List String × Json)) (t : Json) :
    V1.patchM t (l.map (fun e => vh e.1 e.2)) = .ok (mapply l t) := patchAllP_vh l t

/-! ## 2. the v1 reader of merge patch documents, purely -/

mutual
theorem readMergeInto_eq : ∀ (p : Json) (q : List String),
    V1.readMergeInto (V1.mergeMetaElem :: q.map Json.str) p
      = (rdInto p).map (fun e => vh (q ++ e.1) e.2)
  | .obj kvs, q => by
    rw [V1.readMergeInto, rdInto]
    split
    · simp [vh]
    · exact readMergeKvs_eq kvs q
  | .void, q => by simp [V1.readMergeInto, rdInto]
  | .null, q => by simp [V1.readMergeInto, rdInto, vh]
  | .bool _, q => by simp [V1.readMergeInto, rdInto, vh]
  | .num _, q => by simp [V1.readMergeInto, rdInto, vh]
  | .str _, q => by simp [V1.readMergeInto, rdInto, vh]
  | .arr _ _, q => by simp [V1.readMergeInto, rdInto, vh]
theorem readMergeKvs_eq : ∀ (kvs : List (String × Json)) (q : List String),
    V1.readMergeKvs (V1.mergeMetaElem :: q.map Json.str) kvs
      = (rdKvs kvs).map (fun e => vh (q ++ e.1) e.2)
  | [], q => by simp [V1.readMergeKvs, rdKvs]
  | (k, v) :: r, q => by
    rw [V1.readMergeKvs, rdKvs, readMergeKvs_eq r q]
    have := readMergeInto_eq v (q ++ [k])
    rw [List.map_append, List.map_cons, List.map_nil] at this
    rw [List.cons_append, this]
    simp [consE, Function.comp_def]
end

theorem readMergeDoc_eq (p : Json) :
    V1.readMergeDoc p = if p.isObj && (objKvs p).isEmpty then []
      else (rdInto p).map (fun e => vh e.1 e.2) := by
  have := readMergeInto_eq p []
  simp only [List.map_nil, List.nil_append] at this
  unfold V1.readMergeDoc
  cases p with
  | obj kvs =>
    cases kvs with
    | nil => simp [Json.isObj, objKvs]
    | cons kv r => simp only [this]; simp [Json.isObj, objKvs]
  | _ => simp only [this]; simp [Json.isObj]

/-! ## 3. merge mode with the list reading of arrays; the v1 `Equals` there -/

/-- the metadata of the theorems: MERGE, no SET, no MULTISET, precision 0 or absent (a `setkeys`
    metadata is allowed: alone it leaves arrays as lists in v1) -/
structure MergeMode (m : V1.Metas) : Prop where
  merge : V1.hasMerge m = true
  noSet : V1.hasSet m = false
  noMset : V1.hasMset m = false
  prec0 : V1.precOf m = 0

theorem MergeMode.single : MergeMode [.merge] := ⟨rfl, rfl, rfl, rfl⟩

theorem MergeMode.tag {m : V1.Metas} (hm : MergeMode m) : V1.dispatchTag m = .list :=
  V1P.tag_list hm.noSet hm.noMset

/-- in merge mode with the list reading the v1 `Equals` is the v2 `Equals` without options -/
theorem equals_eq {m : V1.Metas} (hm : MergeMode m) :
    ∀ (a b : Json), a.listDoc = true → V1.equals m a b = equals [] a b :=
  V1L.equals_eq hm.tag [] rfl hm.prec0.symm

theorem equalsList_eq {m : V1.Metas} (hm : MergeMode m) :
    ∀ (xs ys : List Json), listDocList xs = true → V1.equalsList m xs ys = equalsList [] xs ys :=
  V1L.equalsList_eq hm.tag [] rfl hm.prec0.symm

theorem equalsKvs_eq {m : V1.Metas} (hm : MergeMode m) :
    ∀ (kvs kvs' : List (String × Json)), listDocKvs kvs = true →
      V1.equalsKvs m kvs kvs' = equalsKvs [] kvs kvs' :=
  V1L.equalsKvs_eq hm.tag [] rfl hm.prec0.symm

/-- the v1 `Equals` in merge mode decides structural equality (`specEq`, array tags ignored) -/
theorem equals_eq_specEq {m : V1.Metas} (hm : MergeMode m) {a b : Json}
    (ha : a.listDoc = true) (hb : b.listDoc = true) : V1.equals m a b = specEq a b :=
  V1L.equals_eq_equivB hm.tag [] rfl hm.prec0.symm ha hb

/-! ## 4. unfolding equations of the v1 diff, merge strategy -/

/-- the hunk that replaces the value at `p` wholesale -/
def whole (p : List Json) (b : Json) : V1.Hunk := { path := V1.prependMerge p, old := [], new := [b] }

theorem diffNode_obj_obj (m : V1.Metas) (kvs kvs' : List (String × Json)) (p : List Json) :
    V1.diffNode m true (.obj kvs) (.obj kvs') p =
      V1.diffKvs m true p kvs' kvs ++
        (kvs'.filter (fun kv => (alookup kv.1 kvs).isNone)).map (fun kv =>
          { path := V1.prependMerge (p ++ [.str kv.1]), old := [], new := kv.2.nodeList }) := by
  rw [V1.diffNode.eq_def]
  simp

theorem diffNode_obj_other (m : V1.Metas) (kvs : List (String × Json)) (b : Json)
    (hb : ∀ kvs', b ≠ .obj kvs') (p : List Json) :
    V1.diffNode m true (.obj kvs) b p = [whole p b] := by
  rw [V1.diffNode.eq_def]
  cases b <;> simp_all [whole]

theorem diffNode_scalar (m : V1.Metas) (a b : Json) (ha : ∀ t xs, a ≠ .arr t xs)
    (ha' : ∀ kvs, a ≠ .obj kvs) (p : List Json) :
    V1.diffNode m true a b p = if V1.equals m a b then [] else [whole p b] := by
  rw [V1.diffNode.eq_def]
  cases a <;> simp_all [V1.diffCommon, whole]

theorem diffKvs_nil (m : V1.Metas) (p : List Json) (kvs' : List (String × Json)) :
    V1.diffKvs m true p kvs' [] = [] := by
  rw [V1.diffKvs.eq_def]

theorem diffKvs_cons (m : V1.Metas) (p : List Json) (kvs' : List (String × Json)) (k : String)
    (v : Json) (r : List (String × Json)) :
    V1.diffKvs m true p kvs' ((k, v) :: r) =
      (match alookup k kvs' with
       | some v' => V1.diffNode m true v v' (p ++ [.str k])
       | none => [whole (p ++ [.str k]) .void]) ++
        V1.diffKvs m true p kvs' r := by
  rw [V1.diffKvs.eq_def]
  simp only [if_true, whole]
  rfl

theorem diffElems_nil (m : V1.Metas) (p : List Json) (i : Nat) (ys : List Json) :
    V1.diffElems m true p i ys [] = [] := by
  rw [V1.diffElems.eq_def]

theorem diffElems_cons (m : V1.Metas) (p : List Json) (i : Nat) (x y : Json) (xs ys : List Json) :
    V1.diffElems m true p i (y :: ys) (x :: xs) =
      V1.diffNode m true x (V1.dispatch m y) (p ++ [V1.numOfNat i]) ::
        V1.diffElems m true p (i + 1) ys xs := by
  rw [V1.diffElems.eq_def]

end Jd.V1M

/-! ### arrays read as lists (`V1.dispatchTag m = .list`), any precision -/

namespace Jd.V1L
open Jd Jd.Spec Jd.V1M

theorem mergeNode_arr_arr {m : V1.Metas} (hl : V1.dispatchTag m = .list) {t' : Tag}
    (xs ys : List Json) (ht' : V1P.okTag t') (p : List Json) :
    V1.diffNode m true (.arr .raw xs) (.arr t' ys) p =
      if V1.equalsList m xs ys then
        (if xs.length < ys.length then
          (V1.diffElems m true p 0 ys xs).flatten ++ (ys.drop xs.length).map (fun y =>
            { path := p ++ [V1.numNeg1], old := [], new := y.nodeList })
        else
          ((xs.drop ys.length).zipIdx ys.length).reverse.map (fun xi =>
            { path := p ++ [V1.numOfNat xi.2], old := xi.1.nodeList, new := [] }) ++
          (V1.diffElems m true p 0 ys xs).reverse.flatten)
      else [whole p (.arr .list ys)] := by
  rw [V1.diffNode.eq_def]
  have he := equals_arr_arr hl (t := .list) (t' := .list) rfl rfl xs ys
  have hd : V1.dispatch m (.arr t' ys) = .arr .list ys := by
    cases t' <;> simp_all [V1.dispatch, V1P.okTag]
  simp only [effTag_ok hl (t := .raw) rfl, beq_self_eq_true, if_true, hd, he, Bool.true_and]
  cases V1.equalsList m xs ys <;> simp [whole, Json.nodeList, Json.isVoid]

theorem mergeNode_arr_other {m : V1.Metas} (hl : V1.dispatchTag m = .list) (xs : List Json)
    (b : Json) (hb : ∀ t' ys, b ≠ .arr t' ys) (p : List Json) :
    V1.diffNode m true (.arr .raw xs) b p = [whole p b] := by
  rw [V1.diffNode.eq_def]
  simp only [effTag_ok hl (t := .raw) rfl]
  cases b <;> simp_all [V1.dispatch, whole]

/-! ### equal documents have an empty merge diff (whatever the path) -/

theorem empty_scalar (m : V1.Metas) {a b : Json} (h1 : ∀ t xs, a ≠ .arr t xs)
    (h2 : ∀ kvs, a ≠ .obj kvs) (p : List Json) (he : V1.equals m a b = true) :
    V1.diffNode m true a b p = [] := by
  rw [diffNode_scalar m a b h1 h2, he]; rfl

-- The recursion is on the structure of the first document; said explicitly, since left to
-- itself Lean falls back to well-founded recursion here, which is slow to check.
mutual
theorem empty_node {m : V1.Metas} (hl : V1.dispatchTag m = .list) :
    ∀ (a b : Json) (p : List Json), a.rawDoc = true → a.wf = true → b.listDoc = true →
      b.wf = true → V1.equals m a b = true → V1.diffNode m true a b p = []
  | .arr t xs, b, p, hr, hw, hb, hwb, he => by
    simp only [Json.rawDoc, Bool.and_eq_true, beq_iff_eq] at hr
    obtain ⟨rfl, hrx⟩ := hr
    cases b with
    | arr t' ys =>
      simp only [Json.listDoc, Bool.and_eq_true] at hb
      simp only [Json.wf] at hw hwb
      rw [equals_arr_arr hl rfl hb.1] at he
      rw [mergeNode_arr_arr hl xs ys hb.1, he, if_pos rfl]
      have hlen := V1P.v1_equalsList_length m xs ys he
      rw [if_neg (by omega), List.drop_of_length_le (by omega)]
      simp only [List.zipIdx_nil, List.reverse_nil, List.map_nil, List.nil_append]
      exact List.flatten_eq_nil_iff.2 (fun d hd =>
        empty_elems hl xs ys p 0 hrx hw hb.2 hwb he d (List.mem_reverse.1 hd))
    | _ => rw [equals_arr hl (t := .raw) rfl] at he; simp at he
  | .obj kvs, b, p, hr, hw, hb, hwb, he => by
    cases b with
    | obj kvs' =>
      simp only [Json.rawDoc] at hr
      simp only [Json.listDoc] at hb
      simp only [Json.wf, Bool.and_eq_true] at hw hwb
      simp only [V1.equals, Bool.and_eq_true, beq_iff_eq] at he
      rw [diffNode_obj_obj, empty_kvs hl kvs kvs' p hr hw.2 hb hwb.2 he.2, List.nil_append,
        List.map_eq_nil_iff, V1P.filter_isNone_eq_nil_iff]
      exact subset_of_nodup_subset_length _ _ (keysSorted_nodup hw.1)
        (V1P.v1_equalsKvs_keys m kvs' kvs he.2) (by simp [he.1])
    | _ => simp [V1.equals] at he
  | .void, b, p, _, _, _, _, he => empty_scalar m (by simp) (by simp) p he
  | .null, b, p, _, _, _, _, he => empty_scalar m (by simp) (by simp) p he
  | .bool _, b, p, _, _, _, _, he => empty_scalar m (by simp) (by simp) p he
  | .num _, b, p, _, _, _, _, he => empty_scalar m (by simp) (by simp) p he
  | .str _, b, p, _, _, _, _, he => empty_scalar m (by simp) (by simp) p he
termination_by structural a => a
theorem empty_kvs {m : V1.Metas} (hl : V1.dispatchTag m = .list) :
    ∀ (kvs kvs' : List (String × Json)) (p : List Json), rawDocKvs kvs = true → wfKvs kvs = true →
      listDocKvs kvs' = true → wfKvs kvs' = true → V1.equalsKvs m kvs kvs' = true →
      V1.diffKvs m true p kvs' kvs = []
  | [], kvs', p, _, _, _, _, _ => diffKvs_nil m p kvs'
  | (k, v) :: r, kvs', p, hr, hw, hb, hwb, he => by
    simp only [rawDocKvs, wfKvs, Bool.and_eq_true] at hr hw
    rw [V1.equalsKvs, Bool.and_eq_true] at he
    rw [diffKvs_cons, empty_kvs hl r kvs' p hr.2 hw.2 hb hwb he.2, List.append_nil]
    cases hlk : alookup k kvs' with
    | none => rw [hlk] at he; simp at he
    | some v' =>
      rw [hlk] at he
      exact empty_node hl v v' _ hr.1 hw.1 (alookup_listDoc hlk hb) (alookup_wf hlk hwb) he.1
termination_by structural kvs => kvs
theorem empty_elems {m : V1.Metas} (hl : V1.dispatchTag m = .list) :
    ∀ (xs ys : List Json) (p : List Json) (i : Nat), rawDocList xs = true → wfList xs = true →
      listDocList ys = true → wfList ys = true → V1.equalsList m xs ys = true →
      ∀ d ∈ V1.diffElems m true p i ys xs, d = []
  | [], ys, p, i, _, _, _, _, _ => by simp [diffElems_nil]
  | x :: xs, [], p, i, _, _, _, _, he => by simp [V1.equalsList] at he
  | x :: xs, y :: ys, p, i, hr, hw, hb, hwb, he => by
    simp only [rawDocList, wfList, listDocList, Bool.and_eq_true] at hr hw hb hwb
    simp only [V1.equalsList, Bool.and_eq_true] at he
    rw [diffElems_cons, List.forall_mem_cons]
    refine ⟨?_, empty_elems hl xs ys p (i + 1) hr.2 hw.2 hb.2 hwb.2 he.2⟩
    exact empty_node hl x (V1.dispatch m y) _ hr.1 hw.1 (dispatch_listDoc hl hb.1)
      (by rw [V1P.dispatch_wf]; exact hwb.1) (by rw [equals_dispatch hl]; exact he.1)
termination_by structural xs => xs
end

end Jd.V1L

namespace Jd.V1M
open Jd Jd.Spec Jd.Merge

theorem empty_node {m : V1.Metas} (hm : MergeMode m) :
    ∀ (a b : Json) (p : List Json), a.rawDoc = true → a.wf = true → b.listDoc = true →
      b.wf = true → V1.equals m a b = true → V1.diffNode m true a b p = [] :=
  V1L.empty_node hm.tag

theorem empty_kvs {m : V1.Metas} (hm : MergeMode m) :
    ∀ (kvs kvs' : List (String × Json)) (p : List Json), rawDocKvs kvs = true → wfKvs kvs = true →
      listDocKvs kvs' = true → wfKvs kvs' = true → V1.equalsKvs m kvs kvs' = true →
      V1.diffKvs m true p kvs' kvs = [] :=
  V1L.empty_kvs hm.tag

theorem empty_elems {m : V1.Metas} (hm : MergeMode m) :
    ∀ (xs ys : List Json) (p : List Json) (i : Nat), rawDocList xs = true → wfList xs = true →
      listDocList ys = true → wfList ys = true → V1.equalsList m xs ys = true →
      ∀ d ∈ V1.diffElems m true p i ys xs, d = [] :=
  V1L.empty_elems hm.tag

/-! ## 5. the v1 merge diff is the pure merge diff `Merge.dl` (the one of the v2 proofs) -/

theorem prependMerge_keys (q : List String) :
    V1.prependMerge (q.map Json.str) = V1.mergeMetaElem :: q.map Json.str := by
  cases q <;> rfl

theorem whole_keys (q : List String) (b : Json) : whole (q.map Json.str) b = vh q b := by
  simp [whole, vh, prependMerge_keys]

theorem whole_keys_snoc (q : List String) (k : String) (b : Json) :
    whole (q.map Json.str ++ [.str k]) b = vh (q ++ [k]) b := by
  rw [← whole_keys]; simp

/-- the second loop of `jsonObject.diff` in merge mode, for non-void members -/
theorem additions_eq_of_mem (q : List String) (kvs : List (String × Json)) :
    ∀ (kvs' : List (String × Json)), (∀ k v, (k, v) ∈ kvs' → v.isVoid = false) →
      (kvs'.filter (fun kv => (alookup kv.1 kvs).isNone)).map (fun kv =>
          ({ path := V1.prependMerge (q.map Json.str ++ [.str kv.1]), old := [],
             new := kv.2.nodeList } : V1.Hunk))
        = ((kvs'.filter (fun kv => (alookup kv.1 kvs).isNone)).map
            (fun kv => ([kv.1], kv.2))).map (fun e => vh (q ++ e.1) e.2)
  | [], _ => rfl
  | (k, v) :: r, h => by
    have ih := additions_eq_of_mem q kvs r (fun k v hm => h k v (List.mem_cons_of_mem _ hm))
    have hv : v.nodeList = [v] := by
      have := h k v List.mem_cons_self
      simp [Json.nodeList, this]
    simp only [List.filter_cons]
    split
    · simp only [List.map_cons, ih, hv]
      have := whole_keys_snoc q k v
      simp only [whole] at this
      rw [this]
    · exact ih

/-- the merge diff of the members of the first object is the pure one (`DK`, built from `D` like
    `dlKvs` from `dl`) when the merge diff of every common member is `D` of it -/
theorem diffKvs_eq_of_members (m : V1.Metas) (D : Json → Json → List (List String × Json))
    (DK : List (String × Json) → List (String × Json) → List (List String × Json))
    (kvs' : List (String × Json)) (hnil : DK kvs' [] = [])
    (hcons : ∀ k v r, DK kvs' ((k, v) :: r) =
      (match alookup k kvs' with
       | some v' => (D v v').map (consE k)
       | none => [([k], .void)]) ++ DK kvs' r)
    (q : List String) :
    ∀ kvs : List (String × Json),
      (∀ k v v', (k, v) ∈ kvs → alookup k kvs' = some v' →
        V1.diffNode m true v v' ((q ++ [k]).map Json.str)
          = (D v v').map (fun e => vh (q ++ [k] ++ e.1) e.2)) →
      V1.diffKvs m true (q.map Json.str) kvs' kvs = (DK kvs' kvs).map (fun e => vh (q ++ e.1) e.2)
  | [], _ => by rw [diffKvs_nil, hnil]; rfl
  | (k, v) :: r, H => by
    rw [diffKvs_cons, hcons]
    simp only [List.map_append]
    rw [diffKvs_eq_of_members m D DK kvs' hnil hcons q r
      (fun k0 v0 v' hm => H k0 v0 v' (List.mem_cons_of_mem _ hm))]
    congr 1
    cases hl : alookup k kvs' with
    | none => simp [whole_keys_snoc]
    | some v' =>
      have := H k v v' List.mem_cons_self hl
      simp only [List.map_append, List.map_cons, List.map_nil] at this
      simp only [this]
      simp [consE, Function.comp_def]

/-- **the v1 merge diff is a pure merge diff, hunk by hunk, in every reading of arrays**: two
    objects are walked member by member and scalars are compared by the library's `Equals`, whatever
    the reading; the reading says what becomes of an array (`harr`, `harrO`). `Q` is what is known
    of a pair met on the way down through the keys present on both sides. -/
theorem diffNode_eq_pure {m : V1.Metas} {cA : List Json → List Json → Bool} {T : Tag}
    {D : Json → Json → List (List String × Json)}
    {DK : List (String × Json) → List (String × Json) → List (List String × Json)}
    (P : PDiffC cA (V1.equals m) T D DK) (Q : Json → Json → Prop)
    (hval : ∀ {kvs kvs' k v v'}, Q (.obj kvs) (.obj kvs') → (k, v) ∈ kvs →
      alookup k kvs' = some v' → Q v v')
    (hnv : ∀ {kvs kvs'}, Q (.obj kvs) (.obj kvs') → ∀ k v, (k, v) ∈ kvs' → v.isVoid = false)
    (harr : ∀ {t xs t' ys}, Q (.arr t xs) (.arr t' ys) → ∀ p,
      V1.diffNode m true (.arr t xs) (.arr t' ys) p
        = if cA xs ys then [] else [whole p (.arr T ys)])
    (harrO : ∀ {t xs b}, Q (.arr t xs) b → isArr b = false → ∀ p,
      V1.diffNode m true (.arr t xs) b p = [whole p b]) :
    ∀ a b, Q a b → ∀ q : List String,
      V1.diffNode m true a b (q.map Json.str) = (D a b).map (fun e => vh (q ++ e.1) e.2) :=
  pairInd hval
    (fun a b hQ hn q => by
      cases a with
      | obj kvs =>
        have hb : b.isObj = false := by simpa [Json.isObj] using hn
        rw [P.objOther kvs hb, diffNode_obj_other m kvs b (by rintro _ rfl; cases hb)]
        simp [whole_keys]
      | arr t xs =>
        cases b with
        | arr t' ys => rw [harr hQ, P.arrArr]; split <;> simp [whole_keys]
        | _ => rw [harrO hQ rfl, P.arrOther t xs rfl]; simp [whole_keys]
      | _ =>
        rw [diffNode_scalar m _ b (by simp) (by simp), P.scalar rfl rfl]
        split <;> simp [whole_keys])
    (fun kvs kvs' hQ ih q => by
      rw [diffNode_obj_obj, P.obj_obj, List.map_append,
        diffKvs_eq_of_members m D DK kvs' (P.nil kvs') (P.cons kvs') q kvs
          (fun k v v' hm hl => ih k v v' hm hl (q ++ [k])),
        additions_eq_of_mem q kvs kvs' (hnv hQ)])

end Jd.V1M

namespace Jd.V1PM
open Jd Jd.Spec Jd.Merge Jd.V1M

mutual
/-- `V1.diffNode m true a b p` on documents as read from text, list reading: relative key paths and
    bare values (`void` = delete). Every comparison is the v1 `Equals` WITH the metadata (precision
    included) — this is where it differs from `Merge.dl`. -/
def dlp (m : V1.Metas) : Json → Json → List (List String × Json)
  | .obj kvs, b =>
    match b with
    | .obj kvs' =>
      dlpKvs m kvs' kvs ++
        (kvs'.filter (fun kv => (alookup kv.1 kvs).isNone)).map (fun kv => ([kv.1], kv.2))
    | _ => [([], b)]
  | .arr _ xs, b =>
    match b with
    | .arr _ ys => if V1.equalsList m xs ys then [] else [([], .arr .list ys)]
    | _ => [([], b)]
  | a, b => if V1.equals m a b then [] else [([], b)]
def dlpKvs (m : V1.Metas) (kvs' : List (String × Json)) :
    List (String × Json) → List (List String × Json)
  | [] => []
  | (k, v) :: r =>
    (match alookup k kvs' with
     | some v' => (dlp m v v').map (consE k)
     | none => [([k], .void)]) ++ dlpKvs m kvs' r
end

theorem dlp_obj_obj (m : V1.Metas) (kvs kvs' : List (String × Json)) :
    dlp m (.obj kvs) (.obj kvs') = dlpKvs m kvs' kvs ++
      (kvs'.filter (fun kv => (alookup kv.1 kvs).isNone)).map (fun kv => ([kv.1], kv.2)) := by
  simp [dlp]

theorem dlp_obj_other (m : V1.Metas) (kvs : List (String × Json)) {b : Json}
    (hb : b.isObj = false) : dlp m (.obj kvs) b = [([], b)] := by
  cases b <;> simp_all [dlp, Json.isObj]

theorem dlp_arr_arr (m : V1.Metas) (t t' : Tag) (xs ys : List Json) :
    dlp m (.arr t xs) (.arr t' ys)
      = if V1.equalsList m xs ys then [] else [([], .arr .list ys)] := by
  simp [dlp]

theorem dlp_arr_other (m : V1.Metas) (t : Tag) (xs : List Json) {b : Json} (hb : isArr b = false) :
    dlp m (.arr t xs) b = [([], b)] := by
  cases b <;> simp_all [dlp, isArr]

theorem dlp_scalar (m : V1.Metas) {a : Json} (h1 : a.isObj = false) (h2 : isArr a = false)
    (b : Json) : dlp m a b = if V1.equals m a b then [] else [([], b)] := by
  cases a <;> simp_all [dlp, Json.isObj, isArr]

theorem dlpKvs_cons (m : V1.Metas) (kvs' : List (String × Json)) (k : String) (v : Json)
    (r : List (String × Json)) :
    dlpKvs m kvs' ((k, v) :: r) =
      (match alookup k kvs' with
       | some v' => (dlp m v v').map (consE k)
       | none => [([k], .void)]) ++ dlpKvs m kvs' r := by
  rw [dlpKvs]

theorem pDiffC_dlp (m : V1.Metas) :
    PDiffC (V1.equalsList m) (V1.equals m) .list (dlp m) (dlpKvs m) :=
  ⟨dlp_obj_obj m, fun _ => by rw [dlpKvs], dlpKvs_cons m, dlp_obj_other m, dlp_arr_arr m,
    dlp_arr_other m, dlp_scalar m⟩

theorem pDiff_dlp (m : V1.Metas) : PDiff .list (dlp m) (dlpKvs m) := (pDiffC_dlp m).toPDiff

/-- the v1 merge diff in the list reading of arrays, at any precision, is `dlp m` hunk by hunk: two
    lists the library's `Equals` identifies have an empty merge diff (`V1L.empty_node`) -/
theorem diffNode_eq_dlp {m : V1.Metas} (hl : V1.dispatchTag m = .list) :
    ∀ (a b : Json) (q : List String), a.rawDoc = true → a.wf = true → b.listDoc = true →
      b.wf = true → objVoidFree b = true →
      V1.diffNode m true a b (q.map Json.str) = (dlp m a b).map (fun e => vh (q ++ e.1) e.2) :=
  fun a b q ha haw hb hbw hv =>
  diffNode_eq_pure (pDiffC_dlp m)
    (fun a b => (a.rawDoc = true ∧ a.wf = true) ∧ (b.listDoc = true ∧ b.wf = true) ∧
      objVoidFree b = true)
    (fun h hm hl' => ⟨(hered_rawDoc.and hered_wf).member h.1 hm,
      (hered_listDoc.and hered_wf).member h.2.1 (mem_of_alookup hl'),
      alookup_objVoidFree hl' h.2.2⟩)
    (fun h k v hm => by
      have hv := h.2.2
      simp only [objVoidFree, objVoidFreeKvs_eq_all, List.all_eq_true] at hv
      have := hv (k, v) hm
      cases v <;> first | rfl | cases this)
    (fun {t xs t' ys} h p => by
      obtain ⟨⟨ha, haw⟩, ⟨hb, hbw⟩, _⟩ := h
      have ht : t = .raw := by
        simp only [Json.rawDoc, Bool.and_eq_true, beq_iff_eq] at ha; exact ha.1
      subst ht
      have hb' := hb
      simp only [Json.listDoc, Bool.and_eq_true] at hb'
      cases he : V1.equalsList m xs ys with
      | true =>
        rw [V1L.empty_node hl _ _ p ha haw hb hbw ((V1L.equals_arr_arr hl rfl hb'.1 xs ys).trans he)]
        rfl
      | false => rw [V1L.mergeNode_arr_arr hl xs ys hb'.1, he]; rfl)
    (fun {t xs b} h hb p => by
      have ht : t = .raw := by
        have := h.1.1; simp only [Json.rawDoc, Bool.and_eq_true, beq_iff_eq] at this; exact this.1
      subst ht
      exact V1L.mergeNode_arr_other hl xs b (by rintro _ _ rfl; cases hb) p)
    a b ⟨⟨ha, haw⟩, ⟨hb, hbw⟩, hv⟩ q

theorem diffKvs_eq_dlp {m : V1.Metas} (hl : V1.dispatchTag m = .list)
    (kvs' : List (String × Json)) (hb : listDocKvs kvs' = true) (hbw : wfKvs kvs' = true)
    (hv : objVoidFreeKvs kvs' = true) :
    ∀ (kvs : List (String × Json)) (q : List String), rawDocKvs kvs = true → wfKvs kvs = true →
      V1.diffKvs m true (q.map Json.str) kvs' kvs
        = (dlpKvs m kvs' kvs).map (fun e => vh (q ++ e.1) e.2) :=
  fun kvs q ha haw =>
    diffKvs_eq_of_members m (dlp m) (dlpKvs m) kvs' (by rw [dlpKvs]) (dlpKvs_cons m kvs') q kvs
      (fun k v v' hm hl' => diffNode_eq_dlp hl v v' (q ++ [k]) (DES.rawDocKvs_mem ha hm)
        (mem_of_allKvs (fun _ _ _ => by rw [wfKvs]) hm haw) (alookup_listDoc hl' hb)
        (alookup_wf hl' hbw) (alookup_objVoidFree hl' hv))

end Jd.V1PM

namespace Jd.V1M
open Jd Jd.Spec Jd.Merge

/-- at precision 0 every comparison of `dlp m` is the v2 `Equals` without options: the pure diff of
    the v2 proofs -/
theorem dlp_eq_dl {m : V1.Metas} (hm : MergeMode m) :
    ∀ (a b : Json), a.listDoc = true → V1PM.dlp m a b = dl [] a b :=
  (V1PM.pDiffC_dlp m).ext (pDiffC_dl []) (fun a _ => a.listDoc = true)
    (fun h hk _ => by
      rw [Json.listDoc, listDocKvs_eq_all, List.all_eq_true] at h
      exact h _ hk)
    (fun {_ xs _ ys} h => by
      have hx : (Json.arr .list xs).listDoc = true := by
        simp only [Json.listDoc, Bool.and_eq_true] at h ⊢
        exact ⟨rfl, h.2⟩
      rw [← equals_eq hm _ _ hx, V1L.equals_arr_arr hm.tag rfl rfl])
    (fun _ _ h => equals_eq hm _ _ h)

theorem dlpKvs_eq_dlKvs {m : V1.Metas} (hm : MergeMode m) (kvs' : List (String × Json)) :
    ∀ (kvs : List (String × Json)), listDocKvs kvs = true →
      V1PM.dlpKvs m kvs' kvs = dlKvs [] kvs' kvs := fun kvs h =>
  (V1PM.pDiff_dlp m).extK (pDiff_dl []) kvs fun _ v v' hk _ =>
    dlp_eq_dl hm v v' (List.all_eq_true.1 (listDocKvs_eq_all kvs ▸ h) (_, v) hk)

theorem diffKvs_eq_dlKvs {m : V1.Metas} (hm : MergeMode m) (kvs' : List (String × Json))
    (hb : listDocKvs kvs' = true) (hbw : wfKvs kvs' = true) (hv : objVoidFreeKvs kvs' = true) :
    ∀ (kvs : List (String × Json)) (q : List String), rawDocKvs kvs = true → wfKvs kvs = true →
      V1.diffKvs m true (q.map Json.str) kvs' kvs
        = (dlKvs [] kvs' kvs).map (fun e => vh (q ++ e.1) e.2) := fun kvs q ha haw => by
  rw [V1PM.diffKvs_eq_dlp hm.tag kvs' hb hbw hv kvs q ha haw,
    dlpKvs_eq_dlKvs hm kvs' kvs (rawDocKvs_listDocKvs kvs ha)]

/-! ## 6. rendering the v1 merge diff -/

theorem diffM_eq_dl {m : V1.Metas} (hm : MergeMode m) (a b : Json) (ha : a.rawDoc = true)
    (haw : a.wf = true) (hb : b.listDoc = true) (hbw : b.wf = true) (hv : objVoidFree b = true) :
    V1.diffM m a b = (dl [] a b).map (fun e => vh e.1 e.2) := by
  have hd := V1PM.diffNode_eq_dlp hm.tag a b [] ha haw hb hbw hv
  simp only [List.map_nil, List.nil_append] at hd
  rw [V1.diffM, hm.merge, hd, dlp_eq_dl hm a b (rawDoc_listDoc a ha)]

/-- `RenderMerge` on hunks of the shape `vh` is `mapply` of the nulled hunks on nothing -/
theorem renderMergeDoc_vh (l : List (List String × Json)) :
    V1.renderMergeDoc (V1.liftDiff (l.map (fun e => vh e.1 e.2)))
      = .ok (if l = [] then .obj [] else mapply (l.map nulE) .void) := by
  unfold V1.renderMergeDoc
  cases l with
  | nil => simp [V1.liftDiff]
  | cons e l =>
    have h1 : (V1.liftDiff ((e :: l).map (fun e => vh e.1 e.2))).isEmpty = false := by
      simp [V1.liftDiff]
    have h2 : ∀ h ∈ V1.liftDiff ((e :: l).map (fun e => vh e.1 e.2)), ∃ r, h.path = mm :: r := by
      intro h hh
      simp only [V1.liftDiff, List.map_map, List.mem_map, Function.comp] at hh
      obtain ⟨x, _, rfl⟩ := hh
      exact ⟨_, by rw [vh_toP]⟩
    rw [h1, if_neg (by simp), if_neg]
    case hnc =>
      simp only [List.any_eq_true, not_exists, not_and]
      intro h hh
      obtain ⟨r, hr⟩ := h2 h hh
      rw [hr]
      simp [mm, V1.mergeMetaElem, V1.isMergeMetaElem]
    have h3 : (V1.liftDiff ((e :: l).map (fun e => vh e.1 e.2))).map
        (fun h => { h with new := h.new.map (fun v => if v.isVoid then Json.null else v) })
        = V1.liftDiff (((e :: l).map nulE).map (fun e => vh e.1 e.2)) := by
      simp only [V1.liftDiff, List.map_map]
      apply List.map_congr_left
      intro x _
      simp [vh, V1.Hunk.toP, nulE]
    rw [h3, patchAllP_vh]
    simp

theorem renderMergeDoc_diffM {m : V1.Metas} (hm : MergeMode m) (a b : Json) (ha : a.rawDoc = true)
    (haw : a.wf = true) (hb : b.listDoc = true) (hbw : b.wf = true) (hv : objVoidFree b = true) :
    V1.renderMergeDoc (V1.liftDiff (V1.diffM m a b))
      = .ok (if dl [] a b = [] then .obj [] else mapply (rl [] a b) .void) := by
  rw [diffM_eq_dl hm a b ha haw hb hbw hv, renderMergeDoc_vh]; rfl

/-! ## 7. C18 (1): the rendered v1 merge patch, applied by RFC 7386, yields the second document -/

theorem equals_eq_equivB {m : V1.Metas} (hm : MergeMode m) {a b : Json}
    (ha : a.listDoc = true) (hb : b.listDoc = true) : V1.equals m a b = equivB [] a b :=
  equals_eq_specEq hm ha hb

/-- the rendered patch document of a non-empty diff -/
def pdoc (a b : Json) : Json := mapply (rl [] a b) .void

theorem dl_ne_nil_of_ne (L : FloatLaws) {m : V1.Metas} (hm : MergeMode m) {a b : Json}
    (haw : a.wf = true) (har : a.rawDoc = true) (G : GoodB b)
    (hne : V1.equals m a b = false) : dl [] a b ≠ [] := by
  intro hd
  have := (sound L [] rfl rfl a haw har b G).1 hd
  rw [← equals_eq_equivB hm (rawDoc_listDoc a har) (rawDoc_listDoc b G.raw), hne] at this
  cases this

/-- **C18, merge half, (1).** For documents as read from JSON text (`rawDoc`, `wf`), `b` null-free,
    that the v1 `Equals` tells apart: the v1 merge diff renders (`Diff.RenderMerge`) to a JSON Merge
    Patch document `p`, and RFC 7386 `MergePatch(a, p)` is `b` (structurally: `specEq`, which ignores
    the Go dynamic type of array nodes only). -/
theorem v1_merge_render_correct (L : FloatLaws) {m : V1.Metas} (hm : MergeMode m) (a b : Json)
    (haw : a.wf = true) (har : a.rawDoc = true)
    (hbw : b.wf = true) (hbr : b.rawDoc = true) (hbn : b.nullFree = true)
    (hbv : objVoidFree b = true) (hbf : b.finiteNums = true)
    (hne : V1.equals m a b = false) :
    ∃ p, V1.renderMergeDoc (V1.liftDiff (V1.diffM m a b)) = .ok p ∧
      p.isVoid = false ∧ p.isNull = false ∧ specEq (mergePatch a p) b = true := by
  have G : GoodB b := ⟨hbw, hbr, hbn, hbv, hbf⟩
  have S := sound L [] rfl rfl a haw har b G
  have hd := dl_ne_nil_of_ne L hm haw har G hne
  rw [renderMergeDoc_diffM hm a b har haw (rawDoc_listDoc b hbr) hbw hbv, if_neg hd]
  exact ⟨_, rfl, (S.2 hd).1, (S.2 hd).2.1, (S.2 hd).2.2⟩

/-- the same without the hypothesis `a ≠ b` when the first document is an object: the empty diff
    renders to `{}`, which RFC 7386 applies as the identity on objects -/
theorem v1_merge_render_correct_obj (L : FloatLaws) {m : V1.Metas} (hm : MergeMode m) (a b : Json)
    (haw : a.wf = true) (har : a.rawDoc = true)
    (hbw : b.wf = true) (hbr : b.rawDoc = true) (hbn : b.nullFree = true)
    (hbv : objVoidFree b = true) (hbf : b.finiteNums = true)
    (hobj : a.isObj = true) :
    ∃ p, V1.renderMergeDoc (V1.liftDiff (V1.diffM m a b)) = .ok p ∧
      p.isVoid = false ∧ p.isNull = false ∧ specEq (mergePatch a p) b = true := by
  have G : GoodB b := ⟨hbw, hbr, hbn, hbv, hbf⟩
  have S := sound L [] rfl rfl a haw har b G
  rw [renderMergeDoc_diffM hm a b har haw (rawDoc_listDoc b hbr) hbw hbv]
  by_cases hd : dl [] a b = []
  · rw [if_pos hd]
    refine ⟨_, rfl, rfl, rfl, ?_⟩
    rw [mergePatch_empty_object hobj]; exact S.1 hd
  · rw [if_neg hd]
    exact ⟨_, rfl, (S.2 hd).1, (S.2 hd).2.1, (S.2 hd).2.2⟩

/-- the text: `Diff.RenderMerge()` is the JSON encoding of that document -/
theorem v1_renderMergeM_eq (nc : NumCodec) (d : V1.PDiff) (p : Json)
    (h : V1.renderMergeDoc d = .ok p) (hne : d.isEmpty = false) :
    V1.renderMergeM nc d = .ok (V1.jsonM nc p) := by
  simp [V1.renderMergeM, hne, h]

/-! ## 8. C18 (3): reading a merge patch document with the v1 reader and applying it with the v1
    `Patch` is what the v2 library does, hence RFC 7386 `MergePatch` exactly on `Merge.Clean` -/

/-- the v1 reader followed by the v1 patch is the v2 reader followed by the v2 patch: no hypothesis -/
theorem v1_read_apply_eq_v2 (t p : Json) :
    V1.patchM t (V1.readMergeDoc p) = patchAll true t (readMergeDoc p) := by
  rw [readMergeDoc_eq, Merge.readMergeDoc_eq]
  split
  · rfl
  · rw [patchM_vh, patchAll_mh]

/-- C12 for the v1 library, sharp form -/
theorem v1_merge_read_apply_iff (t p : Json) (ht : t.wf = true) (hp : p.wf = true)
    (hv : objVoidFree p = true) :
    V1.patchM t (V1.readMergeDoc p) = .ok (mergePatch t p) ↔ Clean t p = true := by
  rw [v1_read_apply_eq_v2]; exact merge_read_apply_iff t p ht hp hv

/-- **C18, merge half, (3)**: on the domain `Clean` -/
theorem v1_merge_read_apply (t p : Json) (ht : t.wf = true) (hp : p.wf = true)
    (hv : objVoidFree p = true) (hc : Clean t p = true) :
    V1.patchM t (V1.readMergeDoc p) = .ok (mergePatch t p) :=
  (v1_merge_read_apply_iff t p ht hp hv).2 hc

/-- outside `Clean` the v1 library's result is NOT the RFC 7386 result -/
theorem v1_merge_read_apply_unclean (t p : Json) (ht : t.wf = true) (hp : p.wf = true)
    (hv : objVoidFree p = true) (hc : Clean t p = false) :
    V1.patchM t (V1.readMergeDoc p) ≠ .ok (mergePatch t p) := by
  rw [v1_read_apply_eq_v2]; exact merge_read_apply_unclean t p ht hp hv hc

/-! ## 9. the rendered patch document is a well-formed, clean merge patch for `a` -/

theorem cleanKvs_nil : ∀ (pkvs : List (String × Json)), cleanKvs [] pkvs = true :=
  Merge.cleanKvs_nil

/-- what is proved of the rendered patch `v` for the target `t` -/
structure Q (t v : Json) : Prop where
  wf : v.wf = true
  vf : objVoidFree v = true
  ld : v.listDoc = true
  cl : cleanIn t v = true

theorem listDocKvs_of_mem {kvs : List (String × Json)}
    (h : ∀ k v, (k, v) ∈ kvs → v.listDoc = true) : listDocKvs kvs = true := by
  rw [listDocKvs_eq_all]; exact List.all_eq_true.2 fun kv hm => h kv.1 kv.2 hm

/-- what is proved of a pair of documents: a non-empty diff renders to a good patch for `a` -/
def X (a b : Json) : Prop := dl [] a b ≠ [] → Q a (pdoc a b)

/-- the rendered patch of a non-empty diff has unique sorted keys, no void and plain lists: its values
    are `null` or parts of `b` with the arrays re-typed to lists (`PDiff.vals`), and all three predicates
    survive storing a member (`PutP.mapply_of_ne`) -/
theorem pdoc_shape (a : Json) {b : Json} (G : GoodB b) (hd : dl [] a b ≠ []) :
    (pdoc a b).wf = true ∧ objVoidFree (pdoc a b) = true ∧ (pdoc a b).listDoc = true := by
  have C := putP_wf.and (putP_objVoidFree.and putP_listDoc)
  refine C.mapply_of_ne _ _ (fun kvs e => by cases e) (fun e he => ?_) (by simpa [rl] using hd)
  obtain ⟨e0, he0, rfl⟩ := List.mem_map.1 he
  rcases (pDiff_dl []).vals (Pv := fun v => v.wf = true ∧ objVoidFree v = true ∧ v.listDoc = true)
      C.member (fun {t ys} h => ⟨by simpa only [Json.wf] using h.1, rfl, by
        have := h.2.2; simp only [Json.listDoc, Bool.and_eq_true] at this ⊢; exact ⟨by decide, this.2⟩⟩)
      a b ⟨G.wf, G.vf, rawDoc_listDoc b G.raw⟩ e0 he0 with h | h
  · simp only [nulE, h, if_true]; exact ⟨rfl, rfl, rfl⟩
  · have hv : e0.2.isVoid = false := by
      cases h' : e0.2 <;> first | rfl | (rw [h'] at h; exact absurd h.2.1 (by simp [objVoidFree]))
    simp only [nulE, hv]; exact h

/-- … and it is clean for `a`: `Merge.mergePatch_doc` -/
theorem xnode (_L : FloatLaws) :
    ∀ (a : Json), a.wf = true → a.rawDoc = true → ∀ b : Json, GoodB b → X a b := by
  intro a haw _ b G hd
  obtain ⟨h1, h2, h3⟩ := pdoc_shape a G hd
  exact ⟨h1, h2, h3, (mergePatch_doc (pDiff_dl []) members_wf a haw b G.val hd).2.2.1⟩

theorem xkvs (L : FloatLaws) :
    ∀ (kvs : List (String × Json)), wfKvs kvs = true → rawDocKvs kvs = true →
    ∀ k v, alookup k kvs = some v → ∀ b : Json, GoodB b → X v b :=
  fun _ hw hr _ v h => xnode L v (alookup_wf h hw) (alookup_rawDoc h hr)

/-! ## 10. RFC 7386 keeps list documents list documents -/

theorem listDoc_of_mem {kvs : List (String × Json)} (h : listDocKvs kvs = true) :
    ∀ k v, (k, v) ∈ kvs → v.listDoc = true := fun k v hm =>
  List.all_eq_true.1 (listDocKvs_eq_all kvs ▸ h) (k, v) hm

theorem listDoc_getK (k : String) {t : List (String × Json)} (h : listDocKvs t = true) :
    (getK k t).listDoc = true := by
  unfold getK
  cases hl : alookup k t with
  | none => rfl
  | some v => exact alookup_listDoc hl h

theorem listDocKvs_objKvs {t : Json} (h : t.listDoc = true) : listDocKvs (objKvs t) = true := by
  cases t <;> simp_all [objKvs, Json.listDoc, listDocKvs]

mutual
theorem mergePatch_listDoc : ∀ (p t : Json), p.listDoc = true → t.listDoc = true →
    (mergePatch t p).listDoc = true
  | .obj pkvs, t, hp, ht => by
    rw [mergePatch_obj]
    simp only [Json.listDoc] at hp ⊢
    exact mergeMembers_listDoc pkvs (objKvs t) hp (listDocKvs_objKvs ht)
  | .void, _, _, _ => by simp [mergePatch, Json.listDoc]
  | .null, _, _, _ => by simp [mergePatch, Json.listDoc]
  | .bool _, _, _, _ => by simp [mergePatch, Json.listDoc]
  | .num _, _, _, _ => by simp [mergePatch, Json.listDoc]
  | .str _, _, _, _ => by simp [mergePatch, Json.listDoc]
  | .arr _ _, _, hp, _ => by simpa [mergePatch] using hp
theorem mergeMembers_listDoc : ∀ (pkvs t : List (String × Json)), listDocKvs pkvs = true →
    listDocKvs t = true → listDocKvs (mergeMembers t pkvs) = true
  | [], t, _, ht => by simpa [mergeMembers] using ht
  | (k, v) :: r, t, hp, ht => by
    simp only [listDocKvs, Bool.and_eq_true] at hp
    rw [mergeMembers_cons]
    apply mergeMembers_listDoc r _ hp.2
    split
    · exact listDocKvs_aerase k ht
    · exact listDocKvs_ainsert k (mergePatch_listDoc v (getK k t) hp.1 (listDoc_getK k ht)) ht
end

/-! ## 11. C18 (2): reading the rendered patch back with the v1 reader and applying it to `a` with
    the v1 `Patch` yields a document equal to `b` -/

theorem equivB_empty_obj {b : Json} (h : equivB [] (.obj []) b = true) : b = .obj [] := by
  cases b with
  | obj kvs' =>
    cases kvs' with
    | nil => rfl
    | cons _ _ => simp [equivB] at h
  | _ => simp [equivB] at h

/-- the rendered patch of a non-empty diff is in the domain of the read-back theorem, unless it is
    `{}` for a first document that is not an object -/
theorem pdoc_clean (L : FloatLaws) (a b : Json) (haw : a.wf = true) (har : a.rawDoc = true)
    (G : GoodB b) (hd : dl [] a b ≠ []) (hab : a.isObj = true ∨ b ≠ .obj []) :
    (pdoc a b).wf = true ∧ objVoidFree (pdoc a b) = true ∧ (pdoc a b).listDoc = true ∧
      Clean a (pdoc a b) = true := by
  have Qp := xnode L a haw har b G hd
  have S := (sound L [] rfl rfl a haw har b G).2 hd
  refine ⟨Qp.wf, Qp.vf, Qp.ld, ?_⟩
  have hcl := Qp.cl
  have hnn := S.2.1
  have h3 := S.2.2
  change (pdoc a b).isNull = false at hnn
  change equivB [] (mergePatch a (pdoc a b)) b = true at h3
  generalize pdoc a b = p at hcl hnn h3
  cases p with
  | null => simp [Json.isNull] at hnn
  | obj pkvs =>
    cases pkvs with
    | nil =>
      simp only [Clean]
      rcases hab with h | h
      · exact h
      · cases a with
        | obj kvs => rfl
        | _ =>
          have : b = .obj [] := equivB_empty_obj (by simpa [mergePatch, mergeMembers] using h3)
          exact absurd this h
    | cons kv r => simpa [Clean] using hcl
  | _ => simpa [Clean] using hcl

/-- **C18, merge half, (2).** For documents as read from JSON text, `b` null-free, that the v1
    `Equals` tells apart, and not (`a` a non-object and `b = {}`): the document `p` that
    `RenderMerge` produces from the v1 merge diff, read back with the v1 reader
    (`ReadMergeString`) and applied to `a` with the v1 `Patch`, succeeds and yields EXACTLY
    RFC 7386 `MergePatch(a, p)`, which the v1 `Equals` (and `specEq`) identifies with `b`. -/
theorem v1_merge_render_readback (L : FloatLaws) {m : V1.Metas} (hm : MergeMode m) (a b : Json)
    (haw : a.wf = true) (har : a.rawDoc = true)
    (hbw : b.wf = true) (hbr : b.rawDoc = true) (hbn : b.nullFree = true)
    (hbv : objVoidFree b = true) (hbf : b.finiteNums = true)
    (hne : V1.equals m a b = false) (hab : a.isObj = true ∨ b ≠ .obj []) :
    ∃ p r, V1.renderMergeDoc (V1.liftDiff (V1.diffM m a b)) = .ok p ∧
      V1.patchM a (V1.readMergeDoc p) = .ok r ∧ r = mergePatch a p ∧
      V1.equals m r b = true ∧ specEq r b = true ∧ r.listDoc = true := by
  have G : GoodB b := ⟨hbw, hbr, hbn, hbv, hbf⟩
  have hd := dl_ne_nil_of_ne L hm haw har G hne
  have S := (sound L [] rfl rfl a haw har b G).2 hd
  obtain ⟨h1, h2, h3, h4⟩ := pdoc_clean L a b haw har G hd hab
  have hr : (mergePatch a (pdoc a b)).listDoc = true :=
    mergePatch_listDoc _ _ h3 (rawDoc_listDoc a har)
  refine ⟨pdoc a b, mergePatch a (pdoc a b), ?_, ?_, rfl, ?_, S.2.2, hr⟩
  · rw [renderMergeDoc_diffM hm a b har haw (rawDoc_listDoc b hbr) hbw hbv, if_neg hd]; rfl
  · exact v1_merge_read_apply a _ haw h1 h2 h4
  · rw [equals_eq_equivB hm hr (rawDoc_listDoc b hbr)]; exact S.2.2

/-- the same without the hypothesis `a ≠ b` when the first document is an object (an empty diff
    renders to `{}`, which reads back as the empty diff) -/
theorem v1_merge_render_readback_obj (L : FloatLaws) {m : V1.Metas} (hm : MergeMode m) (a b : Json)
    (haw : a.wf = true) (har : a.rawDoc = true)
    (hbw : b.wf = true) (hbr : b.rawDoc = true) (hbn : b.nullFree = true)
    (hbv : objVoidFree b = true) (hbf : b.finiteNums = true)
    (hobj : a.isObj = true) :
    ∃ p r, V1.renderMergeDoc (V1.liftDiff (V1.diffM m a b)) = .ok p ∧
      V1.patchM a (V1.readMergeDoc p) = .ok r ∧ r = mergePatch a p ∧
      V1.equals m r b = true ∧ specEq r b = true ∧ r.listDoc = true := by
  have G : GoodB b := ⟨hbw, hbr, hbn, hbv, hbf⟩
  by_cases hd : dl [] a b = []
  · have S := (sound L [] rfl rfl a haw har b G).1 hd
    refine ⟨.obj [], a, ?_, ?_, (mergePatch_empty_object hobj).symm, ?_, S, rawDoc_listDoc a har⟩
    · rw [renderMergeDoc_diffM hm a b har haw (rawDoc_listDoc b hbr) hbw hbv, if_pos hd]
    · rfl
    · rw [equals_eq_equivB hm (rawDoc_listDoc a har) (rawDoc_listDoc b hbr)]; exact S
  · have S := (sound L [] rfl rfl a haw har b G).2 hd
    obtain ⟨h1, h2, h3, h4⟩ := pdoc_clean L a b haw har G hd (Or.inl hobj)
    have hr : (mergePatch a (pdoc a b)).listDoc = true :=
      mergePatch_listDoc _ _ h3 (rawDoc_listDoc a har)
    refine ⟨pdoc a b, mergePatch a (pdoc a b), ?_, ?_, rfl, ?_, S.2.2, hr⟩
    · rw [renderMergeDoc_diffM hm a b har haw (rawDoc_listDoc b hbr) hbw hbv, if_neg hd]; rfl
    · exact v1_merge_read_apply a _ haw h1 h2 h4
    · rw [equals_eq_equivB hm hr (rawDoc_listDoc b hbr)]; exact S.2.2

/-- **Counterexample to (2) on the excluded pairs (a real defect of the Go code, checked against
    /repo/lib: `a = 1`, `b = {}` and `a = []`, `b = {}`).** For EVERY first document `a` that is not
    an object (as read from text) and `b = {}`: the documents differ, the merge diff renders to the
    patch document `{}`, RFC 7386 applied to `a` gives `{}` = `b` (so (1) holds), but
    `ReadMergeString("{}")` is the EMPTY diff and patching `a` with it returns `a`, which is not
    equal to `b`. The exclusion `a.isObj ∨ b ≠ {}` in `v1_merge_render_readback` is therefore
    exactly what is needed. -/
theorem v1_witness_readback_nonobj_to_empty_object {m : V1.Metas} (hm : MergeMode m) (a : Json)
    (haw : a.wf = true) (har : a.rawDoc = true) (hobj : a.isObj = false) :
    V1.equals m a (.obj []) = false ∧
    V1.renderMergeDoc (V1.liftDiff (V1.diffM m a (.obj []))) = .ok (.obj []) ∧
    mergePatch a (.obj []) = .obj [] ∧
    V1.patchM a (V1.readMergeDoc (.obj [])) = .ok a := by
  have he : V1.equals m a (.obj []) = false := by
    cases a with
    | arr t xs =>
      simp only [Json.rawDoc, Bool.and_eq_true, beq_iff_eq] at har
      obtain ⟨rfl, _⟩ := har
      rw [V1L.equals_arr hm.tag (t := .raw) rfl]
    | obj _ => simp [Json.isObj] at hobj
    | _ => simp [V1.equals, Json.isVoid, Json.isNull]
  have hd : dl [] a (.obj []) = [([], .obj [])] := by
    cases a with
    | arr t xs => exact dl_arr_other [] t xs rfl
    | obj _ => simp [Json.isObj] at hobj
    | _ => simp [dl, equals, Json.isVoid, Json.isNull]
  refine ⟨he, ?_, ?_, rfl⟩
  · rw [renderMergeDoc_diffM hm a _ har haw rfl rfl rfl]
    simp [rl, hd, nulE, mapply, mset, Json.isVoid]
  · cases a <;> simp_all [Json.isObj, mergePatch, mergeMembers]

/-! ## 12. non-vacuity: concrete documents satisfying the hypotheses -/

namespace Example

/-- `{"a":{"b":"x","c":null},"d":["p"],"f":[{"g":1}]}` -/
def exA : Json :=
  .obj [("a", .obj [("b", .str "x"), ("c", .null)]), ("d", .arr .raw [.str "p"]),
        ("f", .arr .raw [.obj [("g", .num 0x3FF0000000000000)]])]
/-- `{"a":{"b":"y"},"e":{"h":{}},"f":[{"g":1}]}`: a changed member at depth, a removed key at depth
    (holding a null), an array replaced by nothing, an added object holding `{}`, an equal array of
    objects (the v1 positional loop runs over it) -/
def exB : Json :=
  .obj [("a", .obj [("b", .str "y")]), ("e", .obj [("h", .obj [])]),
        ("f", .arr .raw [.obj [("g", .num 0x3FF0000000000000)]])]

theorem hyps : MergeMode [.merge] ∧ exA.wf = true ∧ exA.rawDoc = true ∧ exB.wf = true ∧
    exB.rawDoc = true ∧ exB.nullFree = true ∧ objVoidFree exB = true ∧ exB.finiteNums = true ∧
    V1.equals [.merge] exA exB = false ∧ (exA.isObj = true ∨ exB ≠ .obj []) := by
  refine ⟨MergeMode.single, by decide, by decide, by decide, by decide, by decide, by decide,
    by decide, ?_, Or.inl rfl⟩
  simp [exA, exB, V1.equals, V1.equalsKvs, alookup]

example (L : FloatLaws) :
    ∃ p, V1.renderMergeDoc (V1.liftDiff (V1.diffM [.merge] exA exB)) = .ok p ∧
      p.isVoid = false ∧ p.isNull = false ∧ specEq (mergePatch exA p) exB = true :=
  v1_merge_render_correct L hyps.1 exA exB hyps.2.1 hyps.2.2.1 hyps.2.2.2.1 hyps.2.2.2.2.1
    hyps.2.2.2.2.2.1 hyps.2.2.2.2.2.2.1 hyps.2.2.2.2.2.2.2.1 hyps.2.2.2.2.2.2.2.2.1

example (L : FloatLaws) :
    ∃ p r, V1.renderMergeDoc (V1.liftDiff (V1.diffM [.merge] exA exB)) = .ok p ∧
      V1.patchM exA (V1.readMergeDoc p) = .ok r ∧ r = mergePatch exA p ∧
      V1.equals [.merge] r exB = true ∧ specEq r exB = true ∧ r.listDoc = true :=
  v1_merge_render_readback L hyps.1 exA exB hyps.2.1 hyps.2.2.1 hyps.2.2.2.1 hyps.2.2.2.2.1
    hyps.2.2.2.2.2.1 hyps.2.2.2.2.2.2.1 hyps.2.2.2.2.2.2.2.1 hyps.2.2.2.2.2.2.2.2.1
    hyps.2.2.2.2.2.2.2.2.2

/-- the patch document `{"a":{"b":"y","c":null},"d":null,"e":{"h":{}}}` is clean for `exA` -/
def exP : Json :=
  .obj [("a", .obj [("b", .str "y"), ("c", .null)]), ("d", .null), ("e", .obj [("h", .obj [])])]

theorem hypsP : exA.wf = true ∧ exP.wf = true ∧ objVoidFree exP = true ∧ Clean exA exP = true := by
  refine ⟨by decide, by decide, by decide, ?_⟩
  simp [exA, exP, Clean, cleanIn, cleanKvs, objKvs, getK, alookup]

example : V1.patchM exA (V1.readMergeDoc exP) = .ok (mergePatch exA exP) :=
  v1_merge_read_apply exA exP hypsP.1 hypsP.2.1 hypsP.2.2.1 hypsP.2.2.2

/-- the counterexample at `a = 1` and at `a = []` -/
example : V1.equals [.merge] (.num 0x3FF0000000000000) (.obj []) = false ∧
    V1.renderMergeDoc (V1.liftDiff (V1.diffM [.merge] (.num 0x3FF0000000000000) (.obj [])))
      = .ok (.obj []) ∧
    mergePatch (.num 0x3FF0000000000000) (.obj []) = .obj [] ∧
    V1.patchM (.num 0x3FF0000000000000) (V1.readMergeDoc (.obj []))
      = .ok (.num 0x3FF0000000000000) :=
  v1_witness_readback_nonobj_to_empty_object MergeMode.single _ (by decide) (by decide) (by decide)

example : V1.patchM (.arr .raw []) (V1.readMergeDoc (.obj [])) = .ok (.arr .raw []) :=
  (v1_witness_readback_nonobj_to_empty_object MergeMode.single (.arr .raw []) (by decide)
    (by decide) (by decide)).2.2.2

end Example

end Jd.V1M

#print axioms Jd.V1M.v1_merge_render_correct
#print axioms Jd.V1M.v1_merge_render_correct_obj
#print axioms Jd.V1M.v1_merge_render_readback
#print axioms Jd.V1M.v1_merge_render_readback_obj
#print axioms Jd.V1M.v1_witness_readback_nonobj_to_empty_object
#print axioms Jd.V1M.v1_read_apply_eq_v2
#print axioms Jd.V1M.v1_merge_read_apply_iff
#print axioms Jd.V1M.v1_merge_read_apply
#print axioms Jd.V1M.v1_merge_read_apply_unclean
#print axioms Jd.V1M.diffM_eq_dl
#print axioms Jd.V1M.patchM_vh
#print axioms Jd.V1M.equals_eq
#print axioms Jd.V1M.Example.hyps
#print axioms Jd.V1M.Example.hypsP
