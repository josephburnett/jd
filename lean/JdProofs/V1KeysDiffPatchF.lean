/-
  JdProofs.V1KeysDiffPatchF — property C17 (v1 API `lib/`), MERGE together with setkeys:
  SET + setkeys + MERGE and MULTISET (+ setkeys) + MERGE, in memory and through the text.
  Namespace `Jd.V1K`. The kits `kitK`, `kitX` for the inductions of file A (`kit_main`, `kit_text`).

  `v1_merge_diff_patch_setkeys`, `v1_merge_diff_empty_iff_equals_setkeys`,
  `v1_text_roundtrip_merge_setkeys`: `KMergeMode m ks` (SET, `keysOf m = some ks`, `ks ≠ []`, MERGE,
    precision 0). Of the setkeys hypotheses of file B only `hf` and `ib` remain: the merge strategy
    never patches INTO an array (it keeps an `Equal` array, replaces any other), so no keyed lookup
    takes place; `ib` is used because `Equal` arrays are still handed to the strict keyed set diff,
    which must be empty (`diffNode_nil_of_equivB_K`, through `kit_rel1`). `ib` is NOT KNOWN to be necessary here
    (without it the strict diff of two `Equal` arrays could contain a sub-diff whose path starts
    with a metadata array, where `prependMetadataMerge` loses MERGE — no concrete pair inside `hf`
    was found).
  `v1_merge_diff_patch_mset_setkeys`, `v1_merge_diff_empty_iff_equals_mset_setkeys`,
  `v1_text_roundtrip_merge_mset_setkeys`: `XMergeMode m` (MULTISET, no SET, MERGE, precision 0, set
    keys allowed); hypotheses of the MULTISET + MERGE theorem of file A.
  Non-vacuity: §5.3. Nothing was found false.
-/
import JdProofs.V1KeysDiffPatchC
import JdProofs.V1KeysDiffPatchE

namespace Jd.V1K
open Jd Jd.Spec Jd.Merge
open Jd.SetDP (Ok Within)

/-! # Part 5. MERGE together with setkeys (SET or MULTISET), in memory and through the text -/

/-! ## 5.1 SET + setkeys + MERGE -/

section KM
variable {m : V1.Metas} {ks : List String}

/-- the kit of SET + setkeys: the strict keyed diff of equivalent documents is empty
    (`diffNode_nil_of_equivB_K`), members with one identity in equivalent arrays are equivalent
    (`keyed_pair_equivB`) -/
theorem kitK (F : FloatEq0) (L : FloatLaws) (K : KMode m ks) {S SB : List Json}
    (HF : V1S.HashFaithful m [.set] S) (IB : IdentInj m SB) : MergeKit m (Rel1 m [.set]) S SB :=
  kit_rel1 (Or.inl K.tag) rfl K.prec0
    (fun a b da db wa wb => by
      rw [k_equals K]; exact V1S.equals_eq_equivB_of F M0 (k_hf K HF) da db wa wb)
    (diffNode_nil_of_equivB_K F K HF IB)
    (fun _ _ _ ha hb wa wb wb' h _ _ hx hy' hid =>
      keyed_pair_equivB F K HF IB ha hb wa wb wb' h hx hy' hid)
    (fun b hb wb => let ⟨e1, _, e3⟩ := qr_refl F L K HF hb wb; ⟨e1, e3⟩)

end KM

/-- SET + setkeys + MERGE as the caller writes it -/
structure KMergeMode (m : V1.Metas) (ks : List String) : Prop where
  set : V1.hasSet m = true
  keys : V1.keysOf m = some ks
  nonempty : ks.isEmpty = false
  merge : V1.hasMerge m = true
  prec0 : V1.precOf m = 0

theorem KMergeMode.single (k : String) (r : List String) :
    KMergeMode [.set, .setkeys (k :: r), .merge] (k :: r) := ⟨rfl, rfl, rfl, rfl, rfl⟩

theorem KMergeMode.kmode {m : V1.Metas} {ks : List String} (h : KMergeMode m ks) :
    KMode (strip m) ks :=
  have E := strip_metaEq m
  ⟨E.set.symm.trans h.set, E.keys.symm.trans h.keys, h.nonempty, strip_noMerge m,
    E.prec.symm.trans h.prec0⟩

theorem identInj_strip {m : V1.Metas} {SB : List Json} (h : IdentInj m SB) :
    IdentInj (strip m) SB := by
  have E := strip_metaEq m
  intro n hn
  have := h n hn
  unfold nodeIdentInj at this ⊢
  rw [← E.to0.identOf, ← E.hashCode]
  exact this

theorem kit_of_kmerge (F : FloatEq0) (L : FloatLaws) {m : V1.Metas} {ks : List String}
    (h : KMergeMode m ks) {S SB : List Json} (HF : V1S.HashFaithful m [.set] S)
    (IB : IdentInj m SB) : MergeKit (strip m) (Rel1 (strip m) [.set]) S SB :=
  kitK F L h.kmode (hashFaithful_strip HF) (identInj_strip IB)


/-- **C17, SET + setkeys + MERGE, in memory.** The merge strategy never descends into arrays: an
    array is kept (when `Equal`) or replaced as a whole; so of the setkeys hypotheses only `hf`
    (equal hash codes only for equivalent nodes) and `ib` (in the arrays of `b`, members with the
    same identity have the same hash code) are needed — the latter because `Equal` arrays are still
    handed to the strict keyed set diff, which must be empty. -/
theorem v1_merge_diff_patch_setkeys (F : FloatEq0) (L : FloatLaws) {m : V1.Metas}
    {ks : List String} (hm : KMergeMode m ks) (a b : Json)
    (ha : a.setDoc = true) (hb : b.setDoc = true) (hb' : DPL.memOK b = true)
    (HF : V1S.HashFaithful m [.set] (subterms a ++ subterms b))
    (IB : IdentInj m (subterms b)) :
    ∃ r, V1.patchM a (V1.diffM m a b) = .ok r ∧ V1.equals m r b = true ∧
      equivB [.set] r b = true :=
  let ⟨r, hp, e⟩ := (kit_main hm.merge a b ha hb hb' (kit_of_kmerge F L hm HF IB)).2.1
  ⟨r, hp, rel1_strip e⟩

theorem v1_merge_diff_empty_iff_equals_setkeys (F : FloatEq0) (L : FloatLaws) {m : V1.Metas}
    {ks : List String} (hm : KMergeMode m ks) (a b : Json)
    (ha : a.setDoc = true) (hb : b.setDoc = true) (hb' : DPL.memOK b = true)
    (HF : V1S.HashFaithful m [.set] (subterms a ++ subterms b))
    (IB : IdentInj m (subterms b)) :
    V1.diffM m a b = [] ↔ V1.equals m a b = true :=
  (kit_main hm.merge a b ha hb hb' (kit_of_kmerge F L hm HF IB)).2.2.1


theorem v1_text_roundtrip_merge_setkeys (F : FloatEq0) (L : FloatLaws) (nc : NumCodec)
    {m : V1.Metas} {ks : List String} (hm : KMergeMode m ks) (a b : Json)
    (ha : a.setDoc = true) (hb : b.setDoc = true) (hb' : DPL.memOK b = true)
    (HF : V1S.HashFaithful m [.set] (subterms a ++ subterms b))
    (IB : IdentInj m (subterms b))
    (hc : V1S.CodecOK nc (V1.diffM m a b)) (text : String)
    (hr : V1.renderM nc false (V1.liftDiff (V1.diffM m a b)) = .ok (some text)) :
    ∃ d' r, V1.readDiffM nc text = .ok d' ∧ V1.patchM a d' = .ok r ∧ V1.equals m r b = true ∧
      equivB [.set] r b = true :=
  let ⟨d', r, h1, h2, e⟩ :=
    kit_text hm.merge nc a b ha hb hb' (kit_of_kmerge F L hm HF IB) hc text hr
  ⟨d', r, h1, h2, rel1_strip e⟩

/-! ## 5.2 MULTISET (+ setkeys) + MERGE -/

section XM
variable {m : V1.Metas}

/-- the kit of MULTISET (+ setkeys): the strict diff of two arrays has no sub-diffs, so nothing is
    asked of identities -/
theorem kitX (F : FloatEq0) (L : FloatLaws) (X : XMsMode m) {S SB : List Json}
    (HF : V1S.HashFaithful m [.mset] S) : MergeKit m (Rel1 m [.mset]) S SB :=
  kit_rel1 (Or.inr X.tag) rfl X.prec0
    (fun a b da db wa wb => by
      rw [x_equals X]; exact V1S.equals_eq_equivB_of F MX (x_hf X HF) da db wa wb)
    (fun a b ha hb _ _ _ => diffNode_nil_of_equivB_X F X a b ha hb)
    (fun hd => by rw [X.tag] at hd; cases hd)
    (fun b hb wb => (refl_bothX F L X HF hb wb).symm)

end XM


/-- MULTISET (+ setkeys) + MERGE as the caller writes it (no SET) -/
structure XMergeMode (m : V1.Metas) : Prop where
  noSet : V1.hasSet m = false
  mset : V1.hasMset m = true
  merge : V1.hasMerge m = true
  prec0 : V1.precOf m = 0

theorem XMergeMode.withKeys (ks : List String) : XMergeMode [.mset, .setkeys ks, .merge] :=
  ⟨rfl, rfl, rfl, rfl⟩

theorem XMergeMode.xmode {m : V1.Metas} (h : XMergeMode m) : XMsMode (strip m) :=
  have E := strip_metaEq m
  ⟨E.set.symm.trans h.noSet, E.mset.symm.trans h.mset, strip_noMerge m,
    E.prec.symm.trans h.prec0⟩

theorem hashFaithful_stripX {m : V1.Metas} {o : Opts} {S : List Json}
    (HF : V1S.HashFaithful m o S) : V1S.HashFaithful (strip m) o S := hashFaithful_strip HF


/-- **C17, MULTISET (+ setkeys) + MERGE, in memory** -/
theorem v1_merge_diff_patch_mset_setkeys (F : FloatEq0) (L : FloatLaws) {m : V1.Metas}
    (hm : XMergeMode m) (a b : Json)
    (ha : a.setDoc = true) (hb : b.setDoc = true) (hb' : DPL.memOK b = true)
    (HF : V1S.HashFaithful m [.mset] (subterms a ++ subterms b)) :
    ∃ r, V1.patchM a (V1.diffM m a b) = .ok r ∧ V1.equals m r b = true ∧
      equivB [.mset] r b = true :=
  let ⟨r, hp, e⟩ := (kit_main hm.merge a b ha hb hb' (kitX F L hm.xmode (hashFaithful_strip HF))).2.1
  ⟨r, hp, rel1_strip e⟩

theorem v1_merge_diff_empty_iff_equals_mset_setkeys (F : FloatEq0) (L : FloatLaws)
    {m : V1.Metas} (hm : XMergeMode m) (a b : Json)
    (ha : a.setDoc = true) (hb : b.setDoc = true) (hb' : DPL.memOK b = true)
    (HF : V1S.HashFaithful m [.mset] (subterms a ++ subterms b)) :
    V1.diffM m a b = [] ↔ V1.equals m a b = true :=
  (kit_main hm.merge a b ha hb hb' (kitX F L hm.xmode (hashFaithful_strip HF))).2.2.1


theorem v1_text_roundtrip_merge_mset_setkeys (F : FloatEq0) (L : FloatLaws) (nc : NumCodec)
    {m : V1.Metas} (hm : XMergeMode m) (a b : Json)
    (ha : a.setDoc = true) (hb : b.setDoc = true) (hb' : DPL.memOK b = true)
    (HF : V1S.HashFaithful m [.mset] (subterms a ++ subterms b))
    (hc : V1S.CodecOK nc (V1.diffM m a b)) (text : String)
    (hr : V1.renderM nc false (V1.liftDiff (V1.diffM m a b)) = .ok (some text)) :
    ∃ d' r, V1.readDiffM nc text = .ok d' ∧ V1.patchM a d' = .ok r ∧ V1.equals m r b = true ∧
      equivB [.mset] r b = true :=
  let ⟨d', r, h1, h2, e⟩ :=
    kit_text hm.merge nc a b ha hb hb' (kitX F L hm.xmode (hashFaithful_strip HF)) hc text hr
  ⟨d', r, h1, h2, rel1_strip e⟩


/-! ## 5.3 non-vacuity -/

/-- the pair of `ExampleK` (file C) under `[SET, Setkeys("id"), MERGE]`: the outer arrays are not
    `Equal`, the diff is one merge hunk replacing the array -/
example (F : FloatEq0) (L : FloatLaws) :
    ∃ r, V1.patchM ExampleK.exA
        (V1.diffM [.set, .setkeys ["id"], .merge] ExampleK.exA ExampleK.exB) = .ok r ∧
      V1.equals [.set, .setkeys ["id"], .merge] r ExampleK.exB = true ∧
      equivB [.set] r ExampleK.exB = true :=
  v1_merge_diff_patch_setkeys F L (KMergeMode.single "id" []) _ _ ExampleK.ex_docs.1
    ExampleK.ex_docs.2.1 ExampleK.ex_docs.2.2.2
    (V1S.hashFaithful_of_tag (m := Witness.m1) rfl ExampleK.ex_hf)
    (identInj_of_check (by decide +kernel))

/-- the pair of JdProofs/V1SetDiffPatch under `[MULTISET, Setkeys("id"), MERGE]` -/
example (F : FloatEq0) (L : FloatLaws) :
    ∃ r, V1.patchM V1S.Example.exA
        (V1.diffM [.mset, .setkeys ["id"], .merge] V1S.Example.exA V1S.Example.exB) = .ok r ∧
      V1.equals [.mset, .setkeys ["id"], .merge] r V1S.Example.exB = true ∧
      equivB [.mset] r V1S.Example.exB = true :=
  v1_merge_diff_patch_mset_setkeys F L (XMergeMode.withKeys ["id"]) _ _ V1S.Example.ex_docs.1
    V1S.Example.ex_docs.2.1 V1S.Example.ex_docs.2.2.2
    (V1S.hashFaithful_of_tag (m := [.mset]) rfl V1S.Example.ex_hashFaithful_mset)

end Jd.V1K
