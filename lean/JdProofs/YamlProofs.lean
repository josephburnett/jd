/-
  JdProofs.YamlProofs — property C16 (JSON and YAML are interchangeable carriers of a document),
  on the level of jd's own glue (JdModel.Yaml): whatever the two decoders hand to `NewJsonNode`
  for a rendered document — `raw()` itself for encoding/json, `yamlize (raw())` for yaml.v2 (the
  contract checked against the real library by the harness) — is turned back into the document.

    §1  float bits (JdProofs.FloatBits: `intToFloatBits` inverts `floatToInt?`): the int detour yaml.v2
        takes for integral floats of magnitude below 10^6 is exact, except that it loses the sign of -0
    §2  JSON carrier:  newJsonNodeM (rawM j) = .ok (rawNorm j)
    §3  YAML carrier:  newJsonNodeM (yamlize (rawM j)) = .ok (posZero (rawNorm j))
    §4  `raw()` normal form: what a normaliser is (`Jd.IsRawNorm`: three local equations, satisfied by
        `rawNorm`, by the v1 `raw()` and by `untag`), that its result is a text document and that it
        fixes text documents; the two carriers on documents as read from text (that they agree, and
        `unmarshalM`: JdProps/C16)
    §5  what the glue rejects (int64, uint64, non-string keys, non-finite floats, foreign types) and
        what it mishandles (values that already are JsonNodes)
-/
import JdModel.Yaml
import JdModel.WF
import JdProofs.Doc
import JdProofs.FloatBits

namespace Jd.Yaml
open Jd

/-! ## §1 float bits -/

/-- a finite binary64 with integral value i, |i| < 2^52, other than -0, is exactly what
    `intToFloatBits i` rebuilds (`intToFloatBits_floatToInt`, which holds up to 2^53) -/
theorem intToFloatBits_of_floatToInt (b : UInt64) (i : Int)
    (h : floatToInt? b = some i) (hr : i.natAbs < 2 ^ 52) (hz : b ≠ 0x8000000000000000) :
    intToFloatBits i = b :=
  intToFloatBits_floatToInt h (Nat.lt_trans hr (by decide)) hz

/-- -0 has integral value 0 -/
theorem floatToInt_negZero : floatToInt? 0x8000000000000000 = some 0 := by
  decide


def negZero : UInt64 := 0x8000000000000000

/-- what the int detour of yaml.v2 does to a number: nothing, except -0 ↦ +0 -/
def posZeroBits (b : UInt64) : UInt64 := if b = negZero then 0 else b

theorem asNode?_yamlizeNum (b : UInt64) : asNode? (yamlizeNum b) = none := by
  unfold yamlizeNum
  split
  · split <;> rfl
  · rfl

/-- the glue on what yaml.v2 makes of a finite float64 -/
theorem new_yamlizeNum (b : UInt64) (hf : isFinite64 b = true) :
    newJsonNodeM (yamlizeNum b) = .ok (.num (posZeroBits b)) := by
  have hnz : b = negZero → floatToInt? b = some 0 := fun h => h ▸ floatToInt_negZero
  unfold yamlizeNum posZeroBits
  split
  · rename_i i hi
    split
    · rename_i hlt
      have h52 : i.natAbs < 2 ^ 52 := Nat.lt_trans hlt (by decide)
      have h53 : i.natAbs < 2 ^ 53 := Nat.lt_trans hlt (by decide)
      simp only [newJsonNodeM, intToF64, h53, if_true]
      by_cases hz : b = negZero
      · have : i = 0 := Option.some.inj (hi.symm.trans (hnz hz))
        subst this
        rw [if_pos hz]; rfl
      · rw [if_neg hz, intToFloatBits_of_floatToInt b i hi h52 hz]
    · rename_i hge
      have hz : b ≠ negZero := fun hz => by
        have : i = 0 := Option.some.inj (hi.symm.trans (hnz hz))
        subst this
        exact hge (by decide)
      simp [newJsonNodeM, hf, hz]
  · rename_i hnone
    have hz : b ≠ negZero := fun hz => by rw [hnz hz] at hnone; cases hnone
    simp [newJsonNodeM, hf, hz]

/-! ## §2 JSON carrier -/

theorem asNode?_rawOf (d : Json) : asNode? (rawOf d) = none := by
  cases d <;> rfl

mutual
/-- `NewJsonNode` undoes the structural translation on text documents -/
theorem new_rawOf : ∀ (d : Json), d.rawDoc = true → d.wf = true → voidFree d = true →
    finite d = true → newJsonNodeM (rawOf d) = .ok d
  | .void, _, _, hv, _ => by simp [voidFree] at hv
  | .null, _, _, _, _ => rfl
  | .bool _, _, _, _, _ => rfl
  | .num b, _, _, _, hf => by
    simp only [finite] at hf
    simp [rawOf, newJsonNodeM, hf]
  | .str _, _, _, _, _ => rfl
  | .arr t xs, hr, hw, hv, hf => by
    simp only [Json.rawDoc, Bool.and_eq_true, beq_iff_eq] at hr
    simp only [Json.wf] at hw
    simp only [voidFree] at hv
    simp only [finite] at hf
    obtain ⟨ht, hr⟩ := hr
    subst ht
    simp [rawOf, newJsonNodeM, newSlice_rawOfList xs hr hw hv hf, Except.map]
  | .obj kvs, hr, hw, hv, hf => by
    simp only [Json.rawDoc] at hr
    simp only [Json.wf, Bool.and_eq_true] at hw
    simp only [voidFree] at hv
    simp only [finite] at hf
    simp [rawOf, newJsonNodeM, newMapS_rawOfKvs kvs hw.1 hr hw.2 hv hf, Except.map]
theorem newSlice_rawOfList : ∀ (xs : List Json), rawDocList xs = true → wfList xs = true →
    voidFreeList xs = true → finiteList xs = true → newSlice (rawOfList xs) = .ok xs
  | [], _, _, _, _ => rfl
  | x :: r, hr, hw, hv, hf => by
    simp only [rawDocList, wfList, voidFreeList, finiteList, Bool.and_eq_true] at hr hw hv hf
    simp [rawOfList, newSlice, asNode?_rawOf, new_rawOf x hr.1 hw.1 hv.1 hf.1,
      newSlice_rawOfList r hr.2 hw.2 hv.2 hf.2, both]
theorem newMapS_rawOfKvs : ∀ (kvs : List (String × Json)), keysSorted kvs = true →
    rawDocKvs kvs = true → wfKvs kvs = true → voidFreeKvs kvs = true → finiteKvs kvs = true →
    newMapS (rawOfKvs kvs) = .ok kvs
  | [], _, _, _, _, _ => rfl
  | (k, v) :: r, hs, hr, hw, hv, hf => by
    simp only [rawDocKvs, wfKvs, voidFreeKvs, finiteKvs, Bool.and_eq_true] at hr hw hv hf
    simp [rawOfKvs, newMapS, asNode?_rawOf, new_rawOf v hr.1 hw.1 hv.1 hf.1,
      newMapS_rawOfKvs r (keysSorted_tail hs) hr.2 hw.2 hv.2 hf.2, both,
      ainsert_of_lt_head v (keysSorted_head_lt hs)]
end


/-! ## §3 YAML carrier -/

mutual
/-- the document with every -0 replaced by +0 -/
def posZero : Json → Json
  | .num b => .num (posZeroBits b)
  | .arr t xs => .arr t (posZeroList xs)
  | .obj kvs => .obj (posZeroKvs kvs)
  | n => n
def posZeroList : List Json → List Json
  | [] => []
  | x :: r => posZero x :: posZeroList r
def posZeroKvs : List (String × Json) → List (String × Json)
  | [] => []
  | (k, v) :: r => (k, posZero v) :: posZeroKvs r
end

theorem posZeroList_eq_map (xs : List Json) : posZeroList xs = xs.map posZero :=
  listF_eq_map rfl (fun _ _ => rfl) xs
theorem posZeroKvs_eq_map (kvs : List (String × Json)) :
    posZeroKvs kvs = kvs.map (fun kv => (kv.1, posZero kv.2)) :=
  listF_eq_map rfl (fun _ _ => rfl) kvs
theorem yamlizeList_eq_map (xs : List Raw) : yamlizeList xs = xs.map yamlize :=
  listF_eq_map rfl (fun _ _ => rfl) xs
theorem yamlizeKvs_eq_map (kvs : List (String × Raw)) :
    yamlizeKvs kvs = kvs.map (fun kv => (Raw.str kv.1, yamlize kv.2)) :=
  listF_eq_map rfl (fun _ _ => rfl) kvs
theorem rawOfList_eq_map (xs : List Json) : rawOfList xs = xs.map rawOf :=
  listF_eq_map rfl (fun _ _ => rfl) xs
theorem rawOfKvs_eq_map (kvs : List (String × Json)) :
    rawOfKvs kvs = kvs.map (fun kv => (kv.1, rawOf kv.2)) :=
  listF_eq_map rfl (fun _ _ => rfl) kvs

theorem asNode?_yamlize_rawOf (d : Json) : asNode? (yamlize (rawOf d)) = none := by
  cases d with
  | num b => simpa [rawOf, yamlize] using asNode?_yamlizeNum b
  | _ => simp [rawOf, yamlize, asNode?]

theorem ainsert_posZeroKvs (k : String) (v w : Json) (r : List (String × Json))
    (h : keysSorted ((k, w) :: r) = true) :
    ainsert k v (posZeroKvs r) = (k, v) :: posZeroKvs r := by
  cases r with
  | nil => rfl
  | cons kv t =>
    obtain ⟨k', v'⟩ := kv
    simp only [keysSorted, Bool.and_eq_true, decide_eq_true_eq] at h
    simp [posZeroKvs, ainsert, h.1]

mutual
/-- `NewJsonNode` on what yaml.v2 returns for a rendered text document: the document, up to the
    sign of zero -/
theorem new_yamlize_rawOf : ∀ (d : Json), d.rawDoc = true → d.wf = true → voidFree d = true →
    finite d = true → newJsonNodeM (yamlize (rawOf d)) = .ok (posZero d)
  | .void, _, _, hv, _ => by simp [voidFree] at hv
  | .null, _, _, _, _ => rfl
  | .bool _, _, _, _, _ => rfl
  | .num b, _, _, _, hf => by
    simp only [finite] at hf
    simp only [rawOf, yamlize, posZero]
    exact new_yamlizeNum b hf
  | .str _, _, _, _, _ => rfl
  | .arr t xs, hr, hw, hv, hf => by
    simp only [Json.rawDoc, Bool.and_eq_true, beq_iff_eq] at hr
    simp only [Json.wf] at hw
    simp only [voidFree] at hv
    simp only [finite] at hf
    obtain ⟨ht, hr⟩ := hr
    subst ht
    simp [rawOf, yamlize, posZero, newJsonNodeM, newSlice_yamlize xs hr hw hv hf, Except.map]
  | .obj kvs, hr, hw, hv, hf => by
    simp only [Json.rawDoc] at hr
    simp only [Json.wf, Bool.and_eq_true] at hw
    simp only [voidFree] at hv
    simp only [finite] at hf
    simp [rawOf, yamlize, posZero, newJsonNodeM, newMapI_yamlize kvs hw.1 hr hw.2 hv hf, Except.map]
theorem newSlice_yamlize : ∀ (xs : List Json), rawDocList xs = true → wfList xs = true →
    voidFreeList xs = true → finiteList xs = true →
    newSlice (yamlizeList (rawOfList xs)) = .ok (posZeroList xs)
  | [], _, _, _, _ => rfl
  | x :: r, hr, hw, hv, hf => by
    simp only [rawDocList, wfList, voidFreeList, finiteList, Bool.and_eq_true] at hr hw hv hf
    simp [rawOfList, yamlizeList, posZeroList, newSlice, asNode?_yamlize_rawOf,
      new_yamlize_rawOf x hr.1 hw.1 hv.1 hf.1, newSlice_yamlize r hr.2 hw.2 hv.2 hf.2, both]
theorem newMapI_yamlize : ∀ (kvs : List (String × Json)), keysSorted kvs = true →
    rawDocKvs kvs = true → wfKvs kvs = true → voidFreeKvs kvs = true → finiteKvs kvs = true →
    newMapI (yamlizeKvs (rawOfKvs kvs)) = .ok (posZeroKvs kvs)
  | [], _, _, _, _, _ => rfl
  | (k, v) :: r, hs, hr, hw, hv, hf => by
    simp only [rawDocKvs, wfKvs, voidFreeKvs, finiteKvs, Bool.and_eq_true] at hr hw hv hf
    simp [rawOfKvs, yamlizeKvs, posZeroKvs, newMapI, asNode?_yamlize_rawOf,
      new_yamlize_rawOf v hr.1 hw.1 hv.1 hf.1,
      newMapI_yamlize r (keysSorted_tail hs) hr.2 hw.2 hv.2 hf.2, both,
      ainsert_posZeroKvs k (posZero v) v r hs]
end

mutual
/-- without -0 nothing changes -/
theorem posZero_of_noNegZero : ∀ (d : Json), noNegZero d = true → posZero d = d
  | .void, _ => rfl
  | .null, _ => rfl
  | .bool _, _ => rfl
  | .num b, h => by
    simp only [noNegZero, bne_iff_ne, ne_eq] at h
    simp [posZero, posZeroBits, negZero, h]
  | .str _, _ => rfl
  | .arr t xs, h => by
    simp only [noNegZero] at h
    simp [posZero, posZeroList_of_noNegZero xs h]
  | .obj kvs, h => by
    simp only [noNegZero] at h
    simp [posZero, posZeroKvs_of_noNegZero kvs h]
theorem posZeroList_of_noNegZero : ∀ (xs : List Json), noNegZeroList xs = true → posZeroList xs = xs
  | [], _ => rfl
  | x :: r, h => by
    simp only [noNegZeroList, Bool.and_eq_true] at h
    simp [posZeroList, posZero_of_noNegZero x h.1, posZeroList_of_noNegZero r h.2]
theorem posZeroKvs_of_noNegZero : ∀ (kvs : List (String × Json)), noNegZeroKvs kvs = true →
    posZeroKvs kvs = kvs
  | [], _ => rfl
  | (k, v) :: r, h => by
    simp only [noNegZeroKvs, Bool.and_eq_true] at h
    simp [posZeroKvs, posZero_of_noNegZero v h.1, posZeroKvs_of_noNegZero r h.2]
end


/-! ## §4 `raw()` normal form, the two carriers, `unmarshal` -/

theorem rawNormList_eq_map (xs : List Json) : rawNormList xs = xs.map rawNorm :=
  listF_eq_map rfl (fun _ _ => rfl) xs
theorem rawNormKvs_eq_map (kvs : List (String × Json)) :
    rawNormKvs kvs = kvs.map (fun kv => (kv.1, rawNorm kv.2)) :=
  listF_eq_map rfl (fun _ _ => rfl) kvs

theorem rawDocList_iff (xs : List Json) : rawDocList xs = true ↔ ∀ x ∈ xs, x.rawDoc = true := by
  rw [rawDocList_eq_all, List.all_eq_true]

theorem lastByHash_mem (h : UInt64) : ∀ (ks : List UInt64) (vs : List Json) (y : Json),
    lastByHash h ks vs = some y → y ∈ vs
  | [], _, _, hy => by simp [lastByHash] at hy
  | _ :: _, [], _, hy => by simp [lastByHash] at hy
  | k :: ks, v :: vs, y, hy => by
    simp only [lastByHash] at hy
    split at hy
    · rename_i z hz
      injection hy with hy
      subst hy
      exact List.mem_cons_of_mem _ (lastByHash_mem h ks vs _ hz)
    · split at hy
      · injection hy with hy
        subst hy
        exact List.mem_cons_self
      · exact absurd hy (by simp)

theorem setRawOrder_sub (hs : List UInt64) (vals : List Json) : ∀ y ∈ setRawOrder hs vals, y ∈ vals := by
  intro y hy
  simp only [setRawOrder, List.mem_filterMap] at hy
  obtain ⟨a, _, ha⟩ := hy
  exact lastByHash_mem a hs vals y ha

end Jd.Yaml

namespace Jd

/-- `N` acts as `raw()`: scalars stay, every array becomes a plain array of normalised members (all
    of them, in order, unless the array is a set: then some of them, in any order), objects
    member-wise.  `rawNorm`, `V1.rawNorm` (another hash order of sets) and `untag` are such. -/
structure IsRawNorm (N : Json → Json) : Prop where
  scalar : ∀ v, (∀ t xs, v ≠ .arr t xs) → (∀ kvs, v ≠ .obj kvs) → N v = v
  arr : ∀ t xs, ∃ ys, N (.arr t xs) = .arr .raw ys ∧ (∀ y ∈ ys, y ∈ xs.map N) ∧
    (t ≠ .set → ys = xs.map N)
  obj : ∀ kvs, N (.obj kvs) = .obj (kvs.map fun kv => (kv.1, N kv.2))

theorem isRawNorm_rawNorm : IsRawNorm rawNorm where
  scalar v h1 h2 := by cases v <;> first | rfl | exact absurd rfl (h1 _ _) | exact absurd rfl (h2 _)
  arr t xs := by
    have e := Yaml.rawNormList_eq_map xs
    cases t
    case set =>
      exact ⟨_, by rw [rawNorm], fun y hy => e ▸ Yaml.setRawOrder_sub _ _ y hy, fun h => absurd rfl h⟩
    all_goals exact ⟨_, by rw [rawNorm]; simp, e ▸ fun _ h => h, fun _ => e⟩
  obj kvs := by rw [rawNorm, Yaml.rawNormKvs_eq_map]

namespace IsRawNorm
variable {N : Json → Json} (hN : IsRawNorm N)
include hN

/-- the normal form is a text document -/
theorem rawDoc : ∀ v, (N v).rawDoc = true := by
  refine jsonIndScalar (fun a h1 h2 => ?_) (fun t xs ih => ?_) (fun kvs ih => ?_)
  · rw [hN.scalar a h1 h2]
    cases a <;> first | rfl | exact absurd rfl (h1 _ _) | exact absurd rfl (h2 _)
  · obtain ⟨ys, e, hsub, _⟩ := hN.arr t xs
    rw [e]
    simp only [Json.rawDoc, beq_self_eq_true, Bool.true_and, rawDocList_eq_all, List.all_eq_true]
    intro y hy
    obtain ⟨x, hx, rfl⟩ := List.mem_map.1 (hsub y hy)
    exact ih x hx
  · rw [hN.obj]
    simp only [Json.rawDoc, rawDocKvs_eq_all, List.all_map, List.all_eq_true]
    exact fun kv hkv => ih kv.1 kv.2 hkv

/-- a document as read is its own normal form -/
theorem of_rawDoc : ∀ v : Json, v.rawDoc = true → N v = v :=
  Yaml.fixes_rawDoc (fun xs => by
      obtain ⟨ys, e, _, hall⟩ := hN.arr .raw xs
      rw [e, hall nofun])
    hN.obj hN.scalar

end IsRawNorm
end Jd

namespace Jd.Yaml
open Jd

/-- text documents (plain arrays only) are their own `raw()` normal form -/
theorem rawNorm_of_rawDoc : ∀ (d : Json), d.rawDoc = true → rawNorm d = d :=
  isRawNorm_rawNorm.of_rawDoc

theorem rawNormList_of_rawDoc : ∀ (xs : List Json), rawDocList xs = true → rawNormList xs = xs :=
  fun xs h => by
    simpa [rawNorm] using rawNorm_of_rawDoc (.arr .raw xs) (by simpa [Json.rawDoc] using h)

theorem rawNormKvs_of_rawDoc : ∀ (kvs : List (String × Json)), rawDocKvs kvs = true →
    rawNormKvs kvs = kvs :=
  fun kvs h => by simpa [rawNorm] using rawNorm_of_rawDoc (.obj kvs) h

/-- `raw()` never contains typed array nodes: its normal form is a text document -/
theorem rawDoc_rawNorm : ∀ (d : Json), (rawNorm d).rawDoc = true := isRawNorm_rawNorm.rawDoc

theorem rawDocList_rawNormList : ∀ (xs : List Json), rawDocList (rawNormList xs) = true :=
  fun xs => by simpa [rawNorm, Json.rawDoc] using rawDoc_rawNorm (.arr .raw xs)

theorem rawDocKvs_rawNormKvs : ∀ (kvs : List (String × Json)), rawDocKvs (rawNormKvs kvs) = true :=
  fun kvs => by simpa [rawNorm, Json.rawDoc] using rawDoc_rawNorm (.obj kvs)

/-- (i) JSON carrier, documents as read from text: `ReadJsonString(n.Json())` is `n` -/
theorem json_carrier (j : Json) (hr : j.rawDoc = true) (hw : j.wf = true)
    (hv : voidFree j = true) (hf : finite j = true) : jsonRoundTripM j = .ok j := by
  unfold jsonRoundTripM rawM
  rw [rawNorm_of_rawDoc j hr]
  exact new_rawOf j hr hw hv hf

/-- (ii) YAML carrier, text documents: `ReadYamlString(n.Yaml())` is `n` with -0 replaced by 0 -/
theorem yaml_carrier_posZero (j : Json) (hr : j.rawDoc = true) (hw : j.wf = true)
    (hv : voidFree j = true) (hf : finite j = true) : yamlRoundTripM j = .ok (posZero j) := by
  unfold yamlRoundTripM rawM
  rw [rawNorm_of_rawDoc j hr]
  exact new_yamlize_rawOf j hr hw hv hf

/-- (ii) YAML carrier, text documents without -0: `ReadYamlString(n.Yaml())` is `n` -/
theorem yaml_carrier (j : Json) (hr : j.rawDoc = true) (hw : j.wf = true)
    (hv : voidFree j = true) (hf : finite j = true) (hz : noNegZero j = true) :
    yamlRoundTripM j = .ok j := by
  rw [yaml_carrier_posZero j hr hw hv hf, posZero_of_noNegZero j hz]

/-! ## §5 what the glue rejects, and what it mishandles -/

/-- (iii) int64 and uint64 are not accepted (only `int`) -/
example : newJsonNodeM (.int64 5) = .error .unsupported := rfl
example : newJsonNodeM (.uint64 5) = .error .unsupported := rfl
example : newJsonNodeM (.slice [.int 1, .int64 2]) = .error .unsupported := rfl
/-- (iii) non-string keys are rejected -/
example : newJsonNodeM (.mapI [(.int 1, .str "a")]) = .error .unsupported := rfl
example : newJsonNodeM (.mapI [(.str "a", .int 1), (.nil, .int 2)]) = .error .unsupported := rfl
/-- (iii) foreign types (time.Time, float32, …) and non-finite floats are rejected -/
example : newJsonNodeM (.other "time.Time") = .error .unsupported := rfl
example : newJsonNodeM (.f64 0x7ff8000000000000) = .error .unsupported := by
  have h : isFinite64 0x7ff8000000000000 = false := by decide
  simp [newJsonNodeM, h]
example : newJsonNodeM (.f64 0x7ff0000000000000) = .error .unsupported := by
  have h : isFinite64 0x7ff0000000000000 = false := by decide
  simp [newJsonNodeM, h]
/-- `int` is accepted -/
example : newJsonNodeM (.mapI [(.str "a", .int 1)]) = .ok (.obj [("a", .num 0x3ff0000000000000)]) := by
  have h : intToF64 1 = 0x3ff0000000000000 := by decide
  simp [newJsonNodeM, newMapI, asNode?, both, ainsert, Except.map, h]
/-- values that already are JsonNodes: stored as they are under `map[string]interface{}`,
    DROPPED under `map[interface{}]interface{}`, a NIL slot under `[]interface{}`, rejected at the top -/
example : newJsonNodeM (.mapS [("a", .node (.str "x"))]) = .ok (.obj [("a", .str "x")]) := rfl
example : newJsonNodeM (.mapI [(.str "a", .node (.str "x"))]) = .ok (.obj []) := rfl
example : newJsonNodeM (.slice [.node (.str "x")]) = .error .nilElem := rfl
example : newJsonNodeM (.node (.str "x")) = .error .unsupported := rfl
/-- an error anywhere wins over a nil slot anywhere -/
example : newJsonNodeM (.slice [.node (.str "x"), .int64 1]) = .error .unsupported := rfl

end Jd.Yaml

#print axioms Jd.Yaml.json_carrier
#print axioms Jd.Yaml.yaml_carrier_posZero
#print axioms Jd.Yaml.yaml_carrier
#print axioms Jd.Yaml.new_yamlizeNum
#print axioms Jd.Yaml.intToFloatBits_of_floatToInt
