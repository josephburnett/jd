/-
  JdProofs.PatchRender — property C09: the JSON Patch jd renders from a list-mode diff
  (`renderPatchHunk` / `renderPatchOps`, the model of `Diff.RenderPatch`) is a well-formed RFC 6902
  document which, evaluated by the independent evaluator `Jd.Spec.eval` (JdSpec.Rfc6902), does what
  the native diff does (reference semantics `applyStrict` / `applyStrictAll`, JdSpec.HunkSem, proved
  equal to the library's patch in JdProofs.StrictPatch).

  DIRECTION PROVED: wherever the native diff applies, the JSON Patch applies too, with the same
  result up to the Go dynamic type of array nodes (`untag`). The converse is not claimed.

  Layers: the pointer text is JdProofs.PointerText (`wpOf`, `ptrOK_of_range`); here: operations on
  parsed pointers (`TOp`, `evalTs`) with the frame lemma `evalTs_under` and the navigation lemma
  `nav`; the leaves `root_leaf`, `key_leaf`, `idx_leaf_any`; the operations of a hunk as token lists
  (`hunkT`) with `hunkT_sim` (reference semantics ⇒ token operations) and `repL_hunkW` (what any
  pointer writer renders is `hunkT`), composed in `renderPatchHunkW_sim`; a diff, for any renderer
  that works hunk by hunk (`sim_of_hunks`, `renderPatchOps_correct`).
  Findings (proved counterexamples, end of file): `cex_append_reversed`, `cex_append_context`.

  Hypotheses and why:
    * `FloatLaws` (IEEE-754 symmetry of |a-b|): a context test compares document value with hunk value
      in the other order than the reference semantics does;
    * `c.wf` (object keys strictly increasing = Go map): `remove k; add k` on an association list with
      unsorted keys moves the member;
    * `HunkOK`: removed/added values are not the void marker (list-mode diffs), contexts and added
      values are well-formed, and a hunk at index -1 (append) adds at most one value and has no real
      context line (both restrictions are necessary: see the findings);
    * `HunkRange`: indices written are of magnitude < 2^53 (they travel through a float64).
-/
import JdModel.PatchFmt
import JdSpec.Rfc6902
import JdSpec.HunkSem
import JdProofs.StrictPatch
import JdProofs.DiffPatchList
import JdProofs.EqualsList
import JdProofs.PointerText
import JdProofs.YamlProofs

namespace Jd
open Spec

/-! ### shape of `renderPatchHunk` -/

def PatchOp.toSpec (p : PatchOp) : Spec.Op := { op := p.op, path := p.path, value := p.value }

/-- the context test of `renderPatchHunk` (before: `f i = i - 1`, after: `f i = i + |Remove|`) -/
def ctxOps (h : Hunk) (ctx : List Json) (f : Int → Int) : Outcome (List PatchOp) :=
  match ctx with
  | [b] =>
    if b.isVoid then .ok []
    else if h.path.isEmpty then .err
    else match lastIdx? h.path with
      | none => .err
      | some i =>
        writePointerPath (setLastIdx h.path (f i)) >>= fun pp =>
          pure [{ op := "test", path := pp, value := b }]
  | _ => .ok []

def remOpsOf (path : String) (rem : List Json) : List PatchOp :=
  match rem with
  | [] => []
  | r0 :: _ =>
    if r0.isVoid then []
    else rem.flatMap (fun e => [{ op := "test", path := path, value := e }, { op := "remove", path := path, value := e }])

def addOpsOf (path : String) (add : List Json) : List PatchOp :=
  match add with
  | [] => []
  | a0 :: _ =>
    if a0.isVoid then []
    else add.reverse.map (fun e => { op := "add", path := path, value := e })

def renderPatchHunk' (h : Hunk) : Outcome (List PatchOp) :=
  writePointerPath h.path >>= fun path =>
  if h.remove.isEmpty && h.add.isEmpty then .err else
  if h.before.length > 1 then .err else
  ctxOps h h.before (fun i => i - 1) >>= fun bo =>
  if h.after.length > 1 then .err else
  ctxOps h h.after (fun i => i + (h.remove.length : Int)) >>= fun ao =>
  pure (bo ++ ao ++ remOpsOf path h.remove ++ addOpsOf path h.add)

theorem renderPatchHunk_eq (h : Hunk) : renderPatchHunk h = renderPatchHunk' h := by
  unfold renderPatchHunk renderPatchHunk' ctxOps remOpsOf addOpsOf
  rfl

/-! `renderPatchHunk` is `renderPatchHunkW writePointerPath`: the rendering of one hunk with an
arbitrary pointer writer `W`. The shape lemmas and the simulation `renderPatchHunkW_sim` use nothing
about the writer but `PtrOKW W` (what it writes parses, RFC 6901, to the tokens of the path):
C10 instantiates them with `NMP.wpL` (JdProofs.PointerRead), a writer that does not refuse number-like
member names (which `readPointer` produces, D30). -/

/-- the context test of `renderPatchHunk` (before: `f i = i - 1`, after: `f i = i + |Remove|`) -/
def ctxOpsW (W : Path → Outcome String) (h : Hunk) (ctx : List Json) (f : Int → Int) : Outcome (List PatchOp) :=
  match ctx with
  | [b] =>
    if b.isVoid then .ok []
    else if h.path.isEmpty then .err
    else match lastIdx? h.path with
      | none => .err
      | some i =>
        W (setLastIdx h.path (f i)) >>= fun pp =>
          pure [{ op := "test", path := pp, value := b }]
  | _ => .ok []

def renderPatchHunkW (W : Path → Outcome String) (h : Hunk) : Outcome (List PatchOp) :=
  W h.path >>= fun path =>
  if h.remove.isEmpty && h.add.isEmpty then .err else
  if h.before.length > 1 then .err else
  ctxOpsW W h h.before (fun i => i - 1) >>= fun bo =>
  if h.after.length > 1 then .err else
  ctxOpsW W h h.after (fun i => i + (h.remove.length : Int)) >>= fun ao =>
  pure (bo ++ ao ++ remOpsOf path h.remove ++ addOpsOf path h.add)

theorem renderPatchHunk_eq_W (h : Hunk) : renderPatchHunk h = renderPatchHunkW writePointerPath h := by
  rw [renderPatchHunk_eq]; rfl

theorem ctxOps_eq_W (h : Hunk) (ctx : List Json) (f : Int → Int) :
    ctxOps h ctx f = ctxOpsW writePointerPath h ctx f := rfl

theorem Json.eq_void_of_isVoid {x : Json} (h : x.isVoid = true) : x = .void := by
  cases x <;> simp_all [Json.isVoid]

theorem renderPatchHunkW_ok {W : Path → Outcome String} {h : Hunk} {ops : List PatchOp}
    (e : renderPatchHunkW W h = .ok ops) :
    ∃ s bo ao, W h.path = .ok s ∧ (h.remove.isEmpty && h.add.isEmpty) = false ∧
      h.before.length ≤ 1 ∧ h.after.length ≤ 1 ∧
      ctxOpsW W h h.before (fun i => i - 1) = .ok bo ∧
      ctxOpsW W h h.after (fun i => i + (h.remove.length : Int)) = .ok ao ∧
      ops = bo ++ ao ++ remOpsOf s h.remove ++ addOpsOf s h.add := by
  unfold renderPatchHunkW at e
  obtain ⟨s, hs, e⟩ := Outcome.bind_eq_ok.1 e
  split at e
  · cases e
  rename_i h1
  split at e
  · cases e
  rename_i h2
  obtain ⟨bo, hb, e⟩ := Outcome.bind_eq_ok.1 e
  split at e
  · cases e
  rename_i h3
  obtain ⟨ao, ha, e⟩ := Outcome.bind_eq_ok.1 e
  injection e with e
  exact ⟨s, bo, ao, hs, by simpa using h1, by omega, by omega, hb, ha, e.symm⟩

theorem renderPatchHunk_ok {h : Hunk} {ops : List PatchOp} (e : renderPatchHunk h = .ok ops) :
    ∃ s bo ao, writePointerPath h.path = .ok s ∧ (h.remove.isEmpty && h.add.isEmpty) = false ∧
      h.before.length ≤ 1 ∧ h.after.length ≤ 1 ∧
      ctxOps h h.before (fun i => i - 1) = .ok bo ∧
      ctxOps h h.after (fun i => i + (h.remove.length : Int)) = .ok ao ∧
      ops = bo ++ ao ++ remOpsOf s h.remove ++ addOpsOf s h.add :=
  renderPatchHunkW_ok (renderPatchHunk_eq_W h ▸ e)

theorem ctxOpsW_ok {W : Path → Outcome String} {h : Hunk} {ctx : List Json} {f : Int → Int} {bo : List PatchOp}
    (e : ctxOpsW W h ctx f = .ok bo) :
    (bo = [] ∧ (ctx.length = 1 → ctx = [.void])) ∨
    ∃ b i pp, ctx = [b] ∧ b.isVoid = false ∧ lastIdx? h.path = some i ∧
      W (setLastIdx h.path (f i)) = .ok pp ∧ bo = [{ op := "test", path := pp, value := b }] := by
  unfold ctxOpsW at e
  split at e
  · rename_i b
    split at e
    · rename_i hv
      injection e with e
      exact .inl ⟨e.symm, fun _ => by rw [Json.eq_void_of_isVoid hv]⟩
    · rename_i hv
      split at e
      · cases e
      · split at e
        · cases e
        · rename_i i hi
          obtain ⟨pp, hw, e⟩ := Outcome.bind_eq_ok.1 e
          injection e with e
          exact .inr ⟨b, i, pp, rfl, by simpa using hv, hi, hw, e.symm⟩
  · rename_i hne
    injection e with e
    refine .inl ⟨e.symm, fun hl => ?_⟩
    match ctx, hl with
    | [b], _ => exact absurd rfl (hne b)

theorem ctxOps_ok {h : Hunk} {ctx : List Json} {f : Int → Int} {bo : List PatchOp}
    (e : ctxOps h ctx f = .ok bo) :
    (bo = [] ∧ (ctx.length = 1 → ctx = [.void])) ∨
    ∃ b i pp, ctx = [b] ∧ b.isVoid = false ∧ lastIdx? h.path = some i ∧
      writePointerPath (setLastIdx h.path (f i)) = .ok pp ∧ bo = [{ op := "test", path := pp, value := b }] :=
  ctxOpsW_ok e

/-- the converse of `renderPatchHunk_ok`: how a hunk is rendered -/
theorem renderPatchHunk_of {h : Hunk} {s : String} {bo ao : List PatchOp}
    (hs : writePointerPath h.path = .ok s) (hne : (h.remove.isEmpty && h.add.isEmpty) = false)
    (hbl : h.before.length ≤ 1) (hal : h.after.length ≤ 1)
    (hb : ctxOps h h.before (fun i => i - 1) = .ok bo)
    (ha : ctxOps h h.after (fun i => i + (h.remove.length : Int)) = .ok ao) :
    renderPatchHunk h = .ok (bo ++ ao ++ remOpsOf s h.remove ++ addOpsOf s h.add) := by
  rw [renderPatchHunk_eq, renderPatchHunk', hs, Outcome.bind_ok, hne, if_neg Bool.false_ne_true,
    if_neg (by omega), hb, Outcome.bind_ok, if_neg (by omega), ha]
  rfl

/-- the test rendered for a real context line of a list hunk -/
theorem ctxOps_single {h : Hunk} {b : Json} {f : Int → Int} {i : Int} {pp : String}
    (hv : b.isVoid = false) (hi : lastIdx? h.path = some i)
    (hw : writePointerPath (setLastIdx h.path (f i)) = .ok pp) :
    ctxOps h [b] f = .ok [{ op := "test", path := pp, value := b }] := by
  have hne : h.path.isEmpty = false := by
    cases hp : h.path with
    | nil => rw [hp] at hi; cases hi
    | cons _ _ => rfl
  simp only [ctxOps, hv, hne, hi, hw, Bool.false_eq_true, if_false, Outcome.bind_ok]
  rfl

/-! ### well-formedness: only `test`, `remove`, `add` operations -/

def PatchOp.wfOp (o : PatchOp) : Prop := o.op = "test" ∨ o.op = "remove" ∨ o.op = "add"

theorem mem_remOpsOf {s : String} {rem : List Json} {o : PatchOp} (ho : o ∈ remOpsOf s rem) :
    ∃ e, o = { op := "test", path := s, value := e } ∨ o = { op := "remove", path := s, value := e } := by
  unfold remOpsOf at ho
  split at ho
  · cases ho
  · split at ho
    · cases ho
    · simp only [List.mem_flatMap, List.mem_cons, List.not_mem_nil, or_false] at ho
      obtain ⟨e, _, h⟩ := ho
      exact ⟨e, h⟩

theorem mem_addOpsOf {s : String} {add : List Json} {o : PatchOp} (ho : o ∈ addOpsOf s add) :
    ∃ e, o = { op := "add", path := s, value := e } := by
  unfold addOpsOf at ho
  split at ho
  · cases ho
  · split at ho
    · cases ho
    · simp only [List.mem_map] at ho
      obtain ⟨e, _, h⟩ := ho
      exact ⟨e, h.symm⟩

theorem remOpsOf_wf (s : String) (rem : List Json) : ∀ o ∈ remOpsOf s rem, o.wfOp := by
  intro o ho
  obtain ⟨e, rfl | rfl⟩ := mem_remOpsOf ho
  · exact Or.inl rfl
  · exact Or.inr (Or.inl rfl)

theorem addOpsOf_wf (s : String) (add : List Json) : ∀ o ∈ addOpsOf s add, o.wfOp := by
  intro o ho
  obtain ⟨e, rfl⟩ := mem_addOpsOf ho
  exact Or.inr (Or.inr rfl)

theorem ctxOpsW_wf {W : Path → Outcome String} {h : Hunk} {ctx : List Json} {f : Int → Int}
    {bo : List PatchOp} (e : ctxOpsW W h ctx f = .ok bo) : ∀ o ∈ bo, o.wfOp := by
  intro o ho
  rcases ctxOpsW_ok e with ⟨rfl, _⟩ | ⟨b, i, pp, _, _, _, _, rfl⟩
  · cases ho
  · simp only [List.mem_singleton] at ho; subst ho; exact Or.inl rfl

/-- every operation of a rendered hunk is a `test`, a `remove` or an `add`, whatever the pointer writer -/
theorem renderPatchHunkW_wfOps {W : Path → Outcome String} {h : Hunk} {ops : List PatchOp}
    (e : renderPatchHunkW W h = .ok ops) : ∀ o ∈ ops, o.wfOp := by
  obtain ⟨s, bo, ao, _, _, _, _, hb, ha, rfl⟩ := renderPatchHunkW_ok e
  intro o ho
  simp only [List.mem_append] at ho
  rcases ho with ((ho | ho) | ho) | ho
  · exact ctxOpsW_wf hb o ho
  · exact ctxOpsW_wf ha o ho
  · exact remOpsOf_wf s _ o ho
  · exact addOpsOf_wf s _ o ho

theorem renderPatchHunk_wfOps {h : Hunk} {ops : List PatchOp} (e : renderPatchHunk h = .ok ops) :
    ∀ o ∈ ops, o.wfOp :=
  renderPatchHunkW_wfOps (renderPatchHunk_eq_W h ▸ e)

theorem renderPatchOps_ok_cons {h : Hunk} {d : Diff} {ops : List PatchOp}
    (e : renderPatchOps (h :: d) = .ok ops) :
    ∃ a b, renderPatchHunk h = .ok a ∧ renderPatchOps d = .ok b ∧ ops = a ++ b := by
  rw [renderPatchOps] at e
  obtain ⟨a, ha, e⟩ := Outcome.bind_eq_ok.1 e
  obtain ⟨b, hb, e⟩ := Outcome.bind_eq_ok.1 e
  injection e with e
  exact ⟨a, b, ha, hb, e.symm⟩

/-- for a renderer `RR` that renders hunk after hunk with `R`: well-formed operations hunk by hunk -/
theorem wfOps_of_hunks {R : Hunk → Outcome (List PatchOp)} {RR : Diff → Outcome (List PatchOp)}
    (hnil : ∀ {ops}, RR [] = .ok ops → ops = [])
    (hcons : ∀ {h d ops}, RR (h :: d) = .ok ops → ∃ a b, R h = .ok a ∧ RR d = .ok b ∧ ops = a ++ b)
    (hwf : ∀ {h ops}, R h = .ok ops → ∀ o ∈ ops, o.wfOp) :
    ∀ {d : Diff} {ops : List PatchOp}, RR d = .ok ops → ∀ o ∈ ops, o.wfOp
  | [], ops, e => by
    obtain rfl := hnil e; intro o ho; cases ho
  | h :: d, ops, e => by
    obtain ⟨a, b, ha, hb, rfl⟩ := hcons e
    intro o ho
    rcases List.mem_append.mp ho with ho | ho
    · exact hwf ha o ho
    · exact wfOps_of_hunks hnil hcons hwf hb o ho

theorem renderPatchOps_nil {ops : List PatchOp} (e : renderPatchOps [] = .ok ops) : ops = [] := by
  rw [renderPatchOps] at e; exact (Outcome.ok.inj e).symm

/-- every operation of a rendered diff is a `test`, a `remove` or an `add` -/
theorem renderPatchOps_wfOps : ∀ {d : Diff} {ops : List PatchOp}, renderPatchOps d = .ok ops →
    ∀ o ∈ ops, o.wfOp :=
  wfOps_of_hunks renderPatchOps_nil renderPatchOps_ok_cons renderPatchHunk_wfOps

/-! ### token-level operations (pointers already parsed) -/

inductive TOp where
  | test (p : List String) (v : Json)
  | add (p : List String) (v : Json)
  | remove (p : List String)

def TOp.under (pre : List String) : TOp → TOp
  | .test p v => .test (pre ++ p) v
  | .add p v => .add (pre ++ p) v
  | .remove p => .remove (pre ++ p)

def TOp.path : TOp → List String
  | .test p _ => p
  | .add p _ => p
  | .remove p => p

def TOp.isTest : TOp → Bool
  | .test _ _ => true
  | _ => false

def evalT (n : Json) : TOp → Option Json
  | .test p v => (getP n p).bind (fun x => if equivB [] x v then some n else none)
  | .add p v => addP n p v
  | .remove p => removeP n p

def evalTs (n : Json) : List TOp → Option Json
  | [] => some n
  | o :: r => (evalT n o).bind (evalTs · r)

theorem evalTs_append (n : Json) (a b : List TOp) :
    evalTs n (a ++ b) = (evalTs n a).bind (evalTs · b) := by
  induction a generalizing n with
  | nil => rfl
  | cons o r ih =>
    simp only [List.cons_append, evalTs]
    cases evalT n o with
    | none => rfl
    | some n' => simpa using ih n'

theorem eval_append (n : Json) (a b : List Spec.Op) :
    eval n (a ++ b) = (eval n a).bind (eval · b) := by
  induction a generalizing n with
  | nil => rfl
  | cons o r ih =>
    simp only [List.cons_append, eval]
    cases evalOp n o with
    | none => rfl
    | some n' => simpa using ih n'

/-- a rendered op and its parsed form -/
def Rep (o : PatchOp) (t : TOp) : Prop :=
  ∃ p, parsePointer o.path = some p ∧
    ((o.op = "test" ∧ t = .test p o.value) ∨ (o.op = "add" ∧ t = .add p o.value) ∨
     (o.op = "remove" ∧ t = .remove p))

theorem evalOp_of_rep {o : PatchOp} {t : TOp} (h : Rep o t) (n : Json) :
    evalOp n o.toSpec = evalT n t := by
  obtain ⟨p, hp, h⟩ := h
  have e1 : ("add" == "test") = false := by decide
  have e2 : ("remove" == "test") = false := by decide
  have e3 : ("remove" == "add") = false := by decide
  rcases h with ⟨ho, rfl⟩ | ⟨ho, rfl⟩ | ⟨ho, rfl⟩ <;>
    simp only [evalOp, PatchOp.toSpec, hp, ho, e1, e2, e3, evalT, beq_self_eq_true, if_true, if_false,
      Bool.false_eq_true, Option.bind_eq_bind, Option.bind_some]

inductive RepL : List PatchOp → List TOp → Prop where
  | nil : RepL [] []
  | cons {o t os ts} : Rep o t → RepL os ts → RepL (o :: os) (t :: ts)

theorem RepL.append {a b : List PatchOp} {c d : List TOp} (h1 : RepL a c) (h2 : RepL b d) :
    RepL (a ++ b) (c ++ d) := by
  induction h1 with
  | nil => exact h2
  | cons h _ ih => exact .cons h ih

theorem eval_of_rep {ops : List PatchOp} {ts : List TOp} (h : RepL ops ts) (n : Json) :
    eval n (ops.map PatchOp.toSpec) = evalTs n ts := by
  induction h generalizing n with
  | nil => rfl
  | cons h _ ih =>
    simp only [List.map_cons, eval, evalTs, evalOp_of_rep h]
    cases evalT n _ with
    | none => rfl
    | some n' => simpa using ih n'

/-! ### frame lemmas: one navigation step -/

/-- the member of a container selected by a reference token -/
def child (n : Json) (t : String) : Option Json :=
  match n with
  | .obj kvs => alookup t kvs
  | .arr _ xs => (arrayIndex? t).bind (fun i => xs[i]?)
  | _ => none

/-- overwrite the member selected by a token (what `addP`/`removeP` rebuild on the way back) -/
def put (n : Json) (t : String) (v : Json) : Json :=
  match n with
  | .obj kvs => .obj (ainsert t v kvs)
  | .arr _ xs =>
    match arrayIndex? t with
    | some i => .arr .raw (xs.set i v)
    | none => n
  | _ => n

theorem getP_cons (n : Json) (t : String) (r : List String) :
    getP n (t :: r) = (child n t).bind (getP · r) := by
  cases n <;> simp [getP, child]
  rename_i tg xs
  cases arrayIndex? t <;> simp

theorem addP_cons (n : Json) (t t' : String) (r : List String) (v : Json) :
    addP n (t :: t' :: r) v = (child n t).bind (fun c => (addP c (t' :: r) v).map (put n t)) := by
  cases n <;> simp [addP, child]
  · rename_i tg xs
    cases h : arrayIndex? t <;> simp
    rename_i i
    cases xs[i]? <;> simp
    rename_i c
    cases addP c (t' :: r) v <;> simp [put, h]
  · rename_i kvs
    cases alookup t kvs <;> simp
    rfl

theorem removeP_cons (n : Json) (t t' : String) (r : List String) :
    removeP n (t :: t' :: r) = (child n t).bind (fun c => (removeP c (t' :: r)).map (put n t)) := by
  cases n <;> simp [removeP, child]
  · rename_i tg xs
    cases h : arrayIndex? t <;> simp
    rename_i i
    cases xs[i]? <;> simp
    rename_i c
    cases removeP c (t' :: r) <;> simp [put, h]
  · rename_i kvs
    cases alookup t kvs <;> simp
    rfl

/-! child / put -/

theorem child_arr {tg : Tag} {xs : List Json} {t : String} {x : Json}
    (h : child (.arr tg xs) t = some x) :
    ∃ i, arrayIndex? t = some i ∧ xs[i]? = some x ∧ i < xs.length := by
  unfold child at h
  cases hi : arrayIndex? t with
  | none => rw [hi] at h; cases h
  | some i =>
    rw [hi] at h
    have hx : xs[i]? = some x := h
    refine ⟨i, rfl, hx, ?_⟩
    rcases Nat.lt_or_ge i xs.length with h | h
    · exact h
    · rw [List.getElem?_eq_none h] at hx; cases hx

theorem child_put {n : Json} {t : String} {x : Json} (v : Json) (h : child n t = some x) :
    child (put n t v) t = some v := by
  cases n with
  | arr tg xs =>
    obtain ⟨i, hi, hx, hl⟩ := child_arr h
    simp [put, hi, child, hl]
  | obj kvs => simp [put, child, alookup_ainsert_self]
  | _ => simp [child] at h

theorem put_put {n : Json} {t : String} (v1 v2 : Json) :
    put (put n t v1) t v2 = put n t v2 := by
  cases n <;> simp [put]
  · rename_i tg xs
    cases h : arrayIndex? t <;> simp
  · exact ainsert_ainsert _ _ _ _

theorem untag_put_congr (n : Json) (t : String) {v v' : Json} (h : untag v = untag v') :
    untag (put n t v) = untag (put n t v') := by
  cases n <;> simp [put]
  · rename_i tg xs
    cases arrayIndex? t <;> simp
    exact untag_arrSet _ _ _ _ h
  · simp [untag, untagKvs_ainsert, h]

theorem untag_put_self {n : Json} {t : String} {x : Json} (hw : n.wf = true)
    (h : child n t = some x) : untag (put n t x) = untag n := by
  cases n with
  | arr tg xs =>
    obtain ⟨i, hi, hx, hl⟩ := child_arr h
    have : xs.set i x = xs := by
      apply List.ext_getElem? ; intro j
      by_cases hj : i = j
      · subst hj; rw [hx]; simp [hl]
      · simp [hj]
    simp [put, hi, this, untag]
  | obj kvs =>
    simp only [Json.wf, Bool.and_eq_true] at hw
    have h' : alookup t kvs = some x := h
    simp [put, ainsert_self_of_sorted hw.1 h']
  | _ => simp [child] at h

/-! frame: an operation below a member -/

theorem TOp.under_under (t : String) (pt : List String) (o : TOp) :
    (o.under pt).under [t] = o.under (t :: pt) := by
  cases o <;> simp [TOp.under]

theorem TOp.path_under (pt : List String) (o : TOp) : (o.under pt).path = pt ++ o.path := by
  cases o <;> rfl

/-- one operation with a non-empty pointer run below member `t`: a test leaves member and container
    as they are, `add` / `remove` overwrite the member with its new state -/
theorem evalT_under {n x x1 : Json} {t : String} (hc : child n t = some x) {o : TOp}
    (hp : o.path ≠ []) (h1 : evalT x o = some x1) :
    (x1 = x ∧ evalT n (o.under [t]) = some n) ∨ evalT n (o.under [t]) = some (put n t x1) := by
  cases o with
  | test p v =>
    left
    simp only [evalT] at h1
    cases hg : getP x p with
    | none => rw [hg] at h1; cases h1
    | some y =>
      rw [hg] at h1
      simp only [Option.bind_some] at h1
      split at h1
      · rename_i he
        cases h1
        refine ⟨rfl, ?_⟩
        show evalT n (.test (t :: p) v) = some n
        simp only [evalT, getP_cons, hc, Option.bind_some, hg, he, if_true]
      · cases h1
  | add p v =>
    right
    cases p with
    | nil => exact absurd rfl hp
    | cons t' r =>
      show evalT n (.add (t :: t' :: r) v) = _
      simp only [evalT] at h1 ⊢
      rw [addP_cons, hc, Option.bind_some, h1, Option.map_some]
  | remove p =>
    right
    cases p with
    | nil => exact absurd rfl hp
    | cons t' r =>
      show evalT n (.remove (t :: t' :: r)) = _
      simp only [evalT] at h1 ⊢
      rw [removeP_cons, hc, Option.bind_some, h1, Option.map_some]

/-- a sequence of operations with non-empty pointers run below member `t`: the member goes through
    the same states; the container is either untouched (only tests) or has the member overwritten -/
theorem evalTs_under (t : String) :
    ∀ (ops : List TOp), (∀ o ∈ ops, o.path ≠ []) → ∀ (n x x' : Json), child n t = some x →
      evalTs x ops = some x' →
      ∃ n', evalTs n (ops.map (TOp.under [t])) = some n' ∧ child n' t = some x' ∧
        (n' = n ∨ n' = put n t x')
  | [], _, n, x, x', hc, he => by
    simp only [evalTs] at he; cases he
    exact ⟨n, rfl, hc, Or.inl rfl⟩
  | o :: r, hne, n, x, x', hc, he => by
    simp only [evalTs] at he
    cases h1 : evalT x o with
    | none => rw [h1] at he; cases he
    | some x1 =>
      rw [h1] at he; simp only [Option.bind_some] at he
      have hne' : ∀ o ∈ r, o.path ≠ [] := fun o ho => hne o (List.mem_cons_of_mem _ ho)
      simp only [List.map_cons, evalTs]
      rcases evalT_under hc (hne o List.mem_cons_self) h1 with ⟨rfl, hn⟩ | hn
      · rw [hn]
        exact evalTs_under t r hne' n x1 x' hc he
      · rw [hn]
        obtain ⟨n', e1, e2, e3⟩ := evalTs_under t r hne' (put n t x1) x1 x' (child_put x1 hc) he
        refine ⟨n', e1, e2, Or.inr ?_⟩
        rcases e3 with e3 | e3
        · rw [e3] at e2; rw [child_put x1 hc] at e2; cases e2; exact e3
        · rw [e3, put_put]

/-- the same up to tags, for a well-formed container -/
theorem evalTs_under_untag (t : String) (ops : List TOp) (hne : ∀ o ∈ ops, o.path ≠ [])
    {n x x' : Json} (hw : n.wf = true) (hc : child n t = some x) (he : evalTs x ops = some x') :
    ∃ n', evalTs n (ops.map (TOp.under [t])) = some n' ∧ untag n' = untag (put n t x') := by
  obtain ⟨n', e1, e2, e3⟩ := evalTs_under t ops hne n x x' hc he
  refine ⟨n', e1, ?_⟩
  rcases e3 with e3 | e3
  · subst e3; rw [hc] at e2; cases e2; exact (untag_put_self hw hc).symm
  · rw [e3]

/-! ### facts about the reference equality -/

theorem specEq_isVoid {a b : Json} (h : specEq a b = true) : a.isVoid = b.isVoid := by
  have := equivB_kind [] a b h
  cases a <;> cases b <;> simp_all [Json.kind, Json.isVoid]

theorem specEq_void_right {x : Json} (h : specEq x .void = true) : x = .void := by
  have := specEq_isVoid h
  cases x <;> simp_all [Json.isVoid]

mutual
theorem untag_listDoc : ∀ a : Json, (untag a).listDoc = true
  | .arr _ xs => by simp [untag, Json.listDoc, untagList_listDoc xs]
  | .obj kvs => by simp [untag, Json.listDoc, untagKvs_listDoc kvs]
  | .void | .null | .bool _ | .num _ | .str _ => by simp [untag, Json.listDoc]
theorem untagList_listDoc : ∀ xs : List Json, listDocList (untagList xs) = true
  | [] => by simp [untagList, listDocList]
  | x :: r => by simp [untagList, listDocList, untag_listDoc x, untagList_listDoc r]
theorem untagKvs_listDoc : ∀ kvs : List (String × Json), listDocKvs (untagKvs kvs) = true
  | [] => by simp [untagKvs, listDocKvs]
  | (_, v) :: r => by simp [untagKvs, listDocKvs, untag_listDoc v, untagKvs_listDoc r]
end

mutual
theorem untag_wf : ∀ a : Json, (untag a).wf = a.wf
  | .arr _ xs => by simp [untag, Json.wf, untagList_wf xs]
  | .obj kvs => by simp [untag, Json.wf, untagKvs_wf kvs, keysSorted_untagKvs]
  | .void | .null | .bool _ | .num _ | .str _ => by simp [untag]
theorem untagList_wf : ∀ xs : List Json, wfList (untagList xs) = wfList xs
  | [] => by simp [untagList]
  | x :: r => by simp [untagList, wfList, untag_wf x, untagList_wf r]
theorem untagKvs_wf : ∀ kvs : List (String × Json), wfKvs (untagKvs kvs) = wfKvs kvs
  | [] => by simp [untagKvs]
  | (_, v) :: r => by simp [untagKvs, wfKvs, untag_wf v, untagKvs_wf r]
end

/-- the reference equality is symmetric on well-formed documents (IEEE-754 laws assumed) -/
theorem specEq_symm (L : FloatLaws) {a b : Json} (ha : a.wf = true) (hb : b.wf = true) :
    specEq a b = specEq b a := by
  rw [← specEq_untag_left a b, ← specEq_untag_right (untag a) b,
      ← specEq_untag_left b a, ← specEq_untag_right (untag b) a,
      ← equals_nil_eq_specEq (untag_listDoc a) (untag_listDoc b),
      ← equals_nil_eq_specEq (untag_listDoc b) (untag_listDoc a)]
  exact equals_symm_list L [] rfl _ _ (untag_listDoc a) (untag_listDoc b)
    (by rw [untag_wf]; exact ha) (by rw [untag_wf]; exact hb)

/-! ### the leaves -/

/-- `(test p v, remove p)` for every removed value -/
def remT (p : List String) (rem : List Json) : List TOp :=
  rem.flatMap (fun e => [.test p e, .remove p])

/-- `add p x` for the added values in reverse order -/
def addT (p : List String) (add : List Json) : List TOp :=
  add.reverse.map (fun e => .add p e)

def noVoid (l : List Json) : Prop := ∀ x ∈ l, x.isVoid = false

theorem applyStrict_nil_cases {x v : Json} {h : Hunk} (e : applyStrict x [] h = some v)
    (hr : noVoid h.remove) (ha : noVoid h.add) (hne : (h.remove.isEmpty && h.add.isEmpty) = false) :
    (h.remove = [] ∧ x = .void ∧ ∃ a, h.add = [a] ∧ v = a ∧ a.isVoid = false) ∨
    (∃ r0, h.remove = [r0] ∧ specEq x r0 = true ∧ x.isVoid = false ∧
      ((h.add = [] ∧ v = .void) ∨ ∃ a, h.add = [a] ∧ v = a ∧ a.isVoid = false)) := by
  simp only [applyStrict] at e
  split at e
  · cases e
  rename_i hl
  simp only [Bool.or_eq_true, decide_eq_true_eq, not_or, Nat.not_lt] at hl
  split at e
  · rename_i hs
    injection e with e
    have hadd : (h.add = [] ∧ v = .void) ∨ ∃ a, h.add = [a] ∧ v = a ∧ a.isVoid = false := by
      match hh : h.add, hl.2 with
      | [], _ => left; rw [hh] at e; exact ⟨rfl, e.symm⟩
      | [a], _ =>
        right; rw [hh] at e
        exact ⟨a, rfl, e.symm, ha a (by rw [hh]; exact List.mem_cons_self)⟩
    match hh : h.remove, hl.1 with
    | [], _ =>
      left
      rw [hh] at hs
      refine ⟨rfl, specEq_void_right hs, ?_⟩
      rcases hadd with ⟨h1, _⟩ | h2
      · rw [hh, h1] at hne; simp at hne
      · exact h2
    | [r0], _ =>
      right
      rw [hh] at hs
      have hv : r0.isVoid = false := hr r0 (by rw [hh]; exact List.mem_cons_self)
      exact ⟨r0, rfl, hs, by rw [specEq_isVoid hs]; exact hv, hadd⟩
  · cases e

theorem getP_nil_of_nonvoid {x : Json} (h : x.isVoid = false) : getP x [] = some x := by
  simp [getP, h]

/-- root hunk: `(test "" v, remove "")? (add "" x)?` -/
theorem root_leaf {n r : Json} {h : Hunk} (e : applyStrict n [] h = some r)
    (hr : noVoid h.remove) (ha : noVoid h.add) (hne : (h.remove.isEmpty && h.add.isEmpty) = false) :
    evalTs n (remT [] h.remove ++ addT [] h.add) = some r := by
  rcases applyStrict_nil_cases e hr ha hne with ⟨h1, rfl, a, h2, rfl, _⟩ | ⟨r0, h1, hs, hv, h2⟩
  · simp [h1, h2, remT, addT, evalTs, evalT, addP]
  · have hs' : equivB [] n r0 = true := hs
    rcases h2 with ⟨h2, rfl⟩ | ⟨a, h2, rfl, _⟩
    · simp [h1, h2, remT, addT, evalTs, evalT, getP_nil_of_nonvoid hv, hs', removeP, hv]
    · simp [h1, h2, remT, addT, evalTs, evalT, getP_nil_of_nonvoid hv, hs', removeP, hv, addP]

theorem applyStrict_key_nil (n : Json) (k : String) (h : Hunk) :
    applyStrict n [.key k] h =
      match n with
      | .obj kvs => (applyStrict ((alookup k kvs).getD .void) [] h).map (fun v =>
          if v.isVoid then Json.obj (aerase k kvs) else Json.obj (ainsert k v kvs))
      | _ => none := by
  cases n <;> simp [applyStrict]

/-- object member hunk: `(test p v, remove p)? (add p x)?` with `p = [k]` relative to the object -/
theorem key_leaf {n r : Json} {k : String} {h : Hunk} (hw : n.wf = true)
    (e : applyStrict n [.key k] h = some r)
    (hr : noVoid h.remove) (ha : noVoid h.add) (hne : (h.remove.isEmpty && h.add.isEmpty) = false) :
    evalTs n (remT [k] h.remove ++ addT [k] h.add) = some r := by
  rw [applyStrict_key_nil] at e
  cases n with
  | obj kvs =>
    simp only [Json.wf, Bool.and_eq_true] at hw
    simp only [Option.map_eq_some_iff] at e
    obtain ⟨v, e, rfl⟩ := e
    rcases applyStrict_nil_cases e hr ha hne with ⟨h1, hx, a, h2, rfl, hav⟩ | ⟨r0, h1, hs, hv, h2⟩
    · simp [h1, h2, remT, addT, evalTs, evalT, addP, hav]
    · have hs' : equivB [] ((alookup k kvs).getD .void) r0 = true := hs
      cases hl : alookup k kvs with
      | none => rw [hl] at hv; simp [Json.isVoid] at hv
      | some x =>
        rw [hl] at hv hs'; simp only [Option.getD_some] at hv hs'
        rcases h2 with ⟨h2, rfl⟩ | ⟨a, h2, rfl, hav⟩
        · simp [h1, h2, remT, addT, evalTs, evalT, getP_cons, child, hl, getP_nil_of_nonvoid hv, hs', removeP,
            Json.isVoid]
        · simp [h1, h2, remT, addT, evalTs, evalT, getP_cons, child, hl, getP_nil_of_nonvoid hv, hs',
            removeP, addP, hav, ainsert_aerase_of_sorted k v hw.1]
  | _ => simp at e

/-! ### the list leaf -/

/-- the test rendered for one line of context -/
def ctxT (p : List String) (ctx : List Json) : List TOp :=
  match ctx with
  | [b] => if b.isVoid then [] else [.test p b]
  | _ => []

theorem test_arr_elem {tg : Tag} {xs : List Json} {tok : String} {j : Nat} {x v : Json}
    (ht : arrayIndex? tok = some j) (hx : xs[j]? = some x) (hv : x.isVoid = false)
    (he : equivB [] x v = true) :
    evalT (.arr tg xs) (.test [tok] v) = some (.arr tg xs) := by
  simp [evalT, getP_cons, child, ht, hx, getP_nil_of_nonvoid hv, he]

/-- the test rendered for a context line the native context check accepted against element `j` -/
theorem ctx_test (L : FloatLaws) {tg : Tag} {xs : List Json} {tok : String} {j : Nat} {x c : Json}
    (hw : wfList xs = true) (hc : c.wf = true) (ht : arrayIndex? tok = some j) (hx : xs[j]? = some x)
    (hv : c.isVoid = false) (hs : specEq c x = true) :
    evalTs (.arr tg xs) [.test [tok] c] = some (.arr tg xs) := by
  have hxv : x.isVoid = false := by rw [← specEq_isVoid hs]; exact hv
  have hs' : equivB [] x c = true := by
    rw [specEq_symm L hc (wfList_iff.1 hw _ (List.mem_of_getElem? hx))] at hs; exact hs
  simp only [evalTs, test_arr_elem ht hx hxv hs', Option.bind_some]

theorem before_test (L : FloatLaws) {tg : Tag} {xs : List Json} {i : Int} {before : List Json}
    (hw : wfList xs = true) (hwb : wfList before = true) (hl : before.length ≤ 1)
    (hb : beforeOk xs i before.length 0 before = true) :
    evalTs (.arr tg xs) (ctxT [idxTok (i - 1)] before) = some (.arr tg xs) := by
  match before, hl with
  | [], _ => rfl
  | [b], _ =>
    simp only [ctxT]
    by_cases hv : b.isVoid = true
    · simp [hv, evalTs]
    · simp only [hv, if_false, Bool.false_eq_true]
      simp only [Bool.not_eq_true] at hv
      simp only [beforeOk, List.length_cons, List.length_nil, Bool.and_true] at hb
      have hk : (↑(0 + 1 : Nat) - ((0 : Nat) : Int) : Int) = 1 := by simp
      rw [hk] at hb
      split at hb
      · simp [hv] at hb
      · split at hb
        · rename_i x hx
          simp only [wfList, Bool.and_eq_true] at hwb
          exact ctx_test L hw hwb.1 (arrayIndex_idxTok (by omega)) hx hv hb
        · cases hb

theorem after_test (L : FloatLaws) {tg : Tag} {xs : List Json} {j m : Nat} {after : List Json}
    (hw : wfList xs = true) (hwa : wfList after = true) (hl : after.length ≤ 1)
    (ha : afterOk ((xs.drop j).drop m) 0 after = true) :
    evalTs (.arr tg xs) (ctxT [idxTok ((j : Int) + (m : Int))] after) = some (.arr tg xs) := by
  match after, hl with
  | [], _ => rfl
  | [a], _ =>
    simp only [ctxT]
    by_cases hv : a.isVoid = true
    · simp [hv, evalTs]
    · simp only [hv, if_false, Bool.false_eq_true]
      simp only [Bool.not_eq_true] at hv
      simp only [afterOk, Bool.and_true] at ha
      split at ha
      · rename_i x hx
        have hx' : xs[j + m]? = some x := by
          simpa [List.getElem?_drop, Nat.add_assoc] using hx
        have ht : arrayIndex? (idxTok ((j : Int) + (m : Int))) = some (j + m) := by
          rw [arrayIndex_idxTok (by omega)]; congr 1
        simp only [wfList, Bool.and_eq_true] at hwa
        exact ctx_test L hw hwa.1 ht hx' hv ha
      · simp [hv] at ha

theorem remove_run {tok : String} {j : Nat} (ht : arrayIndex? tok = some j) :
    ∀ (rs xs : List Json) (tg : Tag), noVoid rs → prefixEq rs (xs.drop j) = true →
      ∃ tg', evalTs (.arr tg xs) (remT [tok] rs) = some (.arr tg' (xs.take j ++ (xs.drop j).drop rs.length))
  | [], xs, tg, _, _ => ⟨tg, by simp [remT, evalTs]⟩
  | e :: rs, xs, tg, hv, hp => by
    cases hd : xs.drop j with
    | nil => rw [hd] at hp; simp [prefixEq] at hp
    | cons x rest =>
      rw [hd] at hp
      simp only [prefixEq, Bool.and_eq_true] at hp
      have hxj : xs[j]? = some x := by
        have : (xs.drop j)[0]? = some x := by rw [hd]; rfl
        simpa [List.getElem?_drop] using this
      have hjl : j < xs.length := by
        rcases Nat.lt_or_ge j xs.length with h | h
        · exact h
        · rw [List.getElem?_eq_none h] at hxj; cases hxj
      have hev : e.isVoid = false := hv e List.mem_cons_self
      have hxv : x.isVoid = false := by rw [specEq_isVoid hp.1]; exact hev
      have hdrop : (xs.eraseIdx j).drop j = rest := by
        rw [List.eraseIdx_eq_take_drop_succ]
        have : (xs.take j).length = j := by simp; omega
        rw [List.drop_append_of_le_length (by omega), List.drop_of_length_le (by omega)]
        have : xs.drop (j + 1) = (xs.drop j).drop 1 := by simp
        rw [this, hd]; rfl
      have htake : (xs.eraseIdx j).take j = xs.take j := by
        rw [List.eraseIdx_eq_take_drop_succ]
        have : (xs.take j).length = j := by simp; omega
        rw [List.take_append_of_le_length (by omega), List.take_of_length_le (by omega)]
      obtain ⟨tg', ih⟩ := remove_run ht rs (xs.eraseIdx j) .raw
        (fun y hy => hv y (List.mem_cons_of_mem _ hy)) (by rw [hdrop]; exact hp.2)
      refine ⟨tg', ?_⟩
      have hrm : evalT (.arr tg xs) (.remove [tok]) = some (.arr .raw (xs.eraseIdx j)) := by
        simp [evalT, removeP, ht, hjl]
      have : remT [tok] (e :: rs) = .test [tok] e :: .remove [tok] :: remT [tok] rs := by
        simp [remT]
      rw [this]
      simp only [evalTs, test_arr_elem ht hxj hxv hp.1, Option.bind_some, hrm, ih, hdrop, htake]
      simp

theorem add_run {tok : String} {j : Nat} (ht : arrayIndex? tok = some j) (pre : List Json)
    (hpre : pre.length = j) :
    ∀ (bs post : List Json) (tg : Tag),
      ∃ tg', evalTs (.arr tg (pre ++ post)) (bs.map (fun e => TOp.add [tok] e))
        = some (.arr tg' (pre ++ bs.reverse ++ post))
  | [], post, tg => ⟨tg, by simp [evalTs]⟩
  | e :: bs, post, tg => by
    have hne : (tok == "-") = false := by
      cases hh : tok == "-" with
      | false => rfl
      | true =>
        have : tok = "-" := by simpa using hh
        subst this
        have hn : arrayIndex? "-" = none := by decide
        rw [hn] at ht; cases ht
    have h1 : evalT (.arr tg (pre ++ post)) (.add [tok] e) = some (.arr .raw (pre ++ e :: post)) := by
      simp [evalT, addP, hne, ht, ← hpre]
    obtain ⟨tg', ih⟩ := add_run ht pre hpre bs (e :: post) .raw
    refine ⟨tg', ?_⟩
    simp only [List.map_cons, evalTs, h1, Option.bind_some, ih]
    simp

theorem applyStrict_idx_nil (n : Json) (i : Int) (h : Hunk) :
    applyStrict n [.idx i] h =
      match n with
      | .arr _ xs => (splice xs i h).map (Json.arr .raw ·)
      | _ => none := by
  cases n <;> simp [applyStrict]

/-- the operations of a list hunk relative to the array, as tokens -/
def listOpsT (i : Int) (h : Hunk) : List TOp :=
  ctxT [idxTok (i - 1)] h.before ++ ctxT [idxTok (i + (h.remove.length : Int))] h.after ++
    remT [idxTok i] h.remove ++ addT [idxTok i] h.add

/-- list hunk at an index `0 ≤ i`: context tests against the original array, then the removed run,
    then the additions in reverse order at the same index -/
theorem idx_leaf (L : FloatLaws) {n r : Json} {i : Int} {h : Hunk} (hw : n.wf = true)
    (e : applyStrict n [.idx i] h = some r) (hi : 0 ≤ i)
    (hr : noVoid h.remove) (hb1 : h.before.length ≤ 1) (ha1 : h.after.length ≤ 1)
    (hwb : wfList h.before = true) (hwa : wfList h.after = true) :
    ∃ r', evalTs n (listOpsT i h) = some r' ∧ untag r' = untag r := by
  rw [applyStrict_idx_nil] at e
  cases n with
  | arr tg xs =>
    simp only [Json.wf] at hw
    simp only [Option.map_eq_some_iff] at e
    obtain ⟨l', e, rfl⟩ := e
    unfold splice at e
    have hi1 : (i == -1) = false := by simp; omega
    simp only [hi1, Bool.false_eq_true, if_false] at e
    split at e
    · cases e
    rename_i hrange
    simp only [Bool.or_eq_true, decide_eq_true_eq, not_or, Int.not_lt] at hrange
    split at e
    · rename_i hc
      simp only [Bool.and_eq_true] at hc
      injection e with e
      subst e
      have hj : i = ((i.toNat : Nat) : Int) := by omega
      have htok : arrayIndex? (idxTok i) = some i.toNat := arrayIndex_idxTok hi
      have hB := before_test L (tg := tg) hw hwb hb1 hc.1.2
      have hA := after_test L (tg := tg) (j := i.toNat) (m := h.remove.length) hw hwa ha1 hc.2
      rw [← hj] at hA
      obtain ⟨tg1, hR⟩ := remove_run htok h.remove xs tg hr hc.1.1
      have hlen : (xs.take i.toNat).length = i.toNat := by simp; omega
      obtain ⟨tg2, hAdd⟩ := add_run htok (xs.take i.toNat) hlen h.add.reverse
        ((xs.drop i.toNat).drop h.remove.length) tg1
      rw [List.reverse_reverse] at hAdd
      refine ⟨.arr tg2 (xs.take i.toNat ++ h.add ++ (xs.drop i.toNat).drop h.remove.length), ?_, ?_⟩
      · unfold listOpsT addT
        rw [evalTs_append, evalTs_append, evalTs_append, hB]
        simp only [Option.bind_some]
        rw [hA]; simp only [Option.bind_some]
        rw [hR]; simp only [Option.bind_some]
        exact hAdd
      · simp [untag]
    · cases e
  | _ => simp at e

/-- list hunk at index `-1` (append): no context can be tested and at most one value can be added -/
theorem idx_leaf_append {n r : Json} {h : Hunk}
    (e : applyStrict n [.idx (-1)] h = some r) (hadd : h.add.length ≤ 1) :
    ∃ r', evalTs n (remT ["-"] h.remove ++ addT ["-"] h.add) = some r' ∧ untag r' = untag r := by
  rw [applyStrict_idx_nil] at e
  cases n with
  | arr tg xs =>
    simp only [Option.map_eq_some_iff] at e
    obtain ⟨l', e, rfl⟩ := e
    unfold splice at e
    simp only [show ((-1 : Int) == -1) = true from rfl, if_true] at e
    split at e
    · rename_i hre
      have hre' : h.remove = [] := by simpa using hre
      injection e with e; subst e
      match hh : h.add, hadd with
      | [], _ => exact ⟨.arr tg xs, by simp [hre', remT, addT, evalTs], by simp [untag]⟩
      | [a], _ =>
        refine ⟨.arr .raw (xs ++ [a]), ?_, rfl⟩
        simp [hre', remT, addT, evalTs, evalT, addP]
    · cases e
  | _ => simp at e

/-! ### navigation: a hunk below a parent path -/

theorem applyStrict_void_cons (e : PathElem) (rest : Path) (h : Hunk) :
    applyStrict .void (e :: rest) h = none := by
  cases e <;> cases rest <;> simp [applyStrict]

/-- the three ways a hunk applies below the root: through an object member, at an array index
    (the splice), through an array element -/
theorem applyStrict_cons_cases {n r : Json} {e : PathElem} {rest : Path} {h : Hunk}
    (he : applyStrict n (e :: rest) h = some r) :
    (∃ k kvs v, e = .key k ∧ n = .obj kvs ∧
      applyStrict ((alookup k kvs).getD .void) rest h = some v ∧
      r = if v.isVoid then .obj (aerase k kvs) else .obj (ainsert k v kvs)) ∨
    (∃ i t xs l, e = .idx i ∧ rest = [] ∧ n = .arr t xs ∧ splice xs i h = some l ∧ r = .arr .raw l) ∨
    (∃ i t xs x v, e = .idx i ∧ rest ≠ [] ∧ n = .arr t xs ∧ 0 ≤ i ∧ xs[i.toNat]? = some x ∧
      applyStrict x rest h = some v ∧ r = .arr .raw (xs.set i.toNat v)) := by
  cases e with
  | key k =>
    cases n <;> simp [applyStrict] at he
    rename_i kvs
    obtain ⟨v, hv, rfl⟩ := he
    exact .inl ⟨k, kvs, v, rfl, rfl, hv, rfl⟩
  | idx i =>
    cases rest with
    | nil =>
      rw [applyStrict_idx_nil] at he
      cases n <;> simp at he
      rename_i t xs
      obtain ⟨l, hl, rfl⟩ := he
      exact .inr (.inl ⟨i, t, xs, l, rfl, rfl, rfl, hl, rfl⟩)
    | cons e' r' =>
      cases n <;> simp [applyStrict] at he
      rename_i t xs
      obtain ⟨hi, he⟩ := he
      split at he
      · rename_i x hx
        simp at he
        obtain ⟨v, hv, rfl⟩ := he
        exact .inr (.inr ⟨i, t, xs, x, v, rfl, by simp, rfl, hi, hx, hv, rfl⟩)
      · cases he
  | _ => simp [applyStrict] at he

theorem applyStrict_key_cons (kvs : List (String × Json)) (k : String) (rest : Path) (h : Hunk) :
    applyStrict (.obj kvs) (.key k :: rest) h =
      (applyStrict ((alookup k kvs).getD .void) rest h).map (fun v =>
        if v.isVoid then Json.obj (aerase k kvs) else Json.obj (ainsert k v kvs)) := by
  simp only [applyStrict]

theorem applyStrict_idx_cons (t : Tag) (xs : List Json) (i : Int) (e : PathElem) (rest : Path) (h : Hunk) :
    applyStrict (.arr t xs) (.idx i :: e :: rest) h =
      if i < 0 then none
      else match xs[i.toNat]? with
        | some x => (applyStrict x (e :: rest) h).map (fun v => Json.arr .raw (xs.set i.toNat v))
        | none => none := by
  simp only [applyStrict]
  rfl

theorem applyStrict_cons_nonvoid {n v : Json} {e : PathElem} {rest : Path} {h : Hunk}
    (he : applyStrict n (e :: rest) h = some v) : v.isVoid = false := by
  rcases applyStrict_cons_cases he with ⟨_, _, _, _, _, _, rfl⟩ | ⟨_, _, _, _, _, _, _, _, rfl⟩ |
    ⟨_, _, _, _, _, _, _, _, _, _, _, rfl⟩
  · split <;> rfl
  · rfl
  · rfl

theorem nav_step_key {k : String} {rest : Path} (hne : rest ≠ []) {n r : Json} {h : Hunk}
    (e : applyStrict n (.key k :: rest) h = some r) :
    ∃ x v, child n k = some x ∧ applyStrict x rest h = some v ∧ r = put n k v := by
  rcases applyStrict_cons_cases e with ⟨k', kvs, v, hk, rfl, ev, rfl⟩ | ⟨_, _, _, _, hk, _⟩ | ⟨_, _, _, _, _, hk, _⟩
  · cases hk
    obtain ⟨e', r', rfl⟩ := List.exists_cons_of_ne_nil hne
    have hv := applyStrict_cons_nonvoid ev
    cases hl : alookup k kvs with
    | none => rw [hl] at ev; simp [applyStrict_void_cons] at ev
    | some x =>
      rw [hl] at ev
      exact ⟨x, v, hl, ev, by simp [hv, put]⟩
  · cases hk
  · cases hk

theorem nav_step_idx {i : Int} {rest : Path} (hne : rest ≠ []) {n r : Json} {h : Hunk}
    (e : applyStrict n (.idx i :: rest) h = some r) :
    ∃ x v, child n (idxTok i) = some x ∧ applyStrict x rest h = some v ∧ r = put n (idxTok i) v := by
  rcases applyStrict_cons_cases e with ⟨_, _, _, hk, _⟩ | ⟨_, _, _, _, _, h0, _⟩ |
    ⟨i', t, xs, x, v, hk, _, rfl, hi, hx, ev, rfl⟩
  · cases hk
  · exact absurd h0 hne
  · cases hk
    have ht := arrayIndex_idxTok hi
    exact ⟨x, v, by simp [child, ht, hx], ev, by simp [put, ht]⟩

theorem wf_child {n : Json} {t : String} {x : Json} (hw : n.wf = true) (hc : child n t = some x) :
    x.wf = true := by
  cases n with
  | arr tg xs =>
    obtain ⟨i, _, hx, _⟩ := child_arr hc
    exact wfList_iff.1 (by simpa [Json.wf] using hw) _ (List.mem_of_getElem? hx)
  | obj kvs =>
    simp only [Json.wf, Bool.and_eq_true] at hw
    exact alookup_wf hc hw.2
  | _ => simp [child] at hc

/-- navigation: a leaf simulation lifts through any parent path made of keys and indices -/
theorem nav (ops : List TOp) (hne : ∀ o ∈ ops, o.path ≠ []) (last : PathElem) (h : Hunk)
    (leaf : ∀ n r, n.wf = true → applyStrict n [last] h = some r →
      ∃ r', evalTs n ops = some r' ∧ untag r' = untag r) :
    ∀ (pp : Path) (n r : Json), n.wf = true → applyStrict n (pp ++ [last]) h = some r →
      ∃ r', evalTs n (ops.map (TOp.under (ptoks pp))) = some r' ∧ untag r' = untag r
  | [], n, r, hw, e => by
    have : ops.map (TOp.under (ptoks [])) = ops := by
      have h0 : TOp.under [] = id := by funext o; cases o <;> rfl
      simp [ptoks, h0]
    rw [this]; exact leaf n r hw e
  | el :: pp, n, r, hw, e => by
    have hrest : pp ++ [last] ≠ [] := by simp
    have key : ∀ t, (∃ x v, child n t = some x ∧ applyStrict x (pp ++ [last]) h = some v ∧ r = put n t v) →
        elemTok el = t →
        ∃ r', evalTs n (ops.map (TOp.under (ptoks (el :: pp)))) = some r' ∧ untag r' = untag r := by
      rintro t ⟨x, v, hc, ex, rfl⟩ ht
      obtain ⟨v', ev, hu⟩ := nav ops hne last h leaf pp x v (wf_child hw hc) ex
      have hne' : ∀ o ∈ ops.map (TOp.under (ptoks pp)), o.path ≠ [] := by
        intro o ho
        obtain ⟨o', ho', rfl⟩ := List.mem_map.1 ho
        rw [TOp.path_under]
        intro hh
        exact hne o' ho' (List.append_eq_nil_iff.1 hh).2
      obtain ⟨n', en, hn'⟩ := evalTs_under_untag t _ hne' hw hc ev
      refine ⟨n', ?_, by rw [hn']; exact untag_put_congr n t hu⟩
      rw [List.map_map] at en
      have : (TOp.under [t] ∘ TOp.under (ptoks pp)) = TOp.under (ptoks (el :: pp)) := by
        funext o
        simp [Function.comp, TOp.under_under, ptoks, ht]
      rw [this] at en; exact en
    cases el with
    | key k => exact key k (nav_step_key hrest e) rfl
    | idx i => exact key (idxTok i) (nav_step_idx hrest e) rfl
    | _ => simp [applyStrict] at e

/-! ### the rendered operations and their parsed form -/

theorem remOpsOf_eq {s : String} {rem : List Json} (hv : noVoid rem) :
    remOpsOf s rem = rem.flatMap (fun e => [{ op := "test", path := s, value := e }, { op := "remove", path := s, value := e }]) := by
  unfold remOpsOf
  cases rem with
  | nil => rfl
  | cons r0 r => simp [hv r0 List.mem_cons_self]

theorem addOpsOf_eq {s : String} {add : List Json} (hv : noVoid add) :
    addOpsOf s add = add.reverse.map (fun e => { op := "add", path := s, value := e }) := by
  unfold addOpsOf
  cases add with
  | nil => rfl
  | cons a0 r => simp [hv a0 List.mem_cons_self]

theorem repL_rem {s : String} {p : List String} (hp : parsePointer s = some p) (rem : List Json)
    (hv : noVoid rem) : RepL (remOpsOf s rem) (remT p rem) := by
  rw [remOpsOf_eq hv]
  unfold remT
  clear hv
  induction rem with
  | nil => exact .nil
  | cons e r ih =>
    simp only [List.flatMap_cons]
    refine .cons ⟨p, hp, Or.inl ⟨rfl, rfl⟩⟩ (.cons ⟨p, hp, Or.inr (Or.inr ⟨rfl, rfl⟩)⟩ ?_)
    simpa using ih

theorem repL_map_add {s : String} {p : List String} (hp : parsePointer s = some p) (l : List Json) :
    RepL (l.map (fun e => ({ op := "add", path := s, value := e } : PatchOp))) (l.map (fun e => TOp.add p e)) := by
  induction l with
  | nil => exact .nil
  | cons e r ih => exact .cons ⟨p, hp, Or.inr (Or.inl ⟨rfl, rfl⟩)⟩ ih

theorem repL_add {s : String} {p : List String} (hp : parsePointer s = some p) (add : List Json)
    (hv : noVoid add) : RepL (addOpsOf s add) (addT p add) := by
  rw [addOpsOf_eq hv]
  exact repL_map_add hp _

theorem ctxT_nil_of {ctx : List Json} (h : ctx.length = 1 → ctx = [.void]) (p : List String) :
    ctxT p ctx = [] := by
  unfold ctxT
  split
  · rename_i b
    have := h rfl
    injection this with this; subst this; rfl
  · rfl

theorem remT_under (pre p : List String) (rem : List Json) :
    (remT p rem).map (TOp.under pre) = remT (pre ++ p) rem := by
  unfold remT
  induction rem with
  | nil => rfl
  | cons e r ih => simp [List.flatMap_cons, TOp.under, ih]

theorem addT_under (pre p : List String) (add : List Json) :
    (addT p add).map (TOp.under pre) = addT (pre ++ p) add := by
  simp [addT, List.map_map, Function.comp, TOp.under]

theorem ctxT_under (pre p : List String) (ctx : List Json) :
    (ctxT p ctx).map (TOp.under pre) = ctxT (pre ++ p) ctx := by
  unfold ctxT
  split
  · split <;> simp [TOp.under]
  · rfl

theorem remT_path {p : List String} {rem : List Json} : ∀ o ∈ remT p rem, o.path = p := by
  intro o ho
  simp only [remT, List.mem_flatMap, List.mem_cons, List.not_mem_nil, or_false] at ho
  obtain ⟨_, _, rfl | rfl⟩ := ho <;> rfl

theorem addT_path {p : List String} {add : List Json} : ∀ o ∈ addT p add, o.path = p := by
  intro o ho
  simp only [addT, List.mem_map] at ho
  obtain ⟨_, _, rfl⟩ := ho; rfl

theorem ctxT_path {p : List String} {ctx : List Json} : ∀ o ∈ ctxT p ctx, o.path = p := by
  intro o ho
  unfold ctxT at ho
  split at ho
  · split at ho
    · cases ho
    · simp at ho; subst ho; rfl
  · cases ho

/-! ### one hunk -/

/-- side conditions on a hunk under which its JSON Patch rendering is faithful -/
structure HunkOK (h : Hunk) : Prop where
  /-- removed and added values are real values (what a list-mode diff produces) -/
  remNoVoid : noVoid h.remove
  addNoVoid : noVoid h.add
  wfBefore : wfList h.before = true
  wfAfter : wfList h.after = true
  wfAdd : wfList h.add = true
  /-- a hunk appending to a list (index -1) adds at most one value and carries no real context -/
  append : lastIdx? h.path = some (-1) →
    h.add.length ≤ 1 ∧ (∀ b ∈ h.before, b.isVoid = true) ∧ (∀ a ∈ h.after, a.isVoid = true)

/-- the pointers written for the hunk parse to the expected tokens (for `writePointerPath`:
    `hunkPtrOK_of_range`) -/
structure HunkPtrOKW (W : Path → Outcome String) (h : Hunk) : Prop where
  ptr : PtrOKW W h.path
  ptrBefore : ∀ i, lastIdx? h.path = some i → PtrOKW W (setLastIdx h.path (i - 1))
  ptrAfter : ∀ i, lastIdx? h.path = some i → PtrOKW W (setLastIdx h.path (i + (h.remove.length : Int)))

theorem ctxT_void {ctx : List Json} (h : ∀ b ∈ ctx, b.isVoid = true) (p : List String) :
    ctxT p ctx = [] := by
  unfold ctxT
  split
  · rename_i b; simp [h b List.mem_cons_self]
  · rfl

theorem applyStrict_strictPath : ∀ {p : Path} {n r : Json} {h : Hunk}, applyStrict n p h = some r →
    strictPath p = true
  | [], _, _, _, _ => rfl
  | _ :: _, _, _, _, e => by
    rcases applyStrict_cons_cases e with ⟨_, _, _, rfl, _, ev, _⟩ | ⟨_, _, _, _, rfl, rfl, _⟩ |
      ⟨_, _, _, _, _, rfl, _, _, _, _, ev, _⟩
    · exact (applyStrict_strictPath ev :)
    · rfl
    · exact (applyStrict_strictPath ev :)

theorem strictPath_append {p q : Path} : strictPath (p ++ q) = (strictPath p && strictPath q) := by
  induction p with
  | nil => simp [strictPath]
  | cons e r ih => cases e <;> simp [strictPath, ih]

/-- list hunk at any index the reference semantics accepts -/
theorem idx_leaf_any (L : FloatLaws) {n r : Json} {i : Int} {h : Hunk} (hw : n.wf = true)
    (e : applyStrict n [.idx i] h = some r)
    (hr : noVoid h.remove) (hb1 : h.before.length ≤ 1) (ha1 : h.after.length ≤ 1)
    (hwb : wfList h.before = true) (hwa : wfList h.after = true)
    (happ : i = -1 → h.add.length ≤ 1 ∧ (∀ b ∈ h.before, b.isVoid = true) ∧ (∀ a ∈ h.after, a.isVoid = true)) :
    ∃ r', evalTs n (listOpsT i h) = some r' ∧ untag r' = untag r := by
  by_cases hi : 0 ≤ i
  · exact idx_leaf L hw e hi hr hb1 ha1 hwb hwa
  · by_cases hm : i = -1
    · subst hm
      obtain ⟨h1, h2, h3⟩ := happ rfl
      have : listOpsT (-1) h = remT ["-"] h.remove ++ addT ["-"] h.add := by
        unfold listOpsT
        rw [ctxT_void h2, ctxT_void h3]
        rfl
      rw [this]
      exact idx_leaf_append e h1
    · exfalso
      rw [applyStrict_idx_nil] at e
      cases n <;> simp at e
      obtain ⟨_, e, _⟩ := e
      unfold splice at e
      have h1 : (i == -1) = false := by simpa using hm
      simp only [h1, Bool.false_eq_true, if_false] at e
      rw [if_pos (by simp; left; omega)] at e
      cases e

/-- a hunk whose path does not end in an index renders no context test -/
theorem ctxOpsW_nil_of_lastIdx {W : Path → Outcome String} {h : Hunk} {ctx : List Json} {f : Int → Int}
    {bo : List PatchOp} (hl : lastIdx? h.path = none) (e : ctxOpsW W h ctx f = .ok bo) : bo = [] := by
  rcases ctxOpsW_ok e with ⟨h1, _⟩ | ⟨_, i, _, _, _, hi, _⟩
  · exact h1
  · rw [hl] at hi; cases hi

/-- the context test of a hunk as a token operation (`f` = index shift); none unless the path ends in an index -/
def ctxTP (p : Path) (ctx : List Json) (f : Int → Int) : List TOp :=
  match lastIdx? p with
  | some i => ctxT (ptoks (setLastIdx p (f i))) ctx
  | none => []

/-- **the operations of a hunk, pointers as token lists**: what `renderPatchHunkW` writes for any writer -/
def hunkT (p : Path) (h : Hunk) : List TOp :=
  ctxTP p h.before (fun i => i - 1) ++ ctxTP p h.after (fun i => i + (h.remove.length : Int)) ++
    remT (ptoks p) h.remove ++ addT (ptoks p) h.add

theorem ctxTP_nil (p : Path) (f : Int → Int) : ctxTP p [] f = [] := by
  unfold ctxTP; split <;> rfl

theorem ctxTP_of_none {p : Path} (h : lastIdx? p = none) (ctx : List Json) (f : Int → Int) :
    ctxTP p ctx f = [] := by
  simp only [ctxTP, h]

theorem ctxTP_snoc (pp : Path) (i : Int) (ctx : List Json) (f : Int → Int) :
    ctxTP (pp ++ [.idx i]) ctx f = (ctxT [idxTok (f i)] ctx).map (TOp.under (ptoks pp)) := by
  simp only [ctxTP, lastIdx_concat_idx, setLastIdx_concat, ptoks_concat, ctxT_under, elemTok]

/-- a context-free hunk: only the removals and the additions -/
theorem hunkT_noCtx {p : Path} {h : Hunk} (hb : h.before = []) (ha : h.after = []) :
    hunkT p h = remT (ptoks p) h.remove ++ addT (ptoks p) h.add := by
  simp only [hunkT, hb, ha, ctxTP_nil, List.nil_append]

/-- a hunk whose path does not end in an index -/
theorem hunkT_of_none {p : Path} (hl : lastIdx? p = none) (h : Hunk) :
    hunkT p h = remT (ptoks p) h.remove ++ addT (ptoks p) h.add := by
  simp only [hunkT, ctxTP_of_none hl, List.nil_append]

/-- a list hunk: the operations relative to the array, below the tokens of the parent path -/
theorem hunkT_snoc_idx (pp : Path) (i : Int) (h : Hunk) :
    hunkT (pp ++ [.idx i]) h = (listOpsT i h).map (TOp.under (ptoks pp)) := by
  simp only [hunkT, ctxTP_snoc, listOpsT, List.map_append, remT_under, addT_under, ptoks_concat, elemTok]

theorem listOpsT_path {i : Int} {h : Hunk} : ∀ o ∈ listOpsT i h, o.path ≠ [] := by
  intro o ho
  simp only [listOpsT, List.mem_append] at ho
  rcases ho with ((ho | ho) | ho) | ho
  · rw [ctxT_path o ho]; simp
  · rw [ctxT_path o ho]; simp
  · rw [remT_path o ho]; simp
  · rw [addT_path o ho]; simp

/-- **One hunk, token level.** Wherever the native hunk applies (reference semantics), its token
    operations evaluate on the same document with the same result up to array tags. -/
theorem hunkT_sim (L : FloatLaws) {c r : Json} {p : Path} {h : Hunk}
    (hw : c.wf = true) (hok : HunkOK { h with path := p })
    (hne : (h.remove.isEmpty && h.add.isEmpty) = false)
    (hb1 : h.before.length ≤ 1) (ha1 : h.after.length ≤ 1)
    (e : applyStrict c p h = some r) :
    ∃ r', evalTs c (hunkT p h) = some r' ∧ untag r' = untag r := by
  rcases eq_nil_or_snoc p with rfl | ⟨pp, last, rfl⟩
  · rw [hunkT_of_none rfl]
    exact ⟨r, root_leaf e hok.remNoVoid hok.addNoVoid hne, rfl⟩
  · cases last with
    | key k =>
      rw [hunkT_of_none (lastIdx_concat_key pp k), ptoks_concat, ← remT_under, ← addT_under,
        ← List.map_append]
      refine nav _ (fun o ho => ?_) (.key k) h
        (fun n r hw e => ⟨r, key_leaf hw e hok.remNoVoid hok.addNoVoid hne, rfl⟩) pp c r hw e
      rcases List.mem_append.1 ho with ho | ho
      · rw [remT_path o ho]; simp
      · rw [addT_path o ho]; simp
    | idx i =>
      rw [hunkT_snoc_idx]
      exact nav _ listOpsT_path (.idx i) h
        (fun n r hw e => idx_leaf_any L hw e hok.remNoVoid hb1 ha1 hok.wfBefore hok.wfAfter
          (fun hm => hok.append (by rw [hm]; exact lastIdx_concat_idx pp _))) pp c r hw e
    | _ =>
      have := applyStrict_strictPath e
      simp [strictPath_append, strictPath] at this

/-- the context test a writer renders and its token form -/
theorem repL_ctxTP {W : Path → Outcome String} {h : Hunk} {ctx : List Json} {f : Int → Int}
    {bo : List PatchOp} (e : ctxOpsW W h ctx f = .ok bo)
    (hP : ∀ i, lastIdx? h.path = some i → PtrOKW W (setLastIdx h.path (f i))) :
    RepL bo (ctxTP h.path ctx f) := by
  rcases ctxOpsW_ok e with ⟨rfl, hc⟩ | ⟨b, i, s, rfl, hv, hi, hw, rfl⟩
  · unfold ctxTP; split
    · rw [ctxT_nil_of hc]; exact .nil
    · exact .nil
  · simp only [ctxTP, hi, ctxT, hv, Bool.false_eq_true, if_false]
    exact .cons ⟨_, hP i hi s hw, Or.inl ⟨rfl, rfl⟩⟩ .nil

/-- **what any pointer writer renders for a hunk is `hunkT`**, pointer for pointer -/
theorem repL_hunkW {W : Path → Outcome String} {h : Hunk} {ops : List PatchOp}
    (hr : noVoid h.remove) (ha : noVoid h.add) (hptr : HunkPtrOKW W h)
    (er : renderPatchHunkW W h = .ok ops) : RepL ops (hunkT h.path h) := by
  obtain ⟨s, bo, ao, hs, _, _, _, hbo, hao, rfl⟩ := renderPatchHunkW_ok er
  have hp := hptr.ptr s hs
  exact (((repL_ctxTP hbo hptr.ptrBefore).append (repL_ctxTP hao hptr.ptrAfter)).append
    (repL_rem hp _ hr)).append (repL_add hp _ ha)

/-- **One hunk.** Wherever the native hunk applies (reference semantics `applyStrict`), the JSON
    Patch operations rendered for it, evaluated by the independent RFC 6902 evaluator on the same
    document, succeed with the same result (up to the Go dynamic type of array nodes). -/
theorem renderPatchHunkW_sim (L : FloatLaws) {W : Path → Outcome String} {c r : Json} {h : Hunk}
    {ops : List PatchOp} (hw : c.wf = true) (hok : HunkOK h) (hptr : HunkPtrOKW W h)
    (e : applyStrict c h.path h = some r) (er : renderPatchHunkW W h = .ok ops) :
    ∃ r', eval c (ops.map PatchOp.toSpec) = some r' ∧ untag r' = untag r := by
  obtain ⟨_, _, _, _, hne, hb1, ha1, _⟩ := renderPatchHunkW_ok er
  rw [eval_of_rep (repL_hunkW hok.remNoVoid hok.addNoVoid hptr er)]
  exact hunkT_sim L hw hok hne hb1 ha1 e

theorem renderPatchHunk_sim (L : FloatLaws) {c r : Json} {h : Hunk} {ops : List PatchOp}
    (hw : c.wf = true) (hok : HunkOK h) (hptr : HunkPtrOKW writePointerPath h)
    (e : applyStrict c h.path h = some r) (er : renderPatchHunk h = .ok ops) :
    ∃ r', eval c (ops.map PatchOp.toSpec) = some r' ∧ untag r' = untag r :=
  renderPatchHunkW_sim L hw hok hptr e (renderPatchHunk_eq_W h ▸ er)

/-! ### sequences of hunks -/

theorem splice_wf {l l' : List Json} {i : Int} {h : Hunk} (hl : wfList l = true)
    (ha : wfList h.add = true) (e : splice l i h = some l') : wfList l' = true := by
  unfold splice at e
  rw [wfList_iff] at hl ha ⊢
  split at e
  · split at e
    · injection e with e; subst e
      intro x hx
      rcases List.mem_append.1 hx with hx | hx
      · exact hl x hx
      · exact ha x hx
    · cases e
  · split at e
    · cases e
    · dsimp only at e
      split at e
      · injection e with e; subst e
        intro x hx
        simp only [List.mem_append] at hx
        rcases hx with (hx | hx) | hx
        · exact hl x (List.mem_of_mem_take hx)
        · exact ha x hx
        · exact hl x (List.mem_of_mem_drop (List.mem_of_mem_drop hx))
      · cases e

theorem applyStrict_wf {n r : Json} {p : Path} {h : Hunk} (hn : n.wf = true)
    (ha : wfList h.add = true) (e : applyStrict n p h = some r) : r.wf = true := by
  induction p generalizing n r with
  | nil =>
    simp only [applyStrict] at e
    split at e
    · cases e
    split at e
    · injection e with e; subst e
      simp only [single, Json.singleValue]
      split
      · rfl
      · rename_i hh
        rw [hh] at ha
        simp only [wfList, Bool.and_eq_true] at ha
        exact ha.1
    · cases e
  | cons el rest ih =>
    rcases applyStrict_cons_cases e with ⟨k, kvs, v, rfl, rfl, ev, rfl⟩ | ⟨i, t, xs, l, rfl, rfl, rfl, hl, rfl⟩ |
      ⟨i, t, xs, x, v, rfl, _, rfl, _, hx, ev, rfl⟩
    · simp only [Json.wf, Bool.and_eq_true] at hn
      have hc : ((alookup k kvs).getD Json.void).wf = true := by
        cases hl : alookup k kvs with
        | none => rfl
        | some x => exact alookup_wf hl hn.2
      have := ih hc ev
      have hk := hn.2
      rw [wfKvs_eq_all] at hk
      split
      · simp [Json.wf, keysSorted_aerase _ hn.1, wfKvs_eq_all, all_aerase k hk]
      · simp [Json.wf, keysSorted_ainsert _ _ hn.1, wfKvs_eq_all, all_ainsert (k := k) this hk]
    · exact splice_wf (by simpa [Json.wf] using hn) ha hl
    · simp only [Json.wf] at hn ⊢
      rw [wfList_iff] at hn ⊢
      intro y hy
      rcases List.mem_or_eq_of_mem_set hy with hy | rfl
      · exact hn y hy
      · exact ih (hn _ (List.mem_of_getElem? hx)) ev

theorem applyStrictAll_untag_congr : ∀ (d : Diff) {n n' : Json}, untag n = untag n' →
    (applyStrictAll n d).map untag = (applyStrictAll n' d).map untag
  | [], n, n', e => by simp [applyStrictAll, e]
  | h :: d, n, n', e => by
    have h1 := applyStrict_untag_congr e h.path h
    simp only [applyStrictAll]
    cases ha : applyStrict n h.path h with
    | none =>
      rw [ha] at h1
      cases hb : applyStrict n' h.path h with
      | none => rfl
      | some b => rw [hb] at h1; cases h1
    | some a =>
      rw [ha] at h1
      cases hb : applyStrict n' h.path h with
      | none => rw [hb] at h1; cases h1
      | some b =>
        rw [hb] at h1
        simp only [Option.map_some, Option.some.injEq] at h1
        simpa using applyStrictAll_untag_congr d h1

/-- a whole diff, for any renderer `RR` that renders hunk after hunk with `R`: if the operations of
    each hunk simulate the hunk, the operations of the diff simulate the diff -/
theorem sim_of_hunks {R : Hunk → Outcome (List PatchOp)} {RR : Diff → Outcome (List PatchOp)}
    {P : Hunk → Prop} (hnil : ∀ {ops}, RR [] = .ok ops → ops = [])
    (hcons : ∀ {h d ops}, RR (h :: d) = .ok ops → ∃ a b, R h = .ok a ∧ RR d = .ok b ∧ ops = a ++ b)
    (hadd : ∀ {h}, P h → wfList h.add = true)
    (sim : ∀ {c r : Json} {h : Hunk} {ops : List PatchOp}, c.wf = true → P h →
      applyStrict c h.path h = some r → R h = .ok ops →
      ∃ r', eval c (ops.map PatchOp.toSpec) = some r' ∧ untag r' = untag r) :
    ∀ (d : Diff) {c r : Json} {ops : List PatchOp}, c.wf = true → (∀ h ∈ d, P h) →
      applyStrictAll c d = some r → RR d = .ok ops →
      ∃ r', eval c (ops.map PatchOp.toSpec) = some r' ∧ untag r' = untag r
  | [], c, r, ops, _, _, e, er => by
    simp only [applyStrictAll] at e; injection e with e; subst e
    obtain rfl := hnil er
    exact ⟨c, rfl, rfl⟩
  | h :: d, c, r, ops, hw, hd, e, er => by
    obtain ⟨a, b, ha, hb, rfl⟩ := hcons er
    simp only [applyStrictAll] at e
    cases h1 : applyStrict c h.path h with
    | none => rw [h1] at e; cases e
    | some r1 =>
      rw [h1] at e; simp only [Option.bind_some] at e
      have hP := hd h List.mem_cons_self
      obtain ⟨r1', e1, u1⟩ := sim hw hP h1 ha
      have hw1 : r1.wf = true := applyStrict_wf hw (hadd hP) h1
      have hw1' : r1'.wf = true := by rw [← untag_wf, u1, untag_wf]; exact hw1
      have hc := applyStrictAll_untag_congr d u1
      rw [e] at hc
      cases h2 : applyStrictAll r1' d with
      | none => rw [h2] at hc; cases hc
      | some r2 =>
        rw [h2] at hc
        simp only [Option.map_some, Option.some.injEq] at hc
        obtain ⟨r', e2, u2⟩ := sim_of_hunks hnil hcons hadd sim d hw1'
          (fun h' hm => hd h' (List.mem_cons_of_mem _ hm)) h2 hb
        refine ⟨r', ?_, by rw [u2, hc]⟩
        rw [List.map_append, eval_append, e1]
        exact e2

/-- **A whole diff.** Wherever the native diff applies hunk after hunk (reference semantics),
    the rendered JSON Patch evaluated by the independent RFC 6902 evaluator succeeds on the same
    document with the same result up to array tags. -/
theorem renderPatchOps_sim (L : FloatLaws) :
    ∀ (d : Diff) {c r : Json} {ops : List PatchOp}, c.wf = true →
      (∀ h ∈ d, HunkOK h ∧ HunkPtrOKW writePointerPath h) →
      applyStrictAll c d = some r → renderPatchOps d = .ok ops →
      ∃ r', eval c (ops.map PatchOp.toSpec) = some r' ∧ untag r' = untag r :=
  sim_of_hunks (P := fun h => HunkOK h ∧ HunkPtrOKW writePointerPath h)
    renderPatchOps_nil renderPatchOps_ok_cons (fun hP => hP.1.wfAdd)
    (fun hw hP e er => renderPatchHunk_sim L hw hP.1 hP.2 e er)

/-! ### final statements: pointer hypotheses discharged by index bounds -/

/-- every index the rendering writes is of magnitude below 2^53 (exact in a float64) -/
structure HunkRange (h : Hunk) : Prop where
  path : ∀ i, PathElem.idx i ∈ h.path → i.natAbs < 2 ^ 53
  ctx : ∀ i, lastIdx? h.path = some i →
    (i - 1).natAbs < 2 ^ 53 ∧ (i + (h.remove.length : Int)).natAbs < 2 ^ 53

theorem idxRange_setLastIdx {p : Path} {j : Int} (hp : ∀ i, PathElem.idx i ∈ p → i.natAbs < 2 ^ 53)
    (hj : j.natAbs < 2 ^ 53) : idxRange (setLastIdx p j) := by
  intro i hi
  apply idxRT_of_bound
  rcases mem_setLastIdx hi with hi | hi
  · exact hp i hi
  · cases hi; exact hj

theorem hunkPtrOK_of_range {h : Hunk} (hr : HunkRange h) : HunkPtrOKW writePointerPath h where
  ptr := ptrOK_of_range (fun i hi => idxRT_of_bound (hr.path i hi))
  ptrBefore := fun i hi => ptrOK_of_range (idxRange_setLastIdx hr.path (hr.ctx i hi).1)
  ptrAfter := fun i hi => ptrOK_of_range (idxRange_setLastIdx hr.path (hr.ctx i hi).2)

/-- **C09, a diff**: the native diff applies ⇒ the rendered JSON Patch applies with the same result
    up to array tags. -/
theorem renderPatchOps_correct (L : FloatLaws) {d : Diff} {c r : Json} {ops : List PatchOp}
    (hw : c.wf = true) (hd : ∀ h ∈ d, HunkOK h ∧ HunkRange h)
    (e : applyStrictAll c d = some r) (er : renderPatchOps d = .ok ops) :
    ∃ r', eval c (ops.map PatchOp.toSpec) = some r' ∧ untag r' = untag r :=
  renderPatchOps_sim L d hw (fun h hm => ⟨(hd h hm).1, hunkPtrOK_of_range (hd h hm).2⟩) e er

/-- every operation of a rendered hunk carries a well-formed JSON Pointer -/
theorem renderPatchHunk_paths_parse {h : Hunk} {ops : List PatchOp} (hr : HunkRange h)
    (er : renderPatchHunk h = .ok ops) : ∀ o ∈ ops, (parsePointer o.path).isSome = true := by
  obtain ⟨s, bo, ao, hs, _, _, _, hb, ha, rfl⟩ := renderPatchHunk_ok er
  have hP := hunkPtrOK_of_range hr
  have hp := hP.ptr s hs
  have hctx : ∀ {ctx f bo}, ctxOps h ctx f = .ok bo →
      (∀ i, lastIdx? h.path = some i → PtrOK (setLastIdx h.path (f i))) →
      ∀ o ∈ bo, (parsePointer o.path).isSome = true := by
    intro ctx f bo e hf o ho
    rcases ctxOps_ok e with ⟨rfl, _⟩ | ⟨b, i, pp, _, _, hi, hw, rfl⟩
    · cases ho
    · simp only [List.mem_singleton] at ho; subst ho
      simp [hf i hi pp hw]
  intro o ho
  simp only [List.mem_append] at ho
  rcases ho with ((ho | ho) | ho) | ho
  · exact hctx hb hP.ptrBefore o ho
  · exact hctx ha hP.ptrAfter o ho
  · obtain ⟨_, rfl | rfl⟩ := mem_remOpsOf ho <;> simp [hp]
  · obtain ⟨_, rfl⟩ := mem_addOpsOf ho
    simp [hp]

/-! ### findings: where the rendering is NOT faithful (hand-written diffs at index -1) -/

def cexDoc : Json := .arr .raw [.null]
def cexAppend2 : Hunk := { path := [.idx (-1)], add := [.str "a", .str "b"] }

theorem wpp_append : writePointerPath [.idx (-1)] = .ok "/-" := by
  rw [writePointerPath_cons, writePointerPath_nil]
  have : wtok (.idx (-1)) = some "-" := by
    simp only [wtok, floatTrunc_intToFloatBits (i := -1) (by decide)]
    rfl
  rw [this]; rfl

theorem pp_dash : parsePointer "/-" = some ["-"] := parsePointer_of_toList (by decide)

/-- finding: an append hunk (index -1) with two added values is rendered as two `add` operations at the pointer slash-dash, last value first,
    which RFC 6902 evaluates to `[.., b, a]` while the native patch gives `[.., a, b]` -/
def cexOps : List PatchOp :=
  [{ op := "add", path := "/-", value := .str "b" }, { op := "add", path := "/-", value := .str "a" }]

theorem cex_render' : renderPatchHunk cexAppend2 = .ok cexOps :=
  renderPatchHunk_of (h := cexAppend2) wpp_append rfl (by decide) (by decide) rfl rfl

theorem cex_append_reversed :
    applyStrict cexDoc cexAppend2.path cexAppend2 = some (Json.arr .raw [.null, .str "a", .str "b"]) ∧
    renderPatchHunk cexAppend2 = .ok cexOps ∧
    eval cexDoc (cexOps.map PatchOp.toSpec) = some (Json.arr .raw [.null, .str "b", .str "a"]) := by
  refine ⟨?_, cex_render', ?_⟩
  · simp [applyStrict, cexDoc, cexAppend2, splice]
  · simp [cexOps, eval, evalOp, PatchOp.toSpec, pp_dash, addP, cexDoc]
def cexAppendCtx : Hunk := { path := [.idx (-1)], before := [.null], add := [.str "a"] }
def cexOps2 : List PatchOp :=
  [{ op := "test", path := "/-2", value := .null }, { op := "add", path := "/-", value := .str "a" }]

theorem wpp_m2 : writePointerPath [.idx (-2)] = .ok "/-2" := by
  rw [writePointerPath_cons, writePointerPath_nil]
  have : wtok (.idx (-2)) = some "-2" := by
    simp only [wtok, floatTrunc_intToFloatBits (i := -2) (by decide)]
    decide
  rw [this]; rfl

theorem cex_render2 : renderPatchHunk cexAppendCtx = .ok cexOps2 :=
  renderPatchHunk_of (h := cexAppendCtx) wpp_append rfl (by decide) (by decide)
    (ctxOps_single (h := cexAppendCtx) (f := fun i => i - 1) (i := -1) rfl rfl wpp_m2) rfl

theorem pp_m2 : parsePointer "/-2" = some ["-2"] := parsePointer_of_toList (by decide)

theorem wpp_0 : writePointerPath [.idx 0] = .ok "/0" := by
  rw [writePointerPath_cons, writePointerPath_nil]
  have : wtok (.idx 0) = some "0" := by
    simp only [wtok, floatTrunc_intToFloatBits (i := 0) (by decide)]
    decide
  rw [this]; rfl

theorem pp_0 : parsePointer "/0" = some ["0"] := parsePointer_of_toList (by decide)

/-- finding: an append hunk (index -1) carrying a line of before-context applies natively (the context
    is not looked at) but its rendering tests the pointer slash-minus-two, which no RFC 6902
    evaluator can resolve: the rendered patch is rejected -/
theorem cex_append_context :
    applyStrict cexDoc cexAppendCtx.path cexAppendCtx = some (Json.arr .raw [.null, .str "a"]) ∧
    renderPatchHunk cexAppendCtx = .ok cexOps2 ∧
    eval cexDoc (cexOps2.map PatchOp.toSpec) = none := by
  refine ⟨?_, cex_render2, ?_⟩
  · simp [applyStrict, cexDoc, cexAppendCtx, splice]
  · have : arrayIndex? "-2" = none := by decide
    simp [cexOps2, eval, evalOp, PatchOp.toSpec, pp_m2, getP, cexDoc, this]

/-! ### axioms -/

#print axioms renderPatchHunk_wfOps
#print axioms renderPatchOps_wfOps
#print axioms renderPatchHunk_paths_parse
#print axioms renderPatchHunk_sim
#print axioms renderPatchOps_correct
#print axioms cex_append_reversed
#print axioms cex_append_context

end Jd
