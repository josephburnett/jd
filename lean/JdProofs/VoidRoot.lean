/-
  JdProofs.VoidRoot (namespace `Jd.VoidRoot`) — the EMPTY document (`Json.void`) at the ROOT of a
  diff, on either side, in every reading of arrays and both strategies.

  The properties C01 / C05 / C02 / C09 / C11 quantify over "any two documents a and b, including the
  empty document".  Audit: the hypotheses `listDoc`, `rawDoc`, `wf`,
  `finiteNums`, `noNegZero`, `setDoc`, `DPL.memOK`, `E2E.voidFree`, `E2E.shortArrays`, `nullFree`,
  `HashOK`, `HashFaithful`, `KeysHyp` all HOLD of `Json.void` at the root (`voidFree` / `memOK` speak
  about array elements and object members only), so the strict-strategy theorems of C01 / C05 / C02
  already cover `a = void` and `b = void`.  EXCLUDED at the root are: `b = void` in every MERGE
  theorem of C01 / C02 / C11 / C14 (`Merge.objVoidFree b`, `Yaml.voidFree b`), and `a = void` /
  `b = void` wherever `Yaml.voidFree` / `JText.preOK` is asked of a document.

  Here the root-void cases are proved DIRECTLY, for ALL option lists `o` at once (list, SET,
  MULTISET, SetKeys, Precision, with or without MERGE) and with (almost) no hypothesis: at the root
  the diff is one whole-document hunk (§1).  What `RenderPatch` / `RenderMerge` make of that hunk
  (C09 / C11 at the root) is evaluated where it is stated, in JdProps/C01Void.lean; two findings come
  out of it: a merge diff that deletes the document renders to the no-op RFC 6902 patch `[]`
  (`json_patch_of_merge_deletion_is_noop`), and to the RFC 7386 patch `null`, which does not yield the
  empty document (`merge_patch_of_deletion_is_null`).
-/
import JdModel
import JdSpec
import JdProofs.NativeRoundTrip
import JdProofs.Robust

set_option autoImplicit false

namespace Jd.VoidRoot
open Jd Jd.Spec Jd.NativeRT

/-! ## 1. the diff when one side is the empty document -/

/-- `void.Diff(b)`: nothing when `b` is void too, otherwise ONE hunk at the root that adds `b`
    (a merge hunk under MERGE).  Every option list. -/
theorem diffM_void_left (o : Opts) (b : Json) :
    diffM o .void b =
      if b.isVoid then [] else [{ merge := isMerge o, path := [], add := [b] }] := by
  unfold diffM
  rw [diffNode.eq_def]
  cases b <;> cases hm : isMerge o <;>
    simp [diffCommon, equals, Json.isVoid, Json.nodeList]

theorem diffM_void_void (o : Opts) : diffM o .void .void = [] := by
  rw [diffM_void_left]; rfl

/-- the value the strict hunk removes at the root: the document itself, an array under the Go type
    its diff method runs on (`jsonArray` in the set readings, `jsonList` in the list reading) -/
def removedRoot (o : Opts) : Json → Json
  | .arr t xs =>
    match effTag o t with
    | .set => .arr .raw xs
    | .mset => .arr .raw xs
    | _ => .arr .list xs
  | a => a

/-- `jsonObject.diff` against a non-object writes the other node as it is: `Add = [void]`;
    the other kinds go through `nodeList`, which drops void -/
def addRoot : Json → List Json
  | .obj _ => [.void]
  | _ => []

/-- `a.Diff(void)` for a document `a`: ONE hunk at the root — under MERGE the merge hunk "write
    void" (= delete), otherwise the strict hunk that removes `a`.  Every option list. -/
theorem diffM_void_right (o : Opts) (a : Json) (ha : a.isVoid = false) :
    diffM o a .void =
      if isMerge o then [{ merge := true, path := [], add := [.void] }]
      else [{ path := [], remove := [removedRoot o a], add := addRoot a }] := by
  unfold diffM
  rw [diffNode.eq_def]
  cases a with
  | void => simp [Json.isVoid] at ha
  | arr t xs =>
    cases hm : isMerge o <;> cases he : effTag o t <;>
      simp [removedRoot, addRoot, Json.dispatch, Json.nodeList, Json.isVoid, he]
  | obj kvs => cases hm : isMerge o <;> simp [removedRoot, addRoot]
  | _ =>
    cases hm : isMerge o <;>
      simp [diffCommon, equals, Json.isVoid, Json.isNull, Json.nodeList, removedRoot, addRoot]

/-! ## 2. C05 at the root: the diff is empty exactly when `Equals` holds — every option list, no
      hypothesis -/

theorem equals_void_right (o : Opts) (a : Json) : equals o a .void = a.isVoid := by
  cases a with
  | arr t xs => cases he : effTag o t <;> simp [equals, he, Json.dispatch, Json.isVoid]
  | _ => simp [equals, Json.isVoid, Json.isNull]

/-! ## 3. C01 at the root: patching the diff yields the target -/

/-- **C01, `a` the empty document**: `void.Patch(void.Diff(b))` is `b` ITSELF — every option list,
    every `b` (void included), either variant of the patch code, no hypothesis -/
theorem patch_void_left (sw : Bool) (o : Opts) (b : Json) :
    patchAll sw .void (diffM o .void b) = .ok b := by
  rw [diffM_void_left]
  cases hb : b.isVoid with
  | true => cases b <;> simp [Json.isVoid] at hb; rfl
  | false =>
    cases hm : isMerge o <;>
      simp [patchAll, patchNode_strict, patchNode_merge_eq, patchS, patchMg, replaceS, patchFresh,
        Path.isLeaf, Json.singleValue, Json.isVoid, equals]

/-- **C01, `b` the empty document, MERGE strategy**: the merge hunk "write void at the root"
    deletes the document — every option list with MERGE, every `a`, no hypothesis -/
theorem patch_void_right_merge (sw : Bool) (o : Opts) (hm : isMerge o = true) (a : Json) :
    patchAll sw a (diffM o a .void) = .ok .void := by
  cases ha : a.isVoid with
  | true => cases a <;> simp [Json.isVoid] at ha; rw [diffM_void_void]; rfl
  | false =>
    rw [diffM_void_right o a ha, hm]
    cases a with
    | void => simp [Json.isVoid] at ha
    | _ =>
      simp [patchAll, patchNode_merge_eq, patchMg, patchFresh, Path.isLeaf, Json.singleValue,
        Json.isVoid]

/-- the root is not a `jsonSet` / `jsonMultiset` TYPED node (no reader produces one) -/
def plainRoot : Json → Bool
  | .arr .set _ => false
  | .arr .mset _ => false
  | _ => true

theorem plainRoot_of_listDoc {a : Json} (h : a.listDoc = true) : plainRoot a = true := by
  cases a with
  | arr t xs => cases t <;> simp_all [Json.listDoc, plainRoot]
  | _ => rfl

/-- the removed value of an array root is the array under the tag `jsonArray` or `jsonList` -/
theorem removedRoot_arr (o : Opts) (t : Tag) (xs : List Json) :
    ∃ t', (t' = .raw ∨ t' = .list) ∧ removedRoot o (.arr t xs) = .arr t' xs := by
  cases he : effTag o t
  · exact ⟨.list, .inr rfl, by simp [removedRoot, he]⟩
  · exact ⟨.list, .inr rfl, by simp [removedRoot, he]⟩
  · exact ⟨.raw, .inl rfl, by simp [removedRoot, he]⟩
  · exact ⟨.raw, .inl rfl, by simp [removedRoot, he]⟩

/-- a plain-rooted document that `Equals` itself also `Equals` the value the strict hunk removes -/
theorem equals_removedRoot (o : Opts) {a : Json} (hp : plainRoot a = true)
    (hr : equals [] a a = true) : equals [] a (removedRoot o a) = true := by
  cases a with
  | arr t xs =>
    obtain ⟨t', ht', e⟩ := removedRoot_arr o t xs
    rw [e]
    rcases ht' with rfl | rfl <;> cases t <;>
      simp_all [equals, effTag, dispatchTag, Json.dispatch, plainRoot]
  | _ => exact hr

theorem removedRoot_isVoid (o : Opts) {a : Json} (ha : a.isVoid = false) :
    (removedRoot o a).isVoid = false := by
  cases a with
  | arr t xs => obtain ⟨t', _, e⟩ := removedRoot_arr o t xs; rw [e]; rfl
  | _ => simpa [removedRoot] using ha

theorem addRoot_cases (a : Json) : addRoot a = [] ∨ addRoot a = [.void] := by
  cases a <;> simp [addRoot]

theorem addRoot_single (a : Json) :
    Json.singleValue (addRoot a) = .void ∧ decide ((addRoot a).length > 1) = false := by
  cases a <;> exact ⟨rfl, rfl⟩

/-- **C01, `b` the empty document, strict strategy**: the hunk removes the whole document, and the
    patch code checks the removed value with `Equals` (no options): the only hypothesis is that `a`
    `Equals` itself (false only with a NaN inside; follows from `finiteNums` by
    `equals_refl_list`).  Every option list without MERGE (list, SET, MULTISET, SetKeys, Precision). -/
theorem patch_void_right_strict (sw : Bool) (o : Opts) (hm : isMerge o = false) (a : Json)
    (hp : plainRoot a = true) (hr : equals [] a a = true) :
    patchAll sw a (diffM o a .void) = .ok .void := by
  cases ha : a.isVoid with
  | true => cases a <;> simp [Json.isVoid] at ha; rw [diffM_void_void]; rfl
  | false =>
    rw [diffM_void_right o a ha, hm]
    simp only [Bool.false_eq_true, if_false, patchAll]
    rw [patchNode_strict_nil, (addRoot_single a).1, (addRoot_single a).2]
    simp [Json.singleValue, equals_removedRoot o hp hr]

/-- the property at the root in one statement: whenever one side is the empty document,
    `a.Patch(a.Diff(b))` succeeds and the result `Equals` `b` under the options -/
theorem diff_then_patch_root_void (sw : Bool) (o : Opts) (a b : Json)
    (hv : a.isVoid = true ∨ b.isVoid = true)
    (hp : plainRoot a = true) (hr : equals [] a a = true) :
    ∃ r, patchAll sw a (diffM o a b) = .ok r ∧ (r = b ∨ (r.isVoid = true ∧ b.isVoid = true)) := by
  rcases hv with hv | hv
  · cases a <;> simp [Json.isVoid] at hv
    exact ⟨b, patch_void_left sw o b, .inl rfl⟩
  · cases b <;> simp [Json.isVoid] at hv
    cases hm : isMerge o with
    | true => exact ⟨.void, patch_void_right_merge sw o hm a, .inl rfl⟩
    | false => exact ⟨.void, patch_void_right_strict sw o hm a hp hr, .inl rfl⟩

/-! ## 4. C02 at the root: the native text of the diff, read back, patches `a` to `b` -/

/-- the codec contract of a one-hunk diff -/
theorem codecOK_single {nc : NumCodec} {h : Hunk} (hP : PathOK nc h.path)
    (hV : ∀ v ∈ payloads h, ValOK nc v) : CodecOK nc [h] := by
  intro h' hh
  rw [List.mem_singleton.1 hh]
  exact ⟨hP, hV⟩

/-- the hunk `[{merge, [], add [b]}]` as `ReadDiffString` returns it -/
theorem normDiff_add (m : Bool) (b : Json) (hb : b.isVoid = false) :
    normDiff [{ merge := m, path := [], add := [b] }] = [{ merge := m, path := [], add := [untag b] }] := by
  cases m <;> simp [normDiff, normHunk, normPath, remLines, addLines, hb]

/-- **native text, `a` the empty document** (every option list): the text of `void.Diff(b)` is read
    back as ONE root hunk that adds `b` (up to the Go type of array nodes: `untag`), and patching the
    empty document with it yields `b` (`untag b = b` for a document as read: `untag_rawDoc`).
    Hypotheses: the codec contract on the root path `[]` and on `b`. -/
theorem native_void_left (nc : NumCodec) (o : Opts) (b : Json) (hb : b.isVoid = false)
    (hP : PathOK nc []) (hV : ValOK nc b) (text : String)
    (hr : renderM nc [] (diffM o .void b) = some text) :
    readDiffM nc text = .ok [{ merge := isMerge o, path := [], add := [untag b] }] ∧
    ∀ sw, patchAll sw .void [{ merge := isMerge o, path := [], add := [untag b] }] = .ok (untag b) := by
  rw [diffM_void_left, hb] at hr
  simp only [Bool.false_eq_true, if_false] at hr
  have hw : wfDiff [{ merge := isMerge o, path := [], add := [b] }] = true := by
    cases isMerge o <;>
      simp [wfDiff, wfHunk, idxOK, remLines, addLines, hb, mergeMono]
  have hc : CodecOK nc [{ merge := isMerge o, path := [], add := [b] }] :=
    codecOK_single hP fun v hv => by
      simp only [payloads, List.nil_append, List.append_nil, List.mem_filter, List.mem_singleton] at hv
      rw [hv.1]; exact hV
  have := read_render nc _ text hw hc hr
  rw [normDiff_add _ b hb] at this
  refine ⟨this, fun sw => ?_⟩
  have hu : (untag b).isVoid = false := by rw [untag_isVoid]; exact hb
  cases hm : isMerge o <;>
    simp [patchAll, patchNode_strict, patchNode_merge_eq, patchS, patchMg, replaceS, patchFresh,
      Path.isLeaf, Json.singleValue, Json.isVoid, equals]

/-- **native text, `b` the empty document, strict strategy** (every option list without MERGE):
    for `a` as read from text (`rawDoc`) that `Equals` itself, the text `@ []` / `- a` is read back
    as the hunk that removes `a` at the root, and patching `a` with it yields the empty document.
    (The in-memory hunk of an OBJECT `a` carries `Add = [void]`, which has no `+` line: the diff read
    back has `Add = []` — same effect.) -/
theorem native_void_right (nc : NumCodec) (o : Opts) (hm : isMerge o = false) (a : Json)
    (ha : a.isVoid = false) (har : a.rawDoc = true) (hrefl : equals [] a a = true)
    (hP : PathOK nc []) (hV : ValOK nc (removedRoot o a)) (text : String)
    (hr : renderM nc [] (diffM o a .void) = some text) :
    readDiffM nc text = .ok [{ path := [], remove := [a] }] ∧
    ∀ sw, patchAll sw a [{ path := [], remove := [a] }] = .ok .void := by
  rw [diffM_void_right o a ha, hm] at hr
  simp only [Bool.false_eq_true, if_false] at hr
  have hrv := removedRoot_isVoid o ha
  have hfil : (addRoot a).filter (fun v => !v.isVoid) = [] := by
    rcases addRoot_cases a with e | e <;> rw [e] <;> rfl
  have hw : wfDiff [{ path := [], remove := [removedRoot o a], add := addRoot a }] = true := by
    simp [wfDiff, wfHunk, idxOK, remLines, addLines, hrv, hfil, mergeMono]
  have hc : CodecOK nc [{ path := [], remove := [removedRoot o a], add := addRoot a }] :=
    codecOK_single hP fun v hv => by
      simp only [payloads, List.nil_append, List.append_nil, List.filter_append, hfil,
        List.mem_filter, List.mem_singleton] at hv
      rw [hv.1]; exact hV
  have hu : untag (removedRoot o a) = a := by
    cases a with
    | arr t xs =>
      obtain ⟨t', _, e⟩ := removedRoot_arr o t xs
      rw [e]
      have h1 := Robust.untag_rawDoc _ har
      simp only [Json.rawDoc, Bool.and_eq_true, beq_iff_eq] at har
      rw [har.1] at h1 ⊢
      simpa [untag] using h1
    | _ => simpa [removedRoot] using Robust.untag_rawDoc _ har
  have := read_render nc _ text hw hc hr
  have hn : normDiff [{ path := [], remove := [removedRoot o a], add := addRoot a }]
      = [{ path := [], remove := [a] }] := by
    simp [normDiff, normHunk, normPath, remLines, addLines, hrv, hfil, hu]
  rw [hn] at this
  refine ⟨this, fun sw => ?_⟩
  simp only [patchAll]
  rw [patchNode_strict_nil]
  simp [Json.singleValue, hrefl]

/-! ## 5. C09 at the root, both documents empty -/

/-- both documents empty: the text `[]`, which RFC 6902 evaluates to "no document" again -/
theorem renderPatch_void_void (nc : NumCodec) (o : Opts) :
    renderPatchM nc (diffM o .void .void) = .ok (some "[]") ∧ Spec.eval .void [] = some .void := by
  rw [diffM_void_void]; exact ⟨rfl, rfl⟩

end Jd.VoidRoot
