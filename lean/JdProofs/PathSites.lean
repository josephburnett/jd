/-
  JdProofs.PathSites — the aliasing discipline of JdModel/PathHeap.lean checked on the table of
  source sites REGENERATED from the Go code on every run (JdModel/Gen/PathSites.lean, tools/pathfacts):

  * every path STORED in a DiffElement by the diff-building code of v2/ (the `diff` methods,
    `diffRest`, `readMergeInto`, `readDiff`) is a copy (`fresh`), and every path expression evaluated
    there is `safe` (appends to the parameter only, `drop` on copies only); the same for lib/ is
    `v1_diff_paths_ok` in JdProofs/PathSitesV1.lean;
  * every slice of the caller's diff that a renderer edits in place (index assignment,
    `slices.Reverse`, assignment through a pointer) is a copy;
  * the values a diff ADDS are handed to `patch` (which builds them into the document and patches that in
    place) as DEEP copies — `patchAll` of both libraries, and any other function that calls a `patch` method
    directly (a `slices.Clone` does not count there); every container `cloneNode` returns is a copy (D29).

  Together with `PathHeap.refinement` (JdProofs/PathHeapProofs.lean: under this discipline Go's slice
  semantics agrees with the functional model, for every growth policy) this is what justifies treating
  paths and hunk payloads as VALUES everywhere else in the model. Removing a `.clone()` in the Go source
  changes the regenerated table and the `decide` proofs here and in PathSitesV1.lean stop checking (a broken obligation, DESIGN §5),
  whether or not a generated input happens to hit a slice with spare capacity.
-/
import JdProofs.PathSitesDefs
import JdProofs.TableEval

namespace Jd.PathSites
open Jd Jd.PathHeap

/-- v2: every stored path is a copy, every path expression of the diff-building code is safe -/
theorem v2_diff_paths_ok : (Gen.pathSites.filter (fun s => isV2 s && !isWrite s)).all ok = true := by
  rw [all_filter_test_first]
  decide +kernel

/-- the renderers (v2 and v1) edit copies only -/
theorem renderers_write_copies : (Gen.pathSites.filter isWrite).all ok = true := by
  decide +kernel

/-- the table is not empty for the wrong reason: the extractor found the sites of every diff-building
    file (object, list, set, multiset, diff_common, diff_read) of both libraries and the renderers' writes -/
theorem table_covers_the_diff_code :
    (["v2/object.go", "v2/list.go", "v2/set.go", "v2/multiset.go", "v2/diff_common.go", "v2/diff_read.go",
      "lib/object.go", "lib/list.go", "lib/set.go", "lib/multiset.go", "lib/diff_common.go", "lib/diff_read.go"].all
        (fun f => Gen.pathSites.any (fun s => s.1.startsWith f && s.2.1 == .store))) = true ∧
    (["v2/object.go", "v2/list.go", "v2/set.go", "lib/object.go", "lib/list.go", "lib/set.go",
      "v2/diff_read.go", "lib/diff_read.go"].all
        (fun f => Gen.pathSites.any (fun s => s.1.startsWith f && s.2.1 == .call))) = true ∧
    (["v2/diff_write.go:Diff.RenderPatch", "v2/diff_write.go:Diff.RenderMerge", "lib/diff_write.go:Diff.RenderMerge",
      "v2/patch_common.go:patchAll", "lib/patch_common.go:patchAll"].all
        (fun f => Gen.pathSites.any (fun s => s.1.startsWith f && s.2.1 == .write))) = true := by
  simp only [startsWith_eq_bytes]
  decide +kernel

end Jd.PathSites
