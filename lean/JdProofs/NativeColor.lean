/-
  JdProofs.NativeColor — the colour output of the native diff format (`Render(COLOR)`), namespaces
  `Jd.NativeRT` (§1) and `Jd.E2EP` (§2, §3).  Statement files: JdProps/C02.lean, JdProps/C02Precision.lean.

  §1 colour = plain + ANSI: `renderM_color_strip`, `renderHunk_color_strip` — under the contract
     `NoEsc nc d` (no rendered payload / path text contains ESC), stripping the sequences `ESC [ … m`
     from `Render(COLOR)` gives `Render()`.  `Strips s s'` ("`s` is `s'` with colour sequences
     inserted") is closed under concatenation, and the renderer is walked once, in both modes at the
     same time (`ORel Strips`).  INCLUDING the character-level diff of a hunk that removes one string
     and adds one string: the model's `colorStringMarshal` is the Go function, rune by rune, over the
     ESCAPED body, greedy against the LCS of the raw runes; the escaped text never contains ESC
     (`escapeBody_noesc`, from `JText.escapeChar_noCtl`).
  §2 * `NoEscVal` / `NoEscPath`, `E2E.Readable.noEsc`: `NoEsc nc (diffM o a b)` for every reading
       (with or without a Precision; each supplies `Readable`), from the contract on the SUB-TERMS
       of the two documents and on the paths;
     * `noEscVal_str`, `color_strip_char_level`: the character-level colouring strips to the
       plain text for ALL strings (no contract on the strings: encoding/json escapes ESC);
     * `color_text_then_strip`, `color_text_exists`: `Render(COLOR)` gives `ctext` iff `Render()`
       gives `stripAnsi ctext`; hence every end-to-end theorem applies to the colour text once
       the ANSI sequences are stripped (`color_strip_end_to_end_set_precision` in
       JdProofs.NativeEndToEndPrecision is the instance for SET / MULTISET + Precision).
  §3 the colour text ITSELF is not input for the reader:
     * `esc_line_not_read`: a text with a line (not the first) that starts with ESC is never
       read as a diff (`allows_esc`: the reader allows the header ESC in no state);
     * `renderHunk_color_esc_line`: the colour text of a hunk that prints at least one `-` / `+`
       line (`printsChange`, implied by `wfHunk`) and is not of the shape "one string removed,
       one string added" HAS such a line (the colour code is written BEFORE the header);
     * `color_hunk_not_read`, `color_diff_not_read`: so `ReadDiffString` returns no diff;
     * `CharWitness.char_level_not_read`: for the character-level shape (`"ab"` → `"ac"`) no line
       starts with ESC, but the ESC sits inside the JSON string, which the JSON reader rejects;
     * `CharWitness.same_string_is_read`: the degenerate hunk that removes and adds the SAME
       string is coloured nowhere and IS read back: "never readable" is false for it.
-/
import JdModel
import JdSpec
import JdProofs.NativeRoundTrip
import JdProofs.NativeEndToEnd

set_option linter.unusedVariables false

namespace Jd.NativeRT
open Jd Jd.Spec

/-! ## 1. colour only adds ANSI sequences: `stripAnsi (Render(COLOR)) = Render()` under `NoEsc` -/

/-- remove the ANSI sequences `ESC [ … m` (flag: inside a sequence) -/
def stripGo : Bool → List Char → List Char
  | _, [] => []
  | true, c :: r => if c == 'm' then stripGo false r else stripGo true r
  | false, [c] => [c]
  | false, c :: r@(d :: r') =>
    if c == '\x1b' then (if d == '[' then stripGo true r' else c :: stripGo false r)
    else c :: stripGo false r

def stripAnsi (cs : List Char) : List Char := stripGo false cs

/-- codec contract (control characters are escaped): no rendered payload / path text contains ESC -/
def NoEsc (nc : NumCodec) (d : Diff) : Prop :=
  ∀ h ∈ d, (∀ t, jsonM nc (pathToJson h.path) = some t → '\x1b' ∉ t.toList) ∧
    ∀ v ∈ payloads h, ∀ t, marshalNode nc v = some t → '\x1b' ∉ t.toList

/-! ### the stripper on lists -/

theorem stripGo_false_cons_ne (c : Char) (r : List Char) (hc : c ≠ '\x1b') :
    stripGo false (c :: r) = c :: stripGo false r := by
  cases r <;> simp [stripGo, hc]

theorem stripGo_noesc_append (a b : List Char) (ha : '\x1b' ∉ a) :
    stripGo false (a ++ b) = a ++ stripGo false b := by
  induction a with
  | nil => rfl
  | cons c a ih =>
    simp only [List.mem_cons, not_or] at ha
    rw [List.cons_append, stripGo_false_cons_ne _ _ (fun h => ha.1 h.symm), ih ha.2, List.cons_append]

/-! ### `Strips s s'`: `s` is `s'` with colour sequences inserted -/

def Strips (s s' : String) : Prop :=
  ∀ b : List Char, stripGo false (s.toList ++ b) = s'.toList ++ stripGo false b

theorem Strips.of_noesc {s : String} (h : '\x1b' ∉ s.toList) : Strips s s :=
  fun b => stripGo_noesc_append _ b h

theorem Strips.append {a a' b b' : String} (h1 : Strips a a') (h2 : Strips b b') :
    Strips (a ++ b) (a' ++ b') := by
  intro t
  simp only [String.toList_append, List.append_assoc]
  rw [h1, h2]

theorem Strips.empty : Strips "" "" := fun b => by simp

theorem Strips.code_red : Strips colorRed "" := fun b => by simp [colorRed, stripGo]
theorem Strips.code_green : Strips colorGreen "" := fun b => by simp [colorGreen, stripGo]
theorem Strips.code_default : Strips colorDefault "" := fun b => by simp [colorDefault, stripGo]

theorem Strips.final {s s' : String} (h : Strips s s') :
    String.ofList (stripAnsi s.toList) = s' := by
  have := h []
  simp only [List.append_nil] at this
  have h0 : stripGo false [] = [] := by simp [stripGo]
  rw [h0, List.append_nil] at this
  rw [stripAnsi, this, String.ofList_toList]

/-- the same on lists of lines (their concatenation) -/
def LStrips (l l' : List String) : Prop :=
  ∀ b : List Char, stripGo false (l.flatMap String.toList ++ b) = l'.flatMap String.toList ++ stripGo false b

theorem LStrips.join {l l' : List String} (h : LStrips l l') :
    Strips (String.join l) (String.join l') := by
  intro b
  simp only [String.toList_join]
  exact h b

theorem LStrips.nil : LStrips [] [] := fun b => by simp

theorem LStrips.cons {x y : String} {l l' : List String} (hx : Strips x y) (hl : LStrips l l') :
    LStrips (x :: l) (y :: l') := by
  intro b
  simp only [List.flatMap_cons, List.append_assoc]
  rw [hx, hl]

/-! ### relation lifted to `Option` -/

def ORel {α β} (R : α → β → Prop) : Option α → Option β → Prop
  | none, none => True
  | some x, some y => R x y
  | _, _ => False

theorem ORel.bind {α β} {R : α → α → Prop} {S : β → β → Prop} {a a' : Option α}
    {f f' : α → Option β} (h : ORel R a a') (hf : ∀ x y, R x y → ORel S (f x) (f' y)) :
    ORel S (a >>= f) (a' >>= f') := by
  cases a <;> cases a' <;> simp only [ORel] at h
  · exact True.intro
  · exact hf _ _ h

theorem ORel.ite {α β} {R : α → β → Prop} {c : Prop} [Decidable c] {a b : Option α} {a' b' : Option β}
    (h1 : c → ORel R a a') (h2 : ¬ c → ORel R b b') :
    ORel R (if c then a else b) (if c then a' else b') := by
  by_cases h : c
  · rw [if_pos h, if_pos h]; exact h1 h
  · rw [if_neg h, if_neg h]; exact h2 h

theorem ORel.optAll_map {α} (l : List α) (fc f : α → Option String)
    (h : ∀ x ∈ l, ORel Strips (fc x) (f x)) :
    ORel LStrips (optAll (l.map fc)) (optAll (l.map f)) := by
  induction l with
  | nil => simpa [optAll, ORel] using LStrips.nil
  | cons x l ih =>
    have hx := h x (by simp)
    have hl := ih (fun y hy => h y (by simp [hy]))
    simp only [List.map_cons]
    cases h1 : fc x <;> cases h2 : f x <;> rw [h1, h2] at hx <;> simp only [ORel] at hx
    · simp [optAll, ORel]
    · simp only [optAll]
      cases h3 : optAll (l.map fc) <;> cases h4 : optAll (l.map f) <;> rw [h3, h4] at hl <;>
        simp only [ORel] at hl <;> simp only [Option.map_none, Option.map_some, ORel]
      exact LStrips.cons hx hl

theorem ORel.final {a b : Option String} (h : ORel Strips a b) :
    a.map (fun s => String.ofList (stripAnsi s.toList)) = b := by
  cases a <;> cases b <;> simp only [ORel] at h <;> simp
  exact h.final

/-! ### the rune-wise coloured string -/

theorem escapeBody_noesc (s : String) : '\x1b' ∉ (escapeBody s).toList := by
  simp only [escapeBody, String.toList_ofList, List.mem_flatMap, not_exists, not_and]
  intro c _ h
  exact absurd (JText.escapeChar_noCtl c _ h) (by decide)

theorem Strips.singleton {c : Char} (hc : c ≠ '\x1b') : Strips (String.singleton c) (String.singleton c) :=
  Strips.of_noesc (by simpa using fun h => hc h.symm)

theorem Strips.empty_left {s s' : String} : Strips s s' → Strips s ("" ++ s') := by
  intro h b; simpa using h b

theorem Strips.append_empty {s s' : String} : Strips s s' → Strips s (s' ++ "") := by
  intro h b; simpa using h b

theorem colorGo_strips (code : String) (hcode : Strips code "") (rs : List Char) :
    ∀ common, '\x1b' ∉ rs → Strips (colorStringMarshal.go code rs common) (String.ofList rs) := by
  induction rs with
  | nil =>
    intro common _
    cases common <;> simpa [colorStringMarshal.go] using Strips.empty
  | cons r rs ih =>
    intro common hr
    simp only [List.mem_cons, not_or] at hr
    have hr1 : r ≠ '\x1b' := fun h => hr.1 h.symm
    have hsplit : String.ofList (r :: rs) = String.singleton r ++ String.ofList rs := by
      apply String.toList_inj.mp; simp
    have hcol : ∀ cs, Strips (code ++ String.singleton r ++ colorDefault ++ colorStringMarshal.go code rs cs)
        (String.ofList (r :: rs)) := by
      intro cs b
      have h1 := ((hcode.append (Strips.singleton hr1)).append Strips.code_default).append (ih cs hr.2)
      have := h1 b
      simpa [String.toList_append] using this
    cases common with
    | nil => simpa [colorStringMarshal.go] using hcol []
    | cons c cs =>
      simp only [colorStringMarshal.go]
      split
      · rw [hsplit]; exact (Strips.singleton hr1).append (ih cs hr.2)
      · exact hcol (c :: cs)

theorem colorStringMarshal_strips (x : String) (common : List Char) (code : String)
    (hcode : Strips code "") : Strips (colorStringMarshal x common code) (quoteString x) := by
  unfold colorStringMarshal quoteString
  have hq : Strips "\"" "\"" := Strips.of_noesc (by simp)
  have := colorGo_strips code hcode (escapeBody x).toList common (escapeBody_noesc x)
  rw [String.ofList_toList] at this
  exact (hq.append this).append hq

theorem marshalNode_str (nc : NumCodec) (x : String) : marshalNode nc (.str x) = some (quoteString x) := by
  simp [marshalNode, jsonText]

/-! ### the hunk renderer -/

theorem ctx_line_strips (nc : NumCodec) (lit : String) (hlit : '\x1b' ∉ lit.toList) (v : Json)
    (hv : ¬ v.isVoid → ∀ t, marshalNode nc v = some t → '\x1b' ∉ t.toList) :
    ORel Strips
      (if v.isVoid = true then some lit else Option.map (fun t => "  " ++ t ++ "\n") (marshalNode nc v))
      (if v.isVoid = true then some lit else Option.map (fun t => "  " ++ t ++ "\n") (marshalNode nc v)) := by
  refine ORel.ite (fun _ => Strips.of_noesc hlit) fun hvoid => ?_
  cases hm : marshalNode nc v with
  | none => trivial
  | some t =>
    exact ((Strips.of_noesc (by simp)).append (Strips.of_noesc (hv hvoid t hm))).append
      (Strips.of_noesc (by simp))

theorem chg_line_strips (nc : NumCodec) (sign : String) (hsign : '\x1b' ∉ sign.toList)
    (code : String) (hcode : Strips code "")
    (single : Option (String × String)) (common : List Char) (v : Json)
    (hv : ∀ t, marshalNode nc v = some t → '\x1b' ∉ t.toList) :
    ORel Strips
      (match (generalizing := false) single, true, v with
        | some _, true, .str x => some (sign ++ colorStringMarshal x common code ++ "\n")
        | _, _, _ => (marshalNode nc v).map (fun t =>
            (if true = true then code else "") ++ sign ++ t ++ "\n" ++ (if true = true then colorDefault else "")))
      (match (generalizing := false) single, false, v with
        | some _, true, .str x => some (sign ++ colorStringMarshal x common code ++ "\n")
        | _, _, _ => (marshalNode nc v).map (fun t =>
            (if false = true then code else "") ++ sign ++ t ++ "\n" ++ (if false = true then colorDefault else ""))) := by
  have hnl : Strips "\n" "\n" := Strips.of_noesc (by simp)
  have hsg : Strips sign sign := Strips.of_noesc hsign
  have hplain : ∀ t, '\x1b' ∉ t.toList → Strips (code ++ sign ++ t ++ "\n" ++ colorDefault) ("" ++ sign ++ t ++ "\n" ++ "") :=
    fun t ht => (((hcode.append hsg).append (Strips.of_noesc ht)).append hnl).append Strips.code_default
  have hfall : ORel Strips
      ((marshalNode nc v).map (fun t => code ++ sign ++ t ++ "\n" ++ colorDefault))
      ((marshalNode nc v).map (fun t => "" ++ sign ++ t ++ "\n" ++ "")) := by
    cases hm : marshalNode nc v with
    | none => simp [ORel]
    | some t => simpa only [Option.map_some, ORel] using hplain t (hv t hm)
  have hspecial : ∀ x, ORel Strips (some (sign ++ colorStringMarshal x common code ++ "\n"))
      ((marshalNode nc (.str x)).map (fun t => "" ++ sign ++ t ++ "\n" ++ "")) := by
    intro x
    rw [marshalNode_str]
    simp only [Option.map_some, ORel]
    exact ((hsg.append (colorStringMarshal_strips x common code hcode)).append hnl).empty_left.append_empty
  cases single with
  | none => exact hfall
  | some p =>
    cases v with
    | str x => exact hspecial x
    | _ => exact hfall

theorem void_add_strips (m : Bool) :
    ORel Strips
      (if m = true then some ((if true = true then colorGreen else "") ++ "+\n" ++ (if true = true then colorDefault else ""))
        else some "")
      (if m = true then some ((if false = true then colorGreen else "") ++ "+\n" ++ (if false = true then colorDefault else ""))
        else some "") := by
  cases m <;> simp only [↓reduceIte, Bool.false_eq_true, ORel]
  · exact Strips.empty
  · exact ((Strips.code_green.append (Strips.of_noesc (by simp))).append Strips.code_default).append_empty

theorem renderHunk_color_orel (nc : NumCodec) (h : Hunk) (hn : NoEsc nc [h]) :
    ORel Strips (renderHunk nc [.color] h) (renderHunk nc [] h) := by
  obtain ⟨hpath, hpay⟩ := hn h (by simp)
  have hpay' : ∀ v, (v ∈ h.before ∨ v ∈ h.remove ∨ v ∈ h.add ∨ v ∈ h.after) → ¬ v.isVoid = true →
      ∀ t, marshalNode nc v = some t → '\x1b' ∉ t.toList := by
    intro v hv hvoid
    apply hpay v
    simp only [payloads, List.mem_filter, List.mem_append]
    refine ⟨?_, by simpa using hvoid⟩
    rcases hv with h | h | h | h <;> simp [h]
  unfold renderHunk
  extract_lets color merge mline single common color' merge'
  have hc : color = true := rfl
  have hc' : color' = false := rfl
  have hm : merge = merge' := rfl
  clear_value color color' merge merge' single common
  subst hc hc' hm
  have hml : Strips mline mline := by
    apply Strips.of_noesc
    simp only [mline]
    split <;> simp
  clear_value mline
  refine ORel.bind (R := Strips) ?_ ?_
  · cases hp : jsonM nc (pathToJson h.path) with
    | none => simp [ORel]
    | some t => exact Strips.of_noesc (hpath t hp)
  intro pt pt' hpt
  refine ORel.bind (ORel.optAll_map _ _ _ ?_) ?_
  · intro v hv
    exact ctx_line_strips nc "[\n" (by simp) v (hpay' v (Or.inl hv))
  intro bf bf' hbf
  refine ORel.bind (ORel.optAll_map _ _ _ ?_) ?_
  · intro v hv
    exact ORel.ite (fun _ => Strips.empty) fun hvoid =>
      chg_line_strips nc "- " (by simp) colorRed Strips.code_red single common v
        (hpay' v (Or.inr (Or.inl hv)) hvoid)
  intro rm rm' hrm
  refine ORel.bind (ORel.optAll_map _ _ _ ?_) ?_
  · intro v hv
    exact ORel.ite (fun _ => void_add_strips merge) fun hvoid =>
      chg_line_strips nc "+ " (by simp) colorGreen Strips.code_green single common v
        (hpay' v (Or.inr (Or.inr (Or.inl hv))) hvoid)
  intro ad ad' had
  refine ORel.bind (ORel.optAll_map _ _ _ ?_) ?_
  · intro v hv
    exact ctx_line_strips nc "]\n" (by simp) v (hpay' v (Or.inr (Or.inr (Or.inr hv))))
  intro af af' haf
  show Strips _ _
  exact ((((((hml.append (Strips.of_noesc (by simp))).append hpt).append (Strips.of_noesc (by simp))).append
    hbf.join).append hrm.join).append had.join).append haf.join

theorem renderHunk_color_strip (nc : NumCodec) (h : Hunk) (hn : NoEsc nc [h]) :
    (renderHunk nc [.color] h).map (fun s => String.ofList (stripAnsi s.toList)) = renderHunk nc [] h :=
  (renderHunk_color_orel nc h hn).final

theorem renderM_color_strip (nc : NumCodec) (d : Diff) (hn : NoEsc nc d) :
    (renderM nc [.color] d).map (fun s => String.ofList (stripAnsi s.toList)) = renderM nc [] d := by
  apply ORel.final
  unfold renderM
  have := ORel.optAll_map d (renderHunk nc [.color]) (renderHunk nc []) (fun h hh =>
    renderHunk_color_orel nc h (fun h' hh' => by
      simp only [List.mem_singleton] at hh'; subst hh'; exact hn _ hh))
  revert this
  cases optAll (d.map (renderHunk nc [.color])) <;> cases optAll (d.map (renderHunk nc [])) <;>
    simp only [ORel, Option.map_none, Option.map_some, imp_self]
  exact LStrips.join

end Jd.NativeRT

namespace Jd.E2EP
open Jd Jd.Spec Jd.NativeRT Jd.Robust

/-! ## 2. `NoEsc` for the diffs produced by `Diff`; the colour text and the plain text -/

/-- contract on `json.Marshal` for one value: its text has no ESC (encoding/json escapes control
    characters inside strings as `\u001b`; nothing else can produce one) -/
def NoEscVal (nc : NumCodec) (v : Json) : Prop :=
  ∀ t, marshalNode nc v = some t → '\x1b' ∉ t.toList

/-- the same for the JSON text of a path -/
def NoEscPath (nc : NumCodec) (p : Path) : Prop :=
  ∀ t, jsonM nc (pathToJson p) = some t → '\x1b' ∉ t.toList

/-- on a concrete value the printer can be evaluated -/
theorem noEscVal_of_check {nc : NumCodec} {v : Json}
    (h : (marshalNode nc v).all (fun t => !t.toList.contains '\x1b') = true) : NoEscVal nc v := by
  intro t ht
  simpa [ht] using h

theorem noEscPath_of_check {nc : NumCodec} {p : Path}
    (h : (jsonM nc (pathToJson p)).all (fun t => !t.toList.contains '\x1b') = true) :
    NoEscPath nc p := by
  intro t ht
  simpa [ht] using h

theorem noEscVal_retag (nc : NumCodec) (T t : Tag) (xs : List Json) (h : NoEscVal nc (.arr t xs)) :
    NoEscVal nc (.arr T xs) := by
  intro s hs
  exact h s (by simpa only [marshalNode] using hs)

theorem noEsc_intro {nc : NumCodec} {d : Diff} (hp : ∀ h ∈ d, NoEscPath nc h.path)
    (hv : ∀ h ∈ d, ∀ v ∈ payloads h, NoEscVal nc v) : NoEsc nc d :=
  fun h hh => ⟨hp h hh, hv h hh⟩

/-- … in particular of a diff the text can carry, from the contract on what its payloads are among -/
theorem _root_.Jd.E2E.Readable.noEsc {S : Json → Prop} {Pp : Path → Prop} {d : Diff}
    (R : E2E.Readable S Pp d) (nc : NumCodec) (hv : ∀ z, S z → NoEscVal nc z)
    (hp : ∀ h ∈ d, NoEscPath nc h.path) : NoEsc nc d :=
  noEsc_intro hp fun h hh v hv' => hv v (R.pay h hh v hv')

/-- a JSON string never needs the contract: `encoding/json` escapes every control character, so
    the text of a string has no ESC whatever the string is -/
theorem noEscVal_str (nc : NumCodec) (x : String) : NoEscVal nc (.str x) := by
  intro t ht
  rw [marshalNode_str] at ht
  cases ht
  have := escapeBody_noesc x
  simp [quoteString, this]

/-- **the character-level colouring** (`colorStringMarshal`: a hunk that removes exactly one string
    and adds exactly one string is coloured rune by rune against the longest common subsequence of
    the two strings): stripping the ANSI sequences gives the plain text, for ALL strings `x`, `y`
    (quotes, backslashes, control characters, non-BMP runes included) and every context; the only
    contract left is on the path text and the context values -/
theorem color_strip_char_level (nc : NumCodec) (m : Bool) (p : Path) (bf af : List Json)
    (x y : String) (hp : NoEscPath nc p) (hctx : ∀ v ∈ bf ++ af, NoEscVal nc v) :
    (renderHunk nc [.color]
        { merge := m, path := p, before := bf, remove := [.str x], add := [.str y], after := af }).map
      (fun s => String.ofList (stripAnsi s.toList))
      = renderHunk nc []
        { merge := m, path := p, before := bf, remove := [.str x], add := [.str y], after := af } := by
  refine renderHunk_color_strip nc _ (fun h hh => ?_)
  simp only [List.mem_singleton] at hh
  subst hh
  refine ⟨hp, fun v hv => ?_⟩
  simp only [payloads, List.mem_filter, List.mem_append, List.mem_singleton] at hv
  rcases hv.1 with ((h1 | rfl) | rfl) | h1
  · exact hctx v (List.mem_append_left _ h1)
  · exact noEscVal_str nc x
  · exact noEscVal_str nc y
  · exact hctx v (List.mem_append_right _ h1)

/-- **colour text, ANSI sequences stripped, IS the plain text**: if `Render(COLOR)` gives `ctext`
    then `Render()` gives `stripAnsi ctext` -/
theorem color_text_then_strip (nc : NumCodec) (d : Diff) (hn : NoEsc nc d) (ctext : String)
    (hc : renderM nc [.color] d = some ctext) :
    renderM nc [] d = some (String.ofList (stripAnsi ctext.toList)) := by
  rw [← renderM_color_strip nc d hn, hc]; rfl

/-- … and the colour text exists whenever the plain text does -/
theorem color_text_exists (nc : NumCodec) (d : Diff) (hn : NoEsc nc d) (text : String)
    (hr : renderM nc [] d = some text) :
    ∃ ctext, renderM nc [.color] d = some ctext ∧ String.ofList (stripAnsi ctext.toList) = text := by
  have := renderM_color_strip nc d hn
  rw [hr] at this
  obtain ⟨ctext, hc, he⟩ := Option.map_eq_some_iff.1 this
  exact ⟨ctext, hc, he⟩

/-! ## 3. the colour text itself is not input for the reader -/

theorem allows_esc (st : RState) : readerAllows st (String.singleton '\x1b') = false := by
  cases st <;> decide

theorem readLine_esc (nc : NumCodec) (acc : RAcc) (rest : List Char) :
    readLine nc acc (String.ofList ('\x1b' :: rest)) = .err := by
  have := allows_esc acc.st
  simpa [readLine] using this

/-- a line that starts with ESC stops the reader -/
theorem readLines_esc (nc : NumCodec) : ∀ (ls : List String) (acc : RAcc),
    (∃ l ∈ ls, ∃ rest, l = String.ofList ('\x1b' :: rest)) → ∀ acc', readLines nc acc ls ≠ .ok acc'
  | [], _, h, _ => by obtain ⟨l, hl, _⟩ := h; cases hl
  | l :: r, acc, h, acc' => by
    rw [readLines]
    cases hl : readLine nc acc l with
    | ok a1 =>
      simp only []
      obtain ⟨l0, hl0, rest, rfl⟩ := h
      rcases List.mem_cons.1 hl0 with rfl | hr
      · rw [readLine_esc] at hl; cases hl
      · exact readLines_esc nc r a1 ⟨_, hr, rest, rfl⟩ acc'
    | err => simp
    | panic => simp

theorem splitNL_head : ∀ (r m : List Char), ∃ r' tl, splitNL r m = (m ++ r') :: tl
  | [], m => ⟨[], [], by simp [splitNL]⟩
  | c :: r, m => by
    rw [splitNL]
    split
    · exact ⟨[], splitNL r [], by simp⟩
    · obtain ⟨r', tl, h⟩ := splitNL_head r (m ++ [c])
      exact ⟨c :: r', tl, by rw [h]; simp⟩

theorem splitNL_esc (rest : List Char) : ∀ (pre m : List Char),
    ∃ l ∈ splitNL (pre ++ '\n' :: '\x1b' :: rest) m, ∃ r, l = '\x1b' :: r
  | [], m => by
    obtain ⟨r', tl, h⟩ := splitNL_head rest ['\x1b']
    refine ⟨'\x1b' :: r', ?_, r', rfl⟩
    simp [splitNL, h]
  | c :: pre, m => by
    rw [List.cons_append, splitNL]
    split
    · obtain ⟨l, hl, hr⟩ := splitNL_esc rest pre []
      exact ⟨l, List.mem_cons_of_mem _ hl, hr⟩
    · exact splitNL_esc rest pre _

/-- the text has a line (not the first) that starts with ESC -/
def HasEscLine (s : String) : Prop := ∃ pre rest, s.toList = pre ++ '\n' :: '\x1b' :: rest

/-- **a text with a line that starts with ESC is never read as a diff** (the reader refuses the
    unknown header; `ReadDiffString` returns an error) -/
theorem esc_line_not_read (nc : NumCodec) (s : String) (h : HasEscLine s) (d : Diff) :
    readDiffM nc s ≠ .ok d := by
  obtain ⟨pre, rest, hs⟩ := h
  obtain ⟨l, hl, r, rfl⟩ := splitNL_esc rest pre []
  have hne := readLines_esc nc (s.splitOn "\n") {} ⟨String.ofList ('\x1b' :: r), by
    rw [splitOn_nl, hs]; exact List.mem_map.2 ⟨_, hl, rfl⟩, r, rfl⟩
  unfold readDiffM
  cases hr : readLines nc {} (s.splitOn "\n") with
  | ok acc => exact absurd hr (hne acc)
  | err => simp
  | panic => simp

/-! ### the colour text of a hunk -/

/-- a character list that is empty or starts with ESC -/
def EoE (cs : List Char) : Prop := cs = [] ∨ ∃ r, cs = '\x1b' :: r

theorem EoE.append {a b : List Char} (ha : EoE a) (hb : EoE b) : EoE (a ++ b) := by
  rcases ha with rfl | ⟨r, rfl⟩
  · simpa using hb
  · exact .inr ⟨r ++ b, rfl⟩

/-- texts that start with ESC for the entries in `p` and are empty for the others, concatenated:
    empty or ESC first, and empty only when no entry is in `p` -/
theorem join_esc {α} (f : α → Option String) (p : α → Bool) : ∀ (l : List α) (ts : List String),
    (∀ x ∈ l, ∀ t, f x = some t → if p x then ∃ r, t.toList = '\x1b' :: r else t = "") →
    optAll (l.map f) = some ts →
    EoE (String.join ts).toList ∧ ((String.join ts).toList = [] → l.filter p = [])
  | [], ts, _, h => by simp [optAll] at h; subst h; exact ⟨.inl (by simp), fun _ => rfl⟩
  | x :: l, ts, hE, h => by
    obtain ⟨t, ts', h1, h2, rfl⟩ := optAll_cons_some (by simpa using h)
    have ih := join_esc f p l ts' (fun y hy => hE y (List.mem_cons_of_mem _ hy)) h2
    have hx := hE x List.mem_cons_self t h1
    simp only [String.join_cons, String.toList_append, List.filter_cons]
    cases hpx : p x <;> simp only [hpx, Bool.false_eq_true, ↓reduceIte] at hx ⊢
    · subst hx; simpa using ih
    · obtain ⟨r, hr⟩ := hx
      rw [hr]; exact ⟨.inr ⟨_, rfl⟩, fun e => by cases e⟩

/-- the string ends with a newline -/
def EndsNL (s : String) : Prop := ∃ p, s.toList = p ++ ['\n']

theorem EndsNL.join {α} (f : α → Option String) (s0 : String) (h0 : EndsNL s0) :
    ∀ (l : List α) (ts : List String), (∀ x ∈ l, ∀ t, f x = some t → EndsNL t) →
      optAll (l.map f) = some ts → EndsNL (s0 ++ String.join ts)
  | [], ts, _, h => by simp [optAll] at h; subst h; simpa using h0
  | x :: l, ts, hE, h => by
    obtain ⟨t, ts', h1, h2, rfl⟩ := optAll_cons_some (by simpa using h)
    have ht : EndsNL (s0 ++ t) := by
      obtain ⟨p, hp⟩ := hE x List.mem_cons_self t h1
      exact ⟨s0.toList ++ p, by simp [hp]⟩
    have := EndsNL.join f (s0 ++ t) ht l ts' (fun y hy => hE y (List.mem_cons_of_mem _ hy)) h2
    simpa [String.join_cons, String.append_assoc] using this

theorem red_toList : colorRed.toList = '\x1b' :: ['[', '3', '1', 'm'] := by simp [colorRed]
theorem green_toList : colorGreen.toList = '\x1b' :: ['[', '3', '2', 'm'] := by simp [colorGreen]

theorem esc_prefix (code : String) (hc : ∃ r, code.toList = '\x1b' :: r) (s : String) :
    ∃ r, (code ++ s).toList = '\x1b' :: r := by
  obtain ⟨r, hr⟩ := hc; exact ⟨r ++ s.toList, by simp [hr]⟩

/-- the hunk prints at least one `-` / `+` line -/
def printsChange (h : Hunk) : Bool := !(remLines h).isEmpty || !(addLines h).isEmpty

/-- **the colour text of a hunk that prints a `-` / `+` line and is not of the shape "one string
    removed, one string added" has a line that starts with ESC** (the red / green code is written
    BEFORE the `-` / `+` header, right after the newline of the preceding line) -/
theorem renderHunk_color_esc_line (nc : NumCodec) (h : Hunk) (s : String)
    (hs : renderHunk nc [.color] h = some s)
    (hsingle : ∀ x y, ¬ (h.remove = [.str x] ∧ h.add = [.str y]))
    (hp : printsChange h = true) : HasEscLine s := by
  unfold renderHunk at hs
  extract_lets color merge mline single common at hs
  have hc : color = true := rfl
  have hm : merge = h.merge := by simp [merge, isMerge]
  have hsg : single = none := by
    simp only [single]
    split
    · rename_i x y h1 h2; exact absurd ⟨h1, h2⟩ (hsingle x y)
    · rfl
  clear_value color merge single common
  subst hc hm hsg
  simp only [Option.bind_eq_bind, Option.bind_eq_some_iff, Option.pure_def, Option.some.injEq] at hs
  obtain ⟨pt, hpt, bf, hbf, rm, hrm, ad, had, af, haf, rfl⟩ := hs
  have hhead : EndsNL (mline ++ "@ " ++ pt ++ "\n" ++ String.join bf) := by
    refine EndsNL.join _ _ ⟨(mline ++ "@ " ++ pt).toList, by simp⟩ h.before bf ?_ hbf
    intro b _ t ht
    split at ht
    · cases ht; exact ⟨['['], by simp⟩
    · obtain ⟨t', _, rfl⟩ := Option.map_eq_some_iff.1 ht
      exact ⟨("  " ++ t').toList, by simp⟩
  have hrm := join_esc _ (fun v => !v.isVoid) h.remove rm (fun v _ t ht => by
    cases hv : v.isVoid <;>
      simp only [hv, Bool.not_false, Bool.not_true, Bool.false_eq_true, ↓reduceIte, Option.some.injEq] at ht ⊢
    · obtain ⟨t', _, rfl⟩ := Option.map_eq_some_iff.1 ht
      simpa only [String.append_assoc] using esc_prefix _ ⟨_, red_toList⟩ _
    · simpa using ht.symm) hrm
  have had := join_esc _ (fun v => h.merge || !v.isVoid) h.add ad (fun v _ t ht => by
    cases hv : v.isVoid <;> cases hmg : h.merge <;>
      simp only [hv, hmg, Bool.not_false, Bool.not_true, Bool.or_false, Bool.or_true, Bool.false_eq_true,
        ↓reduceIte, Option.some.injEq] at ht ⊢
    iterate 2
      obtain ⟨t', _, rfl⟩ := Option.map_eq_some_iff.1 ht
      simpa only [String.append_assoc] using esc_prefix _ ⟨_, green_toList⟩ _
    · simpa using ht.symm
    · subst ht; simpa only [String.append_assoc] using esc_prefix _ ⟨_, green_toList⟩ _) had
  rcases hrm.1.append had.1 with e | ⟨r, hr⟩
  · obtain ⟨e1, e2⟩ := List.append_eq_nil_iff.1 e
    have a1 := hrm.2 e1
    have a2 := had.2 e2
    cases hmg : h.merge <;> simp [printsChange, remLines, addLines, a1, hmg] at hp a2
    · obtain ⟨x, hx, hv⟩ := hp; rw [a2 x hx] at hv; cases hv
    · exact absurd (List.eq_nil_iff_forall_not_mem.2 a2) hp
  · obtain ⟨p, hp'⟩ := hhead
    refine ⟨p, r ++ (String.join af).toList, ?_⟩
    have e1 : (mline ++ "@ " ++ pt ++ "\n" ++ String.join bf ++ String.join rm ++ String.join ad ++
        String.join af).toList = (mline ++ "@ " ++ pt ++ "\n" ++ String.join bf).toList ++
          ((String.join rm).toList ++ (String.join ad).toList) ++ (String.join af).toList := by
      simp only [String.toList_append, List.append_assoc]
    rw [e1, hp', hr]; simp

theorem wfHunk_printsChange {h : Hunk} (hw : wfHunk h = true) : printsChange h = true := by
  simp only [wfHunk, Bool.and_eq_true] at hw
  exact hw.1.2

theorem HasEscLine.embed {t s : String} (ht : HasEscLine t) (A B : List Char)
    (hs : s.toList = A ++ t.toList ++ B) : HasEscLine s := by
  obtain ⟨pre, rest, h⟩ := ht
  exact ⟨A ++ pre, rest ++ B, by rw [hs, h]; simp⟩

theorem optAll_mem {α β} (f : α → Option β) (l : List α) (ts : List β)
    (h : optAll (l.map f) = some ts) : ∀ x ∈ l, ∃ t, f x = some t ∧ ∃ pre post, ts = pre ++ t :: post := by
  intro x hx
  obtain ⟨l1, l2, rfl⟩ := List.append_of_mem hx
  rw [optAll_eq_some, List.map_append, List.map_cons] at h
  obtain ⟨pre, r, rfl, _, h2⟩ := List.append_eq_map_iff.1 h
  obtain ⟨t, post, rfl, ht, _⟩ := List.map_eq_cons_iff.1 h2
  exact ⟨t, ht.symm, pre, post, rfl⟩

/-- **the colour text of a diff is NOT input for the reader** as soon as one hunk prints a `-` / `+`
    line (every hunk of the reader's domain `wfHunk` does) and is not of the shape "one string
    removed, one string added": `ReadDiffString` does not return a diff -/
theorem color_diff_not_read (nc : NumCodec) (d : Diff) (s : String)
    (hs : renderM nc [.color] d = some s) (h : Hunk) (hh : h ∈ d)
    (hsingle : ∀ x y, ¬ (h.remove = [.str x] ∧ h.add = [.str y]))
    (hp : printsChange h = true) (d' : Diff) : readDiffM nc s ≠ .ok d' := by
  unfold renderM at hs
  obtain ⟨ts, hts, rfl⟩ := Option.map_eq_some_iff.1 hs
  obtain ⟨t, ht, pre, post, rfl⟩ := optAll_mem _ d ts hts h hh
  refine esc_line_not_read nc _ ((renderHunk_color_esc_line nc h t ht hsingle hp).embed
    (String.join pre).toList (String.join post).toList ?_) d'
  simp [String.toList_join]

/-- the same for one hunk -/
theorem color_hunk_not_read (nc : NumCodec) (h : Hunk) (s : String)
    (hs : renderHunk nc [.color] h = some s)
    (hsingle : ∀ x y, ¬ (h.remove = [.str x] ∧ h.add = [.str y]))
    (hp : printsChange h = true) (d' : Diff) : readDiffM nc s ≠ .ok d' :=
  esc_line_not_read nc s (renderHunk_color_esc_line nc h s hs hsingle hp) d'

/-! ### the character-level shape: one string removed, one string added -/

namespace CharWitness

/-- **the character-level colouring is not input for the reader either**: for `"ab"` → `"ac"` the
    colour text is `- "a<red>b<reset>"` / `+ "a<green>c<reset>"`; no line starts with ESC, but the
    ESC sits INSIDE the JSON string and the JSON reader rejects a raw control character -/
theorem char_level_not_read :
    wfDiff cDiff = true ∧ (∃ x y, cDiff = [{ path := [.key "a"], remove := [.str x], add := [.str y] }]) ∧
    ∃ text, renderM exCodec [.color] cDiff = some text ∧ readDiffM exCodec text = .err :=
  ⟨by decide, ⟨"ab", "ac", rfl⟩, cText, c_render, c_read⟩

/-- `@ ["s"]` / `- "x"` / `+ "x"`: the same string removed and added (never produced by `Diff`) -/
def sDiff : Diff := [{ path := [.key "s"], remove := [.str "x"], add := [.str "x"] }]

def sText : String := unlines ["@ [\"s\"]", "- \"x\"", "+ \"x\""]

theorem s_render_color : renderM exCodec [Opt.color] sDiff = some sText := by decide +kernel

theorem s_render_plain : renderM exCodec [] sDiff = some sText := by decide +kernel

theorem s_codec : CodecOK exCodec sDiff :=
  (E2E.diff_textOK exCodec sDiff (by decide) (by decide)).1

/-- **the claim cannot be made for EVERY hunk**: the degenerate hunk that removes and adds the
    same string is coloured nowhere (every rune is in the common sequence), its colour text is its
    plain text, and the reader accepts it -/
theorem same_string_is_read :
    wfDiff sDiff = true ∧ renderM exCodec [.color] sDiff = renderM exCodec [] sDiff ∧
    ∃ text, renderM exCodec [.color] sDiff = some text ∧ readDiffM exCodec text = .ok sDiff := by
  refine ⟨by decide, by rw [s_render_color, s_render_plain], sText, s_render_color, ?_⟩
  have := read_render exCodec sDiff sText (by decide) s_codec s_render_plain
  rw [this]
  rfl

end CharWitness

end Jd.E2EP

#print axioms Jd.NativeRT.renderM_color_strip
#print axioms Jd.NativeRT.renderHunk_color_strip
