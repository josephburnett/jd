/-
  JdProofs.CliRoundTripMergeSet (namespace `Jd.CliRTMS`) — property C14 on the CLI model, the cases
  JdProofs.CliRoundTripModes leaves open: `-f patch` and `-f merge` COMBINED WITH `-set` / `-mset`.

  §A  `-f patch -set` / `-f patch -mset` (RFC 6902 output of a set-mode diff).
      `RenderPatch` translates hunk paths with `writePointer`, which REFUSES every path element that
      is not an object key or a list index: the `{}` / `[]` element that ends the path of every set /
      multiset hunk is refused, and so are number-like keys and the key `-`.  Hence there is no
      `-p` round trip to state; what holds is an EXIT-STATUS theorem (`patch_set_exit`,
      `patch_set_exit_two_of_set_hunk`).
  §B  `-f merge -set` / `-f merge -mset` (RFC 7386 output of a set-mode merge diff): the `-p` round
      trip HOLDS: `mergeSet_lib_round_trip` (library level), `libRoundTrip_mergeSet`,
      `mergeSet_cli_round_trip` (the two processes, total).
  §C  non-vacuity (`Example.ex_patch_set_exit_two`, `ex_merge_set`, `ex_merge_mset`) and the witness
      `Example.mergeSet_emptyobj_no_libRoundTrip` (`mergeRTDom` is needed: KF-C12-emptyobj).

  NOT PROVED here: `-f merge` / `-f patch` with `-setkeys`; a non-zero `-precision`; the `-p` round
  trip of `-f patch -set` in the exit-1 case (only key-path hunks: the JSON Patch text is then a
  list-reading patch, but the library theorems `PatchOwnOutput` are stated for list-mode options).
-/
import JdModel
import JdSpec
import JdProofs.CliRoundTripModes
import JdProofs.CliExitCodes
import JdProofs.MergeSetModes
import JdProofs.NativeEndToEndSet
import JdProofs.MergeTextSetModes

set_option autoImplicit false
set_option linter.unusedVariables false

namespace Jd.CliRTMS
open Jd Jd.Spec Jd.Cli Jd.CliRT Jd.CliExit

/-! ## A. `-f patch` with `-set` / `-mset` -/

/-- `writePointer` never panics and succeeds exactly on expressible paths (converse of
    `writePointerPath_refuses`) -/
theorem writePointerPath_total : ∀ (p : Path), (∀ e ∈ p, expressible e) →
    ∃ s, writePointerPath p = .ok s
  | [], _ => ⟨"", writePointerPath_nil⟩
  | e :: p, h => by
    obtain ⟨s, hs⟩ := writePointerPath_total p (fun e' he' => h e' (List.mem_cons_of_mem _ he'))
    rw [writePointerPath_cons, hs]
    have he := h e List.mem_cons_self
    cases e with
    | key k =>
      obtain ⟨h1, h2⟩ := he
      simp [wtok, h1, h2]
    | idx i => simp [wtok]
    | _ => exact absurd he (by simp [expressible])

theorem writePointerPath_err_iff (p : Path) :
    writePointerPath p = .err ↔ ∃ e ∈ p, ¬ expressible e := by
  refine ⟨fun h => ?_, writePointerPath_refuses⟩
  by_contra hc
  obtain ⟨s, hs⟩ := writePointerPath_total p
    (fun e he => Classical.not_not.1 (fun hn => hc ⟨e, he, hn⟩))
  rw [hs] at h; cases h

open Jd.E2ES in
/-- `RenderPatch` on one hunk of a strict set-mode diff (`E2ES.SHunk`: no context lines, at least
    one non-void value): the pointer of the path, or the refusal of the path -/
theorem renderPatchHunk_shunk {S : List Json} {K : List String} {h : Hunk} (H : SHunk S K [] h) :
    renderPatchHunk h =
      match writePointerPath h.path with
      | .ok s => .ok (remOpsOf s h.remove ++ addOpsOf s h.add)
      | .err => .err
      | .panic => .panic := by
  have hne : (h.remove.isEmpty && h.add.isEmpty) = false := by
    rcases H.some with hr | ⟨v, hv, _⟩
    · cases hrm : h.remove with
      | nil => exact absurd hrm hr
      | cons _ _ => rfl
    · cases hadd : h.add with
      | nil => rw [hadd] at hv; cases hv
      | cons _ _ => simp
  rw [renderPatchHunk_eq]
  unfold renderPatchHunk'
  cases hs : writePointerPath h.path with
  | err => rfl
  | panic => rfl
  | ok s =>
    simp only [Outcome.bind_ok, hne, Bool.false_eq_true, if_false, H.before, H.after,
      List.length_nil, gt_iff_lt, Nat.not_lt_zero, ctxOps]
    rfl

open Jd.E2ES in
/-- a hunk of a strict set-mode diff never renders to no operation -/
theorem shunk_ops_ne {S : List Json} {K : List String} {h : Hunk} (H : SHunk S K [] h) (s : String) :
    remOpsOf s h.remove ++ addOpsOf s h.add ≠ [] := by
  intro h0
  simp only [List.append_eq_nil_iff] at h0
  obtain ⟨h1, h2⟩ := h0
  cases hrem : h.remove with
  | cons r0 rs =>
    have hv : r0.isVoid = false := H.remNV r0 (by rw [hrem]; exact List.mem_cons_self)
    rw [hrem] at h1
    simp [remOpsOf, hv] at h1
  | nil =>
    rcases H.some with hr | ⟨v, hv, hvv⟩
    · exact hr hrem
    · cases hadd : h.add with
      | nil => rw [hadd] at hv; cases hv
      | cons a0 as =>
        have ha0 : a0.isVoid = false := by
          rcases H.addNV with hall | ⟨_, hlen⟩
          · exact hall a0 (by rw [hadd]; exact List.mem_cons_self)
          · rw [hadd] at hlen hv
            cases as with
            | nil => simp only [List.mem_singleton] at hv; rw [← hv]; exact hvv
            | cons _ _ => simp at hlen
        rw [hadd] at h2
        simp [addOpsOf, ha0] at h2

theorem value_mem_of_mem_ops {s : String} {rem add : List Json} {p : PatchOp}
    (hp : p ∈ remOpsOf s rem ++ addOpsOf s add) : p.value ∈ rem ++ add := by
  rcases List.mem_append.1 hp with hp | hp
  · unfold remOpsOf at hp
    split at hp
    · cases hp
    · split at hp
      · cases hp
      · simp only [List.mem_flatMap, List.mem_cons, List.not_mem_nil, or_false] at hp
        obtain ⟨v, hv, rfl | rfl⟩ := hp
        · exact List.mem_append_left _ (List.mem_cons.2 hv)
        · exact List.mem_append_left _ (List.mem_cons.2 hv)
  · unfold addOpsOf at hp
    split at hp
    · cases hp
    · split at hp
      · cases hp
      · simp only [List.mem_map, List.mem_reverse] at hp
        obtain ⟨v, hv, rfl⟩ := hp
        exact List.mem_append_right _ hv

open Jd.E2ES in
/-- `RenderPatch` (operation level) on a diff all of whose hunks are `SHunk`s: an error exactly when
    some path is not expressible; otherwise a list of operations that is empty only for the empty
    diff, and whose values are hunk values -/
theorem renderPatchOps_shunks {S : List Json} {K : List String} :
    ∀ (d : Diff), (∀ h ∈ d, SHunk S K [] h) →
      ((∃ h ∈ d, ∃ e ∈ h.path, ¬ expressible e) ∧ renderPatchOps d = .err) ∨
      ((∀ h ∈ d, ∀ e ∈ h.path, expressible e) ∧
        ∃ ops, renderPatchOps d = .ok ops ∧ (ops = [] → d = []) ∧
          ∀ p ∈ ops, ∃ h ∈ d, p.value ∈ h.remove ++ h.add)
  | [], _ => .inr ⟨by simp, [], rfl, fun _ => rfl, by simp⟩
  | h :: d, H => by
    have Hh := H h List.mem_cons_self
    have ih := renderPatchOps_shunks d (fun h' hh' => H h' (List.mem_cons_of_mem _ hh'))
    rw [renderPatchOps, renderPatchHunk_shunk Hh]
    by_cases hex : ∃ e ∈ h.path, ¬ expressible e
    · rw [(writePointerPath_err_iff h.path).2 hex]
      obtain ⟨e, he, hn⟩ := hex
      exact .inl ⟨⟨h, List.mem_cons_self, e, he, hn⟩, rfl⟩
    · have hall : ∀ e ∈ h.path, expressible e :=
        fun e he => Classical.not_not.1 (fun hn => hex ⟨e, he, hn⟩)
      obtain ⟨s, hs⟩ := writePointerPath_total h.path hall
      rw [hs]
      simp only [Outcome.bind_ok]
      rcases ih with ⟨⟨h', hh', e, he, hn⟩, herr⟩ | ⟨halld, ops, hops, hnil, hval⟩
      · exact .inl ⟨⟨h', List.mem_cons_of_mem _ hh', e, he, hn⟩, by rw [herr]; rfl⟩
      · refine .inr ⟨?_, remOpsOf s h.remove ++ addOpsOf s h.add ++ ops, by rw [hops]; rfl, ?_, ?_⟩
        · intro h' hh'
          rcases List.mem_cons.1 hh' with rfl | hh'
          · exact hall
          · exact halld h' hh'
        · intro h0
          rw [List.append_eq_nil_iff] at h0
          exact absurd h0.1 (shunk_ops_ne Hh s)
        · intro p hp
          rcases List.mem_append.1 hp with hp | hp
          · exact ⟨h, List.mem_cons_self, value_mem_of_mem_ops hp⟩
          · obtain ⟨h', hh', hv⟩ := hval p hp
            exact ⟨h', List.mem_cons_of_mem _ hh', hv⟩

section PatchSetCli
variable {nc : NumCodec} {Y : YamlCarrier} {Ls : Bool → LibPack} {b : Binary} {fl : Flags} {e : Env}
  {a b' : Json}

theorem setOpts_strict_of_patch {fl : Flags} (hf : formatOf fl.f = some .patch) :
    isMerge (setOpts fl) = false := by
  have := not_merge_of_patch hf
  unfold setOpts
  rw [this]
  cases fl.set <;> cases fl.mset <;> rfl

/-- **`jd -f patch -set|-mset a b`: the exit status.**  In the situation `DiffRun` (a diff command
    line of a binary using the v2 library, both inputs read and parsed to `a`, `b'`), with `-set` /
    `-mset`, no `-setkeys`, no `-precision` (`SetFlags`), documents as read (`rawDoc`, `wf`, nothing
    void inside), `DES.DiffFaithful` (no FNV collision between members matched by the set diff: the
    hypothesis under which the shape of the set-mode diff is known, `E2ES.diffM_shunk`) and every
    sub-term printable by `json.Marshal` (`hmar`: only a number can fail):
      * exit 2 ⇔ some hunk of the diff has a path element that is NOT a JSON-Pointer-expressible
        key (`expressible`): the `{}` / `[]` of a set / multiset hunk, a number-like key, the key `-`;
      * exit 0 ⇔ the diff is empty;
      * exit 1 ⇔ the diff is not empty and every hunk path consists of expressible keys. -/
theorem patch_set_exit (R : DiffRun nc Y Ls b fl e a b') (S : SetFlags fl)
    (hf : formatOf fl.f = some .patch)
    (ha : a.rawDoc = true) (hwa : a.wf = true) (hb : b'.rawDoc = true) (hwb : b'.wf = true)
    (hva : E2E.voidFree a = true) (hvb : E2E.voidFree b' = true)
    (FH : DES.DiffFaithful (setOpts fl) (subterms a) (subterms b'))
    (hmar : ∀ z ∈ subterms a ++ subterms b', (marshalNode nc z).isSome = true) :
    ((proc Ls b fl e).exit = 2 ↔ ∃ h ∈ diffM (setOpts fl) a b', ∃ x ∈ h.path, ¬ expressible x) ∧
    ((proc Ls b fl e).exit = 0 ↔ diffM (setOpts fl) a b' = []) ∧
    ((proc Ls b fl e).exit = 1 ↔
      diffM (setOpts fl) a b' ≠ [] ∧ ∀ h ∈ diffM (setOpts fl) a b', ∀ x ∈ h.path, expressible x) := by
  have ho := parsedOptions_set b S
  obtain ⟨hm, hp⟩ := setOpts_reading S
  have hmg := setOpts_strict_of_patch hf
  have key := E2ES.diffM_shunk hm hp hmg a b' ha hwa hb hwb hva hvb FH
  rcases renderPatchOps_shunks (diffM (setOpts fl) a b') key with
    ⟨⟨h, hh, x, hx, hn⟩, herr⟩ | ⟨hall, ops, hops, hnil, hval⟩
  · have hne : diffM (setOpts fl) a b' ≠ [] := by
      intro h0; rw [h0] at hh; cases hh
    have hren : renderAs (nativeLib nc Y) .patch fl.color (diffM (setOpts fl) a b') = .error "error" := by
      show ofOutcomeText (renderPatchM nc (diffM (setOpts fl) a b')) = _
      unfold renderPatchM
      have : (diffM (setOpts fl) a b').isEmpty = false := by
        cases hd : diffM (setOpts fl) a b' with
        | nil => exact absurd hd hne
        | cons _ _ => rfl
      rw [this, herr]; rfl
    have hx2 := R.run.exit_of_error ho hf hren
    refine ⟨⟨fun _ => ⟨h, hh, x, hx, hn⟩, fun _ => hx2⟩, ⟨fun h0 => ?_, fun h0 => absurd h0 hne⟩,
      ⟨fun h1 => ?_, fun h1 => ?_⟩⟩
    · rw [hx2] at h0; cases h0
    · rw [hx2] at h1; cases h1
    · exact absurd (h1.2 h hh x hx) hn
  · have hmv : ∀ p ∈ ops, (marshalNode nc p.value).isSome = true := by
      intro p hp
      obtain ⟨h, hh, hv⟩ := hval p hp
      rcases (key h hh).pay p.value hv with hvoid | ⟨_, hS⟩
      · rw [Json.eq_void_of_isVoid hvoid]; rfl
      · exact hmar _ hS
    obtain ⟨T, hT⟩ := renderPatch_ok_of_ops (nc := nc) Y hops hmv
    have hgen : renderPatchOps (diffM (setOpts fl) a b') = .ok [] → diffM (setOpts fl) a b' = [] :=
      fun h0 => hnil (by rw [hops] at h0; cases h0; rfl)
    have hnil' : diffM (setOpts fl) a b' = [] →
        ∃ T, (nativeLib nc Y).renderPatch (diffM (setOpts fl) a b') = .ok T :=
      fun hd => ⟨"[]", by rw [hd]; rfl⟩
    obtain ⟨e0, e1, e2⟩ := R.run.patch_exit ho hf (renderPatch_text_iff hgen) hnil'
    refine ⟨⟨fun h2 => ?_, fun ⟨h, hh, x, hx, hn⟩ => absurd (hall h hh x hx) hn⟩, e0,
      ⟨fun h1 => ⟨(e1.1 h1).1, hall⟩, fun h1 => e1.2 ⟨h1.1, T, hT⟩⟩⟩
    obtain ⟨m, hm2⟩ := (e2.1 h2).2
    rw [nativeLib_diff, hT] at hm2; cases hm2

/-- **a set hunk means exit 2**: as soon as the set-mode diff holds a hunk whose path ends in the
    set element `{}` or the multiset element `[]` (members added to / removed from an array), `jd -f
    patch -set|-mset` exits 2 — there is nothing for `jd -p -f patch` to read -/
theorem patch_set_exit_two_of_set_hunk (R : DiffRun nc Y Ls b fl e a b') (S : SetFlags fl)
    (hf : formatOf fl.f = some .patch)
    (ha : a.rawDoc = true) (hwa : a.wf = true) (hb : b'.rawDoc = true) (hwb : b'.wf = true)
    (hva : E2E.voidFree a = true) (hvb : E2E.voidFree b' = true)
    (FH : DES.DiffFaithful (setOpts fl) (subterms a) (subterms b'))
    (hmar : ∀ z ∈ subterms a ++ subterms b', (marshalNode nc z).isSome = true)
    {h : Hunk} (hh : h ∈ diffM (setOpts fl) a b')
    (hset : PathElem.set ∈ h.path ∨ PathElem.mset ∈ h.path) :
    (proc Ls b fl e).exit = 2 := by
  refine (patch_set_exit R S hf ha hwa hb hwb hva hvb FH hmar).1.2 ?_
  rcases hset with hs | hs
  · exact ⟨h, hh, .set, hs, by simp [expressible]⟩
  · exact ⟨h, hh, .mset, hs, by simp [expressible]⟩

end PatchSetCli

/-! ## B. `-f merge` with `-set` / `-mset`: the RFC 7386 text of a set-mode merge diff, read back

  `RenderMerge` builds the merge patch document `m = Merge.doc (ds o) a b`
  (`MSet.renderMergeDoc_diffM_setmodes`) and prints `m.Json()`, which goes through `raw()`;
  `ReadMergeString` therefore reads `rawNorm m` (`MTS.merge_text_of_doc`: RFC 7386 with it still
  yields `b` under the reading in force). `m` is clean for `a` (`Merge.mergePatch_doc`), `raw()` keeps
  that (`Merge.cleanIn_rawNorm`), so C12 (`Merge.merge_read_apply_partial`) makes `Patch` of the diff
  read back compute RFC 7386 `MergePatch(a, rawNorm m)`. -/

section MergeSet
open Jd.Merge Jd.MSet Jd.JText

theorem equivB_empty_obj_left {o : Opts} {b : Json} (h : equivB o (.obj []) b = true) :
    b = .obj [] := by
  cases b with
  | obj kvs =>
    cases kvs with
    | nil => rfl
    | cons _ _ => simp [equivB] at h
  | _ => simp [equivB] at h

/-- `Clean` of a patch that is clean inside and not `null`: only `{}` against a target that is not an
    object is left to exclude -/
theorem clean_of_cleanIn {a p : Json} (hcl : cleanIn a p = true) (hnn : p.isNull = false)
    (h0 : p = .obj [] → a.isObj = true) : Clean a p = true := by
  cases p with
  | null => cases hnn
  | obj pkvs =>
    cases pkvs with
    | nil => exact h0 rfl
    | cons _ _ => exact hcl
  | _ => exact hcl

/-- **LIBRARY-LEVEL round trip, RFC 7386 format, SET / MULTISET reading** (`mergeSet_lib_round_trip`):
    `a.Diff(b, SET|MULTISET, MERGE).RenderMerge()` returns a text, `ReadMergeString` reads it,
    `a.Patch` of the diff read succeeds, and the result is `b` under the reading in force, for the
    library's `Equals` and for the advertised equivalence `equivB`. -/
theorem mergeSet_lib_round_trip (F : FloatEq0) (L : FloatLaws) (nc : NumCodec) (o : Opts)
    (hmg : isMerge o = true) (hm : dispatchTag o = .set ∨ dispatchTag o = .mset)
    (hk : keysOf o = none) (hp : precOf o = 0) (a b : Json)
    (ha : a.setDoc = true) (hb : b.setDoc = true) (hbn : b.nullFree = true)
    (hbv : Yaml.voidFree b = true) (hbN : JText.NumOK nc b = true)
    (HF : HashFaithful o (subterms a ++ subterms b))
    (hab : a.isObj = true ∨ b ≠ .obj []) :
    ∃ text d' r, renderMergeM nc (diffM o a b) = .ok (some text) ∧
      readMergeM nc text = .ok d' ∧ patchM a d' = .ok r ∧
      equals o r b = true ∧ equivB o r b = true := by
  have hov := V1T.objVoidFree_of_voidFree b hbv
  have G : GoodS (subterms a ++ subterms b) b := goodS_of_setDoc hb hbn hov
  have hrd := renderMergeDoc_diffM_setmodes F o hmg hm hk hp a b ha hb hov HF
  have da := docOk_of_setDoc ha
  have wa : SetDP.Within (subterms a ++ subterms b) a := fun z hz => List.mem_append.2 (Or.inl hz)
  have wb : SetDP.Within (subterms a ++ subterms b) b := fun z hz => List.mem_append.2 (Or.inr hz)
  have Sd := sound_setDoc F L hm hp ha hb hbn hov HF
  obtain ⟨har, haw, _⟩ := MTS.setDoc_parts ha
  by_cases hd : ds o a b = []
  · rw [if_pos hd] at hrd
    obtain ⟨s, h1, h2⟩ := JText.readMergeM_renderMergeM nc _ _ hrd (Or.inr rfl)
    exact ⟨s, _, a, h1, h2, rfl, (Sd.1 hd).1, (Sd.1 hd).2⟩
  · obtain ⟨_, hnn, hcl, _⟩ := mergePatch_doc (pDiff_ds o) members_docOk a da b G.goodB.val hd
    have hm' := MTS.PD.setDoc a (MTS.PD.of_doc (MTS.setDoc_parts hb).2.1 (MTS.setDoc_parts hb).1 hbv
      hbN (fun _ => ⟨docOk_of_setDoc hb, wb⟩) : MTS.PD nc o (subterms a ++ subterms b) b)
    rw [if_neg hd] at hrd hm'
    obtain ⟨text, p, c1, _, rfl, c4, c5, c6⟩ := MTS.merge_text_of_doc nc (fun _ => ⟨F, hp, HF⟩) hrd hm'
      har (fun _ => ⟨da, wa⟩) (fun _ => ⟨docOk_of_setDoc hb, wb⟩) (Sd.2 hd).2.2.1 (Sd.2 hd).2.2.2
    have hpi := preOK_rawNorm nc _ hm'.preOK
    rw [preOK_iff, Bool.and_eq_true, Bool.and_eq_true] at hpi
    have hclean : Clean a (rawNorm (mapply (rs o a b) .void)) = true := by
      refine clean_of_cleanIn ((cleanIn_rawNorm _ a).trans hcl) ((rawNorm_isNull _).trans hnn)
        (fun h0 => ?_)
      rcases hab with h | h
      · exact h
      · cases hao : a.isObj with
        | true => rfl
        | false =>
          rw [h0, mergePatch_copy (.obj []) rfl rfl a hao] at c6
          exact absurd (equivB_empty_obj_left c6) h
    exact ⟨text, _, _, c1, c4,
      merge_read_apply_partial a _ haw hpi.1.1 (V1T.objVoidFree_of_voidFree _ hpi.1.2) hclean,
      c5, c6⟩

end MergeSet

/-! ### the CLI theorem -/

section MergeSetCli
open Jd.CliRTM

theorem setOpts_merge_facts {fl : Flags} (S : SetFlags fl) (hf : fl.f = "merge") :
    isMerge (setOpts fl) = true ∧
    (dispatchTag (setOpts fl) = .set ∨ dispatchTag (setOpts fl) = .mset) ∧
    keysOf (setOpts fl) = none ∧ precOf (setOpts fl) = 0 := by
  unfold setOpts
  rw [hf, beq_self_eq_true]
  rcases S.some with h | h
  · rw [h]; cases fl.mset <;> exact ⟨rfl, .inl rfl, rfl, rfl⟩
  · rw [h]
    cases fl.set
    · exact ⟨rfl, .inr rfl, rfl, rfl⟩
    · exact ⟨rfl, .inl rfl, rfl, rfl⟩

/-- **END TO END, `-f merge` (RFC 7386) with `-set` / `-mset`, v2 library**
    (`mergeSet_cli_round_trip`): `jd -f merge -set|-mset [-yaml] [-color] [-o F] a b` followed by
    `jd -p -f merge [same flags] [-o G] T a`.  TOTAL: the first process is proved not to fail. -/
theorem mergeSet_cli_round_trip (F : FloatEq0) (L : FloatLaws) (nc : NumCodec)
    (Y : YamlCarrier) (Ls : Bool → LibPack) (hL : Ls false = ⟨Json, Diff, nativeLib nc Y⟩)
    (b : Binary) {fl fl2 : Flags} {e1 e2 : Env}
    (hm : isDiffMode fl) (h : PatchTwin fl fl2) (hv2 : libIsV1 b fl = false)
    (hf : fl.f = "merge") (S : SetFlags fl) (hn : fl.nargs = 1 ∨ fl.nargs = 2)
    {ta tb : String} {a b' : Json}
    (hi1 : e1.in1 = .ok ta) (hi2 : e1.in2 = .ok tb) (hw1 : fl.o = "" ∨ e1.write = .ok ())
    (hra : (nativeLib nc Y).readDoc fl.yaml ta = .ok a)
    (hrb : (nativeLib nc Y).readDoc fl.yaml tb = .ok b')
    (ha : a.setDoc = true) (hb : b'.setDoc = true) (hbn : b'.nullFree = true)
    (hbv : Yaml.voidFree b' = true) (hbN : JText.NumOK nc b' = true)
    (HF : HashFaithful (setOpts fl) (subterms a ++ subterms b'))
    (hab : mergeRTDom a b' = true)
    (hT : e2.in1 = .ok (emitted (proc Ls b fl e1)))
    (ha2 : e2.in2 = e1.in1) (hw : fl2.o = "" ∨ e2.write = .ok ()) :
    ∃ T d' r,
      parsedOptions b fl = .ok (setOpts fl) ∧
      renderMergeM nc (diffM (setOpts fl) a b') = .ok (some T) ∧
      readMergeM nc T = .ok d' ∧ patchM a d' = .ok r ∧
      equals (setOpts fl) r b' = true ∧ equivB (setOpts fl) r b' = true ∧
      TwoRuns (proc Ls b fl e1) (proc Ls b fl2 e2) fl fl2 T
        (if (diffM (setOpts fl) a b').length > 0 then 1 else 0)
        ((nativeLib nc Y).renderDoc fl.yaml (setOpts fl) r) := by
  have ho := parsedOptions_set b S
  have hfmt : formatOf fl.f = some .merge := by rw [hf]; rfl
  obtain ⟨m1, m2, m3, m4⟩ := setOpts_merge_facts S hf
  obtain ⟨text, d', r, g1, g2, g3, g4, g5⟩ := mergeSet_lib_round_trip F L nc (setOpts fl) m1 m2 m3 m4
    a b' ha hb hbn hbv hbN HF ((mergeRTDom_iff a b').1 hab)
  refine ⟨text, d', r, ho, g1, g2, g3, g4, g5, ?_⟩
  exact Session.twoRuns
    ⟨⟨hv2 ▸ hL, hm, hn, ⟨ta, hi1, hra⟩, ⟨tb, hi2, hrb⟩, hw1⟩, h, hT, ha2, hw⟩ ho hfmt
    (nativeLib_calls nc Y g1 g2 g3)

/-- `LibRoundTrip` form (the hypothesis of `CliRT.cli_round_trip`) -/
theorem libRoundTrip_mergeSet (F : FloatEq0) (L : FloatLaws) (nc : NumCodec) (Y : YamlCarrier)
    (color : Bool) (o : Opts) (hmg : isMerge o = true)
    (hm : dispatchTag o = .set ∨ dispatchTag o = .mset) (hk : keysOf o = none) (hp : precOf o = 0)
    (a b : Json) (ha : a.setDoc = true) (hb : b.setDoc = true) (hbn : b.nullFree = true)
    (hbv : Yaml.voidFree b = true) (hbN : JText.NumOK nc b = true)
    (HF : HashFaithful o (subterms a ++ subterms b)) (hab : mergeRTDom a b = true) :
    LibRoundTrip (nativeLib nc Y) .merge color o a b
      (fun r => equals o r b = true ∧ equivB o r b = true) := by
  obtain ⟨text, d', r, g1, g2, g3, g4, g5⟩ := mergeSet_lib_round_trip F L nc o hmg hm hk hp a b ha hb
    hbn hbv hbN HF ((mergeRTDom_iff a b).1 hab)
  exact (nativeLib_calls nc Y (fmt := .merge) (color := color) g1 g2 g3).libRoundTrip ⟨g4, g5⟩

end MergeSetCli

/-! ## C. non-vacuity and a witness -/

namespace Example
open Jd.NativeRT Jd.CliRT.NativeExample Jd.CliExit.Example Jd.CliRTM

/-- `jd -f patch -set a.json b.json` with `["x"]` and `[]` -/
def flPS : Flags := { set := true, f := "patch", nargs := 2 }
def tpA : String := "[\"x\"]"
def tpB : String := "[]"
def pA : Json := .arr .raw [.str "x"]
def pB : Json := .arr .raw []

theorem read_pA : readJsonM exCodec tpA = .ok pA :=
  readJsonM_of_jsonM (by decide) (by decide) (by decide +kernel)
theorem read_pB : readJsonM exCodec tpB = .ok pB :=
  readJsonM_of_jsonM (by decide) (by decide) (by decide +kernel)

theorem setOpts_flPS : setOpts flPS = [Opt.set, Opt.prec 0] := by decide

theorem ex_diff : diffM [Opt.set, Opt.prec 0] pA pB =
    [{ path := [.set], remove := [.str "x"], add := [] }] := diffM_of_eqb (by decide +kernel)

/-- **the `-f patch -set` theorem applies and gives exit 2**: `["x"]` against `[]` — every
    hypothesis of `patch_set_exit` holds (checked), the diff is one set hunk at `[{}]`, the process
    exits 2 -/
theorem ex_patch_set_exit_two :
    (proc NativeExample.Ls .v2jd flPS { in1 := .ok tpA, in2 := .ok tpB }).exit = 2 := by
  have R : DiffRun exCodec noYaml NativeExample.Ls .v2jd flPS { in1 := .ok tpA, in2 := .ok tpB }
      pA pB := mkRun ⟨rfl, rfl, rfl, rfl, rfl⟩ rfl rfl rfl read_pA read_pB
  have FH : DES.DiffFaithful (setOpts flPS) (subterms pA) (subterms pB) := by
    rw [setOpts_flPS]; exact DES.diffFaithful_of_check (by decide +kernel)
  refine patch_set_exit_two_of_set_hunk R ⟨.inl rfl, rfl, rfl⟩ (by decide) (by decide) (by decide)
    (by decide) (by decide) (by decide) (by decide) FH (by decide +kernel)
    (h := { path := [.set], remove := [.str "x"], add := [] }) ?_ (.inl List.mem_cons_self)
  rw [setOpts_flPS, ex_diff]; exact List.mem_cons_self

/-- **the `-f merge -set` / `-mset` library theorem applies**: `{"s":["x","y"],"u":"x","v":["x"]}` →
    `{"s":["y","x"],"t":[true],"v":["x","z"]}` (`MSet.Example.exA`, `exB`: `s` is unchanged as a set
    and as a bag, `v` is replaced wholesale, `t` added, `u` deleted), codec `exCodec` -/
theorem ex_merge_set (F : FloatEq0) (L : FloatLaws) :
    ∃ text d' r, renderMergeM exCodec (diffM [.set, .merge] MSet.Example.exA MSet.Example.exB)
        = .ok (some text) ∧
      readMergeM exCodec text = .ok d' ∧ patchM MSet.Example.exA d' = .ok r ∧
      equals [.set, .merge] r MSet.Example.exB = true ∧
      equivB [.set, .merge] r MSet.Example.exB = true :=
  mergeSet_lib_round_trip F L exCodec [.set, .merge] rfl (.inl rfl) rfl rfl _ _
    MSet.Example.ex_docs.1 MSet.Example.ex_docs.2.1 MSet.Example.ex_docs.2.2.1 (by decide)
    (by decide) MSet.Example.ex_hashFaithful_set (.inl rfl)

theorem ex_merge_mset (F : FloatEq0) (L : FloatLaws) :
    ∃ text d' r, renderMergeM exCodec (diffM [.mset, .merge] MSet.Example.exA MSet.Example.exB)
        = .ok (some text) ∧
      readMergeM exCodec text = .ok d' ∧ patchM MSet.Example.exA d' = .ok r ∧
      equals [.mset, .merge] r MSet.Example.exB = true ∧
      equivB [.mset, .merge] r MSet.Example.exB = true :=
  mergeSet_lib_round_trip F L exCodec [.mset, .merge] rfl (.inr rfl) rfl rfl _ _
    MSet.Example.ex_docs.1 MSet.Example.ex_docs.2.1 MSet.Example.ex_docs.2.2.1 (by decide)
    (by decide) MSet.Example.ex_hashFaithful_mset (.inl rfl)

/-- **`mergeRTDom` is needed in the set readings too** (known finding KF-C12-emptyobj): `null`
    against `{}` under `[SET, MERGE]`: the documents differ, the diff renders to the text of `{}`,
    which `ReadMergeString` reads as the EMPTY diff; `Patch` returns `null`. -/
theorem mergeSet_emptyobj_no_libRoundTrip (nc : NumCodec) (Y : YamlCarrier) (color : Bool) :
    mergeRTDom .null (.obj []) = false ∧
    ¬ LibRoundTrip (nativeLib nc Y) .merge color [Opt.set, Opt.merge, Opt.prec 0] .null (.obj [])
        (fun r => equals [Opt.set, Opt.merge, Opt.prec 0] r (.obj []) = true) := by
  refine ⟨rfl, ?_⟩
  have hrd : renderMergeDoc (diffM [Opt.set, Opt.merge, Opt.prec 0] .null (.obj []))
      = .ok (.obj []) := by
    rw [diffM_eq_diffE]; exact renderMergeDoc_of_eqb (by decide +kernel)
  exact not_libRoundTrip_merge nc Y color hrd (Or.inr rfl) (D := []) rfl (r := .null) rfl
    (by simp [equals, Json.isNull])

end Example

end Jd.CliRTMS
