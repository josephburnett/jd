/-
  JdProofs.V1KeysDiffPatchA — property C17 (v1 API `lib/`): SET + MERGE and MULTISET + MERGE, in
  memory and through `Render` / `ReadDiffString`, and the machinery the later files of the chain
  reuse for every other combination of MERGE with SET / MULTISET / setkeys / precision.
  Files: B (SET + setkeys in memory), C (checkers, witnesses, non-vacuity), D (SET + setkeys through
  the text), E (MULTISET + setkeys), F (MERGE together with setkeys). Namespace `Jd.V1K`.

  Everything is about the LIBRARY functions of the v1 model (`Jd.V1.diffM`, `Jd.V1.patchM`,
  `Jd.V1.equals`, `Jd.V1.renderM`, `Jd.V1.readDiffM`) and the hash-free specification `equivB`.

  Part 0: `diffNode_meq` — `Diff` depends on the metadata only through SET / MULTISET / setkeys /
    precision (`MetaEq`); MERGE reaches `diffNode` as the strategy flag, so a metadata list `m`
    holding MERGE is handled through `strip m`.
  Part 1: under the merge strategy an array is kept when `Equal` and replaced as a whole otherwise,
    so the library's diff is the pure key-path diff `ds1` (`kit_eq_ds1`) and applying it yields the
    target (`kit_memSound`). Both inductions are run once, from a `MergeKit`: the facts about the
    metadata (`Equal` arrays have an EMPTY merge diff, reflexivity) and about the relation "is the
    target" (`Rel1 m o`: `Equals` and `equivB`; in V1PrecisionKeys: `Equals` alone). `kit_main`,
    `kit_text`: the three statements of C17 from a kit, in memory and through the text (§1.9). `merge_nil_of_equivB`: equivalent documents
    have an empty merge diff, with the array facts as parameters.
    HYPOTHESES of the theorems: as in V1SetDiffPatch — `setDoc` (documents as read from text),
    `memOK b` (no void member), `HashFaithful` (equal V1 hash codes only for equivalent nodes;
    needed for the `equivB` part by `V1S.Example.alias_needs_hashFaithful`, and against FNV
    collisions for the shape of the diff), `FloatEq0`, `FloatLaws`. MORE than the property asks:
    `b` MAY contain nulls (in memory a merge hunk holding `null` stores `null`, only void deletes)
    and `a` needs no `memOK`.
  NOT PROVED here: precision ≠ 0 (V1PrecisionKeys). No statement of C17 was found false here.
-/
import JdModel
import JdSpec
import JdProofs.V1SetDiffPatch
import JdProofs.DiffPatchKeys
import JdProofs.SetAlg

namespace Jd.V1K
open Jd Jd.Spec Jd.Merge
open Jd.SetDP (Ok Within)

/-! # Part 0. the metadata only matter through SET / MULTISET / setkeys / precision -/

/-- two metadata lists that agree on everything `Diff` and `Equals` look at (MERGE is handed to
    `diffNode` as a separate flag) -/
structure MetaEq (m m' : V1.Metas) : Prop where
  set : V1.hasSet m = V1.hasSet m'
  mset : V1.hasMset m = V1.hasMset m'
  keys : V1.keysOf m = V1.keysOf m'
  prec : V1.precOf m = V1.precOf m'

section Congr
variable {m m' : V1.Metas}

theorem MetaEq.to0 (h : MetaEq m m') : V1S.MetaEq0 m m' := ⟨h.set, h.mset, h.keys⟩

theorem MetaEq.tag (h : MetaEq m m') : V1.dispatchTag m = V1.dispatchTag m' := h.to0.tag

theorem MetaEq.equals (h : MetaEq m m') : V1.equals m = V1.equals m' := by
  funext a b; exact V1S.equals_congr h.tag h.prec a b

theorem MetaEq.hashCode (h : MetaEq m m') : V1.hashCode m = V1.hashCode m' := by
  funext a; exact V1S.hashCode_congr h.tag a

theorem MetaEq.hashList (h : MetaEq m m') : V1.hashList m = V1.hashList m' := by
  funext a; exact V1S.hashList_congr h.tag a

theorem MetaEq.dispatch (h : MetaEq m m') : V1.dispatch m = V1.dispatch m' := by
  funext a; exact V1S.dispatch_congr h.tag a

theorem MetaEq.effTag (h : MetaEq m m') : V1.effTag m = V1.effTag m' := by
  funext a; exact V1S.effTag_congr h.tag a

theorem MetaEq.identLookup (h : MetaEq m m') (c : UInt64) :
    ∀ l, V1.identLookup m c l = V1.identLookup m' c l
  | [] => rfl
  | x :: r => by simp only [V1.identLookup, h.identLookup c r, h.to0.identOf]

theorem MetaEq.hashLookup (h : MetaEq m m') (c : UInt64) :
    ∀ l, V1.hashLookup m c l = V1.hashLookup m' c l
  | [] => rfl
  | x :: r => by simp only [V1.hashLookup, h.hashLookup c r, h.hashCode]

end Congr

/-! ### unfolding equations of the v1 diff for either strategy -/

theorem dk_nil (m : V1.Metas) (mg : Bool) (p : List Json) (kvs' : List (String × Json)) :
    V1.diffKvs m mg p kvs' [] = [] := by
  rw [V1.diffKvs.eq_def]

theorem dk_cons (m : V1.Metas) (mg : Bool) (p : List Json) (kvs' : List (String × Json))
    (k : String) (v : Json) (r : List (String × Json)) :
    V1.diffKvs m mg p kvs' ((k, v) :: r) =
      (match alookup k kvs' with
       | some v' => V1.diffNode m mg v v' (p ++ [.str k])
       | none =>
         if mg then [{ path := V1.prependMerge (p ++ [.str k]), new := [.void] }]
         else [{ path := p ++ [.str k], old := v.nodeList, new := [] }]) ++
        V1.diffKvs m mg p kvs' r := by
  rw [V1.diffKvs.eq_def]
  rfl

theorem de_nil (m : V1.Metas) (mg : Bool) (p : List Json) (i : Nat) (ys : List Json) :
    V1.diffElems m mg p i ys [] = [] := by
  rw [V1.diffElems.eq_def]

theorem de_cons_nil (m : V1.Metas) (mg : Bool) (p : List Json) (i : Nat) (x : Json)
    (xs : List Json) : V1.diffElems m mg p i [] (x :: xs) = [] := by
  rw [V1.diffElems.eq_def]

theorem de_cons (m : V1.Metas) (mg : Bool) (p : List Json) (i : Nat) (x y : Json)
    (xs ys : List Json) :
    V1.diffElems m mg p i (y :: ys) (x :: xs) =
      V1.diffNode m mg x (V1.dispatch m y) (p ++ [V1.numOfNat i]) ::
        V1.diffElems m mg p (i + 1) ys xs := by
  rw [V1.diffElems.eq_def]

/-- the first loop of `jsonObject.diff` only looks at the sub-diffs of the members against the
    members of the second object with the same key -/
theorem dk_congr {m m' : V1.Metas} (mg : Bool) (p : List Json) (kvs' : List (String × Json)) :
    ∀ kvs : List (String × Json),
      (∀ k v, (k, v) ∈ kvs → ∀ v', alookup k kvs' = some v' →
        V1.diffNode m mg v v' (p ++ [.str k]) = V1.diffNode m' mg v v' (p ++ [.str k])) →
      V1.diffKvs m mg p kvs' kvs = V1.diffKvs m' mg p kvs' kvs
  | [], _ => by rw [dk_nil, dk_nil]
  | (k, v) :: r, H => by
    rw [dk_cons, dk_cons, dk_congr mg p kvs' r (fun k v hm => H k v (List.mem_cons_of_mem _ hm))]
    congr 1
    cases hl : alookup k kvs' with
    | none => rfl
    | some v' => exact H k v List.mem_cons_self v' hl

section Congr2
variable {m m' : V1.Metas}

theorem de_meq (h : MetaEq m m') (mg : Bool) (p : List Json) :
    ∀ (xs : List Json) (i : Nat) (ys : List Json),
      (∀ x ∈ xs, ∀ mg b p, V1.diffNode m mg x b p = V1.diffNode m' mg x b p) →
      V1.diffElems m mg p i ys xs = V1.diffElems m' mg p i ys xs
  | [], i, ys, _ => by rw [de_nil, de_nil]
  | x :: r, i, [], _ => by rw [de_cons_nil, de_cons_nil]
  | x :: r, i, y :: ys, H => by
    rw [de_cons, de_cons, de_meq h mg p r (i + 1) ys (fun x hx => H x (List.mem_cons_of_mem _ hx)),
      H x List.mem_cons_self, h.dispatch]

/-- `Diff` depends on the metadata only through SET / MULTISET / setkeys / precision -/
theorem diffNode_meq (h : MetaEq m m') :
    ∀ (a : Json) (mg : Bool) (b : Json) (p : List Json),
      V1.diffNode m mg a b p = V1.diffNode m' mg a b p := by
  intro a
  induction a using jsonIndScalar with
  | scalar a h1 h2 =>
    intro mg b p
    cases mg
    · rw [V1P.diffNode_scalar m a b h1 h2, V1P.diffNode_scalar m' a b h1 h2]
      simp only [V1.diffCommon, h.equals]
    · rw [V1M.diffNode_scalar m a b h1 h2, V1M.diffNode_scalar m' a b h1 h2, h.equals]
  | arr t xs ih =>
    intro mg b p
    have e1 := fun p ys => V1S.dse_congr h.to0 mg p ys xs fun x hx y _ _ q => ih x hx mg y q
    have e2 := fun p i ys => de_meq h mg p xs i ys ih
    rw [V1.diffNode.eq_def, V1.diffNode.eq_def (m := m')]
    simp only [h.equals, h.hashList, h.dispatch, h.effTag, h.to0.identOf, h.to0.appendIndex, e1, e2,
      h.identLookup, h.hashLookup]
  | obj kvs ih =>
    intro mg b p
    have e1 := fun p kvs' => dk_congr (m' := m') mg p kvs' kvs (fun k v hm v' _ => ih k v hm mg v' _)
    rw [V1.diffNode.eq_def, V1.diffNode.eq_def (m := m')]
    simp only [e1]

end Congr2
/-! # Part 1. SET + MERGE and MULTISET + MERGE, in memory -/

/-! ## 1.1 the merge-strategy diff of two arrays in the set modes -/

section MergeArr
variable {m : V1.Metas}

theorem equals_tag_set (hd : V1.dispatchTag m = .set) (xs ys : List Json) :
    V1.equals m (.arr .set xs) (.arr .set ys) = V1.equals m (.arr .raw xs) (.arr .raw ys) := by
  simp [V1.equals, V1.effTag, V1.dispatch, hd]

theorem equals_tag_mset (hd : V1.dispatchTag m = .mset) (xs ys : List Json) :
    V1.equals m (.arr .mset xs) (.arr .mset ys) = V1.equals m (.arr .raw xs) (.arr .raw ys) := by
  simp [V1.equals, V1.effTag, V1.dispatch, hd]

/-- arrays that `Equals` tells apart are replaced wholesale (the hunk carries the typed node) -/
theorem diffNode_merge_arr_ne (hm : V1.dispatchTag m = .set ∨ V1.dispatchTag m = .mset)
    (xs ys : List Json) (p : List Json)
    (he : V1.equals m (.arr .raw xs) (.arr .raw ys) = false) :
    V1.diffNode m true (.arr .raw xs) (.arr .raw ys) p =
      [V1M.whole p (.arr (V1.dispatchTag m) ys)] := by
  rw [V1.diffNode.eq_def]
  rcases hm with hd | hd
  · rw [← equals_tag_set hd] at he
    simp [V1.effTag, hd, V1.dispatch, he, Json.nodeList, Json.isVoid, V1M.whole]
  · rw [← equals_tag_mset hd] at he
    simp [V1.effTag, hd, V1.dispatch, he, Json.nodeList, Json.isVoid, V1M.whole]

theorem diffNode_merge_arr_other (hm : V1.dispatchTag m = .set ∨ V1.dispatchTag m = .mset)
    (xs : List Json) (b : Json) (hb : ∀ t ys, b ≠ .arr t ys) (p : List Json) :
    V1.diffNode m true (.arr .raw xs) b p = [V1M.whole p b] := by
  rw [V1.diffNode.eq_def]
  rcases hm with hd | hd <;> cases b <;> simp_all [V1.effTag, V1.dispatch, V1M.whole]

/-- per element, the parts of the set diff do not depend on the strategy when the sub-diffs of
    OBJECT members with equal identities do not (only those are sub-diffed) -/
theorem dse_merge_eq (m : V1.Metas) (p : List Json) (ys xs : List Json)
    (H : ∀ kvs kvs', Json.obj kvs ∈ xs → Json.obj kvs' ∈ ys →
      V1.identOf m (.obj kvs) = V1.identOf m (.obj kvs') →
      ∀ q, V1.diffNode m true (.obj kvs) (.obj kvs') q
        = V1.diffNode m false (.obj kvs) (.obj kvs') q) :
    V1.diffSetElems m true p ys xs = V1.diffSetElems m false p ys xs := by
  rw [V1S.diffSetElems_eq, V1S.diffSetElems_eq]
  refine setParts_congr fun x hx y hy e => ?_
  cases x with
  | obj kvs =>
    cases y with
    | obj kvs' => simp only [objPair, H kvs kvs' hx hy e.symm]
    | _ => rfl
  | _ => rfl

/-- arrays that are `Equal`: the merge strategy runs the strict set / multiset diff (only the set
    diff has sub-diffs, of object members with the same identity) -/
theorem diffNode_merge_arr_eq (hm : V1.dispatchTag m = .set ∨ V1.dispatchTag m = .mset)
    (xs ys : List Json) (p : List Json)
    (he : V1.equals m (.arr .raw xs) (.arr .raw ys) = true)
    (H : V1.dispatchTag m = .set → ∀ kvs kvs', Json.obj kvs ∈ xs → Json.obj kvs' ∈ ys →
        V1.identOf m (.obj kvs) = V1.identOf m (.obj kvs') →
        ∀ q, V1.diffNode m true (.obj kvs) (.obj kvs') q
          = V1.diffNode m false (.obj kvs) (.obj kvs') q) :
    V1.diffNode m true (.arr .raw xs) (.arr .raw ys) p
      = V1.diffNode m false (.arr .raw xs) (.arr .raw ys) p := by
  rcases hm with hd | hd
  · rw [← equals_tag_set hd] at he
    rw [V1.diffNode.eq_def, V1.diffNode.eq_def (merge := false)]
    simp only [V1.effTag, hd, V1.dispatch, beq_self_eq_true, if_true, he, Bool.not_true,
      Bool.and_false, Bool.false_eq_true, if_false, dse_merge_eq m p ys xs (H hd)]
  · rw [← equals_tag_mset hd] at he
    rw [V1.diffNode.eq_def, V1.diffNode.eq_def (merge := false)]
    simp only [V1.effTag, hd, V1.dispatch, beq_self_eq_true, if_true, he, Bool.not_true,
      Bool.and_false, Bool.false_eq_true, if_false]

end MergeArr

/-! ## 1.2 equivalent documents have an EMPTY merge diff -/

/-- equivalent documents have an EMPTY merge diff, for any metadata that reads arrays as sets or
    multisets. What depends on the metadata is a parameter: equivalent scalars (`sc`) and arrays
    (`eqv`) are `Equal`, the strict diff of equivalent documents is empty (`strict`: the merge
    strategy hands `Equal` arrays to the strict diff), and under SET two object members of
    equivalent arrays with the same identity are equivalent (`pair`: only those are sub-diffed). -/
theorem merge_nil_of_equivB {m : V1.Metas} {o : Opts} {S SB : List Json}
    (sm : V1.dispatchTag m = .set ∨ V1.dispatchTag m = .mset)
    (sc : ∀ a b : Json, (∀ t xs, a ≠ .arr t xs) → (∀ kvs, a ≠ .obj kvs) → DocOk a → DocOk b →
      equivB o a b = true → V1.equals m a b = true)
    (eqv : ∀ xs ys, DocOk (.arr .raw xs) → DocOk (.arr .raw ys) → Within S (.arr .raw xs) →
      Within S (.arr .raw ys) → equivB o (.arr .raw xs) (.arr .raw ys) = true →
      V1.equals m (.arr .raw xs) (.arr .raw ys) = true)
    (strict : ∀ a b, DocOk a → DocOk b → Within S a → Within S b → Within SB b →
      equivB o a b = true → ∀ p, V1.diffNode m false a b p = [])
    (pair : V1.dispatchTag m = .set → ∀ xs ys, DocOk (.arr .raw xs) → DocOk (.arr .raw ys) →
      Within S (.arr .raw xs) → Within S (.arr .raw ys) → Within SB (.arr .raw ys) →
      equivB o (.arr .raw xs) (.arr .raw ys) = true →
      ∀ kvs kvs', Json.obj kvs ∈ xs → Json.obj kvs' ∈ ys →
        V1.identOf m (.obj kvs) = V1.identOf m (.obj kvs') →
        equivB o (.obj kvs) (.obj kvs') = true) :
    ∀ a b, DocOk a → DocOk b → Within S a → Within S b → Within SB b → equivB o a b = true →
      ∀ p, V1.diffNode m true a b p = [] := by
  refine V1S.nil_of_equivB (fun a b h1 h2 ha hb h p => ?_) (fun xs ys ha hb wa wb wb' h ih p => ?_)
  · rw [V1M.diffNode_scalar m a b h1 h2 p, sc a b h1 h2 ha hb h]
    rfl
  · rw [diffNode_merge_arr_eq sm xs ys p (eqv xs ys ha hb wa wb h)]
    · exact strict _ _ ha hb wa wb wb' h p
    · intro hd kvs kvs' hx hy e q
      have hxy := pair hd xs ys ha hb wa wb wb' h kvs kvs' hx hy e
      rw [ih _ hx _ hy hxy q, strict _ _ (ha.elem hx) (hb.elem hy) (wa.elem hx) (wb.elem hy)
        (fun z hz => wb' z (subterms_elem_sub hy hz)) hxy q]

/-! ## 1.3 the merge-strategy diff, purely (set / multiset reading of arrays) -/

mutual
/-- `V1.diffNode m true a b p` on documents as read from text, in the set modes: relative key paths
    and bare values (`void` = delete). Arrays that `Equals` tells apart are replaced by the array
    node `.arr τ ys`: `τ = V1.dispatchTag m` is what the library writes (the TYPED node `jsonSet` /
    `jsonMultiset` the second array was dispatched to), `τ = .raw` is what comes back from text. -/
def ds1 (m : V1.Metas) (τ : Tag) : Json → Json → List (List String × Json)
  | .obj kvs, b =>
    match b with
    | .obj kvs' =>
      ds1Kvs m τ kvs' kvs ++
        (kvs'.filter (fun kv => (alookup kv.1 kvs).isNone)).map (fun kv => ([kv.1], kv.2))
    | _ => [([], b)]
  | .arr _ xs, b =>
    match b with
    | .arr _ ys =>
      if V1.equals m (.arr .raw xs) (.arr .raw ys) then [] else [([], .arr τ ys)]
    | _ => [([], b)]
  | a, b => if V1.equals m a b then [] else [([], b)]
def ds1Kvs (m : V1.Metas) (τ : Tag) (kvs' : List (String × Json)) :
    List (String × Json) → List (List String × Json)
  | [] => []
  | (k, v) :: r =>
    (match alookup k kvs' with
     | some v' => (ds1 m τ v v').map (consE k)
     | none => [([k], .void)]) ++ ds1Kvs m τ kvs' r
end

theorem ds1_obj_obj (m : V1.Metas) (τ : Tag) (kvs kvs' : List (String × Json)) :
    ds1 m τ (.obj kvs) (.obj kvs') = ds1Kvs m τ kvs' kvs ++
      (kvs'.filter (fun kv => (alookup kv.1 kvs).isNone)).map (fun kv => ([kv.1], kv.2)) := by
  simp [ds1]

theorem ds1_obj_other (m : V1.Metas) (τ : Tag) (kvs : List (String × Json)) {b : Json}
    (hb : b.isObj = false) : ds1 m τ (.obj kvs) b = [([], b)] := by
  cases b <;> simp_all [ds1, Json.isObj]

theorem ds1_arr_arr (m : V1.Metas) (τ : Tag) (t t' : Tag) (xs ys : List Json) :
    ds1 m τ (.arr t xs) (.arr t' ys)
      = if V1.equals m (.arr .raw xs) (.arr .raw ys) then [] else [([], .arr τ ys)] := by
  simp [ds1]

theorem ds1_arr_other (m : V1.Metas) (τ : Tag) (t : Tag) (xs : List Json) {b : Json}
    (hb : Merge.isArr b = false) : ds1 m τ (.arr t xs) b = [([], b)] := by
  cases b <;> simp_all [ds1, Merge.isArr]

theorem ds1_scalar (m : V1.Metas) (τ : Tag) {a : Json} (h1 : ∀ t xs, a ≠ .arr t xs)
    (h2 : ∀ kvs, a ≠ .obj kvs) (b : Json) :
    ds1 m τ a b = if V1.equals m a b then [] else [([], b)] := by
  cases a <;> simp_all [ds1]

theorem ds1Kvs_nil (m : V1.Metas) (τ : Tag) (kvs' : List (String × Json)) :
    ds1Kvs m τ kvs' [] = [] := by
  simp [ds1Kvs]

theorem ds1Kvs_cons (m : V1.Metas) (τ : Tag) (kvs' : List (String × Json)) (k : String)
    (v : Json) (r : List (String × Json)) :
    ds1Kvs m τ kvs' ((k, v) :: r) =
      (match alookup k kvs' with
       | some v' => (ds1 m τ v v').map (consE k)
       | none => [([k], .void)]) ++ ds1Kvs m τ kvs' r := by
  simp [ds1Kvs]

/-- `Equals` under the metadata ⇒ the pure merge diff is empty (no float law) -/
theorem ds1_nil_of_equals {m : V1.Metas}
    (hsm : V1.dispatchTag m = .set ∨ V1.dispatchTag m = .mset) (τ : Tag) :
    ∀ a b, DocOk a → DocOk b → V1.equals m a b = true → ds1 m τ a b = [] := by
  intro a
  induction a using jsonIndScalar with
  | scalar a h1 h2 => intro b _ _ h; rw [ds1_scalar m τ h1 h2, h]; rfl
  | arr t xs _ =>
    intro b ha hb h
    have ht := ha.raw
    subst ht
    cases b with
    | arr t' ys =>
      have ht' := hb.raw
      subst ht'
      rw [ds1_arr_arr, h]; rfl
    | _ =>
      exfalso
      rw [V1.equals.eq_def] at h
      rcases hsm with hd | hd <;> simp [V1.effTag, V1.dispatch, hd] at h
  | obj kvs ih =>
    intro b ha hb h
    cases b with
    | obj kvs' =>
      have hs := ha.sorted
      have hs' := hb.sorted
      simp only [V1.equals, Bool.and_eq_true, beq_iff_eq, V1S.equalsKvs_eq_lookAll, lookAll_iff] at h
      have hkv : ∀ r : List (String × Json), (∀ kv ∈ r, kv ∈ kvs) → ds1Kvs m τ kvs' r = [] := by
        intro r
        induction r with
        | nil => intro _; exact ds1Kvs_nil m τ kvs'
        | cons kv r ihr =>
          intro hsub
          obtain ⟨k, v⟩ := kv
          have hm1 : (k, v) ∈ kvs := hsub _ List.mem_cons_self
          obtain ⟨v', hl, he⟩ := h.2 k v hm1
          have hm2 := mem_of_alookup hl
          rw [ds1Kvs_cons, ihr (fun kv hh => hsub kv (List.mem_cons_of_mem _ hh)), hl]
          simp only [List.append_nil]
          rw [ih k v hm1 v' (ha.val hm1) (hb.val hm2) he]
          rfl
      rw [ds1_obj_obj, hkv kvs (fun _ hh => hh), filter_added_nil (h.2.covers hs hs' h.1)]
      rfl
    | _ => simp [V1.equals] at h

/-! ## 1.4 the merge diff is `ds1`, and `ds1` is sound, from a kit of facts about the metadata -/

theorem equals_not_void {m : V1.Metas} {x y : Json} (h : V1.equals m x y = true)
    (hy : y.isVoid = false) : x.isVoid = false := by
  cases x with
  | void => simp [V1.equals, hy] at h
  | _ => rfl

/-- the array node stored by a wholesale hunk, typed as the library writes it, `Equals` the plain
    array -/
theorem equals_typed_arr {m : V1.Metas}
    (sm : V1.dispatchTag m = .set ∨ V1.dispatchTag m = .mset) (ys : List Json) :
    V1.equals m (.arr (V1.dispatchTag m) ys) (.arr .raw ys) = true := by
  rcases sm with hd | hd <;> rw [hd] <;> simp [V1.equals, V1.effTag, V1.dispatch, hd]

/-- what the merge-strategy proofs need of the metadata `m` and of the relation `R` ("is the
    target": `Equals` under `m`, alone or together with `equivB`), on the sub-terms `S` (both
    documents) and `SB` (the second document) -/
structure MergeKit (m : V1.Metas) (R : Json → Json → Prop) (S SB : List Json) : Prop where
  sm : V1.dispatchTag m = .set ∨ V1.dispatchTag m = .mset
  /-- `Equal` arrays have an EMPTY merge diff -/
  nilArr : ∀ xs ys, DocOk (.arr .raw xs) → DocOk (.arr .raw ys) → Within S (.arr .raw xs) →
    Within S (.arr .raw ys) → Within SB (.arr .raw ys) →
    V1.equals m (.arr .raw xs) (.arr .raw ys) = true →
    ∀ p, V1.diffNode m true (.arr .raw xs) (.arr .raw ys) p = []
  refl : ∀ b, Ok b → Within S b → R b b
  ofEquals : ∀ a b, DocOk a → DocOk b → Within S a → Within S b → V1.equals m a b = true → R a b
  toEquals : ∀ {x b}, R x b → V1.equals m x b = true
  obj : ∀ {X Y : List (String × Json)}, keysSorted X = true → keysSorted Y = true →
    (∀ j, DPK.OptRel R (alookup j X) (alookup j Y)) → R (.obj X) (.obj Y)
  typed : ∀ {ys}, R (.arr .raw ys) (.arr .raw ys) → R (.arr (V1.dispatchTag m) ys) (.arr .raw ys)

section Kit
variable {m : V1.Metas} {R : Json → Json → Prop} {S SB : List Json}

theorem pDiffC_ds1 (m : V1.Metas) (τ : Tag) :
    PDiffC (fun xs ys => V1.equals m (.arr .raw xs) (.arr .raw ys)) (V1.equals m) τ (ds1 m τ)
      (ds1Kvs m τ) :=
  ⟨ds1_obj_obj m τ, ds1Kvs_nil m τ, ds1Kvs_cons m τ, ds1_obj_other m τ, ds1_arr_arr m τ,
    ds1_arr_other m τ, fun h1 h2 => ds1_scalar m τ (fun _ _ e => by subst e; cases h2)
      (fun _ e => by subst e; cases h1)⟩

/-- the library's merge diff is `ds1`, hunk by hunk: `Equal` arrays have an empty merge diff (the
    kit), any other array is replaced as a whole -/
theorem kit_eq_ds1 (Kt : MergeKit m R S SB) :
    ∀ a b, DocOk a → Ok b → Within S a → Within S b → Within SB b →
      ∀ q : List String,
        V1.diffNode m true a b (q.map Json.str)
          = (ds1 m (V1.dispatchTag m) a b).map (fun e => V1M.vh (q ++ e.1) e.2) :=
  fun a b ha hb wa wb wb' =>
  V1M.diffNode_eq_pure (pDiffC_ds1 m _)
    (fun a b => (DocOk a ∧ Within S a) ∧ Ok b ∧ Within S b ∧ Within SB b)
    (fun h hm hl =>
      have hm' := mem_of_alookup hl
      ⟨⟨h.1.1.val hm, h.1.2.val hm⟩, (h.2.1.val hm').1, h.2.2.1.val hm',
        fun z hz => h.2.2.2 z (subterms_val_sub hm' hz)⟩)
    (fun h k v hm => (h.2.1.val hm).2)
    (fun {t xs t' ys} h p => by
      obtain ⟨⟨ha, wa⟩, hb, wb, wb'⟩ := h
      have ht : t = .raw := ha.raw
      have ht' : t' = .raw := hb.raw
      subst ht ht'
      cases he : V1.equals m (.arr .raw xs) (.arr .raw ys) with
      | true => rw [Kt.nilArr _ _ ha hb.docOk wa wb wb' he]; rfl
      | false => rw [diffNode_merge_arr_ne Kt.sm xs ys _ he]; rfl)
    (fun {t xs b} h hb p => by
      have ht : t = .raw := h.1.1.raw
      subst ht
      exact diffNode_merge_arr_other Kt.sm xs b (by rintro _ _ rfl; cases hb) p)
    a b ⟨⟨ha, wa⟩, hb, wb, wb'⟩

/-- reading back forgets the Go type of the array a wholesale hunk carries: the diff read back is
    the pure diff with plain arrays -/
theorem ds1_untag (m : V1.Metas) (τ : Tag) :
    ∀ a b, b.rawDoc = true → (ds1 m τ a b).map Merge.untagE = ds1 m .raw a b :=
  (pDiffC_ds1 m τ).map_untag (pDiffC_ds1 m .raw)

/-- applying the pure merge diff to `a` gives the target; `τ` is the tag of the array nodes the
    diff carries: typed as the library writes them, or plain as they come back from text. An
    instance of `DPK.memSound_relC`: the kit's `R` relates two objects whose members are related and
    nothing void to a non-void value. -/
theorem kit_memSound (Kt : MergeKit m R S SB) {τ : Tag}
    (hτ : τ = .raw ∨ τ = V1.dispatchTag m) :
    ∀ a, DocOk a → Within S a → ∀ b, Ok b → Within S b → R (mapply (ds1 m τ a b) a) b :=
  fun a ha wa b hb wb =>
  DPK.memSound_relC ⟨Kt.obj, fun h hy => equals_not_void (Kt.toEquals h) hy⟩ (pDiffC_ds1 m τ)
    (Pa := fun a => DocOk a ∧ Within S a) (Pb := fun b => Ok b ∧ Within S b)
    ⟨fun h hl => ⟨h.1.val (mem_of_alookup hl), h.2.val (mem_of_alookup hl)⟩, fun h => h.1.sorted⟩
    ⟨fun h hl => ⟨(h.1.lookup hl).1, h.2.val (mem_of_alookup hl)⟩, fun h => h.1.sorted⟩
    (fun h hl => (h.1.lookup hl).2) (fun h => Kt.refl _ h.1 h.2)
    (fun {t _ t' _} ⟨ha, wa⟩ ⟨hb, wb⟩ he => by
      have ht : t = .raw := ha.raw
      have ht' : t' = .raw := hb.raw
      subst ht ht'
      exact Kt.ofEquals _ _ ha hb.docOk wa wb he)
    (fun {t _} ⟨hb, wb⟩ => by
      have ht : t = .raw := hb.raw
      subst ht
      rcases hτ with rfl | rfl
      · exact Kt.refl _ hb wb
      · exact Kt.typed (Kt.refl _ hb wb))
    (fun _ _ ⟨ha, wa⟩ ⟨hb, wb⟩ he => Kt.ofEquals _ _ ha hb.docOk wa wb he)
    a ⟨ha, wa⟩ b ⟨hb, wb⟩

end Kit

/-! ## 1.5 the results for a metadata list holding MERGE -/

/-- drop MERGE from the metadata (`Diff` receives MERGE as its strategy flag) -/
def strip (m : V1.Metas) : V1.Metas := m.filter (fun x => x != .merge)

set_option linter.unusedSimpArgs false in
theorem strip_metaEq : ∀ m : V1.Metas, MetaEq m (strip m)
  | [] => ⟨rfl, rfl, rfl, rfl⟩
  | x :: r => by
    obtain ⟨h1, h2, h3, h4⟩ := strip_metaEq r
    unfold strip at h1 h2 h3 h4 ⊢
    cases x <;> constructor <;>
      simp [List.filter_cons, V1.hasSet, V1.hasMset, V1.keysOf, V1.precOf, h1, h2, h3, h4]

set_option linter.unusedSimpArgs false in
theorem strip_noMerge : ∀ m : V1.Metas, V1.hasMerge (strip m) = false
  | [] => rfl
  | x :: r => by
    have ih := strip_noMerge r
    unfold strip at ih ⊢
    cases x <;> simp [List.filter_cons, V1.hasMerge, ih]

theorem hashFaithful_strip {m : V1.Metas} {o : Opts} {S : List Json}
    (HF : V1S.HashFaithful m o S) : V1S.HashFaithful (strip m) o S :=
  V1S.hashFaithful_of_tag (strip_metaEq m).tag HF

/-- from a kit for `strip m`: in memory, the library's diff under `m` (MERGE present) is a list of
    merge hunks with key paths (`ds1`), `Patch` applies them as `Merge.mapply` and yields the
    target, the diff is empty exactly when `Equals` holds, and so does the diff with plain arrays
    (the one read back from text) -/
theorem kit_main {m : V1.Metas} {R : Json → Json → Prop} (hmg : V1.hasMerge m = true) (a b : Json)
    (ha : a.setDoc = true) (hb : b.setDoc = true) (hb' : DPL.memOK b = true)
    (Kt : MergeKit (strip m) R (subterms a ++ subterms b) (subterms b)) :
    (V1.diffM m a b = (ds1 (strip m) (V1.dispatchTag m) a b).map (fun e => V1M.vh e.1 e.2)) ∧
    (∃ r, V1.patchM a (V1.diffM m a b) = .ok r ∧ R r b) ∧
    (V1.diffM m a b = [] ↔ V1.equals m a b = true) ∧
    R (mapply (ds1 (strip m) .raw a b) a) b := by
  have E := strip_metaEq m
  have wa : Within (subterms a ++ subterms b) a := fun z hz => List.mem_append.2 (Or.inl hz)
  have wb : Within (subterms a ++ subterms b) b := fun z hz => List.mem_append.2 (Or.inr hz)
  have okb : Ok b := ⟨hb, hb'⟩
  have hd := kit_eq_ds1 Kt a b (docOk_of_setDoc ha) okb wa wb (fun _ hz => hz) []
  simp only [List.map_nil, List.nil_append] at hd
  have e : V1.diffM m a b
      = (ds1 (strip m) (V1.dispatchTag m) a b).map (fun e => V1M.vh e.1 e.2) := by
    unfold V1.diffM
    rw [hmg, diffNode_meq E, hd, E.tag]
  have S1 := kit_memSound Kt (τ := V1.dispatchTag m) (Or.inr E.tag) a (docOk_of_setDoc ha) wa b
    okb wb
  have S2 := kit_memSound Kt (τ := .raw) (Or.inl rfl) a (docOk_of_setDoc ha) wa b okb wb
  have hp : V1.patchM a (V1.diffM m a b)
      = .ok (mapply (ds1 (strip m) (V1.dispatchTag m) a b) a) := by rw [e, V1M.patchM_vh]
  refine ⟨e, ⟨_, hp, S1⟩, ⟨fun h0 => ?_, fun he => ?_⟩, S2⟩
  · have hds : ds1 (strip m) (V1.dispatchTag m) a b = [] := by
      rw [e] at h0
      exact List.map_eq_nil_iff.1 h0
    rw [hds] at S1
    rw [E.equals]
    exact Kt.toEquals S1
  · rw [E.equals] at he
    rw [e, ds1_nil_of_equals Kt.sm _ a b (docOk_of_setDoc ha) (docOk_of_setDoc hb) he]
    rfl

/-- … and through the text (`Render`, then `ReadDiffString`): the rendered merge diff is read back
    as the diff with the replaced arrays as plain `jsonArray`s, and patching `a` with the diff READ
    BACK yields the target. Relative to the codec contract `V1S.CodecOK` and to render success. -/
theorem kit_text {m : V1.Metas} {R : Json → Json → Prop} (hmg : V1.hasMerge m = true)
    (nc : NumCodec) (a b : Json) (ha : a.setDoc = true) (hb : b.setDoc = true)
    (hb' : DPL.memOK b = true)
    (Kt : MergeKit (strip m) R (subterms a ++ subterms b) (subterms b))
    (hc : V1S.CodecOK nc (V1.diffM m a b)) (text : String)
    (hr : V1.renderM nc false (V1.liftDiff (V1.diffM m a b)) = .ok (some text)) :
    ∃ d' r, V1.readDiffM nc text = .ok d' ∧ V1.patchM a d' = .ok r ∧ R r b := by
  obtain ⟨hd, _, _, S⟩ := kit_main hmg a b ha hb hb' Kt
  obtain ⟨d', hrd, hp, _⟩ := V1S.merge_text_transport nc hd (a := a)
    (rawDoc_wf_of_docOk a (docOk_of_setDoc ha)).1 hc text hr
  rw [ds1_untag (strip m) (V1.dispatchTag m) a b (rawDoc_wf_of_docOk b (docOk_of_setDoc hb)).1] at hp
  exact ⟨d', _, hrd, hp, S⟩

/-! ## 1.6 the kit of the relation "`Equals` and equivalent" -/

/-- `x` is `b` for the library's v1 `Equals` and for the specification's equivalence -/
def Rel1 (m : V1.Metas) (o : Opts) (x b : Json) : Prop :=
  V1.equals m x b = true ∧ equivB o x b = true

theorem rel1_strip {m : V1.Metas} {o : Opts} {x b : Json} (h : Rel1 (strip m) o x b) :
    V1.equals m x b = true ∧ equivB o x b = true :=
  ⟨by rw [(strip_metaEq m).equals]; exact h.1, h.2⟩

theorem rel1_obj_of_lookups {m : V1.Metas} {o : Opts} {X Y : List (String × Json)}
    (hX : keysSorted X = true) (hY : keysSorted Y = true)
    (h : ∀ j, DPK.OptRel (Rel1 m o) (alookup j X) (alookup j Y)) : Rel1 m o (.obj X) (.obj Y) :=
  ⟨(V1P.v1_equals_obj_optRel m hX hY).2 fun k => (h k).imp And.left,
    (equivB_obj_optRel o hX hY).2 fun k => (h k).imp And.right⟩

/-- the kit for `Rel1 m o` at precision 0, from what the reading of arrays supplies: `Equals` is
    `equivB` (`eqv`), equivalent documents have an EMPTY strict diff (`strict`), under SET two object
    members of equivalent arrays with one identity are equivalent (`pair`), reflexivity. `Equal`
    arrays then have an empty MERGE diff by `merge_nil_of_equivB`. -/
theorem kit_rel1 {m : V1.Metas} {o : Opts} {S SB : List Json}
    (sm : V1.dispatchTag m = .set ∨ V1.dispatchTag m = .mset)
    (hp : precOf o = 0) (hvp : V1.precOf m = 0)
    (eqv : ∀ a b, DocOk a → DocOk b → Within S a → Within S b → V1.equals m a b = equivB o a b)
    (strict : ∀ a b, DocOk a → DocOk b → Within S a → Within S b → Within SB b →
      equivB o a b = true → ∀ p, V1.diffNode m false a b p = [])
    (pair : V1.dispatchTag m = .set → ∀ xs ys, DocOk (.arr .raw xs) → DocOk (.arr .raw ys) →
      Within S (.arr .raw xs) → Within S (.arr .raw ys) → Within SB (.arr .raw ys) →
      equivB o (.arr .raw xs) (.arr .raw ys) = true →
      ∀ kvs kvs', Json.obj kvs ∈ xs → Json.obj kvs' ∈ ys →
        V1.identOf m (.obj kvs) = V1.identOf m (.obj kvs') →
        equivB o (.obj kvs) (.obj kvs') = true)
    (refl : ∀ b, Ok b → Within S b → Rel1 m o b b) : MergeKit m (Rel1 m o) S SB where
  sm := sm
  nilArr := fun _ _ ha hb wa wb wb' he =>
    merge_nil_of_equivB sm
      (fun _ _ h1 h2 _ _ h => by rw [← V1S.equivB_scalar_equals hp hvp h1 h2]; exact h)
      (fun _ _ ha hb wa wb h => by rw [eqv _ _ ha hb wa wb]; exact h) strict pair
      _ _ ha hb wa wb wb' (by rw [← eqv _ _ ha hb wa wb]; exact he)
  refl := refl
  ofEquals := fun a b ha hb wa wb he => ⟨he, by rw [← eqv a b ha hb wa wb]; exact he⟩
  toEquals := fun h => h.1
  obj := rel1_obj_of_lookups
  typed := fun h => ⟨equals_typed_arr sm _, by have e := h.2; rw [equivB] at e ⊢; exact e⟩

/-- SET / MULTISET without set keys (`V1S.Mode`): the identity of a member is its hash code -/
theorem kitM (F : FloatEq0) (L : FloatLaws) {m : V1.Metas} {o : Opts} (M : V1S.Mode m o)
    {S SB : List Json} (HF : V1S.HashFaithful m o S) : MergeKit m (Rel1 m o) S SB :=
  kit_rel1 M.vsm M.prec M.vprec (fun _ _ ha hb wa wb => V1S.equals_eq_equivB_of F M HF ha hb wa wb)
    (fun a b ha hb wa wb _ => V1S.diffNode_nil_of_equivB F M HF a b ha hb wa wb)
    (fun _ xs ys _ _ wa wb _ _ kvs kvs' hx hy e => by
      rw [V1S.identOf_eq_hashCode M.keys, V1S.identOf_eq_hashCode M.keys] at e
      exact HF _ (wa.elem hx).self _ (wb.elem hy).self e)
    (fun _ hb wb => (V1S.refl_both F L M HF hb wb).symm)

/-! ## 1.7 the theorems, for the metadata as the caller gives them -/

/-- the metadata of the SET + MERGE / MULTISET + MERGE theorems, tied to the options under which the
    specification `equivB` is read: MERGE present, SET or MULTISET (v1: SET wins when both are
    given), no setkeys, precision 0 or absent -/
structure MMode (m : V1.Metas) (o : Opts) : Prop where
  tag : V1.dispatchTag m = dispatchTag o
  sm : dispatchTag o = .set ∨ dispatchTag o = .mset
  prec : precOf o = 0
  vprec : V1.precOf m = 0
  keys : V1.keysOf m = none
  merge : V1.hasMerge m = true

theorem MMode.mode {m : V1.Metas} {o : Opts} (M : MMode m o) : V1S.Mode (strip m) o :=
  have E := strip_metaEq m
  ⟨E.tag.symm.trans M.tag, M.sm, M.prec, E.prec.symm.trans M.vprec, E.keys.symm.trans M.keys,
    strip_noMerge m⟩

theorem MMode.kit (F : FloatEq0) (L : FloatLaws) {m : V1.Metas} {o : Opts} (M : MMode m o)
    {S SB : List Json} (HF : V1S.HashFaithful m o S) : MergeKit (strip m) (Rel1 (strip m) o) S SB :=
  kitM F L M.mode (hashFaithful_strip HF)

/-- **C17, SET + MERGE and MULTISET + MERGE, in memory** (`MMode m o`: MERGE present, SET or
    MULTISET, no setkeys, precision 0): for documents as read from JSON text (`setDoc`: plain arrays,
    sorted unique keys, finite numbers, no `-0`; `b` without void object member), when among the
    sub-terms of `a` and `b` equal V1 hash codes occur only for equivalent nodes, the library call
    `a.Patch(a.Diff(b, m...))` succeeds and its result `Equals` `b` (v1 `Equals` with the same
    metadata) and is equivalent to `b` under the set (bag) reading. `b` MAY contain nulls (in
    memory a merge hunk holding `null` stores `null`). -/
theorem v1_merge_diff_patch_setmodes (F : FloatEq0) (L : FloatLaws) {m : V1.Metas} {o : Opts}
    (M : MMode m o) (a b : Json) (ha : a.setDoc = true) (hb : b.setDoc = true)
    (hb' : DPL.memOK b = true) (HF : V1S.HashFaithful m o (subterms a ++ subterms b)) :
    ∃ r, V1.patchM a (V1.diffM m a b) = .ok r ∧ V1.equals m r b = true ∧ equivB o r b = true :=
  let ⟨r, hp, e⟩ := (kit_main M.merge a b ha hb hb' (M.kit F L HF)).2.1
  ⟨r, hp, rel1_strip e⟩

/-- **C17, second half, SET + MERGE / MULTISET + MERGE: the diff is empty exactly when `Equals`
    holds** -/
theorem v1_merge_diff_empty_iff_equals_setmodes (F : FloatEq0) (L : FloatLaws) {m : V1.Metas}
    {o : Opts} (M : MMode m o) (a b : Json) (ha : a.setDoc = true) (hb : b.setDoc = true)
    (hb' : DPL.memOK b = true) (HF : V1S.HashFaithful m o (subterms a ++ subterms b)) :
    V1.diffM m a b = [] ↔ V1.equals m a b = true :=
  (kit_main M.merge a b ha hb hb' (M.kit F L HF)).2.2.1

/-- SET + MERGE as the caller writes it: SET and MERGE present (v1: SET wins over MULTISET), no
    setkeys, precision 0 or absent -/
structure SetMergeMode (m : V1.Metas) : Prop where
  set : V1.hasSet m = true
  merge : V1.hasMerge m = true
  keys : V1.keysOf m = none
  prec0 : V1.precOf m = 0

/-- MULTISET + MERGE as the caller writes it -/
structure MsetMergeMode (m : V1.Metas) : Prop where
  noSet : V1.hasSet m = false
  mset : V1.hasMset m = true
  merge : V1.hasMerge m = true
  keys : V1.keysOf m = none
  prec0 : V1.precOf m = 0

theorem SetMergeMode.single : SetMergeMode [.set, .merge] := ⟨rfl, rfl, rfl, rfl⟩
theorem SetMergeMode.swapped : SetMergeMode [.merge, .set] := ⟨rfl, rfl, rfl, rfl⟩
theorem MsetMergeMode.single : MsetMergeMode [.mset, .merge] := ⟨rfl, rfl, rfl, rfl, rfl⟩

theorem SetMergeMode.mode {m : V1.Metas} (h : SetMergeMode m) : MMode m [.set] :=
  ⟨by simp [V1.dispatchTag, h.set, dispatchTag], Or.inl rfl, rfl, h.prec0, h.keys, h.merge⟩

theorem MsetMergeMode.mode {m : V1.Metas} (h : MsetMergeMode m) : MMode m [.mset] :=
  ⟨by simp [V1.dispatchTag, h.noSet, h.mset, dispatchTag], Or.inr rfl, rfl, h.prec0, h.keys,
    h.merge⟩

/-- **C17, SET + MERGE, in memory** -/
theorem v1_merge_diff_patch_set (F : FloatEq0) (L : FloatLaws) {m : V1.Metas}
    (hm : SetMergeMode m) (a b : Json) (ha : a.setDoc = true) (hb : b.setDoc = true)
    (hb' : DPL.memOK b = true) (HF : V1S.HashFaithful m [.set] (subterms a ++ subterms b)) :
    ∃ r, V1.patchM a (V1.diffM m a b) = .ok r ∧ V1.equals m r b = true ∧
      equivB [.set] r b = true :=
  v1_merge_diff_patch_setmodes F L hm.mode a b ha hb hb' HF

/-- **C17, MULTISET + MERGE, in memory** -/
theorem v1_merge_diff_patch_mset (F : FloatEq0) (L : FloatLaws) {m : V1.Metas}
    (hm : MsetMergeMode m) (a b : Json) (ha : a.setDoc = true) (hb : b.setDoc = true)
    (hb' : DPL.memOK b = true) (HF : V1S.HashFaithful m [.mset] (subterms a ++ subterms b)) :
    ∃ r, V1.patchM a (V1.diffM m a b) = .ok r ∧ V1.equals m r b = true ∧
      equivB [.mset] r b = true :=
  v1_merge_diff_patch_setmodes F L hm.mode a b ha hb hb' HF

theorem v1_merge_diff_empty_iff_equals_set (F : FloatEq0) (L : FloatLaws) {m : V1.Metas}
    (hm : SetMergeMode m) (a b : Json) (ha : a.setDoc = true) (hb : b.setDoc = true)
    (hb' : DPL.memOK b = true) (HF : V1S.HashFaithful m [.set] (subterms a ++ subterms b)) :
    V1.diffM m a b = [] ↔ V1.equals m a b = true :=
  v1_merge_diff_empty_iff_equals_setmodes F L hm.mode a b ha hb hb' HF

theorem v1_merge_diff_empty_iff_equals_mset (F : FloatEq0) (L : FloatLaws) {m : V1.Metas}
    (hm : MsetMergeMode m) (a b : Json) (ha : a.setDoc = true) (hb : b.setDoc = true)
    (hb' : DPL.memOK b = true) (HF : V1S.HashFaithful m [.mset] (subterms a ++ subterms b)) :
    V1.diffM m a b = [] ↔ V1.equals m a b = true :=
  v1_merge_diff_empty_iff_equals_setmodes F L hm.mode a b ha hb hb' HF

/-! ## 1.8 non-vacuity of Part 1 -/

namespace ExampleM

/-- `{"s":[true,null,{"k":null}]}` → `{"s":[{"k":null},null,false],"t":null}` (the pair of
    JdProofs/V1SetDiffPatch.lean; the target holds nulls) satisfies every hypothesis of the
    SET + MERGE and MULTISET + MERGE theorems -/
example (F : FloatEq0) (L : FloatLaws) :
    ∃ r, V1.patchM V1S.Example.exA (V1.diffM [.set, .merge] V1S.Example.exA V1S.Example.exB) = .ok r ∧
      V1.equals [.set, .merge] r V1S.Example.exB = true ∧ equivB [.set] r V1S.Example.exB = true :=
  v1_merge_diff_patch_set F L SetMergeMode.single V1S.Example.exA V1S.Example.exB V1S.Example.ex_docs.1
    V1S.Example.ex_docs.2.1 V1S.Example.ex_docs.2.2.2
    (V1S.hashFaithful_of_tag (m := [.set]) rfl V1S.Example.ex_hashFaithful_set)

example (F : FloatEq0) (L : FloatLaws) :
    ∃ r, V1.patchM V1S.Example.exA (V1.diffM [.mset, .merge] V1S.Example.exA V1S.Example.exB) = .ok r ∧
      V1.equals [.mset, .merge] r V1S.Example.exB = true ∧ equivB [.mset] r V1S.Example.exB = true :=
  v1_merge_diff_patch_mset F L MsetMergeMode.single V1S.Example.exA V1S.Example.exB V1S.Example.ex_docs.1
    V1S.Example.ex_docs.2.1 V1S.Example.ex_docs.2.2.2
    (V1S.hashFaithful_of_tag (m := [.mset]) rfl V1S.Example.ex_hashFaithful_mset)

end ExampleM

/-! ## 1.9 SET + MERGE / MULTISET + MERGE through the text -/

/-- **C17, SET + MERGE / MULTISET + MERGE, through the text** (`Render`, then `ReadDiffString`):
    the rendered v1 merge diff is read back (as the diff with the replaced arrays as plain
    `jsonArray`s), and patching `a` with the diff READ BACK yields a document that `Equals` `b` and is
    equivalent to it. Relative to the codec contract `V1S.CodecOK` on the paths and values of the
    diff and to render success. -/
theorem v1_text_roundtrip_merge_setmodes (F : FloatEq0) (L : FloatLaws) (nc : NumCodec)
    {m : V1.Metas} {o : Opts} (M : MMode m o) (a b : Json)
    (ha : a.setDoc = true) (hb : b.setDoc = true) (hb' : DPL.memOK b = true)
    (HF : V1S.HashFaithful m o (subterms a ++ subterms b))
    (hc : V1S.CodecOK nc (V1.diffM m a b)) (text : String)
    (hr : V1.renderM nc false (V1.liftDiff (V1.diffM m a b)) = .ok (some text)) :
    ∃ d' r, V1.readDiffM nc text = .ok d' ∧ V1.patchM a d' = .ok r ∧ V1.equals m r b = true ∧
      equivB o r b = true :=
  let ⟨d', r, h1, h2, e⟩ := kit_text M.merge nc a b ha hb hb' (M.kit F L HF) hc text hr
  ⟨d', r, h1, h2, rel1_strip e⟩

theorem v1_text_roundtrip_merge_set (F : FloatEq0) (L : FloatLaws) (nc : NumCodec)
    {m : V1.Metas} (hm : SetMergeMode m) (a b : Json)
    (ha : a.setDoc = true) (hb : b.setDoc = true) (hb' : DPL.memOK b = true)
    (HF : V1S.HashFaithful m [.set] (subterms a ++ subterms b))
    (hc : V1S.CodecOK nc (V1.diffM m a b)) (text : String)
    (hr : V1.renderM nc false (V1.liftDiff (V1.diffM m a b)) = .ok (some text)) :
    ∃ d' r, V1.readDiffM nc text = .ok d' ∧ V1.patchM a d' = .ok r ∧ V1.equals m r b = true ∧
      equivB [.set] r b = true :=
  v1_text_roundtrip_merge_setmodes F L nc hm.mode a b ha hb hb' HF hc text hr

theorem v1_text_roundtrip_merge_mset (F : FloatEq0) (L : FloatLaws) (nc : NumCodec)
    {m : V1.Metas} (hm : MsetMergeMode m) (a b : Json)
    (ha : a.setDoc = true) (hb : b.setDoc = true) (hb' : DPL.memOK b = true)
    (HF : V1S.HashFaithful m [.mset] (subterms a ++ subterms b))
    (hc : V1S.CodecOK nc (V1.diffM m a b)) (text : String)
    (hr : V1.renderM nc false (V1.liftDiff (V1.diffM m a b)) = .ok (some text)) :
    ∃ d' r, V1.readDiffM nc text = .ok d' ∧ V1.patchM a d' = .ok r ∧ V1.equals m r b = true ∧
      equivB [.mset] r b = true :=
  v1_text_roundtrip_merge_setmodes F L nc hm.mode a b ha hb hb' HF hc text hr

end Jd.V1K
