/-
  JdProofs.PatchRenderClosed — property C09 (v2 library, RFC 6902 output) without hypotheses on hunks:
  `HunkOK h ∧ HunkRange h` is PROVED for every hunk of `diffM o a b` in the LIST reading (strict
  strategy), by induction over the hunks of the diff, one case per origin (`DPL.hunk_induct`), and
  statement 3 of JdProps/C09.lean is restated about the library functions of the model (`diffM`,
  `renderPatchOps`, `writePointerPath`) and the independent evaluator `Jd.Spec.eval`. Namespace `Jd.PRC`.

  Results (`o` with `dispatchTag o = .list`, `isMerge o = false`)
   * `diff_gen` / `diffM_gen`: every hunk of `a.Diff(b)` is a generated hunk `Gen M h`, `M = Na + Nb + 1`
     (the three shapes are described at `Gen`); in particular no hunk is at index −1.
     `diffM_hunks_ok`: for `Na + Nb < 2^53`, `∀ h ∈ diffM o a b, HunkOK h ∧ HunkRange h`.
   * `diffM_paths_expressible`: expressible object keys (`keysExpressible`) give expressible paths.
   * `render_diffM_ok_iff` / `render_diffM_err_iff` (no length bound): `RenderPatch(a.Diff(b))` succeeds
     iff every path element of every hunk is expressible, and is an error otherwise; it never panics
     (`Robust.renderPatchOps_ne_panic`); `renderPatchOps_refuses`: ANY diff with an inexpressible path element.
   * `rendered_patch_of_diff_yields_target_closed` (and `…_of_paths`, under the sharp condition on paths).
   * Refusal in terms of the inputs (`q` a path of object keys, `Real.getAt` navigation):
     `refuses_changed_at_bad_path`, `refuses_value_changed_at_bad_path`, `refuses_member_removed`,
     `refuses_member_added`: a changed location at or below a key that is number-like or "-" is always
     refused with an error, never mistranslated. (A changed location below such a key but reached
     through a LIST index in between is covered by `render_diffM_err_iff` only.)

  HYPOTHESES, and why
    * `a.listDoc`, `b.listDoc`, `dispatchTag o = .list`, `isMerge o = false`: the list reading, strict
      strategy (the domain of C09 / C01);
    * `a.wf`, `b.wf` (sorted unique keys = Go map): context lines and added values are sub-documents
      of `a` and `b`; `HunkOK` asks them well-formed;
    * `vfree a`, `vfree b` (decidable): no void marker strictly inside the document, neither as an
      object member (that is `DPL.memOK`, already in the C01 domain) nor as an ARRAY ELEMENT. The
      second half is necessary: `Example.void_element_witness` — `[void]` against `[null]`
      satisfies every hypothesis of the C01 list theorem, the native diff applies, but `RenderPatch`
      silently drops a removal whose first value is void, and the evaluated patch is `[null, void]`.
      The void marker is jd's in-memory "no value"; no reader produces it inside a document, so this
      is a boundary of the model's domain, not a defect of the Go code. The root may be void.
    * `lenLe Na a`, `lenLe Nb b`, `Na + Nb < 2^53` (only for `HunkRange` and the composed theorem):
      list indices travel through a float64. The SUM is needed, not each bound alone: the index
      written for the after-context test is `start + |remove|`, where `start` counts elements of the
      partially patched array (up to `|ys|`) and `remove` holds elements of `xs` (for
      `xs = [c, r₁ … rₙ]`, `ys = [y₁ … yₘ, c, z]` the last hunk sits at `m + 1` and removes `n`
      values);
    * `HashOK`, `ZeroOK`, `finiteNums`, `FloatLaws`: the hypotheses of the C01 list theorem
      (`DPL.diffM_list_correct`), used only by the composed theorems and by
      `refuses_value_changed_at_bad_path`;
    * `keysExpressible a`, `keysExpressible b` (sufficient; the exact condition is on the paths).

  ONE EXCEPTION to `diffM_hunks_ok`, handled separately and NOT excluded from the composed theorems:
  `a` an object and `b` void ("no document"). The Go code (object.go, "different types") builds
  `Add: []JsonNode{n}` without `nodeList`, so the hunk of `{…}.Diff(void)` ADDS THE VOID MARKER: it is
  not a `HunkOK` hunk (`objVoidHunk_not_hunkOK`). `RenderPatch` skips an addition whose first value is
  void, the ops are `test ""`, `remove ""`, and the evaluator yields void (`render_objVoidHunk`,
  `eval_objVoid`). Lists and scalars against void go through `nodeList`.

  NOT covered: set / multiset readings and the merge strategy (C09 is a list-mode property);
  the text layer around the operations (`renderPatchM`: JSON marshalling of the patch document).
-/
import JdProofs.PatchRender
import JdProofs.RealDiff
import JdProofs.RobustReaders
import JdProofs.Eval

namespace Jd.PRC
open Jd Jd.Spec Jd.DPL

/-! ## 0. the decidable predicates on documents -/

/-- a key jd can write as a JSON Pointer token: not number-like (`strconv.Atoi` fails), not "-" -/
def keyOK (k : String) : Bool := (atoi? k).isNone && k != "-"

mutual
/-- every object key of the document is expressible as a JSON Pointer token -/
def keysExpressible : Json → Bool
  | .arr _ xs => keysExprList xs
  | .obj kvs => keysExprKvs kvs
  | _ => true
def keysExprList : List Json → Bool
  | [] => true
  | x :: r => keysExpressible x && keysExprList r
def keysExprKvs : List (String × Json) → Bool
  | [] => true
  | (k, v) :: r => keyOK k && keysExpressible v && keysExprKvs r
end

theorem keyOK_iff (k : String) : keyOK k = true ↔ expressible (.key k) := by
  simp only [keyOK, expressible, Bool.and_eq_true, Option.isNone_iff_eq_none, bne_iff_ne, ne_eq]

theorem keysExprList_eq_all (xs : List Json) : keysExprList xs = xs.all keysExpressible :=
  listP_eq_all rfl (fun _ _ => rfl) xs
theorem keysExprKvs_eq_all (kvs : List (String × Json)) :
    keysExprKvs kvs = kvs.all (fun kv => keyOK kv.1 && keysExpressible kv.2) :=
  listP_eq_all rfl (fun _ _ => rfl) kvs

/-! ### the part of the domain the hunk invariant needs: well-formed, void-free, bounded lengths -/

structure D (N : Nat) (x : Json) : Prop where
  wf : x.wf = true
  vf : vfree x = true
  len : lenLe N x = true

structure DL (N : Nat) (xs : List Json) : Prop where
  wf : wfList xs = true
  vf : vfreeList xs = true
  len : lenLeList N xs = true

structure DK (N : Nat) (kvs : List (String × Json)) : Prop where
  wf : wfKvs kvs = true
  vf : vfreeKvs kvs = true
  len : lenLeKvs N kvs = true

/-- the list and member forms say `D` of every element, none of them the void marker -/
theorem dl_iff {N : Nat} {xs : List Json} : DL N xs ↔ ∀ x ∈ xs, D N x ∧ x.isVoid = false := by
  constructor
  · rintro ⟨h1, h2, h3⟩ x hx
    have h2 := List.all_eq_true.1 (vfreeList_eq_all xs ▸ h2) x hx
    simp only [Bool.and_eq_true, Bool.not_eq_true'] at h2
    exact ⟨⟨List.all_eq_true.1 (wfList_eq_all xs ▸ h1) x hx, h2.2,
      List.all_eq_true.1 (lenLeList_eq_all N xs ▸ h3) x hx⟩, h2.1⟩
  · intro h
    refine ⟨?_, ?_, ?_⟩
    · rw [wfList_eq_all, List.all_eq_true]; exact fun x hx => (h x hx).1.wf
    · rw [vfreeList_eq_all, List.all_eq_true]
      exact fun x hx => by rw [(h x hx).2, (h x hx).1.vf]; rfl
    · rw [lenLeList_eq_all, List.all_eq_true]; exact fun x hx => (h x hx).1.len

theorem dk_iff {N : Nat} {kvs : List (String × Json)} :
    DK N kvs ↔ ∀ kv ∈ kvs, D N kv.2 ∧ kv.2.isVoid = false := by
  constructor
  · rintro ⟨h1, h2, h3⟩ kv hkv
    have h2 := List.all_eq_true.1 (vfreeKvs_eq_all kvs ▸ h2) kv hkv
    simp only [Bool.and_eq_true, Bool.not_eq_true'] at h2
    exact ⟨⟨List.all_eq_true.1 (wfKvs_eq_all kvs ▸ h1) kv hkv, h2.2,
      List.all_eq_true.1 (lenLeKvs_eq_all N kvs ▸ h3) kv hkv⟩, h2.1⟩
  · intro h
    refine ⟨?_, ?_, ?_⟩
    · rw [wfKvs_eq_all, List.all_eq_true]; exact fun kv hkv => (h kv hkv).1.wf
    · rw [vfreeKvs_eq_all, List.all_eq_true]
      exact fun kv hkv => by rw [(h kv hkv).2, (h kv hkv).1.vf]; rfl
    · rw [lenLeKvs_eq_all, List.all_eq_true]; exact fun kv hkv => (h kv hkv).1.len

theorem DL.nil (N : Nat) : DL N [] := ⟨rfl, rfl, rfl⟩

theorem dl_cons {N : Nat} {x : Json} {r : List Json} :
    DL N (x :: r) ↔ (D N x ∧ x.isVoid = false) ∧ DL N r := by
  rw [dl_iff, dl_iff, List.forall_mem_cons]

theorem DL.append {N : Nat} {xs ys : List Json} (h1 : DL N xs) (h2 : DL N ys) : DL N (xs ++ ys) :=
  dl_iff.2 fun x hx => (List.mem_append.1 hx).elim (dl_iff.1 h1 x) (dl_iff.1 h2 x)

theorem DL.single {N : Nat} {x : Json} (h : D N x) (hv : x.isVoid = false) : DL N [x] :=
  dl_cons.2 ⟨⟨h, hv⟩, DL.nil N⟩

theorem DL.of_mem {N : Nat} {xs : List Json} (h : DL N xs) {x : Json} (hx : x ∈ xs) :
    D N x ∧ x.isVoid = false :=
  dl_iff.1 h x hx

theorem DL.sublist {N : Nat} {xs ys : List Json} (h : DL N ys) (hs : xs.Sublist ys) : DL N xs :=
  dl_iff.2 fun x hx => dl_iff.1 h x (hs.subset hx)

theorem DK.of_mem {N : Nat} {kvs : List (String × Json)} (h : DK N kvs) {k : String} {v : Json}
    (hm : (k, v) ∈ kvs) : D N v ∧ v.isVoid = false :=
  dk_iff.1 h (k, v) hm

theorem DK.lookup {N : Nat} {kvs : List (String × Json)} (h : DK N kvs) {k : String} {v : Json}
    (hl : alookup k kvs = some v) : D N v ∧ v.isVoid = false :=
  h.of_mem (mem_of_alookup hl)

theorem d_arr {N : Nat} {t : Tag} {xs : List Json} :
    D N (.arr t xs) ↔ xs.length ≤ N ∧ DL N xs := by
  constructor
  · rintro ⟨h1, h2, h3⟩
    simp only [Json.wf] at h1
    simp only [vfree] at h2
    simp only [lenLe, Bool.and_eq_true, decide_eq_true_eq] at h3
    exact ⟨h3.1, ⟨h1, h2, h3.2⟩⟩
  · rintro ⟨hl, ⟨g1, g2, g3⟩⟩
    exact ⟨by simpa [Json.wf] using g1, by simpa [vfree] using g2, by simp [lenLe, hl, g3]⟩

theorem d_obj {N : Nat} {kvs : List (String × Json)} :
    D N (.obj kvs) ↔ keysSorted kvs = true ∧ DK N kvs := by
  constructor
  · rintro ⟨h1, h2, h3⟩
    simp only [Json.wf, Bool.and_eq_true] at h1
    simp only [vfree] at h2
    simp only [lenLe] at h3
    exact ⟨h1.1, ⟨h1.2, h2, h3⟩⟩
  · rintro ⟨hs, ⟨g1, g2, g3⟩⟩
    exact ⟨by simp [Json.wf, hs, g1], by simpa [vfree] using g2, by simpa [lenLe] using g3⟩

theorem DL.wf_of_mem {N : Nat} {xs : List Json} (h : DL N xs) {x : Json} (hx : x ∈ xs) : x.wf = true :=
  (h.of_mem hx).1.wf

theorem DL.noVoid {N : Nat} {xs : List Json} (h : DL N xs) : noVoid xs :=
  fun _ hx => (h.of_mem hx).2

/-! ## 1. the invariant of generated hunks -/

/-- what every hunk of a list-mode diff looks like (`M` bounds the indices): values are real and
    well-formed, the hunk is not empty, indices are non-negative and below `M`, and the hunk is either
    a plain replacement (no context, at most one value removed), or a list hunk `pp ++ [idx s]` with
    one line of before- and of after-context, or (third shape: `subAfter`, the wholesale replacement
    of a typed `jsonList` element by a plain `jsonArray` when nothing was accumulated) a replacement
    of the element at `pp ++ [idx s]` with NO before-context and one line of after-context -/
structure Gen (M : Nat) (h : Hunk) : Prop where
  remNoVoid : noVoid h.remove
  addNoVoid : noVoid h.add
  wfAdd : wfList h.add = true
  nonEmpty : (h.remove.isEmpty && h.add.isEmpty) = false
  pathIdx : ∀ i, PathElem.idx i ∈ h.path → 0 ≤ i ∧ i < (M : Int)
  shape : (h.before = [] ∧ h.after = [] ∧ h.remove.length ≤ 1 ∧
            ∀ i, lastIdx? h.path = some i → i + 1 < (M : Int)) ∨
          (∃ (pp : Path) (s : Nat) (prev after : Json), h.path = pp ++ [.idx (s : Int)] ∧
            h.before = [prev] ∧ h.after = [after] ∧ prev.wf = true ∧ after.wf = true ∧
            s + h.remove.length < M) ∨
          (∃ (pp : Path) (s : Nat) (after : Json), h.path = pp ++ [.idx (s : Int)] ∧
            h.before = [] ∧ h.after = [after] ∧ after.wf = true ∧ h.remove.length ≤ 1 ∧
            s + 1 < M)

theorem wfList_nodeList {b : Json} (h : b.wf = true) : wfList b.nodeList = true := by
  unfold Json.nodeList
  split <;> simp [wfList, h]

theorem noVoid_nodeList (b : Json) : noVoid b.nodeList := by
  intro x hx
  unfold Json.nodeList at hx
  split at hx
  · cases hx
  · simp only [List.mem_singleton] at hx; subst hx
    rename_i h; simpa using h

/-- a generated hunk satisfies the side conditions of the rendering theorem -/
theorem Gen.hunkOK {M : Nat} {h : Hunk} (g : Gen M h) : HunkOK h where
  remNoVoid := g.remNoVoid
  addNoVoid := g.addNoVoid
  wfBefore := by
    rcases g.shape with ⟨h1, _⟩ | ⟨pp, s, prev, after, _, h1, _, hw, _⟩ | ⟨pp, s, after, _, h1, _⟩
    · rw [h1]; rfl
    · rw [h1]; simp [wfList, hw]
    · rw [h1]; rfl
  wfAfter := by
    rcases g.shape with ⟨_, h1, _⟩ | ⟨pp, s, prev, after, _, _, h1, _, hw, _⟩ |
      ⟨pp, s, after, _, _, h1, hw, _⟩
    · rw [h1]; rfl
    · rw [h1]; simp [wfList, hw]
    · rw [h1]; simp [wfList, hw]
  wfAdd := g.wfAdd
  append := by
    intro hl
    have := (g.pathIdx _ (lastIdx_mem hl)).1
    omega

theorem Gen.hunkRange {M : Nat} {h : Hunk} (g : Gen M h) (hM : M ≤ 2 ^ 53) : HunkRange h where
  path := by
    intro i hi
    have := g.pathIdx i hi
    omega
  ctx := by
    intro i hi
    have h0 := g.pathIdx i (lastIdx_mem hi)
    rcases g.shape with ⟨_, _, h3, h4⟩ | ⟨pp, s, prev, after, hp, _, _, _, _, hs⟩ |
      ⟨pp, s, after, hp, _, _, _, h3, hs⟩
    · have := h4 i hi
      omega
    · rw [hp, lastIdx_concat_idx] at hi
      injection hi with hi
      omega
    · rw [hp, lastIdx_concat_idx] at hi
      injection hi with hi
      omega

/-- a list hunk: an `edit` step of the alignment -/
theorem gen_editHunk {M N N' : Nat} {p : Path} {s : Nat} {prev after : Json} {R A : List Json}
    (hp : ∀ i, PathElem.idx i ∈ p → 0 ≤ i ∧ i + 1 < (M : Int))
    (hR : DL N R) (hA : DL N' A) (hprev : prev.wf = true) (hafter : after.wf = true)
    (hs : s + R.length < M) (hne : R ≠ [] ∨ A ≠ []) :
    Gen M { path := p ++ [.idx (s : Int)], before := [prev], remove := R, add := A,
            after := [after] } := by
  refine ⟨hR.noVoid, hA.noVoid, hA.wf, by cases R <;> cases A <;> simp_all, ?_,
    .inr (.inl ⟨p, s, prev, after, rfl, rfl, rfl, hprev, hafter, hs⟩)⟩
  intro i hi
  simp only [List.mem_append, List.mem_singleton] at hi
  rcases hi with hi | hi
  · have := hp i hi; omega
  · injection hi with hi; omega

/-! ## 2. every hunk of a list-mode diff is a generated hunk -/

/-- indices of the path prefix handed down by the recursion -/
def PathOK (M : Nat) (p : Path) : Prop := ∀ i, PathElem.idx i ∈ p → 0 ≤ i ∧ i + 1 < (M : Int)

theorem PathOK.nil (M : Nat) : PathOK M [] := fun _ h => by cases h

theorem PathOK.key {M : Nat} {p : Path} (h : PathOK M p) (k : String) : PathOK M (p ++ [.key k]) := by
  intro i hi
  simp only [List.mem_append, List.mem_singleton] at hi
  rcases hi with hi | hi
  · exact h i hi
  · cases hi

theorem PathOK.idx {M : Nat} {p : Path} (h : PathOK M p) {k : Nat} (hk : k + 1 < M) :
    PathOK M (p ++ [.idx (k : Int)]) := by
  intro i hi
  simp only [List.mem_append, List.mem_singleton] at hi
  rcases hi with hi | hi
  · exact h i hi
  · injection hi with hi; omega

/-- a plain replacement hunk at the path `p` -/
theorem gen_plain {M : Nat} {p : Path} (hp : PathOK M p) {rem add : List Json}
    (hr : noVoid rem) (ha : noVoid add) (hw : wfList add = true)
    (hne : (rem.isEmpty && add.isEmpty) = false) (hl : rem.length ≤ 1) :
    Gen M { path := p, remove := rem, add := add } := by
  refine ⟨hr, ha, hw, hne, fun i hi => ?_, .inl ⟨rfl, rfl, hl, fun i hi => ?_⟩⟩
  · have := hp i hi; omega
  · exact (hp i (lastIdx_mem hi)).2

theorem noVoid_single {x : Json} (h : x.isVoid = false) : noVoid [x] := by
  intro y hy; simp only [List.mem_singleton] at hy; subst hy; exact h

theorem isVoid_eq {x : Json} (h : x.isVoid = true) : x = .void := Json.eq_void_of_isVoid h

section Induction
variable (Na Nb : Nat)

/-- **the hunk invariant**, one case per origin of a hunk (`DPL.hunk_induct`; list mode, strict
    strategy): `Na` bounds the array lengths of the first document, `Nb` those of the second;
    the indices written stay below `Na + Nb + 1`.
    The second document must not be void when the first is an object (that hunk adds the
    void marker: see `objVoidHunk`). -/
theorem diff_gen (o : Opts) (ho : dispatchTag o = .list) :
    ∀ a b, a.listDoc = true → b.listDoc = true → ∀ p, ∀ h ∈ diffNode o false a b p,
      D Na a → D Nb b → (a.isObj && b.isVoid) = false → PathOK (Na + Nb + 1) p →
      Gen (Na + Nb + 1) h := by
  apply hunk_induct ho (P := fun a b p h => D Na a → D Nb b → (a.isObj && b.isVoid) = false →
    PathOK (Na + Nb + 1) p → Gen (Na + Nb + 1) h)
  · -- an `edit` step of the alignment
    intro t t' xs ys p s prev R A after _ _ hne hs hprev hR hA hafter da db _ hp
    obtain ⟨la, da'⟩ := d_arr.1 da
    obtain ⟨lb, db'⟩ := d_arr.1 db
    have lR := hR.length_le
    refine gen_editHunk (s := s) hp (da'.sublist hR) (db'.sublist hA) ?_ ?_ (by omega) hne
    · rcases hprev with rfl | hprev
      · rfl
      · exact db'.wf_of_mem hprev
    · rcases hafter with rfl | hafter
      · rfl
      · exact da'.wf_of_mem hafter
  · -- a hunk of the sub-diff of two elements, below an index
    intro t t' xs ys p x y j n nx h hlx hly hx hy hs hj hnx ih hm da db _ hp
    obtain ⟨la, da'⟩ := d_arr.1 da
    obtain ⟨lb, db'⟩ := d_arr.1 db
    obtain ⟨dx, _⟩ := da'.of_mem hx
    obtain ⟨dy, hyv⟩ := db'.of_mem hy
    have hnx' : nx.wf = true := by
      rcases hnx with rfl | hnx
      · rfl
      · exact da'.wf_of_mem hnx
    have hpj := hp.idx (M := Na + Nb + 1) (k := j) (by omega)
    rcases subAfter_diffNode_cases o ho (listDocList_iff.1 hlx x hx) (listDocList_iff.1 hly y hy) hs
      p (j : Int) n nx with e | ⟨_, xs', ys', rfl, rfl, _, e⟩
    · rw [e] at hm
      exact ih h hm dx dy (by simp [hyv]) hpj
    · -- a typed list replaced wholesale by a plain array: the third shape of `Gen`
      rw [e, List.mem_singleton] at hm
      subst hm
      refine ⟨noVoid_single rfl, noVoid_single rfl, by simp [wfList, dy.wf], by simp,
        fun i hi => ?_, .inr (.inr ⟨p, j, nx, rfl, rfl, rfl, hnx', by simp, by omega⟩)⟩
      have := hpj i hi; omega
  · -- a hunk of the sub-diff of a member both objects hold
    intro kvs kvs' p k v v' h _ _ hv hv' _ ih da db _ hp
    obtain ⟨dv, _⟩ := (d_obj.1 da).2.of_mem hv
    obtain ⟨dv', hvv'⟩ := (d_obj.1 db).2.lookup hv'
    exact ih dv dv' (by simp [hvv']) (hp.key k)
  · -- a member only the first object holds
    intro kvs kvs' p k v _ hv _ da _ _ hp
    obtain ⟨_, hvv⟩ := (d_obj.1 da).2.of_mem hv
    rw [nodeList_of_notVoid hvv]
    exact gen_plain (hp.key k) (noVoid_single hvv) (fun _ h => by cases h) rfl (by simp) (by simp)
  · -- a member only the second object holds
    intro kvs kvs' p k v' _ hv' _ _ db _ hp
    obtain ⟨dv, hv⟩ := (d_obj.1 db).2.of_mem hv'
    rw [nodeList_of_notVoid hv]
    exact gen_plain (hp.key k) (fun _ h => by cases h) (noVoid_single hv)
      (by simp [wfList, dv.wf]) (by simp) (by simp)
  · -- a value replaced as a whole
    intro a b p R A _ _ _ hne hR hA _ db hv hp
    have hR1 : noVoid R ∧ R.length ≤ 1 ∧ (a.isVoid = false → R ≠ []) := by
      rcases hR with rfl | ⟨_, _, _, rfl⟩
      · exact ⟨noVoid_nodeList a, nodeList_length_le a, fun h => by simp [Json.nodeList, h]⟩
      · exact ⟨noVoid_single rfl, by simp, fun _ => by simp⟩
    have hA1 : noVoid A ∧ wfList A = true ∧ (b.isVoid = false → A ≠ []) := by
      rcases hA with rfl | ⟨kvs, rfl, rfl⟩
      · exact ⟨noVoid_nodeList b, wfList_nodeList db.wf, fun h => by simp [Json.nodeList, h]⟩
      · have hv' : b.isVoid = false := by simpa [Json.isObj] using hv
        exact ⟨noVoid_single hv', by simp [wfList, db.wf], fun _ => by simp⟩
    refine gen_plain hp hR1.1 hA1.1 hA1.2.1 ?_ hR1.2.1
    rcases hne with ha | hb
    · cases R with
      | nil => exact absurd rfl (hR1.2.2 ha)
      | cons _ _ => rfl
    · cases A with
      | nil => exact absurd rfl (hA1.2.2 hb)
      | cons _ _ => exact Bool.and_false _

end Induction

/-! ## 3. the paths of the diff are expressible when the keys of the documents are -/

/-- every element of the path can be written as a JSON Pointer token -/
def PE (p : Path) : Prop := ∀ e ∈ p, expressible e

theorem PE.nil : PE [] := fun _ h => by cases h

theorem PE.snoc {p : Path} (h : PE p) {e : PathElem} (he : expressible e) : PE (p ++ [e]) := by
  intro e' he'
  simp only [List.mem_append, List.mem_singleton] at he'
  rcases he' with he' | rfl
  · exact h e' he'
  · exact he

theorem PE.idx {p : Path} (h : PE p) (i : Int) : PE (p ++ [.idx i]) :=
  h.snoc (e := .idx i) trivial

theorem keysExprKvs_mem {kvs : List (String × Json)} {k : String} {v : Json}
    (h : keysExprKvs kvs = true) (hm : (k, v) ∈ kvs) : keyOK k = true ∧ keysExpressible v = true :=
  Bool.and_eq_true_iff.1 (List.all_eq_true.1 (keysExprKvs_eq_all kvs ▸ h) (k, v) hm)

theorem keysExprList_mem {xs : List Json} {x : Json} (h : keysExprList xs = true) (hm : x ∈ xs) :
    keysExpressible x = true :=
  List.all_eq_true.1 (keysExprList_eq_all xs ▸ h) x hm

theorem diff_paths_expressible (o : Opts) (ho : dispatchTag o = .list) :
    ∀ a b, a.listDoc = true → b.listDoc = true → ∀ p, ∀ h ∈ diffNode o false a b p,
      keysExpressible a = true → keysExpressible b = true → PE p → PE h.path := by
  apply hunk_induct ho (P := fun a b p h => keysExpressible a = true → keysExpressible b = true →
    PE p → PE h.path)
  · exact fun _ _ _ _ _ _ _ _ _ _ _ _ _ _ _ _ _ _ _ _ hp => hp.idx _
  · intro t t' xs ys p x y j n nx h _ _ hx hy _ _ _ ih hm ka kb hp
    simp only [keysExpressible] at ka kb
    obtain ⟨h0, hm0, hp0, _⟩ := mem_subAfter' hm
    rw [hp0]
    exact ih h0 hm0 (keysExprList_mem ka hx) (keysExprList_mem kb hy) (hp.idx _)
  · intro kvs kvs' p k v v' h _ _ hv hv' _ ih ka kb hp
    simp only [keysExpressible] at ka kb
    exact ih (keysExprKvs_mem ka hv).2 (keysExprKvs_mem kb (mem_of_alookup hv')).2
      (hp.snoc ((keyOK_iff k).1 (keysExprKvs_mem ka hv).1))
  · intro kvs kvs' p k v _ hv _ ka _ hp
    simp only [keysExpressible] at ka
    exact hp.snoc ((keyOK_iff k).1 (keysExprKvs_mem ka hv).1)
  · intro kvs kvs' p k v' _ hv' _ _ kb hp
    simp only [keysExpressible] at kb
    exact hp.snoc ((keyOK_iff k).1 (keysExprKvs_mem kb hv').1)
  · exact fun _ _ _ _ _ _ _ _ _ _ _ _ _ hp => hp

/-! ## 4. rendering a generated hunk: succeeds iff its path is expressible; never panics -/

theorem wtok_of_expressible {e : PathElem} (h : expressible e) : ∃ t, wtok e = some t := by
  cases e with
  | key k =>
    obtain ⟨h1, h2⟩ := h
    exact ⟨ptrEscape k, by simp [wtok, h1, h2]⟩
  | idx i => exact ⟨_, rfl⟩
  | _ => exact absurd h (by simp [expressible])

theorem wpp_ok {p : Path} (h : PE p) : ∃ s, writePointerPath p = .ok s := by
  simp only [writePointerPath_eq_wpOf]
  refine wpOf_ok_iff.2 fun e he => ?_
  obtain ⟨t, ht⟩ := wtok_of_expressible (h e he)
  rw [ht]; rfl

theorem renderPatchHunk_ne_panic (h : Hunk) : renderPatchHunk h ≠ .panic :=
  Robust.renderPatchHunk_ne_panic h

/-- REFUSAL, one hunk: an inexpressible path element makes the rendering fail with an error -/
theorem renderPatchHunk_refuses {h : Hunk} (hb : ∃ e ∈ h.path, ¬ expressible e) :
    renderPatchHunk h = .err := by
  rw [renderPatchHunk_eq]
  unfold renderPatchHunk'
  rw [writePointerPath_refuses hb]
  rfl

theorem ctxOps_single_ok {h : Hunk} {pp : Path} {s : Int} (hp : h.path = pp ++ [.idx s]) (he : PE pp)
    (c : Json) (f : Int → Int) : ∃ bo, ctxOps h [c] f = .ok bo := by
  cases hv : c.isVoid with
  | true => rw [isVoid_eq hv]; exact ⟨_, rfl⟩
  | false =>
    obtain ⟨t, ht⟩ := wpp_ok (he.idx (f s))
    exact ⟨_, ctxOps_single hv (by rw [hp]; exact lastIdx_concat_idx pp s)
      (by rw [hp, setLastIdx_concat]; exact ht)⟩

theorem PE.of_append {p q : Path} (h : PE (p ++ q)) : PE p :=
  fun e he => h e (List.mem_append_left _ he)

/-- a generated hunk whose path is expressible renders -/
theorem render_gen_ok {M : Nat} {h : Hunk} (g : Gen M h) (he : PE h.path) :
    ∃ ops, renderPatchHunk h = .ok ops := by
  obtain ⟨s, hs⟩ := wpp_ok he
  rcases g.shape with ⟨h1, h2, _, _⟩ | ⟨pp, s', prev, after, hp, h1, h2, _, _, _⟩ |
    ⟨pp, s', after, hp, h1, h2, _⟩
  · exact ⟨_, renderPatchHunk_of hs g.nonEmpty (by rw [h1]; simp) (by rw [h2]; simp)
      (by rw [h1]; rfl) (by rw [h2]; rfl)⟩
  · have hpp : PE pp := by rw [hp] at he; exact he.of_append
    obtain ⟨bo, hbo⟩ := ctxOps_single_ok hp hpp prev (fun i => i - 1)
    obtain ⟨ao, hao⟩ := ctxOps_single_ok hp hpp after (fun i => i + (h.remove.length : Int))
    exact ⟨_, renderPatchHunk_of hs g.nonEmpty (by rw [h1]; simp) (by rw [h2]; simp)
      (h1 ▸ hbo) (h2 ▸ hao)⟩
  · have hpp : PE pp := by rw [hp] at he; exact he.of_append
    obtain ⟨ao, hao⟩ := ctxOps_single_ok hp hpp after (fun i => i + (h.remove.length : Int))
    exact ⟨_, renderPatchHunk_of hs g.nonEmpty (by rw [h1]; simp) (by rw [h2]; simp)
      (by rw [h1]; rfl) (h2 ▸ hao)⟩

/-! ### a whole diff -/

theorem renderPatchOps_ok_of_all : ∀ {d : Diff}, (∀ h ∈ d, ∃ ops, renderPatchHunk h = .ok ops) →
    ∃ ops, renderPatchOps d = .ok ops
  | [], _ => ⟨[], rfl⟩
  | h :: d, H => by
    obtain ⟨a, ha⟩ := H h List.mem_cons_self
    obtain ⟨b, hb⟩ := renderPatchOps_ok_of_all (d := d) (fun h' hm => H h' (List.mem_cons_of_mem _ hm))
    exact ⟨a ++ b, by rw [renderPatchOps, ha, hb]; rfl⟩

/-- REFUSAL, a whole diff (any diff): one hunk with an inexpressible path element makes
    `RenderPatch` fail with an error -/
theorem renderPatchOps_refuses {d : Diff} {h : Hunk} (hm : h ∈ d)
    (hb : ∃ e ∈ h.path, ¬ expressible e) : renderPatchOps d = .err := by
  cases hr : renderPatchOps d with
  | err => rfl
  | panic => exact absurd hr (Robust.renderPatchOps_ne_panic d)
  | ok ops =>
    exfalso
    induction d generalizing ops with
    | nil => cases hm
    | cons h0 d ih =>
      obtain ⟨a, b, ha, hb', _⟩ := renderPatchOps_ok_cons hr
      rcases List.mem_cons.1 hm with rfl | hm
      · rw [renderPatchHunk_refuses hb] at ha; cases ha
      · exact ih hm b hb'

/-! ### every document has a length bound (so that the statements about success / refusal of the
    rendering need none) -/

mutual
def maxLen : Json → Nat
  | .arr _ xs => max xs.length (maxLenList xs)
  | .obj kvs => maxLenKvs kvs
  | _ => 0
def maxLenList : List Json → Nat
  | [] => 0
  | x :: r => max (maxLen x) (maxLenList r)
def maxLenKvs : List (String × Json) → Nat
  | [] => 0
  | (_, v) :: r => max (maxLen v) (maxLenKvs r)
end

theorem lenLe_mono {N N' : Nat} (h : N ≤ N') : ∀ (a : Json), lenLe N a = true → lenLe N' a = true := by
  refine jsonIndScalar (fun a h1 h2 _ => ?_) (fun t xs ih ha => ?_) (fun kvs ih ha => ?_)
  · cases a <;> first | rfl | exact absurd rfl (h1 _ _) | exact absurd rfl (h2 _)
  · simp only [lenLe, Bool.and_eq_true, decide_eq_true_eq, lenLeList_eq_all, List.all_eq_true] at ha ⊢
    exact ⟨by omega, fun x hx => ih x hx (ha.2 x hx)⟩
  · simp only [lenLe, lenLeKvs_eq_all, List.all_eq_true] at ha ⊢
    exact fun kv hkv => ih kv.1 kv.2 hkv (ha kv hkv)

theorem lenLeList_mono {N N' : Nat} (h : N ≤ N') (xs : List Json) (ha : lenLeList N xs = true) :
    lenLeList N' xs = true := by
  rw [lenLeList_eq_all, List.all_eq_true] at ha ⊢
  exact fun x hx => lenLe_mono h x (ha x hx)

theorem lenLeKvs_mono {N N' : Nat} (h : N ≤ N') (kvs : List (String × Json))
    (ha : lenLeKvs N kvs = true) : lenLeKvs N' kvs = true := by
  rw [lenLeKvs_eq_all, List.all_eq_true] at ha ⊢
  exact fun kv hkv => lenLe_mono h kv.2 (ha kv hkv)

mutual
theorem lenLe_maxLen : ∀ (a : Json), lenLe (maxLen a) a = true
  | .arr _ xs => by
    simp only [lenLe, maxLen, Bool.and_eq_true]
    exact ⟨decide_eq_true (Nat.le_max_left _ _), lenLeList_mono (Nat.le_max_right _ _) xs (lenLeList_maxLen xs)⟩
  | .obj kvs => by
    simp only [lenLe, maxLen]
    exact lenLeKvs_maxLen kvs
  | .void => rfl
  | .null => rfl
  | .bool _ => rfl
  | .num _ => rfl
  | .str _ => rfl
theorem lenLeList_maxLen : ∀ (xs : List Json), lenLeList (maxLenList xs) xs = true
  | [] => rfl
  | x :: r => by
    simp only [lenLeList, maxLenList, Bool.and_eq_true]
    exact ⟨lenLe_mono (Nat.le_max_left _ _) x (lenLe_maxLen x),
      lenLeList_mono (Nat.le_max_right _ _) r (lenLeList_maxLen r)⟩
theorem lenLeKvs_maxLen : ∀ (kvs : List (String × Json)), lenLeKvs (maxLenKvs kvs) kvs = true
  | [] => rfl
  | (_, v) :: r => by
    simp only [lenLeKvs, maxLenKvs, Bool.and_eq_true]
    exact ⟨lenLe_mono (Nat.le_max_left _ _) v (lenLe_maxLen v),
      lenLeKvs_mono (Nat.le_max_right _ _) r (lenLeKvs_maxLen r)⟩
end

/-! ## 5. the theorems about `a.Diff(b)` -/

theorem memOKList_of_vfree : ∀ (xs : List Json), vfreeList xs = true → memOKList xs = true :=
  fun xs h => memOK_of_vfree (.arr .raw xs) h

theorem memOKKvs_of_vfree : ∀ (kvs : List (String × Json)), vfreeKvs kvs = true → memOKKvs kvs = true :=
  fun kvs h => memOK_of_vfree (.obj kvs) h

/-- the one diff whose hunk is not a `HunkOK` hunk: an object against "no document" -/
def objVoidHunk (kvs : List (String × Json)) : Hunk :=
  { path := [], remove := [Json.obj kvs], add := [.void] }

/-- the exceptional pair: an object against "no document" -/
theorem objVoid_of {a b : Json} (h : (a.isObj && b.isVoid) = true) : ∃ kvs, a = .obj kvs ∧ b = .void := by
  simp only [Bool.and_eq_true] at h
  cases a with
  | obj kvs => exact ⟨kvs, rfl, isVoid_eq h.2⟩
  | _ => simp [Json.isObj] at h

theorem diffM_obj_void (o : Opts) (hm : isMerge o = false) (kvs : List (String × Json)) :
    diffM o (.obj kvs) .void = [objVoidHunk kvs] := by
  unfold diffM
  rw [hm, diffNode_obj_other o kvs .void (fun _ h => by cases h)]
  rfl

theorem render_objVoidHunk (kvs : List (String × Json)) :
    renderPatchOps [objVoidHunk kvs] =
      .ok [{ op := "test", path := "", value := .obj kvs }, { op := "remove", path := "", value := .obj kvs }] := by
  rw [renderPatchOps, renderPatchHunk_of (h := objVoidHunk kvs) writePointerPath_nil rfl
    (Nat.zero_le 1) (Nat.zero_le 1) rfl rfl]
  rfl

/-- FINDING (boundary, not a defect of the Go code: the void marker is not a JSON value): the hunk of
    `{…}.Diff(void)` adds the void marker, so it is not a `HunkOK` hunk -/
theorem objVoidHunk_not_hunkOK (kvs : List (String × Json)) : ¬ HunkOK (objVoidHunk kvs) := by
  intro h
  have := h.addNoVoid .void (by simp [objVoidHunk])
  simp [Json.isVoid] at this

section Main
variable (o : Opts) (ho : dispatchTag o = .list) (hm : isMerge o = false) (a b : Json)
  (ha1 : a.listDoc = true) (ha2 : a.wf = true) (ha4 : vfree a = true)
  (hb1 : b.listDoc = true) (hb2 : b.wf = true) (hb4 : vfree b = true)
  {Na Nb : Nat} (la : lenLe Na a = true) (lb : lenLe Nb b = true)
include ho hm ha1 ha2 ha4 hb1 hb2 hb4 la lb

/-- every hunk of `a.Diff(b)` is a generated hunk (`Gen`), except for an object against void -/
theorem diffM_gen (hv : (a.isObj && b.isVoid) = false) : ∀ h ∈ diffM o a b, Gen (Na + Nb + 1) h := by
  unfold diffM
  rw [hm]
  exact fun h hm => diff_gen Na Nb o ho a b ha1 hb1 [] h hm ⟨ha2, ha4, la⟩ ⟨hb2, hb4, lb⟩ hv (PathOK.nil _)

/-- **HunkOK / HunkRange are theorems about `Diff`** (list reading): every hunk of `a.Diff(b)`
    satisfies the side conditions of the rendering theorem of C09 -/
theorem diffM_hunks_ok (hN : Na + Nb < 2 ^ 53) (hv : (a.isObj && b.isVoid) = false) :
    ∀ h ∈ diffM o a b, HunkOK h ∧ HunkRange h := by
  intro h hh
  have g := diffM_gen o ho hm a b ha1 ha2 ha4 hb1 hb2 hb4 la lb hv h hh
  exact ⟨g.hunkOK, g.hunkRange (by omega)⟩

omit ha2 ha4 hb2 hb4 la lb in
/-- the paths of `a.Diff(b)` are expressible when all object keys of `a` and `b` are -/
theorem diffM_paths_expressible (ka : keysExpressible a = true) (kb : keysExpressible b = true) :
    ∀ h ∈ diffM o a b, PE h.path := by
  unfold diffM
  rw [hm]
  exact fun h hm => diff_paths_expressible o ho a b ha1 hb1 [] h hm ka kb PE.nil

omit la lb in
/-- **when `RenderPatch` succeeds on `a.Diff(b)`**: exactly when every path element of every hunk is
    expressible (an object key that is not number-like and not "-", or a list index) -/
theorem render_diffM_ok_iff :
    (∃ ops, renderPatchOps (diffM o a b) = .ok ops) ↔ ∀ h ∈ diffM o a b, PE h.path := by
  constructor
  · rintro ⟨ops, hr⟩ h hh e he
    refine Classical.byContradiction fun hx => ?_
    rw [renderPatchOps_refuses hh ⟨e, he, hx⟩] at hr
    cases hr
  · intro hp
    cases hv : (a.isObj && b.isVoid) with
    | false =>
      exact renderPatchOps_ok_of_all fun h hh =>
        render_gen_ok (diffM_gen o ho hm a b ha1 ha2 ha4 hb1 hb2 hb4 (lenLe_maxLen a) (lenLe_maxLen b)
          hv h hh) (hp h hh)
    | true =>
      obtain ⟨kvs, rfl, rfl⟩ := objVoid_of hv
      rw [diffM_obj_void o hm, render_objVoidHunk]
      exact ⟨_, rfl⟩

omit la lb in
/-- **REFUSAL on generated diffs**: otherwise `RenderPatch` returns an error (never a panic, never a
    mistranslated patch) -/
theorem render_diffM_err_iff :
    renderPatchOps (diffM o a b) = .err ↔ ∃ h ∈ diffM o a b, ∃ e ∈ h.path, ¬ expressible e := by
  constructor
  · intro he
    refine Classical.byContradiction fun hn => ?_
    have hp : ∀ h ∈ diffM o a b, PE h.path := fun h hh e hee =>
      Classical.byContradiction fun hx => hn ⟨h, hh, e, hee, hx⟩
    obtain ⟨ops, hr⟩ := (render_diffM_ok_iff o ho hm a b ha1 ha2 ha4 hb1 hb2 hb4).2 hp
    rw [hr] at he; cases he
  · rintro ⟨h, hh, hb⟩
    exact renderPatchOps_refuses hh hb

end Main

/-! ## 6. C09 on the source, without the hunk hypothesis -/

theorem eval_objVoid (L : FloatLaws) {kvs : List (String × Json)} (g : Good (.obj kvs)) :
    eval (.obj kvs)
      (([{ op := "test", path := "", value := .obj kvs },
         { op := "remove", path := "", value := .obj kvs }] : List PatchOp).map PatchOp.toSpec) =
      some .void := by
  have hs : equivB [] (Json.obj kvs) (Json.obj kvs) = true := DPL.specEq_refl L g
  have hp : parsePointer "" = some [] := by decide
  simp [eval, evalOp, PatchOp.toSpec, hp, getP, removeP, Json.isVoid, hs]

/-- **C09, statement 3, closed** (sharp form): no hypothesis on the hunks, only
    that the paths of the diff are expressible, which is exactly the condition under which
    `RenderPatch` succeeds (`render_diffM_ok_iff`). -/
theorem rendered_patch_of_diff_yields_target_of_paths (L : FloatLaws) (o : Opts)
    (ho : dispatchTag o = .list) (hm : isMerge o = false) (a b : Json)
    (ha1 : a.listDoc = true) (ha2 : a.wf = true) (ha3 : a.finiteNums = true) (ha4 : vfree a = true)
    (hb1 : b.listDoc = true) (hb2 : b.wf = true) (hb3 : b.finiteNums = true) (hb4 : vfree b = true)
    {Na Nb : Nat} (la : lenLe Na a = true) (lb : lenLe Nb b = true) (hN : Na + Nb < 2 ^ 53)
    (H : DPL.HashOK o a b) (Z : DPL.ZeroOK a b)
    (hp : ∀ h ∈ diffM o a b, PE h.path) :
    ∃ ops r, renderPatchOps (diffM o a b) = .ok ops ∧ (∀ op ∈ ops, op.wfOp) ∧
      eval a (ops.map PatchOp.toSpec) = some r ∧ specEq r b = true ∧ specEq b r = true := by
  obtain ⟨ops, er⟩ := (render_diffM_ok_iff o ho hm a b ha1 ha2 ha4 hb1 hb2 hb4).2 hp
  have ga : Good a := ⟨ha1, ha2, ha3, memOK_of_vfree a ha4⟩
  cases hv : (a.isObj && b.isVoid) with
  | false =>
    have hd := diffM_hunks_ok o ho hm a b ha1 ha2 ha4 hb1 hb2 hb4 la lb hN hv
    obtain ⟨r, hr, hs, hs', _⟩ := DPL.diffM_list_correct L o ho hm a b ha1 ha2 ha3
      (memOK_of_vfree a ha4) hb1 hb2 hb3 (memOK_of_vfree b hb4) H Z
    obtain ⟨r', h1, h2⟩ := renderPatchOps_correct L ha2 hd hr er
    refine ⟨ops, r', er, renderPatchOps_wfOps er, h1, ?_, ?_⟩
    · exact (specEq_left_of_untag_eq h2).trans hs
    · exact (specEq_right_of_untag_eq h2).trans hs'
  | true =>
    obtain ⟨kvs, rfl, rfl⟩ := objVoid_of hv
    rw [diffM_obj_void o hm, render_objVoidHunk] at er
    injection er with er
    subst er
    exact ⟨_, .void, by rw [diffM_obj_void o hm, render_objVoidHunk], renderPatchOps_wfOps (render_objVoidHunk kvs),
      eval_objVoid L ga, DPL.specEq_void_void, DPL.specEq_void_void⟩

/-- **C09, statement 3, closed**: for `a`, `b` in the C01 list domain (list documents, sorted unique
    keys, finite numbers, no void marker inside, no hash collision, no `0` / `-0` pair), array lengths
    bounded by `Na`, `Nb` with `Na + Nb < 2^53`, and all object keys expressible as JSON Pointer
    tokens: `RenderPatch(a.Diff(b))` succeeds, is a list of `test` / `remove` / `add` operations, and
    the independent RFC 6902 evaluator turns `a` into a document structurally equal to `b`. -/
theorem rendered_patch_of_diff_yields_target_closed (L : FloatLaws) (o : Opts)
    (ho : dispatchTag o = .list) (hm : isMerge o = false) (a b : Json)
    (ha1 : a.listDoc = true) (ha2 : a.wf = true) (ha3 : a.finiteNums = true) (ha4 : vfree a = true)
    (hb1 : b.listDoc = true) (hb2 : b.wf = true) (hb3 : b.finiteNums = true) (hb4 : vfree b = true)
    {Na Nb : Nat} (la : lenLe Na a = true) (lb : lenLe Nb b = true) (hN : Na + Nb < 2 ^ 53)
    (H : DPL.HashOK o a b) (Z : DPL.ZeroOK a b)
    (ka : keysExpressible a = true) (kb : keysExpressible b = true) :
    ∃ ops r, renderPatchOps (diffM o a b) = .ok ops ∧ (∀ op ∈ ops, op.wfOp) ∧
      eval a (ops.map PatchOp.toSpec) = some r ∧ specEq r b = true ∧ specEq b r = true :=
  rendered_patch_of_diff_yields_target_of_paths L o ho hm a b ha1 ha2 ha3 ha4 hb1 hb2 hb3 hb4 la lb hN
    H Z (diffM_paths_expressible o ho hm a b ha1 hb1 ka kb)

/-! ## 7. REFUSAL in terms of the inputs: a changed location at or below a key that is number-like
    or "-" makes `RenderPatch(a.Diff(b))` fail with an error -/

theorem keys_induct (P : Path → Prop) (nil : P [])
    (cons : ∀ k q, Real.keysOnly q = true → P q → P (.key k :: q)) : ∀ q, Real.keysOnly q = true → P q
  | [], _ => nil
  | .key k :: q, h => by
    simp only [Real.keysOnly] at h
    exact cons k q h (keys_induct P nil cons q h)
  | .idx _ :: _, h => by simp [Real.keysOnly] at h
  | .set :: _, h => by simp [Real.keysOnly] at h
  | .mset :: _, h => by simp [Real.keysOnly] at h
  | .setKeys _ :: _, h => by simp [Real.keysOnly] at h
  | .msetKeys _ :: _, h => by simp [Real.keysOnly] at h

theorem getAt_key_inv {a u : Json} {k : String} {q : Path} (h : Real.getAt a (.key k :: q) = some u) :
    ∃ kvs w, a = .obj kvs ∧ alookup k kvs = some w ∧ Real.getAt w q = some u := by
  cases a with
  | obj kvs =>
    simp only [Real.getAt] at h
    cases hw : alookup k kvs with
    | none => simp [hw] at h
    | some w =>
      simp only [hw, Option.bind_some] at h
      exact ⟨kvs, w, rfl, hw, h⟩
  | _ => simp [Real.getAt] at h

/-- a member present on both sides: its sub-diff is part of the first loop of the object diff -/
theorem mem_diffKvs_of_lookup {o : Opts} {p : Path} {kvs' : List (String × Json)} {k : String}
    {w w' : Json} (hw' : alookup k kvs' = some w') :
    ∀ {kvs : List (String × Json)}, alookup k kvs = some w →
      ∀ h ∈ diffNode o false w w' (p ++ [.key k]), h ∈ diffKvs o false p kvs' kvs
  | [], hw, _, _ => by simp [alookup] at hw
  | (k0, v0) :: r, hw, h, hm => by
    rw [diffKvs_cons]
    simp only [alookup] at hw
    split at hw
    · next e =>
      injection hw with hw
      subst e; subst hw
      exact List.mem_append_left _ (by simpa only [hw'] using hm)
    · exact List.mem_append_right _ (mem_diffKvs_of_lookup hw' hw h hm)

/-- a member of the first object that the second lacks: its removal hunk -/
theorem mem_diffKvs_removed {o : Opts} {p : Path} {kvs' : List (String × Json)} {k : String}
    {w : Json} (hw' : alookup k kvs' = none) :
    ∀ {kvs : List (String × Json)}, alookup k kvs = some w →
      ({ path := p ++ [.key k], remove := w.nodeList } : Hunk) ∈ diffKvs o false p kvs' kvs
  | [], hw => by simp [alookup] at hw
  | (k0, v0) :: r, hw => by
    rw [diffKvs_cons]
    simp only [alookup] at hw
    split at hw
    · next e =>
      injection hw with hw
      subst e; subst hw
      exact List.mem_append_left _ (by simp only [hw', List.mem_singleton])
    · exact List.mem_append_right _ (mem_diffKvs_removed hw' hw)

/-- the diff of what two documents hold at a key path is part of their diff (converse of
    `Real.hunk_below_keys`) -/
theorem hunks_of_subdiff {o : Opts} :
    ∀ (q : Path), Real.keysOnly q = true → ∀ (a b u u' : Json), Real.getAt a q = some u →
      Real.getAt b q = some u' → ∀ p, ∀ h ∈ diffNode o false u u' (p ++ q), h ∈ diffNode o false a b p := by
  refine keys_induct _ ?_ ?_
  · intro a b u u' hu hu' p h hm
    simp only [Real.getAt, Option.some.injEq] at hu hu'
    subst hu; subst hu'
    simpa using hm
  · intro k q _ ih a b u u' hu hu' p h hm
    obtain ⟨kvs, w, rfl, hw, hu⟩ := getAt_key_inv hu
    obtain ⟨kvs', w', rfl, hw', hu'⟩ := getAt_key_inv hu'
    rw [diffNode_obj_obj]
    refine List.mem_append_left _ (mem_diffKvs_of_lookup hw' hw h ?_)
    exact ih w w' u u' hu hu' (p ++ [.key k]) h (by simpa using hm)

/-- a path below which something is inexpressible -/
def BadPath (q : Path) : Prop := ∃ e ∈ q, ¬ expressible e

theorem BadPath.of_prefix {q l : Path} (h : BadPath q) (hp : q <+: l) : BadPath l := by
  obtain ⟨e, he, hn⟩ := h
  exact ⟨e, hp.subset he, hn⟩

theorem badPath_key {k : String} (h : keyOK k = false) (q r : Path) : BadPath (q ++ .key k :: r) :=
  ⟨.key k, by simp, fun he => by rw [(keyOK_iff k).2 he] at h; cases h⟩

/-- **REFUSAL (i)**: `a` and `b` hold `u` and `u'` at the key path `q`, which contains a key that is
    number-like or "-", and `u.Diff(u')` is not empty: `RenderPatch(a.Diff(b))` is an error -/
theorem refuses_changed_at_bad_path {o : Opts} (ho : dispatchTag o = .list) (hm : isMerge o = false)
    {a b : Json} (ha : a.listDoc = true) (hb : b.listDoc = true) {q : Path} (hq : Real.keysOnly q = true)
    (hbad : BadPath q) {u u' : Json} (hu : Real.getAt a q = some u) (hu' : Real.getAt b q = some u')
    (hne : diffM o u u' ≠ []) : renderPatchOps (diffM o a b) = .err := by
  have hlu := Real.getAt_keys_listDoc q hq a u ha hu
  have hlu' := Real.getAt_keys_listDoc q hq b u' hb hu'
  unfold diffM at hne ⊢
  rw [hm] at hne ⊢
  have e := DPL.diffNode_shift o false u u' q
  cases hd : diffNode o false u u' q with
  | nil => rw [hd] at e; exact absurd (List.map_eq_nil_iff.1 e.symm) hne
  | cons h d =>
    have hmem : h ∈ diffNode o false u u' q := by rw [hd]; exact List.mem_cons_self
    have hpre := Real.diff_paths_extend ho hlu hlu' q h hmem
    have hin := hunks_of_subdiff q hq a b u u' hu hu' [] h (by simpa using hmem)
    exact renderPatchOps_refuses hin (hbad.of_prefix hpre)

/-- on the C01 domain a structural difference gives a non-empty diff -/
theorem diffM_ne_nil_of_ne (L : FloatLaws) {o : Opts} (ho : dispatchTag o = .list)
    (hm : isMerge o = false) {u u' : Json} (gu : Good u) (gu' : Good u') (H : DPL.HashOK o u u')
    (Z : DPL.ZeroOK u u') (hne : specEq u u' = false) : diffM o u u' ≠ [] := by
  intro hd
  obtain ⟨r, hr, hs, _⟩ := DPL.diffM_list_correct L o ho hm u u' gu.listDoc gu.wf gu.fin gu.mem
    gu'.listDoc gu'.wf gu'.fin gu'.mem H Z
  rw [hd] at hr
  simp only [applyStrictAll, Option.some.injEq] at hr
  subst hr
  rw [hs] at hne; cases hne

theorem getAt_sub : ∀ (q : Path), Real.keysOnly q = true → ∀ (a u : Json), Real.getAt a q = some u →
    Sub (subterms u) (subterms a) := by
  refine keys_induct _ ?_ ?_
  · intro a u hu
    simp only [Real.getAt, Option.some.injEq] at hu
    subst hu; exact fun _ h => h
  · intro k q _ ih a u hu
    obtain ⟨kvs, w, rfl, hw, hu⟩ := getAt_key_inv hu
    intro z hz
    have h1 := ih w u hu z hz
    simp only [subterms, List.mem_cons]
    exact .inr (subterms_of_mem_kvs (mem_of_alookup hw) z h1)

/-- **REFUSAL (i), on the C01 domain**: a value that differs structurally at a key path containing a
    key that is number-like or "-" -/
theorem refuses_value_changed_at_bad_path (L : FloatLaws) {o : Opts} (ho : dispatchTag o = .list)
    (hm : isMerge o = false) {a b : Json} (ga : Good a) (gb : Good b) (H : DPL.HashOK o a b)
    (Z : DPL.ZeroOK a b) {q : Path} (hq : Real.keysOnly q = true) (hbad : BadPath q) {u u' : Json}
    (hu : Real.getAt a q = some u) (hu' : Real.getAt b q = some u') (hne : specEq u u' = false) :
    renderPatchOps (diffM o a b) = .err := by
  have su := getAt_sub q hq a u hu
  have su' := getAt_sub q hq b u' hu'
  refine refuses_changed_at_bad_path ho hm ga.listDoc gb.listDoc hq hbad hu hu' ?_
  refine diffM_ne_nil_of_ne L ho hm (good_subterms a ga u (su u (self_mem_subterms u)))
    (good_subterms b gb u' (su' u' (self_mem_subterms u'))) ?_ ?_ hne
  · intro x hx y hy; exact H x (su x hx) y (su' y hy)
  · intro x y hx hy; exact Z x y (su _ hx) (su' _ hy)

/-- **REFUSAL (ii)**: a member removed at or below a key that is number-like or "-" -/
theorem refuses_member_removed {o : Opts} (hm : isMerge o = false)
    {a b : Json} {q : Path} (hq : Real.keysOnly q = true)
    {kvs kvs' : List (String × Json)} (hu : Real.getAt a q = some (.obj kvs))
    (hu' : Real.getAt b q = some (.obj kvs')) {k : String} {w : Json} (hw : alookup k kvs = some w)
    (hw' : alookup k kvs' = none) (hbad : BadPath (q ++ [.key k])) :
    renderPatchOps (diffM o a b) = .err := by
  have hin : ({ path := q ++ [.key k], remove := w.nodeList } : Hunk) ∈ diffM o a b := by
    unfold diffM
    rw [hm]
    refine hunks_of_subdiff q hq a b _ _ hu hu' [] _ ?_
    rw [diffNode_obj_obj]
    exact List.mem_append_left _ (by simpa using mem_diffKvs_removed (o := o) (p := q) hw' hw)
  exact renderPatchOps_refuses hin hbad

/-- **REFUSAL (iii)**: a member added at or below a key that is number-like or "-" -/
theorem refuses_member_added {o : Opts} (hm : isMerge o = false)
    {a b : Json} {q : Path} (hq : Real.keysOnly q = true)
    {kvs kvs' : List (String × Json)} (hu : Real.getAt a q = some (.obj kvs))
    (hu' : Real.getAt b q = some (.obj kvs')) {k : String} {w' : Json} (hw : alookup k kvs = none)
    (hw' : (k, w') ∈ kvs') (hbad : BadPath (q ++ [.key k])) :
    renderPatchOps (diffM o a b) = .err := by
  have hin : ({ merge := false, path := q ++ [.key k], add := w'.nodeList } : Hunk) ∈ diffM o a b := by
    unfold diffM
    rw [hm]
    refine hunks_of_subdiff q hq a b _ _ hu hu' [] _ ?_
    rw [diffNode_obj_obj]
    refine List.mem_append_right _ (List.mem_map.2 ⟨(k, w'), List.mem_filter.2 ⟨hw', by simp [hw]⟩, ?_⟩)
    simp
  exact renderPatchOps_refuses hin hbad

/-- the same with one bound `N` on all array lengths of both documents (`2 N < 2^53`) -/
theorem diffM_hunks_ok_N (o : Opts) (ho : dispatchTag o = .list) (hm : isMerge o = false) (a b : Json)
    (ha1 : a.listDoc = true) (ha2 : a.wf = true) (ha4 : vfree a = true)
    (hb1 : b.listDoc = true) (hb2 : b.wf = true) (hb4 : vfree b = true)
    {N : Nat} (la : lenLe N a = true) (lb : lenLe N b = true) (hN : 2 * N < 2 ^ 53)
    (hv : (a.isObj && b.isVoid) = false) : ∀ h ∈ diffM o a b, HunkOK h ∧ HunkRange h :=
  diffM_hunks_ok o ho hm a b ha1 ha2 ha4 hb1 hb2 hb4 la lb (by omega) hv

/-! ## 8. non-vacuity, witnesses -/

namespace Example

def one : Json := .num 0x3FF0000000000000
/-- `{"a~/b": [true, 1, [1], null], "k": null}` (a key that needs both escapes) -/
def exA : Json := .obj [("a~/b", DPL.Example.exA), ("k", .null)]
/-- `{"a~/b": [false, 1, [1, 1], null, null], "m": 1}` -/
def exB : Json := .obj [("a~/b", DPL.Example.exB), ("m", one)]

-- five hunks: three list hunks below the key (one of them in the nested list), a member removed, a
-- member added; eleven operations
#eval (diffM [] exA exB).map (·.path)
#eval renderPatchOps (diffM [] exA exB)

theorem subA {x : Json} (hx : x ∈ subterms exA) : x = exA ∨ x ∈ subterms DPL.Example.exA := by
  simp only [exA, subterms, subtermsKvs, List.mem_cons, List.mem_append, List.not_mem_nil,
    or_false] at hx
  rcases hx with rfl | hx | rfl
  · exact .inl rfl
  · exact .inr hx
  · exact .inr (by simp [DPL.Example.exA, subterms, subtermsList])

theorem subB {y : Json} (hy : y ∈ subterms exB) : y = exB ∨ y ∈ subterms DPL.Example.exB := by
  simp only [exB, one, subterms, subtermsKvs, List.mem_cons, List.mem_append, List.not_mem_nil,
    or_false] at hy
  rcases hy with rfl | hy | rfl
  · exact .inl rfl
  · exact .inr hy
  · exact .inr (by simp [DPL.Example.exB, DPL.Example.one, subterms, subtermsList])

/-- all the hypotheses of `rendered_patch_of_diff_yields_target_closed` (and of the other theorems of
    sections 5 and 6) hold for this pair, with `Na = 4`, `Nb = 5` -/
theorem hyps (L : FloatLaws) :
    exA.listDoc = true ∧ exA.wf = true ∧ exA.finiteNums = true ∧ vfree exA = true ∧
    exB.listDoc = true ∧ exB.wf = true ∧ exB.finiteNums = true ∧ vfree exB = true ∧
    lenLe 4 exA = true ∧ lenLe 5 exB = true ∧ 4 + 5 < 2 ^ 53 ∧
    HashOK [] exA exB ∧ ZeroOK exA exB ∧
    keysExpressible exA = true ∧ keysExpressible exB = true ∧ (exA.isObj && exB.isVoid) = false := by
  obtain ⟨_, _, _, _, _, _, _, _, H, Z⟩ := DPL.Example.hyps L
  refine ⟨by decide, by decide, by decide, by decide, by decide, by decide, by decide, by decide,
    by decide, by decide, by decide, ?_, ?_, by decide, by decide, by decide⟩
  · -- the two roots hash differently from everything on the other side
    have hA : ∀ y ∈ subterms exB, hashCode [] exA ≠ hashCode [] y := by decide +kernel
    have hB : ∀ x ∈ subterms exA, hashCode [] x ≠ hashCode [] exB := by decide +kernel
    intro x hx y hy h
    rcases subA hx with rfl | hx'
    · exact absurd h (hA y hy)
    rcases subB hy with rfl | hy'
    · exact absurd h (hB x hx)
    exact H x hx' y hy' h
  · intro u v hu hv huv
    rcases subA hu with h | hu
    · cases h
    rcases subB hv with h | hv
    · cases h
    exact Z u v hu hv huv

example (L : FloatLaws) :
    ∃ ops r, renderPatchOps (diffM [] exA exB) = .ok ops ∧ (∀ op ∈ ops, op.wfOp) ∧
      eval exA (ops.map PatchOp.toSpec) = some r ∧ specEq r exB = true ∧ specEq exB r = true := by
  obtain ⟨h1, h2, h3, h4, h5, h6, h7, h8, h9, h10, h11, h12, h13, h14, h15, _⟩ := hyps L
  exact rendered_patch_of_diff_yields_target_closed L [] rfl rfl exA exB h1 h2 h3 h4 h5 h6 h7 h8 h9 h10
    h11 h12 h13 h14 h15

example (L : FloatLaws) : ∀ h ∈ diffM [] exA exB, HunkOK h ∧ HunkRange h := by
  obtain ⟨h1, h2, _, h4, h5, h6, _, h8, h9, h10, h11, _, _, _, _, h16⟩ := hyps L
  exact diffM_hunks_ok [] rfl rfl exA exB h1 h2 h4 h5 h6 h8 h9 h10 h11 h16

/-! ### refusal: concrete inputs -/

/-- `{"1": null, "x": null}` against `{"1": true, "x": null}`: the changed member is number-like -/
def nA : Json := .obj [("1", .null), ("x", .null)]
def nB : Json := .obj [("1", .bool true), ("x", .null)]

theorem numberlike_key_refused : renderPatchOps (diffM [] nA nB) = .err := by
  refine refuses_changed_at_bad_path (q := [.key "1"]) rfl rfl (by decide) (by decide) rfl
    (badPath_key (by decide) [] []) (u := .null) (u' := .bool true)
    (by simp [Real.getAt, nA, alookup]) (by simp [Real.getAt, nB, alookup]) ?_
  unfold diffM
  rw [show isMerge [] = false from rfl,
    diffNode_scalar [] _ _ (by intro t xs h; cases h) (by intro k h; cases h)]
  simp [diffCommon, equals, Json.isNull]

/-- the hypotheses of `refuses_value_changed_at_bad_path` hold for this pair -/
example (L : FloatLaws) : renderPatchOps (diffM [] nA nB) = .err := by
  have gn : Good Json.null := ⟨by decide, by decide, by decide, by decide⟩
  refine refuses_value_changed_at_bad_path L (q := [.key "1"]) rfl rfl
    ⟨by decide, by decide, by decide, by decide⟩ ⟨by decide, by decide, by decide, by decide⟩ ?_ ?_ rfl
    (badPath_key (by decide) [] []) (u := .null) (u' := .bool true)
    (by simp [Real.getAt, nA, alookup]) (by simp [Real.getAt, nB, alookup])
    (by simp [specEq, equivB])
  · intro x hx y hy h
    simp [nA, nB, subterms, subtermsKvs] at hx hy
    rcases hx with rfl | rfl <;> rcases hy with rfl | rfl | rfl <;>
      first
        | exact absurd h (by decide +kernel)
        | exact DPL.specEq_refl L gn
  · intro u v hu _ _
    simp [nA, subterms, subtermsKvs] at hu

/-- `{"-": null}` against `{}`: the removed member is the key "-" -/
example : renderPatchOps (diffM [] (.obj [("-", .null)]) (.obj [])) = .err :=
  refuses_member_removed (q := []) rfl rfl rfl rfl (k := "-") (w := .null) (by simp [alookup]) rfl
    (badPath_key (by decide) [] [])

/-- `{}` against `{"+7": null}`: the added member is number-like (`strconv.Atoi` accepts a sign) -/
example : renderPatchOps (diffM [] (.obj []) (.obj [("+7", .null)])) = .err :=
  refuses_member_added (q := []) rfl rfl rfl rfl (k := "+7") (w' := .null) rfl (by simp)
    (badPath_key (by decide) [] [])

/-! ### why `vfree` (no void marker among the ELEMENTS of an array) is asked on top of the C01 domain

  The C01 list theorem (`DPL.diffM_list_correct`) only asks that no object MEMBER is void (`memOK`).
  `[void]` against `[null]` is in that domain; the native hunk `@ [0]  - void  + null` applies, but
  `RenderPatch` drops a removal whose first value is void, so the JSON Patch is the single operation
  `add /0 null`, and RFC 6902 gives `[null, void]`. The void marker is jd's in-memory "no value"; no
  reader produces it inside a document, so this is a boundary of the MODEL's domain and not a defect
  of the Go code; it is recorded as a proved witness rather than silently excluded. -/

def vA : Json := .arr .raw [.void]
def vB : Json := .arr .raw [.null]
def vHunk : Hunk :=
  { path := [.idx 0], before := [.void], remove := [.void], add := [.null], after := [.void] }

theorem diff_v : diffM [] vA vB = [vHunk] := diffM_of_eqb (by decide +kernel)

theorem render_v : renderPatchOps [vHunk] = .ok [{ op := "add", path := "/0", value := .null }] := by
  rw [renderPatchOps, renderPatchHunk_of (h := vHunk) wpp_0 rfl (by decide) (by decide) rfl rfl]
  rfl

/-- WITNESS (void array element, outside the intended domain): all hypotheses of the C01 list theorem
    hold, the rendering succeeds, and the evaluated JSON Patch is NOT the target -/
theorem void_element_witness :
    Good vA ∧ Good vB ∧ vfree vA = false ∧
    (∃ r, applyStrictAll vA (diffM [] vA vB) = some r ∧ specEq r vB = true) ∧
    renderPatchOps (diffM [] vA vB) = .ok [{ op := "add", path := "/0", value := .null }] ∧
    eval vA (([{ op := "add", path := "/0", value := .null }] : List PatchOp).map PatchOp.toSpec) =
      some (.arr .raw [.null, .void]) ∧
    specEq (.arr .raw [.null, .void]) vB = false := by
  refine ⟨⟨by decide, by decide, by decide, by decide⟩, ⟨by decide, by decide, by decide, by decide⟩,
    by decide, ⟨.arr .raw [.null], ?_, ?_⟩, by rw [diff_v, render_v], ?_, ?_⟩
  · rw [diff_v]
    simp [applyStrictAll, applyStrict, vHunk, vA, splice, prefixEq, beforeOk, afterOk, specEq, equivB,
      Json.isVoid]
  · simp [specEq, equivB, equivList, vB, dispatchTag]
  · have : arrayIndex? "0" = some 0 := by decide
    simp [eval, evalOp, PatchOp.toSpec, pp_0, addP, vA, this]
  · simp [specEq, equivB, equivList, vB, dispatchTag]

end Example

/-! ### axioms -/

#print axioms diff_gen
#print axioms diff_paths_expressible
#print axioms diffM_hunks_ok
#print axioms diffM_hunks_ok_N
#print axioms diffM_paths_expressible
#print axioms renderPatchHunk_ne_panic
#print axioms renderPatchOps_refuses
#print axioms render_diffM_ok_iff
#print axioms render_diffM_err_iff
#print axioms rendered_patch_of_diff_yields_target_of_paths
#print axioms rendered_patch_of_diff_yields_target_closed
#print axioms hunks_of_subdiff
#print axioms refuses_changed_at_bad_path
#print axioms refuses_value_changed_at_bad_path
#print axioms refuses_member_removed
#print axioms refuses_member_added
#print axioms objVoidHunk_not_hunkOK
#print axioms Example.hyps
#print axioms Example.numberlike_key_refused
#print axioms Example.void_element_witness

end Jd.PRC
