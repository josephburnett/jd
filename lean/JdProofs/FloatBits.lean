/-
  JdProofs.FloatBits — binary64 words as sign, exponent and fraction fields; an integer of magnitude
  below 2^53 converted to binary64 (`intToFloatBits`) and read back (`floatTrunc`, `floatToInt?`) is
  the integer itself, and conversely.

  A normal word with fields `s`, `e = 1075 - sh`, `f` whose significand `f + 2^52` is `n * 2^sh`
  (`sh ≤ 52`) stands for `±n`: `intToFloatBits` builds it (`intToFloatBits_word`), `floatTrunc` reads
  it (`floatTrunc_word`), and `floatToInt?` returns nothing else below 2^53
  (`intToFloatBits_floatToInt`). The field arithmetic is done once for variable widths
  (`fields_of`, `fields_sum`); the constants 2^52, 2^11 come in at `word_reads` / `word_exists`.
  Exponents are written `2 ^ (52 : Nat)` in statements: an exponent without its type is found by
  default instances only, which is several times slower to elaborate.
-/
import JdModel.Text

namespace Jd

/-! ### the three bit fields as arithmetic on `b.toNat` -/

namespace Yaml

theorem fib_sign (b : UInt64) : (b >>> 63 == 1) = decide (b.toNat / 2 ^ 63 = 1) := by
  rw [Bool.eq_iff_iff]
  simp [← UInt64.toNat_inj, UInt64.toNat_shiftRight, Nat.shiftRight_eq_div_pow]

theorem fib_exp (b : UInt64) : ((b >>> 52) &&& 0x7FF).toNat = (b.toNat / 2 ^ 52) % 2 ^ 11 := by
  rw [UInt64.toNat_and, UInt64.toNat_shiftRight, Nat.shiftRight_eq_div_pow]
  exact Nat.and_two_pow_sub_one_eq_mod _ 11

theorem fib_frac (b : UInt64) : (b &&& 0xFFFFFFFFFFFFF).toNat = b.toNat % 2 ^ 52 := by
  rw [UInt64.toNat_and]
  exact Nat.and_two_pow_sub_one_eq_mod _ 52

end Yaml

/-- the fields of a number assembled from them, for any field widths -/
theorem fields_of {s e f E F : Nat} (he : e < E) (hf : f < F) :
    ((s * E + e) * F + f) % F = f ∧ ((s * E + e) * F + f) / F % E = e ∧
      ((s * E + e) * F + f) / F / E = s := by
  have hF : 0 < F := Nat.lt_of_le_of_lt (Nat.zero_le _) hf
  have hE : 0 < E := Nat.lt_of_le_of_lt (Nat.zero_le _) he
  have h1 : ((s * E + e) * F + f) / F = s * E + e := by
    rw [Nat.mul_comm, Nat.mul_add_div hF, Nat.div_eq_of_lt hf, Nat.add_zero]
  refine ⟨by rw [Nat.mul_comm, Nat.mul_add_mod, Nat.mod_eq_of_lt hf], ?_, ?_⟩
  · rw [h1, Nat.mul_comm, Nat.mul_add_mod, Nat.mod_eq_of_lt he]
  · rw [h1, Nat.mul_comm, Nat.mul_add_div hE, Nat.div_eq_of_lt he, Nat.add_zero]

/-- a number is assembled from its fields, for any field widths -/
theorem fields_sum (B E F : Nat) : (B / F / E * E + B / F % E) * F + B % F = B := by
  rw [Nat.div_add_mod' (B / F) E, Nat.div_add_mod']

theorem word_eq (s e f : Nat) :
    s * 2 ^ (63 : Nat) + e * 2 ^ (52 : Nat) + f = (s * 2 ^ (11 : Nat) + e) * 2 ^ (52 : Nat) + f := by
  omega

/-- what the model reads off a word with sign `s`, exponent field `e` and fraction field `f` -/
theorem word_reads {s e f : Nat} {b : UInt64} (he : e < 2 ^ (11 : Nat)) (hf : f < 2 ^ (52 : Nat))
    (hb : b.toNat = s * 2 ^ (63 : Nat) + e * 2 ^ (52 : Nat) + f) :
    (b >>> 63 == 1) = decide (s = 1) ∧ ((b >>> 52) &&& 0x7FF).toNat = e ∧
      (b &&& 0xFFFFFFFFFFFFF).toNat = f := by
  obtain ⟨h1, h2, h3⟩ := fields_of (s := s) he hf
  rw [word_eq] at hb
  rw [Yaml.fib_sign, Yaml.fib_exp, Yaml.fib_frac, hb, h1, h2,
    show (2 : Nat) ^ (63 : Nat) = 2 ^ (52 : Nat) * 2 ^ (11 : Nat) from rfl,
    ← Nat.div_div_eq_div_mul, h3]
  exact ⟨rfl, rfl, rfl⟩

theorem toNat_word {s e f : Nat} (hs : s ≤ 1) (he : e < 2 ^ (11 : Nat)) (hf : f < 2 ^ (52 : Nat)) :
    (UInt64.ofNat (s * 2 ^ (63 : Nat) + e * 2 ^ (52 : Nat) + f)).toNat
      = s * 2 ^ (63 : Nat) + e * 2 ^ (52 : Nat) + f :=
  UInt64.toNat_ofNat_of_lt' (by
    show s * 2 ^ (63 : Nat) + e * 2 ^ (52 : Nat) + f < 2 ^ (64 : Nat)
    omega)

/-- every word has its fields -/
theorem word_exists (b : UInt64) : ∃ s e f, s ≤ 1 ∧ e < 2 ^ (11 : Nat) ∧ f < 2 ^ (52 : Nat) ∧
    b.toNat = s * 2 ^ (63 : Nat) + e * 2 ^ (52 : Nat) + f := by
  refine ⟨b.toNat / 2 ^ (52 : Nat) / 2 ^ (11 : Nat), b.toNat / 2 ^ (52 : Nat) % 2 ^ (11 : Nat),
    b.toNat % 2 ^ (52 : Nat), ?_, Nat.mod_lt _ (by decide), Nat.mod_lt _ (by decide), ?_⟩
  · rw [Nat.div_div_eq_div_mul]
    exact Nat.le_of_lt_succ (Nat.div_lt_of_lt_mul b.toNat_lt)
  · rw [word_eq, fields_sum]

/-! ### the significand -/

/-- `n * 2^sh` in `[2^52, 2^53)`: `n` is not zero and its leading bit is `52 - sh` -/
theorem log2_of_shift {n sh m : Nat} (hm : n * 2 ^ sh = m) (hlo : 2 ^ (52 : Nat) ≤ m)
    (hhi : m < 2 ^ (53 : Nat)) (hsh : sh ≤ 52) : n ≠ 0 ∧ n.log2 = 52 - sh := by
  have hp : 0 < 2 ^ sh := Nat.pow_pos (by decide)
  have h52 : 2 ^ (52 - sh) * 2 ^ sh = 2 ^ (52 : Nat) := by
    rw [← Nat.pow_add, Nat.sub_add_cancel hsh]
  have h53 : 2 ^ (52 - sh + 1) * 2 ^ sh = 2 ^ (53 : Nat) := by
    rw [← Nat.pow_add, Nat.add_right_comm, Nat.sub_add_cancel hsh]
  have hge : 2 ^ (52 - sh) ≤ n := Nat.le_of_mul_le_mul_right (by rw [h52, hm]; exact hlo) hp
  have hlt : n < 2 ^ (52 - sh + 1) := Nat.lt_of_mul_lt_mul_right (by rw [h53, hm]; exact hhi)
  have hne : n ≠ 0 := Nat.ne_of_gt (Nat.lt_of_lt_of_le (Nat.pow_pos (by decide)) hge)
  exact ⟨hne, (Nat.log2_eq_iff hne).2 ⟨hge, hlt⟩⟩

/-- the significand of `n ≠ 0` below 2^53 lies in `[2^52, 2^53)` -/
theorem shift_of_log2 {n : Nat} (hn : n ≠ 0) (h : n < 2 ^ (53 : Nat)) :
    n.log2 ≤ 52 ∧ 2 ^ (52 : Nat) ≤ n * 2 ^ (52 - n.log2) ∧ n * 2 ^ (52 - n.log2) < 2 ^ (53 : Nat) := by
  have hk : n.log2 ≤ 52 := Nat.le_of_lt_succ ((Nat.log2_lt hn).2 h)
  have hp : 0 < 2 ^ (52 - n.log2) := Nat.pow_pos (by decide)
  refine ⟨hk, ?_, ?_⟩
  · have := Nat.mul_le_mul_right (2 ^ (52 - n.log2)) (Nat.log2_self_le hn)
    rwa [← Nat.pow_add, Nat.add_sub_cancel' hk] at this
  · have := Nat.mul_lt_mul_of_pos_right (Nat.lt_log2_self (n := n)) hp
    rwa [← Nat.pow_add, Nat.add_right_comm, Nat.add_sub_cancel' hk] at this

/-! ### a normal word with significand `n * 2^sh` stands for `±n` -/

/-- `intToFloatBits` builds that word -/
theorem intToFloatBits_word {i : Int} {f sh : Nat} (hm : i.natAbs * 2 ^ sh = f + 2 ^ (52 : Nat))
    (hf : f < 2 ^ (52 : Nat)) (hsh : sh ≤ 52) :
    intToFloatBits i =
      UInt64.ofNat ((if i < 0 then 1 else 0) * 2 ^ 63 + (1075 - sh) * 2 ^ 52 + f) := by
  obtain ⟨hn, hlog⟩ := log2_of_shift hm (Nat.le_add_left _ _)
    (show f + 2 ^ (52 : Nat) < 2 ^ (52 : Nat) + 2 ^ (52 : Nat) from Nat.add_lt_add_right hf _) hsh
  have hi : (i == 0) = false := beq_false_of_ne fun h => hn (by rw [h]; rfl)
  have hn' : (i.natAbs == 0) = false := beq_false_of_ne hn
  have e1 : 52 - (52 - sh) = sh := Nat.sub_sub_self hsh
  have e2 : 1023 + (52 - sh) = 1075 - sh := by omega
  simp only [intToFloatBits, natLog2, hi, hn', hlog, e1, e2, hm, Nat.add_sub_cancel,
    Bool.false_eq_true, if_false]

/-- the magnitude `floatTrunc` and `floatToInt?` compute from exponent field `1075 - sh` and
    significand `m = n * 2^sh` -/
theorem shift_val {n sh m : Nat} (hm : n * 2 ^ sh = m) (hsh : sh ≤ 52) :
    (if 1075 - sh ≥ 1075 then m * 2 ^ (1075 - sh - 1075) else m / 2 ^ (1075 - (1075 - sh))) = n := by
  split
  · obtain rfl : sh = 0 := by omega
    rw [← hm, Nat.pow_zero, Nat.mul_one, Nat.mul_one]
  · rw [show 1075 - (1075 - sh) = sh by omega, ← hm, Nat.mul_div_cancel _ (Nat.pow_pos (by decide))]

theorem natAbs_signed (c : Bool) (v : Nat) :
    (if c = true then -(v : Int) else (v : Int)).natAbs = v := by
  cases c <;> simp

/-- `floatTrunc` reads it -/
theorem floatTrunc_word {b : UInt64} {s f sh n : Nat} (hf : f < 2 ^ (52 : Nat)) (hsh : sh ≤ 52)
    (hb : b.toNat = s * 2 ^ (63 : Nat) + (1075 - sh) * 2 ^ (52 : Nat) + f)
    (hm : n * 2 ^ sh = f + 2 ^ (52 : Nat)) :
    floatTrunc b = if s = 1 then -(n : Int) else n := by
  have he : 1075 - sh < 2047 := Nat.lt_of_le_of_lt (Nat.sub_le _ _) (by decide)
  obtain ⟨r1, r2, r3⟩ := word_reads (Nat.lt_trans he (by decide)) hf hb
  have e1 : (1075 - sh == 0x7FF) = false := beq_false_of_ne (Nat.ne_of_lt he)
  have e2 : (1075 - sh == 0) = false :=
    beq_false_of_ne (Nat.sub_ne_zero_of_lt (Nat.lt_of_le_of_lt hsh (by decide)))
  have hn : ¬ ((n : Int) ≥ 2 ^ 63) := by
    have : n ≤ f + 2 ^ (52 : Nat) := hm ▸ Nat.le_mul_of_pos_right n (Nat.pow_pos (by decide))
    clear hb hm r1 r2 r3
    omega
  unfold floatTrunc
  simp only [r1, r2, r3, e1, e2, shift_val hm hsh, hn, Bool.false_eq_true, if_false,
    decide_eq_true_eq]

/-- … so the word with these fields is what `intToFloatBits` rebuilds from `±n` -/
theorem intToFloatBits_signed {b : UInt64} {s f sh n : Nat} (hs : s ≤ 1) (hf : f < 2 ^ (52 : Nat))
    (hsh : sh ≤ 52) (hb : b.toNat = s * 2 ^ (63 : Nat) + (1075 - sh) * 2 ^ (52 : Nat) + f)
    (hm : n * 2 ^ sh = f + 2 ^ (52 : Nat)) :
    intToFloatBits (if decide (s = 1) = true then -(n : Int) else n) = b := by
  have hn : 0 < n := Nat.pos_of_ne_zero fun h => by
    rw [h, Nat.zero_mul] at hm
    exact absurd hm (Nat.ne_of_lt (Nat.lt_of_lt_of_le (Nat.pow_pos (by decide)) (Nat.le_add_left _ _)))
  rw [← UInt64.ofNat_toNat (x := b), hb]
  rcases Nat.le_one_iff_eq_zero_or_eq_one.1 hs with rfl | rfl
  · show intToFloatBits ((n : Nat) : Int) = _
    rw [intToFloatBits_word (i := ((n : Nat) : Int)) hm hf hsh,
      if_neg (Int.not_lt.2 (Int.natCast_nonneg n))]
  · show intToFloatBits (-((n : Nat) : Int)) = _
    rw [intToFloatBits_word (i := -((n : Nat) : Int)) (by rw [Int.natAbs_neg]; exact hm) hf hsh,
      if_pos (Int.neg_neg_of_pos (Int.natCast_pos.2 hn))]

/-! ### main statements -/

/-- `int(float64(i)) = i` below 2^53 -/
theorem floatTrunc_intToFloatBits {i : Int} (h : i.natAbs < 2 ^ 53) :
    floatTrunc (intToFloatBits i) = i := by
  by_cases h0 : i = 0
  · subst h0; decide
  have hn : i.natAbs ≠ 0 := fun h => h0 (Int.natAbs_eq_zero.1 h)
  obtain ⟨hk, hlo, hhi⟩ := shift_of_log2 hn h
  have hm : i.natAbs * 2 ^ (52 - i.natAbs.log2)
      = i.natAbs * 2 ^ (52 - i.natAbs.log2) - 2 ^ (52 : Nat) + 2 ^ (52 : Nat) :=
    (Nat.sub_add_cancel hlo).symm
  have hf : i.natAbs * 2 ^ (52 - i.natAbs.log2) - 2 ^ (52 : Nat) < 2 ^ (52 : Nat) :=
    Nat.sub_lt_left_of_lt_add hlo hhi
  have hsh := Nat.sub_le 52 i.natAbs.log2
  rw [intToFloatBits_word hm hf hsh, floatTrunc_word hf hsh
    (toNat_word (by split <;> decide) (Nat.lt_of_le_of_lt (Nat.sub_le _ _) (by decide)) hf) hm]
  clear hm hf hlo hhi h
  by_cases hneg : i < 0 <;> simp only [hneg, if_true, if_false] <;> omega

/-- a finite binary64 with integral value `i`, `|i| < 2^53`, other than -0, is exactly what
    `intToFloatBits i` rebuilds -/
theorem intToFloatBits_floatToInt {b : UInt64} {i : Int} (h : floatToInt? b = some i)
    (hr : i.natAbs < 2 ^ 53) (hz : b ≠ 0x8000000000000000) : intToFloatBits i = b := by
  obtain ⟨s, e, f, hs, he, hf, hb⟩ := word_exists b
  obtain ⟨r1, r2, r3⟩ := word_reads he hf hb
  unfold floatToInt? at h
  simp only [r1, r2, r3, beq_iff_eq] at h
  by_cases he7 : e = 2047
  · rw [if_pos he7] at h; cases h
  rw [if_neg he7] at h
  by_cases he0 : e = 0
  · -- only ±0 has an integral value; -0 is excluded
    rw [if_pos he0] at h
    by_cases hf0 : f = 0
    · rw [if_pos hf0] at h
      cases Option.some.inj h
      rw [he0, hf0] at hb
      rcases Nat.le_one_iff_eq_zero_or_eq_one.1 hs with rfl | rfl
      · have hb0 : b.toNat = (0 : UInt64).toNat := hb.trans (by decide)
        exact (UInt64.toNat_inj.1 hb0).symm
      · have hb1 : b.toNat = (0x8000000000000000 : UInt64).toNat := hb.trans (by decide)
        exact absurd (UInt64.toNat_inj.1 hb1) hz
    · rw [if_neg hf0] at h; cases h
  rw [if_neg he0] at h
  by_cases hge : e ≥ 1075
  · -- magnitude at least 2^52: below 2^53 the exponent field is 1075
    rw [if_pos hge] at h
    cases Option.some.inj h
    rw [natAbs_signed] at hr
    have hd : e - 1075 = 0 := by
      have h1 : 2 ^ (52 : Nat) * 2 ^ (e - 1075) < 2 ^ (52 : Nat) * 2 ^ 1 :=
        Nat.lt_of_le_of_lt (Nat.mul_le_mul_right _ (Nat.le_add_left _ f)) hr
      exact Nat.lt_one_iff.1 ((Nat.pow_lt_pow_iff_right (by decide)).1
        (Nat.lt_of_mul_lt_mul_left h1))
    obtain rfl : e = 1075 := Nat.le_antisymm (Nat.sub_eq_zero_iff_le.1 hd) hge
    exact intToFloatBits_signed (sh := 0) (n := (f + 2 ^ (52 : Nat)) * 2 ^ (1075 - 1075)) hs hf
      (Nat.zero_le _) hb (by rw [Nat.sub_self, Nat.pow_zero, Nat.mul_one, Nat.mul_one])
  rw [if_neg hge] at h
  by_cases hsh : 1075 - e > 52
  · rw [if_pos hsh] at h; cases h
  rw [if_neg hsh] at h
  by_cases hdiv : (f + 2 ^ 52) % 2 ^ (1075 - e) = 0
  · rw [if_pos hdiv] at h
    cases Option.some.inj h
    have he' : e = 1075 - (1075 - e) := (Nat.sub_sub_self (Nat.le_of_not_ge hge)).symm
    rw [he'] at hb
    exact intToFloatBits_signed hs hf (Nat.le_of_not_gt hsh) hb
      (Nat.div_mul_cancel (Nat.dvd_of_mod_eq_zero hdiv))
  · rw [if_neg hdiv] at h; cases h

end Jd
