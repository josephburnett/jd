/-
  JdProofs.NativeCarried — what every reading of property C02 end to end shares (namespace `Jd.E2E`):
  "the text carries this diff", over an abstract diff.

  A reading of `Diff` (list, SET / MULTISET, SetKeys, MERGE; JdProofs.NativeEndToEnd, …Set, …Keys)
  proves a shape theorem for the hunks it produces and reads the text theorems off two structures:
  `Readable S Pp d` (`d` is in the reader's domain, `S` holds of its payload values and `Pp` of its
  paths: `Readable.codec`, `Readable.read`, `Readable.renders`) and `Carried` (… and read back it has
  EXACTLY the effect of `d`: `Carried.effect`, `Carried.lossless`, `Carried.print_read`).

  Besides: the decidable hypotheses on the two documents (`voidFree`, `shortArrays`, `docKeys`; `voidFree`
  contains `DPL.memOK`), when a strict hunk is in the reader's domain (`wfHunk_of_strict`,
  `voidOK_of_strict`), the renderer succeeds when every value and path has a text (`renderM_isSome`),
  the codec contract on the decidable domain of JdProofs.JsonTextRoundTrip (`vals_textOK`,
  `paths_textOK`, `diff_textOK`), and a rejected text run through the reader by the kernel
  (`readDiffM_unlines_err`).
-/
import JdModel
import JdSpec
import JdProofs.EqualsList
import JdProofs.StrictPatch
import JdProofs.DiffPatchList
import JdProofs.NativeRoundTrip
import JdProofs.Robust
import JdProofs.JsonTextRoundTrip

set_option linter.unusedVariables false

namespace Jd.E2E
open Jd Jd.Spec Jd.DPL Jd.NativeRT Jd.Robust

/-! ## 1. hypotheses on the two documents -/

/-- the direct constituents of a node are not void -/
def KidsNV : Json → Prop
  | .arr _ xs => ∀ x ∈ xs, x.isVoid = false
  | .obj kvs => ∀ kv ∈ kvs, kv.2.isVoid = false
  | _ => True

/-- the keys of an object node are in `K` -/
def KeysIn (K : List String) : Json → Prop
  | .obj kvs => ∀ kv ∈ kvs, kv.1 ∈ K
  | _ => True

/-- no array element and no object member of this node is void -/
def kidsNonVoid : Json → Bool
  | .arr _ xs => xs.all (fun x => !x.isVoid)
  | .obj kvs => kvs.all (fun kv => !kv.2.isVoid)
  | _ => true

/-- nothing strictly inside the document is void (void stands for "absent"; no reader produces it
    inside a document). For object members this is `DPL.memOK`; for array ELEMENTS it goes beyond the
    domain of C01, and is needed: see `void_element_witness_read`, `void_element_witness_effect`. -/
def voidFree (x : Json) : Bool := (subterms x).all kidsNonVoid

def shortArr : Json → Bool
  | .arr _ xs => decide (xs.length < 2 ^ 53)
  | _ => true

/-- every array node has fewer than 2^53 elements (list indices are written as float64 numbers) -/
def shortArrays (x : Json) : Bool := (subterms x).all shortArr

/-- all object keys occurring in the document -/
def docKeys (x : Json) : List String :=
  (subterms x).flatMap (fun z => match z with | .obj kvs => kvs.map (·.1) | _ => [])

theorem kidsNV_of {z : Json} (h : kidsNonVoid z = true) : KidsNV z := by
  cases z with
  | arr t xs =>
    simp only [kidsNonVoid, List.all_eq_true] at h
    exact fun x hx => by simpa using h x hx
  | obj kvs =>
    simp only [kidsNonVoid, List.all_eq_true] at h
    exact fun kv hkv => by simpa using h kv hkv
  | _ => trivial

theorem keysIn_docKeys {x z : Json} (hz : z ∈ subterms x) : KeysIn (docKeys x) z := by
  cases z with
  | obj kvs =>
    intro kv hkv
    unfold docKeys
    exact List.mem_flatMap.2 ⟨.obj kvs, hz, List.mem_map.2 ⟨kv, hkv, rfl⟩⟩
  | _ => trivial

theorem KeysIn.mono {K K' : List String} (hs : ∀ k ∈ K, k ∈ K') {z : Json} (h : KeysIn K z) :
    KeysIn K' z := by
  cases z with
  | obj kvs => exact fun kv hkv => hs _ (h kv hkv)
  | _ => trivial

mutual
/-- `voidFree` contains `DPL.memOK` (no void object member) -/
theorem memOK_of_kids : ∀ x : Json, (∀ z ∈ subterms x, kidsNonVoid z = true) → memOK x = true
  | .arr t xs, h => by
    simp only [memOK]
    exact memOKList_of_kids xs (fun z hz => h z (by simp [subterms, hz]))
  | .obj kvs, h => by
    simp only [memOK]
    have hk := h (.obj kvs) (self_mem_subterms _)
    simp only [kidsNonVoid, List.all_eq_true] at hk
    exact memOKKvs_of_kids kvs (fun kv hkv => by simpa using hk kv hkv)
      (fun z hz => h z (by simp [subterms, hz]))
  | .void, _ => rfl
  | .null, _ => rfl
  | .bool _, _ => rfl
  | .num _, _ => rfl
  | .str _, _ => rfl
theorem memOKList_of_kids : ∀ xs : List Json, (∀ z ∈ subtermsList xs, kidsNonVoid z = true) →
    memOKList xs = true
  | [], _ => rfl
  | x :: r, h => by
    simp only [memOKList, Bool.and_eq_true]
    exact ⟨memOK_of_kids x (fun z hz => h z (by simp [subtermsList, hz])),
      memOKList_of_kids r (fun z hz => h z (by simp [subtermsList, hz]))⟩
theorem memOKKvs_of_kids : ∀ kvs : List (String × Json), (∀ kv ∈ kvs, kv.2.isVoid = false) →
    (∀ z ∈ subtermsKvs kvs, kidsNonVoid z = true) → memOKKvs kvs = true
  | [], _, _ => rfl
  | (k, v) :: r, hk, h => by
    simp only [memOKKvs, Bool.and_eq_true, Bool.not_eq_true']
    exact ⟨⟨hk (k, v) (List.mem_cons_self ..),
      memOK_of_kids v (fun z hz => h z (by simp [subtermsKvs, hz]))⟩,
      memOKKvs_of_kids r (fun kv hkv => hk kv (List.mem_cons_of_mem _ hkv))
        (fun z hz => h z (by simp [subtermsKvs, hz]))⟩
end

theorem memOK_of_voidFree {x : Json} (h : voidFree x = true) : memOK x = true := by
  unfold voidFree at h
  rw [List.all_eq_true] at h
  exact memOK_of_kids x h

/-! ## 2. strict hunks in the domain of the reader -/

theorem mem_nodeList {v n : Json} : v ∈ n.nodeList ↔ v = n ∧ n.isVoid = false := by
  unfold Json.nodeList
  cases h : n.isVoid <;> simp

theorem nodeList_ne_nil {n : Json} (h : n.isVoid = false) : n.nodeList ≠ [] := by
  unfold Json.nodeList
  simp [h]

/-- the diff of a scalar against anything is empty or the hunk replacing the one by the other, one
    of the two not void -/
theorem diffNode_scalar_hunk (o : Opts) {a : Json} (h1 : ∀ t xs, a ≠ .arr t xs)
    (h2 : ∀ kvs, a ≠ .obj kvs) (b : Json) (p : Path) :
    ∀ h ∈ diffNode o false a b p,
      h = { path := p, remove := a.nodeList, add := b.nodeList } ∧
        (a.isVoid = false ∨ b.isVoid = false) := by
  intro h hh
  rw [diffNode_scalar o a b h1 h2] at hh
  unfold diffCommon at hh
  split at hh
  · cases hh
  · next hne =>
    simp only [Bool.false_eq_true, if_false, List.mem_singleton] at hh
    refine ⟨hh, ?_⟩
    cases ha : a.isVoid with
    | false => exact .inl rfl
    | true =>
      right
      cases hb : b.isVoid with
      | false => rfl
      | true =>
        exfalso; apply hne
        cases a <;> simp [Json.isVoid] at ha
        cases b <;> simp [Json.isVoid] at hb
        simp [equals, Json.isVoid]

/-- a path that ends with an element of a multi-value kind (an index, `{}`, `[]`) -/
theorem multiLast_snoc (q : Path) {e : PathElem}
    (he : Gen.multiValueKinds.contains (pathElemKind e) = true) : multiLast (q ++ [e]) = true := by
  unfold multiLast
  rw [List.getLast?_append]
  simp only [List.getLast?_singleton, Option.some_or]
  exact he

/-- a strict hunk without void among its removed values, with at most one before-context entry, at
    least one `-` / `+` line, and several removed / added values only where the reader allows them, is in
    the domain of the reader; shared by the list, SET / MULTISET and SetKeys readings -/
theorem wfHunk_of_strict {h : Hunk} (hs : h.merge = false) (hr : ∀ v ∈ h.remove, v.isVoid = false)
    (hi : idxOK h.path = true) (hb : h.before.length ≤ 1)
    (hsome : h.remove ≠ [] ∨ ∃ v ∈ h.add, v.isVoid = false)
    (hmul : (h.remove.length ≤ 1 ∧ h.add.length ≤ 1) ∨ multiLast h.path = true) :
    wfHunk h = true := by
  have e1 : remLines h = h.remove := filter_nonvoid hr
  have e2 : addLines h = h.add.filter (fun v => !v.isVoid) := by
    unfold NativeRT.addLines; rw [hs]; rfl
  unfold NativeRT.wfHunk
  rw [e1, e2]
  simp only [Bool.and_eq_true, Bool.or_eq_true]
  refine ⟨⟨⟨hi, ?_⟩, ?_⟩, ?_⟩
  · have : h.before.drop 1 = [] := by
      cases hb' : h.before with
      | nil => rfl
      | cons x r => rw [hb'] at hb; cases r <;> simp_all
    rw [this]; rfl
  · rcases hsome with h1 | ⟨v, hv, nv⟩
    · left
      cases hr' : h.remove with
      | nil => exact absurd hr' h1
      | cons x r => rfl
    · right
      have : v ∈ h.add.filter (fun v => !v.isVoid) := List.mem_filter.2 ⟨hv, by simp [nv]⟩
      cases hf : h.add.filter (fun v => !v.isVoid) with
      | nil => rw [hf] at this; cases this
      | cons x r => rfl
  · rcases hmul with ⟨h1, h2⟩ | hm
    · left
      have := List.length_filter_le (fun v : Json => !v.isVoid) h.add
      exact ⟨by simp only [decide_eq_true_eq]; omega, by simpa using h1⟩
    · exact .inr hm

/-- … and its void entries are harmless: none, or the single `+ void` at the root -/
theorem voidOK_of_strict {h : Hunk} (hs : h.merge = false) (hr : ∀ v ∈ h.remove, v.isVoid = false)
    (ha : (∀ v ∈ h.add, v.isVoid = false) ∨ (h.path = [] ∧ h.add.length ≤ 1)) : voidOK h = true := by
  unfold Robust.voidOK
  rw [hs]
  have hr' : Robust.noVoid h.remove = true := by
    unfold Robust.noVoid; rw [List.all_eq_true]; intro v hv; simp [hr v hv]
  simp only [Bool.false_eq_true, if_false, Bool.or_eq_true, Bool.and_eq_true]
  rcases ha with h1 | ⟨h1, h2⟩
  · left
    refine ⟨hr', ?_⟩
    unfold Robust.noVoid; rw [List.all_eq_true]; intro v hv; simp [h1 v hv]
  · right
    refine ⟨⟨by rw [h1]; rfl, by unfold voidAlone; simp [hr']⟩, ?_⟩
    unfold voidAlone; simp [h2]

/-- a sequence of strict hunks, each in the domain of the reader, is -/
theorem wfDiff_of_strict {d : Diff} (hw : ∀ h ∈ d, wfHunk h = true) (hs : ∀ h ∈ d, h.merge = false) :
    wfDiff d = true := by
  unfold NativeRT.wfDiff
  rw [Bool.and_eq_true, List.all_eq_true]
  exact ⟨hw, mergeMono_of_all_strict d (List.all_eq_true.2 fun h hh => by simp [hs h hh])⟩

/-! ## 3. the renderer succeeds when every value and every path has a text -/

theorem optAll_isSome {α} : ∀ (l : List (Option α)), (∀ x ∈ l, x.isSome = true) →
    (optAll l).isSome = true
  | [], _ => rfl
  | none :: r, h => by have := h none (List.mem_cons_self ..); cases this
  | some x :: r, h => by
    have ih := optAll_isSome r (fun y hy => h y (List.mem_cons_of_mem _ hy))
    simp only [optAll, Option.isSome_map]; exact ih

theorem optAll_map_isSome {α β} (G : α → Option β) (l : List α)
    (h : ∀ x ∈ l, (G x).isSome = true) : ∃ ls, optAll (l.map G) = some ls :=
  Option.isSome_iff_exists.1 (optAll_isSome _ (fun y hy => by
    obtain ⟨x, hx, rfl⟩ := List.mem_map.1 hy; exact h x hx))

/-- `DiffElement.Render` fails only when `json.Marshal` fails on the path or on a payload value -/
theorem renderHunk_isSome (nc : NumCodec) (h : Hunk)
    (hpath : (jsonM nc (pathToJson h.path)).isSome = true)
    (hv : ∀ v ∈ payloads h, (marshalNode nc v).isSome = true) :
    (renderHunk nc [] h).isSome = true := by
  have mem : ∀ v, v ∈ h.before ++ h.remove ++ h.add ++ h.after → v.isVoid = false →
      (marshalNode nc v).isSome = true := fun v hv1 hv2 =>
    hv v (List.mem_filter.2 ⟨hv1, by simp [hv2]⟩)
  obtain ⟨pt, hpt⟩ := Option.isSome_iff_exists.1 hpath
  obtain ⟨lb, hb⟩ := optAll_map_isSome (ctxLine nc "[") h.before (fun v hv => by
    unfold ctxLine
    cases hvv : v.isVoid with
    | true => rfl
    | false => simpa using mem v (by simp [hv]) hvv)
  obtain ⟨lf, hf⟩ := optAll_map_isSome (ctxLine nc "]") h.after (fun v hv => by
    unfold ctxLine
    cases hvv : v.isVoid with
    | true => rfl
    | false => simpa using mem v (by simp [hv]) hvv)
  obtain ⟨lr, hr⟩ := optAll_map_isSome (remLine nc) (remLines h) (fun v hv => by
    unfold remLine
    obtain ⟨h1, h2⟩ := List.mem_filter.1 hv
    simpa using mem v (by simp [h1]) (by simpa using h2))
  obtain ⟨la, ha⟩ := optAll_map_isSome (addLine nc) (addLines h) (fun v hv => by
    unfold addLine
    cases hvv : v.isVoid with
    | true => rfl
    | false =>
      have : v ∈ h.add := by
        unfold NativeRT.addLines at hv
        split at hv
        · exact hv
        · exact (List.mem_filter.1 hv).1
      simpa using mem v (by simp [this]) hvv)
  rw [renderHunk_lines]
  simp [hunkLines, hpt, hb, hf, hr, ha]

theorem renderM_isSome (nc : NumCodec) (d : Diff)
    (h : ∀ x ∈ d, (renderHunk nc [] x).isSome = true) : ∃ text, renderM nc [] d = some text := by
  obtain ⟨ls, hls⟩ := optAll_map_isSome (renderHunk nc []) d h
  exact ⟨String.join ls, by unfold renderM; rw [hls]; rfl⟩

theorem marshal_retag (nc : NumCodec) (T t : Tag) (xs : List Json)
    (h : (marshalNode nc (.arr t xs)).isSome = true) :
    (marshalNode nc (.arr T xs)).isSome = true := by
  simpa only [marshalNode] using h

/-- the contract on a value does not depend on the Go type of an array node -/
theorem valOK_retag (nc : NumCodec) (T t : Tag) (xs : List Json) (h : ValOK nc (.arr t xs)) :
    ValOK nc (.arr T xs) := by
  intro s hs
  have := h s (by simpa only [marshalNode] using hs)
  simpa only [untag] using this

/-! ## 4. "the text carries this diff", for any diff

  What a reading of `Diff` has to supply so that its printed text can be read back (`Readable`:
  `E2E.diffM_readable`, `Merge.PDiff.readable` for the MERGE strategy) and, read back, has exactly
  the effect of the diff (`Carried`: the SET / MULTISET and SetKeys readings and their Precision
  variants, `E2ES.diffM_carried_set`, `E2EK.diffM_carried_setkeys`, …). -/

/-- `d` is in the reader's domain; `S` holds of its payload values and `Pp` of its paths, the two
    places where the codec contract is asked -/
structure Readable (S : Json → Prop) (Pp : Path → Prop) (d : Diff) : Prop where
  wf : wfDiff d = true
  pay : ∀ h ∈ d, ∀ v ∈ payloads h, S v
  path : ∀ h ∈ d, Pp h.path

/-- … and the text carries it with EXACTLY its effect: tag-free hunks, harmless void entries, no
    `{}`-keyed element -/
structure Carried (S : Json → Prop) (Pp : Path → Prop) (d : Diff) : Prop extends Readable S Pp d where
  raw : d.all rawHunk = true
  keys : noEmptySetKeys d = true
  void : d.all voidOK = true

theorem listDocPath_of_rawDocPath : ∀ p : Path, rawDocPath p = true → listDocPath p = true
  | [], _ => rfl
  | e :: r, h => by
    simp only [rawDocPath, List.all_cons, Bool.and_eq_true] at h
    have ih := listDocPath_of_rawDocPath r (by simpa only [rawDocPath] using h.2)
    cases e <;> simp only [NativeRT.listDocPath, ih, Bool.and_true]
    · exact rawDocKvs_listDocKvs _ h.1
    · exact rawDocKvs_listDocKvs _ h.1

/-- a tag-free hunk re-renders identically -/
theorem listDocHunk_of_raw {h : Hunk} (hr : rawHunk h = true) : listDocHunk h = true := by
  simp only [Robust.rawHunk, Bool.and_eq_true] at hr
  unfold NativeRT.listDocHunk Spec.hunkListDoc
  simp only [Bool.and_eq_true]
  exact ⟨⟨⟨⟨rawDocList_listDocList _ hr.1.1.1.1, rawDocList_listDocList _ hr.1.1.1.2⟩,
    rawDocList_listDocList _ hr.1.1.2⟩, rawDocList_listDocList _ hr.1.2⟩,
    listDocPath_of_rawDocPath _ hr.2⟩

section
variable {S : Json → Prop} {Pp : Path → Prop} {d : Diff} (nc : NumCodec)

theorem Readable.codec (R : Readable S Pp d) (hv : ∀ z, S z → ValOK nc z)
    (hp : ∀ h ∈ d, PathOK nc h.path) : CodecOK nc d :=
  fun h hh => ⟨hp h hh, fun v hv' => hv v (R.pay h hh v hv')⟩

theorem Readable.read (R : Readable S Pp d) (hv : ∀ z, S z → ValOK nc z)
    (hp : ∀ h ∈ d, PathOK nc h.path) (text : String) (hr : renderM nc [] d = some text) :
    readDiffM nc text = .ok (normDiff d) :=
  read_render nc d text R.wf (R.codec nc hv hp) hr

theorem Readable.renders (R : Readable S Pp d) (hmv : ∀ z, S z → (marshalNode nc z).isSome = true)
    (hmp : ∀ h ∈ d, (jsonM nc (pathToJson h.path)).isSome = true) :
    ∃ text, renderM nc [] d = some text :=
  renderM_isSome nc d fun h hh => renderHunk_isSome nc h (hmp h hh) fun v hv => hmv v (R.pay h hh v hv)

variable (C : Carried S Pp d)
include C

theorem Carried.effect (c : Json) : patchM c (normDiff d) = patchM c d :=
  patchAll_normDiff_of_noEmptySetKeys true d C.raw C.keys C.void c

theorem Carried.relist : d.all listDocHunk = true :=
  List.all_eq_true.2 fun h hh => listDocHunk_of_raw (List.all_eq_true.1 C.raw h hh)

/-- C02 proper: read back, identical text, the same outcome on every document -/
theorem Carried.lossless (hv : ∀ z, S z → ValOK nc z) (hp : ∀ h ∈ d, PathOK nc h.path)
    (text : String) (hr : renderM nc [] d = some text) :
    readDiffM nc text = .ok (normDiff d) ∧ renderM nc [] (normDiff d) = some text ∧
      ∀ c : Json, patchM c (normDiff d) = patchM c d :=
  ⟨C.read nc hv hp text hr, by rw [render_norm nc d C.relist, hr], C.effect⟩

/-- total form: the text exists, is read back, and has the outcome of `d` on every document -/
theorem Carried.print_read (hv : ∀ z, S z → (marshalNode nc z).isSome = true ∧ ValOK nc z)
    (hp : ∀ h ∈ d, (jsonM nc (pathToJson h.path)).isSome = true ∧ PathOK nc h.path) :
    ∃ text, renderM nc [] d = some text ∧ readDiffM nc text = .ok (normDiff d) ∧
      ∀ c : Json, patchM c (normDiff d) = patchM c d := by
  obtain ⟨text, ht⟩ := C.renders nc (fun z hz => (hv z hz).1) (fun h hh => (hp h hh).1)
  exact ⟨text, ht, C.read nc (fun z hz => (hv z hz).2) (fun h hh => (hp h hh).2) text ht, C.effect⟩

end

/-! ## 5. the codec contract on the decidable domain of JdProofs.JsonTextRoundTrip -/

theorem preOKKvs_forall (nc : NumCodec) (kvs : List (String × Json)) :
    JText.preOKKvs nc kvs = true ↔ ∀ kv ∈ kvs, JText.preOK nc kv.2 = true := by
  rw [JText.preOKKvs_eq_all, List.all_eq_true]

theorem mSetFreeList_forall (xs : List Json) :
    JText.mSetFreeList xs = true ↔ ∀ x ∈ xs, JText.mSetFree x = true := by
  rw [JText.mSetFreeList_eq_all, List.all_eq_true]

theorem setFreeKvs_forall (kvs : List (String × Json)) :
    JText.setFreeKvs kvs = true ↔ ∀ kv ∈ kvs, JText.setFree kv.2 = true := by
  rw [JText.setFreeKvs_eq_all, List.all_eq_true]

/-- the decidable domain of the general text round trip (`JText.preOK`: well-formed, nothing void,
    numbers the codec carries; `JText.mSetFree`: no set-typed array inside an object) is closed under
    sub-terms -/
theorem textOK_subterms (nc : NumCodec) (v : Json) (hp : JText.preOK nc v = true)
    (hs : JText.mSetFree v = true) :
    ∀ z ∈ subterms v, JText.preOK nc z = true ∧ JText.mSetFree z = true := by
  refine hered_subterms (P := fun z => JText.preOK nc z = true ∧ JText.mSetFree z = true)
    ⟨fun {t xs x} h hx => ?_, fun {kvs k v} h hkv => ?_⟩ v ⟨hp, hs⟩
  · simp only [JText.preOK, JText.mSetFree, JText.preOKList_forall, mSetFreeList_forall] at h
    exact ⟨h.1 x hx, h.2 x hx⟩
  · simp only [JText.preOK, JText.mSetFree, Bool.and_eq_true, preOKKvs_forall,
      setFreeKvs_forall] at h
    exact ⟨h.1.2 (k, v) hkv, JText.mSetFree_of_setFree _ (h.2 (k, v) hkv)⟩

/-- `json.Marshal` succeeds on a value of that domain and the codec contract holds of it -/
theorem val_textOK (nc : NumCodec) (v : Json) (hp : JText.preOK nc v = true)
    (hs : JText.mSetFree v = true) : (marshalNode nc v).isSome = true ∧ ValOK nc v := by
  obtain ⟨s, h, _⟩ := JText.marshalNode_parse nc v (JText.mOK_of_preOK nc v hp)
  rw [JText.preOK_iff] at hp
  simp only [Bool.and_eq_true] at hp
  exact ⟨by rw [h]; rfl, JText.valOK nc v hp.1.1 hp.1.2 hp.2 hs⟩

/-- the hypothesis on the values of the end-to-end theorems, for a document of that domain … -/
theorem subvals_textOK (nc : NumCodec) (a : Json) (ha : JText.preOK nc a = true)
    (hsa : JText.mSetFree a = true) :
    ∀ z ∈ subterms a, (marshalNode nc z).isSome = true ∧ ValOK nc z :=
  fun z hz =>
    val_textOK nc z (textOK_subterms nc a ha hsa z hz).1 (textOK_subterms nc a ha hsa z hz).2

/-- … and for two -/
theorem vals_textOK (nc : NumCodec) (a b : Json) (ha : JText.preOK nc a = true)
    (hsa : JText.mSetFree a = true) (hb : JText.preOK nc b = true) (hsb : JText.mSetFree b = true) :
    ∀ z ∈ subterms a ++ subterms b, (marshalNode nc z).isSome = true ∧ ValOK nc z := by
  intro z hz
  rcases List.mem_append.1 hz with hz | hz
  · exact subvals_textOK nc a ha hsa z hz
  · exact subvals_textOK nc b hb hsb z hz

/-- the same for a path, through its JSON form -/
theorem path_textOK (nc : NumCodec) (p : Path) (hp : JText.preOK nc (pathToJson p) = true)
    (hs : JText.setFree (pathToJson p) = true) :
    (jsonM nc (pathToJson p)).isSome = true ∧ PathOK nc p := by
  rw [JText.preOK_iff] at hp
  simp only [Bool.and_eq_true] at hp
  obtain ⟨s, h, _⟩ := JText.jsonM_parse nc _ hp.1.1 hp.1.2 hp.2
  exact ⟨by rw [h]; rfl, JText.pathOK nc p hp.1.1 hp.1.2 hp.2 hs⟩

/-- the JSON form of a path whose key objects are list documents (`listDocPath`, a conclusion of
    every `diffM_premises*`) has no set-typed array -/
theorem setFree_pathToJson : ∀ p : Path, listDocPath p = true → JText.setFree (pathToJson p) = true
  | [], _ => rfl
  | e :: r, h => by
    have ih := fun hr => setFree_pathToJson r hr
    cases e <;>
      simp only [NativeRT.listDocPath, Bool.and_eq_true] at h <;>
      simp [pathToJson, JText.setFree, JText.setFreeList, JText.setFreeKvs] at ih ⊢
    all_goals first
      | exact ih h
      | exact ⟨JText.setFreeKvs_of_listDoc _ h.1, ih h.2⟩

/-- … and for the paths of a concrete diff, by one evaluation -/
theorem paths_textOK (nc : NumCodec) (d : Diff)
    (hd : d.all (fun h =>
      JText.preOK nc (pathToJson h.path) && JText.setFree (pathToJson h.path)) = true) :
    ∀ h ∈ d, (jsonM nc (pathToJson h.path)).isSome = true ∧ PathOK nc h.path := by
  intro h hh
  have := List.all_eq_true.1 hd h hh
  rw [Bool.and_eq_true] at this
  exact path_textOK nc h.path this.1 this.2

/-- the codec contract of a concrete diff, and `Render` succeeding on each of its hunks -/
theorem diff_textOK (nc : NumCodec) (d : Diff)
    (hp : d.all (fun h =>
      JText.preOK nc (pathToJson h.path) && JText.setFree (pathToJson h.path)) = true)
    (hv : d.all (fun h => (payloads h).all fun v => JText.preOK nc v && JText.mSetFree v) = true) :
    CodecOK nc d ∧ ∀ h ∈ d, (renderHunk nc [] h).isSome = true := by
  have pth := paths_textOK nc d hp
  have pay : ∀ h ∈ d, ∀ v ∈ payloads h, (marshalNode nc v).isSome = true ∧ ValOK nc v := by
    intro h hh v hv'
    have := List.all_eq_true.1 (List.all_eq_true.1 hv h hh) v hv'
    rw [Bool.and_eq_true] at this
    exact val_textOK nc v this.1 this.2
  exact ⟨fun h hh => ⟨(pth h hh).2, fun v hv' => (pay h hh v hv').2⟩,
    fun h hh => renderHunk_isSome nc h (pth h hh).1 (fun v hv' => (pay h hh v hv').1)⟩

/-! ## 6. a text the reader rejects -/

/-- `ReadDiffString` rejects the text `unlines ls`: the text is split into its lines by
    `splitOn_unlines` (core `String.splitOn` is not run), the reader itself is run by the kernel -/
theorem readDiffM_unlines_err {nc : NumCodec} {ls : List String}
    (hl : ls.all (fun l => !l.toList.contains '\n') = true)
    (h : (match readLines nc {} (ls ++ [""]) with
          | .ok acc => Gen.readerNonTerminal.contains acc.st.name ||
              (acc.st != .init && !checkHunk acc.cur)
          | .err => true
          | .panic => false) = true) :
    readDiffM nc (unlines ls) = .err := by
  unfold readDiffM
  rw [unlines, splitOn_unlines _ (fun l hl' => by
    have := List.all_eq_true.1 hl l hl'; simpa using this)]
  cases hr : readLines nc {} (ls ++ [""]) with
  | err => rfl
  | panic => rw [hr] at h; cases h
  | ok acc =>
    rw [hr] at h
    simp only [Bool.or_eq_true, Bool.and_eq_true, Bool.not_eq_true'] at h
    rcases h with h | ⟨h1, h2⟩
    · simp only [h, if_true]
    · cases hc : Gen.readerNonTerminal.contains acc.st.name <;> simp [h1, h2]

end Jd.E2E

/-! ### axioms -/

#print axioms Jd.E2E.memOK_of_voidFree
