/-
  JdProofs.JsonTextRoundTrip (namespace `Jd.JText`) — the JSON text layer of the model
  (JdModel/Text.lean): the printer (`quoteString`, `jsonText`, `jsonM` = `node.Json()`, `marshalNode` =
  `json.Marshal(node)`) and the parser (`lexString`, `lexNumber`, `parseValue`, `parseJson` =
  `json.Unmarshal`, `readJsonM` = `ReadJsonString`) are inverse to each other on every document a
  reader can produce. From that: the codec contract of the native format (`valOK`, `pathOK`,
  `codecOK` discharge `NativeRT.ValOK` / `PathOK` / `CodecOK` from Bool-valued hypotheses), the text
  level of JSON Patch (`readPatchM_renderPatchM…`) and JSON Merge Patch (`readMergeM_renderMergeM…`),
  the same for v1 (`namespace V1T`: `/repo/lib` shares `jsonText` / `parseJson`; its `raw()` orders
  sets by the v1 hash), and `numOK_int` (integers below 10^15 need no codec).  In the other direction,
  for ANY text: what the parser returns has plain arrays, sorted unique keys and no void inside
  (`CliExit.parse_shape`, `CliExit.readJsonM_shape`).

  What comes back is `rawNorm v` for `Json()` (`raw()` as a document: every array plain, a set-typed
  array deduplicated and in hash order) and `mnorm v` for `json.Marshal(node)` (arrays element-wise
  in stored order with the tag erased, objects through `rawNorm`, void ↦ `{}`); under `rawDoc` /
  `setFree` / `mSetFree` these are `v` / `untag v`.  The facts about the two normalisers, and about their
  v1 twins, are instances of statements about any `IsRawNorm N` / `IsMNorm N M` (YamlProofs §4,
  NativeRoundTrip §12, and `IsRawNorm.pres`, `IsMNorm.rawDoc / pres / eq_untag / of_rawDoc` here).

  Hypotheses, all Bool-valued functions of the input (`preOK nc v` is the conjunction of the first
  three: `preOK_iff`):
    `v.wf`            sorted unique keys: the parser inserts members with `ainsert` (last duplicate wins,
                      sorted); a document with unsorted or duplicate keys is not what any reader produces.
    `Yaml.voidFree v` no void node inside: `raw()` of void is the string "" —
                      `void_inside_not_roundtripped` (by design, not a defect).
    `NumOK nc v`      every number `b` of `v` satisfies `numOK nc b`: `fmtNum nc b = some s`, `s` is one
                      token of the JSON number grammar and `parseNumToken nc s = some b`. `strconv` is a
                      parameter of the model (`NumCodec`), so this cannot be a theorem; it is one for
                      integers (`numOK_int`), and `numOK_1e15_emptyCodec` shows that it is a genuine
                      hypothesis beyond 15 digits.
    `delim rest`      inside the core lemma `pv_text` only: a number token must not be continued by the
                      input (`,` `]` `}` and white space are delimiters).

  Findings:
    * No disagreement between the model's printer and parser on strings: `parseJson_quoteString` holds
      for every `String`. A Lean `String` is a sequence of Unicode scalar values, so lone surrogates
      and invalid UTF-8 — the only inputs on which Go's `json.Marshal` is lossy (it writes U+FFFD) —
      are not in the model's value universe. Replayed on Go (encoding/json): all 1 112 064 scalar
      values round-trip through Marshal / Unmarshal; `/` and DEL are written verbatim, `< > &` U+2028
      U+2029 escaped: as the model.
    * `-0` is printed `-0` and read back as -0 (`numOK_negZero`), in Go too.
    * Model remark (not Go): `fmtNum` formats integers below 2^53 itself but `parseNumToken` parses
      only up to 15 digits itself; between 10^15 and 2^53 the round trip relies on `nc.parse`
      (`numOK_1e15_emptyCodec`). The comment in JdModel/Text.lean ("formatted / parsed by the model
      itself") is accurate only below 10^15.

  Not proved: non-integral numbers (they are the codec's: hypothesis `NumOK`); documents with void
  inside or unsorted keys; reading texts that the model did not print (other white space inside, `\/`,
  `\uXXXX` for printable characters, surrogate pairs, duplicate keys): only own output is covered,
  with arbitrary JSON white space around it; the v1 native-format theorems are not re-derived (only
  the payload lemma `V1T.readJsonM_marshalNode`).
-/
import JdModel
import JdSpec
import JdProofs.NativeRoundTrip
import JdProofs.YamlProofs
import JdProofs.PatchRender
import JdProofs.Common

set_option linter.deprecated false

namespace Jd.JText
open Jd Jd.Spec

/-! ## 1. characters -/

/-! ### what `appendString` writes for one rune -/

/-- the two-character escapes: (letter after the backslash, rune) -/
def escPairs : List (Char × Char) :=
  [('"', '"'), ('\\', '\\'), ('b', '\x08'), ('f', '\x0c'), ('n', '\n'), ('r', '\r'), ('t', '\t')]

theorem escapeChar_pair : ∀ p ∈ escPairs, escapeChar p.2 = ['\\', p.1] := by decide

/-- the five shapes of `escapeChar c`. (`split` on the cascade of `escapeChar` is very slow to
    elaborate; every fact about `escapeChar` goes through this lemma instead.) -/
theorem escapeChar_cases (c : Char) :
    (∃ e, (e, c) ∈ escPairs ∧ escapeChar c = ['\\', e]) ∨
    (c.toNat < 0x80 ∧
      escapeChar c = ['\\', 'u', '0', '0', hexNibble (c.toNat / 16), hexNibble (c.toNat % 16)]) ∨
    (c = Char.ofNat 0x2028 ∧ escapeChar c = ['\\', 'u', '2', '0', '2', '8']) ∨
    (c = Char.ofNat 0x2029 ∧ escapeChar c = ['\\', 'u', '2', '0', '2', '9']) ∨
    (c ≠ '"' ∧ c ≠ '\\' ∧ 0x20 ≤ c.toNat ∧ escapeChar c = [c]) := by
  by_cases hp : c ∈ escPairs.map Prod.snd
  · obtain ⟨⟨e, _⟩, hm, rfl⟩ := List.mem_map.1 hp
    exact .inl ⟨e, hm, escapeChar_pair _ hm⟩
  refine .inr ?_
  simp only [escPairs, List.map_cons, List.map_nil, List.mem_cons, List.not_mem_nil, or_false,
    not_or, ← beq_eq_false_iff_ne] at hp
  obtain ⟨h1, h2, h3, h4, h5, h6, h7⟩ := hp
  unfold escapeChar
  simp only [h1, h2, h3, h4, h5, h6, h7, Bool.false_eq_true, if_false]
  by_cases h8 : (decide (c.toNat < 0x20) || c == '<' || c == '>' || c == '&') = true
  · rw [if_pos h8]
    refine .inl ⟨?_, rfl⟩
    simp only [Bool.or_eq_true, decide_eq_true_eq, beq_iff_eq] at h8
    rcases h8 with ((h | rfl) | rfl) | rfl
    · omega
    all_goals decide
  rw [if_neg h8]
  simp only [Bool.or_eq_true, decide_eq_true_eq, not_or] at h8
  refine .inr ?_
  by_cases h9 : c.toNat = 0x2028
  · exact .inl ⟨by rw [← h9]; simp, by rw [if_pos (by simpa using h9)]; rfl⟩
  rw [if_neg (by simpa using h9)]
  refine .inr ?_
  by_cases h10 : c.toNat = 0x2029
  · exact .inl ⟨by rw [← h10]; simp, by rw [if_pos (by simpa using h10)]; rfl⟩
  rw [if_neg (by simpa using h10)]
  exact .inr ⟨by simpa using h1, by simpa using h2, by omega, rfl⟩

/-- no control character is written: not a newline (`jsonText_noNL`), not ESC (`NativeRT.escapeBody_noesc`) -/
theorem escapeChar_noCtl (c y : Char) (h : y ∈ escapeChar c) : 0x20 ≤ y.toNat := by
  have hex : ∀ n < 16, 0x20 ≤ (hexNibble n).toNat := by decide
  rcases escapeChar_cases c with ⟨e, he, h'⟩ | ⟨hc, h'⟩ | ⟨_, h'⟩ | ⟨_, h'⟩ | ⟨_, _, hc, h'⟩ <;>
    rw [h'] at h
  · have hp : ∀ p ∈ escPairs, 0x20 ≤ p.1.toNat := by decide
    simp only [List.mem_cons, List.not_mem_nil, or_false] at h
    rcases h with rfl | rfl
    · decide
    · exact hp _ he
  · simp only [List.mem_cons, List.not_mem_nil, or_false] at h
    rcases h with rfl | rfl | rfl | rfl | rfl | rfl
    · decide
    · decide
    · decide
    · decide
    · exact hex _ (by omega)
    · exact hex _ (by omega)
  · revert y; decide
  · revert y; decide
  · simp only [List.mem_singleton] at h; subst h; exact hc

/-! ### what `lexString` reads -/

theorem lexString_quote (fuel : Nat) (acc r : List Char) :
    lexString (fuel+1) acc ('"' :: r) = some (String.ofList acc.reverse, r) := by
  simp [lexString]

theorem lexString_plain (fuel : Nat) (acc r : List Char) (c : Char) (h1 : c ≠ '"') (h2 : c ≠ '\\')
    (h3 : ¬ c.toNat < 0x20) : lexString (fuel+1) acc (c :: r) = lexString fuel (c :: acc) r := by
  conv => lhs; unfold lexString
  split <;> simp_all
  omega

theorem lexString_esc (fuel : Nat) (acc r : List Char) (e d : Char) (h : (e, d) ∈ escPairs) :
    lexString (fuel+1) acc ('\\' :: e :: r) = lexString fuel (d :: acc) r := by
  simp only [escPairs, List.mem_cons, Prod.mk.injEq, List.mem_nil_iff, or_false] at h
  rcases h with ⟨rfl, rfl⟩|⟨rfl, rfl⟩|⟨rfl, rfl⟩|⟨rfl, rfl⟩|⟨rfl, rfl⟩|⟨rfl, rfl⟩|⟨rfl, rfl⟩ <;>
    simp [lexString]

theorem hexDigitVal_hexNibble : ∀ n < 16, hexDigitVal (hexNibble n) = some n := by decide

/-- a `\uXXXX` escape of a non-surrogate code unit -/
theorem lexString_u (fuel : Nat) (acc r : List Char) (a b c d : Char) (u : Nat)
    (h : hex4 (a :: b :: c :: d :: r) = some (u, r)) (hu : u < 0xD800 ∨ 0xE000 ≤ u) :
    lexString (fuel+1) acc ('\\' :: 'u' :: a :: b :: c :: d :: r) = lexString fuel (Char.ofNat u :: acc) r := by
  conv => lhs; unfold lexString
  simp only [h]
  have h1 : ¬ (0xD800 ≤ u ∧ u < 0xDC00) := by omega
  have h2 : ¬ (0xDC00 ≤ u ∧ u < 0xE000) := by omega
  simp [h1, h2]

theorem lexString_u00 (fuel : Nat) (acc r : List Char) (c : Char) (h : c.toNat < 0x80) :
    lexString (fuel+1) acc ('\\' :: 'u' :: '0' :: '0' :: hexNibble (c.toNat / 16) :: hexNibble (c.toNat % 16) :: r)
      = lexString fuel (c :: acc) r := by
  have h1 := hexDigitVal_hexNibble (c.toNat / 16) (by omega)
  have h2 := hexDigitVal_hexNibble (c.toNat % 16) (by omega)
  have h0 : hexDigitVal '0' = some 0 := by decide
  have hc : Char.ofNat c.toNat = c := by simp
  have hv : ((0 * 16 + 0) * 16 + c.toNat / 16) * 16 + c.toNat % 16 = c.toNat := by omega
  rw [lexString_u fuel acc r _ _ _ _ c.toNat _ (by omega), hc]
  simp [hex4, h0, h1, h2]
  omega

/-- **characters**: whatever `appendString` writes for one rune is read back as that rune -/
theorem lexString_escapeChar (fuel : Nat) (acc r : List Char) (c : Char) :
    lexString (fuel+1) acc (escapeChar c ++ r) = lexString fuel (c :: acc) r := by
  rcases escapeChar_cases c with ⟨e, he, h⟩ | ⟨hc, h⟩ | ⟨rfl, h⟩ | ⟨rfl, h⟩ | ⟨h1, h2, h3, h⟩ <;>
    rw [h]
  · exact lexString_esc fuel acc r e c he
  · exact lexString_u00 fuel acc r c hc
  · exact lexString_u fuel acc r '2' '0' '2' '8' 0x2028 (by simp [hex4, hexDigitVal]) (by omega)
  · exact lexString_u fuel acc r '2' '0' '2' '9' 0x2029 (by simp [hex4, hexDigitVal]) (by omega)
  · exact lexString_plain fuel acc r c h1 h2 (by omega)

/-! ## 2. strings -/

/-- the escaped body of a string, on character lists -/
def escL (cs : List Char) : List Char := cs.flatMap escapeChar

theorem escapeChar_ne_nil (c : Char) : escapeChar c ≠ [] := by
  rcases escapeChar_cases c with ⟨_, _, h⟩ | ⟨_, h⟩ | ⟨_, h⟩ | ⟨_, h⟩ | ⟨_, _, _, h⟩ <;>
    rw [h] <;> exact List.cons_ne_nil _ _

theorem length_le_escL : ∀ cs : List Char, cs.length ≤ (escL cs).length
  | [] => by simp [escL]
  | c :: r => by
    have ih := length_le_escL r
    have := List.length_pos_iff.2 (escapeChar_ne_nil c)
    simp only [escL, List.flatMap_cons, List.length_append, List.length_cons] at ih ⊢
    omega

/-- **strings** (on the body): the escaped body followed by the closing quote is read back, with
    any fuel of at least the number of runes plus one -/
theorem lexString_escL : ∀ (cs acc rest : List Char) (k : Nat),
    lexString (cs.length + 1 + k) acc (escL cs ++ '"' :: rest) = some (String.ofList (acc.reverse ++ cs), rest)
  | [], acc, rest, k => by
    simp only [escL, List.flatMap_nil, List.nil_append, List.length_nil, Nat.zero_add, List.append_nil]
    rw [Nat.add_comm 1 k]; exact lexString_quote k acc rest
  | c :: cs, acc, rest, k => by
    have ih := lexString_escL cs (c :: acc) rest k
    have e : (c :: cs).length + 1 + k = (cs.length + 1 + k) + 1 := by simp only [List.length_cons]; omega
    rw [e]
    simp only [escL, List.flatMap_cons, List.append_assoc] at ih ⊢
    rw [lexString_escapeChar, ih]
    simp

theorem quoteString_toList (s : String) : (quoteString s).toList = '"' :: (escL s.toList ++ ['"']) := by
  simp [quoteString, escapeBody, escL, String.toList_append]

/-- the string lexer as `parseValue` / `parseMembers` call it, on a quoted string followed by anything -/
theorem lexString_quoted (s : String) (rest : List Char) :
    lexString ((escL s.toList ++ '"' :: rest).length + 1) [] (escL s.toList ++ '"' :: rest) = some (s, rest) := by
  have hle := length_le_escL s.toList
  have e : (escL s.toList ++ '"' :: rest).length + 1 =
      s.toList.length + 1 + ((escL s.toList ++ '"' :: rest).length - s.toList.length) := by
    simp only [List.length_append, List.length_cons] at *
    omega
  rw [e, lexString_escL]
  simp [String.ofList_toList]

/-! ## 3. number tokens -/

/-- what may follow a number token: anything that does not extend it (end of input, or a character
    other than a digit, `.`, `e`, `E`) -/
def delim : List Char → Bool
  | [] => true
  | c :: _ => !(isDigit c) && c != '.' && c != 'e' && c != 'E'

theorem takeDigits_append (rest : List Char) (hr : delim rest = true) :
    ∀ l : List Char, takeDigits (l ++ rest) = ((takeDigits l).1, (takeDigits l).2 ++ rest)
  | [] => by
    cases rest with
    | nil => simp [takeDigits]
    | cons c r =>
      simp only [delim, Bool.and_eq_true, Bool.not_eq_true'] at hr
      simp [takeDigits, hr.1.1.1]
  | c :: l => by
    have ih := takeDigits_append rest hr l
    by_cases hc : isDigit c = true
    · simp [takeDigits, hc, ih]
    · simp [takeDigits, hc]

def signSplit : List Char → List Char × List Char
  | '+' :: t => (['+'], t)
  | '-' :: t => (['-'], t)
  | t => ([], t)

theorem lexExp_cons (acc : List Char) (e : Char) (r1 : List Char) :
    lexNumber.lexExp acc (e :: r1) =
      if (e == 'e' || e == 'E') = true then
        (if (takeDigits (signSplit r1).2).1.isEmpty = true then none
         else some (acc ++ e :: (signSplit r1).1 ++ (takeDigits (signSplit r1).2).1, (takeDigits (signSplit r1).2).2))
      else some (acc, e :: r1) := by
  simp only [lexNumber.lexExp, signSplit]
  rfl

theorem signSplit_other (c : Char) (l : List Char) (h1 : c ≠ '+') (h2 : c ≠ '-') :
    signSplit (c :: l) = ([], c :: l) := by
  unfold signSplit; split <;> simp_all

theorem signSplit_append (c : Char) (t rest : List Char) :
    signSplit (c :: t ++ rest) = ((signSplit (c :: t)).1, (signSplit (c :: t)).2 ++ rest) := by
  by_cases h1 : c = '+'
  · subst h1; simp [signSplit]
  by_cases h2 : c = '-'
  · subst h2; simp [signSplit]
  simp [signSplit_other _ _ h1 h2]

theorem takeDigits_fst_digit : ∀ (l : List Char) (c : Char), c ∈ (takeDigits l).1 → isDigit c = true
  | [], c, h => by simp [takeDigits] at h
  | a :: l, c, h => by
    by_cases ha : isDigit a = true
    · simp only [takeDigits, ha, if_true, List.mem_cons] at h
      rcases h with h | h
      · subst h; exact ha
      · exact takeDigits_fst_digit l c h
    · simp [takeDigits, ha] at h

theorem takeDigits_noNL (l : List Char) : '\n' ∉ (takeDigits l).1 := fun h => by
  have := takeDigits_fst_digit l _ h
  simp [isDigit] at this

theorem signSplit_noNL (l : List Char) : '\n' ∉ (signSplit l).1 := by
  unfold signSplit; split <;> simp

/-- what the argument needs of a token, level by level of `lexNumber`: a delimiter after the input
    does not change it, and it contains no newline -/
theorem lexExp_token (rest : List Char) (hr : delim rest = true) (acc r a t : List Char)
    (h : lexNumber.lexExp acc r = some (a, t)) :
    lexNumber.lexExp acc (r ++ rest) = some (a, t ++ rest) ∧ ('\n' ∉ acc → '\n' ∉ a) := by
  cases r with
  | nil =>
    simp [lexNumber.lexExp] at h
    obtain ⟨rfl, rfl⟩ := h
    refine ⟨?_, id⟩
    cases rest with
    | nil => simp [lexNumber.lexExp]
    | cons c r =>
      simp only [delim, Bool.and_eq_true, Bool.not_eq_true', bne_iff_ne, ne_eq] at hr
      simp [lexNumber.lexExp, hr.1.2, hr.2]
  | cons e r1 =>
    rw [List.cons_append, lexExp_cons]
    rw [lexExp_cons] at h
    by_cases he : (e == 'e' || e == 'E') = true
    · rw [if_pos he] at h ⊢
      cases r1 with
      | nil => simp [signSplit, takeDigits] at h
      | cons c t' =>
        rw [signSplit_append]
        simp only [takeDigits_append rest hr]
        split at h
        · simp at h
        · next hne =>
          rw [if_neg hne]
          simp only [Option.some.injEq, Prod.mk.injEq] at h
          rw [← h.1, ← h.2]
          refine ⟨rfl, fun ha => ?_⟩
          simp only [List.mem_append, List.mem_cons, not_or]
          refine ⟨⟨ha, ?_, signSplit_noNL _⟩, takeDigits_noNL _⟩
          simp only [Bool.or_eq_true, beq_iff_eq] at he
          rcases he with he | he <;> subst he <;> decide
    · rw [if_neg he] at h ⊢
      simp only [Option.some.injEq, Prod.mk.injEq] at h
      rw [← h.1, ← h.2]
      exact ⟨by simp, id⟩

theorem lexFrac_cons (acc : List Char) (c : Char) (r1 : List Char) :
    lexNumber.lexFrac acc (c :: r1) =
      if c = '.' then
        (if (takeDigits r1).1.isEmpty = true then none
         else lexNumber.lexExp (acc ++ '.' :: (takeDigits r1).1) (takeDigits r1).2)
      else lexNumber.lexExp acc (c :: r1) := by
  by_cases h : c = '.'
  · subst h; simp [lexNumber.lexFrac]
  · rw [if_neg h]; unfold lexNumber.lexFrac; split <;> simp_all

theorem lexFrac_token (rest : List Char) (hr : delim rest = true) (acc r a t : List Char)
    (h : lexNumber.lexFrac acc r = some (a, t)) :
    lexNumber.lexFrac acc (r ++ rest) = some (a, t ++ rest) ∧ ('\n' ∉ acc → '\n' ∉ a) := by
  cases r with
  | nil =>
    have h' : lexNumber.lexExp acc [] = some (a, t) := by simpa [lexNumber.lexFrac] using h
    have := lexExp_token rest hr acc [] a t h'
    refine ⟨?_, this.2⟩
    cases rest with
    | nil => simpa [lexNumber.lexFrac] using this.1
    | cons c r =>
      rw [List.nil_append, lexFrac_cons]
      simp only [delim, Bool.and_eq_true, Bool.not_eq_true', bne_iff_ne, ne_eq] at hr
      rw [if_neg hr.1.1.2]; simpa using this.1
  | cons c r1 =>
    rw [List.cons_append, lexFrac_cons]
    rw [lexFrac_cons] at h
    by_cases hc : c = '.'
    · rw [if_pos hc] at h ⊢
      simp only [takeDigits_append rest hr]
      split at h
      · simp at h
      · next hne =>
        rw [if_neg hne]
        have := lexExp_token rest hr _ _ a t h
        refine ⟨this.1, fun ha => this.2 ?_⟩
        simp only [List.mem_append, List.mem_cons, not_or]
        exact ⟨ha, by decide, takeDigits_noNL _⟩
    · rw [if_neg hc] at h ⊢
      exact lexExp_token rest hr _ _ a t h

/-- the unsigned part of `lexNumber` -/
def lexNum0 (sign : List Char) : List Char → Option (List Char × List Char)
  | [] => none
  | c :: r1 =>
    if c = '0' then lexNumber.lexFrac (sign ++ ['0']) r1
    else if isDigit c then lexNumber.lexFrac (sign ++ (takeDigits (c :: r1)).1) (takeDigits (c :: r1)).2
    else none

theorem lexNumber_nil : lexNumber [] = none := by simp [lexNumber]

theorem lexNum0_eq (sign r0 : List Char) :
    (match r0 with
     | '0' :: r1 => lexNumber.lexFrac (sign ++ ['0']) r1
     | c :: _ =>
       if isDigit c then
         let (ds, r1) := takeDigits r0
         lexNumber.lexFrac (sign ++ ds) r1
       else none
     | [] => none) = lexNum0 sign r0 := by
  cases r0 with
  | nil => rfl
  | cons c r1 =>
    by_cases h : c = '0'
    · subst h; simp [lexNum0]
    · simp only [lexNum0, if_neg h]

theorem lexNumber_cons (c : Char) (r : List Char) :
    lexNumber (c :: r) = if c = '-' then lexNum0 ['-'] r else lexNum0 [] (c :: r) := by
  by_cases h : c = '-'
  · subst h; simp only [lexNumber, if_true]; exact lexNum0_eq _ _
  · rw [if_neg h]
    unfold lexNumber
    split
    · next x r0 heq =>
      split at heq
      · next heq' => exact absurd (List.cons.inj heq').1 h
      · cases heq; exact lexNum0_eq _ _

theorem lexNum0_token (rest : List Char) (hr : delim rest = true) (sign r a t : List Char)
    (h : lexNum0 sign r = some (a, t)) :
    lexNum0 sign (r ++ rest) = some (a, t ++ rest) ∧ ('\n' ∉ sign → '\n' ∉ a) := by
  cases r with
  | nil => simp [lexNum0] at h
  | cons c r1 =>
    simp only [List.cons_append, lexNum0] at h ⊢
    by_cases h0 : c = '0'
    · rw [if_pos h0] at h ⊢
      have := lexFrac_token rest hr _ _ a t h
      exact ⟨this.1, fun ha => this.2 (by simpa using ha)⟩
    · rw [if_neg h0] at h ⊢
      by_cases hd : isDigit c = true
      · rw [if_pos hd] at h ⊢
        rw [← List.cons_append, takeDigits_append rest hr]
        have := lexFrac_token rest hr _ _ a t h
        refine ⟨this.1, fun ha => this.2 ?_⟩
        simp only [List.mem_append, not_or]; exact ⟨ha, takeDigits_noNL _⟩
      · rw [if_neg hd] at h; simp at h

theorem lexNumber_token (rest : List Char) (hr : delim rest = true) (r a t : List Char)
    (h : lexNumber r = some (a, t)) : lexNumber (r ++ rest) = some (a, t ++ rest) ∧ '\n' ∉ a := by
  cases r with
  | nil => simp [lexNumber_nil] at h
  | cons c r1 =>
    rw [List.cons_append, lexNumber_cons]
    rw [lexNumber_cons] at h
    by_cases hc : c = '-'
    · rw [if_pos hc] at h ⊢
      have := lexNum0_token rest hr _ _ a t h
      exact ⟨this.1, this.2 (by decide)⟩
    · rw [if_neg hc] at h ⊢
      rw [← List.cons_append]
      have := lexNum0_token rest hr _ _ a t h
      exact ⟨this.1, this.2 (by simp)⟩

/-- **number tokens**: a token of the number grammar followed by a delimiter is lexed as that token -/
theorem lexNumber_append (rest : List Char) (hr : delim rest = true) (r a t : List Char)
    (h : lexNumber r = some (a, t)) : lexNumber (r ++ rest) = some (a, t ++ rest) :=
  (lexNumber_token rest hr r a t h).1

theorem lexNumber_noNL (r a t : List Char) (h : lexNumber r = some (a, t)) : '\n' ∉ a :=
  (lexNumber_token [] rfl r a t h).2

/-- a number token starts with `-` or a digit -/
theorem lexNumber_head {r a t : List Char} (h : lexNumber r = some (a, t)) :
    ∃ c r1, r = c :: r1 ∧ (c == '-' || isDigit c) = true := by
  cases r with
  | nil => simp [lexNumber_nil] at h
  | cons c r1 =>
    refine ⟨c, r1, rfl, ?_⟩
    rw [lexNumber_cons] at h
    by_cases hc : c = '-'
    · simp [hc]
    · rw [if_neg hc] at h
      simp only [lexNum0] at h
      by_cases h0 : c = '0'
      · subst h0; decide
      · rw [if_neg h0] at h
        by_cases hd : isDigit c = true
        · simp [hd]
        · rw [if_neg hd] at h; simp at h

/-! ## 4. the parser's equations on the shapes the printer produces -/

theorem skipWs_cons_of_not (c : Char) (r : List Char) (h : isJsonWs c = false) : skipWs (c :: r) = c :: r := by
  simp [skipWs, h]

theorem char_le_iff (a b : Char) : a ≤ b ↔ a.toNat ≤ b.toNat := by
  rw [Char.le_def, UInt32.le_iff_toNat_le]; rfl

theorem isDigit_iff (c : Char) : isDigit c = true ↔ 48 ≤ c.toNat ∧ c.toNat ≤ 57 := by
  simp only [isDigit, Bool.and_eq_true, decide_eq_true_eq, char_le_iff]
  rfl

theorem isDigit_not_ws (c : Char) (h : isDigit c = true) : isJsonWs c = false := by
  rw [isDigit_iff] at h
  simp only [isJsonWs, Bool.or_eq_false_iff, beq_eq_false_iff_ne, ne_eq]
  refine ⟨⟨⟨?_, ?_⟩, ?_⟩, ?_⟩ <;> (intro hc; subst hc; simp at h)

theorem pv_str (nc : NumCodec) (f : Nat) (r : List Char) :
    parseValue nc (f+1) ('"' :: r) = (lexString (r.length + 1) [] r).map (fun (s, t) => (.str s, t)) := by
  unfold parseValue; rfl

theorem pv_arr (nc : NumCodec) (f : Nat) (c : Char) (r : List Char) (h1 : isJsonWs c = false) (h2 : c ≠ ']') :
    parseValue nc (f+1) ('[' :: c :: r) = (parseElems nc f (c :: r)).map (fun (xs, t) => (.arr .raw xs, t)) := by
  unfold parseValue
  rw [skipWs_cons_of_not '[' _ (by decide)]
  simp only [skipWs_cons_of_not c r h1]
  split
  · next heq => exact absurd (List.cons.inj heq).1 h2
  · rfl

theorem pv_obj (nc : NumCodec) (f : Nat) (c : Char) (r : List Char) (h1 : isJsonWs c = false) (h2 : c ≠ '}') :
    parseValue nc (f+1) ('{' :: c :: r) = (parseMembers nc f (c :: r) []).map (fun (xs, t) => (.obj xs, t)) := by
  unfold parseValue
  rw [skipWs_cons_of_not '{' _ (by decide)]
  simp only [skipWs_cons_of_not c r h1]
  split
  · next heq => exact absurd (List.cons.inj heq).1 h2
  · rfl

theorem pv_num (nc : NumCodec) (f : Nat) (c : Char) (r : List Char) (h : (c == '-' || isDigit c) = true) :
    parseValue nc (f+1) (c :: r) =
      match lexNumber (c :: r) with
      | some (tok, t) => (parseNumToken nc tok).map (fun b => (.num b, t))
      | none => none := by
  have hws : isJsonWs c = false := by
    simp only [Bool.or_eq_true, beq_iff_eq] at h
    rcases h with h | h
    · subst h; decide
    · exact isDigit_not_ws c h
  have hd : ∀ d : Char, isDigit d = false → d ≠ '-' → c ≠ d := by
    intro d hd hm hc; subst hc; simp [hd, hm] at h
  unfold parseValue
  rw [skipWs_cons_of_not c r hws]
  split
  · next heq => exact absurd (List.cons.inj heq).1 (hd 'n' (by decide) (by decide))
  · next heq => exact absurd (List.cons.inj heq).1 (hd 't' (by decide) (by decide))
  · next heq => exact absurd (List.cons.inj heq).1 (hd 'f' (by decide) (by decide))
  · next heq => exact absurd (List.cons.inj heq).1 (hd '"' (by decide) (by decide))
  · next heq => exact absurd (List.cons.inj heq).1 (hd '[' (by decide) (by decide))
  · next heq => exact absurd (List.cons.inj heq).1 (hd '{' (by decide) (by decide))
  · next heq =>
    obtain ⟨rfl, rfl⟩ := List.cons.inj heq
    rw [if_pos h]
    rfl
  · next heq => simp at heq

theorem pe_last (nc : NumCodec) (f : Nat) (cs t : List Char) (v : Json)
    (h : parseValue nc f cs = some (v, ']' :: t)) : parseElems nc (f+1) cs = some ([v], t) := by
  simp [parseElems, h, skipWs, isJsonWs]

theorem pe_more (nc : NumCodec) (f : Nat) (cs t : List Char) (v : Json)
    (h : parseValue nc f cs = some (v, ',' :: t)) :
    parseElems nc (f+1) cs = (parseElems nc f t).map (fun (xs, u) => (v :: xs, u)) := by
  simp [parseElems, h, skipWs, isJsonWs]

theorem pm_last (nc : NumCodec) (f : Nat) (k : String) (cs t : List Char) (v : Json)
    (acc : List (String × Json)) (h : parseValue nc f cs = some (v, '}' :: t)) :
    parseMembers nc (f+1) ('"' :: (escL k.toList ++ '"' :: ':' :: cs)) acc = some (ainsert k v acc, t) := by
  have e1 : skipWs ('"' :: (escL k.toList ++ '"' :: ':' :: cs)) = '"' :: (escL k.toList ++ '"' :: ':' :: cs) :=
    skipWs_cons_of_not _ _ (by decide)
  simp only [parseMembers, e1, lexString_quoted]
  simp [skipWs, isJsonWs, h]

theorem pm_more (nc : NumCodec) (f : Nat) (k : String) (cs t : List Char) (v : Json)
    (acc : List (String × Json)) (h : parseValue nc f cs = some (v, ',' :: t)) :
    parseMembers nc (f+1) ('"' :: (escL k.toList ++ '"' :: ':' :: cs)) acc =
      parseMembers nc f t (ainsert k v acc) := by
  have e1 : skipWs ('"' :: (escL k.toList ++ '"' :: ':' :: cs)) = '"' :: (escL k.toList ++ '"' :: ':' :: cs) :=
    skipWs_cons_of_not _ _ (by decide)
  simp only [parseMembers, e1, lexString_quoted]
  simp [skipWs, isJsonWs, h]

theorem ainsert_snoc {β} (k : String) (v : β) : ∀ (acc r : List (String × β)),
    keysSorted (acc ++ (k, v) :: r) = true → ainsert k v acc = acc ++ [(k, v)]
  | [], _, _ => rfl
  | (k', v') :: acc', r, h => by
    have hlt : k' < k := keysSorted_head_lt (by simpa using h) k v (by simp)
    have h1 : ¬ k < k' := fun h' => String.lt_asymm hlt h'
    simp only [ainsert, if_neg h1, if_neg (Jd.ne_of_key_lt hlt), List.cons_append]
    rw [ainsert_snoc k v acc' r (keysSorted_tail (by simpa using h))]

/-! ## 5. the domain -/

/-- the codec prints the number to a token of the JSON number grammar (the whole text is one token)
    and reads that token back to the same bits -/
def numOK (nc : NumCodec) (b : UInt64) : Bool :=
  match fmtNum nc b with
  | none => false
  | some s => decide (lexNumber s.toList = some (s.toList, [])) && decide (parseNumToken nc s.toList = some b)

mutual
/-- `NumOK nc v`: every number of `v` satisfies `numOK` -/
def NumOK (nc : NumCodec) : Json → Bool
  | .num b => numOK nc b
  | .arr _ xs => NumOKList nc xs
  | .obj kvs => NumOKKvs nc kvs
  | _ => true
def NumOKList (nc : NumCodec) : List Json → Bool
  | [] => true
  | x :: r => NumOK nc x && NumOKList nc r
def NumOKKvs (nc : NumCodec) : List (String × Json) → Bool
  | [] => true
  | (_, v) :: r => NumOK nc v && NumOKKvs nc r
end

theorem NumOKList_eq_all (nc : NumCodec) (xs : List Json) : NumOKList nc xs = xs.all (NumOK nc) :=
  listP_eq_all rfl (fun _ _ => rfl) xs
theorem NumOKKvs_eq_all (nc : NumCodec) (kvs : List (String × Json)) :
    NumOKKvs nc kvs = kvs.all (fun kv => NumOK nc kv.2) :=
  listP_eq_all rfl (fun _ _ => rfl) kvs

theorem hered_numOK (nc : NumCodec) : Hered (fun v => NumOK nc v = true) :=
  .ofAll (fun _ xs h => by simpa only [NumOK, NumOKList_eq_all] using h)
    (fun kvs h => by simpa only [NumOK, NumOKKvs_eq_all] using h)

theorem putP_numOK (nc : NumCodec) : PutP (fun v => NumOK nc v = true) :=
  .ofAll fun kvs => by simp only [NumOK, NumOKKvs_eq_all]

mutual
/-- `wf`, `voidFree` and `NumOK` in one predicate (`preOK_iff`) -/
def preOK (nc : NumCodec) : Json → Bool
  | .void => false
  | .num b => numOK nc b
  | .arr _ xs => preOKList nc xs
  | .obj kvs => keysSorted kvs && preOKKvs nc kvs
  | _ => true
def preOKList (nc : NumCodec) : List Json → Bool
  | [] => true
  | x :: r => preOK nc x && preOKList nc r
def preOKKvs (nc : NumCodec) : List (String × Json) → Bool
  | [] => true
  | (_, v) :: r => preOK nc v && preOKKvs nc r
end

theorem preOKList_eq_all (nc : NumCodec) (xs : List Json) : preOKList nc xs = xs.all (preOK nc) :=
  listP_eq_all rfl (fun _ _ => rfl) xs
theorem preOKKvs_eq_all (nc : NumCodec) (kvs : List (String × Json)) :
    preOKKvs nc kvs = kvs.all (fun kv => preOK nc kv.2) :=
  listP_eq_all rfl (fun _ _ => rfl) kvs

mutual
theorem preOK_iff (nc : NumCodec) : ∀ v : Json,
    preOK nc v = (v.wf && Yaml.voidFree v && NumOK nc v)
  | .void => by simp [preOK, Yaml.voidFree]
  | .null => by simp [preOK, Yaml.voidFree, NumOK, Json.wf]
  | .bool _ => by simp [preOK, Yaml.voidFree, NumOK, Json.wf]
  | .num _ => by simp [preOK, Yaml.voidFree, NumOK, Json.wf]
  | .str _ => by simp [preOK, Yaml.voidFree, NumOK, Json.wf]
  | .arr _ xs => by simp only [preOK, Yaml.voidFree, NumOK, Json.wf]; exact preOKList_iff nc xs
  | .obj kvs => by
    simp only [preOK, Yaml.voidFree, NumOK, Json.wf, preOKKvs_iff nc kvs]
    cases keysSorted kvs <;> simp
theorem preOKList_iff (nc : NumCodec) : ∀ xs : List Json,
    preOKList nc xs = (wfList xs && Yaml.voidFreeList xs && NumOKList nc xs)
  | [] => by simp [preOKList, wfList, Yaml.voidFreeList, NumOKList]
  | x :: r => by
    simp only [preOKList, wfList, Yaml.voidFreeList, NumOKList, preOK_iff nc x, preOKList_iff nc r]
    ac_rfl
theorem preOKKvs_iff (nc : NumCodec) : ∀ kvs : List (String × Json),
    preOKKvs nc kvs = (wfKvs kvs && Yaml.voidFreeKvs kvs && NumOKKvs nc kvs)
  | [] => by simp [preOKKvs, wfKvs, Yaml.voidFreeKvs, NumOKKvs]
  | (k, v) :: r => by
    simp only [preOKKvs, wfKvs, Yaml.voidFreeKvs, NumOKKvs, preOK_iff nc v, preOKKvs_iff nc r]
    ac_rfl
end

mutual
/-- parser fuel a value needs -/
def sz : Json → Nat
  | .arr _ xs => 1 + szl xs
  | .obj kvs => 1 + szk kvs
  | _ => 1
def szl : List Json → Nat
  | [] => 0
  | x :: r => 1 + sz x + szl r
def szk : List (String × Json) → Nat
  | [] => 0
  | (_, v) :: r => 1 + sz v + szk r
end

theorem sz_pos (v : Json) : 1 ≤ sz v := by cases v <;> simp [sz]

/-- one unit of fuel less still covers a list's head and its tail -/
theorem fuel_step {a b f : Nat} (h : 1 + a + b ≤ f + 1) : a ≤ f ∧ b ≤ f := by omega

/-! ## 6. text shapes -/

/-- `String.intercalate ","` on character lists -/
def joinC : List String → List Char
  | [] => []
  | [a] => a.toList
  | a :: b :: l => a.toList ++ ',' :: joinC (b :: l)

theorem intercalate_toList : ∀ l : List String, (String.intercalate "," l).toList = joinC l
  | [] => by simp [joinC]
  | [a] => by simp [joinC]
  | a :: b :: l => by
    rw [String.intercalate_cons_cons]
    simp [joinC, intercalate_toList (b :: l), String.toList_append]

/-- a text starts with a character that is neither white space nor a closing bracket -/
def headOK (cs : List Char) : Prop := ∃ c r, cs = c :: r ∧ isJsonWs c = false ∧ c ≠ ']' ∧ c ≠ '}'

theorem headOK_append {x : List Char} (y : List Char) (h : headOK x) : headOK (x ++ y) := by
  obtain ⟨c, r, rfl, h⟩ := h
  exact ⟨c, r ++ y, rfl, h⟩

theorem headOK_joinC (a : String) (b : List String) (h : headOK a.toList) : headOK (joinC (a :: b)) := by
  cases b with
  | nil => exact h
  | cons b0 b' => exact headOK_append _ h

theorem numOK_spec {nc : NumCodec} {b : UInt64} (h : numOK nc b = true) :
    ∃ s, fmtNum nc b = some s ∧ lexNumber s.toList = some (s.toList, []) ∧ parseNumToken nc s.toList = some b := by
  unfold numOK at h
  split at h
  · simp at h
  · next s hs =>
    simp only [Bool.and_eq_true, decide_eq_true_eq] at h
    exact ⟨s, hs, h.1, h.2⟩

theorem jsonText_arr {nc : NumCodec} {t : Tag} {xs : List Json} {s : String}
    (h : jsonText nc (.arr t xs) = some s) :
    ∃ l, jsonTextList nc xs = some l ∧ s.toList = '[' :: (joinC l ++ [']']) := by
  simp only [jsonText, Option.map_eq_some_iff] at h
  obtain ⟨l, hl, rfl⟩ := h
  exact ⟨l, hl, by rw [String.toList_append, String.toList_append, intercalate_toList]; simp⟩

theorem jsonText_obj {nc : NumCodec} {kvs : List (String × Json)} {s : String}
    (h : jsonText nc (.obj kvs) = some s) :
    ∃ l, jsonTextKvs nc kvs = some l ∧ s.toList = '{' :: (joinC l ++ ['}']) := by
  simp only [jsonText, Option.map_eq_some_iff] at h
  obtain ⟨l, hl, rfl⟩ := h
  exact ⟨l, hl, by rw [String.toList_append, String.toList_append, intercalate_toList]; simp⟩

theorem jsonTextList_cons {nc : NumCodec} {x : Json} {r : List Json} {l : List String}
    (h : jsonTextList nc (x :: r) = some l) :
    ∃ a b, jsonText nc x = some a ∧ jsonTextList nc r = some b ∧ l = a :: b := by
  simp only [jsonTextList, Option.bind_eq_bind, Option.bind_eq_some_iff, Option.pure_def, Option.some.injEq] at h
  obtain ⟨a, ha, b, hb, rfl⟩ := h
  exact ⟨a, b, ha, hb, rfl⟩

theorem jsonTextKvs_cons {nc : NumCodec} {k : String} {v : Json} {r : List (String × Json)} {l : List String}
    (h : jsonTextKvs nc ((k, v) :: r) = some l) :
    ∃ a b, jsonText nc v = some a ∧ jsonTextKvs nc r = some b ∧ l = (quoteString k ++ ":" ++ a) :: b := by
  simp only [jsonTextKvs, Option.bind_eq_bind, Option.bind_eq_some_iff, Option.pure_def, Option.some.injEq] at h
  obtain ⟨a, ha, b, hb, rfl⟩ := h
  exact ⟨a, b, ha, hb, rfl⟩

theorem member_toList (k a : String) :
    (quoteString k ++ ":" ++ a).toList = '"' :: (escL k.toList ++ '"' :: ':' :: a.toList) := by
  simp [String.toList_append, quoteString_toList]

theorem jsonText_head (nc : NumCodec) : ∀ (v : Json) (s : String), preOK nc v = true →
    jsonText nc v = some s → headOK s.toList
  | .void, _, h, _ => by simp [preOK] at h
  | .null, s, _, h => by
    simp only [jsonText, Option.some.injEq] at h; subst h
    exact ⟨'n', ['u', 'l', 'l'], by simp, by decide, by decide, by decide⟩
  | .bool true, s, _, h => by
    simp only [jsonText, Option.some.injEq] at h; subst h
    exact ⟨'t', ['r', 'u', 'e'], by simp, by decide, by decide, by decide⟩
  | .bool false, s, _, h => by
    simp only [jsonText, Option.some.injEq] at h; subst h
    exact ⟨'f', ['a', 'l', 's', 'e'], by simp, by decide, by decide, by decide⟩
  | .num b, s, hp, h => by
    simp only [preOK] at hp
    obtain ⟨s', hs', hl, _⟩ := numOK_spec hp
    simp only [jsonText, hs', Option.some.injEq] at h; subst h
    obtain ⟨c, r1, e, hc⟩ := lexNumber_head hl
    refine ⟨c, r1, e, ?_⟩
    simp only [Bool.or_eq_true, beq_iff_eq] at hc
    rcases hc with hc | hc
    · subst hc; exact ⟨by decide, by decide, by decide⟩
    · refine ⟨isDigit_not_ws c hc, ?_, ?_⟩ <;> (intro e; subst e; simp [isDigit] at hc)
  | .str x, s, _, h => by
    simp only [jsonText, Option.some.injEq] at h; subst h
    exact ⟨'"', _, quoteString_toList x, by decide, by decide, by decide⟩
  | .arr _ xs, s, _, h => by
    obtain ⟨l, _, e⟩ := jsonText_arr h
    exact ⟨'[', _, e, by decide, by decide, by decide⟩
  | .obj kvs, s, _, h => by
    obtain ⟨l, _, e⟩ := jsonText_obj h
    exact ⟨'{', _, e, by decide, by decide, by decide⟩

/-! ## 7. values: the fuel-explicit round trip, for any continuation of the input -/

theorem delim_close (c : Char) (rest : List Char) (h : c = ']' ∨ c = '}' ∨ c = ',') :
    delim (c :: rest) = true := by
  rcases h with h | h | h <;> subst h <;> simp [delim, isDigit]

/-- the three round trips at one fuel `f`, by induction on `f`: with fuel `f + 1` every inner call is made
    with fuel `f`, so each of the three uses the three at `f` -/
theorem text_fuel (nc : NumCodec) (f : Nat) :
    (∀ (v : Json) (s : String), preOK nc v = true → v.rawDoc = true → jsonText nc v = some s →
      ∀ rest : List Char, sz v ≤ f → delim rest = true →
      parseValue nc f (s.toList ++ rest) = some (v, rest)) ∧
    (∀ (xs : List Json) (l : List String), xs ≠ [] → preOKList nc xs = true → rawDocList xs = true →
      jsonTextList nc xs = some l → ∀ rest : List Char, szl xs ≤ f →
      parseElems nc f (joinC l ++ ']' :: rest) = some (xs, rest)) ∧
    (∀ (kvs : List (String × Json)) (l : List String), kvs ≠ [] → preOKKvs nc kvs = true →
      rawDocKvs kvs = true → jsonTextKvs nc kvs = some l →
      ∀ (rest : List Char) (acc : List (String × Json)), szk kvs ≤ f → keysSorted (acc ++ kvs) = true →
      parseMembers nc f (joinC l ++ '}' :: rest) acc = some (acc ++ kvs, rest)) := by
  induction f with
  | zero =>
    refine ⟨fun v _ _ _ _ _ hf _ => absurd (Nat.le_trans (sz_pos v) hf) (Nat.not_succ_le_zero 0), ?_, ?_⟩
    · intro xs _ hne _ _ _ _ hf
      cases xs with
      | nil => exact absurd rfl hne
      | cons x r => simp only [szl] at hf; omega
    · intro kvs _ hne _ _ _ _ _ hf _
      cases kvs with
      | nil => exact absurd rfl hne
      | cons kv r => obtain ⟨k, v⟩ := kv; simp only [szk] at hf; omega
  | succ f' ih =>
    obtain ⟨pv, pe, pm⟩ := ih
    refine ⟨?_, ?_, ?_⟩
    · intro v s hp hr h rest hf hd
      cases v with
      | void => simp [preOK] at hp
      | null =>
        simp only [jsonText, Option.some.injEq] at h; subst h
        simp only [String.reduceToList]
        unfold parseValue; rfl
      | bool b =>
        cases b <;>
        · simp only [jsonText, Option.some.injEq] at h; subst h
          simp only [String.reduceToList]
          unfold parseValue; rfl
      | num b =>
        simp only [preOK] at hp
        obtain ⟨s', hs', hl, hpn⟩ := numOK_spec hp
        simp only [jsonText, hs', Option.some.injEq] at h; subst h
        obtain ⟨c, r1, e, hc⟩ := lexNumber_head hl
        have hl' := lexNumber_append rest hd _ _ _ hl
        rw [e] at hl' ⊢
        rw [List.cons_append, pv_num nc f' c _ hc, ← List.cons_append, hl']
        simp only [List.nil_append]
        rw [← e, hpn]; rfl
      | str x =>
        simp only [jsonText, Option.some.injEq] at h; subst h
        rw [quoteString_toList, List.cons_append, List.append_assoc, pv_str]
        simp only [List.singleton_append]
        rw [lexString_quoted]; rfl
      | arr t xs =>
        obtain ⟨l, hl, e⟩ := jsonText_arr h
        simp only [Json.rawDoc, Bool.and_eq_true, beq_iff_eq] at hr
        obtain ⟨rfl, hr⟩ := hr
        simp only [preOK] at hp
        simp only [sz] at hf
        rw [e, List.cons_append, List.append_assoc, List.singleton_append]
        cases xs with
        | nil =>
          simp only [jsonTextList, Option.some.injEq] at hl; subst hl
          simp only [joinC, List.nil_append]
          unfold parseValue; rfl
        | cons x r =>
          obtain ⟨a, b, ha, hb, rfl⟩ := jsonTextList_cons hl
          simp only [preOKList, Bool.and_eq_true] at hp
          have hh : headOK (joinC (a :: b) ++ ']' :: rest) :=
            headOK_append _ (headOK_joinC a b (jsonText_head nc x a hp.1 ha))
          obtain ⟨c, r', e', hws, h1, _⟩ := hh
          rw [e', pv_arr nc f' c r' hws h1, ← e',
            pe (x :: r) (a :: b) (by simp) (by simp [preOKList, hp]) hr hl rest (by omega)]
          rfl
      | obj kvs =>
        obtain ⟨l, hl, e⟩ := jsonText_obj h
        simp only [Json.rawDoc] at hr
        simp only [preOK, Bool.and_eq_true] at hp
        simp only [sz] at hf
        rw [e, List.cons_append, List.append_assoc, List.singleton_append]
        cases kvs with
        | nil =>
          simp only [jsonTextKvs, Option.some.injEq] at hl; subst hl
          simp only [joinC, List.nil_append]
          unfold parseValue; rfl
        | cons kv r =>
          obtain ⟨k, v⟩ := kv
          obtain ⟨a, b, ha, hb, rfl⟩ := jsonTextKvs_cons hl
          have hh : headOK (joinC ((quoteString k ++ ":" ++ a) :: b) ++ '}' :: rest) :=
            headOK_append _ (headOK_joinC _ b ⟨'"', _, member_toList k a, by decide, by decide, by decide⟩)
          obtain ⟨c, r', e', hws, _, h2⟩ := hh
          rw [e', pv_obj nc f' c r' hws h2, ← e',
            pm ((k, v) :: r) _ (by simp) hp.2 hr hl rest [] (by omega) (by simpa using hp.1)]
          rfl
    · intro xs l hne hp hr hl rest hf
      cases xs with
      | nil => exact absurd rfl hne
      | cons x r =>
        obtain ⟨a, b, ha, hb, rfl⟩ := jsonTextList_cons hl
        simp only [preOKList, Bool.and_eq_true] at hp
        simp only [rawDocList, Bool.and_eq_true] at hr
        simp only [szl] at hf
        obtain ⟨hfx, hfr⟩ := fuel_step hf
        cases r with
        | nil =>
          simp only [jsonTextList, Option.some.injEq] at hb; subst hb
          simp only [joinC]
          exact pe_last nc f' _ rest x
            (pv x a hp.1 hr.1 ha (']' :: rest) hfx (delim_close _ _ (Or.inl rfl)))
        | cons y r' =>
          obtain ⟨b0, b', hb0, hb', rfl⟩ := jsonTextList_cons hb
          simp only [joinC, List.append_assoc, List.cons_append]
          rw [pe_more nc f' _ (joinC (b0 :: b') ++ ']' :: rest) x
            (pv x a hp.1 hr.1 ha _ hfx (delim_close _ _ (Or.inr (Or.inr rfl)))),
            pe (y :: r') (b0 :: b') (by simp) hp.2 hr.2 hb rest hfr]
          rfl
    · intro kvs l hne hp hr hl rest acc hf hs
      cases kvs with
      | nil => exact absurd rfl hne
      | cons kv r =>
        obtain ⟨k, v⟩ := kv
        obtain ⟨a, b, ha, hb, rfl⟩ := jsonTextKvs_cons hl
        simp only [preOKKvs, Bool.and_eq_true] at hp
        simp only [rawDocKvs, Bool.and_eq_true] at hr
        simp only [szk] at hf
        obtain ⟨hfx, hfr⟩ := fuel_step hf
        have hins := ainsert_snoc k v acc r hs
        cases r with
        | nil =>
          simp only [jsonTextKvs, Option.some.injEq] at hb; subst hb
          simp only [joinC, member_toList, List.append_assoc, List.cons_append]
          rw [pm_last nc f' k _ rest v acc
            (pv v a hp.1 hr.1 ha ('}' :: rest) hfx (delim_close _ _ (Or.inr (Or.inl rfl)))),
            hins]
        | cons kv2 r' =>
          obtain ⟨k2, v2⟩ := kv2
          obtain ⟨b0, b', hb0, hb', rfl⟩ := jsonTextKvs_cons hb
          simp only [joinC, member_toList k a, List.append_assoc, List.cons_append]
          rw [pm_more nc f' k _ (joinC ((quoteString k2 ++ ":" ++ b0) :: b') ++ '}' :: rest) v acc
            (pv v a hp.1 hr.1 ha _ hfx (delim_close _ _ (Or.inr (Or.inr rfl)))),
            hins,
            pm ((k2, v2) :: r') _ (by simp) hp.2 hr.2 hb rest (acc ++ [(k, v)]) hfr
              (by simpa using hs)]
          simp

/-- **values**: the text of `v` followed by `rest` is parsed as `v`, leaving `rest`, with any fuel of
    at least `sz v`; a number needs `rest` not to extend its token (`delim`) -/
theorem pv_text (nc : NumCodec) : ∀ (v : Json) (s : String), preOK nc v = true → v.rawDoc = true →
    jsonText nc v = some s → ∀ (f : Nat) (rest : List Char), sz v ≤ f → delim rest = true →
    parseValue nc f (s.toList ++ rest) = some (v, rest)
  | v, s, hp, hr, h, f, rest, hf, hd => (text_fuel nc f).1 v s hp hr h rest hf hd

theorem pe_text (nc : NumCodec) : ∀ (xs : List Json) (l : List String), xs ≠ [] →
    preOKList nc xs = true → rawDocList xs = true → jsonTextList nc xs = some l →
    ∀ (f : Nat) (rest : List Char), szl xs ≤ f →
    parseElems nc f (joinC l ++ ']' :: rest) = some (xs, rest)
  | xs, l, hne, hp, hr, hl, f, rest, hf => (text_fuel nc f).2.1 xs l hne hp hr hl rest hf

theorem pm_text (nc : NumCodec) : ∀ (kvs : List (String × Json)) (l : List String), kvs ≠ [] →
    preOKKvs nc kvs = true → rawDocKvs kvs = true → jsonTextKvs nc kvs = some l →
    ∀ (f : Nat) (rest : List Char) (acc : List (String × Json)), szk kvs ≤ f →
    keysSorted (acc ++ kvs) = true →
    parseMembers nc f (joinC l ++ '}' :: rest) acc = some (acc ++ kvs, rest)
  | kvs, l, hne, hp, hr, hl, f, rest, acc, hf, hs => (text_fuel nc f).2.2 kvs l hne hp hr hl rest acc hf hs

/-! ## 8. the printer succeeds; the fuel of `parseJson` suffices -/

mutual
theorem jsonText_some (nc : NumCodec) : ∀ v : Json, preOK nc v = true → ∃ s, jsonText nc v = some s
  | .void, h => by simp [preOK] at h
  | .null, _ => ⟨_, rfl⟩
  | .bool true, _ => ⟨_, rfl⟩
  | .bool false, _ => ⟨_, rfl⟩
  | .num b, h => by
    simp only [preOK] at h
    obtain ⟨s, hs, _⟩ := numOK_spec h
    exact ⟨s, by simp [jsonText, hs]⟩
  | .str x, _ => ⟨_, rfl⟩
  | .arr t xs, h => by
    simp only [preOK] at h
    obtain ⟨l, hl⟩ := jsonTextList_some nc xs h
    exact ⟨_, by simp only [jsonText, hl]; rfl⟩
  | .obj kvs, h => by
    simp only [preOK, Bool.and_eq_true] at h
    obtain ⟨l, hl⟩ := jsonTextKvs_some nc kvs h.2
    exact ⟨_, by simp only [jsonText, hl]; rfl⟩
theorem jsonTextList_some (nc : NumCodec) : ∀ xs : List Json, preOKList nc xs = true →
    ∃ l, jsonTextList nc xs = some l
  | [], _ => ⟨[], rfl⟩
  | x :: r, h => by
    simp only [preOKList, Bool.and_eq_true] at h
    obtain ⟨a, ha⟩ := jsonText_some nc x h.1
    obtain ⟨b, hb⟩ := jsonTextList_some nc r h.2
    exact ⟨a :: b, by simp [jsonTextList, ha, hb]⟩
theorem jsonTextKvs_some (nc : NumCodec) : ∀ kvs : List (String × Json), preOKKvs nc kvs = true →
    ∃ l, jsonTextKvs nc kvs = some l
  | [], _ => ⟨[], rfl⟩
  | (k, v) :: r, h => by
    simp only [preOKKvs, Bool.and_eq_true] at h
    obtain ⟨a, ha⟩ := jsonText_some nc v h.1
    obtain ⟨b, hb⟩ := jsonTextKvs_some nc r h.2
    exact ⟨(quoteString k ++ ":" ++ a) :: b, by simp [jsonTextKvs, ha, hb]⟩
end

mutual
theorem sz_le (nc : NumCodec) : ∀ (v : Json) (s : String), preOK nc v = true → jsonText nc v = some s →
    sz v ≤ s.toList.length
  | .void, s, hp, h | .null, s, hp, h | .bool _, s, hp, h | .num _, s, hp, h | .str _, s, hp, h => by
    obtain ⟨c, r, e, _⟩ := jsonText_head nc _ s hp h
    simp [sz, e]
  | .arr t xs, s, hp, h => by
    obtain ⟨l, hl, e⟩ := jsonText_arr h
    simp only [preOK] at hp
    have := szl_le nc xs l hp hl
    simp only [sz, e, List.length_cons, List.length_append, List.length_nil]
    omega
  | .obj kvs, s, hp, h => by
    obtain ⟨l, hl, e⟩ := jsonText_obj h
    simp only [preOK, Bool.and_eq_true] at hp
    have := szk_le nc kvs l hp.2 hl
    simp only [sz, e, List.length_cons, List.length_append, List.length_nil]
    omega
theorem szl_le (nc : NumCodec) : ∀ (xs : List Json) (l : List String), preOKList nc xs = true →
    jsonTextList nc xs = some l → szl xs ≤ (joinC l).length + 1
  | [], _, _, _ => by simp [szl]
  | x :: r, l, hp, hl => by
    obtain ⟨a, b, ha, hb, rfl⟩ := jsonTextList_cons hl
    simp only [preOKList, Bool.and_eq_true] at hp
    have h1 := sz_le nc x a hp.1 ha
    have h2 := szl_le nc r b hp.2 hb
    cases r with
    | nil =>
      simp only [jsonTextList, Option.some.injEq] at hb; subst hb
      simp only [szl, joinC]; omega
    | cons y r' =>
      obtain ⟨b0, b', _, _, rfl⟩ := jsonTextList_cons hb
      simp only [szl, joinC, List.length_append, List.length_cons] at h2 ⊢
      omega
theorem szk_le (nc : NumCodec) : ∀ (kvs : List (String × Json)) (l : List String), preOKKvs nc kvs = true →
    jsonTextKvs nc kvs = some l → szk kvs ≤ (joinC l).length + 1
  | [], _, _, _ => by simp [szk]
  | (k, v) :: r, l, hp, hl => by
    obtain ⟨a, b, ha, hb, rfl⟩ := jsonTextKvs_cons hl
    simp only [preOKKvs, Bool.and_eq_true] at hp
    have h1 := sz_le nc v a hp.1 ha
    have h2 := szk_le nc r b hp.2 hb
    cases r with
    | nil =>
      simp only [jsonTextKvs, Option.some.injEq] at hb; subst hb
      simp only [szk, joinC, member_toList, List.length_append, List.length_cons]; omega
    | cons kv2 r' =>
      obtain ⟨k2, v2⟩ := kv2
      obtain ⟨b0, b', _, _, rfl⟩ := jsonTextKvs_cons hb
      simp only [szk, joinC, member_toList, List.length_append, List.length_cons] at h2 ⊢
      omega
end

/-! ## 9. white space and the top level -/

theorem skipWs_idem : ∀ cs : List Char, skipWs (skipWs cs) = skipWs cs
  | [] => rfl
  | c :: r => by
    by_cases h : isJsonWs c = true
    · simp only [skipWs, h, if_true]; exact skipWs_idem r
    · simp [skipWs, h]

theorem skipWs_append_ws : ∀ (pre x : List Char), pre.all isJsonWs = true → skipWs (pre ++ x) = skipWs x
  | [], _, _ => rfl
  | c :: r, x, h => by
    simp only [List.all_cons, Bool.and_eq_true] at h
    simp only [List.cons_append, skipWs, h.1, if_true]
    exact skipWs_append_ws r x h.2

theorem skipWs_all_ws (l : List Char) (h : l.all isJsonWs = true) : skipWs l = [] := by
  have := skipWs_append_ws l [] h
  simpa [skipWs] using this

/-- `parseValue` skips leading white space -/
theorem parseValue_skipWs (nc : NumCodec) (f : Nat) (cs : List Char) :
    parseValue nc f (skipWs cs) = parseValue nc f cs := by
  cases f with
  | zero => rfl
  | succ f => unfold parseValue; rw [skipWs_idem]

theorem delim_ws (post : List Char) (h : post.all isJsonWs = true) : delim post = true := by
  cases post with
  | nil => rfl
  | cons c r =>
    simp only [List.all_cons, Bool.and_eq_true] at h
    have hc := h.1
    simp only [isJsonWs, Bool.or_eq_true, beq_iff_eq] at hc
    rcases hc with ((hc | hc) | hc) | hc <;> subst hc <;> simp [delim, isDigit]

/-- **the top level**: the text of a document, surrounded by JSON white space, is read by `parseJson`
    as that document (the whole input is consumed; the fuel `length + 2` suffices) -/
theorem parseJson_text (nc : NumCodec) (v : Json) (s : String) (hp : preOK nc v = true)
    (hr : v.rawDoc = true) (h : jsonText nc v = some s) (pre post : List Char)
    (hpre : pre.all isJsonWs = true) (hpost : post.all isJsonWs = true) :
    parseJson nc (String.ofList (pre ++ s.toList ++ post)) = some v := by
  have hsz := sz_le nc v s hp h
  have hh : headOK (s.toList ++ post) := headOK_append _ (jsonText_head nc v s hp h)
  obtain ⟨c, r, e, hws, _⟩ := hh
  have h1 : parseValue nc ((pre ++ s.toList ++ post).length + 2) (pre ++ s.toList ++ post) = some (v, post) := by
    rw [← parseValue_skipWs, List.append_assoc, skipWs_append_ws pre _ hpre, parseValue_skipWs]
    exact pv_text nc v s hp hr h _ post (by simp only [List.length_append]; omega) (delim_ws post hpost)
  simp only [parseJson, String.toList_ofList, h1, skipWs_all_ws post hpost]
  rfl

theorem parseJson_text' (nc : NumCodec) (v : Json) (s : String) (hp : preOK nc v = true)
    (hr : v.rawDoc = true) (h : jsonText nc v = some s) : parseJson nc s = some v := by
  have := parseJson_text nc v s hp hr h [] [] rfl rfl
  simpa [String.ofList_toList] using this

/-! ## 10. `jsonM` (= `node.Json()`): typed array nodes are printed through `raw()` -/

theorem preOKList_forall (nc : NumCodec) (xs : List Json) :
    preOKList nc xs = true ↔ ∀ x ∈ xs, preOK nc x = true := by
  rw [preOKList_eq_all, List.all_eq_true]

/-- a `raw()` normaliser keeps a document in the domain of the text round trip -/
theorem _root_.Jd.IsRawNorm.pres {N : Json → Json} (hN : IsRawNorm N) (nc : NumCodec) :
    ∀ v, preOK nc v = true → preOK nc (N v) = true := by
  refine jsonIndScalar (fun a h1 h2 h => ?_) (fun t xs ih h => ?_) (fun kvs ih h => ?_)
  · rwa [hN.scalar a h1 h2]
  · obtain ⟨ys, e, hsub, _⟩ := hN.arr t xs
    rw [e]
    simp only [preOK, preOKList_forall] at h ⊢
    intro y hy
    obtain ⟨x, hx, rfl⟩ := List.mem_map.1 (hsub y hy)
    exact ih x hx (h x hx)
  · rw [hN.obj]
    simp only [preOK, Bool.and_eq_true, preOKKvs_eq_all, List.all_map, List.all_eq_true] at h ⊢
    exact ⟨keysSorted_map N h.1, fun kv hkv => ih kv.1 kv.2 hkv (h.2 kv hkv)⟩

theorem preOK_rawNorm (nc : NumCodec) : ∀ v : Json, preOK nc v = true → preOK nc (rawNorm v) = true :=
  isRawNorm_rawNorm.pres nc

theorem preOKList_rawNormList (nc : NumCodec) : ∀ xs : List Json, preOKList nc xs = true →
    preOKList nc (rawNormList xs) = true :=
  fun xs h => by simpa [rawNorm, preOK] using preOK_rawNorm nc (.arr .raw xs) h

theorem preOKKvs_rawNormKvs (nc : NumCodec) : ∀ kvs : List (String × Json), preOKKvs nc kvs = true →
    preOKKvs nc (rawNormKvs kvs) = true := fun kvs h => by
  rw [preOKKvs_eq_all] at h ⊢
  rw [Yaml.rawNormKvs_eq_map, List.all_map]
  exact List.all_eq_true.2 fun kv hkv => preOK_rawNorm nc _ (List.all_eq_true.1 h kv hkv)

theorem jsonM_eq (nc : NumCodec) (v : Json) (h : v.isVoid = false) : jsonM nc v = jsonText nc (rawNorm v) := by
  cases v <;> first | rfl | simp [Json.isVoid] at h

theorem preOK_not_void {nc : NumCodec} {v : Json} (h : preOK nc v = true) : v.isVoid = false := by
  cases v <;> first | rfl | simp [preOK] at h

theorem rawNorm_eq_untag : ∀ v : Json, setFree v = true → rawNorm v = untag v :=
  isRawNorm_rawNorm.eq_untag

theorem rawNormList_eq_untagList : ∀ xs : List Json, setFreeList xs = true → rawNormList xs = untagList xs :=
  fun xs h => by
    have := rawNorm_eq_untag (.arr .raw xs) (by simpa [setFree] using h)
    rw [rawNorm, untag] at this <;> first | exact (Json.arr.inj this).2 | exact nofun

theorem rawNormKvs_eq_untagKvs : ∀ kvs : List (String × Json), setFreeKvs kvs = true →
    rawNormKvs kvs = untagKvs kvs :=
  fun kvs h => Json.obj.inj (by simpa [rawNorm, untag] using rawNorm_eq_untag (.obj kvs) h)

/-- **`Json()` round trip, any document**: for `v` with sorted unique keys, no void inside and
    codec-correct numbers, `v.Json()` succeeds and, surrounded by any JSON white space, is read back
    as `rawNorm v` (= `raw()` as a document: every array plain; a set-typed array deduplicated and
    in hash order) -/
theorem jsonM_parse_ws (nc : NumCodec) (v : Json) (hp : preOK nc v = true) (pre post : List Char)
    (hpre : pre.all isJsonWs = true) (hpost : post.all isJsonWs = true) :
    ∃ s, jsonM nc v = some s ∧
      parseJson nc (String.ofList (pre ++ s.toList ++ post)) = some (rawNorm v) := by
  have hp' := preOK_rawNorm nc v hp
  obtain ⟨s, hs⟩ := jsonText_some nc _ hp'
  refine ⟨s, by rw [jsonM_eq nc v (preOK_not_void hp)]; exact hs, ?_⟩
  exact parseJson_text nc _ s hp' (Yaml.rawDoc_rawNorm v) hs pre post hpre hpost

theorem jsonM_parse (nc : NumCodec) (v : Json) (hw : v.wf = true) (hv : Yaml.voidFree v = true)
    (hn : NumOK nc v = true) :
    ∃ s, jsonM nc v = some s ∧ parseJson nc s = some (rawNorm v) := by
  have hp : preOK nc v = true := by rw [preOK_iff, hw, hv, hn]; rfl
  obtain ⟨s, h1, h2⟩ := jsonM_parse_ws nc v hp [] [] rfl rfl
  exact ⟨s, h1, by simpa [String.ofList_toList] using h2⟩

/-- **`Json()` round trip, documents as read**: every array node plain (`rawDoc`) -/
theorem jsonM_roundtrip (nc : NumCodec) (v : Json) (hr : v.rawDoc = true) (hw : v.wf = true)
    (hv : Yaml.voidFree v = true) (hn : NumOK nc v = true) :
    ∃ s, jsonM nc v = some s ∧ parseJson nc s = some v := by
  obtain ⟨s, h1, h2⟩ := jsonM_parse nc v hw hv hn
  exact ⟨s, h1, by rw [h2, Yaml.rawNorm_of_rawDoc v hr]⟩

/-- typed array nodes, none of them a set: the document comes back with its tags erased -/
theorem jsonM_untag (nc : NumCodec) (v : Json) (hs : setFree v = true) (hw : v.wf = true)
    (hv : Yaml.voidFree v = true) (hn : NumOK nc v = true) :
    ∃ s, jsonM nc v = some s ∧ parseJson nc s = some (untag v) := by
  obtain ⟨s, h1, h2⟩ := jsonM_parse nc v hw hv hn
  exact ⟨s, h1, by rw [h2, rawNorm_eq_untag v hs]⟩

/-! ## 11. `marshalNode` (= `json.Marshal(node)` as the diff renderer calls it) -/

mutual
/-- the domain of `marshalNode`: as `preOK`, and void is allowed where it is printed as `{}` (the
    value itself, or an element of an array that is not inside an object) -/
def mOK (nc : NumCodec) : Json → Bool
  | .void => true
  | .arr _ xs => mOKList nc xs
  | v => preOK nc v
def mOKList (nc : NumCodec) : List Json → Bool
  | [] => true
  | x :: r => mOK nc x && mOKList nc r
end

theorem mOKList_eq_all (nc : NumCodec) (xs : List Json) : mOKList nc xs = xs.all (mOK nc) :=
  listP_eq_all rfl (fun _ _ => rfl) xs

mutual
theorem mOK_of_preOK (nc : NumCodec) : ∀ v : Json, preOK nc v = true → mOK nc v = true
  | .void, _ => rfl
  | .null, _ => rfl
  | .bool _, _ => rfl
  | .num _, h => by simpa [mOK] using h
  | .str _, _ => rfl
  | .arr _ xs, h => by simp only [preOK] at h; simp only [mOK]; exact mOKList_of_preOKList nc xs h
  | .obj _, h => by simpa [mOK] using h
theorem mOKList_of_preOKList (nc : NumCodec) : ∀ xs : List Json, preOKList nc xs = true → mOKList nc xs = true
  | [], _ => rfl
  | x :: r, h => by
    simp only [preOKList, Bool.and_eq_true] at h
    simp [mOKList, mOK_of_preOK nc x h.1, mOKList_of_preOKList nc r h.2]
end



theorem setFree_of_rawDoc (v : Json) (h : v.rawDoc = true) : setFree v = true :=
  setFree_of_listDoc v (rawDoc_listDoc v h)

namespace IsMNorm
variable {N M : Json → Json} (hN : IsRawNorm N) (hM : IsMNorm N M)
include hN hM

theorem rawDoc : ∀ v, (M v).rawDoc = true := by
  refine jsonInd ?_ ?_ ?_ ?_ ?_ (fun t xs ih => ?_) (fun kvs _ => ?_)
  iterate 5 intros; rw [hM]; rfl
  · rw [hM]
    simp only [Json.rawDoc, beq_self_eq_true, Bool.true_and, rawDocList_eq_all, List.all_map,
      List.all_eq_true]
    exact ih
  · rw [hM]; exact hN.rawDoc _

theorem pres (nc : NumCodec) : ∀ v, mOK nc v = true → preOK nc (M v) = true := by
  refine jsonInd ?_ ?_ ?_ ?_ ?_ (fun t xs ih h => ?_) (fun kvs _ h => ?_)
  · intro; rw [hM]; rfl
  iterate 4 intros; rw [hM]; assumption
  · rw [hM]
    simp only [mOK, mOKList_eq_all, List.all_eq_true] at h
    simp only [preOK, preOKList_forall, List.mem_map]
    rintro _ ⟨x, hx, rfl⟩
    exact ih x hx (h x hx)
  · rw [hM]; exact hN.pres nc _ h

/-- without void and without a set-typed array inside an object, `json.Marshal` only erases the tags -/
theorem eq_untag : ∀ v, Yaml.voidFree v = true → mSetFree v = true → M v = untag v := by
  refine jsonInd ?_ ?_ ?_ ?_ ?_ (fun t xs ih hv hs => ?_) (fun kvs _ _ hs => ?_)
  · intro h; simp [Yaml.voidFree] at h
  iterate 4 intros; rw [hM]; rfl
  · simp only [Yaml.voidFree, Yaml.voidFreeList_eq_all, List.all_eq_true] at hv
    simp only [mSetFree, mSetFreeList_eq_all, List.all_eq_true] at hs
    rw [hM, untag, untagList_eq_map]
    exact congrArg _ (List.map_congr_left fun x hx => ih x hx (hv x hx) (hs x hx))
  · rw [hM]; exact hN.eq_untag _ hs

theorem of_rawDoc (v : Json) (hr : v.rawDoc = true) (hv : Yaml.voidFree v = true) : M v = v :=
  (eq_untag hN hM v hv (mSetFree_of_setFree v (setFree_of_rawDoc v hr))).trans
    (Robust.untag_rawDoc v hr)

end IsMNorm

theorem preOK_mnorm (nc : NumCodec) : ∀ v : Json, mOK nc v = true → preOK nc (mnorm v) = true :=
  isMNorm_mnorm.pres isRawNorm_rawNorm nc

theorem preOKList_mnormList (nc : NumCodec) : ∀ xs : List Json, mOKList nc xs = true →
    preOKList nc (mnormList xs) = true :=
  fun xs h => by simpa only [mnorm, preOK] using preOK_mnorm nc (.arr .raw xs) h

theorem rawDoc_mnorm : ∀ v : Json, (mnorm v).rawDoc = true := isMNorm_mnorm.rawDoc isRawNorm_rawNorm

theorem rawDocList_mnormList : ∀ xs : List Json, rawDocList (mnormList xs) = true :=
  fun xs => by simpa [mnorm, Json.rawDoc] using rawDoc_mnorm (.arr .raw xs)

theorem mnorm_eq_untag : ∀ v : Json, Yaml.voidFree v = true → mSetFree v = true → mnorm v = untag v :=
  isMNorm_mnorm.eq_untag isRawNorm_rawNorm

theorem mnormList_eq_untagList : ∀ xs : List Json, Yaml.voidFreeList xs = true → mSetFreeList xs = true →
    mnormList xs = untagList xs :=
  fun xs hv hs => by
    have := mnorm_eq_untag (.arr .raw xs) hv hs
    rw [mnorm, untag] at this
    exact (Json.arr.inj this).2

theorem mnorm_of_rawDoc : ∀ v : Json, v.rawDoc = true → Yaml.voidFree v = true → mnorm v = v :=
  isMNorm_mnorm.of_rawDoc isRawNorm_rawNorm

theorem mnormList_of_rawDoc : ∀ xs : List Json, rawDocList xs = true → Yaml.voidFreeList xs = true →
    mnormList xs = xs :=
  fun xs hr hv =>
    (Json.arr.inj (mnorm_of_rawDoc (.arr .raw xs) (by simpa [Json.rawDoc] using hr) hv)).2

/-- **`json.Marshal(node)` round trip**: on the domain `mOK` the text, surrounded by any JSON white
    space, is read back as `mnorm v` -/
theorem marshalNode_parse_ws (nc : NumCodec) (v : Json) (hp : mOK nc v = true) (pre post : List Char)
    (hpre : pre.all isJsonWs = true) (hpost : post.all isJsonWs = true) :
    ∃ s, marshalNode nc v = some s ∧
      parseJson nc (String.ofList (pre ++ s.toList ++ post)) = some (mnorm v) := by
  have hp' := preOK_mnorm nc v hp
  obtain ⟨s, hs⟩ := jsonText_some nc _ hp'
  exact ⟨s, by rw [marshalNode_eq]; exact hs,
    parseJson_text nc _ s hp' (rawDoc_mnorm v) hs pre post hpre hpost⟩

theorem marshalNode_parse (nc : NumCodec) (v : Json) (hp : mOK nc v = true) :
    ∃ s, marshalNode nc v = some s ∧ parseJson nc s = some (mnorm v) := by
  obtain ⟨s, h1, h2⟩ := marshalNode_parse_ws nc v hp [] [] rfl rfl
  exact ⟨s, h1, by simpa [String.ofList_toList] using h2⟩

/-- `json.Marshal(node)` of a document without void and without a set-typed array inside an
    object is read back as the document with its tags erased; in particular a document as read
    (`rawDoc`) is read back as itself -/
theorem marshalNode_untag (nc : NumCodec) (v : Json) (hms : mSetFree v = true) (hw : v.wf = true)
    (hv : Yaml.voidFree v = true) (hn : NumOK nc v = true) :
    ∃ s, marshalNode nc v = some s ∧ parseJson nc s = some (untag v) := by
  have hp : preOK nc v = true := by rw [preOK_iff, hw, hv, hn]; rfl
  obtain ⟨s, h1, h2⟩ := marshalNode_parse nc v (mOK_of_preOK nc v hp)
  exact ⟨s, h1, by rw [h2, mnorm_eq_untag v hv hms]⟩

/-! ## 12. the text has no newline -/

theorem escapeChar_noNL (c : Char) : '\n' ∉ escapeChar c :=
  fun h => absurd (escapeChar_noCtl c _ h) (by decide)

theorem escL_noNL : ∀ cs : List Char, '\n' ∉ escL cs
  | [] => by simp [escL]
  | c :: r => by
    have ih := escL_noNL r
    simp only [escL, List.flatMap_cons, List.mem_append, not_or] at ih ⊢
    exact ⟨escapeChar_noNL c, ih⟩

theorem quoteString_noNL (x : String) : '\n' ∉ (quoteString x).toList := by
  rw [quoteString_toList]
  simp only [List.mem_cons, List.mem_append, List.mem_nil_iff, or_false, not_or]
  exact ⟨by decide, escL_noNL _, by decide⟩

theorem joinC_noNL : ∀ l : List String, (∀ a ∈ l, '\n' ∉ a.toList) → '\n' ∉ joinC l
  | [], _ => by simp [joinC]
  | [a], h => by simpa [joinC] using h a (by simp)
  | a :: b :: l, h => by
    have ih := joinC_noNL (b :: l) (fun x hx => h x (List.mem_cons_of_mem _ hx))
    simp only [joinC, List.mem_append, List.mem_cons, not_or]
    exact ⟨h a (by simp), by decide, ih⟩

mutual
theorem jsonText_noNL (nc : NumCodec) : ∀ (v : Json) (s : String), preOK nc v = true →
    jsonText nc v = some s → '\n' ∉ s.toList
  | .void, _, h, _ => by simp [preOK] at h
  | .null, s, _, h | .bool true, s, _, h | .bool false, s, _, h => by
    simp only [jsonText, Option.some.injEq] at h; subst h; simp
  | .num b, s, hp, h => by
    simp only [preOK] at hp
    obtain ⟨s', hs', hl, _⟩ := numOK_spec hp
    simp only [jsonText, hs', Option.some.injEq] at h; subst h
    exact lexNumber_noNL _ _ _ hl
  | .str x, s, _, h => by
    simp only [jsonText, Option.some.injEq] at h; subst h
    exact quoteString_noNL x
  | .arr t xs, s, hp, h => by
    obtain ⟨l, hl, e⟩ := jsonText_arr h
    simp only [preOK] at hp
    rw [e]
    simp only [List.mem_cons, List.mem_append, List.mem_nil_iff, or_false, not_or]
    exact ⟨by decide, joinC_noNL l (jsonTextList_noNL nc xs l hp hl), by decide⟩
  | .obj kvs, s, hp, h => by
    obtain ⟨l, hl, e⟩ := jsonText_obj h
    simp only [preOK, Bool.and_eq_true] at hp
    rw [e]
    simp only [List.mem_cons, List.mem_append, List.mem_nil_iff, or_false, not_or]
    exact ⟨by decide, joinC_noNL l (jsonTextKvs_noNL nc kvs l hp.2 hl), by decide⟩
theorem jsonTextList_noNL (nc : NumCodec) : ∀ (xs : List Json) (l : List String), preOKList nc xs = true →
    jsonTextList nc xs = some l → ∀ a ∈ l, '\n' ∉ a.toList
  | [], l, _, hl => by simp only [jsonTextList, Option.some.injEq] at hl; subst hl; simp
  | x :: r, l, hp, hl => by
    obtain ⟨a, b, ha, hb, rfl⟩ := jsonTextList_cons hl
    simp only [preOKList, Bool.and_eq_true] at hp
    intro y hy
    rcases List.mem_cons.1 hy with e | hy
    · subst e; exact jsonText_noNL nc x _ hp.1 ha
    · exact jsonTextList_noNL nc r b hp.2 hb y hy
theorem jsonTextKvs_noNL (nc : NumCodec) : ∀ (kvs : List (String × Json)) (l : List String),
    preOKKvs nc kvs = true → jsonTextKvs nc kvs = some l → ∀ a ∈ l, '\n' ∉ a.toList
  | [], l, _, hl => by simp only [jsonTextKvs, Option.some.injEq] at hl; subst hl; simp
  | (k, v) :: r, l, hp, hl => by
    obtain ⟨a, b, ha, hb, rfl⟩ := jsonTextKvs_cons hl
    simp only [preOKKvs, Bool.and_eq_true] at hp
    intro y hy
    rcases List.mem_cons.1 hy with e | hy
    · subst e
      rw [member_toList]
      simp only [List.mem_cons, List.mem_append, not_or]
      exact ⟨by decide, escL_noNL _, by decide, by decide, jsonText_noNL nc v _ hp.1 ha⟩
    · exact jsonTextKvs_noNL nc r b hp.2 hb y hy
end

/-! ## 13. consequence (a): the codec contract of the native format (`NativeRT.CodecOK`) -/

theorem dropWhile_keeps (p : Char → Bool) : ∀ l : List Char, (∃ c ∈ l, p c = false) →
    ∃ c ∈ l.dropWhile p, p c = false
  | [], h => by obtain ⟨c, hc, _⟩ := h; simp at hc
  | a :: l, h => by
    by_cases ha : p a = true
    · obtain ⟨c, hc, hpc⟩ := h
      rcases List.mem_cons.1 hc with e | hc
      · subst e; rw [ha] at hpc; cases hpc
      · simpa [List.dropWhile, ha] using dropWhile_keeps p l ⟨c, hc, hpc⟩
    · exact ⟨a, by simp [List.dropWhile, ha], by simpa using ha⟩

theorem trimGoSpace_nonempty (cs : List Char) (h : ∃ c ∈ cs, isJsonWs c = false) :
    (trimGoSpace (String.ofList cs)).isEmpty = false := by
  obtain ⟨c1, h1, p1⟩ := dropWhile_keeps isJsonWs cs h
  obtain ⟨c2, h2, _⟩ := dropWhile_keeps isJsonWs (cs.dropWhile isJsonWs).reverse ⟨c1, by simpa using h1, p1⟩
  have hne : ((cs.dropWhile isJsonWs).reverse.dropWhile isJsonWs).reverse ≠ [] := by
    intro e
    rw [List.reverse_eq_nil_iff] at e
    rw [e] at h2; simp at h2
  simp [trimGoSpace, String.toList_ofList, hne]

/-- `ReadJsonString` on the text of a document, surrounded by white space -/
theorem readJsonM_text (nc : NumCodec) (v : Json) (s : String) (hp : preOK nc v = true)
    (hr : v.rawDoc = true) (h : jsonText nc v = some s) (pre post : List Char)
    (hpre : pre.all isJsonWs = true) (hpost : post.all isJsonWs = true) :
    readJsonM nc (String.ofList (pre ++ s.toList ++ post)) = .ok v := by
  obtain ⟨c, r, e, hws, _⟩ := jsonText_head nc v s hp h
  have hne : (trimGoSpace (String.ofList (pre ++ s.toList ++ post))).isEmpty = false :=
    trimGoSpace_nonempty _ ⟨c, by simp [e], hws⟩
  simp only [readJsonM, hne, parseJson_text nc v s hp hr h pre post hpre hpost]
  simp

theorem readJsonM_jsonText (nc : NumCodec) (v : Json) (s : String) (hp : preOK nc v = true)
    (hr : v.rawDoc = true) (h : jsonText nc v = some s) : readJsonM nc s = .ok v := by
  simpa using readJsonM_text nc v s hp hr h [] [] rfl rfl

/-- the form in which the native reader meets a payload or path: after the marker and one space -/
theorem readJsonM_space (nc : NumCodec) (v : Json) (s : String) (hp : preOK nc v = true)
    (hr : v.rawDoc = true) (h : jsonText nc v = some s) : readJsonM nc (" " ++ s) = .ok v := by
  have e : " " ++ s = String.ofList ([' '] ++ s.toList ++ []) := by
    rw [← String.toList_inj]; simp [String.toList_append]
  rw [e]; exact readJsonM_text nc v s hp hr h [' '] [] (by decide) rfl

/-- **(a) `ValOK`**: the payload contract of `NativeRT` holds for every value of the domain, from
    decidable hypotheses; `mSetFree` holds for every document without a set-typed array node
    (`mSetFree_of_setFree`, `setFree_of_listDoc`), in particular for `rawDoc`s -/
theorem valOK (nc : NumCodec) (v : Json) (hw : v.wf = true) (hv : Yaml.voidFree v = true)
    (hn : NumOK nc v = true) (hms : mSetFree v = true) : NativeRT.ValOK nc v := by
  intro t ht
  rw [marshalNode_eq] at ht
  have hp : preOK nc v = true := by rw [preOK_iff, hw, hv, hn]; rfl
  have hp' := preOK_mnorm nc v (mOK_of_preOK nc v hp)
  refine ⟨jsonText_noNL nc _ t hp' ht, ?_⟩
  rw [← mnorm_eq_untag v hv hms]
  exact readJsonM_space nc _ t hp' (rawDoc_mnorm v) ht

/-- **(a) `PathOK`**: the path contract, from the same hypotheses on the path's JSON form -/
theorem pathOK (nc : NumCodec) (p : Path) (hw : (pathToJson p).wf = true)
    (hv : Yaml.voidFree (pathToJson p) = true) (hn : NumOK nc (pathToJson p) = true)
    (hs : setFree (pathToJson p) = true) : NativeRT.PathOK nc p := by
  intro t ht
  have hp : preOK nc (pathToJson p) = true := by rw [preOK_iff, hw, hv, hn]; rfl
  rw [jsonM_eq nc _ (preOK_not_void hp)] at ht
  have hp' := preOK_rawNorm nc _ hp
  refine ⟨jsonText_noNL nc _ t hp' ht, ?_⟩
  rw [← rawNorm_eq_untag _ hs]
  exact readJsonM_space nc _ t hp' (Yaml.rawDoc_rawNorm _) ht

/-- **(a) `CodecOK`** of a diff from decidable hypotheses on its paths and payloads -/
theorem codecOK (nc : NumCodec) (d : Diff)
    (hpath : ∀ h ∈ d, (pathToJson h.path).wf = true ∧ Yaml.voidFree (pathToJson h.path) = true ∧
      NumOK nc (pathToJson h.path) = true ∧ setFree (pathToJson h.path) = true)
    (hval : ∀ h ∈ d, ∀ v ∈ NativeRT.payloads h,
      v.wf = true ∧ Yaml.voidFree v = true ∧ NumOK nc v = true ∧ mSetFree v = true) :
    NativeRT.CodecOK nc d := by
  intro h hh
  obtain ⟨h1, h2, h3, h4⟩ := hpath h hh
  refine ⟨pathOK nc h.path h1 h2 h3 h4, ?_⟩
  intro v hv
  obtain ⟨g1, g2, g3, g4⟩ := hval h hh v hv
  exact valOK nc v g1 g2 g3 g4

/-! ## 14. consequence (b): JSON Patch (RFC 6902) text -/

/-- an operation of a JSON Patch as a document, its value as it is -/
def opJson (p : PatchOp) : Json :=
  .obj [("op", .str p.op), ("path", .str p.path), ("value", p.value)]

/-- one operation of a JSON Patch as it is written: its value goes through `json.Marshal` -/
def opDoc (p : PatchOp) : Json :=
  .obj [("op", .str p.op), ("path", .str p.path), ("value", mnorm p.value)]

/-- what the text round trip does to an operation -/
def normOp (p : PatchOp) : PatchOp := { p with value := mnorm p.value }

/-- the text of an operation object `{"op":…,"path":…,"value":w}`, as `json.Marshal(patchElement)`
    writes it (v2 and v1) -/
theorem jsonText_opObj (nc : NumCodec) (op path : String) (w : Json) :
    jsonText nc (.obj [("op", .str op), ("path", .str path), ("value", w)]) =
      (jsonText nc w).map (fun v =>
        "{\"op\":" ++ quoteString op ++ ",\"path\":" ++ quoteString path ++ ",\"value\":" ++ v ++ "}") := by
  simp only [jsonText, jsonTextKvs]
  cases jsonText nc w with
  | none => rfl
  | some t =>
    simp only [Option.map_some, Option.bind_eq_bind, Option.bind_some, Option.pure_def, Option.some.injEq]
    rw [← String.toList_inj]
    simp [String.toList_append, quoteString_toList, escL, escapeChar]

theorem preOK_opObj (nc : NumCodec) (op path : String) (w : Json) (h : preOK nc w = true) :
    preOK nc (.obj [("op", .str op), ("path", .str path), ("value", w)]) = true := by
  have hk : keysSorted [("op", Json.str op), ("path", .str path), ("value", w)] = true := by
    simp only [keysSorted, Bool.and_true, decide_eq_true_eq, Bool.and_eq_true]
    exact ⟨by decide, by decide⟩
  simp [preOK, preOKKvs, h, hk]

theorem optAll_map_jsonText (nc : NumCodec) : ∀ xs : List Json,
    optAll (xs.map (jsonText nc)) = jsonTextList nc xs
  | [] => rfl
  | x :: r => by
    simp only [List.map_cons, jsonTextList]
    cases jsonText nc x with
    | none => rfl
    | some a =>
      simp only [optAll, optAll_map_jsonText nc r]
      cases jsonTextList nc r <;> rfl

theorem preOKList_opJsons (nc : NumCodec) (ops : List PatchOp)
    (h : ∀ p ∈ ops, preOK nc p.value = true) : preOKList nc (ops.map opJson) = true := by
  rw [preOKList_forall]
  intro x hx
  obtain ⟨p, hp, rfl⟩ := List.mem_map.1 hx
  exact preOK_opObj nc _ _ _ (h p hp)

theorem rawDocList_opJsons (ops : List PatchOp) (h : ∀ p ∈ ops, p.value.rawDoc = true) :
    rawDocList (ops.map opJson) = true := by
  rw [Yaml.rawDocList_iff]
  intro x hx
  obtain ⟨p, hp, rfl⟩ := List.mem_map.1 hx
  simp [opJson, Json.rawDoc, rawDocKvs, h p hp]

/-- the array of operation documents is printed and parsed back when the values are (v2 and v1: it
    is about `jsonText` / `parseJson` only) -/
theorem parse_opJsons (nc : NumCodec) (ops : List PatchOp)
    (h : ∀ p ∈ ops, preOK nc p.value = true ∧ p.value.rawDoc = true) :
    ∃ text, jsonText nc (.arr .raw (ops.map opJson)) = some text ∧
      parseJson nc text = some (.arr .raw (ops.map opJson)) := by
  have hp : preOK nc (.arr .raw (ops.map opJson)) = true := by
    simp only [preOK]; exact preOKList_opJsons nc ops fun p hp => (h p hp).1
  have hr : (Json.arr .raw (ops.map opJson)).rawDoc = true := by
    simp [Json.rawDoc, rawDocList_opJsons ops fun p hp => (h p hp).2]
  obtain ⟨text, ht⟩ := jsonText_some nc _ hp
  exact ⟨text, ht, parseJson_text' nc _ text hp hr ht⟩

/-- `ReadPatchString`'s field extraction reads the operations back -/
theorem patchOpsOfJson_go_opJsons : ∀ ops : List PatchOp,
    patchOpsOfJson.go (ops.map opJson) = .ok ops
  | [] => rfl
  | p :: r => by
    simp [patchOpsOfJson.go, patchOpsOfJson.strField, patchOpsOfJson.valueField, alookup, opJson,
      patchOpsOfJson_go_opJsons r]
    rfl

/-- the independent decoder of the RFC 6902 specification reads the operations back -/
theorem opsOfJson_opJsons (ops : List PatchOp) :
    Spec.opsOfJson (.arr .raw (ops.map opJson)) = some (ops.map PatchOp.toSpec) := by
  simp only [Spec.opsOfJson]
  induction ops with
  | nil => rfl
  | cons p r ih =>
    simp only [List.map_cons, List.mapM_cons, ih]
    simp [opJson, alookup, PatchOp.toSpec]

theorem patchOpText_eq (nc : NumCodec) (p : PatchOp) : patchOpText nc p = jsonText nc (opDoc p) := by
  simp only [patchOpText, marshalNode_eq, opDoc, jsonText_opObj]

theorem optAll_patchOpText (nc : NumCodec) (ops : List PatchOp) :
    optAll (ops.map (patchOpText nc)) = jsonTextList nc (ops.map opDoc) := by
  rw [← optAll_map_jsonText, List.map_map]
  exact congrArg optAll (List.map_congr_left fun p _ => patchOpText_eq nc p)

/-- **`RenderPatch` is the `Json()` text of the array of operation objects** -/
theorem renderPatchM_eq (nc : NumCodec) (d : Diff) :
    renderPatchM nc d =
      match renderPatchOps d with
      | .ok ops => .ok (jsonText nc (.arr .raw (ops.map opDoc)))
      | .err => .err
      | .panic => .panic := by
  unfold renderPatchM
  cases d with
  | nil => simp [renderPatchOps, jsonText, jsonTextList]
  | cons h r =>
    simp only [List.isEmpty_cons, Bool.false_eq_true, if_false]
    cases renderPatchOps (h :: r) with
    | ok ops => simp only [optAll_patchOpText, jsonText]
    | err => rfl
    | panic => rfl

theorem map_opDoc (ops : List PatchOp) : ops.map opDoc = (ops.map normOp).map opJson := by
  rw [List.map_map]; rfl

/-- **(b) JSON Patch, text level**: whenever the operations of `d` can be written (`renderPatchOps`)
    and their values are in the domain of `json.Marshal` (`mOK`), `RenderPatch` produces a text, and
    `ReadPatchString` of that text is `ReadPatchString`'s logic on those operations, their values
    passed through `mnorm` -/
theorem readPatchM_renderPatchM (nc : NumCodec) (d : Diff) (ops : List PatchOp)
    (hops : renderPatchOps d = .ok ops) (hok : ∀ p ∈ ops, mOK nc p.value = true) :
    ∃ text, renderPatchM nc d = .ok (some text) ∧ readPatchM nc text = readPatchOps (ops.map normOp) := by
  obtain ⟨text, h1, h2⟩ := parse_opJsons nc (ops.map normOp) fun p hp => by
    obtain ⟨q, hq, rfl⟩ := List.mem_map.1 hp; exact ⟨preOK_mnorm nc _ (hok q hq), rawDoc_mnorm _⟩
  rw [← map_opDoc] at h1 h2
  refine ⟨text, by rw [renderPatchM_eq, hops]; simp only [h1], ?_⟩
  simp only [readPatchM, h2, readPatchDoc, patchOpsOfJson, map_opDoc, patchOpsOfJson_go_opJsons]


/-- the values that `RenderPatch` writes for a hunk satisfy `P` -/
def HunkVals (P : Json → Prop) (h : Hunk) : Prop :=
  (∀ v ∈ h.before, v.isVoid = false → P v) ∧ (∀ v ∈ h.after, v.isVoid = false → P v) ∧
  ((∀ v ∈ h.remove, P v) ∨ ∃ r0 r, h.remove = r0 :: r ∧ r0.isVoid = true) ∧
  ((∀ v ∈ h.add, P v) ∨ ∃ a0 r, h.add = a0 :: r ∧ a0.isVoid = true)

theorem renderPatchHunk_values {P : Json → Prop} {h : Hunk} {ops : List PatchOp}
    (e : renderPatchHunk h = .ok ops) (hv : HunkVals P h) : ∀ p ∈ ops, P p.value := by
  obtain ⟨s, bo, ao, _, _, _, _, hb, ha, rfl⟩ := renderPatchHunk_ok e
  obtain ⟨h1, h2, h3, h4⟩ := hv
  intro p hp
  simp only [List.mem_append] at hp
  rcases hp with ((hp | hp) | hp) | hp
  · rcases ctxOps_ok hb with ⟨rfl, _⟩ | ⟨b, i, pp, hbe, hbv, _, _, rfl⟩
    · cases hp
    · simp only [List.mem_singleton] at hp; subst hp
      exact h1 b (by rw [hbe]; simp) hbv
  · rcases ctxOps_ok ha with ⟨rfl, _⟩ | ⟨b, i, pp, hbe, hbv, _, _, rfl⟩
    · cases hp
    · simp only [List.mem_singleton] at hp; subst hp
      exact h2 b (by rw [hbe]; simp) hbv
  · unfold remOpsOf at hp
    split at hp
    · cases hp
    · next r0 r' heq =>
      split at hp
      · cases hp
      · next hne =>
        simp only [List.mem_flatMap, List.mem_cons, List.not_mem_nil, or_false] at hp
        obtain ⟨x, hx, rfl | rfl⟩ := hp
        all_goals
          rcases h3 with h3 | ⟨a0, r, e0, hv0⟩
          · exact h3 x hx
          · rw [heq] at e0; cases e0; exact absurd hv0 hne
  · unfold addOpsOf at hp
    split at hp
    · cases hp
    · next a0 r' heq =>
      split at hp
      · cases hp
      · next hne =>
        simp only [List.mem_map, List.mem_reverse] at hp
        obtain ⟨x, hx, rfl⟩ := hp
        rcases h4 with h4 | ⟨b0, r, e0, hv0⟩
        · exact h4 x hx
        · rw [heq] at e0; cases e0; exact absurd hv0 hne

theorem renderPatchOps_values {P : Json → Prop} : ∀ {d : Diff} {ops : List PatchOp},
    renderPatchOps d = .ok ops → (∀ h ∈ d, HunkVals P h) → ∀ p ∈ ops, P p.value
  | [], ops, e, _ => by
    rw [renderPatchOps] at e; injection e with e; subst e; intro o ho; cases ho
  | h :: d, ops, e, hv => by
    obtain ⟨a, b, ha, hb, rfl⟩ := renderPatchOps_ok_cons e
    intro o ho
    rcases List.mem_append.mp ho with ho | ho
    · exact renderPatchHunk_values ha (hv h (by simp)) o ho
    · exact renderPatchOps_values hb (fun g hg => hv g (List.mem_cons_of_mem _ hg)) o ho


/-- the decidable domain of payload values: documents as read, sorted unique keys, no void inside,
    codec-correct numbers -/
def DocOK (nc : NumCodec) (v : Json) : Prop :=
  v.rawDoc = true ∧ v.wf = true ∧ Yaml.voidFree v = true ∧ NumOK nc v = true

theorem DocOK.preOK {nc : NumCodec} {v : Json} (h : DocOK nc v) : preOK nc v = true := by
  rw [preOK_iff, h.2.1, h.2.2.1, h.2.2.2]; rfl

/-- **(b) own output, text level**: `ReadPatchString (d.RenderPatch())` is `ReadPatchString`'s logic
    on the operations `renderPatchOps d` — the statement C09 / C10 start from — for every diff whose
    written values are documents as read (`DocOK`); `RenderPatch` fails exactly when
    `renderPatchOps` does -/
theorem readPatchM_renderPatchM_own (nc : NumCodec) (d : Diff) (hd : ∀ h ∈ d, HunkVals (DocOK nc) h) :
    match renderPatchOps d with
    | .ok ops => ∃ text, renderPatchM nc d = .ok (some text) ∧ readPatchM nc text = readPatchOps ops
    | .err => renderPatchM nc d = .err
    | .panic => renderPatchM nc d = .panic := by
  cases hops : renderPatchOps d with
  | ok ops =>
    have hv := renderPatchOps_values hops hd
    obtain ⟨text, h1, h2⟩ := readPatchM_renderPatchM nc d ops hops
      (fun p hp => mOK_of_preOK nc _ (hv p hp).preOK)
    have e : ops.map normOp = ops := (List.map_congr_left fun p hp => by
      rw [normOp, mnorm_of_rawDoc _ (hv p hp).1 (hv p hp).2.2.1]; rfl).trans (List.map_id ops)
    exact ⟨text, h1, e ▸ h2⟩
  | err => simp only [renderPatchM_eq, hops]
  | panic => simp only [renderPatchM_eq, hops]

/-- the operation with the tags of its value erased -/
def untagOp (p : PatchOp) : PatchOp := { p with value := untag p.value }

theorem map_normOp_untag (ops : List PatchOp)
    (h : ∀ p ∈ ops, Yaml.voidFree p.value = true ∧ mSetFree p.value = true) :
    ops.map normOp = ops.map untagOp :=
  List.map_congr_left fun p hp => by simp only [normOp, untagOp, mnorm_eq_untag _ (h p hp).1 (h p hp).2]

/-- **(b), typed values**: for written values with typed array nodes (no void inside, no set-typed
    array inside an object) the operations come back with the tags of their values erased -/
theorem readPatchM_renderPatchM_untag (nc : NumCodec) (d : Diff) (ops : List PatchOp)
    (hops : renderPatchOps d = .ok ops)
    (hok : ∀ p ∈ ops, preOK nc p.value = true ∧ mSetFree p.value = true) :
    ∃ text, renderPatchM nc d = .ok (some text) ∧ readPatchM nc text = readPatchOps (ops.map untagOp) := by
  obtain ⟨text, h1, h2⟩ := readPatchM_renderPatchM nc d ops hops
    (fun p hp => mOK_of_preOK nc _ (hok p hp).1)
  rw [map_normOp_untag ops (fun p hp => ⟨by
    have := (hok p hp).1; rw [preOK_iff] at this
    simp only [Bool.and_eq_true] at this; exact this.1.2, (hok p hp).2⟩)] at h2
  exact ⟨text, h1, h2⟩

/-! ## 15. consequence (c): JSON Merge Patch (RFC 7386) text -/

theorem jsonText_read (nc : NumCodec) (w : Json) (hp : preOK nc w = true) (hr : w.rawDoc = true) :
    ∃ s, jsonText nc w = some s ∧ readJsonM nc s = .ok w := by
  obtain ⟨s, hs⟩ := jsonText_some nc w hp
  exact ⟨s, hs, readJsonM_jsonText nc w s hp hr hs⟩

theorem readJsonM_jsonM (nc : NumCodec) (n : Json) (hp : n.isVoid = true ∨ preOK nc n = true) :
    ∃ s, jsonM nc n = some s ∧ readJsonM nc s = .ok (rawNorm n) := by
  rcases hp with hv | hp
  · cases n <;> simp [Json.isVoid] at hv
    exact ⟨"", rfl, NativeRT.readJsonM_empty nc⟩
  · rw [jsonM_eq nc n (preOK_not_void hp)]
    exact jsonText_read nc _ (preOK_rawNorm nc n hp) (Yaml.rawDoc_rawNorm n)

/-- **(c) JSON Merge Patch, text level**: when `RenderMerge` builds the document `n` (void for a
    diff that deletes the root, or a document of the domain), the text is produced and
    `ReadMergeString` of it is `readMergeDoc` of `raw()` of `n` -/
theorem readMergeM_renderMergeM (nc : NumCodec) (d : Diff) (n : Json) (hn : renderMergeDoc d = .ok n)
    (hp : n.isVoid = true ∨ preOK nc n = true) :
    ∃ s, renderMergeM nc d = .ok (some s) ∧ readMergeM nc s = .ok (readMergeDoc (rawNorm n)) := by
  obtain ⟨s, h1, h2⟩ := readJsonM_jsonM nc n hp
  exact ⟨s, by simp only [renderMergeM, hn, h1], by simp only [readMergeM, h2]⟩

/-- **(c) own output**: for a merge document as read (`DocOK`; or void),
    `ReadMergeString (d.RenderMerge()) = readMergeDoc (renderMergeDoc d)`; `RenderMerge` fails exactly
    when `renderMergeDoc` does -/
theorem readMergeM_renderMergeM_own (nc : NumCodec) (d : Diff)
    (hd : ∀ n, renderMergeDoc d = .ok n → n.isVoid = true ∨ DocOK nc n) :
    match renderMergeDoc d with
    | .ok n => ∃ s, renderMergeM nc d = .ok (some s) ∧ readMergeM nc s = .ok (readMergeDoc n)
    | .err => renderMergeM nc d = .err
    | .panic => renderMergeM nc d = .panic := by
  cases hn : renderMergeDoc d with
  | ok n =>
    have hp : n.isVoid = true ∨ preOK nc n = true := (hd n hn).imp id DocOK.preOK
    obtain ⟨s, h1, h2⟩ := readMergeM_renderMergeM nc d n hn hp
    refine ⟨s, h1, ?_⟩
    rcases hd n hn with hv | hdoc
    · cases n <;> simp [Json.isVoid] at hv
      simpa [rawNorm] using h2
    · rw [Yaml.rawNorm_of_rawDoc n hdoc.1] at h2; exact h2
  | err => simp only [renderMergeM, hn]
  | panic => simp only [renderMergeM, hn]

/-! ## 16. integers: `numOK` holds by the model's own integer formatting / parsing -/

theorem isDigit_eq (c : Char) : isDigit c = c.isDigit := by
  rw [Bool.eq_iff_iff, isDigit_iff]
  simp only [Char.isDigit, Bool.and_eq_true, decide_eq_true_eq, UInt32.le_iff_toNat_le]
  rfl

theorem toDigits_all_digit (n : Nat) : ∀ c ∈ Nat.toDigits 10 n, isDigit c = true := by
  intro c hc
  rw [isDigit_eq]
  exact Nat.isDigit_of_mem_toDigits (by decide) (by decide) hc

theorem takeDigits_all : ∀ l : List Char, (∀ c ∈ l, isDigit c = true) → takeDigits l = (l, [])
  | [], _ => rfl
  | c :: r, h => by
    have ih := takeDigits_all r (fun x hx => h x (List.mem_cons_of_mem _ hx))
    simp [takeDigits, h c (by simp), ih]

theorem lexNumber_digits (n : Nat) (sign : List Char) (hs : sign = [] ∨ sign = ['-']) :
    lexNumber (sign ++ Nat.toDigits 10 n) = some (sign ++ Nat.toDigits 10 n, []) := by
  have hall := toDigits_all_digit n
  have key : lexNum0 sign (Nat.toDigits 10 n) = some (sign ++ Nat.toDigits 10 n, []) := by
    by_cases hn : n = 0
    · subst hn
      simp [Nat.toDigits_zero, lexNum0, lexNumber.lexFrac, lexNumber.lexExp]
    · obtain ⟨c, r, e, hc⟩ := toDigits_head n (by omega)
      have hd : isDigit c = true := hall c (by rw [e]; simp)
      rw [e] at hall ⊢
      simp only [lexNum0, if_neg hc, hd, if_true, takeDigits_all _ hall]
      simp [lexNumber.lexFrac, lexNumber.lexExp]
  rcases hs with rfl | rfl
  · obtain ⟨c, r, e⟩ : ∃ c r, Nat.toDigits 10 n = c :: r := by
      cases h : Nat.toDigits 10 n with
      | nil => exact absurd h Nat.toDigits_ne_nil
      | cons c r => exact ⟨c, r, rfl⟩
    have hc : c ≠ '-' := by
      intro h; subst h
      have := hall '-' (by rw [e]; simp)
      simp [isDigit] at this
    simp only [List.nil_append] at key ⊢
    rw [e, lexNumber_cons, if_neg hc, ← e]; exact key
  · rw [List.singleton_append, lexNumber_cons, if_pos rfl]; exact key


theorem natToDigits_toList (n : Nat) : (natToDigits n).toList = Nat.toDigits 10 n := by
  simp [natToDigits]

def negSplit : List Char → Bool × List Char
  | '-' :: r => (true, r)
  | r => (false, r)

theorem parseNumToken_none (nc : NumCodec) (tok : List Char) (hp : nc.parse (String.ofList tok) = none) :
    parseNumToken nc tok =
      if ((negSplit tok).2.all isDigit && !(negSplit tok).2.isEmpty && decide ((negSplit tok).2.length ≤ 15)) = true then
        (if ((negSplit tok).2.foldl (fun (acc : Nat) c => acc * 10 + (c.toNat - 48)) 0 == 0 && (negSplit tok).1) = true
          then some 0x8000000000000000
         else some (intToFloatBits (if (negSplit tok).1 = true
           then -(((negSplit tok).2.foldl (fun (acc : Nat) c => acc * 10 + (c.toNat - 48)) 0 : Nat) : Int)
           else (((negSplit tok).2.foldl (fun (acc : Nat) c => acc * 10 + (c.toNat - 48)) 0 : Nat) : Int))))
      else none := by
  unfold parseNumToken
  simp only [hp, negSplit]
  rfl

/-- the integer fallback of `parseNumToken` on the digits of `n < 10^15`, with optional sign -/
theorem parseNumToken_digits (nc : NumCodec) (n : Nat) (hn : n < 10 ^ 15) (neg : Bool)
    (hp : nc.parse (String.ofList ((if neg then ['-'] else []) ++ Nat.toDigits 10 n)) = none) :
    parseNumToken nc ((if neg then ['-'] else []) ++ Nat.toDigits 10 n) =
      some (if n = 0 ∧ neg = true then 0x8000000000000000
            else intToFloatBits (if neg then -(n : Int) else (n : Int))) := by
  have hall := toDigits_all_digit n
  have hlen : (Nat.toDigits 10 n).length ≤ 15 := (Nat.length_toDigits_le_iff (by decide) (by decide)).2 hn
  have hne : (Nat.toDigits 10 n) ≠ [] := Nat.toDigits_ne_nil
  have hfold := foldl_digits (Nat.toDigits 10 n) 0
  rw [Nat.ofDigitChars_ten_toDigits] at hfold
  have hsplit : negSplit ((if neg then ['-'] else []) ++ Nat.toDigits 10 n) = (neg, Nat.toDigits 10 n) := by
    cases neg with
    | true => simp [negSplit]
    | false =>
      simp only [Bool.false_eq_true, if_false, List.nil_append]
      unfold negSplit
      split
      · next r heq =>
        have := hall '-' (by rw [heq]; simp)
        simp [isDigit] at this
      · rfl
  rw [parseNumToken_none nc _ hp, hsplit]
  have h1 : (Nat.toDigits 10 n).all isDigit = true := by simpa [List.all_eq_true] using hall
  have h2 : (Nat.toDigits 10 n).isEmpty = false := by simp
  simp only [h1, h2, hfold, Bool.not_false, Bool.and_true, decide_eq_true hlen, if_true]
  cases neg <;> by_cases h0 : n = 0 <;> simp [h0]

/-- **integers are handled by the model itself**: a finite binary64 with an integral value of
    magnitude below 10^15 (other than -0) is `numOK` for every codec that does not know its token,
    or reads it correctly -/
theorem numOK_int (nc : NumCodec) (b : UInt64) (i : Int) (hb : floatToInt? b = some i)
    (hz : b ≠ 0x8000000000000000) (hi : i.natAbs < 10 ^ 15)
    (hparse : ∀ s, fmtNum nc b = some s → nc.parse s = none ∨ nc.parse s = some b) :
    numOK nc b = true := by
  have hbits : intToFloatBits i = b :=
    Yaml.intToFloatBits_of_floatToInt b i hb (by omega) hz
  have h53 : i.natAbs < 2 ^ 53 := by omega
  have hz' : (b == 0x8000000000000000) = false := by simpa using hz
  let neg : Bool := decide (i < 0)
  let tok : List Char := (if neg then ['-'] else []) ++ Nat.toDigits 10 i.natAbs
  have hfmt : fmtNum nc b = some (String.ofList tok) := by
    simp only [fmtNum, hz', Bool.false_eq_true, if_false, hb, h53, if_true, Option.some.injEq]
    rw [← String.toList_inj, String.toList_ofList]
    by_cases hneg : i < 0
    · simp [tok, neg, hneg, String.toList_append, natToDigits_toList]
    · simp [tok, neg, hneg, natToDigits_toList]
  have hlex : lexNumber tok = some (tok, []) :=
    lexNumber_digits _ _ (by cases neg <;> simp)
  have hpn : parseNumToken nc tok = some b := by
    rcases hparse _ hfmt with hp | hp
    · have h0 : ¬ (i.natAbs = 0 ∧ neg = true) := by simp only [neg, decide_eq_true_eq]; omega
      have hi' : (if neg = true then -(i.natAbs : Int) else (i.natAbs : Int)) = i := by
        simp only [neg, decide_eq_true_eq]; split <;> omega
      rw [show tok = (if neg then ['-'] else []) ++ Nat.toDigits 10 i.natAbs from rfl,
        parseNumToken_digits nc _ hi neg hp, if_neg h0, hi', hbits]
    · unfold parseNumToken
      simp only [hp]
  simp only [numOK, hfmt, String.toList_ofList, hlex, hpn, decide_true, Bool.and_self]

theorem numOK_negZero (nc : NumCodec)
    (hparse : nc.parse "-0" = none ∨ nc.parse "-0" = some 0x8000000000000000) :
    numOK nc 0x8000000000000000 = true := by
  have hfmt : fmtNum nc 0x8000000000000000 = some "-0" := by simp [fmtNum]
  have hlex : lexNumber "-0".toList = some ("-0".toList, []) := by
    simp [lexNumber, lexNumber.lexFrac, lexNumber.lexExp]
  have hpn : parseNumToken nc "-0".toList = some 0x8000000000000000 := by
    rcases hparse with hp | hp
    · simp [parseNumToken, hp, isDigit]
    · simp [parseNumToken, hp]
  simp only [numOK, hfmt, hlex, hpn, decide_true, Bool.and_self]


/-! ## 17. the v1 twins (`/repo/lib`): same `encoding/json`, its own `raw()` order for sets -/

namespace V1T

theorem rawNormList_eq_map (xs : List Json) : V1.rawNormList xs = xs.map V1.rawNorm :=
  listF_eq_map rfl (fun _ _ => rfl) xs
theorem rawNormKvs_eq_map (kvs : List (String × Json)) :
    V1.rawNormKvs kvs = kvs.map (fun kv => (kv.1, V1.rawNorm kv.2)) :=
  listF_eq_map rfl (fun _ _ => rfl) kvs

/-- the v1 `raw()`: another hash order of sets, the same three equations -/
theorem isRawNorm_v1 : IsRawNorm V1.rawNorm where
  scalar v h1 h2 := by cases v <;> first | rfl | exact absurd rfl (h1 _ _) | exact absurd rfl (h2 _)
  arr t xs := by
    have e := rawNormList_eq_map xs
    cases t
    case set =>
      exact ⟨_, by rw [V1.rawNorm], fun y hy => e ▸ Yaml.setRawOrder_sub _ _ y hy, fun h => absurd rfl h⟩
    all_goals exact ⟨_, by rw [V1.rawNorm]; simp, e ▸ fun _ h => h, fun _ => e⟩
  obj kvs := by rw [V1.rawNorm, rawNormKvs_eq_map]

theorem preOK_rawNorm (nc : NumCodec) : ∀ v : Json, preOK nc v = true → preOK nc (V1.rawNorm v) = true :=
  isRawNorm_v1.pres nc

theorem preOKList_rawNormList (nc : NumCodec) : ∀ xs : List Json, preOKList nc xs = true →
    preOKList nc (V1.rawNormList xs) = true :=
  fun xs h => by simpa [V1.rawNorm, preOK] using preOK_rawNorm nc (.arr .raw xs) h

theorem preOKKvs_rawNormKvs (nc : NumCodec) : ∀ kvs : List (String × Json), preOKKvs nc kvs = true →
    preOKKvs nc (V1.rawNormKvs kvs) = true := fun kvs h => by
  rw [preOKKvs_eq_all] at h ⊢
  rw [rawNormKvs_eq_map, List.all_map]
  exact List.all_eq_true.2 fun kv hkv => preOK_rawNorm nc _ (List.all_eq_true.1 h kv hkv)

theorem rawDoc_rawNorm : ∀ (d : Json), (V1.rawNorm d).rawDoc = true := isRawNorm_v1.rawDoc

theorem rawDocList_rawNormList : ∀ (xs : List Json), rawDocList (V1.rawNormList xs) = true :=
  fun xs => by simpa [V1.rawNorm, Json.rawDoc] using rawDoc_rawNorm (.arr .raw xs)

theorem rawDocKvs_rawNormKvs : ∀ (kvs : List (String × Json)), rawDocKvs (V1.rawNormKvs kvs) = true :=
  fun kvs => by simpa [V1.rawNorm, Json.rawDoc] using rawDoc_rawNorm (.obj kvs)

theorem rawNorm_of_rawDoc : ∀ (d : Json), d.rawDoc = true → V1.rawNorm d = d := isRawNorm_v1.of_rawDoc

theorem rawNormList_of_rawDoc : ∀ (xs : List Json), rawDocList xs = true → V1.rawNormList xs = xs :=
  fun xs h => by
    simpa [V1.rawNorm] using rawNorm_of_rawDoc (.arr .raw xs) (by simpa [Json.rawDoc] using h)

theorem rawNormKvs_of_rawDoc : ∀ (kvs : List (String × Json)), rawDocKvs kvs = true →
    V1.rawNormKvs kvs = kvs :=
  fun kvs h => by simpa [V1.rawNorm] using rawNorm_of_rawDoc (.obj kvs) h

theorem jsonM_eq (nc : NumCodec) (v : Json) (h : v.isVoid = false) :
    V1.jsonM nc v = jsonText nc (V1.rawNorm v) := by
  cases v <;> first | rfl | simp [Json.isVoid] at h

/-- **v1 `Json()` round trip** -/
theorem jsonM_parse (nc : NumCodec) (v : Json) (hw : v.wf = true) (hv : Yaml.voidFree v = true)
    (hn : NumOK nc v = true) :
    ∃ s, V1.jsonM nc v = some s ∧ parseJson nc s = some (V1.rawNorm v) := by
  have hp : preOK nc v = true := by rw [preOK_iff, hw, hv, hn]; rfl
  have hp' := preOK_rawNorm nc v hp
  obtain ⟨s, hs⟩ := jsonText_some nc _ hp'
  exact ⟨s, by rw [jsonM_eq nc v (preOK_not_void hp)]; exact hs,
    parseJson_text' nc _ s hp' (rawDoc_rawNorm v) hs⟩

theorem jsonM_roundtrip (nc : NumCodec) (v : Json) (hr : v.rawDoc = true) (hw : v.wf = true)
    (hv : Yaml.voidFree v = true) (hn : NumOK nc v = true) :
    ∃ s, V1.jsonM nc v = some s ∧ parseJson nc s = some v := by
  obtain ⟨s, h1, h2⟩ := jsonM_parse nc v hw hv hn
  exact ⟨s, h1, by rw [h2, rawNorm_of_rawDoc v hr]⟩

mutual
/-- what v1's `json.Marshal(node)` prints, as a document -/
def mnorm : Json → Json
  | .void => .obj []
  | .arr _ xs => .arr .raw (mnormList xs)
  | .obj kvs => V1.rawNorm (.obj kvs)
  | n => n
def mnormList : List Json → List Json
  | [] => []
  | x :: r => mnorm x :: mnormList r
end

theorem mnormList_eq_map (xs : List Json) : mnormList xs = xs.map mnorm :=
  listF_eq_map rfl (fun _ _ => rfl) xs

mutual
theorem marshalNode_eq (nc : NumCodec) : ∀ v : Json, V1.marshalNode nc v = jsonText nc (mnorm v)
  | .void => by simp [V1.marshalNode, mnorm, jsonText, jsonTextKvs]
  | .null => rfl
  | .bool _ => rfl
  | .num _ => rfl
  | .str _ => rfl
  | .arr _ xs => by simp only [V1.marshalNode, mnorm, jsonText, marshalList_eq nc xs]
  | .obj _ => by simp only [V1.marshalNode, mnorm]
theorem marshalList_eq (nc : NumCodec) : ∀ xs : List Json, V1.marshalList nc xs = jsonTextList nc (mnormList xs)
  | [] => rfl
  | x :: r => by simp only [V1.marshalList, mnormList, jsonTextList, marshalNode_eq nc x, marshalList_eq nc r]
end



theorem isMNorm_v1 : IsMNorm V1.rawNorm mnorm := fun v => by
  cases v <;> first | rfl | rw [mnorm, mnormList_eq_map]

theorem preOK_mnorm (nc : NumCodec) : ∀ v : Json, mOK nc v = true → preOK nc (mnorm v) = true :=
  isMNorm_v1.pres isRawNorm_v1 nc

theorem preOKList_mnormList (nc : NumCodec) : ∀ xs : List Json, mOKList nc xs = true →
    preOKList nc (mnormList xs) = true :=
  fun xs h => by simpa only [mnorm, preOK] using preOK_mnorm nc (.arr .raw xs) h

theorem rawDoc_mnorm : ∀ v : Json, (mnorm v).rawDoc = true := isMNorm_v1.rawDoc isRawNorm_v1

theorem rawDocList_mnormList : ∀ xs : List Json, rawDocList (mnormList xs) = true :=
  fun xs => by simpa [mnorm, Json.rawDoc] using rawDoc_mnorm (.arr .raw xs)

theorem mnorm_of_rawDoc : ∀ v : Json, v.rawDoc = true → Yaml.voidFree v = true → mnorm v = v :=
  isMNorm_v1.of_rawDoc isRawNorm_v1

theorem mnormList_of_rawDoc : ∀ xs : List Json, rawDocList xs = true → Yaml.voidFreeList xs = true →
    mnormList xs = xs :=
  fun xs hr hv =>
    (Json.arr.inj (mnorm_of_rawDoc (.arr .raw xs) (by simpa [Json.rawDoc] using hr) hv)).2

/-- **v1 `json.Marshal(node)` round trip** -/
theorem marshalNode_parse (nc : NumCodec) (v : Json) (hp : mOK nc v = true) :
    ∃ s, V1.marshalNode nc v = some s ∧ parseJson nc s = some (mnorm v) := by
  have hp' := preOK_mnorm nc v hp
  obtain ⟨s, hs⟩ := jsonText_some nc _ hp'
  exact ⟨s, by rw [marshalNode_eq]; exact hs, parseJson_text' nc _ s hp' (rawDoc_mnorm v) hs⟩

/-- v1 payload lines (`- v` / `+ v`) are read by `ReadJsonString` of the payload: the analogue of
    `ValOK` for any surrounding white space -/
theorem readJsonM_marshalNode (nc : NumCodec) (v : Json) (hp : mOK nc v = true) (pre post : List Char)
    (hpre : pre.all isJsonWs = true) (hpost : post.all isJsonWs = true) :
    ∃ s, V1.marshalNode nc v = some s ∧ '\n' ∉ s.toList ∧
      readJsonM nc (String.ofList (pre ++ s.toList ++ post)) = .ok (mnorm v) := by
  have hp' := preOK_mnorm nc v hp
  obtain ⟨s, hs⟩ := jsonText_some nc _ hp'
  exact ⟨s, by rw [marshalNode_eq]; exact hs, jsonText_noNL nc _ s hp' hs,
    readJsonM_text nc _ s hp' (rawDoc_mnorm v) hs pre post hpre hpost⟩

def opDoc (p : PatchOp) : Json :=
  .obj [("op", .str p.op), ("path", .str p.path), ("value", mnorm p.value)]

def normOp (p : PatchOp) : PatchOp := { p with value := mnorm p.value }

theorem map_opDoc (ops : List PatchOp) : ops.map opDoc = (ops.map normOp).map opJson := by
  rw [List.map_map]; rfl

/-- v1 `ReadPatchString`'s field extraction reads the operations back -/
theorem patchOpsOfJson_go_opJsons : ∀ ops : List PatchOp,
    V1.patchOpsOfJson.go (ops.map opJson) = .ok ops
  | [] => rfl
  | p :: r => by
    simp [V1.patchOpsOfJson.go, V1.patchOpsOfJson.strField, alookup, opJson,
      patchOpsOfJson_go_opJsons r]
    rfl

theorem patchOpText_eq (nc : NumCodec) (p : PatchOp) : V1.patchOpText nc p = jsonText nc (opDoc p) := by
  simp only [V1.patchOpText, marshalNode_eq, opDoc, jsonText_opObj]

theorem optAll_patchOpText (nc : NumCodec) (ops : List PatchOp) :
    optAll (ops.map (V1.patchOpText nc)) = jsonTextList nc (ops.map opDoc) := by
  rw [← optAll_map_jsonText, List.map_map]
  exact congrArg optAll (List.map_congr_left fun p _ => patchOpText_eq nc p)

theorem renderPatchM_eq (nc : NumCodec) (d : V1.PDiff) :
    V1.renderPatchM nc d =
      match V1.renderPatchOps d with
      | .ok ops => .ok (jsonText nc (.arr .raw (ops.map opDoc)))
      | .err => .err
      | .panic => .panic := by
  unfold V1.renderPatchM
  cases d with
  | nil => simp [V1.renderPatchOps, jsonText, jsonTextList]
  | cons h r =>
    simp only [List.isEmpty_cons, Bool.false_eq_true, if_false]
    cases V1.renderPatchOps (h :: r) with
    | ok ops => simp only [optAll_patchOpText, jsonText]
    | err => rfl
    | panic => rfl

/-- **(b) for v1**: `ReadPatchString (d.RenderPatch())` is the element loop on the operations
    `renderPatchOps d`, values through `mnorm` -/
theorem readPatchM_renderPatchM (nc : NumCodec) (d : V1.PDiff) (ops : List PatchOp)
    (hops : V1.renderPatchOps d = .ok ops) (hok : ∀ p ∈ ops, mOK nc p.value = true) :
    ∃ text, V1.renderPatchM nc d = .ok (some text) ∧
      V1.readPatchM nc text = V1.readPatchLoop (ops.length + 1) (ops.map normOp) [] := by
  obtain ⟨text, h1, h2⟩ := parse_opJsons nc (ops.map normOp) fun p hp => by
    obtain ⟨q, hq, rfl⟩ := List.mem_map.1 hp; exact ⟨preOK_mnorm nc _ (hok q hq), rawDoc_mnorm _⟩
  rw [← map_opDoc] at h1 h2
  refine ⟨text, by rw [renderPatchM_eq, hops]; simp only [h1], ?_⟩
  simp only [V1.readPatchM, h2, V1.readPatchDoc, V1.patchOpsOfJson, map_opDoc, patchOpsOfJson_go_opJsons,
    List.length_map]

/-- (b) for v1, values as read: nothing changes -/
theorem readPatchM_renderPatchM_own (nc : NumCodec) (d : V1.PDiff) (ops : List PatchOp)
    (hops : V1.renderPatchOps d = .ok ops) (hok : ∀ p ∈ ops, DocOK nc p.value) :
    ∃ text, V1.renderPatchM nc d = .ok (some text) ∧
      V1.readPatchM nc text = V1.readPatchLoop (ops.length + 1) ops [] := by
  obtain ⟨text, h1, h2⟩ := readPatchM_renderPatchM nc d ops hops
    (fun p hp => mOK_of_preOK nc _ (hok p hp).preOK)
  have e : ops.map normOp = ops := (List.map_congr_left fun p hp => by
    rw [normOp, mnorm_of_rawDoc _ (hok p hp).1 (hok p hp).2.2.1]; rfl).trans (List.map_id ops)
  rw [e] at h2
  exact ⟨text, h1, h2⟩

/-- **(c) for v1** -/
theorem readMergeM_renderMergeM (nc : NumCodec) (d : V1.PDiff) (n : Json)
    (hn : V1.renderMergeDoc d = .ok n) (hp : n.isVoid = true ∨ preOK nc n = true) :
    ∃ s, V1.renderMergeM nc d = .ok (some s) ∧
      V1.readMergeM nc s = .ok (V1.readMergeDoc (V1.rawNorm n)) := by
  have key : ∃ s, V1.jsonM nc n = some s ∧ readJsonM nc s = .ok (V1.rawNorm n) := by
    rcases hp with hv | hp
    · cases n <;> simp [Json.isVoid] at hv
      exact ⟨"", rfl, NativeRT.readJsonM_empty nc⟩
    · rw [jsonM_eq nc n (preOK_not_void hp)]
      exact jsonText_read nc _ (preOK_rawNorm nc n hp) (rawDoc_rawNorm n)
  obtain ⟨s, h1, h2⟩ := key
  refine ⟨s, ?_, by simp only [V1.readMergeM, h2]⟩
  unfold V1.renderMergeM
  cases d with
  | nil =>
    simp only [V1.renderMergeDoc, List.isEmpty_nil, if_true, Outcome.ok.injEq] at hn
    subst hn
    simp only [List.isEmpty_nil, if_true]
    rw [← h1]; rfl
  | cons h r => simp only [List.isEmpty_cons, Bool.false_eq_true, if_false, hn, h1]

end V1T

/-! ## 18. strings as a statement, C02 from decidable hypotheses, non-vacuity, remarks -/

/-- **strings**: every string is read back from its quoted form. No `strOK` is needed: a
    Lean `String` is a sequence of Unicode scalar values, and those are exactly the strings Go's
    `json.Marshal` writes without loss (checked on all 1 112 064 scalar values against encoding/json;
    only invalid UTF-8, which the model's `String` cannot hold, is replaced by U+FFFD) -/
theorem parseJson_quoteString (nc : NumCodec) (s : String) : parseJson nc (quoteString s) = some (.str s) :=
  parseJson_text' nc (.str s) _ rfl rfl rfl

example : parseJson NativeRT.exCodec (quoteString "a\"\\/\x08\x0c\n\r\t\x00\x1f<>&\u2028\u2029\x7fé�😀") =
    some (.str "a\"\\/\x08\x0c\n\r\t\x00\x1f<>&\u2028\u2029\x7fé�😀") := parseJson_quoteString _ _

/-- **C02 (`NativeRT.read_render`) with the codec contract discharged**: decidable hypotheses on the
    paths and payloads of the diff instead of `CodecOK` -/
theorem read_render_of_docs (nc : NumCodec) (d : Diff) (text : String) (hw : NativeRT.wfDiff d = true)
    (hpath : ∀ h ∈ d, (pathToJson h.path).wf = true ∧ Yaml.voidFree (pathToJson h.path) = true ∧
      NumOK nc (pathToJson h.path) = true ∧ setFree (pathToJson h.path) = true)
    (hval : ∀ h ∈ d, ∀ v ∈ NativeRT.payloads h,
      v.wf = true ∧ Yaml.voidFree v = true ∧ NumOK nc v = true ∧ mSetFree v = true)
    (hr : renderM nc [] d = some text) : readDiffM nc text = .ok (NativeRT.normDiff d) :=
  NativeRT.read_render nc d text hw (codecOK nc d hpath hval) hr

/-- the codec that knows no token at all: integers of magnitude below 10^15 are still `numOK` -/
theorem numOK_exCodec_int (b : UInt64) (i : Int) (hb : floatToInt? b = some i)
    (hz : b ≠ 0x8000000000000000) (hi : i.natAbs < 10 ^ 15) : numOK NativeRT.exCodec b = true :=
  numOK_int _ b i hb hz hi (fun _ _ => Or.inl rfl)

/-- 1.0 and -2.0 -/
theorem numOK_one : numOK NativeRT.exCodec 4607182418800017408 = true :=
  numOK_exCodec_int _ 1 (by decide) (by decide) (by decide)
theorem numOK_mtwo : numOK NativeRT.exCodec 0xC000000000000000 = true :=
  numOK_exCodec_int _ (-2) (by decide) (by decide) (by decide)

/-- a document as read: nested containers, escapes, the numbers 1, -0, -2 -/
def exDoc : Json :=
  .obj [("a", .arr .raw [.num 4607182418800017408, .str "x<\n\"", .null, .num 0x8000000000000000]),
        ("b", .obj []), ("c ", .arr .raw [.arr .raw [], .bool true, .num 0xC000000000000000])]

theorem exDoc_numOK : NumOK NativeRT.exCodec exDoc = true := by
  simp [exDoc, NumOK, NumOKKvs, NumOKList, numOK_one, numOK_mtwo, numOK_negZero NativeRT.exCodec (Or.inl rfl)]

example : ∃ s, jsonM NativeRT.exCodec exDoc = some s ∧ parseJson NativeRT.exCodec s = some exDoc :=
  jsonM_roundtrip _ exDoc (by decide) (by decide) (by decide) exDoc_numOK

example : NativeRT.ValOK NativeRT.exCodec exDoc :=
  valOK _ exDoc (by decide) (by decide) exDoc_numOK (by decide)

example : ∃ s, V1.jsonM NativeRT.exCodec exDoc = some s ∧ parseJson NativeRT.exCodec s = some exDoc :=
  V1T.jsonM_roundtrip _ exDoc (by decide) (by decide) (by decide) exDoc_numOK

/-- a typed document: a list, a multiset and a set inside an object -/
def exTyped : Json :=
  .obj [("l", .arr .list [.str "b", .str "a"]), ("m", .arr .mset [.null, .null]),
        ("s", .arr .set [.str "b", .str "a", .str "b"])]

example : ∃ s, jsonM NativeRT.exCodec exTyped = some s ∧
    parseJson NativeRT.exCodec s = some (rawNorm exTyped) :=
  jsonM_parse _ exTyped (by decide) (by decide) (by decide)

example : ∃ s, jsonM NativeRT.exCodec (.arr .mset [.arr .list [.null], .str "a"]) = some s ∧
    parseJson NativeRT.exCodec s = some (.arr .raw [.arr .raw [.null], .str "a"]) :=
  jsonM_untag _ _ (by decide) (by decide) (by decide) (by decide)

example : ∃ s, marshalNode NativeRT.exCodec (.arr .set [.void, .str "b", .arr .mset [.null]]) = some s ∧
    parseJson NativeRT.exCodec s = some (.arr .raw [.obj [], .str "b", .arr .raw [.null]]) :=
  marshalNode_parse _ _ (by decide)

example : ∃ s, marshalNode NativeRT.exCodec (.arr .set [.str "b", .arr .mset [.null]]) = some s ∧
    parseJson NativeRT.exCodec s = some (.arr .raw [.str "b", .arr .raw [.null]]) :=
  marshalNode_untag _ _ (by decide) (by decide) (by decide) (by decide)

/-- a strict list hunk with context and a replacement of an object member -/
def exPatchDiff : Diff :=
  [ { path := [.key "a", .idx 1], before := [.bool false], remove := [.str "x<", .arr .raw [.null]],
      add := [.num 4607182418800017408], after := [.void] },
    { path := [.key "b"], remove := [.obj [("k", .null)]], add := [.str "\n"] } ]

theorem exPatchDiff_vals : ∀ h ∈ exPatchDiff, HunkVals (DocOK NativeRT.exCodec) h := by
  intro h hh
  simp only [exPatchDiff, List.mem_cons, List.not_mem_nil, or_false] at hh
  rcases hh with rfl | rfl
  · refine ⟨?_, ?_, Or.inl ?_, Or.inl ?_⟩
    · intro v hv _; simp at hv; subst hv; exact ⟨by decide, by decide, by decide, by decide⟩
    · intro v hv hvoid; simp at hv; subst hv; simp [Json.isVoid] at hvoid
    · intro v hv; simp at hv
      rcases hv with rfl | rfl <;> exact ⟨by decide, by decide, by decide, by decide⟩
    · intro v hv; simp at hv; subst hv
      exact ⟨by decide, by decide, by decide, by simp [NumOK, numOK_one]⟩
  · refine ⟨?_, ?_, Or.inl ?_, Or.inl ?_⟩
    · intro v hv; simp at hv
    · intro v hv; simp at hv
    · intro v hv; simp at hv; subst hv; exact ⟨by decide, by decide, by decide, by decide⟩
    · intro v hv; simp at hv; subst hv; exact ⟨by decide, by decide, by decide, by decide⟩

theorem exPatchDiff_renders : (renderPatchOps exPatchDiff).isOk = true := by decide

example : ∃ ops text, renderPatchOps exPatchDiff = .ok ops ∧
    renderPatchM NativeRT.exCodec exPatchDiff = .ok (some text) ∧
    readPatchM NativeRT.exCodec text = readPatchOps ops := by
  have := readPatchM_renderPatchM_own NativeRT.exCodec exPatchDiff exPatchDiff_vals
  cases h : renderPatchOps exPatchDiff with
  | ok ops => rw [h] at this; obtain ⟨text, h1, h2⟩ := this; exact ⟨ops, text, rfl, h1, h2⟩
  | err => have := exPatchDiff_renders; rw [h] at this; cases this
  | panic => have := exPatchDiff_renders; rw [h] at this; cases this

def exMergeDiff : Diff :=
  [ { merge := true, path := [.key "a", .key "b"], add := [.arr .raw [.str "x<", .null]] } ]
def exMergeDoc : Json := .obj [("a", .obj [("b", .arr .raw [.str "x<", .null])])]

theorem exMerge_render : renderMergeDoc exMergeDiff = .ok exMergeDoc := by
  simp only [renderMergeDoc, exMergeDiff, exMergeDoc, patchAll, List.isEmpty_cons, List.any_cons,
    List.any_nil, List.map_cons, List.map_nil]
  rw [patchNode_merge_eq]
  simp [patchMg, patchFresh, Path.isLeaf, Json.singleValue, Json.isVoid]

example : ∃ s, renderMergeM NativeRT.exCodec exMergeDiff = .ok (some s) ∧
    readMergeM NativeRT.exCodec s = .ok (readMergeDoc exMergeDoc) := by
  have := readMergeM_renderMergeM_own NativeRT.exCodec exMergeDiff (fun n hn => by
    rw [exMerge_render] at hn; cases hn
    exact Or.inr ⟨by decide, by decide, by decide, by decide⟩)
  rw [exMerge_render] at this
  exact this

/-! ### remarks proved as witnesses (none of them a defect of the Go code) -/

/-- REMARK 1 (why `voidFree`): a void node inside a container is printed as `""` by `Json()` (the Go
    `raw()` of `voidNode` is the empty string) and comes back as the empty STRING -/
theorem void_inside_not_roundtripped (nc : NumCodec) :
    jsonM nc (.arr .raw [.void]) = some "[\"\"]" ∧ parseJson nc "[\"\"]" = some (.arr .raw [.str ""]) := by
  constructor
  · simp [jsonM, rawNorm, rawNormList, jsonText, jsonTextList]
  · have := parseJson_text' nc (.arr .raw [.str ""]) "[\"\"]" rfl rfl
      (by simp [jsonText, jsonTextList, quoteString, escapeBody])
    exact this

/-- REMARK 2 (the bound 10^15 of `numOK_int` is sharp for a codec without tokens): `fmtNum` prints
    integers of magnitude below 2^53 by itself, but the integer fallback of `parseNumToken` accepts at
    most 15 digits; 10^15 (binary64 0x430C6BF526340000, text `1000000000000000`) is printed and then
    read only through `nc.parse`. Go prints and reads it back (checked); in the harness the token is in
    the graph of `nc`. So `NumOK` is a genuine hypothesis for such values, not a theorem. -/
theorem numOK_1e15_emptyCodec : numOK NativeRT.exCodec 0x430C6BF526340000 = false := by
  decide +kernel

theorem intToFloatBits_1e15 : intToFloatBits 1000000000000000 = 0x430C6BF526340000 := by
  decide +kernel

#print axioms lexString_escapeChar
#print axioms lexString_quoted
#print axioms parseJson_quoteString
#print axioms lexNumber_append
#print axioms pv_text
#print axioms parseJson_text
#print axioms jsonM_parse_ws
#print axioms jsonM_parse
#print axioms jsonM_roundtrip
#print axioms jsonM_untag
#print axioms marshalNode_parse_ws
#print axioms marshalNode_untag
#print axioms valOK
#print axioms pathOK
#print axioms codecOK
#print axioms read_render_of_docs
#print axioms renderPatchM_eq
#print axioms readPatchM_renderPatchM
#print axioms readPatchM_renderPatchM_own
#print axioms readPatchM_renderPatchM_untag
#print axioms readMergeM_renderMergeM
#print axioms readMergeM_renderMergeM_own
#print axioms numOK_int
#print axioms numOK_negZero
#print axioms V1T.jsonM_parse
#print axioms V1T.marshalNode_parse
#print axioms V1T.readJsonM_marshalNode
#print axioms V1T.readPatchM_renderPatchM_own
#print axioms V1T.readMergeM_renderMergeM
#print axioms void_inside_not_roundtripped
#print axioms numOK_1e15_emptyCodec

end Jd.JText

namespace Jd.CliExit
open Jd

/-! ## what `ReadJsonString` returns: plain arrays, sorted unique keys, no void marker inside -/

structure Shape (v : Json) : Prop where
  raw  : v.rawDoc = true
  wf   : v.wf = true
  nv   : v.isVoid = false
  vf   : PRC.vfree v = true

structure ShapeL (xs : List Json) : Prop where
  raw  : rawDocList xs = true
  wf   : wfList xs = true
  vf   : PRC.vfreeList xs = true

structure ShapeK (kvs : List (String × Json)) : Prop where
  raw  : rawDocKvs kvs = true
  srt  : keysSorted kvs = true
  wf   : wfKvs kvs = true
  vf   : PRC.vfreeKvs kvs = true

theorem ShapeK.insert {kvs : List (String × Json)} (h : ShapeK kvs) (k : String) {v : Json}
    (hv : Shape v) : ShapeK (ainsert k v kvs) := by
  have ins {PK : List (String × Json) → Bool} {p : String × Json → Bool} (e : ∀ l, PK l = l.all p)
      (hp : p (k, v) = true) (hk : PK kvs = true) : PK (ainsert k v kvs) = true := by
    rw [e] at hk ⊢; exact all_ainsert hp hk
  exact ⟨ins rawDocKvs_eq_all hv.raw h.raw, keysSorted_ainsert k v h.srt, ins wfKvs_eq_all hv.wf h.wf,
    ins (listP_eq_all rfl fun _ _ => rfl) (by simp [hv.nv, hv.vf]) h.vf⟩

theorem shape_arr {xs : List Json} (h : ShapeL xs) : Shape (.arr .raw xs) :=
  ⟨by simp [Json.rawDoc, h.raw], by simp [Json.wf, h.wf], rfl, by simp [PRC.vfree, h.vf]⟩

theorem shape_obj {kvs : List (String × Json)} (h : ShapeK kvs) : Shape (.obj kvs) :=
  ⟨by simp [Json.rawDoc, h.raw], by simp [Json.wf, h.srt, h.wf], rfl, by simp [PRC.vfree, h.vf]⟩

theorem shapeL_cons {x : Json} {xs : List Json} (hx : Shape x) (h : ShapeL xs) : ShapeL (x :: xs) :=
  ⟨by simp [rawDocList, hx.raw, h.raw], by simp [wfList, hx.wf, h.wf],
    by simp [PRC.vfreeList, hx.nv, hx.vf, h.vf]⟩

theorem shapeK_nil : ShapeK [] := ⟨rfl, rfl, rfl, rfl⟩
theorem shapeL_nil : ShapeL [] := ⟨rfl, rfl, rfl⟩

theorem parse_shape (nc : NumCodec) : ∀ fuel : Nat,
    (∀ cs v r, parseValue nc fuel cs = some (v, r) → Shape v) ∧
    (∀ cs xs r, parseElems nc fuel cs = some (xs, r) → ShapeL xs) ∧
    (∀ cs acc kvs r, ShapeK acc → parseMembers nc fuel cs acc = some (kvs, r) → ShapeK kvs)
  | 0 => ⟨fun _ _ _ h => by simp [parseValue] at h, fun _ _ _ h => by simp [parseElems] at h,
      fun _ _ _ _ _ h => by simp [parseMembers] at h⟩
  | fuel + 1 => by
    obtain ⟨ihV, ihE, ihM⟩ := parse_shape nc fuel
    refine ⟨?_, ?_, ?_⟩
    · intro cs v r h
      simp only [parseValue] at h
      split at h
      · cases h; exact ⟨rfl, rfl, rfl, rfl⟩
      · cases h; exact ⟨rfl, rfl, rfl, rfl⟩
      · cases h; exact ⟨rfl, rfl, rfl, rfl⟩
      · simp only [Option.map_eq_some_iff] at h
        obtain ⟨⟨s, t⟩, _, h⟩ := h
        cases h; exact ⟨rfl, rfl, rfl, rfl⟩
      · split at h
        · cases h; exact shape_arr shapeL_nil
        · simp only [Option.map_eq_some_iff] at h
          obtain ⟨⟨xs, t⟩, hxs, h⟩ := h
          cases h; exact shape_arr (ihE _ _ _ hxs)
      · split at h
        · cases h; exact shape_obj shapeK_nil
        · simp only [Option.map_eq_some_iff] at h
          obtain ⟨⟨kvs, t⟩, hk, h⟩ := h
          cases h; exact shape_obj (ihM _ _ _ _ shapeK_nil hk)
      · split at h
        · split at h
          · simp only [Option.map_eq_some_iff] at h
            obtain ⟨bts, _, h⟩ := h
            cases h; exact ⟨rfl, rfl, rfl, rfl⟩
          · cases h
        · cases h
      · cases h
    · intro cs xs r h
      simp only [parseElems] at h
      split at h
      · cases h
      · rename_i v r' hv
        split at h
        · simp only [Option.map_eq_some_iff] at h
          obtain ⟨⟨ys, u⟩, hys, h⟩ := h
          cases h; exact shapeL_cons (ihV _ _ _ hv) (ihE _ _ _ hys)
        · cases h; exact shapeL_cons (ihV _ _ _ hv) shapeL_nil
        · cases h
    · intro cs acc kvs r hacc h
      simp only [parseMembers] at h
      split at h
      · split at h
        · cases h
        · split at h
          · split at h
            · cases h
            · rename_i v r3 hv
              split at h
              · exact ihM _ _ _ _ (hacc.insert _ (ihV _ _ _ hv)) h
              · cases h; exact hacc.insert _ (ihV _ _ _ hv)
              · cases h
          · cases h
      · cases h

/-- **what `ReadJsonString` returns** (any codec): every array a plain `jsonArray`, object keys
    unique and sorted, no void marker inside (the root is void for blank text) -/
theorem readJsonM_shape {nc : NumCodec} {s : String} {v : Json} (h : readJsonM nc s = .ok v) :
    v.rawDoc = true ∧ v.listDoc = true ∧ v.wf = true ∧ PRC.vfree v = true := by
  unfold readJsonM at h
  split at h
  · cases h; exact ⟨rfl, rfl, rfl, rfl⟩
  · split at h
    · rename_i v' hp
      cases h
      unfold parseJson at hp
      simp only at hp
      split at hp
      · rename_i v0 r hv
        split at hp
        · cases hp
          have := (parse_shape nc _).1 _ _ _ hv
          exact ⟨this.raw, rawDoc_listDoc _ this.raw, this.wf, this.vf⟩
        · cases hp
      · cases hp
    · cases h

end Jd.CliExit

namespace Jd.NativeRT
open Jd Jd.Spec

open JText in
/-- the codec contract is satisfiable: it holds for the example, as an instance of `JText.codecOK` -/
theorem exDiff_codecOK : CodecOK exCodec exDiff := by
  have h1 : intToFloatBits 1 = 4607182418800017408 := by decide
  apply codecOK
  · intro h hh
    simp only [exDiff, List.mem_cons, List.not_mem_nil, or_false] at hh
    rcases hh with rfl | rfl
    · refine ⟨by decide, by decide, ?_, by decide⟩
      simp [pathToJson, NumOK, NumOKList, h1, numOK_one]
    · exact ⟨by decide, by decide, by decide, by decide⟩
  · intro h hh v hv
    simp only [exDiff, List.mem_cons, List.not_mem_nil, or_false] at hh
    rcases hh with rfl | rfl
    · simp [payloads, Json.isVoid] at hv
      rcases hv with rfl | rfl | rfl | rfl <;> exact ⟨by decide, by decide, by decide, by decide⟩
    · simp [payloads, Json.isVoid] at hv

example : NativeRT.CodecOK NativeRT.exCodec NativeRT.exDiff := exDiff_codecOK

/-- the main theorem instantiated -/
example (text : String) (h : renderM exCodec [] exDiff = some text) :
    readDiffM exCodec text = .ok (normDiff exDiff) :=
  read_render exCodec exDiff text (by decide) exDiff_codecOK h

end Jd.NativeRT

#print axioms Jd.NativeRT.exDiff_codecOK
#print axioms Jd.CliExit.parse_shape
#print axioms Jd.CliExit.readJsonM_shape
