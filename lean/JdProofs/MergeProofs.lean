/-
  JdProofs.MergeProofs — the merge-strategy diff as a pure function, the in-memory induction of C01
  under the MERGE strategy, and property C11 (the rendered JSON Merge Patch, RFC 7386), namespace
  `Jd.Merge`. Merge hunks, RFC 7386 `MergePatch` member by member and C12 are in
  JdProofs.MergeHunks.

  C11: for a null-free `b` that `Equals` tells apart from `a`, the rendered merge patch applied by
  RFC 7386 yields `b` (`merge_render_correct`: MERGE alone, read off `merge_render_list`, which
  takes what is known of the pair and so serves any precision; JdProps/C11 reads off it the form
  without `a ≠ b` when `a` is an object, and that the rendered document is never void or `null`).

  The library's merge diff is a pure function on documents (`dl`; `MSet.ds` in the set readings;
  `diffNode_eq_of`); `PDiff T` says what all of them are, whatever the options (`T`: the tag a
  re-typed array gets; `PDiff.dk`, `PDiff.obj_groups`: the entries of two objects are one group per
  key, the one induction over the member loop; `PDiff.vals`: the values are void or parts of `b`; `PDiffC`: with what
  decides at the pairs that are not two objects, so that these are analysed once: `PDiffC.ext`,
  `DPK.memSound_relC`). For any `PDiff`:
  `doc_obj_obj` / `apply_obj_obj` (the rendered document and the patched first object, member by
  member, from `obj_groups` and `mapply_flatG`) and `mergePatch_doc`: RFC 7386 with the rendered document gives the
  very document the entries give in memory, and that document is clean for `a`. So C11 of a
  reading is its C01 in memory
  (`DPK.MemSound`, by the one induction `DPK.memSound_rel` / `memSound_relC`, stated for any
  relation that objects inherit from their members; list reading with any non-negative precision: `memSound_list`) read
  through an equality: `soundD_of_mem`, `sound_list`. The walks over a pair of documents are
  instances of `Jd.pairInd` (JdProofs.Doc).
-/
import JdProofs.MergeHunks
import JdProofs.ListScript

variable {T T' : Jd.Tag} {cA cA' : List Jd.Json → List Jd.Json → Bool}
  {cS cS' : Jd.Json → Jd.Json → Bool}

namespace Jd.Merge
open Jd Jd.Spec

/-! ### 1. the merge-strategy diff, purely (list reading of arrays); what every pure merge diff is -/

mutual
/-- `diffNode o true a b p` on documents as read from text, in list mode: relative key paths and
    bare values (`void` = delete) -/
def dl (o : Opts) : Json → Json → List (List String × Json)
  | .obj kvs, b =>
    match b with
    | .obj kvs' =>
      dlKvs o kvs' kvs ++
        (kvs'.filter (fun kv => (alookup kv.1 kvs).isNone)).map (fun kv => ([kv.1], kv.2))
    | _ => [([], b)]
  | .arr _ xs, b =>
    match b with
    | .arr _ ys => if equals o (.arr .list xs) (.arr .list ys) then [] else [([], .arr .list ys)]
    | _ => [([], b)]
  | a, b => if equals [] a b then [] else [([], b)]
def dlKvs (o : Opts) (kvs' : List (String × Json)) :
    List (String × Json) → List (List String × Json)
  | [] => []
  | (k, v) :: r =>
    (match alookup k kvs' with
     | some v' => (dl o v v').map (consE k)
     | none => [([k], .void)]) ++ dlKvs o kvs' r
end

theorem nodeList_of_objVoidFree {v : Json} (h : objVoidFree v = true) : v.nodeList = [v] := by
  cases v <;> simp_all [Json.nodeList, Json.isVoid, objVoidFree]

theorem additions_eq (q : List String) (kvs : List (String × Json)) :
    ∀ (kvs' : List (String × Json)), objVoidFreeKvs kvs' = true →
      (kvs'.filter (fun kv => (alookup kv.1 kvs).isNone)).map (fun kv =>
          ({ merge := true, path := q.map .key ++ [.key kv.1], add := kv.2.nodeList } : Hunk))
        = ((kvs'.filter (fun kv => (alookup kv.1 kvs).isNone)).map
            (fun kv => ([kv.1], kv.2))).map (fun e => mh (q ++ e.1) e.2)
  | [], _ => rfl
  | (k, v) :: r, h => by
    simp only [objVoidFreeKvs, Bool.and_eq_true] at h
    have ih := additions_eq q kvs r h.2
    simp only [List.filter_cons]
    split
    · simp only [List.map_cons, ih, nodeList_of_objVoidFree h.1]
      simp [mh]
    · exact ih

def isArr : Json → Bool
  | .arr _ _ => true
  | _ => false

theorem dl_obj_obj (o : Opts) (kvs kvs' : List (String × Json)) :
    dl o (.obj kvs) (.obj kvs') = dlKvs o kvs' kvs ++
      (kvs'.filter (fun kv => (alookup kv.1 kvs).isNone)).map (fun kv => ([kv.1], kv.2)) := by
  simp [dl]

theorem dl_obj_other (o : Opts) (kvs : List (String × Json)) {b : Json} (hb : b.isObj = false) :
    dl o (.obj kvs) b = [([], b)] := by
  cases b <;> simp_all [dl, Json.isObj]

theorem dl_arr_arr (o : Opts) (t t' : Tag) (xs ys : List Json) :
    dl o (.arr t xs) (.arr t' ys)
      = if equals o (.arr .list xs) (.arr .list ys) then [] else [([], .arr .list ys)] := by
  simp [dl]

theorem dl_arr_other (o : Opts) (t : Tag) (xs : List Json) {b : Json} (hb : isArr b = false) :
    dl o (.arr t xs) b = [([], b)] := by
  cases b <;> simp_all [dl, isArr]

theorem dl_scalar (o : Opts) {a : Json} (h1 : a.isObj = false) (h2 : isArr a = false) (b : Json) :
    dl o a b = if equals [] a b then [] else [([], b)] := by
  cases a <;> simp_all [dl, Json.isObj, isArr]

theorem diffNode_scalar (o : Opts) {a : Json} (h1 : a.isObj = false) (h2 : isArr a = false)
    (b : Json) (p : Path) : diffNode o true a b p = diffCommon true a b p :=
  DE.diffNode_scalar o true a b (fun _ _ e => by subst e; cases h2) (fun _ e => by subst e; cases h1) p

theorem dlKvs_cons (o : Opts) (kvs' : List (String × Json)) (k : String) (v : Json)
    (r : List (String × Json)) :
    dlKvs o kvs' ((k, v) :: r) =
      (match alookup k kvs' with
       | some v' => (dl o v v').map (consE k)
       | none => [([k], .void)]) ++ dlKvs o kvs' r := by
  rw [dlKvs]

/-- an object against anything else, MERGE strategy: one hunk that puts the second value -/
theorem diffNode_merge_obj_other (o : Opts) (kvs : List (String × Json)) {b : Json}
    (hb : b.isObj = false) (p : Path) :
    diffNode o true (.obj kvs) b p = [{ merge := true, path := p, add := [b] }] :=
  (DE.diffNode_obj_other_m o true kvs b (fun _ e => by subst e; cases hb) p).trans (if_pos rfl)

/-! ### the member loop of a pure merge diff: one group of entries per key of the first object -/

/-- the entries for a key of the first object: `R` of the two members, one entry with `z` (delete)
    where the second object has no such key -/
def grpD (z : Json) (R : Json → Json → List (List String × Json)) (kvs' : List (String × Json))
    (k : String) (v : Json) : List (List String × Json) :=
  match alookup k kvs' with
  | some v' => R v v'
  | none => [([], z)]

def groupsD (z : Json) (R : Json → Json → List (List String × Json))
    (kvs' kvs : List (String × Json)) : List (String × List (List String × Json)) :=
  kvs.map (fun kv => (kv.1, grpD z R kvs' kv.1 kv.2))

/-- **the member loop is one group per key**: the companion `DK` of `D` on member lists (built from
    `D` like `dlKvs` from `dl`) is the groups `grpD` of the keys of the first object, each below its
    key. The one induction over the two equations of `DK`; what is said of `DK` is read off it. -/
theorem dk_eq_groups {D : Json → Json → List (List String × Json)}
    {DK : List (String × Json) → List (String × Json) → List (List String × Json)}
    {kvs' : List (String × Json)} (hnil : DK kvs' [] = [])
    (hcons : ∀ k v r, DK kvs' ((k, v) :: r) =
      (match alookup k kvs' with
       | some v' => (D v v').map (consE k)
       | none => [([k], .void)]) ++ DK kvs' r) :
    ∀ kvs : List (String × Json), DK kvs' kvs = flatG (groupsD .void D kvs' kvs)
  | [] => hnil
  | (k, v) :: r => by
    rw [hcons, dk_eq_groups hnil hcons r]
    simp only [flatG, groupsD, List.map_cons, List.flatMap_cons]
    congr 1
    unfold grpD
    cases alookup k kvs' <;> rfl

/-- where the entries of the groups come from -/
theorem mem_groupsD {z : Json} {R : Json → Json → List (List String × Json)}
    {kvs' kvs : List (String × Json)} {e : List String × Json} :
    e ∈ flatG (groupsD z R kvs' kvs) ↔ ∃ k v, (k, v) ∈ kvs ∧
      ((∃ v' e', alookup k kvs' = some v' ∧ e' ∈ R v v' ∧ e = consE k e') ∨
        (alookup k kvs' = none ∧ e = ([k], z))) := by
  simp only [flatG, groupsD, List.flatMap_map, List.mem_flatMap, List.mem_map, Prod.exists]
  refine exists_congr fun k => exists_congr fun v => and_congr_right fun _ => ?_
  unfold grpD
  cases alookup k kvs' with
  | none =>
    simp only [reduceCtorEq, false_and, exists_false, false_or, true_and, List.mem_singleton]
    exact ⟨fun ⟨_, _, h, he⟩ => by rw [← he, h]; rfl, fun he => ⟨_, _, rfl, he.symm⟩⟩
  | some v' => simp [eq_comm]

/-- the groups depend on `R` only at the members two objects hold under one key -/
theorem groupsD_congr {z : Json} {R R' : Json → Json → List (List String × Json)}
    {kvs' kvs : List (String × Json)}
    (h : ∀ k v v', (k, v) ∈ kvs → alookup k kvs' = some v' → R v v' = R' v v') :
    groupsD z R kvs' kvs = groupsD z R' kvs' kvs :=
  List.map_congr_left fun kv hkv => by
    unfold grpD
    cases hl : alookup kv.1 kvs' with
    | none => rfl
    | some v' => simp only [h kv.1 kv.2 v' hkv hl]

/-- a map `f` that acts below the keys maps the groups member by member -/
theorem map_flatG_groupsD {D : Json → Json → List (List String × Json)}
    {kvs' : List (String × Json)} (f : List String × Json → List String × Json) (z : Json)
    (hf : ∀ k e, f (consE k e) = consE k (f e)) (hz : ∀ k, f ([k], .void) = ([k], z))
    (kvs : List (String × Json)) :
    (flatG (groupsD .void D kvs' kvs)).map f
      = flatG (groupsD z (fun v v' => (D v v').map f) kvs' kvs) := by
  simp only [flatG, groupsD, List.flatMap_map, List.map_flatMap]
  refine flatMap_congr_left fun kv _ => ?_
  unfold grpD
  cases alookup kv.1 kvs' with
  | none => simp [hz, consE]
  | some v' => simp only [List.map_map]; exact List.map_congr_left fun e _ => hf kv.1 e

/-- the merge diff of the members of the first object is the pure one (`DK`, built from `D` like
    `dlKvs` from `dl`) when the merge diff of every common member is `D` of it -/
theorem diffKvs_eq_of_members (o : Opts) (D : Json → Json → List (List String × Json))
    (DK : List (String × Json) → List (String × Json) → List (List String × Json))
    (kvs' : List (String × Json)) (hnil : DK kvs' [] = [])
    (hcons : ∀ k v r, DK kvs' ((k, v) :: r) =
      (match alookup k kvs' with
       | some v' => (D v v').map (consE k)
       | none => [([k], .void)]) ++ DK kvs' r)
    (q : List String) :
    ∀ kvs : List (String × Json),
      (∀ k v v', (k, v) ∈ kvs → alookup k kvs' = some v' →
        diffNode o true v v' ((q ++ [k]).map .key)
          = (D v v').map (fun e => mh (q ++ [k] ++ e.1) e.2)) →
      diffKvs o true (q.map .key) kvs' kvs = (DK kvs' kvs).map (fun e => mh (q ++ e.1) e.2) :=
  fun kvs H => by
    rw [DE.diffKvs_eq_flatMap, dk_eq_groups hnil hcons, flatG, groupsD, List.flatMap_map,
      List.map_flatMap]
    refine flatMap_congr_left fun kv hkv => ?_
    unfold DE.keyDiff grpD
    cases hl : alookup kv.1 kvs' with
    | none => simp [mh, consE]
    | some v' =>
      have := H kv.1 kv.2 v' hkv hl
      simp only [List.map_append, List.map_cons, List.map_nil] at this
      simp only [this, List.map_map]
      exact List.map_congr_left fun e _ => by simp [consE]

/-- what the pure merge diffs of all readings (`dl o`, `MSet.ds o`, the v1 ones) have in common,
    whatever the options: two objects are walked member by member (`DK` is the companion of `D` on
    member lists); any other pair yields nothing, or ONE entry at the root holding the second value,
    an array possibly re-typed to the tag `T` of the reading -/
structure PDiff (T : Tag) (D : Json → Json → List (List String × Json))
    (DK : List (String × Json) → List (String × Json) → List (List String × Json)) : Prop where
  obj_obj : ∀ kvs kvs', D (.obj kvs) (.obj kvs') = DK kvs' kvs ++
    (kvs'.filter (fun kv => (alookup kv.1 kvs).isNone)).map (fun kv => ([kv.1], kv.2))
  nil : ∀ kvs', DK kvs' [] = []
  cons : ∀ kvs' k v r, DK kvs' ((k, v) :: r) =
      (match alookup k kvs' with
       | some v' => (D v v').map (consE k)
       | none => [([k], .void)]) ++ DK kvs' r
  leaf : ∀ a b, (a.isObj && b.isObj) = false →
    D a b = [] ∨ D a b = [([], b)] ∨ ∃ t xs, b = .arr t xs ∧ D a b = [([], .arr T xs)]

/-- the `leaf` field from the four equations a pure merge diff has outside the object–object case -/
theorem PDiff.leaf_of {D : Json → Json → List (List String × Json)}
    (objOther : ∀ kvs b, b.isObj = false → D (.obj kvs) b = [([], b)])
    (arrArr : ∀ t t' xs ys, ∃ c : Bool,
      D (.arr t xs) (.arr t' ys) = if c then [] else [([], .arr T ys)])
    (arrOther : ∀ t xs b, isArr b = false → D (.arr t xs) b = [([], b)])
    (scalar : ∀ a, a.isObj = false → isArr a = false → ∀ b, ∃ c : Bool,
      D a b = if c then [] else [([], b)])
    (a b : Json) (hn : (a.isObj && b.isObj) = false) :
    D a b = [] ∨ D a b = [([], b)] ∨ ∃ t xs, b = .arr t xs ∧ D a b = [([], .arr T xs)] := by
  have two : ∀ {c : Bool} {x : Json}, D a b = (if c then [] else [([], x)]) →
      D a b = [] ∨ D a b = [([], x)] := fun {c} _ h => by cases c <;> simp_all
  have sc : a.isObj = false → isArr a = false → D a b = [] ∨ D a b = [([], b)] := fun h1 h2 => by
    obtain ⟨c, hc⟩ := scalar a h1 h2 b
    exact two hc
  cases a with
  | obj kvs => exact .inr (.inl (objOther kvs b (by simpa [Json.isObj] using hn)))
  | arr t xs =>
    cases b with
    | arr t' ys =>
      obtain ⟨c, hc⟩ := arrArr t t' xs ys
      exact (two hc).imp_right fun h => .inr ⟨_, _, rfl, h⟩
    | _ => exact .inr (.inl (arrOther t xs _ rfl))
  | _ => exact (sc rfl rfl).imp_right .inl

/-- the leaf in membership form: the one entry, if any, is at the root and holds the second value,
    an array re-typed to `T` -/
theorem PDiff.leaf_mem {D : Json → Json → List (List String × Json)}
    {DK : List (String × Json) → List (String × Json) → List (List String × Json)}
    (P : PDiff T D DK) (a b : Json) (hn : (a.isObj && b.isObj) = false) (e : List String × Json)
    (he : e ∈ D a b) : e.1 = [] ∧ (e.2 = b ∨ ∃ t ys, b = .arr t ys ∧ e.2 = .arr T ys) := by
  rcases P.leaf a b hn with h | h | ⟨t, xs, rfl, h⟩ <;> rw [h] at he
  · cases he
  · rw [List.mem_singleton.1 he]; exact ⟨rfl, .inl rfl⟩
  · rw [List.mem_singleton.1 he]; exact ⟨rfl, .inr ⟨t, xs, rfl, rfl⟩⟩

/-- a pure merge diff with what decides at the pairs that are not two objects: two arrays are kept
    when `cA` holds of their members and else replaced by the second, re-typed to `T`; a scalar is
    kept when `cS` holds; everything else is replaced by the second value -/
structure PDiffC (cA : List Json → List Json → Bool) (cS : Json → Json → Bool) (T : Tag)
    (D : Json → Json → List (List String × Json))
    (DK : List (String × Json) → List (String × Json) → List (List String × Json)) : Prop where
  obj_obj : ∀ kvs kvs', D (.obj kvs) (.obj kvs') = DK kvs' kvs ++
    (kvs'.filter (fun kv => (alookup kv.1 kvs).isNone)).map (fun kv => ([kv.1], kv.2))
  nil : ∀ kvs', DK kvs' [] = []
  cons : ∀ kvs' k v r, DK kvs' ((k, v) :: r) =
      (match alookup k kvs' with
       | some v' => (D v v').map (consE k)
       | none => [([k], .void)]) ++ DK kvs' r
  objOther : ∀ kvs {b}, b.isObj = false → D (.obj kvs) b = [([], b)]
  arrArr : ∀ t t' xs ys, D (.arr t xs) (.arr t' ys) = if cA xs ys then [] else [([], .arr T ys)]
  arrOther : ∀ t xs {b}, isArr b = false → D (.arr t xs) b = [([], b)]
  scalar : ∀ {a}, a.isObj = false → isArr a = false → ∀ b,
    D a b = if cS a b then [] else [([], b)]

theorem PDiffC.toPDiff {D : Json → Json → List (List String × Json)}
    {DK : List (String × Json) → List (String × Json) → List (List String × Json)}
    (P : PDiffC cA cS T D DK) : PDiff T D DK :=
  ⟨P.obj_obj, P.nil, P.cons, PDiff.leaf_of (fun kvs _ => P.objOther kvs)
    (fun t t' xs ys => ⟨_, P.arrArr t t' xs ys⟩) (fun t xs _ => P.arrOther t xs)
    (fun _ h1 h2 b => ⟨_, P.scalar h1 h2 b⟩)⟩

theorem pDiffC_dl (o : Opts) :
    PDiffC (fun xs ys => equals o (.arr .list xs) (.arr .list ys)) (equals []) .list (dl o)
      (dlKvs o) :=
  ⟨dl_obj_obj o, fun _ => by rw [dlKvs], dlKvs_cons o, dl_obj_other o, dl_arr_arr o,
    dl_arr_other o, dl_scalar o⟩

theorem pDiff_dl (o : Opts) : PDiff .list (dl o) (dlKvs o) := (pDiffC_dl o).toPDiff

/-- the member loop of a pure merge diff, as groups -/
theorem PDiff.dk {D : Json → Json → List (List String × Json)}
    {DK : List (String × Json) → List (String × Json) → List (List String × Json)}
    (P : PDiff T D DK) (kvs' kvs : List (String × Json)) :
    DK kvs' kvs = flatG (groupsD .void D kvs' kvs) :=
  dk_eq_groups (P.nil kvs') (P.cons kvs') kvs

/-- two pure merge diffs agree on the member lists of two objects when they agree on the members -/
theorem PDiff.extK {D D' : Json → Json → List (List String × Json)}
    {DK DK' : List (String × Json) → List (String × Json) → List (List String × Json)}
    (P : PDiff T D DK) (P' : PDiff T' D' DK') {kvs' : List (String × Json)}
    (r : List (String × Json))
    (h : ∀ k v v', (k, v) ∈ r → alookup k kvs' = some v' → D v v' = D' v v') :
    DK kvs' r = DK' kvs' r := by
  rw [P.dk, P'.dk, groupsD_congr h]

/-- … and everywhere when they agree at the pairs that are not two objects; `Q` is what is known of a
    pair met on the way down through the keys present on both sides -/
theorem PDiff.ext {D D' : Json → Json → List (List String × Json)}
    {DK DK' : List (String × Json) → List (String × Json) → List (List String × Json)}
    (P : PDiff T D DK) (P' : PDiff T' D' DK') (Q : Json → Json → Prop)
    (hval : ∀ {kvs kvs' k v v'}, Q (.obj kvs) (.obj kvs') → (k, v) ∈ kvs →
      alookup k kvs' = some v' → Q v v')
    (hleaf : ∀ a b, Q a b → (a.isObj && b.isObj) = false → D a b = D' a b) :
    ∀ a b, Q a b → D a b = D' a b :=
  pairInd hval hleaf fun kvs kvs' _ ih => by rw [P.obj_obj, P'.obj_obj, P.extK P' kvs ih]

/-- two pure merge diffs with the same tag agree where their deciders do -/
theorem PDiffC.ext {D D' : Json → Json → List (List String × Json)}
    {DK DK' : List (String × Json) → List (String × Json) → List (List String × Json)}
    (P : PDiffC cA cS T D DK) (P' : PDiffC cA' cS' T D' DK') (Q : Json → Json → Prop)
    (hval : ∀ {kvs kvs' k v v'}, Q (.obj kvs) (.obj kvs') → (k, v) ∈ kvs →
      alookup k kvs' = some v' → Q v v')
    (hA : ∀ {t xs t' ys}, Q (.arr t xs) (.arr t' ys) → cA xs ys = cA' xs ys)
    (hS : ∀ {a b}, a.isObj = false → isArr a = false → Q a b → cS a b = cS' a b) :
    ∀ a b, Q a b → D a b = D' a b :=
  PDiff.ext P.toPDiff P'.toPDiff Q hval fun a b hQ hn => by
    cases a with
    | obj kvs =>
      have hb : b.isObj = false := by simpa [Json.isObj] using hn
      rw [P.objOther kvs hb, P'.objOther kvs hb]
    | arr t xs =>
      cases b with
      | arr t' ys => rw [P.arrArr, P'.arrArr, hA hQ]
      | _ => rw [P.arrOther t xs rfl, P'.arrOther t xs rfl]
    | _ => rw [P.scalar rfl rfl, P'.scalar rfl rfl, hS rfl rfl hQ]

/-- reading back forgets the Go type of the array a wholesale entry carries: the entries with their
    values untagged are those of the pure diff with plain arrays -/
theorem PDiffC.map_untag {D D' : Json → Json → List (List String × Json)}
    {DK DK' : List (String × Json) → List (String × Json) → List (List String × Json)}
    (P : PDiffC cA cS T D DK) (P' : PDiffC cA cS .raw D' DK') :
    ∀ a b, b.rawDoc = true → (D a b).map untagE = D' a b := by
  have single : ∀ {b : Json}, b.rawDoc = true →
      [(([] : List String), b)].map untagE = [([], b)] := fun hb => by
    simp [untagE, Robust.untag_rawDoc _ hb]
  have mapK : ∀ {kvs'} (r : List (String × Json)),
      (∀ k v v', (k, v) ∈ r → alookup k kvs' = some v' → (D v v').map untagE = D' v v') →
      (DK kvs' r).map untagE = DK' kvs' r := fun r h => by
    rw [P.toPDiff.dk, P'.toPDiff.dk,
      map_flatG_groupsD untagE .void (fun _ _ => rfl) (fun _ => rfl), groupsD_congr h]
  refine pairInd (Q := fun _ b => b.rawDoc = true) (fun h _ hl => alookup_rawDoc hl h) ?_ ?_
  · intro a b hb hn
    cases a with
    | obj kvs =>
      have h : b.isObj = false := by simpa [Json.isObj] using hn
      rw [P.objOther kvs h, P'.objOther kvs h, single hb]
    | arr t xs =>
      cases b with
      | arr t' ys =>
        rw [P.arrArr, P'.arrArr]
        simp only [Json.rawDoc, Bool.and_eq_true] at hb
        split
        · rfl
        · simp [untagE, untag, Robust.untagList_rawDoc ys hb.2]
      | _ => rw [P.arrOther t xs rfl, P'.arrOther t xs rfl, single hb]
    | _ => rw [P.scalar rfl rfl, P'.scalar rfl rfl]; split <;> simp [single hb]
  · intro kvs kvs' hb ih
    rw [P.obj_obj, P'.obj_obj, List.map_append, mapK kvs ih, List.map_map]
    exact congrArg _ (List.map_congr_left fun kv hkv => by
      simp [untagE, Robust.untag_rawDoc _ (DES.rawDocKvs_mem hb (List.mem_filter.1 hkv).1)])

section vals
variable {D : Json → Json → List (List String × Json)}
  {DK : List (String × Json) → List (String × Json) → List (List String × Json)}
  {Pv : Json → Prop}

/-- member lists: the values are void or `Pv` when those of the members' diffs are -/
theorem PDiff.valsK (P : PDiff T D DK) {kvs' : List (String × Json)} (r : List (String × Json))
    (H : ∀ k v v', (k, v) ∈ r → alookup k kvs' = some v' →
      ∀ e ∈ D v v', e.2.isVoid = true ∨ Pv e.2) :
    ∀ e ∈ DK kvs' r, e.2.isVoid = true ∨ Pv e.2 := fun e he => by
  rw [P.dk] at he
  obtain ⟨k, v, hm, ⟨v', e', hl, he', rfl⟩ | ⟨_, rfl⟩⟩ := mem_groupsD.1 he
  · exact H k v v' hm hl e' he'
  · exact .inl rfl

/-- **the values of a pure merge diff** are void (a deletion) or have every property of `b` that
    object members inherit and that does not see the re-typing of an array to `T` -/
theorem PDiff.vals (P : PDiff T D DK)
    (member : ∀ {kvs : List (String × Json)} {k : String} {v : Json},
      Pv (.obj kvs) → (k, v) ∈ kvs → Pv v)
    (retag : ∀ {t : Tag} {ys : List Json}, Pv (.arr t ys) → Pv (.arr T ys)) :
    ∀ a b, Pv b → ∀ e ∈ D a b, e.2.isVoid = true ∨ Pv e.2 := fun a b hb =>
  pairInd (Q := fun _ b => Pv b) (motive := fun a b => ∀ e ∈ D a b, e.2.isVoid = true ∨ Pv e.2)
    (fun h _ hl => member h (mem_of_alookup hl))
    (fun a b hb hn e he => by
      obtain ⟨_, h | ⟨t, ys, rfl, h⟩⟩ := P.leaf_mem a b hn e he <;> rw [h]
      · exact .inr hb
      · exact .inr (retag hb))
    (fun kvs kvs' hb ih e he => by
      rw [P.obj_obj] at he
      rcases List.mem_append.1 he with he | he
      · exact P.valsK kvs ih e he
      · obtain ⟨kv, hkv, rfl⟩ := List.mem_map.1 he
        exact .inr (member hb (List.mem_filter.1 hkv).1))
    a b hb

end vals

/-- the library's merge diff is `D`, hunk by hunk, as soon as it is at the pairs that are not two
    objects (`hleaf`); `Q` is what is known of a pair met on the way down through the keys present on
    both sides -/
theorem diffNode_eq_of {D : Json → Json → List (List String × Json)}
    {DK : List (String × Json) → List (String × Json) → List (List String × Json)}
    (P : PDiff T D DK) {o : Opts} (Q : Json → Json → Prop)
    (hval : ∀ {kvs kvs' k v v'}, Q (.obj kvs) (.obj kvs') → (k, v) ∈ kvs →
      alookup k kvs' = some v' → Q v v')
    (hleaf : ∀ a b, Q a b → (a.isObj && b.isObj) = false → ∀ q : List String,
      diffNode o true a b (q.map .key) = (D a b).map (fun e => mh (q ++ e.1) e.2)) :
    ∀ a b, Q a b → objVoidFree b = true → ∀ q : List String,
      diffNode o true a b (q.map .key) = (D a b).map (fun e => mh (q ++ e.1) e.2) :=
  pairInd hval (fun a b hQ hn _ => hleaf a b hQ hn) fun kvs kvs' _ ih hv q => by
    simp only [objVoidFree] at hv
    rw [DE.diffNode_obj_obj]
    simp only [P.obj_obj, List.map_append]
    rw [additions_eq q kvs kvs' hv,
      diffKvs_eq_of_members o D DK kvs' (P.nil kvs') (P.cons kvs') q kvs
        (fun k v v' hm hl => ih k v v' hm hl (alookup_objVoidFree hl hv) (q ++ [k]))]

theorem diffNode_eq_dl (o : Opts) (ho : dispatchTag o = .list) :
    ∀ (a b : Json) (q : List String), a.rawDoc = true → b.rawDoc = true → objVoidFree b = true →
      diffNode o true a b (q.map .key) = (dl o a b).map (fun e => mh (q ++ e.1) e.2) := by
  have scalar : ∀ {a : Json}, a.isObj = false → isArr a = false → ∀ (b : Json) (q : List String),
      diffNode o true a b (q.map .key) = (dl o a b).map (fun e => mh (q ++ e.1) e.2) := by
    intro a h1 h2 b q
    rw [diffNode_scalar o h1 h2, dl_scalar o h1 h2, diffCommon]
    split <;> simp [mh]
  intro a b q ha hb hv
  refine diffNode_eq_of (pDiff_dl o) (fun a b => a.rawDoc = true ∧ b.rawDoc = true)
    (fun h hm hl => ⟨DES.rawDocKvs_mem h.1 hm, alookup_rawDoc hl h.2⟩) ?_ a b ⟨ha, hb⟩ hv q
  intro a b ⟨ha, hb⟩ hn q
  cases a with
  | obj kvs =>
    have hb' : b.isObj = false := by simpa [Json.isObj] using hn
    rw [dl_obj_other o kvs hb', diffNode_merge_obj_other o kvs hb']; simp [mh]
  | arr t xs =>
    simp only [Json.rawDoc, Bool.and_eq_true, beq_iff_eq] at ha
    obtain ⟨rfl, _⟩ := ha
    cases b with
    | arr t' ys =>
      simp only [Json.rawDoc, Bool.and_eq_true, beq_iff_eq] at hb
      obtain ⟨rfl, _⟩ := hb
      rw [DE.diffNode_arr_arr ho xs ys rfl rfl (.inl rfl), dl_arr_arr]
      cases equals o (.arr .list xs) (.arr .list ys) <;> simp [mh, Json.nodeList, Json.isVoid]
    | _ =>
      rw [DE.diffNode_arr_other ho xs _ rfl (.inl fun _ _ e => by cases e), dl_arr_other o _ xs rfl]
      simp [mh]
  | _ => exact scalar rfl rfl b q

theorem diffKvs_eq_dlKvs (o : Opts) (ho : dispatchTag o = .list) (kvs' : List (String × Json))
    (hb : rawDocKvs kvs' = true) (hv : objVoidFreeKvs kvs' = true) :
    ∀ (kvs : List (String × Json)) (q : List String), rawDocKvs kvs = true →
      diffKvs o true (q.map .key) kvs' kvs = (dlKvs o kvs' kvs).map (fun e => mh (q ++ e.1) e.2) :=
  fun kvs q ha =>
    diffKvs_eq_of_members o (dl o) (dlKvs o) kvs' (by simp [dlKvs]) (dlKvs_cons o kvs') q kvs
      (fun k v v' hm hl => diffNode_eq_dl o ho v v' (q ++ [k]) (DES.rawDocKvs_mem ha hm)
        (alookup_rawDoc hl hb) (alookup_objVoidFree hl hv))

/-! ### 2. rendering the merge diff -/

/-- `void` (delete) is rendered as `null` -/
def nulE (e : List String × Json) : List String × Json := (e.1, if e.2.isVoid then .null else e.2)

theorem nulE_notVoid (e : List String × Json) : (nulE e).2.isVoid = false := by
  unfold nulE
  cases h : e.2.isVoid with
  | true => rfl
  | false => simpa using h

/-- the hunks of the merge diff as `RenderMerge` applies them -/
def rl (o : Opts) (a b : Json) : List (List String × Json) := (dl o a b).map nulE

/-- `RenderMerge` of a list of merge hunks with key paths: `void` becomes `null`, then the hunks are
    applied to nothing -/
theorem renderMergeDoc_hunks (l : List (List String × Json)) :
    renderMergeDoc (l.map (fun e => mh e.1 e.2))
      = .ok (if l = [] then .obj [] else mapply (l.map nulE) .void) := by
  unfold renderMergeDoc
  cases l with
  | nil => simp
  | cons e l =>
    have h1 : ((e :: l).map (fun e => mh e.1 e.2)).isEmpty = false := by simp
    have h2 : ((e :: l).map (fun e => mh e.1 e.2)).any (fun h => !h.merge) = false := by
      simp [mh]
    rw [h1, h2]
    simp only [Bool.false_eq_true, if_false, List.map_map]
    have h3 : ((fun h : Hunk => { h with add := h.add.map (fun v => if v.isVoid then Json.null else v) })
        ∘ fun e : List String × Json => mh e.1 e.2) = (fun e => mh e.1 e.2) ∘ nulE := by
      funext e; simp [mh, nulE]
    rw [h3, ← List.map_map, patchAll_mh]
    simp

/-- the library's merge diff of two documents, once it is `D` hunk by hunk (`h`) -/
theorem diffM_eq_of {D : Json → Json → List (List String × Json)} {o : Opts} (hmg : isMerge o = true) {a b : Json}
    (h : ∀ q : List String,
      diffNode o true a b (q.map .key) = (D a b).map (fun e => mh (q ++ e.1) e.2)) :
    diffM o a b = (D a b).map (fun e => mh e.1 e.2) := by
  have h := h []
  simp only [List.map_nil, List.nil_append] at h
  rw [diffM, hmg, h]

/-- the library's merge diff in the list reading is `dl`, hunk by hunk -/
theorem diffM_eq_dl (o : Opts) (ho : dispatchTag o = .list) (hm : isMerge o = true) (a b : Json)
    (ha : a.rawDoc = true) (hb : b.rawDoc = true) (hv : objVoidFree b = true) :
    diffM o a b = (dl o a b).map (fun e => mh e.1 e.2) :=
  diffM_eq_of hm fun q => diffNode_eq_dl o ho a b q ha hb hv

theorem renderMergeDoc_diffM (o : Opts) (ho : dispatchTag o = .list) (hm : isMerge o = true)
    (a b : Json) (ha : a.rawDoc = true) (hb : b.rawDoc = true) (hv : objVoidFree b = true) :
    renderMergeDoc (diffM o a b)
      = .ok (if dl o a b = [] then .obj [] else mapply (rl o a b) .void) := by
  rw [diffM_eq_of hm fun q => diffNode_eq_dl o ho a b q ha hb hv, renderMergeDoc_hunks]
  rfl

/-! ### 3. RFC 7386 on wholesale values; reflexivity; objects compared member by member -/

theorem isNull_of_nullFree {v : Json} (h : v.nullFree = true) : v.isNull = false := by
  cases v <;> first | rfl | cases h

/-- a null-free value used as a patch on a non-object target (or on nothing) is copied -/
theorem mergePatch_copy : ∀ (v : Json), v.wf = true → v.nullFree = true →
    ∀ t : Json, t.isObj = false → mergePatch t v = v := by
  intro v
  induction v using jsonInd with
  | obj kvs ih =>
    intro hw hn t ht
    simp only [Json.wf, Bool.and_eq_true] at hw
    simp only [Json.nullFree] at hn
    have hto : objKvs t = [] := by
      cases t with
      | obj _ => cases ht
      | _ => rfl
    rw [mergePatch_obj, hto]
    congr 1
    refine kvs_ext (keysSorted_mergeMembers _ _ rfl) hw.1 (fun j => ?_)
    rw [alookup_mergeMembers j kvs [] hw.1 rfl]
    cases hj : alookup j kvs with
    | none => simp [alookup]
    | some v =>
      have hvn : v.nullFree = true := all_alookup (nullFreeKvs_eq_all _ ▸ hn) hj
      simp [isNull_of_nullFree hvn, getK, alookup,
        ih j v (mem_of_alookup hj) (alookup_wf hj hw.2) hvn .void rfl]
  | arr _ _ _ => intro _ _ _ _; simp [mergePatch]
  | _ => intro _ _ _ _; simp [mergePatch]

theorem mergePatch_copyKvs : ∀ (kvs : List (String × Json)), wfKvs kvs = true →
    nullFreeKvs kvs = true → ∀ k v, alookup k kvs = some v →
      v.isNull = false ∧ ∀ t : Json, t.isObj = false → mergePatch t v = v :=
  fun _ hw hn _ v h =>
    have hvn : v.nullFree = true := all_alookup (nullFreeKvs_eq_all _ ▸ hn) h
    ⟨isNull_of_nullFree hvn, mergePatch_copy v (alookup_wf h hw) hvn⟩

theorem equivB_refl_list (L : FloatLaws) (o : Opts) (ho : dispatchTag o = .list)
    (hp : nonnegBits (precOf o) = true) (b : Json) (hl : b.listDoc = true) (hw : b.wf = true)
    (hf : b.finiteNums = true) : equivB o b b = true := by
  rw [← equals_eq_equivB_list o ho b b hl hl]
  exact equals_refl_list L o ho hp b hl hw hf

end Jd.Merge

/-! ### 3b. "is `b`" in both readings: for the library's `Equals` and for the advertised equivalence
    (namespace `Jd.MSet`: the set readings and the list reading with a precision share it) -/

namespace Jd.MSet
open Jd Jd.Spec Jd.Merge

/-- `x` is `b` for the library's `Equals` and for the specification's equivalence -/
def Rel (o : Opts) (x b : Json) : Prop := equals o x b = true ∧ equivB o x b = true

end Jd.MSet

namespace Jd.Merge
open Jd Jd.Spec
open Jd.MSet (Rel)

/-! ### 4. the rendered diff of two objects, as groups of hunks per key -/

/-- the hunks for the keys only the second object has -/
def groupsB (kvs kvs' : List (String × Json)) : List (String × List (List String × Json)) :=
  (kvs'.filter (fun kv => (alookup kv.1 kvs).isNone)).map (fun kv => (kv.1, [([], kv.2)]))

theorem flatG_append (A B : List (String × List (List String × Json))) :
    flatG (A ++ B) = flatG A ++ flatG B := by simp [flatG]

theorem additions_groups (kvs : List (String × Json)) :
    ∀ kvs' : List (String × Json), objVoidFreeKvs kvs' = true →
      ((kvs'.filter (fun kv => (alookup kv.1 kvs).isNone)).map (fun kv => ([kv.1], kv.2))).map nulE
        = flatG (groupsB kvs kvs')
  | [], _ => by simp [groupsB, flatG]
  | (k, v) :: r, h => by
    simp only [objVoidFreeKvs, Bool.and_eq_true] at h
    have ih := additions_groups kvs r h.2
    have hvv : v.isVoid = false := by cases v <;> simp_all [Json.isVoid, objVoidFree]
    simp only [groupsB, List.filter_cons] at ih ⊢
    split
    · simp only [List.map_cons, ih]
      simp [flatG, nulE, consE, hvv]
    · exact ih

/-- … as they are in memory (`void` = delete stays `void`) -/
theorem additions_flatG (kvs : List (String × Json)) :
    ∀ kvs' : List (String × Json),
      (kvs'.filter (fun kv => (alookup kv.1 kvs).isNone)).map (fun kv => ([kv.1], kv.2))
        = flatG (groupsB kvs kvs')
  | [] => by simp [groupsB, flatG]
  | (k, v) :: r => by
    have ih := additions_flatG kvs r
    simp only [groupsB, List.filter_cons] at ih ⊢
    split
    · simp only [List.map_cons, ih]
      simp [flatG, consE]
    · exact ih

/-- **the entries of two objects are one group per key**: of the first object's keys, then of those
    only the second has -/
theorem PDiff.obj_groups {D : Json → Json → List (List String × Json)}
    {DK : List (String × Json) → List (String × Json) → List (List String × Json)}
    (P : PDiff T D DK) (kvs kvs' : List (String × Json)) :
    D (.obj kvs) (.obj kvs') = flatG (groupsD .void D kvs' kvs ++ groupsB kvs kvs') := by
  rw [P.obj_obj, P.dk, additions_flatG kvs kvs', flatG_append]

theorem groupsD_lookup (z : Json) (R : Json → Json → List (List String × Json))
    (kvs kvs' : List (String × Json)) (j : String) :
    alookup j (groupsD z R kvs' kvs ++ groupsB kvs kvs') = match alookup j kvs with
      | some v => some (grpD z R kvs' j v)
      | none => (alookup j kvs').map (fun v' => [([], v')]) := by
  rw [alookup_append, groupsD, alookup_mapk (fun k v => grpD z R kvs' k v) j kvs]
  cases hj : alookup j kvs with
  | some v => rfl
  | none =>
    simp only [Option.map_none]
    rw [groupsB, alookup_mapk (fun _ v => [(([] : List String), v)]) j,
      alookup_filter (fun k => (alookup k kvs).isNone) j kvs']
    simp [hj]

theorem groupsD_nodup (z : Json) (R : Json → Json → List (List String × Json))
    {kvs kvs' : List (String × Json)} (hs : keysSorted kvs = true) (hs' : keysSorted kvs' = true) :
    ((groupsD z R kvs' kvs ++ groupsB kvs kvs').map Prod.fst).Nodup := by
  have hA : (groupsD z R kvs' kvs).map Prod.fst = kvs.map Prod.fst := by
    simp [groupsD, Function.comp_def]
  have hB : (groupsB kvs kvs').map Prod.fst
      = (kvs'.filter (fun kv => (alookup kv.1 kvs).isNone)).map Prod.fst := by
    simp [groupsB, Function.comp_def]
  rw [List.map_append, hA, hB, List.nodup_append]
  refine ⟨keysSorted_nodup hs, ?_, ?_⟩
  · exact (keysSorted_nodup hs').sublist (List.Sublist.map _ List.filter_sublist)
  · intro k hk k' hk' he
    subst he
    obtain ⟨⟨k1, v1⟩, hm1, rfl⟩ := List.mem_map.1 hk
    obtain ⟨⟨k2, v2⟩, hm2, he2⟩ := List.mem_map.1 hk'
    simp only at he2
    subst he2
    have := (List.mem_filter.1 hm2).2
    rw [alookup_of_mem hs hm1] at this
    simp at this

theorem mapply_flatG_nonobj (groups : List (String × List (List String × Json))) {t : Json}
    (ht : t.isObj = false) (hne : flatG groups ≠ []) :
    mapply (flatG groups) t = mapply (flatG groups) (.obj []) := by
  cases hf : flatG groups with
  | nil => exact absurd hf hne
  | cons e l =>
    have hm : e ∈ flatG groups := by rw [hf]; exact List.mem_cons_self
    simp only [flatG, List.mem_flatMap, List.mem_map] at hm
    obtain ⟨kg, _, e', _, rfl⟩ := hm
    simp only [mapply, List.foldl_cons, consE]
    rw [mset_nonobj ht]

theorem ainsert_ne_nil {β} (k : String) (v : β) (r : List (String × β)) : ainsert k v r ≠ [] := by
  cases r with
  | nil => simp [ainsert]
  | cons kv r =>
    obtain ⟨k0, v0⟩ := kv
    simp only [ainsert]
    split
    · simp
    · split <;> simp

theorem mset_notVoid {v : Json} (hv : v.isVoid = false) (t : Json) (ks : List String) :
    (mset t ks v).isVoid = false := by
  cases ks with
  | nil => cases t <;> simpa [mset] using hv
  | cons k rest => cases t <;> simp [mset, nest, Json.isVoid]

/-- hunks below the root that delete nothing, applied to an object: the result is not `{}` once
    there is a hunk or a member -/
theorem mapply_obj_ne_empty :
    ∀ (l : List (List String × Json)), (∀ e ∈ l, e.1 ≠ [] ∧ e.2.isVoid = false) →
      ∀ kvs : List (String × Json), (l ≠ [] ∨ kvs ≠ []) →
        ∃ kvs', mapply l (.obj kvs) = .obj kvs' ∧ kvs' ≠ []
  | [], _, kvs, h => ⟨kvs, rfl, h.resolve_left (fun h => h rfl)⟩
  | ([], v) :: l, H, _, _ => absurd rfl (H _ List.mem_cons_self).1
  | (k :: rest, v) :: l, H, kvs, _ => by
    have hc := mset_notVoid (H _ List.mem_cons_self).2 (getK k kvs) rest
    have e : mapply ((k :: rest, v) :: l) (.obj kvs)
        = mapply l (.obj (ainsert k (mset (getK k kvs) rest v) kvs)) := by
      simp [mapply, mset, putKvs, hc]
    rw [e]
    exact mapply_obj_ne_empty l (fun e he => H e (List.mem_cons_of_mem _ he)) _
      (Or.inr (ainsert_ne_nil _ _ _))

/-! ### 5. the second document: what is asked of a value that a hunk stores -/

theorem alookup_nullFree {k : String} {v : Json} {kvs : List (String × Json)}
    (h : alookup k kvs = some v) (hd : nullFreeKvs kvs = true) : v.nullFree = true :=
  all_alookup (nullFreeKvs_eq_all _ ▸ hd) h

theorem alookup_finiteNums {k : String} {v : Json} {kvs : List (String × Json)}
    (h : alookup k kvs = some v) (hd : finiteNumsKvs kvs = true) : v.finiteNums = true :=
  all_alookup (finiteNumsKvs_eq_all _ ▸ hd) h

/-- a predicate on documents that passes to the members of an object, whose keys are sorted -/
structure Members (Q : Json → Prop) : Prop where
  member : ∀ {kvs : List (String × Json)} {k : String} {v : Json},
    Q (.obj kvs) → alookup k kvs = some v → Q v
  sorted : ∀ {kvs : List (String × Json)}, Q (.obj kvs) → keysSorted kvs = true

/-- a pair of member-closed predicates passes to the members two objects hold under one key -/
theorem Members.pair {Pa Pb : Json → Prop} (MA : Members Pa) (MB : Members Pb)
    {kvs kvs' : List (String × Json)} {k : String} {v v' : Json}
    (h : Pa (.obj kvs) ∧ Pb (.obj kvs')) (hm : (k, v) ∈ kvs) (hl : alookup k kvs' = some v') :
    Pa v ∧ Pb v' :=
  ⟨MA.member h.1 (alookup_of_mem (MA.sorted h.1) hm), MB.member h.2 hl⟩

theorem members_wf : Members (fun a => a.wf = true) where
  member := fun h hl => by
    simp only [Json.wf, Bool.and_eq_true] at h; exact alookup_wf hl h.2
  sorted := fun h => by simp only [Json.wf, Bool.and_eq_true] at h; exact h.1

theorem members_wf_listDoc : Members (fun a => a.wf = true ∧ a.listDoc = true) where
  member := fun h hl => ⟨members_wf.member h.1 hl, alookup_listDoc hl h.2⟩
  sorted := fun h => members_wf.sorted h.1

theorem members_wf_rawDoc : Members (fun a => a.wf = true ∧ a.rawDoc = true) where
  member := fun h hl => ⟨members_wf.member h.1 hl, alookup_rawDoc hl h.2⟩
  sorted := fun h => members_wf.sorted h.1

/-- what RFC 7386 needs of a value that is written wholesale: unique keys, no `null`, no void -/
structure Val (b : Json) : Prop where
  wf : b.wf = true
  nf : b.nullFree = true
  vf : objVoidFree b = true

theorem Val.member {kvs' : List (String × Json)} (G : Val (.obj kvs')) {j : String} {v' : Json}
    (h : alookup j kvs' = some v') : Val v' := by
  obtain ⟨h1, h2, h3⟩ := G
  simp only [Json.wf, Json.nullFree, objVoidFree, Bool.and_eq_true] at h1 h2 h3
  exact ⟨alookup_wf h h1.2, alookup_nullFree h h2, alookup_objVoidFree h h3⟩

theorem Val.notVoid {b : Json} (G : Val b) : b.isVoid = false := by
  have := G.vf; cases b <;> simp_all [Json.isVoid, objVoidFree]

theorem Val.notNull {b : Json} (G : Val b) : b.isNull = false := isNull_of_nullFree G.nf

/-- the hypotheses on the second document: as read from JSON text (unique keys, plain arrays, no
    void, finite numbers) and null-free -/
structure GoodB (b : Json) : Prop where
  wf : b.wf = true
  raw : b.rawDoc = true
  nf : b.nullFree = true
  vf : objVoidFree b = true
  fin : b.finiteNums = true

theorem GoodB.member {kvs' : List (String × Json)} (G : GoodB (.obj kvs')) {j : String} {v' : Json}
    (h : alookup j kvs' = some v') : GoodB v' := by
  obtain ⟨h1, h2, h3, h4, h5⟩ := G
  simp only [Json.wf, Json.rawDoc, Json.nullFree, objVoidFree, Json.finiteNums,
    Bool.and_eq_true] at h1 h2 h3 h4 h5
  exact ⟨alookup_wf h h1.2, alookup_rawDoc h h2, alookup_nullFree h h3, alookup_objVoidFree h h4,
    alookup_finiteNums h h5⟩

theorem GoodB.val {b : Json} (G : GoodB b) : Val b := ⟨G.wf, G.nf, G.vf⟩

theorem GoodB.notVoid {b : Json} (G : GoodB b) : b.isVoid = false := G.val.notVoid

end Jd.Merge

namespace Jd.MP
open Jd Jd.Spec Jd.Merge

/-- the hypotheses on the second document when the hunks are applied in memory: as read from JSON
    text (unique keys, plain arrays, no void, finite numbers). NOT null-free: in memory a merge hunk
    stores `null` as a value (only `void` deletes), so `Merge.GoodB` minus `nullFree` suffices. -/
structure GoodN (b : Json) : Prop where
  wf : b.wf = true
  raw : b.rawDoc = true
  vf : objVoidFree b = true
  fin : b.finiteNums = true

theorem GoodN.member {kvs' : List (String × Json)} (G : GoodN (.obj kvs')) {j : String} {v' : Json}
    (h : alookup j kvs' = some v') : GoodN v' := by
  obtain ⟨h1, h2, h4, h5⟩ := G
  simp only [Json.wf, Json.rawDoc, objVoidFree, Json.finiteNums, Bool.and_eq_true] at h1 h2 h4 h5
  exact ⟨alookup_wf h h1.2, alookup_rawDoc h h2, alookup_objVoidFree h h4, alookup_finiteNums h h5⟩

theorem GoodN.notVoid {b : Json} (G : GoodN b) : b.isVoid = false := by
  have := G.vf; cases b <;> simp_all [Json.isVoid, objVoidFree]

/-- the second document is itself, for both relations, under a non-negative finite precision -/
theorem goodN_rel (L : FloatLaws) (o : Opts) (ho : dispatchTag o = .list)
    (hp : nonnegBits (precOf o) = true) {b : Json} (G : GoodN b) : MSet.Rel o b b :=
  ⟨equals_refl_list L o ho hp b (rawDoc_listDoc b G.raw) G.wf G.fin,
    equivB_refl_list L o ho hp b (rawDoc_listDoc b G.raw) G.wf G.fin⟩

end Jd.MP

namespace Jd.Merge
open Jd Jd.Spec
open Jd.MSet (Rel)
open Jd.MP (GoodN goodN_rel)

theorem GoodB.goodN {b : Json} (G : GoodB b) : GoodN b := ⟨G.wf, G.raw, G.vf, G.fin⟩

/-! ### 6. two objects member by member; rendering is faithful -/

/-- the document `RenderMerge` builds from the entries of `D a b` (`renderMergeDoc_hunks`) -/
abbrev doc (D : Json → Json → List (List String × Json)) (a b : Json) : Json :=
  mapply ((D a b).map nulE) .void

section PDiff
variable {D : Json → Json → List (List String × Json)}
  {DK : List (String × Json) → List (String × Json) → List (List String × Json)}

/-- the rendered patch document of two objects, member by member: a key of the first alone is
    deleted (`null`), a key of the second alone carries its value, a common key carries the patch
    document of the two values and is absent where these do not differ -/
theorem doc_obj_obj (P : PDiff T D DK) {kvs kvs' : List (String × Json)}
    (hs : keysSorted kvs = true) (hs' : keysSorted kvs' = true)
    (hvf : objVoidFreeKvs kvs' = true) (hne : D (.obj kvs) (.obj kvs') ≠ []) :
    ∃ Pk, doc D (.obj kvs) (.obj kvs') = .obj Pk ∧ Pk ≠ [] ∧ keysSorted Pk = true ∧
      ∀ j, alookup j Pk = match alookup j kvs, alookup j kvs' with
        | some v, some v' => if (D v v').isEmpty then none else toOpt (doc D v v')
        | some _, none => some .null
        | none, some v' => toOpt v'
        | none, none => none := by
  let R := fun v v' => (D v v').map nulE
  have hrs : (D (.obj kvs) (.obj kvs')).map nulE
      = flatG (groupsD .null R kvs' kvs ++ groupsB kvs kvs') := by
    rw [P.obj_obj, List.map_append, P.dk,
      map_flatG_groupsD nulE .null (fun _ _ => rfl) (fun _ => rfl), additions_groups kvs kvs' hvf,
      flatG_append]
  have hrne : flatG (groupsD .null R kvs' kvs ++ groupsB kvs kvs') ≠ [] := by
    rw [← hrs]; simpa using hne
  obtain ⟨Pk, heP, hsP, hlP⟩ := mapply_flatG (groupsD .null R kvs' kvs ++ groupsB kvs kvs') []
    (groupsD_nodup .null R hs hs') rfl
  have hPk : Pk ≠ [] := by
    obtain ⟨Pk', he', hne'⟩ := mapply_obj_ne_empty _ (fun e he => by
      refine ⟨?_, ?_⟩
      · simp only [flatG, List.mem_flatMap, List.mem_map] at he
        obtain ⟨_, _, _, _, rfl⟩ := he
        simp [consE]
      · rw [← hrs] at he
        obtain ⟨e0, _, rfl⟩ := List.mem_map.1 he
        exact nulE_notVoid e0) [] (Or.inl hrne)
    rw [heP] at he'
    cases he'
    exact hne'
  refine ⟨Pk, by rw [doc, hrs, mapply_flatG_nonobj _ (t := .void) rfl hrne, heP], hPk, hsP,
    fun j => ?_⟩
  have hgv : getK j ([] : List (String × Json)) = .void := rfl
  rw [hlP j, groupsD_lookup, hgv]
  cases alookup j kvs <;> cases hjb : alookup j kvs' <;>
    simp [grpD, hjb, R, alookup, mapply, mset, toOpt, Json.isVoid] <;> rfl

/-- the first object after the entries were applied to it, member by member -/
theorem apply_obj_obj (P : PDiff T D DK) {kvs kvs' : List (String × Json)}
    (hs : keysSorted kvs = true) (hs' : keysSorted kvs' = true) :
    ∃ Q, mapply (D (.obj kvs) (.obj kvs')) (.obj kvs) = .obj Q ∧ keysSorted Q = true ∧
      ∀ j, alookup j Q = match alookup j kvs, alookup j kvs' with
        | some v, some v' => if (D v v').isEmpty then some v else toOpt (mapply (D v v') v)
        | some _, none => none
        | none, some v' => toOpt v'
        | none, none => none := by
  obtain ⟨Q, heQ, hsQ, hlQ⟩ := mapply_flatG (groupsD .void D kvs' kvs ++ groupsB kvs kvs') kvs
    (groupsD_nodup .void D hs hs') hs
  refine ⟨Q, by rw [P.obj_groups, heQ], hsQ, fun j => ?_⟩
  rw [hlQ j, groupsD_lookup]
  cases hja : alookup j kvs <;> cases hjb : alookup j kvs' <;>
    simp [grpD, hjb, getK, hja, mapply, mset, toOpt, Json.isVoid] <;> rfl

theorem objKvs_of_nonobj {a : Json} (h : a.isObj = false) : objKvs a = [] := by
  cases a with
  | obj _ => cases h
  | _ => rfl

theorem cleanIn_of_nonobj {b : Json} (hb : b.isObj = false) (a : Json) : cleanIn a b = true := by
  cases b with
  | obj _ => cases hb
  | _ => rfl

theorem mergePatch_of_nonobj {b : Json} (hb : b.isObj = false) (a : Json) : mergePatch a b = b := by
  cases b with
  | obj _ => cases hb
  | _ => simp [mergePatch]

theorem mergePatch_notVoid (t : Json) {p : Json} (h : p.isVoid = false) :
    (mergePatch t p).isVoid = false := by
  cases p <;> simp_all [mergePatch, Json.isVoid]

/-- **rendering is faithful**, for every pure merge diff and every option list: the rendered diff is
    a proper patch document for `a` (not void, not `null`, `cleanIn`: C12 applies to it), and RFC 7386
    `MergePatch` applies it to `a` as the library applies the entries in memory. Per key,
    `alookup_mergeMembers` on the rendered member (`doc_obj_obj`) against the patched member
    (`apply_obj_obj`). -/
theorem mergePatch_doc (P : PDiff T D DK) {Pa : Json → Prop} (MA : Members Pa) :
    ∀ a : Json, Pa a → ∀ b : Json, Val b → D a b ≠ [] →
      (doc D a b).isVoid = false ∧ (doc D a b).isNull = false ∧ cleanIn a (doc D a b) = true ∧
      mergePatch a (doc D a b) = mapply (D a b) a := by
  have single : ∀ {a b v : Json}, D a b = [([], v)] → v.isVoid = false → v.isNull = false →
      cleanIn a v = true → mergePatch a v = v →
      (doc D a b).isVoid = false ∧ (doc D a b).isNull = false ∧ cleanIn a (doc D a b) = true ∧
      mergePatch a (doc D a b) = mapply (D a b) a := by
    intro a b v h h1 h2 hc h3
    have hm : doc D a b = v := by simp [doc, h, nulE, h1, mapply, mset]
    rw [hm, h]
    exact ⟨h1, h2, hc, by simpa [mapply, mset] using h3⟩
  have leaf : ∀ a b : Json, (a.isObj && b.isObj) = false → Val b → D a b ≠ [] →
      (doc D a b).isVoid = false ∧ (doc D a b).isNull = false ∧ cleanIn a (doc D a b) = true ∧
      mergePatch a (doc D a b) = mapply (D a b) a := by
    intro a b hn G hne
    rcases P.leaf a b hn with h | h | ⟨t, xs, rfl, h⟩
    · exact absurd h hne
    · cases ha : a.isObj with
      | false =>
        exact single h G.notVoid G.notNull (cleanIn_nonobj b a (objKvs_of_nonobj ha))
          (mergePatch_copy b G.wf G.nf a ha)
      | true =>
        rw [ha, Bool.true_and] at hn
        exact single h G.notVoid G.notNull (cleanIn_of_nonobj hn a) (mergePatch_of_nonobj hn a)
    · exact single h rfl rfl rfl (by simp [mergePatch])
  intro a ha b G
  refine pairInd (Q := fun a b => Pa a ∧ Val b)
    (fun h hm hl => ⟨MA.member h.1 (alookup_of_mem (MA.sorted h.1) hm), h.2.member hl⟩)
    (fun a b h hn => leaf a b hn h.2) (fun kvs kvs' h ih hne => ?_) a b ⟨ha, G⟩
  obtain ⟨ha, G⟩ := h
  have hs := MA.sorted ha
  have hs' := members_wf.sorted G.wf
  obtain ⟨Pk, hdoc, hPk, hsP, hlP⟩ :=
    doc_obj_obj P hs hs' (by simpa [objVoidFree] using G.vf) hne
  obtain ⟨Q, hap, hsQ, hlQ⟩ := apply_obj_obj P hs hs'
  have IH : ∀ j v v', alookup j kvs = some v → alookup j kvs' = some v' → D v v' ≠ [] → _ :=
    fun j v v' hja hjb => ih j v v' (mem_of_alookup hja) hjb
  rw [hdoc, hap, mergePatch_obj]
  refine ⟨rfl, rfl, ?_, ?_⟩
  · have hemp : Pk.isEmpty = false := by
      cases Pk with
      | nil => exact absurd rfl hPk
      | cons _ _ => rfl
    rw [cleanIn, hemp]
    simp only [Bool.false_eq_true, if_false, objKvs]
    refine (cleanKvs_iff kvs hsP).2 (fun j w hw => ?_)
    rw [hlP j] at hw
    cases hja : alookup j kvs with
    | some v =>
      have hg : getK j kvs = v := by simp [getK, hja]
      rw [hg]
      cases hjb : alookup j kvs' with
      | some v' =>
        rw [hja, hjb] at hw
        by_cases hd : D v v' = []
        · simp [hd] at hw
        · obtain ⟨h1, _, h3, _⟩ := IH j v v' hja hjb hd
          have : w = doc D v v' := by simpa [hd, toOpt, h1] using hw.symm
          rw [this]; exact h3
      | none =>
        rw [hja, hjb] at hw
        cases Option.some.inj hw
        rfl
    | none =>
      have hg : getK j kvs = .void := by simp [getK, hja]
      rw [hg]
      exact cleanIn_nonobj w .void rfl
  · congr 1
    refine kvs_ext (keysSorted_mergeMembers _ _ hs) hsQ (fun j => ?_)
    rw [alookup_mergeMembers j Pk (objKvs (.obj kvs)) hsP hs, hlP j, hlQ j]
    simp only [objKvs]
    cases hja : alookup j kvs with
    | some v =>
      cases hjb : alookup j kvs' with
      | some v' =>
        simp only [getK, hja, Option.getD_some]
        by_cases hd : D v v' = []
        · simp [hd]
        · obtain ⟨h1, h2, _, h3⟩ := IH j v v' hja hjb hd
          have e3 : (mapply (D v v') v).isVoid = false := h3 ▸ mergePatch_notVoid _ h1
          simp [hd, toOpt, h1, h2, h3, e3]
      | none => simp [Json.isNull]
    | none =>
      cases hjb : alookup j kvs' with
      | none => simp
      | some v' =>
        have Gv := G.member hjb
        simp [toOpt, Gv.notVoid, Gv.notNull, getK, hja,
          mergePatch_copy v' Gv.wf Gv.nf .void rfl]

end PDiff

end Jd.Merge

/-! ### 7. C01 under MERGE, in memory: the entries of the pure diff, applied to the first document,
    give a document that is the second -/

namespace Jd.DPK
open Jd Jd.Spec Jd.Merge
open Jd.MSet (Rel)

/-- what is proved of a pair of documents: the hunks of the pure merge diff, applied in memory to
    the first document, give a document that is the second (for `Equals` and for `equivB`) -/
def MemSound (o : Opts) (D : Json → Json → List (List String × Json)) (a b : Json) : Prop :=
  Rel o (mapply (D a b) a) b

theorem rel_not_void {o : Opts} {x y : Json} (h : Rel o x y) (hy : y.isVoid = false) :
    x.isVoid = false := by
  cases x with
  | void => have := h.1; simp [equals, hy] at this
  | _ => rfl

/-- a reading of "is `b`" that the induction below can carry: objects with sorted keys are related
    when their members are, and only void is related to void -/
structure ObjRel (R : Json → Json → Prop) : Prop where
  obj : ∀ {X Y : List (String × Json)}, keysSorted X = true → keysSorted Y = true →
    (∀ j, OptRel R (alookup j X) (alookup j Y)) → R (.obj X) (.obj Y)
  notVoid : ∀ {x y : Json}, R x y → y.isVoid = false → x.isVoid = false

theorem objRel_rel (o : Opts) : ObjRel (Rel o) where
  obj := fun hs hs' h => ⟨(equals_obj_optRel o hs hs').2 fun j => (h j).imp And.left,
    (equivB_obj_optRel o hs hs').2 fun j => (h j).imp And.right⟩
  notVoid := rel_not_void

/-- **object step.** If the hunks of every common member turn that member of `a` into something
    that is the member of `b`, and the members only `b` has are themselves, then the hunks of the two
    objects, applied in memory, turn the first object into something that is the second. -/
theorem obj_step_of {R : Json → Json → Prop} (OR : ObjRel R)
    {D : Json → Json → List (List String × Json)}
    {DK : List (String × Json) → List (String × Json) → List (List String × Json)}
    (P : PDiff T D DK) {kvs kvs' : List (String × Json)}
    (hs : keysSorted kvs = true) (hs' : keysSorted kvs' = true)
    (hvoid : ∀ j v', alookup j kvs' = some v' → v'.isVoid = false)
    (hboth : ∀ j v v', alookup j kvs = some v → alookup j kvs' = some v' →
      R (mapply (D v v') v) v')
    (honly : ∀ j v', alookup j kvs = none → alookup j kvs' = some v' → R v' v') :
    R (mapply (D (.obj kvs) (.obj kvs')) (.obj kvs)) (.obj kvs') := by
  obtain ⟨Q, hap, hsQ, hlQ⟩ := apply_obj_obj P hs hs'
  rw [hap]
  refine OR.obj hsQ hs' (fun j => ?_)
  rw [hlQ j]
  cases hja : alookup j kvs with
  | some v =>
    cases hjb : alookup j kvs' with
    | some v' =>
      have h := hboth j v v' hja hjb
      by_cases hd : D v v' = []
      · simpa [hd, mapply, OptRel] using h
      · have hnv := OR.notVoid h (hvoid j v' hjb)
        simpa [hd, toOpt, hnv, OptRel] using h
    | none => simp [OptRel]
  | none =>
    cases hjb : alookup j kvs' with
    | none => simp [OptRel]
    | some v' => simpa [toOpt, hvoid j v' hjb, OptRel] using honly j v' hja hjb

/-- **the induction, for every reading** and every relation `R` that objects inherit from their
    members: the reading enters at the pairs that are not two objects (`hleaf`: which scalars /
    arrays the diff keeps, and that what it stores is `b`) and in the reflexivity of the relation on
    the parts of `b` -/
theorem memSound_rel {R : Json → Json → Prop} (OR : ObjRel R)
    {D : Json → Json → List (List String × Json)}
    {DK : List (String × Json) → List (String × Json) → List (List String × Json)}
    (P : PDiff T D DK) {Pa Pb : Json → Prop} (MA : Members Pa) (MB : Members Pb)
    (hnv : ∀ {kvs k v}, Pb (.obj kvs) → alookup k kvs = some v → v.isVoid = false)
    (hrefl : ∀ {b}, Pb b → R b b)
    (hleaf : ∀ a b, Pa a → Pb b → (a.isObj && b.isObj) = false → R (mapply (D a b) a) b) :
    ∀ a, Pa a → ∀ b, Pb b → R (mapply (D a b) a) b := fun a ha b hb =>
  pairInd (Q := fun a b => Pa a ∧ Pb b) (MA.pair MB) (fun a b h => hleaf a b h.1 h.2)
    (fun _ _ h ih => obj_step_of OR P (MA.sorted h.1) (MB.sorted h.2)
      (fun _ _ hj => hnv h.2 hj) (fun j v v' hja hjb => ih j v v' (mem_of_alookup hja) hjb)
      (fun _ _ _ hjb => hrefl (MB.member h.2 hjb)))
    a b ⟨ha, hb⟩

/-- … with the analysis of the pairs that are not two objects done once: the reading says what its
    deciders mean (`harr`, `hsc`) and that the re-typed second array is the second array (`hretag`) -/
theorem memSound_relC {R : Json → Json → Prop} (OR : ObjRel R)
    {D : Json → Json → List (List String × Json)}
    {DK : List (String × Json) → List (String × Json) → List (List String × Json)}
    (P : PDiffC cA cS T D DK) {Pa Pb : Json → Prop} (MA : Members Pa) (MB : Members Pb)
    (hnv : ∀ {kvs k v}, Pb (.obj kvs) → alookup k kvs = some v → v.isVoid = false)
    (hrefl : ∀ {b}, Pb b → R b b)
    (harr : ∀ {t xs t' ys}, Pa (.arr t xs) → Pb (.arr t' ys) → cA xs ys = true →
      R (.arr t xs) (.arr t' ys))
    (hretag : ∀ {t ys}, Pb (.arr t ys) → R (.arr T ys) (.arr t ys))
    (hsc : ∀ {a b}, a.isObj = false → isArr a = false → Pa a → Pb b → cS a b = true → R a b) :
    ∀ a, Pa a → ∀ b, Pb b → R (mapply (D a b) a) b :=
  memSound_rel OR P.toPDiff MA MB hnv hrefl fun a b ha hb hn => by
    have whole : D a b = [([], b)] → R (mapply (D a b) a) b := fun h => by
      rw [h]; simpa [mapply, mset] using hrefl hb
    cases a with
    | obj kvs => exact whole (P.objOther kvs (by simpa [Json.isObj] using hn))
    | arr t xs =>
      cases b with
      | arr t' ys =>
        rw [P.arrArr]
        cases he : cA xs ys with
        | true => exact harr ha hb he
        | false => simpa [mapply, mset] using hretag hb
      | _ => exact whole (P.arrOther t xs rfl)
    | _ =>
      rw [P.scalar rfl rfl]
      cases he : cS _ b with
      | true => exact hsc rfl rfl ha hb he
      | false => simpa [mapply, mset] using hrefl hb

end Jd.DPK

namespace Jd.Merge
open Jd Jd.Spec
open Jd.MSet (Rel)
open Jd.MP (GoodN goodN_rel)
open Jd.DPK (MemSound)

/-- scalars that `diff_common.go` finds equal WITHOUT the options are equal WITH them, given that
    "within +0" implies "within the precision" (`DPL.PrecMono o`) -/
theorem rel_of_equals_nil_scalar (o : Opts)
    (M : ∀ u v, numWithin 0 u v = true → numWithin (precOf o) u v = true) {a b : Json}
    (h1 : a.isObj = false) (h2 : isArr a = false) (he : equals [] a b = true) : Rel o a b := by
  cases a with
  | obj _ => cases h1
  | arr _ _ => cases h2
  | num x =>
    cases b with
    | num y =>
      have h : numWithin (precOf o) x y = true := M x y he
      exact ⟨h, by rw [equivB]; exact h⟩
    | _ => cases he
  -- `void`, `null`, Booleans, strings: neither relation reads the options
  | _ => cases b <;> exact ⟨he, by unfold equivB; exact he⟩

theorem equivB_of_equals_nil_scalar (o : Opts) (hprec : precOf o = 0) {a b : Json}
    (h1 : a.isObj = false) (h2 : isArr a = false)
    (he : equals [] a b = true) : equivB o a b = true :=
  (rel_of_equals_nil_scalar o (fun _ _ e => by rw [hprec]; exact e) h1 h2 he).2

/-- two plain arrays under the list reading: `Equals` is `equalsList`, which is the advertised
    equivalence on documents as read from text -/
theorem rel_arr_list {o : Opts} (ho : dispatchTag o = .list) {t t' : Tag} {xs ys : List Json}
    (ht : (t == .raw || t == .list) = true) (ht' : (t' == .raw || t' == .list) = true)
    (hxs : listDocList xs = true) (hys : listDocList ys = true) :
    Rel o (.arr t xs) (.arr t' ys) ↔ equalsList o xs ys = true := by
  have e : equivB o (.arr t xs) (.arr t' ys) = equalsList o xs ys := by
    rw [equalsList_eq_equivList o ho xs ys hxs hys]; simp [equivB, ho]
  rw [Rel, equals_arr_list ho xs ys ht ht', e, and_self]

/-- **C01 under MERGE in memory, list reading of arrays, any non-negative precision.** No
    transitivity of "within eps" is used: the result is made of parts of `a` that the diff found
    `equals o` / `equals []` to the part of `b` at the same place, and of parts of `b` itself. -/
theorem memSound_list (L : FloatLaws) (o : Opts) (ho : dispatchTag o = .list)
    (hp : nonnegBits (precOf o) = true)
    (M : ∀ u v, numWithin 0 u v = true → numWithin (precOf o) u v = true) :
    ∀ a : Json, a.wf = true → a.rawDoc = true → ∀ b : Json, GoodN b → MemSound o (dl o) a b := by
  have tag : ∀ {t ys}, (Json.arr t ys).rawDoc = true →
      (t == .raw || t == .list) = true ∧ listDocList ys = true := fun h => by
    have := rawDoc_listDoc _ h
    simp only [Json.rawDoc, Bool.and_eq_true] at h
    simp only [Json.listDoc, Bool.and_eq_true] at this
    exact ⟨by simp [h.1], this.2⟩
  intro a haw har b G
  exact DPK.memSound_relC (DPK.objRel_rel o) (pDiffC_dl o) members_wf_rawDoc
    ⟨fun G hl => G.member hl, fun G => members_wf.sorted G.wf⟩ (fun G hl => (G.member hl).notVoid)
    (fun G => goodN_rel L o ho hp G)
    (fun h G he => by
      rw [equals_arr_list ho _ _ rfl rfl] at he
      exact (rel_arr_list ho (tag h.2).1 (tag G.raw).1 (tag h.2).2 (tag G.raw).2).2 he)
    (fun G => (rel_arr_list ho rfl (tag G.raw).1 (tag G.raw).2 (tag G.raw).2).2
      ((rel_arr_list ho (tag G.raw).1 (tag G.raw).1 (tag G.raw).2 (tag G.raw).2).1
        (goodN_rel L o ho hp G)))
    (fun h1 h2 _ _ he => rel_of_equals_nil_scalar o M h1 h2 he) a ⟨haw, har⟩ b G

/-! ### 8. C11: the rendered merge patch, applied by RFC 7386, yields the second document -/

/-- what is proved of a pair of documents: an empty diff means equivalent documents; a non-empty
    diff renders to a patch document (not void, not null) that RFC 7386 turns `a` into `b` with -/
def Sound (o : Opts) (a b : Json) : Prop :=
  (dl o a b = [] → equivB o a b = true) ∧
  (dl o a b ≠ [] →
    (mapply (rl o a b) .void).isVoid = false ∧ (mapply (rl o a b) .void).isNull = false ∧
    equivB o (mergePatch a (mapply (rl o a b) .void)) b = true)

/-- the same for any pure merge diff `D` (`dl o`, `MSet.ds o`) and for both readings of "is `b`" -/
def SoundD (o : Opts) (D : Json → Json → List (List String × Json)) (a b : Json) : Prop :=
  (D a b = [] → Rel o a b) ∧
  (D a b ≠ [] →
    (mapply ((D a b).map nulE) .void).isVoid = false ∧
    (mapply ((D a b).map nulE) .void).isNull = false ∧
    Rel o (mergePatch a (mapply ((D a b).map nulE) .void)) b)

section SoundD
variable {o : Opts} {D : Json → Json → List (List String × Json)}
  {DK : List (String × Json) → List (String × Json) → List (List String × Json)}

/-- what C11 says of a pair follows from what C01 says of it: RFC 7386 on the rendered document
    gives the very document the entries give in memory (`mergePatch_doc`) -/
theorem soundD_of_mem (P : PDiff T D DK) {Pa : Json → Prop} (MA : Members Pa) {a b : Json}
    (ha : Pa a) (G : Val b) (M : MemSound o D a b) : SoundD o D a b := by
  refine ⟨fun hd => by simpa [MemSound, hd, mapply] using M, fun hd => ?_⟩
  obtain ⟨h1, h2, _, h3⟩ := mergePatch_doc P MA a ha b G hd
  exact ⟨h1, h2, by rw [show mapply ((D a b).map nulE) .void = doc D a b from rfl, h3]; exact M⟩

/-- from the induction to the rendered document `m` (`hrd`: what `RenderMerge` returns on the
    diff, `renderMergeDoc_diffM`): it is never void and never `null`, and RFC 7386 `MergePatch(a, m)`
    is `b` when the diff is not empty or `a` is an object (the empty diff renders to `{}`, the
    identity on objects) -/
theorem soundD_render {a b : Json} {d : Diff}
    (hrd : renderMergeDoc d
      = .ok (if D a b = [] then .obj [] else mapply ((D a b).map nulE) .void))
    (S : SoundD o D a b) :
    ∃ m, renderMergeDoc d = .ok m ∧ m.isVoid = false ∧ m.isNull = false ∧
      (D a b ≠ [] ∨ a.isObj = true → Rel o (mergePatch a m) b) := by
  by_cases hd : D a b = []
  · rw [if_pos hd] at hrd
    refine ⟨_, hrd, rfl, rfl, fun h => ?_⟩
    rcases h with h | hobj
    · exact absurd hd h
    · rw [mergePatch_empty_object hobj]; exact S.1 hd
  · rw [if_neg hd] at hrd
    exact ⟨_, hrd, (S.2 hd).1, (S.2 hd).2.1, fun _ => (S.2 hd).2.2⟩

end SoundD

/-- **list reading of arrays, any non-negative precision**: per pair of documents, an empty diff
    means `a` is `b` (for `Equals o` and for `equivB o`), a non-empty diff renders to a proper patch
    document that RFC 7386 turns `a` into `b` with -/
theorem sound_list (L : FloatLaws) (o : Opts) (ho : dispatchTag o = .list)
    (hp : nonnegBits (precOf o) = true)
    (M : ∀ u v, numWithin 0 u v = true → numWithin (precOf o) u v = true) :
    ∀ a : Json, a.wf = true → a.rawDoc = true → ∀ b : Json, GoodB b → SoundD o (dl o) a b :=
  fun a haw har b G =>
    soundD_of_mem (pDiff_dl o) members_wf haw G.val (memSound_list L o ho hp M a haw har b G.goodN)

theorem sound_list_noprec (L : FloatLaws) (o : Opts) (ho : dispatchTag o = .list)
    (hprec : precOf o = 0) :
    ∀ a : Json, a.wf = true → a.rawDoc = true → ∀ b : Json, GoodB b → SoundD o (dl o) a b :=
  sound_list L o ho (by rw [hprec]; decide) (fun _ _ e => by rw [hprec]; exact e)

/-- the case without a precision, advertised equivalence only -/
theorem sound (L : FloatLaws) (o : Opts) (ho : dispatchTag o = .list) (hprec : precOf o = 0) :
    ∀ (a : Json), a.wf = true → a.rawDoc = true → ∀ b : Json, GoodB b → Sound o a b := by
  intro a hw hr b G
  have S := sound_list_noprec L o ho hprec a hw hr b G
  exact ⟨fun hd => (S.1 hd).2, fun hd => ⟨(S.2 hd).1, (S.2 hd).2.1, (S.2 hd).2.2.2⟩⟩

theorem soundKvs (L : FloatLaws) (o : Opts) (ho : dispatchTag o = .list) (hprec : precOf o = 0) :
    ∀ (kvs : List (String × Json)), wfKvs kvs = true → rawDocKvs kvs = true →
    ∀ k v, alookup k kvs = some v → ∀ b : Json, GoodB b → Sound o v b :=
  fun _ hw hr _ v h => sound L o ho hprec v (alookup_wf h hw) (alookup_rawDoc h hr)

/-- the rendered diff under the list reading, from the induction's result for the pair: the patch
    document is never void and never `null` at the root, and RFC 7386 turns `a` into `b` with it when
    the diff is not empty, when `Equals` tells the two apart (then the diff is not empty), or when `a`
    is an object (the empty diff renders to `{}`, the identity on objects) -/
theorem merge_render_list {o : Opts} (hm : isMerge o = true) (ho : dispatchTag o = .list)
    {a b : Json} (har : a.rawDoc = true) (hbr : b.rawDoc = true) (hbv : objVoidFree b = true)
    (S : SoundD o (dl o) a b) :
    ∃ m, renderMergeDoc (diffM o a b) = .ok m ∧ m.isVoid = false ∧ m.isNull = false ∧
      (dl o a b ≠ [] ∨ equals o a b = false ∨ a.isObj = true → Rel o (mergePatch a m) b) := by
  obtain ⟨m, h1, h2, h3, h⟩ := soundD_render (renderMergeDoc_diffM o ho hm a b har hbr hbv) S
  refine ⟨m, h1, h2, h3, fun hc => h ?_⟩
  rcases hc with hd | hne | hobj
  · exact .inl hd
  · exact .inl fun hd => Bool.false_ne_true (hne.symm.trans (S.1 hd).1)
  · exact .inr hobj

/-- C11, MERGE option alone (list reading of arrays, no Precision): for documents as read from JSON
    text, `b` null-free, that `Equals` tells apart, the diff renders to a JSON Merge Patch document
    `m` and RFC 7386 `MergePatch(a, m)` is `b` (up to the advertised equivalence, which ignores
    the Go dynamic type of array nodes).
    `a` needs unique keys and plain arrays only (it may contain `null`s: they are overwritten or
    deleted, never kept, because an empty sub-diff means equal members). -/
theorem merge_render_correct (L : FloatLaws) (o : Opts) (hm : isMerge o = true)
    (ho : dispatchTag o = .list) (hprec : precOf o = 0) (a b : Json)
    (haw : a.wf = true) (har : a.rawDoc = true)
    (hbw : b.wf = true) (hbr : b.rawDoc = true) (hbn : b.nullFree = true)
    (hbv : objVoidFree b = true) (hbf : b.finiteNums = true)
    (hne : equals o a b = false) :
    ∃ m, renderMergeDoc (diffM o a b) = .ok m ∧ equivB o (mergePatch a m) b = true :=
  have ⟨m, h1, _, _, h⟩ := merge_render_list hm ho har hbr hbv
    (sound_list_noprec L o ho hprec a haw har b ⟨hbw, hbr, hbn, hbv, hbf⟩)
  ⟨m, h1, (h (.inr (.inl hne))).2⟩

end Jd.Merge

#print axioms Jd.Merge.sound_list
#print axioms Jd.Merge.merge_render_correct
