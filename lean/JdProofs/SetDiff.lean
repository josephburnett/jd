/-
  JdProofs.SetDiff — what `a.Diff(b)` computes in the SET / MULTISET / SetKeys readings, before
  anything is said about `Patch`:
  * the equations of `diffNode` for either strategy (`DES.diffNode_set`, `DES.diffNode_mset`; the
    strict instances `SetDP.diffNode_set_set`, `_mset_mset`, `diffNode_arr_other`);
  * the parts and the leaf of a set node as the generic algorithm of JdProofs.SetAlg at `identOf o`
    (`SetDP.diffSetElems_eq`, `mem_diffSetElems`, `setDelta`; `bagSurplus_eq` for a multiset node);
  * when the diff of a node is empty (`SetDP.diffNode_obj_nil`, `DES.setBody_nil_iff`,
    `DES.msetBody_nil_iff`);
  * the (⇐) half of property C05, `DES.diffNode_nil_of_equals`: `Equals` documents have an empty diff
    when no two of their nodes collide harmfully (`DES.DiffFaithful`, implied by `HashFaithful`:
    `DES.diffFaithful_of_hashFaithful`). `SetDP.diffNode_nil_of_equivB`, which C01 needs for the
    members of a set that are matched, is its corollary.
  JdProofs.SetDiffPatch (C01), DiffEmptySet (C05), RealDiffSet / RealDiffKeys (C07) and DiffPatchKeys
  build on this module.
-/
import JdModel
import JdSpec
import JdProofs.EqualsList
import JdProofs.SetPatch
import JdProofs.SetAlg
import JdProofs.NoSub
import JdProofs.EqualsSet
import JdProofs.HashCheck
import JdProofs.DiffEmpty
import JdProofs.DiffPatchList
import JdProofs.Common

namespace Jd.SetDP
open Jd Jd.Spec

/-! ## 1. the nodes of a document -/


/-- `S` contains every sub-term of `x` -/
def Within (S : List Json) (x : Json) : Prop := ∀ z ∈ subterms x, z ∈ S

theorem Within.elem {S : List Json} {t : Tag} {xs : List Json} {x : Json}
    (h : Within S (.arr t xs)) (hx : x ∈ xs) : Within S x :=
  fun z hz => h z (subterms_elem_sub hx hz)

theorem Within.val {S : List Json} {kvs : List (String × Json)} {k : String} {v : Json}
    (h : Within S (.obj kvs)) (hm : (k, v) ∈ kvs) : Within S v :=
  fun z hz => h z (subterms_val_sub hm hz)

theorem Within.self {S : List Json} {x : Json} (h : Within S x) : x ∈ S :=
  h x (mem_subterms_self x)

/-- from "equal hash codes only for equivalent nodes" to the hypothesis of JdProofs.SetPatch -/
theorem equals_eq_equivB_of (F : FloatEq0) {o : Opts}
    (hm : dispatchTag o = .set ∨ dispatchTag o = .mset) (hp : precOf o = 0)
    {S : List Json} (HF : HashFaithful o S) {x y : Json} (dx : DocOk x) (dy : DocOk y)
    (wx : Within S x) (wy : Within S y) : equals o x y = equivB o x y :=
  equals_eq_equivB_core F o hm hp x y dx dy
    (fun x' hx' y' hy' _ _ e => HF x' (wx x' hx') y' (wy y' hy') e)

/-! ## 2. the equations of the diff in the set readings, either strategy -/

/-- the added members of a set diff -/
def setAdd (o : Opts) (xs ys : List Json) : List Json :=
  (hsort (hdedup ((ys.map (identOf o)).filter (fun h => !(xs.map (identOf o)).contains h)))).filterMap
    (fun h => identLookup o h ys)

/-- the surplus members of a multiset diff -/
def bagSurplus (o : Opts) (xs ys : List Json) : List Json :=
  (hsort (hdedup (hashList o xs))).flatMap (fun h =>
    match hashLookup o h xs with
    | some v => List.replicate (countOcc h (hashList o xs) - countOcc h (hashList o ys)) v
    | none => [])

end Jd.SetDP

namespace Jd.DES
open Jd Jd.Spec Jd.SetDP


/-- the set hunk computed by `jsonSet.diff` once the strategy test is passed -/
def setBody (o : Opts) (m : Bool) (p : Path) (xs ys : List Json) : Diff :=
  (ksort (diffSetElems o m p ys xs)).flatMap subOf ++
    (if ((ksort (diffSetElems o m p ys xs)).filterMap remOf).isEmpty &&
        (setAdd o xs ys).isEmpty then []
     else [{ path := p ++ [.set],
             remove := (ksort (diffSetElems o m p ys xs)).filterMap remOf,
             add := setAdd o xs ys }])

/-- a plain array read as a set against a node that dispatches to a set -/
theorem diffNode_set {o : Opts} (hd : dispatchTag o = .set) (m : Bool) (xs : List Json) (b : Json)
    (ys : List Json) (hb : b.dispatch o = .arr .set ys) (p : Path) :
    diffNode o m (.arr .raw xs) b p =
      if m && !(equals o (.arr .set xs) (.arr .set ys)) then
        [{ merge := true, path := p, add := (Json.arr .set ys).nodeList }]
      else setBody o m p xs ys := by
  rw [diffNode.eq_def]
  simp only [effTag, hd, beq_self_eq_true, if_true, hb]
  rfl

/-- a plain array read as a set or multiset against a node that does not dispatch to the same:
    one hunk replacing the value -/
theorem diffNode_arr_other_ne {o : Opts} {t : Tag} (hd : dispatchTag o = t)
    (ht : t = .set ∨ t = .mset) (m : Bool) (xs : List Json) (b : Json)
    (hb : ∀ ys, b.dispatch o ≠ .arr t ys) (p : Path) : diffNode o m (.arr .raw xs) b p ≠ [] := by
  rw [DE.diffNode_arr_other_m hd ht m xs b hb p]
  cases m <;> simp

theorem diffNode_set_other {o : Opts} (hd : dispatchTag o = .set) (m : Bool) (xs : List Json)
    (b : Json) (hb : ∀ ys, b.dispatch o ≠ .arr .set ys) (p : Path) :
    diffNode o m (.arr .raw xs) b p ≠ [] :=
  diffNode_arr_other_ne hd (.inl rfl) m xs b hb p

/-- the multiset hunk -/
def msetBody (o : Opts) (p : Path) (xs ys : List Json) : Diff :=
  if (bagSurplus o xs ys).isEmpty && (bagSurplus o ys xs).isEmpty then []
  else [{ path := p ++ [.mset], remove := bagSurplus o xs ys, add := bagSurplus o ys xs }]

theorem diffNode_mset {o : Opts} (hd : dispatchTag o = .mset) (m : Bool) (xs : List Json) (b : Json)
    (ys : List Json) (hb : b.dispatch o = .arr .mset ys) (p : Path) :
    diffNode o m (.arr .raw xs) b p =
      if m && !(equals o (.arr .mset xs) (.arr .mset ys)) then
        [{ merge := true, path := p, add := (Json.arr .mset ys).nodeList }]
      else msetBody o p xs ys := by
  rw [diffNode.eq_def]
  simp only [effTag, hd, beq_self_eq_true, if_true, hb]
  rfl

end Jd.DES

namespace Jd.SetDP
open Jd Jd.Spec

/-! ### the strict strategy, both documents as read from text -/

theorem diffNode_set_set {o : Opts} (hd : dispatchTag o = .set) (xs ys : List Json) (p : Path) :
    diffNode o false (.arr .raw xs) (.arr .raw ys) p =
      (ksort (diffSetElems o false p ys xs)).flatMap subOf ++
        (if ((ksort (diffSetElems o false p ys xs)).filterMap remOf).isEmpty &&
            (setAdd o xs ys).isEmpty then []
         else [{ path := p ++ [.set],
                 remove := (ksort (diffSetElems o false p ys xs)).filterMap remOf,
                 add := setAdd o xs ys }]) :=
  DES.diffNode_set hd false xs _ ys (by rw [Json.dispatch, hd]) p

theorem diffSetElems_cons (o : Opts) (p : Path) (ys : List Json) (x : Json) (r : List Json) :
    diffSetElems o false p ys (x :: r) =
      if (r.map (identOf o)).contains (identOf o x) then diffSetElems o false p ys r
      else match identLookup o (identOf o x) ys with
        | none => (identOf o x, .removed x) :: diffSetElems o false p ys r
        | some y =>
          match x, y with
          | .obj kvs, .obj _ =>
            (identOf o x, .sub (diffNode o false (.obj kvs) y (p ++ [newPathSetKeys o kvs]))) ::
              diffSetElems o false p ys r
          | _, _ => diffSetElems o false p ys r :=
  DE.diffSetElems_cons_m o false p ys x r

theorem diffNode_mset_mset {o : Opts} (hd : dispatchTag o = .mset) (xs ys : List Json) (p : Path) :
    diffNode o false (.arr .raw xs) (.arr .raw ys) p =
      if (bagSurplus o xs ys).isEmpty && (bagSurplus o ys xs).isEmpty then []
      else [{ path := p ++ [.mset], remove := bagSurplus o xs ys, add := bagSurplus o ys xs }] :=
  DES.diffNode_mset hd false xs _ ys (by rw [Json.dispatch, hd]) p

/-- an array against a non-array: one hunk replacing the whole value; the removed value is the
    PLAIN array -/
theorem diffNode_arr_other {o : Opts} (hm : dispatchTag o = .set ∨ dispatchTag o = .mset)
    (xs : List Json) (b : Json) (hb : ∀ t ys, b ≠ .arr t ys) (p : Path) :
    diffNode o false (.arr .raw xs) b p =
      [{ path := p, remove := [.arr .raw xs], add := b.nodeList }] := by
  have hd : b.dispatch o = b := by cases b <;> first | rfl | exact absurd rfl (hb _ _)
  rw [DE.diffNode_arr_other_m rfl hm false xs b (fun ys e => hb _ ys (hd ▸ e)) p, hd]
  rfl

/-! ## 3. what the set diff computes: the algorithm of JdProofs.SetAlg at `identOf o` -/

theorem identLookup_eq (o : Opts) (h : UInt64) :
    ∀ l : List Json, identLookup o h l = lookupBy (identOf o) h l
  | [] => rfl
  | x :: r => by
    rw [identLookup, lookupBy, identLookup_eq o h r]
    cases lookupBy (identOf o) h r <;> rfl

/-- the parts of a set diff, either strategy: a removed member, or the diff of two objects with the
    same identity -/
theorem diffSetElems_eq (o : Opts) (m : Bool) (p : Path) (ys : List Json) : ∀ xs : List Json,
    diffSetElems o m p ys xs = setParts (identOf o) SetPart.removed
      (objPair fun kvs y => .sub (diffNode o m (.obj kvs) y (p ++ [newPathSetKeys o kvs]))) ys xs
  | [] => by rw [DE.diffSetElems_nil_m, setParts]
  | x :: r => by
    rw [DE.diffSetElems_cons_m, setParts, diffSetElems_eq o m p ys r, identLookup_eq]
    cases lookupBy (identOf o) (identOf o x) ys with
    | none => rfl
    | some y => cases x <;> cases y <;> rfl

theorem setAdd_eq (o : Opts) (xs ys : List Json) : setAdd o xs ys = addBy (identOf o) xs ys := by
  simp only [setAdd, addBy, identLookup_eq]

theorem bagSurplus_eq (o : Opts) (xs ys : List Json) :
    bagSurplus o xs ys = surplusBy (hashCode o) xs ys := by
  simp only [bagSurplus, surplusBy, hashList_eq_map, hashLookup_eq]
  rfl

theorem identLookup_none {o : Opts} {h : UInt64} {l : List Json} :
    identLookup o h l = none ↔ h ∉ l.map (identOf o) := by
  rw [identLookup_eq]; exact lookupBy_eq_none

theorem identLookup_some {o : Opts} {h : UInt64} {y : Json} {l : List Json}
    (e : identLookup o h l = some y) : y ∈ l ∧ identOf o y = h :=
  lookupBy_mem ((identLookup_eq o h l).symm.trans e)

theorem identLookup_of_mem {o : Opts} {h : UInt64} {l : List Json} (hm : h ∈ l.map (identOf o)) :
    ∃ x, identLookup o h l = some x := by
  rw [identLookup_eq]; exact lookupBy_of_mem hm

/-- which parts a set diff has: for each identity `h` of the first array its LAST bearer `x`, removed
    when the second array has no member with identity `h`, sub-diffed against the last bearer there
    when both are objects, and nothing otherwise -/
theorem mem_diffSetElems {o : Opts} {m : Bool} {p : Path} {ys : List Json} {h : UInt64}
    {part : SetPart} {xs : List Json} : (h, part) ∈ diffSetElems o m p ys xs ↔
      ∃ x, identLookup o h xs = some x ∧
        match identLookup o h ys with
        | none => part = .removed x
        | some y => ∃ kvs kvs', x = .obj kvs ∧ y = .obj kvs' ∧
            part = .sub (diffNode o m (.obj kvs) (.obj kvs') (p ++ [newPathSetKeys o kvs])) := by
  rw [diffSetElems_eq, mem_setParts, identLookup_eq, identLookup_eq]
  refine exists_congr fun x => and_congr_right fun _ => ?_
  cases lookupBy (identOf o) h ys with
  | none => rfl
  | some y =>
    show objPair _ x y = some part ↔ _
    rw [objPair_eq_some]
    exact ⟨fun ⟨kvs, kvs', e1, e2, e3⟩ => ⟨kvs, kvs', e1, e2, e2 ▸ e3⟩,
      fun ⟨kvs, kvs', e1, e2, e3⟩ => ⟨kvs, kvs', e1, e2, e2 ▸ e3⟩⟩

theorem sub_mem_diffSetElems {o : Opts} {m : Bool} {p : Path} {ys xs : List Json} {h : UInt64}
    {d : Diff} : (h, SetPart.sub d) ∈ diffSetElems o m p ys xs ↔
      ∃ kvs kvs', identLookup o h xs = some (.obj kvs) ∧ identLookup o h ys = some (.obj kvs') ∧
        d = diffNode o m (.obj kvs) (.obj kvs') (p ++ [newPathSetKeys o kvs]) := by
  rw [mem_diffSetElems]
  cases identLookup o h ys with
  | none => simp
  | some y =>
    simp only [SetPart.sub.injEq, Option.some.injEq]
    constructor
    · rintro ⟨x, hx, kvs, kvs', rfl, rfl, rfl⟩; exact ⟨kvs, kvs', hx, rfl, rfl⟩
    · rintro ⟨kvs, kvs', hx, rfl, rfl⟩; exact ⟨_, hx, kvs, kvs', rfl, rfl, rfl⟩

/-- **where a sub-diff among the parts of a set diff comes from**: the LAST bearers of one identity
    on either side, both objects -/
theorem sub_origin {o : Opts} {m : Bool} {p : Path} {ys xs : List Json} {c : UInt64} {d : Diff}
    (hm : (c, SetPart.sub d) ∈ diffSetElems o m p ys xs) :
    ∃ kvs kvs', c = identOf o (.obj kvs) ∧ identOf o (.obj kvs') = identOf o (.obj kvs) ∧
      identLookup o c xs = some (.obj kvs) ∧ identLookup o c ys = some (.obj kvs') ∧
      Json.obj kvs ∈ xs ∧ Json.obj kvs' ∈ ys ∧
      d = diffNode o m (.obj kvs) (.obj kvs') (p ++ [newPathSetKeys o kvs]) :=
  have ⟨kvs, kvs', ex, ey, e⟩ := sub_mem_diffSetElems.1 hm
  have hx := identLookup_some ex
  have hy := identLookup_some ey
  ⟨kvs, kvs', hx.2.symm, hy.2.trans hx.2.symm, ex, ey, hx.1, hy.1, e⟩

/-- the removed members of the set hunk (in the order of their identities) and its added members
    turn the identities of `xs` into those of `ys` -/
theorem setDelta (o : Opts) (m : Bool) (p : Path) (xs ys : List Json) :
    SetDelta (identOf o) xs ys ((ksort (diffSetElems o m p ys xs)).filterMap remOf)
      (setAdd o xs ys) := by
  rw [diffSetElems_eq, setAdd_eq]
  exact setDelta_parts _ (fun s : SetPart => match s with | .removed x => some x | .sub _ => none)
    (fun _ => rfl) (fun x y q e => by
      obtain ⟨_, _, _, _, rfl⟩ := objPair_eq_some.1 e; rfl) xs ys

/-- the identities of the parts are identities of `xs`, pairwise different -/
theorem parts_keys (o : Opts) (m : Bool) (p : Path) (ys xs : List Json) :
    (∀ kp ∈ diffSetElems o m p ys xs, kp.1 ∈ xs.map (identOf o)) ∧
      ((diffSetElems o m p ys xs).map (·.1)).Nodup := by
  rw [diffSetElems_eq]; exact setParts_keys _ _ ys xs

/-- the added members of a set hunk are empty exactly when every identity of the second array
    occurs in the first -/
theorem _root_.Jd.DES.add_nil_iff (o : Opts) (xs ys : List Json) :
    setAdd o xs ys = [] ↔ ∀ h ∈ ys.map (identOf o), h ∈ xs.map (identOf o) := by
  have h2 := (setDelta o false [] xs ys).add_keys
  constructor
  · intro hnil h hy
    refine Classical.byContradiction fun hx => ?_
    have := (h2 h).2 ⟨hy, hx⟩
    rw [hnil] at this
    cases this
  · intro hall
    rw [List.eq_nil_iff_forall_not_mem]
    intro z hz
    obtain ⟨h1, hn⟩ := (h2 _).1 (List.mem_map_of_mem (f := identOf o) hz)
    exact hn (hall _ h1)

theorem _root_.Jd.DES.mem_hsort_hdedup (c : UInt64) (l : List UInt64) : c ∈ hsort (hdedup l) ↔ c ∈ l := by
  rw [(hsort_perm _).mem_iff, mem_hdedup]

/-- arrays hashed as sets from the same member hash codes have the same member hash codes -/
theorem mem_hashes_iff {o : Opts} {xs ys : List Json}
    (h : hsort (hdedup (hashList o xs)) = hsort (hdedup (hashList o ys))) (c : UInt64) :
    c ∈ xs.map (hashCode o) ↔ c ∈ ys.map (hashCode o) := by
  rw [← hashList_eq_map, ← hashList_eq_map, ← DES.mem_hsort_hdedup c (hashList o xs),
    ← DES.mem_hsort_hdedup c (hashList o ys), h]

theorem hashCode_arr_set (o : Opts) (l : List Json) :
    hashCode o (.arr .set l) = hcombine (hdedup (hashList o l)) := by
  simp [hashCode, effTag]

theorem hashCode_arr_mset (o : Opts) (l : List Json) :
    hashCode o (.arr .mset l) = fnv1a ((hsort (hashList o l)).flatMap le8) := by
  simp [hashCode, effTag]

/-! ## 4. when the diff of a node is empty -/

theorem equivB_scalar_equals_nil {o : Opts} (hp : precOf o = 0) {a b : Json}
    (ha : ∀ t xs, a ≠ .arr t xs) (ha' : ∀ kvs, a ≠ .obj kvs) :
    equivB o a b = equals [] a b := by
  rw [← equals_eq_equivB_scalar o a b ha ha', equals_scalar_noopts hp a b ha ha']

/-- object against object: the diff is empty when every member of the first has a partner with an
    empty diff and the second has no other key -/
theorem diffNode_obj_nil {o : Opts} {m : Bool} {kvs kvs' : List (String × Json)}
    (h1 : ∀ k v, (k, v) ∈ kvs → ∃ v', alookup k kvs' = some v' ∧ ∀ q, diffNode o m v v' q = [])
    (h2 : ∀ k' v', (k', v') ∈ kvs' → (alookup k' kvs).isSome = true) (p : Path) :
    diffNode o m (.obj kvs) (.obj kvs') p = [] := by
  rw [DE.diffNode_obj_obj, DE.diffKvs_eq_flatMap, filter_added_nil h2, List.map_nil,
    List.append_nil, List.flatMap_eq_nil_iff]
  rintro ⟨k, v⟩ hkv
  obtain ⟨v', hl, he⟩ := h1 k v hkv
  rw [DE.keyDiff, hl]
  exact he _

/-- the first loop of `jsonObject.diff` emits nothing only if every member has a partner and their
    diff is empty -/
theorem diffKvs_nil_inv {o : Opts} {m : Bool} {p : Path} {kvs' r : List (String × Json)}
    (hd : diffKvs o m p kvs' r = []) (k : String) (v : Json) (hm : (k, v) ∈ r) :
    ∃ v', alookup k kvs' = some v' ∧ diffNode o m v v' (p ++ [.key k]) = [] := by
  rw [DE.diffKvs_eq_flatMap, List.flatMap_eq_nil_iff] at hd
  have := hd _ hm
  rw [DE.keyDiff] at this
  cases hl : alookup k kvs' with
  | some v' => rw [hl] at this; exact ⟨v', rfl, this⟩
  | none => rw [hl] at this; cases m <;> cases this

end Jd.SetDP

namespace Jd.DES
open Jd Jd.Spec Jd.SetDP

/-- the sub-diffs of a set diff are empty when object members with the same identity have an
    empty diff -/
theorem subs_nil_of (o : Opts) (m : Bool) (p : Path) (xs ys : List Json)
    (H : ∀ kvs kvs', Json.obj kvs ∈ xs → Json.obj kvs' ∈ ys →
      identOf o (.obj kvs') = identOf o (.obj kvs) →
      ∀ q, diffNode o m (.obj kvs) (.obj kvs') q = []) :
    (ksort (diffSetElems o m p ys xs)).flatMap subOf = [] := by
  rw [List.flatMap_eq_nil_iff]
  rintro ⟨h, part⟩ hkp
  cases part with
  | removed z => rfl
  | sub d =>
    obtain ⟨kvs, kvs', _, h3, _, _, h1, h2, rfl⟩ := sub_origin ((ksort_perm _).mem_iff.1 hkp)
    exact H kvs kvs' h1 h2 h3 _

theorem setBody_nil_iff (o : Opts) (m : Bool) (p : Path) (xs ys : List Json) :
    setBody o m p xs ys = [] ↔
      (ksort (diffSetElems o m p ys xs)).flatMap subOf = [] ∧
      (∀ h, h ∈ xs.map (identOf o) ↔ h ∈ ys.map (identOf o)) := by
  have D := setDelta o m p xs ys
  unfold setBody
  rw [List.append_eq_nil_iff]
  refine and_congr_right fun _ => ⟨fun h2 => ?_, fun h2 => ?_⟩
  · split at h2
    · next hc =>
      simp only [Bool.and_eq_true, List.isEmpty_iff] at hc
      rw [hc.1, hc.2] at D
      exact D.keys_of_nil
    · cases h2
  · obtain ⟨e1, e2⟩ := D.nil_of_keys h2
    rw [e1, e2]
    rfl

theorem msetBody_nil_iff (o : Opts) (p : Path) (xs ys : List Json) :
    msetBody o p xs ys = [] ↔ (hashList o xs).Perm (hashList o ys) := by
  unfold msetBody
  rw [bagSurplus_eq, bagSurplus_eq, hashList_eq_map, hashList_eq_map]
  constructor
  · intro h
    split at h
    · next hc =>
      simp only [Bool.and_eq_true, List.isEmpty_iff] at hc
      exact List.perm_iff_count.2 (counts_of_surplus_nil _ hc.1 hc.2)
    · cases h
  · intro h
    rw [surplusBy_nil _ (fun c => Nat.le_of_eq (h.count_eq c)),
      surplusBy_nil _ (fun c => Nat.le_of_eq (h.count_eq c).symm)]
    rfl

/-! ## 5. `Equals` on arrays in the set modes; members of well-formed documents -/

/-- only a plain array is changed by `dispatch` -/
theorem dispatch_eq_arr {o : Opts} {t : Tag} {b : Json} {ys : List Json}
    (hb : b.dispatch o = .arr t ys) : b = .arr .raw ys ∨ b = .arr t ys := by
  cases b with
  | arr t' zs => cases t' <;> simp_all [Json.dispatch]
  | _ => simp [Json.dispatch] at hb

theorem dispatch_eq_set {o : Opts} (_ : dispatchTag o = .set) {b : Json} {ys : List Json}
    (hb : b.dispatch o = .arr .set ys) : b = .arr .raw ys ∨ b = .arr .set ys :=
  dispatch_eq_arr hb

theorem equals_raw_set {o : Opts} (hd : dispatchTag o = .set) (xs : List Json) {b : Json}
    {ys : List Json} (hb : b.dispatch o = .arr .set ys) :
    equals o (.arr .raw xs) b =
      (hcombine (hdedup (hashList o xs)) == hcombine (hdedup (hashList o ys))) := by
  simp only [equals, effTag, hd, hb, hashCode_arr_set]

theorem equals_set_set (o : Opts) (xs ys : List Json) :
    equals o (.arr .set xs) (.arr .set ys) =
      (hcombine (hdedup (hashList o xs)) == hcombine (hdedup (hashList o ys))) := by
  simp only [equals, effTag, Json.dispatch, hashCode_arr_set]

theorem equals_raw_other {o : Opts} {t : Tag} (hd : dispatchTag o = t) (ht : t = .set ∨ t = .mset)
    (xs : List Json) {b : Json} (hb : ∀ ys, b.dispatch o ≠ .arr t ys) :
    equals o (.arr .raw xs) b = false := by
  rcases ht with rfl | rfl <;>
  · simp only [equals, effTag, hd]
    generalize b.dispatch o = b' at hb
    cases b' with
    | arr t ys => cases t <;> first | exact absurd rfl (hb ys) | rfl
    | _ => rfl

theorem equals_raw_set_other {o : Opts} (hd : dispatchTag o = .set) (xs : List Json) {b : Json}
    (hb : ∀ ys, b.dispatch o ≠ .arr .set ys) : equals o (.arr .raw xs) b = false :=
  equals_raw_other hd (.inl rfl) xs hb

theorem equals_raw_mset {o : Opts} (hd : dispatchTag o = .mset) (xs : List Json) {b : Json}
    {ys : List Json} (hb : b.dispatch o = .arr .mset ys) :
    equals o (.arr .raw xs) b =
      (xs.length == ys.length &&
        fnv1a ((hsort (hashList o xs)).flatMap le8) ==
          fnv1a ((hsort (hashList o ys)).flatMap le8)) := by
  simp only [equals, effTag, hd, hb, hashCode_arr_mset]

theorem equals_mset_mset (o : Opts) (xs ys : List Json) :
    equals o (.arr .mset xs) (.arr .mset ys) =
      (xs.length == ys.length &&
        fnv1a ((hsort (hashList o xs)).flatMap le8) ==
          fnv1a ((hsort (hashList o ys)).flatMap le8)) := by
  simp only [equals, effTag, Json.dispatch, hashCode_arr_mset]

/-- the readings of SET without SetKeys, or MULTISET (where SetKeys plays no role) -/
def SetReading (o : Opts) : Prop :=
  (dispatchTag o = .set ∧ keysOf o = none) ∨ dispatchTag o = .mset

theorem SetReading.tag {o : Opts} (hm : SetReading o) :
    dispatchTag o = .set ∨ dispatchTag o = .mset :=
  hm.elim (fun h => .inl h.1) .inr

/-! ## 6. (⇐) `Equals` means an empty diff — relative to a no-collision hypothesis -/

/-- the hash codes whose bytes are hashed to give the hash code of an array node (sorted distinct
    member hash codes for a set, sorted member hash codes for a multiset) -/
def arrPre (o : Opts) : Json → List UInt64
  | .arr t xs =>
    match effTag o t with
    | .set => hsort (hdedup (hashList o xs))
    | .mset => hsort (hashList o xs)
    | _ => hashList o xs
  | _ => []

/-- what the diff needs of two nodes with the same hash code: two arrays were hashed from the same
    member hash codes (no FNV collision); two objects are `Equals` (no collision, no alias) — the
    latter in the SET reading only: the multiset diff never looks inside a member -/
def pairOK (o : Opts) (x y : Json) : Bool :=
  match x, y with
  | .obj _, .obj _ => dispatchTag o == .mset || equals o x y
  | .arr _ _, .arr _ _ => arrPre o x == arrPre o y
  | _, _ => true

/-- no harmful hash collision between the nodes `SA` of the first and `SB` of the second document -/
def DiffFaithful (o : Opts) (SA SB : List Json) : Prop :=
  ∀ x ∈ SA, ∀ y ∈ SB, hashCode o x = hashCode o y → pairOK o x y = true

theorem DiffFaithful.mono {o : Opts} {SA SB SA' SB' : List Json} (h : DiffFaithful o SA SB)
    (ha : ∀ x ∈ SA', x ∈ SA) (hb : ∀ y ∈ SB', y ∈ SB) : DiffFaithful o SA' SB' :=
  fun x hx y hy e => h x (ha x hx) y (hb y hy) e

theorem diffNode_nil_of_equals {o : Opts} (hm : SetReading o) (hp : precOf o = 0) (m : Bool)
    {SA SB : List Json} (FH : DiffFaithful o SA SB) :
    ∀ a : Json, a.rawDoc = true → a.wf = true → Within SA a →
      ∀ b : Json, b.wf = true → Within SB b → equals o a b = true →
      ∀ p, diffNode o m a b p = [] := by
  intro a
  induction a using jsonIndScalar with
  | scalar a h1 h2 => intro _ _ _ b _ _ h p; exact (diffNode_scalar_nil_iff hp m a b h1 h2 p).2 h
  | arr t xs ih =>
    intro hr hw wa b hwb wb h p
    simp only [Json.rawDoc, Bool.and_eq_true, beq_iff_eq] at hr
    obtain ⟨rfl, hrx⟩ := hr
    simp only [Json.wf] at hw
    rcases hm with ⟨hd, hk⟩ | hd
    · have hraw : effTag o .raw = .set := by simp [effTag, hd]
      by_cases hb : ∃ ys, b.dispatch o = .arr .set ys
      · obtain ⟨ys, hb⟩ := hb
        rw [equals_raw_set hd xs hb, beq_iff_eq] at h
        rw [diffNode_set hd m xs b ys hb p, equals_set_set, h]
        simp only [beq_self_eq_true, Bool.not_true, Bool.and_false, Bool.false_eq_true, if_false]
        have hbt : ∃ t', b = .arr t' ys ∧ effTag o t' = .set := by
          rcases dispatch_eq_set hd hb with rfl | rfl
          · exact ⟨_, rfl, by simp [effTag, hd]⟩
          · exact ⟨_, rfl, rfl⟩
        obtain ⟨t', rfl, ht'⟩ := hbt
        have hwy : wfList ys = true := by simpa [Json.wf] using hwb
        rw [setBody_nil_iff]
        constructor
        · apply subs_nil_of
          intro kvs kvs' hx hy e q
          rw [identOf_eq_hashCode hk, identOf_eq_hashCode hk] at e
          have hok := FH _ (wa.elem hx).self _ (wb.elem hy).self e.symm
          simp only [pairOK, hd] at hok
          have : (Tag.set == Tag.mset) = false := rfl
          rw [this, Bool.false_or] at hok
          exact ih _ hx (rawDocList_mem hrx hx) (wfList_mem hw hx) (wa.elem hx) _
            (wfList_mem hwy hy) (wb.elem hy) hok q
        · have hh : hashCode o (.arr .raw xs) = hashCode o (.arr t' ys) := by
            simp only [hashCode, hraw, ht']
            exact h
          have hok := FH _ wa.self _ wb.self hh
          simp only [pairOK, arrPre, hraw, ht', beq_iff_eq] at hok
          rw [funext (identOf_eq_hashCode hk)]
          exact mem_hashes_iff hok
      · rw [equals_raw_set_other hd xs (fun ys e => hb ⟨ys, e⟩)] at h
        cases h
    · have hraw : effTag o .raw = .mset := by simp [effTag, hd]
      by_cases hb : ∃ ys, b.dispatch o = .arr .mset ys
      · obtain ⟨ys, hb⟩ := hb
        have h' := h
        rw [equals_raw_mset hd xs hb, Bool.and_eq_true, beq_iff_eq, beq_iff_eq] at h'
        have he : equals o (.arr .mset xs) (.arr .mset ys) = true := by
          rw [equals_mset_mset, ← equals_raw_mset hd xs hb]; exact h
        rw [diffNode_mset hd m xs b ys hb p, he]
        simp only [Bool.not_true, Bool.and_false, Bool.false_eq_true, if_false]
        have hbt : ∃ t', b = .arr t' ys ∧ effTag o t' = .mset := by
          rcases dispatch_eq_arr hb with rfl | rfl
          · exact ⟨_, rfl, by simp [effTag, hd]⟩
          · exact ⟨_, rfl, rfl⟩
        obtain ⟨t', rfl, ht'⟩ := hbt
        have hh : hashCode o (.arr .raw xs) = hashCode o (.arr t' ys) := by
          simp only [hashCode, hraw, ht']
          exact h'.2
        have hok := FH _ wa.self _ wb.self hh
        simp only [pairOK, arrPre, hraw, ht', beq_iff_eq] at hok
        rw [msetBody_nil_iff]
        exact (hsort_perm _).symm.trans (hok ▸ hsort_perm _)
      · rw [equals_raw_other hd (.inr rfl) xs (fun ys e => hb ⟨ys, e⟩)] at h
        cases h
  | obj kvs ih =>
    intro hr hw wa b hwb wb h p
    cases b with
    | obj kvs' =>
      simp only [Json.rawDoc] at hr
      simp only [Json.wf, Bool.and_eq_true] at hw hwb
      obtain ⟨h1, h2⟩ := (equals_obj_iff o hw.1 hwb.1).1 h
      refine diffNode_obj_nil (fun k v hmem => ?_) h2 p
      obtain ⟨v', hl, he⟩ := h1 k v hmem
      exact ⟨v', hl, ih k v hmem (rawDocKvs_mem hr hmem) (wfKvs_mem hw.2 hmem) (wa.val hmem) v'
        (alookup_wf hl hwb.2) (wb.val (mem_of_alookup hl)) he⟩
    | _ => simp [equals] at h

theorem within_subterms (a : Json) : Within (subterms a) a := fun _ h => h

/-! ## 7. `HashFaithful` implies `DiffFaithful`; equivalent documents have an empty diff -/

theorem subterms_trans {x z : Json} (hz : z ∈ subterms x) : ∀ a, x ∈ subterms a → z ∈ subterms a := by
  intro a
  induction a using jsonInd with
  | void => intro h; simp only [subterms, List.mem_singleton] at h; exact h ▸ hz
  | null => intro h; simp only [subterms, List.mem_singleton] at h; exact h ▸ hz
  | bool _ => intro h; simp only [subterms, List.mem_singleton] at h; exact h ▸ hz
  | num _ => intro h; simp only [subterms, List.mem_singleton] at h; exact h ▸ hz
  | str _ => intro h; simp only [subterms, List.mem_singleton] at h; exact h ▸ hz
  | arr t xs ih =>
    intro h
    simp only [subterms, List.mem_cons] at h
    rcases h with rfl | h
    · exact hz
    · obtain ⟨x', hx', hxx⟩ := mem_subtermsList_iff.1 h
      exact subterms_elem_sub hx' (ih x' hx' hxx)
  | obj kvs ih =>
    intro h
    simp only [subterms, List.mem_cons] at h
    rcases h with rfl | h
    · exact hz
    · obtain ⟨k, v, hm, hxx⟩ := mem_subtermsKvs_iff.1 h
      exact subterms_val_sub hm (ih k v hm hxx)

/-- `HashFaithful` (equal hash codes only for equivalent nodes: the hypothesis of
    `equals_eq_equivB_set/_mset` and of `diff_then_patch_set/_mset`) implies `DiffFaithful`, on
    `setDoc` documents and with the IEEE-754 law `FloatEq0` -/
theorem diffFaithful_of_hashFaithful (F : FloatEq0) {o : Opts}
    (hm : dispatchTag o = .set ∨ dispatchTag o = .mset) (hp : precOf o = 0) {a b : Json}
    (da : DocOk a) (db : DocOk b) (HF : HashFaithful o (subterms a ++ subterms b)) :
    DiffFaithful o (subterms a) (subterms b) := by
  intro x hx y hy e
  have dx : DocOk x := fun z hz => da z (subterms_trans hz a hx)
  have dy : DocOk y := fun z hz => db z (subterms_trans hz b hy)
  have wx : Within (subterms a ++ subterms b) x :=
    fun z hz => List.mem_append.2 (.inl (subterms_trans hz a hx))
  have wy : Within (subterms a ++ subterms b) y :=
    fun z hz => List.mem_append.2 (.inr (subterms_trans hz b hy))
  have heq : equivB o x y = true := HF x wx.self y wy.self e
  cases x with
  | obj kvs =>
    cases y with
    | obj kvs' =>
      simp only [pairOK]
      rw [equals_eq_equivB_of F hm hp HF dx dy wx wy, heq, Bool.or_true]
    | _ => rfl
  | arr t xs =>
    cases y with
    | arr t' ys =>
      have ht := dx.raw
      have ht' := dy.raw
      subst ht ht'
      have hhash : ∀ x' ∈ xs, ∀ y' ∈ ys, equivB o x' y' = true → hashCode o x' = hashCode o y' :=
        fun x' hx' y' hy' e' => equivB_hash_core F o hm hp x' y' (dx.elem hx') (dy.elem hy') e'
      rcases hm with hd | hd
      · simp only [pairOK, arrPre, effTag, hd, beq_iff_eq]
        exact hsort_hdedup_of_equivB hd heq hhash
      · simp only [pairOK, arrPre, effTag, hd, beq_iff_eq]
        exact hsort_of_equivB hd heq hhash
    | _ => rfl
  | _ => rfl

end Jd.DES


namespace Jd.SetDP
open Jd Jd.Spec

/-- equivalent documents have an empty diff (strict strategy): under `HashFaithful` they are `Equals`,
    and no two of their nodes collide harmfully -/
theorem diffNode_nil_of_equivB (F : FloatEq0) {o : Opts}
    (hm : dispatchTag o = .set ∨ dispatchTag o = .mset) (hk : keysOf o = none) (hp : precOf o = 0)
    {S : List Json} (HF : HashFaithful o S) :
    ∀ a b, DocOk a → DocOk b → Within S a → Within S b → equivB o a b = true →
      ∀ p, diffNode o false a b p = [] := by
  intro a b da db wa wb h p
  have HF' : HashFaithful o (subterms a ++ subterms b) :=
    HF.mono fun z hz => (List.mem_append.1 hz).elim (wa z) (wb z)
  refine DES.diffNode_nil_of_equals (hm.elim (fun hd => .inl ⟨hd, hk⟩) .inr) hp false
    (DES.diffFaithful_of_hashFaithful F hm hp da db HF') a (rawDoc_wf_of_docOk a da).1
    (rawDoc_wf_of_docOk a da).2 (DES.within_subterms a) b (rawDoc_wf_of_docOk b db).2
    (DES.within_subterms b) ?_ p
  rw [equals_eq_equivB_of F hm hp HF da db wa wb]
  exact h

end Jd.SetDP
