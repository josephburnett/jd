/-
  JdProofs.TableEval — two rewrites for the kernel evaluation of the tables of source sites
  (JdProofs/PathSites.lean, PathSitesV1.lean, JdProps/C15Heap.lean). The tables are evaluated on lists of
  bytes because the kernel decodes a string literal anew at every comparison, and `String.startsWith`
  compares bytes by a well-founded recursion where `List.isPrefixOf` is structural.

  * `startsWith_eq_bytes`: `startsWith` as a prefix test on the lists of bytes;
  * `all_filter_test_first`: `(l.filter p).all q` with `q` tested first, so that a selection `p` by file name
    is only evaluated for an entry on which `q` fails.
  Core only.
-/

namespace Jd

open String.Slice.Pattern in
theorem startsWith_true_iff (s pat : String) :
    s.startsWith pat = true ↔ pat.toByteArray.size ≤ s.toByteArray.size ∧
      s.toByteArray.extract 0 pat.toByteArray.size = pat.toByteArray := by
  unfold String.startsWith String.Slice.startsWith
  simp only [ForwardPattern.startsWith, ForwardSliceSearcher.startsWith]
  split
  · rename_i h
    rw [Internal.memcmpSlice_eq_true_iff]
    simp only [String.size_toByteArray] at h ⊢
    simp at h ⊢
    rw [← String.size_toByteArray (s := pat), ByteArray.extract_zero_size]
    exact ⟨fun e => ⟨by simpa using h, e⟩, And.right⟩
  · rename_i h
    simp at h ⊢
    omega

theorem bytes_prefix (P S : ByteArray) :
    (P.size ≤ S.size ∧ S.extract 0 P.size = P) ↔ P.data.toList = S.data.toList.take P.data.toList.length := by
  constructor
  · rintro ⟨_, e⟩
    conv => lhs; rw [← e]
    simp [ByteArray.data_extract]
  · intro e
    have hl := congrArg List.length e
    simp at hl
    refine ⟨by omega, ByteArray.ext (Array.toList_inj.1 ?_)⟩
    simp [ByteArray.data_extract]
    exact e.symm

theorem startsWith_eq_bytes (s pat : String) :
    s.startsWith pat = pat.toByteArray.data.toList.isPrefixOf s.toByteArray.data.toList := by
  rw [Bool.eq_iff_iff, startsWith_true_iff, List.isPrefixOf_iff_prefix, List.prefix_iff_eq_take, bytes_prefix]

theorem all_filter_test_first {α} (l : List α) (p q : α → Bool) :
    (l.filter p).all q = l.all (fun a => q a || !p a) := by
  rw [List.all_filter]
  exact congrArg _ (funext fun _ => Bool.or_comm ..)

end Jd
