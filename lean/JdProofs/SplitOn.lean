/-
  JdProofs.SplitOn — Go's `strings.Split(s, sep)` for a separator of one character, i.e. Lean's
  `String.splitOn` (a loop over byte positions), computed on the list of characters. Used for the set
  keys (`,`), JSON Pointers (`/`) and wherever a proof has to see the pieces of a split text.
-/
import Batteries.Data.String.Lemmas

namespace Jd
open String

/-- `strings.Split(s, sep)` for a separator of one character, on lists of characters: the loop
    invariant of `String.splitOnAux` (`l` consumed, `m` the current piece, `r` still to read) -/
theorem splitOnAux_char (c : Char) (l m r : List Char) (acc : List String) :
    splitOnAux (ofList (l ++ m ++ r)) (singleton c) ⟨utf8Len l⟩ ⟨utf8Len l + utf8Len m⟩ 0 acc =
      acc.reverse ++ (List.splitOnPPrepend (· == c) r m.reverse).map ofList := by
  have hend (a b : Nat) : a + b ≤ a ↔ b = 0 := by omega
  induction r generalizing l m acc with
  | nil =>
    unfold splitOnAux
    simp only [List.append_nil, atEnd_iff, rawEndPos_ofList, utf8Len_append, Pos.Raw.mk_le_mk,
      Nat.le_refl, if_true]
    simpa using extract_of_valid l m []
  | cons d r ih =>
    have hs : String.singleton c = ofList ([] ++ c :: []) := singleton_eq_ofList
    have hg : Pos.Raw.get (String.singleton c) 0 = c := by rw [hs]; exact get_of_valid [] [c]
    have hn : Pos.Raw.next (String.singleton c) 0 = ⟨c.utf8Size⟩ := by
      rw [hs]; simpa using next_of_valid [] c []
    have he : (String.singleton c).rawEndPos = ⟨c.utf8Size⟩ := by
      rw [hs, rawEndPos_ofList]; simp [utf8Len]
    have hu : ({ byteIdx := utf8Len l + utf8Len m } : Pos.Raw).unoffsetBy 0 =
        ⟨utf8Len l + utf8Len m⟩ := rfl
    unfold splitOnAux
    simp only [List.append_assoc, atEnd_iff, rawEndPos_ofList, utf8Len_append, Pos.Raw.mk_le_mk,
      Nat.add_le_add_iff_left, hend, utf8Len_eq_zero, List.reverse_cons, reduceCtorEq, if_false,
      hg, hn, he, hu, Pos.Raw.le_refl, if_true]
    simp only [by
      simpa [-ofList_append] using
        (⟨get_of_valid (l ++ m) (d :: r), next_of_valid (l ++ m) d r⟩ : _ ∧ _)]
    split <;> rename_i h
    · have hc : d = c := by simpa using h
      subst hc
      have hx : ({ byteIdx := utf8Len l + utf8Len m + d.utf8Size } : Pos.Raw).unoffsetBy
          ⟨d.utf8Size⟩ = ⟨utf8Len l + utf8Len m⟩ := by
        simp [Pos.Raw.unoffsetBy]
      rw [hx]
      have := extract_of_valid l m (d :: r)
      simp only [List.append_assoc] at this
      rw [this]
      simpa [Nat.add_assoc, List.splitOnPPrepend_cons_eq_if] using
        ih (l ++ m ++ [d]) [] ((ofList m) :: acc)
    · simpa [List.splitOnPPrepend_cons_eq_if, h, Nat.add_assoc] using ih l (m ++ [d]) acc

theorem splitOn_char (c : Char) (s : String) :
    s.splitOn (singleton c) = (List.splitOnP (· == c) s.toList).map ofList := by
  have : (singleton c == "") = false := by simp
  simp only [splitOn, this]
  simpa using splitOnAux_char c [] [] s.toList []

/-- `strings.Split(s, ",")` -/
theorem splitOn_comma (s : String) :
    s.splitOn "," = (List.splitOnP (· == ',') s.toList).map ofList := splitOn_char ',' s

end Jd
