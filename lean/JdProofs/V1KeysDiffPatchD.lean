/-
  JdProofs.V1KeysDiffPatchD — property C17 (v1 API `lib/`), SET + setkeys THROUGH THE TEXT (`Render`,
  then `ReadDiffString`), for the theorems of file B. Namespace `Jd.V1K`.

  THEOREMS
    `v1_read_render_setkeys` : `KMode m ks`; `a b`: `setDoc`, `memOK`, `V1P.vfree` (no void inside),
        `b` not void; `V1S.CodecOK nc (diffM m a b)` (the contract about encoding/json used in
        JdProofs/V1SetDiffPatch) and render success:
          V1.readDiffM nc text = .ok (V1.diffM m a b)
        — the keyed diff is read back UNCHANGED. NO hypothesis on hash codes or identities.
    `v1_text_roundtrip_setkeys` : additionally `KeysHyp m ks a b`, `FloatEq0`, `FloatLaws`:
          ∃ d' r, V1.readDiffM nc text = .ok d' ∧ V1.patchM a d' = .ok r ∧ V1.equals m r b = true ∧
                  equivB [.set] r b = true.
    `shape_nodeK` : every hunk of a SET + setkeys diff is a `V1S.GH` hunk (raw documents, no void
        value, not a merge hunk, accepted by `checkDiffElement`), at any path prefix (an instance of
        the induction `V1S.shape_node_of`, which file E uses for MULTISET).
    `keyless_member_breaks_text` : the witness for `HasKey`, in the reading in which the Go
        library fails as well: for `[{"v":"1","w":"1"}]` → `[{"v":"2","w":"2"}]`, setkeys(id), the text
        is read back as the diff and patching with it is an ERROR.
    `ExampleT.ex_text_roundtrip_setkeys` : a run WITHOUT any codec hypothesis:
        `[{"id":"1","v":"1"}]` → `[{"id":"1","v":"2"}]`, `[SET, Setkeys("id")]`: the rendered text is
        `@ [["set","setkeys=id"],{"id":"1"},"v"]  - "1"  + "2"` (kernel evaluation; what the Go code
        prints), it is read back as the diff, patching yields a document that `Equals` the target
        (`t_codecOK` discharges the codec contract — `V1S.codecOK_of_check`: the general round trip of
        `jsonText` / `json.Marshal(node)` —, `t_keysHyp` the hypotheses).
-/
import JdProofs.V1KeysDiffPatchC
import JdProofs.JsonTextRoundTrip
namespace Jd.V1K
open Jd Jd.Spec
open Jd.SetDP (Ok Within)
open Jd.V1P (shift ap vfree vfreeList vfreeKvs)
open Jd.V1S (metaItems pm NM GH Shape)

/-! # Part 3. SET + setkeys through the text -/

theorem rawDocKvs_filter (P : String × Json → Bool) (kvs : List (String × Json))
    (h : rawDocKvs kvs = true) : rawDocKvs (kvs.filter P) = true := by
  rw [rawDocKvs_eq_all, List.all_eq_true] at h ⊢
  exact fun x hx => h x (List.mem_filter.1 hx).1

theorem pathObject_rawDoc (m : V1.Metas) {kvs : List (String × Json)} (h : rawDocKvs kvs = true) :
    rawDocKvs (V1.pathObject m kvs) = true := by
  unfold V1.pathObject
  split
  · exact h
  · split
    · exact h
    · simp only []
      split
      · exact h
      · exact rawDocKvs_filter _ kvs h

section TextK
variable {m : V1.Metas} {ks : List String}

/-- a `GH` hunk below a keyed path element is a `GH` hunk -/
theorem gh_shift_keyed (K : KMode m ks) {h : V1.Hunk} (g : GH h) {po : List (String × Json)}
    (hpo : rawDocKvs po = true) : GH (shift [.arr .raw (metaItems m), .obj po] h) where
  nm := V1S.nm_meta m _ _ _
  path := by
    have := g.path
    simp only [shift, List.cons_append, List.nil_append, rawDocList, Json.rawDoc, V1S.metaItems_raw m,
      hpo, Bool.true_and, beq_self_eq_true]
    exact this
  mOK := by
    have := g.mOK
    simp only [shift, List.cons_append, List.nil_append, V1S.metaOK, V1S.metaItems_novoid m,
      Bool.not_false, Bool.true_and]
    exact this
  nmr := by
    unfold V1S.rendersMerge V1.pathRendersMerge
    show V1.hasMerge (V1.pathNext (V1.liftPath (.arr .raw (metaItems m) :: .obj po :: h.path))).2.1
      = false
    rw [pathNext_keyed K]
    exact (V1S.pm_spec m).2.2.2.2
  old := g.old
  oldv := g.oldv
  new := g.new
  newv := g.newv
  ne := g.ne
  chk := by
    have h1 := V1S.checkHunk_shift (.obj po) g.chk
    have h2 := V1S.checkHunk_shift (.arr .raw (metaItems m)) h1
    simpa [shift] using h2

/-- the sub-diffs of a list of parts, when each of them is a list of `GH` hunks below `p` -/
theorem shape_parts (p : List Json) :
    ∀ (l : List (UInt64 × V1.SetPart)),
      (∀ kp ∈ l, ∃ D0 : V1.VDiff, V1S.subOf kp = D0.map (shift p) ∧ ∀ h ∈ D0, GH h) →
      ∃ D : V1.VDiff, l.flatMap V1S.subOf = D.map (shift p) ∧ ∀ h ∈ D, GH h
  | [], _ => ⟨[], rfl, by simp⟩
  | kp :: r, H => by
    obtain ⟨D0, e0, g0⟩ := H kp List.mem_cons_self
    obtain ⟨Dr, er, gr⟩ := shape_parts p r (fun kp' h => H kp' (List.mem_cons_of_mem _ h))
    refine ⟨D0 ++ Dr, by simp [List.flatMap_cons, e0, er], ?_⟩
    intro h hh
    rcases List.mem_append.1 hh with hh | hh
    · exact g0 h hh
    · exact gr h hh

/-- the hunks of a SET + setkeys diff are `GH` hunks; no hash hypothesis -/
theorem shape_nodeK (K : KMode m ks) (a b : Json) (ha : Ok a) (hb : Ok b) (va : vfree a = true)
    (vb : vfree b = true) (hbv : b.isVoid = false) : Shape m a b := by
  refine V1S.shape_node_of (S := subterms a ++ subterms b) (Or.inl K.tag)
    (fun xs ys ha hb vxs vys wa wb ih p => ?_) a b ha hb va vb hbv
    (fun _ hz => List.mem_append.2 (Or.inl hz)) (fun _ hz => List.mem_append.2 (Or.inr hz))
  have hxs : ∀ v ∈ xs, v.rawDoc = true ∧ v.isVoid = false :=
    fun v hv => ⟨(ha.elem hv).rawDoc, (V1S.vfreeList_mem vxs hv).1⟩
  have hys : ∀ v ∈ ys, v.rawDoc = true ∧ v.isVoid = false :=
    fun v hv => ⟨(hb.elem hv).rawDoc, (V1S.vfreeList_mem vys hv).1⟩
  have hperm := ksort_perm (V1.diffSetElems m false p ys xs)
  obtain ⟨D1, e1, g1⟩ := shape_parts p (ksort (V1.diffSetElems m false p ys xs)) (by
    intro kp hkp
    have hkp' := hperm.mem_iff.1 hkp
    obtain ⟨c, part⟩ := kp
    cases part with
    | removed z => exact ⟨[], rfl, by simp⟩
    | sub d =>
      obtain ⟨kvs, kvs', hx, hy, _, _, hdd⟩ := sub_origin m false p ys xs c d hkp'
      have okx := ha.elem hx
      have oky := hb.elem hy
      obtain ⟨D0, e0, g0⟩ := ih _ hx _ okx oky (V1S.vfreeList_mem vxs hx).2
        (V1S.vfreeList_mem vys hy).2 rfl (wa.elem hx) (wb.elem hy)
        (p ++ [.arr .raw (metaItems m), .obj (V1.pathObject m kvs)])
      have hraw : rawDocKvs (V1.pathObject m kvs) = true :=
        pathObject_rawDoc m (by simpa [Json.rawDoc] using okx.rawDoc)
      refine ⟨D0.map (shift [.arr .raw (metaItems m), .obj (V1.pathObject m kvs)]), ?_, ?_⟩
      · simp only [V1S.subOf, hdd, V1S.appendIndex_eq, e0, List.map_map]
        apply List.map_congr_left
        intro h _
        simp [V1P.shift_shift]
      · intro h hh
        obtain ⟨h0, hh0, rfl⟩ := List.mem_map.1 hh
        exact gh_shift_keyed K (g0 h0 hh0) hraw)
  have Δ := V1S.setDelta m false p xs ys
  obtain ⟨D2, e2, g2⟩ := V1S.shape_meta (Or.inl K.tag) p
    (fun v hv => hxs v (Δ.rem_sub v hv)) (fun v hv => hys v (Δ.add_sub v hv))
  rw [V1S.diffNode_set_set K.tag, e1, e2, ← List.map_append]
  exact ⟨D1 ++ D2, rfl, fun h hh => (List.mem_append.1 hh).elim (g1 h) (g2 h)⟩

/-- the SET + setkeys diff is read back from its rendered text UNCHANGED (no hypothesis on hash
    codes or identities; relative to the codec contract and to render success) -/
theorem v1_read_render_setkeys (nc : NumCodec) (K : KMode m ks) (a b : Json)
    (ha : a.setDoc = true) (hb : b.setDoc = true)
    (ha' : DPL.memOK a = true) (hb' : DPL.memOK b = true)
    (va : vfree a = true) (vb : vfree b = true) (hbv : b.isVoid = false)
    (hc : V1S.CodecOK nc (V1.diffM m a b)) (text : String)
    (hr : V1.renderM nc false (V1.liftDiff (V1.diffM m a b)) = .ok (some text)) :
    V1.readDiffM nc text = .ok (V1.diffM m a b) := by
  obtain ⟨D, e, g⟩ := shape_nodeK K a b ⟨ha, ha'⟩ ⟨hb, hb'⟩ va vb hbv []
  rw [V1S.shift_nil_map] at e
  have hd : V1.diffM m a b = D := by unfold V1.diffM; rw [K.noMerge, e]
  rw [hd] at hc hr ⊢
  exact V1S.v1_read_render_raw nc D text g hc hr

/-- **C17, SET + setkeys, through the text** (`Render`, then `ReadDiffString`): the diff read back
    from its rendered text IS the diff, hence — under the hypotheses of `v1_diff_patch_setkeys` —
    patching `a` with it yields a document that `Equals` `b`. -/
theorem v1_text_roundtrip_setkeys (F : FloatEq0) (L : FloatLaws) (nc : NumCodec) (K : KMode m ks)
    (a b : Json) (ha : a.setDoc = true) (hb : b.setDoc = true)
    (ha' : DPL.memOK a = true) (hb' : DPL.memOK b = true)
    (va : vfree a = true) (vb : vfree b = true) (hbv : b.isVoid = false)
    (H : KeysHyp m ks a b)
    (hc : V1S.CodecOK nc (V1.diffM m a b)) (text : String)
    (hr : V1.renderM nc false (V1.liftDiff (V1.diffM m a b)) = .ok (some text)) :
    ∃ d' r, V1.readDiffM nc text = .ok d' ∧ V1.patchM a d' = .ok r ∧ V1.equals m r b = true ∧
      equivB [.set] r b = true := by
  obtain ⟨r, h1, h2, h3, _⟩ := v1_diff_patch_setkeys F L K a b ha hb ha' hb' H
  exact ⟨_, r, v1_read_render_setkeys nc K a b ha hb ha' hb' va vb hbv hc text hr, h1, h2, h3⟩

end TextK

/-! ## the member without any set key, THROUGH THE TEXT (the reading in which the Go library fails) -/

/-- `[{"v":"1","w":"1"}]` → `[{"v":"2","w":"2"}]` under SET + setkeys(id): whenever the diff renders
    (and the codec contract holds for it), the text is read back as the diff itself, and patching
    the first document with it is an ERROR. On the Go library: `ReadDiffString(d.Render())`, then
    `Patch`: "invalid diff: expected object with id {"v":"1","w":"1"} but found none". -/
theorem keyless_member_breaks_text (nc : NumCodec)
    (hc : V1S.CodecOK nc (V1.diffM Witness.m1 Witness.ha Witness.hb)) (text : String)
    (hr : V1.renderM nc false (V1.liftDiff (V1.diffM Witness.m1 Witness.ha Witness.hb))
      = .ok (some text)) :
    ∃ d', V1.readDiffM nc text = .ok d' ∧ V1.patchM Witness.ha d' = .err := by
  refine ⟨_, v1_read_render_setkeys nc Witness.K1 Witness.ha Witness.hb (by decide) (by decide)
    (by decide) (by decide) (by decide) (by decide) (by decide) hc text hr, ?_⟩
  rw [Witness.h_diff]
  exact Witness.h_patch

/-! ## a fully concrete run through the text -/

namespace ExampleT
open Jd.NativeRT (exCodec)
open Witness (m1 K1 dx dy dd)

def ta : Json := .arr .raw [dx]
def tb : Json := .arr .raw [dy]

theorem t_diff : V1.diffM m1 ta tb = dd := V1.diffM_of_eqb (by decide +kernel)

theorem t_render : V1.renderM exCodec false (V1.liftDiff dd) =
    .ok (some "@ [[\"set\",\"setkeys=id\"],{\"id\":\"1\"},\"v\"]\n- \"1\"\n+ \"2\"\n") := by
  rfl

theorem t_codecOK : V1S.CodecOK exCodec dd := V1S.codecOK_of_check exCodec dd (by decide)

theorem t_keysHyp : KeysHyp m1 ["id"] ta tb := keysHyp_of_check (by decide +kernel)

/-- **the whole of C17 on a concrete pair, SET + setkeys, through the text, no codec hypothesis**:
    `[{"id":"1","v":"1"}]` → `[{"id":"1","v":"2"}]` under `[SET, Setkeys("id")]`: the library's diff
    is rendered (the text shown, evaluated by the kernel; the same text as the Go code prints),
    read back (giving the diff itself), and patching with it yields a document that `Equals` the
    target; only the IEEE-754 laws are left as assumptions -/
theorem ex_text_roundtrip_setkeys (F : FloatEq0) (L : FloatLaws) :
    V1.renderM exCodec false (V1.liftDiff (V1.diffM m1 ta tb)) =
      .ok (some "@ [[\"set\",\"setkeys=id\"],{\"id\":\"1\"},\"v\"]\n- \"1\"\n+ \"2\"\n") ∧
    ∃ d' r, V1.readDiffM exCodec
        "@ [[\"set\",\"setkeys=id\"],{\"id\":\"1\"},\"v\"]\n- \"1\"\n+ \"2\"\n" = .ok d' ∧
      d' = V1.diffM m1 ta tb ∧ V1.patchM ta d' = .ok r ∧ V1.equals m1 r tb = true ∧
      equivB [.set] r tb = true := by
  have hr : V1.renderM exCodec false (V1.liftDiff (V1.diffM m1 ta tb)) =
      .ok (some "@ [[\"set\",\"setkeys=id\"],{\"id\":\"1\"},\"v\"]\n- \"1\"\n+ \"2\"\n") := by
    rw [t_diff]; exact t_render
  have hc : V1S.CodecOK exCodec (V1.diffM m1 ta tb) := by rw [t_diff]; exact t_codecOK
  refine ⟨hr, ?_⟩
  obtain ⟨r, h1, h2, h3, _⟩ := v1_diff_patch_setkeys F L K1 ta tb (by decide) (by decide)
    (by decide) (by decide) t_keysHyp
  exact ⟨_, r, v1_read_render_setkeys exCodec K1 ta tb (by decide) (by decide) (by decide)
    (by decide) (by decide) (by decide) (by decide) hc _ hr, rfl, h1, h2, h3⟩

end ExampleT
end Jd.V1K
