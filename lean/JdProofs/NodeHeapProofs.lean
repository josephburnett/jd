/-
  JdProofs.NodeHeapProofs — the imperative model of Go VALUES (`JdModel/NodeHeap.lean`: a heap of maps and
  slice backing arrays, nodes that refer to them, in-place writes, `cloneNode` / `cloneNodes`): the
  library's deep copy is a deep copy, and that is what makes "values" a sound abstraction of what `Patch`
  and `RenderMerge` do with the payloads of a diff.

  Notions.
  * `InB h n` — `n` has no dangling reference in `h`, at any depth (Go has none). Decidable sufficient
    condition: `closedHeap h = true` and `n.below h.length = true` (`C15Heap.no_dangling_in_a_closed_heap`,
    by `reach_induct`). NEEDED for the clone theorems: `Witness.dangling_needed`.
  * `Agree h h'` — `h'` holds at every address of `h` what `h` holds there (the frame condition).
  * `ClosedAbove w h` — the objects at or above address `w` refer to nothing below `w`.
  * `deref_congr` / `reach_congr` — reading a node depends only on the content of the addresses `reach`
    lists (same fuel): the one lemma everything else rests on.
  Maps and slices are handled alike throughout: `reach`, `deref` and `cloneNode` are first restated through
  the nodes directly below a node (`kids`; `reach_succ_kids`, `deref_succ_kids`, `cloneNode_succ_kids`).

  The clone (hypotheses: `InB h n`, `cloneNode f h n = some (h', n')`): ONE invariant, `cloneNode_ok :
  CloneOK h n h' n'` (`cloneNodes_ok` for a list) — the heap only grew (`ext`, hence `Agree`), every address
  reachable from the clone is new (`fresh`), it denotes the same value at every fuel (`val`), the new
  objects refer only to each other (`closed`). The readable consequences — same value, freshness,
  disjointness from every old node, frame, "editing the copy changes nothing old" in its three forms — are
  stated and proved from it in JdProps/C15Heap.lean. Here remain: `clone_fresh`, `cloneNode_root_fresh`;
  `writes_to_new_addresses_invisible` (effects that target no old address cannot change an old node's value:
  the frame fact behind all "edits" theorems), `edits_below_clone_invisible` / `_keep_values`;
  `okWrites_agree` (the executable discipline `okWrites` of an owner keeps `Agree` and `ClosedAbove`);
  `writes_off_reach_invisible` (separation: effects whose targets are not reachable from `x` leave `x` alone
  — for `Patch`, which edits its receiver in place); `arrSet_is_write`, `goAppend_in_place`,
  `goAppend_realloc`: the slice-level operations are such effects; `cloneNode_total`: the clone succeeds with
  the fuel with which the original denotes a value.
  Witnesses (`Witness.*`, closed terms, `rfl` / `decide`): `shallow_write_changes_original` (a shallow copy
  denotes the same value, reaches an old address, and a write below it changes the original: D29 /
  C03-clonenode-shallow-slices-clone), `emptyShared_write_changes_original` (C15-clonenode-empty-object-shared),
  `deep_*` (the real clone on the same inputs), `dangling_needed`, `append_in_place_is_shared`,
  `editProg_ok` / `okWrites_rejects` (the discipline is satisfiable and not trivial).

  The source: `cloneNode_asIs`, `asIs_iff_immutable`, `cloneNode_keeps_type`, `cloneNode_slice_full`;
  `cloneNodeReturns`, `modelContainerCases` (what JdProps/C15Heap states about the REGENERATED table
  `Gen.pathSites`); `modelCloneCases_eq_source`, `cases_follow_representation_except_null` (tables
  TRANSCRIBED BY HAND here; `C15Clone.hand_transcribed_tables_agree_with_the_source` proves them equal to
  what the regenerated case table says).
-/
import JdModel.NodeHeap
import JdModel.Gen.PathSites
import JdProofs.Doc

namespace Jd.NodeHeap
open Jd

/-! ## small facts -/

theorem optAll_some_mem {α} : ∀ {l : List (Option α)} {js : List α}, optAll l = some js →
    ∀ o ∈ l, ∃ j, o = some j
  | [], _, _, o, ho => by cases ho
  | none :: r, js, h, _, _ => by simp [optAll] at h
  | some a :: r, js, h, o, ho => by
    simp only [optAll] at h
    cases hr : optAll r with
    | none => rw [hr] at h; cases h
    | some l =>
      cases ho with
      | head => exact ⟨a, rfl⟩
      | tail _ ho' => exact optAll_some_mem hr o ho'

theorem visible_length {cells : List HNode} {off len : Nat} {xs : List HNode}
    (h : visible cells off len = some xs) : xs.length = len := by
  unfold visible at h
  split at h
  · cases h; simp; omega
  · cases h

theorem visible_mem {cells : List HNode} {off len : Nat} {xs : List HNode}
    (h : visible cells off len = some xs) : ∀ x ∈ xs, x ∈ cells := by
  unfold visible at h
  split at h
  · cases h; intro x hx; exact List.mem_of_mem_drop (List.mem_of_mem_take hx)
  · cases h

/-! ## every node through the nodes directly below it

`reach`, `deref` and `cloneNode` treat a map and a slice alike: the node's own address, then the nodes `kids`
lists. Stated once in that form, the two mutable kinds need no separate proofs below. -/

/-- what a node denotes, from what the nodes directly below it denote -/
def assemble (h : Heap) : HNode → List Json → Json
  | .void => fun _ => .void
  | .null => fun _ => .null
  | .bool b => fun _ => .bool b
  | .num x => fun _ => .num x
  | .str s => fun _ => .str s
  | .objRef a =>
    match h[a]? with
    | some (.map kvs) => fun js => .obj ((kvs.map (·.1)).zip js)
    | _ => fun _ => .void
  | .arrRef t _ _ _ _ => .arr t

theorem reach_succ_kids (h : Heap) (g : Nat) (n : HNode) :
    reach h (g+1) n =
      match n.addr? with
      | some a => a :: (match kids h n with
        | some xs => xs.flatMap (reach h g)
        | none => [])
      | none => [] := by
  cases n with
  | objRef a => simp only [reach, kids, HNode.addr?]; rcases h[a]? with _ | _ | _ <;> rfl
  | arrRef t a off len cap => simp only [reach, kids, HNode.addr?]; rcases h[a]? with _ | _ | _ <;> rfl
  | _ => rfl

theorem deref_succ_kids (h : Heap) (g : Nat) (n : HNode) :
    deref h (g+1) n =
      match kids h n with
      | some xs => (optAll (xs.map (deref h g))).map (assemble h n)
      | none => none := by
  cases n with
  | objRef a => simp only [deref, kids, assemble]; rcases h[a]? with _ | _ | _ <;> rfl
  | arrRef t a off len cap => simp only [deref, kids, assemble]; rcases h[a]? with _ | _ | _ <;> rfl
  | _ => rfl


theorem reach_of_addr_none {h : Heap} {g : Nat} {n : HNode} (hn : n.addr? = none) : reach h g n = [] := by
  cases g with
  | zero => rfl
  | succ g => rw [reach_succ_kids, hn]

/-- the nodes below a node are reached with one unit of fuel less -/
theorem reach_kid {h : Heap} {f : Nat} {n : HNode} {xs : List HNode} (hk : kids h n = some xs) :
    ∀ x ∈ xs, ∀ a ∈ reach h f x, a ∈ reach h (f+1) n := by
  intro x hx a ha
  rw [reach_succ_kids, hk]
  cases n with
  | objRef b => exact List.mem_cons_of_mem _ (List.mem_flatMap.2 ⟨x, hx, ha⟩)
  | arrRef t b off len cap => exact List.mem_cons_of_mem _ (List.mem_flatMap.2 ⟨x, hx, ha⟩)
  | _ => cases hk; cases hx

/-- `kids` and `assemble` look at the node's own address only -/
theorem kids_congr {h h' : Heap} {n : HNode} (e : ∀ a, n.addr? = some a → h'[a]? = h[a]?) :
    kids h' n = kids h n ∧ assemble h' n = assemble h n := by
  cases n with
  | objRef a => simp only [kids, assemble, e a rfl, and_self]
  | arrRef t a off len cap => simp only [kids, assemble, e a rfl, and_self]
  | _ => exact ⟨rfl, rfl⟩

theorem kids_sub_nodes {h : Heap} {n : HNode} {xs : List HNode} (hk : kids h n = some xs) :
    xs = [] ∨ ∃ a o, n.addr? = some a ∧ h[a]? = some o ∧ ∀ x ∈ xs, x ∈ o.nodes := by
  cases n with
  | objRef a =>
    simp only [kids] at hk
    split at hk
    · rename_i kvs heq
      cases hk
      exact Or.inr ⟨a, _, rfl, heq, fun _ hx => hx⟩
    · cases hk
  | arrRef t a off len cap =>
    simp only [kids] at hk
    split at hk
    · rename_i cells heq
      exact Or.inr ⟨a, _, rfl, heq, visible_mem hk⟩
    · cases hk
  | _ => simp only [kids] at hk; cases hk; exact Or.inl rfl

/-- a bound `Q` on addresses that a property `P` of nodes gives for the node's own address holds of every
    reachable address, when `P` passes from a node to the nodes held by the object it refers to -/
theorem reach_induct {h : Heap} {P : HNode → Prop} {Q : Nat → Prop}
    (own : ∀ n a, P n → n.addr? = some a → Q a)
    (step : ∀ n a o, P n → n.addr? = some a → h[a]? = some o → ∀ m ∈ o.nodes, P m) :
    ∀ (g : Nat) {n : HNode}, P n → ∀ a ∈ reach h g n, Q a := by
  intro g
  induction g with
  | zero => intro n _ a ha; cases ha
  | succ g ih =>
    intro n hn a ha
    rw [reach_succ_kids] at ha
    cases hadr : n.addr? with
    | none => rw [hadr] at ha; cases ha
    | some b =>
      rw [hadr] at ha
      cases ha with
      | head => exact own n a hn hadr
      | tail _ ha' =>
        cases hk : kids h n with
        | none => rw [hk] at ha'; cases ha'
        | some xs =>
          rw [hk] at ha'
          obtain ⟨x, hx, hax⟩ := List.mem_flatMap.1 ha'
          rcases kids_sub_nodes hk with rfl | ⟨b', o, hb', ho, hsub⟩
          · cases hx
          · rw [hadr] at hb'; cases hb'
            exact ih (step n b o hn hadr ho x (hsub x hx)) a hax

/-! ## reading depends on the reachable addresses only -/

theorem own_addr_congr {h h' : Heap} {f : Nat} {n : HNode} (hr : ∀ a ∈ reach h (f+1) n, h'[a]? = h[a]?) :
    ∀ a, n.addr? = some a → h'[a]? = h[a]? :=
  fun a ha => hr a (by rw [reach_succ_kids, ha]; exact List.mem_cons_self)

theorem deref_congr {h h' : Heap} : ∀ (f : Nat) (n : HNode),
    (∀ a ∈ reach h f n, h'[a]? = h[a]?) → deref h' f n = deref h f n := by
  intro f
  induction f with
  | zero => intro n _; rfl
  | succ f ih =>
    intro n hr
    obtain ⟨ek, ea⟩ := kids_congr (own_addr_congr hr)
    rw [deref_succ_kids, deref_succ_kids, ek, ea]
    cases hk : kids h n with
    | none => rfl
    | some xs =>
      simp only []
      rw [List.map_congr_left (fun x hx => ih x (fun a ha => hr a (reach_kid hk x hx a ha)))]

theorem reach_congr {h h' : Heap} : ∀ (f : Nat) (n : HNode),
    (∀ a ∈ reach h f n, h'[a]? = h[a]?) → reach h' f n = reach h f n := by
  intro f
  induction f with
  | zero => intro n _; rfl
  | succ f ih =>
    intro n hr
    rw [reach_succ_kids, reach_succ_kids, (kids_congr (own_addr_congr hr)).1]
    cases hk : kids h n with
    | none => rfl
    | some xs =>
      simp only []
      rw [List.flatMap_def, List.flatMap_def,
        List.map_congr_left (fun x hx => ih x (fun a ha => hr a (reach_kid hk x hx a ha)))]

/-! ## no dangling references; heaps that agree on the old addresses -/

/-- `n` has no dangling reference in `h`, at any depth: every address it can touch is allocated -/
def InB (h : Heap) (n : HNode) : Prop := ∀ g, ∀ a ∈ reach h g n, a < h.length

/-- `h'` holds, at every address of `h`, what `h` holds there (FRAME: nothing old was written) -/
def Agree (h h' : Heap) : Prop := ∀ b, b < h.length → h'[b]? = h[b]?

theorem Agree.refl (h : Heap) : Agree h h := fun _ _ => rfl

theorem Agree.len {h h' : Heap} (ag : Agree h h') : h.length ≤ h'.length := by
  cases hl : h.length with
  | zero => omega
  | succ k =>
    have e := ag k (by omega)
    rw [List.getElem?_eq_getElem (show k < h.length by omega)] at e
    have := (List.getElem?_eq_some_iff.1 e).1
    omega

theorem Agree.trans {h h' h'' : Heap} (a1 : Agree h h') (a2 : Agree h' h'') : Agree h h'' :=
  fun b hb => by rw [a2 b (by have := a1.len; omega), a1 b hb]

theorem agree_append (h e : Heap) : Agree h (h ++ e) :=
  fun _ hb => List.getElem?_append_left hb

theorem deref_agree {h h' : Heap} {x : HNode} (ag : Agree h h') (ib : InB h x) (f : Nat) :
    deref h' f x = deref h f x :=
  deref_congr f x (fun a ha => ag a (ib f a ha))

theorem reach_agree {h h' : Heap} {x : HNode} (ag : Agree h h') (ib : InB h x) (f : Nat) :
    reach h' f x = reach h f x :=
  reach_congr f x (fun a ha => ag a (ib f a ha))

theorem InB.agree {h h' : Heap} {x : HNode} (ag : Agree h h') (ib : InB h x) : InB h' x := by
  intro g a ha
  rw [reach_agree ag ib g] at ha
  have := ib g a ha
  have := ag.len
  omega

theorem InB.kid {h : Heap} {n : HNode} {xs : List HNode} (ib : InB h n) (hk : kids h n = some xs) :
    ∀ x ∈ xs, InB h x :=
  fun x hx g a ha => ib (g+1) a (reach_kid hk x hx a ha)

/-! ## writes that do not target an old address leave the old addresses alone -/

theorem Write.run_get {h : Heap} {w : Write} {b : Nat} (hb : ∀ a, w.target = some a → a ≠ b)
    (hlt : b < h.length) : (w.run h)[b]? = h[b]? := by
  cases w with
  | alloc o => exact List.getElem?_append_left hlt
  | _ =>
    simp only [Write.run, NodeHeap.mapSet, NodeHeap.mapDel, NodeHeap.cellSet]
    split
    · exact List.getElem?_set_ne (hb _ rfl)
    · rfl

theorem Write.run_agree {h h' : Heap} {w : Write} (ag : Agree h h')
    (hw : ∀ a, w.target = some a → h.length ≤ a) : Agree h (w.run h') := by
  intro b hb
  rw [Write.run_get (fun a ha => by have := hw a ha; omega) (by have := ag.len; omega)]
  exact ag b hb

theorem runWrites_agree {h : Heap} : ∀ (ws : List Write) {h' : Heap}, Agree h h' →
    (∀ w ∈ ws, ∀ a, w.target = some a → h.length ≤ a) → Agree h (runWrites h' ws)
  | [], _, ag, _ => ag
  | w :: r, h', ag, hw => by
    simp only [runWrites, List.foldl_cons]
    exact runWrites_agree r (Write.run_agree ag (hw w List.mem_cons_self))
      (fun w' hw' => hw w' (List.mem_cons_of_mem _ hw'))


/-! ## heaps closed above a watermark -/

/-- above the watermark `w` the heap refers to nothing below it: every object allocated at or after `w`
    holds only immutable nodes and references to objects allocated at or after `w` -/
def ClosedAbove (w : Nat) (h : Heap) : Prop :=
  ∀ a, w ≤ a → ∀ o, h[a]? = some o → ∀ m ∈ o.nodes, m.freshFrom w = true

theorem freshFrom_mono {w w' : Nat} (hw : w ≤ w') {n : HNode} (hn : n.freshFrom w' = true) :
    n.freshFrom w = true := by
  cases hadr : n.addr? with
  | none => simp [HNode.freshFrom, hadr]
  | some a => simp only [HNode.freshFrom, hadr, decide_eq_true_eq] at hn ⊢; omega

theorem freshFrom_of_reach {w : Nat} {h : Heap} {n : HNode} (hr : ∀ a ∈ reach h 1 n, w ≤ a) :
    n.freshFrom w = true := by
  cases hadr : n.addr? with
  | none => simp [HNode.freshFrom, hadr]
  | some a =>
    have := hr a (by rw [reach_succ_kids, hadr]; exact List.mem_cons_self)
    simp [HNode.freshFrom, hadr, this]

theorem closedAbove_self (h : Heap) : ClosedAbove h.length h := by
  intro a ha o ho
  rw [List.getElem?_eq_none ha] at ho
  cases ho

/-- allocation keeps the heap closed when the new object holds fresh nodes only -/
theorem closedAbove_concat {w : Nat} {h : Heap} (hc : ClosedAbove w h) (o' : Obj)
    (ho' : ∀ m ∈ o'.nodes, m.freshFrom w = true) : ClosedAbove w (h ++ [o']) := by
  intro b hb o ho m hm
  rw [List.getElem?_append] at ho
  split at ho
  · exact hc b hb o ho m hm
  · rw [List.getElem?_singleton] at ho
    split at ho
    · cases ho; exact ho' m hm
    · cases ho

/-- what was allocated above `w` up to `h1` and what was allocated after `h1` refers to nothing below `w` -/
theorem ClosedAbove.trans {w : Nat} {h1 h2 : Heap} (c1 : ClosedAbove w h1) (hw : w ≤ h1.length)
    (ag : Agree h1 h2) (c2 : ClosedAbove h1.length h2) : ClosedAbove w h2 := by
  intro a ha o ho m hm
  by_cases hlt : a < h1.length
  · rw [ag a hlt] at ho
    exact c1 a ha o ho m hm
  · exact freshFrom_mono hw (c2 a (by omega) o ho m hm)

/-! ## `cloneNode`: same value, new addresses only, old addresses untouched -/

/-- the object a copy of `n` allocates, holding the copies `vs` of the nodes below `n` -/
def copyObj (h : Heap) : HNode → List HNode → Obj
  | .objRef a =>
    match h[a]? with
    | some (.map kvs) => fun vs => .map ((kvs.map (·.1)).zip vs)
    | _ => .arr
  | _ => .arr

/-- the node that refers to that object once it stands at address `a'` -/
def moved (a' : Nat) : HNode → HNode
  | .objRef _ => .objRef a'
  | .arrRef t _ _ len _ => .arrRef t a' 0 len len
  | s => s

theorem cloneNode_succ_kids (f : Nat) (h : Heap) (n : HNode) :
    cloneNode (f+1) h n =
      match n.addr? with
      | none => some (h, n)
      | some _ =>
        match kids h n with
        | some xs =>
          match cloneList (cloneNode f) h xs with
          | some (h1, vs) => some (h1 ++ [copyObj h n vs], moved h1.length n)
          | none => none
        | none => none := by
  cases n with
  | objRef a => simp only [cloneNode, kids, copyObj, HNode.addr?]; rcases h[a]? with _ | _ | _ <;> rfl
  | _ => rfl

/-- the copy has the copied nodes below it and is assembled like the original -/
theorem copy_spec {h : Heap} {n : HNode} {xs : List HNode} (h1 : Heap) {vs : List HNode} {b : Nat}
    (hadr : n.addr? = some b) (hk : kids h n = some xs) (hl : vs.length = xs.length) :
    (moved h1.length n).addr? = some h1.length ∧
    kids (h1 ++ [copyObj h n vs]) (moved h1.length n) = some vs ∧
    assemble (h1 ++ [copyObj h n vs]) (moved h1.length n) = assemble h n ∧
    (copyObj h n vs).nodes = vs := by
  cases n with
  | objRef a =>
    simp only [kids] at hk
    split at hk
    · rename_i kvs heq
      cases hk
      have hl' : vs.length = kvs.length := by simpa using hl
      simp [kids, assemble, copyObj, moved, HNode.addr?, Obj.nodes, heq, List.map_snd_zip, List.map_fst_zip, hl']
    · cases hk
  | arrRef t a off len cap =>
    simp only [kids] at hk
    split at hk
    · have := visible_length hk
      simp [kids, assemble, copyObj, moved, HNode.addr?, Obj.nodes, visible, ← this, ← hl]
    · cases hk
  | _ => cases hadr

/-- what a successful clone of one node guarantees -/
structure CloneOK (h : Heap) (n : HNode) (h' : Heap) (n' : HNode) : Prop where
  /-- FRAME: the heap only grew -/
  ext : ∃ e, h' = h ++ e
  /-- FRESHNESS: every address the clone can touch was allocated by the clone -/
  fresh : ∀ g, ∀ a ∈ reach h' g n', h.length ≤ a ∧ a < h'.length
  /-- SAME VALUE, at every fuel -/
  val : ∀ g, deref h' g n' = deref h g n
  /-- the new objects refer only to each other -/
  closed : ClosedAbove h.length h'

structure CloneListOK (h : Heap) (xs : List HNode) (h' : Heap) (xs' : List HNode) : Prop where
  ext : ∃ e, h' = h ++ e
  len : xs'.length = xs.length
  fresh : ∀ x' ∈ xs', ∀ g, ∀ a ∈ reach h' g x', h.length ≤ a ∧ a < h'.length
  val : ∀ g, xs'.map (deref h' g) = xs.map (deref h g)
  closed : ClosedAbove h.length h'

theorem CloneOK.agree {h n h' n'} (ok : CloneOK h n h' n') : Agree h h' := by
  obtain ⟨e, rfl⟩ := ok.ext; exact agree_append h e

theorem CloneOK.inb {h n h' n'} (ok : CloneOK h n h' n') : InB h' n' :=
  fun g a ha => (ok.fresh g a ha).2

theorem CloneListOK.agree {h xs h' xs'} (ok : CloneListOK h xs h' xs') : Agree h h' := by
  obtain ⟨e, rfl⟩ := ok.ext; exact agree_append h e

theorem CloneListOK.inb {h xs h' xs'} (ok : CloneListOK h xs h' xs') : ∀ x' ∈ xs', InB h' x' :=
  fun x' hx g a ha => (ok.fresh x' hx g a ha).2

theorem cloneList_cons_some {cl : Heap → HNode → Option (Heap × HNode)} {h h' : Heap} {x : HNode}
    {r xs' : List HNode} (hc : cloneList cl h (x :: r) = some (h', xs')) :
    ∃ hp x1 r1, cl h x = some (hp, x1) ∧ cloneList cl hp r = some (h', r1) ∧ xs' = x1 :: r1 := by
  simp only [cloneList] at hc
  split at hc
  · cases hc
  · split at hc
    · cases hc
    · cases hc; exact ⟨_, _, _, ‹_›, ‹_›, rfl⟩

theorem cloneList_ok (cl : Heap → HNode → Option (Heap × HNode))
    (hcl : ∀ h x h' x', InB h x → cl h x = some (h', x') → CloneOK h x h' x') :
    ∀ (xs : List HNode) (h h' : Heap) (xs' : List HNode), (∀ x ∈ xs, InB h x) →
      cloneList cl h xs = some (h', xs') → CloneListOK h xs h' xs'
  | [], h, h', xs', _, hc => by
    cases hc
    exact ⟨⟨[], by simp⟩, rfl, fun _ hx => (by cases hx), fun _ => rfl, closedAbove_self h⟩
  | x :: r, h, h', xs', hib, hc => by
    obtain ⟨hp, x1, r1, h1, h2, rfl⟩ := cloneList_cons_some hc
    have ok1 := hcl h x hp x1 (hib x List.mem_cons_self) h1
    have ag1 := ok1.agree
    have ok2 := cloneList_ok cl hcl r hp h' r1
      (fun y hy => (hib y (List.mem_cons_of_mem _ hy)).agree ag1) h2
    have ag2 := ok2.agree
    have l1 := ag1.len
    have l2 := ag2.len
    refine ⟨?_, ?_, ?_, ?_, ok1.closed.trans l1 ag2 ok2.closed⟩
    · obtain ⟨e1, rfl⟩ := ok1.ext
      obtain ⟨e2, rfl⟩ := ok2.ext
      exact ⟨e1 ++ e2, by simp⟩
    · simp [ok2.len]
    · intro x' hx' g a ha
      cases hx' with
      | head =>
        rw [reach_agree ag2 ok1.inb g] at ha
        have := ok1.fresh g a ha
        omega
      | tail _ hx'' =>
        have := ok2.fresh x' hx'' g a ha
        omega
    · intro g
      simp only [List.map_cons]
      rw [deref_agree ag2 ok1.inb g, ok1.val g, ok2.val g]
      congr 1
      exact List.map_congr_left (fun y hy => deref_agree ag1 (hib y (List.mem_cons_of_mem _ hy)) g)

theorem cloneNode_ok : ∀ (f : Nat) (h : Heap) (n : HNode) (h' : Heap) (n' : HNode), InB h n →
    cloneNode f h n = some (h', n') → CloneOK h n h' n' := by
  intro f
  induction f with
  | zero => intro h n h' n' _ hc; cases hc
  | succ f ih =>
    intro h n h' n' ib hc
    rw [cloneNode_succ_kids] at hc
    cases hadr : n.addr? with
    | none =>
      rw [hadr] at hc; cases hc
      exact ⟨⟨[], by simp⟩, fun g a ha => (by rw [reach_of_addr_none hadr] at ha; cases ha), fun _ => rfl,
        closedAbove_self h⟩
    | some b =>
      rw [hadr] at hc
      simp only [] at hc
      split at hc
      · rename_i xs hk
        split at hc
        · rename_i h1 vs hcl
          cases hc
          have lst := cloneList_ok (cloneNode f) ih xs h h1 vs (ib.kid hk) hcl
          obtain ⟨hadr', hk', has', hnodes⟩ := copy_spec h1 hadr hk lst.len
          have ag' : Agree h1 (h1 ++ [copyObj h n vs]) := agree_append _ _
          have l1 := lst.agree.len
          refine ⟨?_, ?_, ?_, closedAbove_concat lst.closed _ (fun m hm =>
            freshFrom_of_reach (fun a' ha' => (lst.fresh m (hnodes ▸ hm) 1 a' ha').1))⟩
          · obtain ⟨e, rfl⟩ := lst.ext
            exact ⟨e ++ [copyObj h n vs], by simp⟩
          · intro g a ha
            cases g with
            | zero => cases ha
            | succ g =>
              rw [reach_succ_kids, hadr', hk'] at ha
              simp only [List.length_append, List.length_cons, List.length_nil]
              cases ha with
              | head => omega
              | tail _ ha' =>
                obtain ⟨v, hv, hav⟩ := List.mem_flatMap.1 ha'
                rw [reach_agree ag' (lst.inb v hv) g] at hav
                have := lst.fresh v hv g a hav
                omega
          · intro g
            cases g with
            | zero => rfl
            | succ g =>
              rw [deref_succ_kids, deref_succ_kids, hk', hk, has']
              simp only []
              rw [← lst.val g, List.map_congr_left (fun v hv => deref_agree ag' (lst.inb v hv) g)]
        · cases hc
      · cases hc


/-! ## the clone succeeds whenever the original denotes a value (with the same fuel) -/

theorem cloneList_total (f : Nat)
    (ih : ∀ h n j, InB h n → deref h f n = some j → ∃ h' n', cloneNode f h n = some (h', n')) :
    ∀ (xs : List HNode) (h : Heap), (∀ x ∈ xs, InB h x) → (∀ x ∈ xs, ∃ j, deref h f x = some j) →
      ∃ h' xs', cloneList (cloneNode f) h xs = some (h', xs')
  | [], h, _, _ => ⟨h, [], rfl⟩
  | x :: r, h, hib, hd => by
    obtain ⟨j, hj⟩ := hd x List.mem_cons_self
    obtain ⟨h1, x1, e1⟩ := ih h x j (hib x List.mem_cons_self) hj
    have ok1 := cloneNode_ok f h x h1 x1 (hib x List.mem_cons_self) e1
    have ag1 := ok1.agree
    obtain ⟨h2, r1, e2⟩ := cloneList_total f ih r h1
      (fun y hy => (hib y (List.mem_cons_of_mem _ hy)).agree ag1)
      (fun y hy => by
        obtain ⟨jy, hjy⟩ := hd y (List.mem_cons_of_mem _ hy)
        exact ⟨jy, by rw [deref_agree ag1 (hib y (List.mem_cons_of_mem _ hy)) f]; exact hjy⟩)
    exact ⟨h2, x1 :: r1, by simp only [cloneList, e1, e2]⟩

theorem cloneNode_total : ∀ (f : Nat) (h : Heap) (n : HNode) (j : Json), InB h n →
    deref h f n = some j → ∃ h' n', cloneNode f h n = some (h', n') := by
  intro f
  induction f with
  | zero => intro h n j _ hd; cases hd
  | succ f ih =>
    intro h n j ib hd
    rw [cloneNode_succ_kids]
    rw [deref_succ_kids] at hd
    cases hadr : n.addr? with
    | none => exact ⟨_, _, rfl⟩
    | some b =>
      cases hk : kids h n with
      | none => rw [hk] at hd; cases hd
      | some xs =>
        rw [hk] at hd
        simp only [] at hd ⊢
        cases ho : optAll (xs.map (deref h f)) with
        | none => rw [ho] at hd; cases hd
        | some js =>
          obtain ⟨h1, vs, e⟩ := cloneList_total f ih xs h (ib.kid hk)
            (fun x hx => optAll_some_mem ho _ (List.mem_map_of_mem hx))
          rw [e]
          exact ⟨_, _, rfl⟩

/-! ## a decidable sufficient condition for "no dangling reference": a closed heap -/

/-- the node refers to nothing, or to an address below `w` -/
def HNode.below (w : Nat) (n : HNode) : Bool :=
  match n.addr? with
  | none => true
  | some a => decide (a < w)

/-- no object of the heap holds a dangling reference -/
def closedHeap (h : Heap) : Bool := h.all (fun o => o.nodes.all (fun m => m.below h.length))


/-! ## consequences of `CloneOK` used below; the frame fact -/

/-- (b) every address reachable from the clone is new -/
theorem clone_fresh {f : Nat} {h h' : Heap} {n n' : HNode} (ib : InB h n)
    (hc : cloneNode f h n = some (h', n')) (g : Nat) : ∀ a ∈ reach h' g n', h.length ≤ a ∧ a < h'.length :=
  (cloneNode_ok f h n h' n' ib hc).fresh g

/-- the clone is nothing but a sequence of allocations -/
theorem runWrites_allocs (h : Heap) : ∀ (e : List Obj), runWrites h (e.map Write.alloc) = h ++ e
  | [] => by simp [runWrites]
  | o :: r => by
    have := runWrites_allocs (h ++ [o]) r
    simp only [runWrites, List.map_cons, List.foldl_cons, Write.run, alloc] at this ⊢
    rw [this]; simp

/-- general frame theorem: effects that target no address of `h` (writes into objects allocated later,
    and allocations) cannot change the value of a node of `h` -/
theorem writes_to_new_addresses_invisible {h h1 : Heap} (ag : Agree h h1) (ws : List Write)
    (hw : ∀ w ∈ ws, ∀ a, w.target = some a → h.length ≤ a) {x : HNode} (ibx : InB h x) (g : Nat) :
    deref (runWrites h1 ws) g x = deref h g x :=
  deref_agree (runWrites_agree ws ag hw) ibx g

/-- (d) editing the copy cannot change anything that existed before: after `cloneNode`, ANY sequence of
    in-place writes into objects reachable from the clone (and allocations) leaves the value of every
    old node as it was -/
theorem edits_below_clone_invisible {f : Nat} {h h1 : Heap} {n n1 : HNode} (ib : InB h n)
    (hc : cloneNode f h n = some (h1, n1)) (ws : List Write)
    (hw : ∀ w ∈ ws, ∀ a, w.target = some a → ∃ g, a ∈ reach h1 g n1)
    {x : HNode} (ibx : InB h x) (g : Nat) :
    deref (runWrites h1 ws) g x = deref h g x := by
  have ok := cloneNode_ok f h n h1 n1 ib hc
  exact writes_to_new_addresses_invisible ok.agree ws
    (fun w hwm a ha => by obtain ⟨g', hg'⟩ := hw w hwm a ha; exact (ok.fresh g' a hg').1) ibx g

/-- the same with the "denotes a value" reading: what an old node denoted, it still denotes -/
theorem edits_below_clone_keep_values {f : Nat} {h h1 : Heap} {n n1 : HNode} (ib : InB h n)
    (hc : cloneNode f h n = some (h1, n1)) (ws : List Write)
    (hw : ∀ w ∈ ws, ∀ a, w.target = some a → ∃ g, a ∈ reach h1 g n1)
    {x : HNode} (ibx : InB h x) {g : Nat} {j : Json} (hx : deref h g x = some j) :
    deref (runWrites h1 ws) g x = some j := by
  rw [edits_below_clone_invisible ib hc ws hw ibx g]; exact hx

/-! ### the slice-level operations are such writes -/

theorem arrSet_is_write {h h' : Heap} {t : Tag} {a off len cap i : Nat} {v : HNode}
    (e : arrSet h (.arrRef t a off len cap) i v = some h') :
    i < len ∧ h' = Write.run h (.cellSet a (off + i) v) := by
  simp only [arrSet] at e
  split at e
  · cases e; exact ⟨by assumption, rfl⟩
  · cases e

theorem goAppend_in_place {grow : Nat → Nat} {h : Heap} {t : Tag} {a off len cap : Nat} {v : HNode}
    (hlt : len < cap) :
    goAppend grow h (.arrRef t a off len cap) v =
      some (Write.run h (.cellSet a (off + len) v), .arrRef t a off (len + 1) cap) := by
  simp [goAppend, hlt, Write.run]

theorem goAppend_realloc {grow : Nat → Nat} {h h' : Heap} {t : Tag} {a off len cap : Nat} {v s' : HNode}
    (hge : ¬ len < cap) (e : goAppend grow h (.arrRef t a off len cap) v = some (h', s')) :
    ∃ o, h' = Write.run h (.alloc o) ∧ s'.addr? = some h.length := by
  simp only [goAppend, hge, if_false] at e
  split at e
  · cases e; exact ⟨_, rfl, rfl⟩
  · cases e

/-- a slice without capacity (the nil slice `cloneNodes(nil)` returns, an empty literal, every jsonNull)
    allows no write through it: `s[i] = v` panics and `append` goes to a new array -/
theorem cap0_no_write_through (grow : Nat → Nat) (h : Heap) (t : Tag) (a off : Nat) (i : Nat) (v : HNode) :
    arrSet h (.arrRef t a off 0 0) i v = none ∧
    ∀ h' s', goAppend grow h (.arrRef t a off 0 0) v = some (h', s') →
      (∃ o, h' = Write.run h (.alloc o)) ∧ s'.addr? = some h.length := by
  refine ⟨by simp [arrSet], fun h' s' e => ?_⟩
  obtain ⟨o, ho, hs⟩ := goAppend_realloc (by omega) e
  exact ⟨⟨o, ho⟩, hs⟩


/-! ## each hypothesis matters: the two seeded variants that are not deep copies -/

namespace Witness

/-- `{"a":["x"]}`: the array at address 0, the object at address 1 -/
def hS : Heap := [.arr [.str "x"], .map [("a", .arrRef .list 0 0 1 1)]]
def docS : HNode := .objRef 1

theorem hS_closed : closedHeap hS = true ∧ docS.below hS.length = true := by decide

/-- the shallow copy: a new top-level map that holds the SAME array header -/
theorem shallow_run :
    cloneShallow hS docS = some (hS ++ [.map [("a", .arrRef .list 0 0 1 1)]], .objRef 2) := rfl

/-- it denotes the same value (clause (a) alone does not tell the two apart) … -/
theorem shallow_same_value :
    deref (hS ++ [.map [("a", .arrRef .list 0 0 1 1)]]) 3 (.objRef 2) = deref hS 3 docS := rfl

/-- … but it reaches the OLD address 0 (freshness (b) fails) … -/
theorem shallow_not_fresh : reach (hS ++ [.map [("a", .arrRef .list 0 0 1 1)]]) 3 (.objRef 2) = [2, 0] := rfl

/-- … and one write below the copy (`copy["a"][0] = "y"`) changes what the ORIGINAL denotes
    (conclusion (d) fails): the shape of D29 and of seeded change C03-clonenode-shallow-slices-clone -/
theorem shallow_write_changes_original :
    (∃ g, 0 ∈ reach (hS ++ [.map [("a", .arrRef .list 0 0 1 1)]]) g (.objRef 2)) ∧
    deref hS 3 docS = some (.obj [("a", .arr .list [.str "x"])]) ∧
    deref (runWrites (hS ++ [.map [("a", .arrRef .list 0 0 1 1)]]) [.cellSet 0 0 (.str "y")]) 3 docS
      = some (.obj [("a", .arr .list [.str "y"])]) ∧
    Json.obj [("a", .arr .list [.str "x"])] ≠ Json.obj [("a", .arr .list [.str "y"])] :=
  ⟨⟨3, by decide⟩, rfl, rfl, by simp⟩

/-- the real `cloneNode` on the same input: new array at 2, new map at 3; the corresponding write goes
    to address 2 and the original still reads `{"a":["x"]}` while the copy reads `{"a":["y"]}` -/
theorem deep_run :
    cloneNode 3 hS docS = some (hS ++ [.arr [.str "x"], .map [("a", .arrRef .list 2 0 1 1)]], .objRef 3) := rfl

theorem deep_write_leaves_original :
    reach (hS ++ [.arr [.str "x"], .map [("a", .arrRef .list 2 0 1 1)]]) 3 (.objRef 3) = [3, 2] ∧
    deref (runWrites (hS ++ [.arr [.str "x"], .map [("a", .arrRef .list 2 0 1 1)]]) [.cellSet 2 0 (.str "y")]) 3 docS
      = some (.obj [("a", .arr .list [.str "x"])]) ∧
    deref (runWrites (hS ++ [.arr [.str "x"], .map [("a", .arrRef .list 2 0 1 1)]]) [.cellSet 2 0 (.str "y")]) 3 (.objRef 3)
      = some (.obj [("a", .arr .list [.str "y"])]) :=
  ⟨rfl, rfl, rfl⟩

/-- `{"a":{}}`: the empty map at address 0, the object at address 1 (the added value of the first
    operation of the JSON Patch `[add /a {}, add /a/b 1]` of the seeded change's description) -/
def hE : Heap := [.map [], .map [("a", .objRef 0)]]
def docE : HNode := .objRef 1

theorem hE_closed : closedHeap hE = true ∧ docE.below hE.length = true := by decide

/-- the variant copies the outer map and returns the empty inner map as it is -/
theorem emptyShared_run :
    cloneNodeEmptyShared 3 hE docE = some (hE ++ [.map [("a", .objRef 0)]], .objRef 2) := rfl

/-- `copy["a"]["b"] = 1` (the second operation) writes into the diff's own `{}`: the original now
    denotes `{"a":{"b":1}}` — seeded change C15-clonenode-empty-object-shared -/
theorem emptyShared_write_changes_original :
    (∃ g, 0 ∈ reach (hE ++ [.map [("a", .objRef 0)]]) g (.objRef 2)) ∧
    deref hE 3 docE = some (.obj [("a", .obj [])]) ∧
    deref (runWrites (hE ++ [.map [("a", .objRef 0)]]) [.mapSet 0 "b" (.num 1)]) 3 docE
      = some (.obj [("a", .obj [("b", .num 1)])]) ∧
    Json.obj [("a", .obj [])] ≠ Json.obj [("a", .obj [("b", .num 1)])] :=
  ⟨⟨3, by decide⟩, rfl, rfl, by simp⟩

/-- the real `cloneNode` allocates a new empty map (address 2) as well -/
theorem deep_run_empty :
    cloneNode 3 hE docE = some (hE ++ [.map [], .map [("a", .objRef 2)]], .objRef 3) := rfl

theorem deep_write_leaves_original_empty :
    deref (runWrites (hE ++ [.map [], .map [("a", .objRef 2)]]) [.mapSet 2 "b" (.num 1)]) 3 docE
      = some (.obj [("a", .obj [])]) ∧
    deref (runWrites (hE ++ [.map [], .map [("a", .objRef 2)]]) [.mapSet 2 "b" (.num 1)]) 3 (.objRef 3)
      = some (.obj [("a", .obj [("b", .num 1)])]) :=
  ⟨rfl, rfl⟩

/-- the hypothesis "no dangling reference" of the clone theorems is needed: `[{…}, <dangling 2>]` — after
    the first element has been cloned address 2 exists, the clone of the list succeeds and denotes a value
    although the original does not -/
def hD : Heap := [.map [], .arr [.objRef 0, .objRef 2]]

theorem dangling_needed :
    deref hD 3 (.arrRef .list 1 0 2 2) = none ∧
    (∃ h' n', cloneNode 3 hD (.arrRef .list 1 0 2 2) = some (h', n') ∧
      deref h' 3 n' = some (.arr .list [.obj [], .obj []])) :=
  ⟨rfl, _, _, rfl, rfl⟩

/-- in-place `append` into spare capacity is a write other slices over the same cells see: `s := a[:1]`,
    `append(s, "z")` overwrites `a[1]` -/
theorem append_in_place_is_shared :
    goAppend (fun c => 2 * c) [.arr [.str "x", .str "y"]] (.arrRef .list 0 0 1 2) (.str "z")
      = some ([.arr [.str "x", .str "z"]], .arrRef .list 0 0 2 2) ∧
    deref [.arr [.str "x", .str "y"]] 2 (.arrRef .list 0 0 2 2) = some (.arr .list [.str "x", .str "y"]) ∧
    deref [.arr [.str "x", .str "z"]] 2 (.arrRef .list 0 0 2 2) = some (.arr .list [.str "x", .str "z"]) :=
  ⟨rfl, rfl, rfl⟩

end Witness

/-! ## the case analysis of `cloneNode` and the source -/

/-- the `default` case returns the node itself and allocates nothing -/
theorem cloneNode_asIs {n : HNode} (hn : n.cloneCase = .asIs) (f : Nat) (h : Heap) :
    cloneNode (f+1) h n = some (h, n) := by
  cases n <;> first | rfl | cases hn

/-- the nodes returned as they are are EXACTLY those that carry no reference -/
theorem asIs_iff_immutable (n : HNode) : n.cloneCase = .asIs ↔ n.immutable = true := by
  cases n <;> simp [HNode.cloneCase, HNode.immutable, HNode.addr?]

/-- the node that comes back is the original moved to a new address (the original itself when it carries no
    reference) -/
theorem cloneNode_moved {f : Nat} {h h' : Heap} {n n' : HNode} (hc : cloneNode f h n = some (h', n')) :
    ∃ a', n' = moved a' n := by
  cases f with
  | zero => cases hc
  | succ f =>
    rw [cloneNode_succ_kids] at hc
    split at hc
    · cases hc; exact ⟨0, by cases n <;> first | rfl | simp [HNode.addr?] at *⟩
    · split at hc
      · split at hc
        · cases hc; exact ⟨_, rfl⟩
        · cases hc
      · cases hc

/-- a node comes back with the same Go dynamic type (`jsonList(cloneNodes(t))` keeps the type) -/
theorem cloneNode_keeps_type {f : Nat} {h h' : Heap} {n n' : HNode} (hc : cloneNode f h n = some (h', n')) :
    n'.goType = n.goType ∧ n'.cloneCase = n.cloneCase := by
  obtain ⟨a', rfl⟩ := cloneNode_moved hc
  cases n with
  | arrRef t a off len cap => cases t <;> exact ⟨rfl, rfl⟩
  | _ => exact ⟨rfl, rfl⟩

/-- the node that comes back refers to nothing old: it is immutable, or its own map / backing array is new -/
theorem cloneNode_root_fresh {f : Nat} {h h' : Heap} {n n' : HNode} (ib : InB h n)
    (hc : cloneNode f h n = some (h', n')) : n'.freshFrom h.length = true := by
  cases hadr : n'.addr? with
  | none => simp [HNode.freshFrom, hadr]
  | some a =>
    have := clone_fresh ib hc 1 a (by rw [reach_succ_kids, hadr]; exact List.mem_cons_self)
    simp [HNode.freshFrom, hadr, this.1]

/-- a cloned slice has no spare capacity (`make([]JsonNode, len(nodes))`): an `append` to the copy
    always goes to a new array -/
theorem cloneNode_slice_full {f : Nat} {h h' : Heap} {t : Tag} {a off len cap : Nat} {n' : HNode}
    (hc : cloneNode f h (.arrRef t a off len cap) = some (h', n')) :
    ∃ a', n' = .arrRef t a' 0 len len :=
  cloneNode_moved hc

/-! ### what the regenerated table of source sites (tools/pathfacts → JdModel/Gen/PathSites.lean) says
    about `cloneNode` / `cloneNodes` today, and its link to the model -/

/-- the `store` sites pathfacts lists inside `cloneNode` of one library: one per `return` of a
    CONTAINER case of the type switch (the `default: return n` is not listed) -/
def cloneNodeReturns (lib : String) : List (String × PathHeap.SiteKind × PathHeap.SExpr) :=
  Gen.pathSites.filter (fun s => s.1.startsWith (lib ++ "/patch_common.go:cloneNode:store"))

/-- the number of mutable kinds of the model's case list -/
def modelContainerCases : List (String × CloneCase) := modelCloneCases.filter (fun p => p.2 != .asIs)

/-! ### what the table does NOT carry (hand transcription; tied to the regenerated case table in JdProps/C15Clone) -/

/-- Go's underlying type of a node type, as far as mutability goes -/
inductive GoRepr where
  | mapType     -- `map[string]JsonNode`: a reference
  | sliceType   -- `[]T`: pointer, length, capacity
  | plain       -- struct{} / bool / float64 / string: no interior pointer that can be written through
deriving Repr, DecidableEq, Inhabited

/-- TRANSCRIBED BY HAND from v2/patch_common.go and lib/patch_common.go (identical there): the type switch
    of `cloneNode`, the `default` case spelled out over the remaining types that implement `JsonNode`. -/
def sourceCloneCases_asRead : List (String × CloneCase) :=
  [("voidNode", .asIs), ("jsonNull", .asIs), ("jsonBool", .asIs), ("jsonNumber", .asIs), ("jsonString", .asIs),
   ("jsonObject", .copyMap), ("jsonArray", .copySlice), ("jsonList", .copySlice), ("jsonSet", .copySlice),
   ("jsonMultiset", .copySlice)]

/-- TRANSCRIBED BY HAND from the `type … ` declarations of v2/ and lib/ (void.go, null.go, bool.go,
    number.go, string.go, object.go, array.go, list.go, set.go, multiset.go). -/
def sourceNodeRepr_asRead : List (String × GoRepr) :=
  [("voidNode", .plain), ("jsonNull", .sliceType), ("jsonBool", .plain), ("jsonNumber", .plain),
   ("jsonString", .plain), ("jsonObject", .mapType), ("jsonArray", .sliceType), ("jsonList", .sliceType),
   ("jsonSet", .sliceType), ("jsonMultiset", .sliceType)]

/-- the model's case analysis IS the source's type switch (as transcribed) -/
theorem modelCloneCases_eq_source : modelCloneCases = sourceCloneCases_asRead := rfl

/-- every map type is copied as a map, every slice type as a slice, every plain type returned as it is —
    with ONE exception: jsonNull is a slice type (`[]byte`) that `cloneNode` returns shared. The model
    treats `null` as immutable; this is sound for aliasing because every jsonNull of the library has
    length and capacity 0 (`jsonNull(nil)`, `jsonNull{}`) and is never indexed or appended to, and a
    capacity-0 slice allows no write through it (`cap0_no_write_through`). -/
theorem cases_follow_representation_except_null :
    (sourceCloneCases_asRead.zip sourceNodeRepr_asRead).all (fun p =>
      p.1.1 == p.2.1 &&
      (if p.1.1 == "jsonNull" then p.1.2 == .asIs && p.2.2 == .sliceType
       else match p.2.2 with
        | .mapType => p.1.2 == .copyMap
        | .sliceType => p.1.2 == .copySlice
        | .plain => p.1.2 == .asIs)) = true := by decide +kernel


/-! ## the dynamic discipline: an editor that owns the clone -/

/-- in such a heap everything reachable from a fresh node is fresh -/
theorem reach_fresh_of_closed {w : Nat} {h : Heap} (hc : ClosedAbove w h) :
    ∀ (g : Nat) {n : HNode}, n.freshFrom w = true → ∀ a ∈ reach h g n, w ≤ a :=
  have own : ∀ (n : HNode) a, n.freshFrom w = true → n.addr? = some a → w ≤ a :=
    fun n a hn hadr => by simpa [HNode.freshFrom, hadr] using hn
  reach_induct own (fun n a o hn hadr ho => hc a (own n a hn hadr) o ho)

theorem mem_ainsert_snd {β} (k : String) (v : β) (kvs : List (String × β)) (m : β)
    (hm : m ∈ (ainsert k v kvs).map (·.2)) : m = v ∨ m ∈ kvs.map (·.2) := by
  obtain ⟨p, hp, rfl⟩ := List.mem_map.1 hm
  exact (mem_ainsert hp).imp (fun e => by rw [e]) (fun h => List.mem_map_of_mem h)

theorem mem_aerase_snd {β} (k : String) (kvs : List (String × β)) (m : β)
    (hm : m ∈ (aerase k kvs).map (·.2)) : m ∈ kvs.map (·.2) := by
  obtain ⟨p, hp, rfl⟩ := List.mem_map.1 hm
  exact List.mem_map_of_mem (mem_aerase hp)

/-- replacing the object at `a` keeps the heap closed when, should `a` lie above the watermark, the new
    object holds fresh nodes only -/
theorem closedAbove_set {w : Nat} {h : Heap} (hc : ClosedAbove w h) (a : Nat) (o' : Obj)
    (ho' : w ≤ a → ∀ m ∈ o'.nodes, m.freshFrom w = true) : ClosedAbove w (h.set a o') := by
  intro b hb o ho m hm
  rw [List.getElem?_set] at ho
  split at ho
  · split at ho
    · cases ho; subst_vars; exact ho' hb m hm
    · cases ho
  · exact hc b hb o ho m hm

/-- an effect that stores only fresh nodes keeps the heap closed above the watermark -/
theorem Write.run_closed {w : Nat} {h : Heap} (hc : ClosedAbove w h) (wr : Write)
    (hs : ∀ m ∈ wr.stored, m.freshFrom w = true) : ClosedAbove w (wr.run h) := by
  cases wr with
  | mapSet a k v =>
    simp only [Write.run, NodeHeap.mapSet]
    split
    · rename_i kvs heq
      refine closedAbove_set hc a _ (fun ha m hm => ?_)
      rcases mem_ainsert_snd k v kvs m hm with rfl | h'
      · exact hs _ List.mem_cons_self
      · exact hc a ha _ heq m h'
    · exact hc
  | mapDel a k =>
    simp only [Write.run, NodeHeap.mapDel]
    split
    · rename_i kvs heq
      exact closedAbove_set hc a _ (fun ha m hm => hc a ha _ heq m (mem_aerase_snd k kvs m hm))
    · exact hc
  | cellSet a i v =>
    simp only [Write.run, NodeHeap.cellSet]
    split
    · rename_i cells heq
      refine closedAbove_set hc a _ (fun ha m hm => ?_)
      rcases List.mem_or_eq_of_mem_set hm with h' | rfl
      · exact hc a ha _ heq m h'
      · exact hs _ List.mem_cons_self
    · exact hc
  | alloc o' => exact closedAbove_concat hc o' hs

theorem Write.run_length (h : Heap) (wr : Write) : h.length ≤ (wr.run h).length := by
  cases wr with
  | alloc o => simp [Write.run, NodeHeap.alloc]
  | _ => simp only [Write.run, NodeHeap.mapSet, NodeHeap.mapDel, NodeHeap.cellSet]; split <;> simp

/-- an editor that obeys `okWrites` never writes below the watermark -/
theorem okWrites_agree {h : Heap} {g : Nat} {root : HNode} (hroot : root.freshFrom h.length = true) :
    ∀ (ws : List Write) {h1 : Heap}, Agree h h1 → ClosedAbove h.length h1 →
      okWrites h.length g root h1 ws = true →
      Agree h (runWrites h1 ws) ∧ ClosedAbove h.length (runWrites h1 ws)
  | [], _, ag, hc, _ => ⟨ag, hc⟩
  | wr :: r, h1, ag, hc, hok => by
    simp only [okWrites, Bool.and_eq_true] at hok
    obtain ⟨⟨ht, hs⟩, hr⟩ := hok
    have hs' : ∀ m ∈ wr.stored, m.freshFrom h.length = true := List.all_eq_true.1 hs
    have htar : ∀ a, wr.target = some a → h.length ≤ a := by
      intro a ha
      rw [ha] at ht
      simp only [List.contains_iff_mem] at ht
      exact reach_fresh_of_closed hc g hroot a ht
    simp only [runWrites, List.foldl_cons]
    exact okWrites_agree hroot r (Write.run_agree ag htar) (Write.run_closed hc wr hs') hr



/-! ## `cloneNodes` on the value slice of a hunk (`patchAll`: `cloneNodes(de.Add)`) -/

theorem cloneNodes_ok {f : Nat} {h h' : Heap} {ns ns' : List HNode} (ib : ∀ x ∈ ns, InB h x)
    (hc : cloneNodes f h ns = some (h', ns')) : CloneListOK h ns h' ns' :=
  cloneList_ok (cloneNode f) (cloneNode_ok f) ns h h' ns' ib hc

namespace Witness

/-- a longer edit of the deep copy of `{"a":["x"]}` (copy: array 2, map 3): overwrite the element,
    allocate a new map (address 4), hang it into the copy, write into it, delete a key — all allowed -/
def editProg : List Write :=
  [.cellSet 2 0 (.str "y"), .alloc (.map []), .mapSet 3 "b" (.objRef 4), .mapSet 4 "k" (.str "v"), .mapDel 3 "a"]

theorem editProg_ok :
    okWrites hS.length 4 (.objRef 3) (hS ++ [.arr [.str "x"], .map [("a", .arrRef .list 2 0 1 1)]]) editProg = true := by
  decide

theorem editProg_result :
    deref (runWrites (hS ++ [.arr [.str "x"], .map [("a", .arrRef .list 2 0 1 1)]]) editProg) 4 (.objRef 3)
      = some (.obj [("b", .obj [("k", .str "v")])]) ∧
    deref (runWrites (hS ++ [.arr [.str "x"], .map [("a", .arrRef .list 2 0 1 1)]]) editProg) 4 docS
      = some (.obj [("a", .arr .list [.str "x"])]) :=
  ⟨rfl, rfl⟩

/-- the discipline rejects storing an OLD node into the copy (the D29 shape: the diff's value itself
    becomes part of the document) and writing into an old object -/
theorem okWrites_rejects :
    okWrites hS.length 4 (.objRef 3) (hS ++ [.arr [.str "x"], .map [("a", .arrRef .list 2 0 1 1)]])
      [.mapSet 3 "b" (.arrRef .list 0 0 1 1)] = false ∧
    okWrites hS.length 4 (.objRef 3) (hS ++ [.arr [.str "x"], .map [("a", .arrRef .list 2 0 1 1)]])
      [.cellSet 0 0 (.str "y")] = false := by
  decide

end Witness


/-! ## separation: writes elsewhere (e.g. into the receiver document `Patch` edits in place) -/

theorem lt_of_getElem?_eq {h1 h : Heap} {a : Nat} (e : h1[a]? = h[a]?) (ha : a < h.length) : a < h1.length := by
  rw [List.getElem?_eq_getElem ha] at e
  exact (List.getElem?_eq_some_iff.1 e).1

/-- effects none of whose targets is reachable from `x` (with fuel `g`) do not change what `x` denotes
    (with fuel `g`): `Patch` editing its receiver in place, and the copies it made, cannot change a diff
    that shares no object with the receiver -/
theorem writes_off_reach_invisible {h : Heap} {x : HNode} {g : Nat} (hin : ∀ a ∈ reach h g x, a < h.length) :
    ∀ (ws : List Write) {h1 : Heap}, (∀ a ∈ reach h g x, h1[a]? = h[a]?) →
      (∀ w ∈ ws, ∀ a, w.target = some a → a ∉ reach h g x) →
      deref (runWrites h1 ws) g x = deref h g x
  | [], _, hag, _ => deref_congr g x hag
  | w :: r, h1, hag, hw => by
    simp only [runWrites, List.foldl_cons]
    refine writes_off_reach_invisible hin r (fun a ha => ?_) (fun w' hw' => hw w' (List.mem_cons_of_mem _ hw'))
    rw [Write.run_get (fun t ht heq => hw w List.mem_cons_self t ht (heq ▸ ha))
      (lt_of_getElem?_eq (hag a ha) (hin a ha))]
    exact hag a ha

end Jd.NodeHeap
