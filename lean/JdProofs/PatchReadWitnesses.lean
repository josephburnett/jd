/-
  JdProofs.PatchReadWitnesses — C10, regressions: concrete patches on which a reader without the
  context check (D28), or with a laxer reading of reference tokens (D30), applies what RFC 6902
  rejects, and what the reader does with them now.

  D28: the element loop takes `test` operations for context looking only at the last index of their
  pointers; without `checkPatchCtx` jd applies patches RFC 6902 rejects. `loop_alone_…` state what the
  loop alone does with four witnesses, `fixed_…` that `readPatchOps` rejects them.
  D30: a `readPointer` that reads the tokens `01`, `+1`, `-1` as indices and keeps `~2` as text
  (v2/pointer.go) makes jd apply patches RFC 6901/6902 reject; `fixed_noncanonical_index_tokens`,
  `fixed_index_token_reading`, `fixed_invalid_escape_rejected`, `before_repair_readings_applied`,
  `fixed_pointers_not_canonical`, `fixed_canonical_pointers_witness` state what the reader does on
  those tokens and what that reading of them would give.
  The readings `rp_…`, `pp_…`, `wpp_…` of concrete pointers also serve the examples of
  JdProofs.PatchNeverMorePermissive.
-/
import JdProofs.PatchParseBack

namespace Jd.NMP
open Jd Jd.Spec Jd.PB

/-! ## REGRESSIONS (D28, D30) and OBSERVATIONS (pointer token syntax)

### 9.0 evaluating the reader on concrete pointers -/


/-- `readPointer` on a text given by its (unescaped) reference tokens -/
theorem rp_of_toks {s : String} {toks : List String} {p : Path}
    (h : s.toList = toks.flatMap (fun t => '/' :: escChars t.toList)) (hp : toks.map elemR = p) :
    readPointer s = .ok p := by
  rw [readPointer_of_parse (parsePointer_of_toList h), hp]

theorem patchM_of_ref {t m : Json} {d : Diff}
    (hd : d.all (fun h => !h.merge && strictPath h.path && hunkListDoc h) = true)
    (hn : t.listDoc = true) (h : applyStrictAll t d = some m) :
    ∃ r, patchM t d = .ok r ∧ untag r = untag m := by
  obtain ⟨r, hr⟩ := (strictAll_applies_iff true t d hd hn).2 (by simp [h])
  obtain ⟨m', hm', hu⟩ := strictAll_result true t d hd hn r hr
  rw [h] at hm'; cases hm'; exact ⟨r, hr, hu⟩

/-- a patch read as ONE element: the element loop gives that element, the second loop the context
    operations `ctxOf` of the patch, and the check is the check of that element -/
theorem readPatchOps_single {ops : List PatchOp} {e : Hunk} (h : readPatchHunk ops = .ok (e, [])) :
    readPatchLoop (ops.length + 1) ops [] = .ok [e] ∧
    readPatchOps ops =
      (match checkPatchCtx e (ctxOf ops) with | .ok () => .ok [e] | .err => .err | .panic => .panic) := by
  cases ops with
  | nil => simp [readPatchHunk] at h
  | cons o tl =>
    have h1 : readPatchLoop ((o :: tl).length + 1) (o :: tl) [] = .ok [e] := by
      rw [List.length_cons, readPatchLoop_cons, h]
      simp [show pushElem [] e = [e] from rfl, readPatchLoop]
    have h2 : readPatchCtxLoop ((o :: tl).length + 1) (o :: tl) [] [] = .ok [ctxOf (o :: tl)] := by
      rw [List.length_cons, readPatchCtxLoop_cons, h]
      simp [show pushCtx [] e [] (ctxOf (o :: tl)) = [ctxOf (o :: tl)] from rfl, readPatchCtxLoop]
    refine ⟨h1, ?_⟩
    simp only [readPatchOps, h1, h2, checkPatchCtxs]
    cases checkPatchCtx e (ctxOf (o :: tl)) <;> rfl

/-- a patch of ONE context-free `add`: no context is remembered, the check passes -/
theorem readPatchOps_single_add {q : PatchOp} {path : Path} (hq : q.op = "add")
    (hp : readPointer q.path = .ok path) :
    readPatchOps [q] = .ok [{ path := path, add := [q.value] }] := by
  have hr : readPatchHunk [q] = .ok ({ path := path, add := [q.value] }, []) := by
    rw [readPatchHunk_cons]
    simp [finishHunk, hq, hp]
  rw [(readPatchOps_single hr).2, ctxOf_not_test (by rw [hq]; decide)]
  rfl

/-! pointers of the witnesses -/

theorem rp_a0 : readPointer "/a/0" = .ok [.key "a", .idx 0] :=
  rp_of_toks (toks := ["a", "0"]) (by decide) (by
    rw [List.map_cons, List.map_cons, elemR_key (by decide) (by decide),
      elemR_idx (i := 0) (by decide) (by decide)]; rfl)

theorem rp_b1 : readPointer "/b/1" = .ok [.key "b", .idx 1] :=
  rp_of_toks (toks := ["b", "1"]) (by decide) (by
    rw [List.map_cons, List.map_cons, elemR_key (by decide) (by decide),
      elemR_idx (i := 1) (by decide) (by decide)]; rfl)

theorem pp_a0 : parsePointer "/a/0" = some ["a", "0"] := parsePointer_of_toList (by decide)

/-! ### W1: a context test addressed to ANOTHER array is taken as context of the edited array -/

def w1Ops : List PatchOp := [tst "/a/0" (.str "x"), adp "/b/1" (.str "y")]
def w1Doc : Json := .obj [("a", .arr .raw [.str "z"]), ("b", .arr .raw [.str "x"])]
def w1Diff : Diff := [{ path := [.key "b", .idx 1], before := [.str "x"], after := [.void], add := [.str "y"] }]

theorem w1_hunk : readPatchHunk w1Ops = .ok
    ({ path := [.key "b", .idx 1], before := [.str "x"], after := [.void], add := [.str "y"] }, []) := by
  simp [w1Ops, readPatchHunk, setPatchCtx, lastIdxOfPointer, rp_a0, rp_b1, lastIdx?, tst, adp]

theorem w1_read : readPatchLoop (w1Ops.length + 1) w1Ops [] = .ok w1Diff := (readPatchOps_single w1_hunk).1


theorem w1_patch : ∃ r, patchM w1Doc w1Diff = .ok r ∧
    untag r = .obj [("a", .arr .raw [.str "z"]), ("b", .arr .raw [.str "x", .str "y"])] := by
  have : applyStrictAll w1Doc w1Diff
      = some (.obj [("a", .arr .raw [.str "z"]), ("b", .arr .raw [.str "x", .str "y"])]) := by
    simp [applyStrictAll, applyStrict, w1Doc, w1Diff, alookup, splice, prefixEq, beforeOk, afterOk,
      specEq, equivB, Json.isVoid, ainsert]
  exact patchM_of_ref (by decide) (by decide) this

/-! RFC 6902 evaluation, one operation at a time (the operations behind a failing one are not looked at) -/

theorem eval_cons_some {n n' : Json} {o : Op} {r : List Op} (h : evalOp n o = some n') :
    eval n (o :: r) = eval n' r := by simp [eval, h]

theorem eval_cons_none {n : Json} {o : Op} {r : List Op} (h : evalOp n o = none) :
    eval n (o :: r) = none := by simp [eval, h]

/-! what `evalOp` does with a `test` of a string, a `remove`, an `add`, once the pointer is parsed; on a
    concrete document `getP`, `removeP`, `addP` then evaluate (`rfl`) -/

theorem evalOp_test_str {n : Json} {s : String} {p : List String} {x v : String}
    (hp : parsePointer s = some p) (hx : getP n p = some (.str x)) :
    evalOp n (tst s (.str v)).toSpec = if x = v then some n else none := by
  simp [evalOp, PatchOp.toSpec, tst, hp, hx, equivB_str_str]

theorem evalOp_rmv {n : Json} {s : String} {p : List String} {v : Json}
    (hp : parsePointer s = some p) : evalOp n (rmv s v).toSpec = removeP n p := by
  simp [evalOp, PatchOp.toSpec, rmv, hp]

theorem evalOp_adp {n : Json} {s : String} {p : List String} {v : Json}
    (hp : parsePointer s = some p) : evalOp n (adp s v).toSpec = addP n p v := by
  simp [evalOp, PatchOp.toSpec, adp, hp]

theorem w1_rfc : eval w1Doc (w1Ops.map PatchOp.toSpec) = none :=
  eval_cons_none ((evalOp_test_str pp_a0 (x := "z") rfl).trans (if_neg (by decide)))


/-- a one-token pointer whose token is an RFC 6901 array index -/
theorem rp_single {s tok : String} {i : Int} (h : s.toList = '/' :: escChars tok.toList)
    (ha : indexToken? tok = some i) (hi : i.natAbs < 2 ^ 53) : readPointer s = .ok [.idx i] :=
  rp_of_toks (toks := [tok]) (by simpa using h) (by rw [List.map_cons, elemR_idx ha hi]; rfl)

theorem rp_0 : readPointer "/0" = .ok [.idx 0] := rp_single (tok := "0") (by decide) (by decide) (by decide)
theorem rp_1 : readPointer "/1" = .ok [.idx 1] := rp_single (tok := "1") (by decide) (by decide) (by decide)
theorem rp_2 : readPointer "/2" = .ok [.idx 2] := rp_single (tok := "2") (by decide) (by decide) (by decide)
theorem rp_3 : readPointer "/3" = .ok [.idx 3] := rp_single (tok := "3") (by decide) (by decide) (by decide)
theorem rp_5 : readPointer "/5" = .ok [.idx 5] := rp_single (tok := "5") (by decide) (by decide) (by decide)
/-- a one-token pointer whose token is not an RFC 6901 array index and not `-`: a member name -/
theorem rp_single_key {s tok : String} (h : s.toList = '/' :: escChars tok.toList)
    (ha : indexToken? tok = none) (hd : (tok == "-") = false) : readPointer s = .ok [.key tok] :=
  rp_of_toks (toks := [tok]) (by simpa using h) (by rw [List.map_cons, elemR_key ha hd]; rfl)

/-- D30: `strconv.Atoi` accepts a leading zero, but `strconv.Itoa(1) ≠ "01"`: the token is a
    member name … -/
theorem rp_01 : readPointer "/01" = .ok [.key "01"] :=
  rp_single_key (tok := "01") (by decide) (by decide) (by decide)
/-- … and so is a token with a sign: the pointer slash-minus-one is not the append index -/
theorem rp_m1 : readPointer "/-1" = .ok [.key "-1"] :=
  rp_single_key (tok := "-1") (by decide) (by decide) (by decide)
/-- the token `-` alone is the append index -/
theorem rp_dash : readPointer "/-" = .ok [.idx (-1)] :=
  rp_of_toks (toks := ["-"]) (by decide) (by rw [List.map_cons, elemR_dash]; rfl)

theorem pp_1 : parsePointer "/1" = some ["1"] := parsePointer_of_toList (by decide)
theorem pp_2 : parsePointer "/2" = some ["2"] := parsePointer_of_toList (by decide)
theorem pp_3 : parsePointer "/3" = some ["3"] := parsePointer_of_toList (by decide)
theorem pp_01 : parsePointer "/01" = some ["01"] := parsePointer_of_toList (by decide)
theorem pp_m1 : parsePointer "/-1" = some ["-1"] := parsePointer_of_toList (by decide)

/-! ### W2: the second of three operations is taken as after-context WITHOUT being a `test` -/

def w2Ops : List PatchOp := [tst "/1" (.str "b"), rmv "/3" (.str "c"), adp "/2" (.str "x")]
def w2Doc : Json := .arr .raw [.str "a", .str "b", .str "c", .str "d"]
def w2Diff : Diff := [{ path := [.idx 2], before := [.str "b"], after := [.str "c"], add := [.str "x"] }]

theorem w2_hunk : readPatchHunk w2Ops = .ok
    ({ path := [.idx 2], before := [.str "b"], after := [.str "c"], add := [.str "x"] }, []) := by
  simp [w2Ops, readPatchHunk, setPatchCtx, lastIdxOfPointer, rp_1, rp_2, rp_3, lastIdx?, tst, adp, rmv]


/-! ### W3: the indices of the context tests are not related to the edit position -/

def w3Ops : List PatchOp := [tst "/0" (.str "a"), tst "/5" (.str "b"), adp "/3" (.str "x")]
def w3Doc : Json := .arr .raw [.str "q", .str "q", .str "a", .str "b"]
def w3Diff : Diff := [{ path := [.idx 3], before := [.str "a"], after := [.str "b"], add := [.str "x"] }]

theorem w3_hunk : readPatchHunk w3Ops = .ok
    ({ path := [.idx 3], before := [.str "a"], after := [.str "b"], add := [.str "x"] }, []) := by
  simp [w3Ops, readPatchHunk, setPatchCtx, lastIdxOfPointer, rp_0, rp_5, rp_3, lastIdx?, tst, adp]

/-! ### W4, W5 (D30): array index tokens RFC 6901 does not allow (leading zero, sign)

Defect D30: a `readPointer` that makes an index of every token `strconv.Atoi` accepts reads `w4Ops`
as `w4DiffOld` (insert at index 1) and `w5Ops` as `w5DiffOld` (append); jd applies both to
`["a","b"]` and RFC 6902 rejects both. `readPointer` reads the tokens as member names. -/

/-- one `add`, evaluated by RFC 6902 -/
theorem eval_adp {n : Json} {s : String} {p : List String} {v : Json}
    (hp : parsePointer s = some p) : eval n ([adp s v].map PatchOp.toSpec) = addP n p v := by
  simp [eval, evalOp_adp hp]

def w4Ops : List PatchOp := [adp "/01" (.str "x")]
def w4Doc : Json := .arr .raw [.str "a", .str "b"]
/-- `w4Ops` with the token read as an index (D30) -/
def w4DiffOld : Diff := [{ path := [.idx 1], add := [.str "x"] }]
/-- what the reader makes of it: the member name `01` -/
def w4Diff : Diff := [{ path := [.key "01"], add := [.str "x"] }]

/-- the addition of a member `k` does not apply to an array: a member name does not address an array -/
theorem patchM_member_arr (k : String) :
    patchM w4Doc [{ path := [.key k], add := [.str "x"] }] = .err :=
  (strictAll_rejects_iff true _ _ rfl rfl).2 (by simp [applyStrictAll, applyStrict, w4Doc])

/-- on the empty OBJECT it adds the member -/
theorem patchM_member_obj (k : String) :
    ∃ r, patchM (.obj []) [{ path := [.key k], add := [.str "x"] }] = .ok r ∧
      untag r = .obj [(k, .str "x")] :=
  patchM_of_ref (m := .obj [(k, .str "x")]) rfl rfl (by
    simp [applyStrictAll, applyStrict, alookup, specEq, equivB, single, Json.singleValue,
      Json.isVoid, ainsert])

theorem w4_accepted : readPatchOps w4Ops = .ok w4Diff :=
  readPatchOps_single_add (q := adp "/01" (.str "x")) rfl rp_01

theorem w4_read : readPatchLoop (w4Ops.length + 1) w4Ops [] = .ok w4Diff :=
  readPatchOps_loop w4_accepted

theorem w4_rfc : eval w4Doc (w4Ops.map PatchOp.toSpec) = none := (eval_adp pp_01).trans rfl

def w5Ops : List PatchOp := [adp "/-1" (.str "x")]
def w5DiffOld : Diff := [{ path := [.idx (-1)], add := [.str "x"] }]
def w5Diff : Diff := [{ path := [.key "-1"], add := [.str "x"] }]

theorem w5_accepted : readPatchOps w5Ops = .ok w5Diff :=
  readPatchOps_single_add (q := adp "/-1" (.str "x")) rfl rp_m1

theorem w5_read : readPatchLoop (w5Ops.length + 1) w5Ops [] = .ok w5Diff :=
  readPatchOps_loop w5_accepted

theorem w5_rfc : eval w4Doc (w5Ops.map PatchOp.toSpec) = none := (eval_adp pp_m1).trans rfl


/-! ### W6 (D30): a `~` escape RFC 6901 does not allow is an error -/

/-- a `~` at the end of a token -/
theorem rp_t_end : readPointer "/a~" = .err := by
  rw [readPointer_eq]
  have h1 : ("/a~" == "") = false := by decide
  have h2 : "/a~".startsWith "/" = true := by
    rw [String.startsWith_string_iff]; exact ⟨['a', '~'], by decide⟩
  have h3 : escapesOK "/a~".toList = false := by decide
  simp only [h1, h2, h3, Bool.false_eq_true, if_false, Bool.not_true, Bool.not_false, if_true]

theorem pp_t2 : parsePointer "/~2" = none := by
  unfold parsePointer
  rw [splitOn_slash]
  have : List.splitOnP (· == '/') "/~2".toList = [[], ['~', '2']] := by decide
  rw [this]
  have h1 : ("/~2" == "") = false := by decide
  have h2 : "/~2".startsWith "/" = true := by
    rw [String.startsWith_string_iff]; exact ⟨['~', '2'], by decide⟩
  simp [h1, h2, decodeToken]

/-- `checkPointerEscapes`: the pointer slash-tilde-two is rejected (D30: without the check it is the
    member name tilde-two) -/
theorem rp_t2 : readPointer "/~2" = .err := by rw [readPointer_eq_parse, pp_t2]

def w6Ops : List PatchOp := [adp "/~2" (.str "x")]
/-- `w6Ops` with the escape kept as text (D30): the member named tilde-two -/
def w6DiffOld : Diff := [{ path := [.key "~2"], add := [.str "x"] }]

theorem w6_rfc : eval (.obj []) (w6Ops.map PatchOp.toSpec) = none := by
  simp [w6Ops, eval, evalOp, PatchOp.toSpec, adp, pp_t2]


/-! ### W7: the after-context test is not related to the number of removals coalesced later -/

def w7Ops : List PatchOp :=
  [tst "/0" (.str "b"), tst "/2" (.str "a"), tst "/1" (.str "r1"), rmv "/1" (.str "r1"),
   tst "/1" (.str "r2"), rmv "/1" (.str "r2")]
def w7Doc : Json := .arr .raw [.str "b", .str "r1", .str "r2", .str "a"]
def w7Diff : Diff :=
  [{ path := [.idx 1], before := [.str "b"], after := [.str "a"], remove := [.str "r1", .str "r2"] }]

theorem w7_read (L : FloatLaws) : readPatchLoop (w7Ops.length + 1) w7Ops [] = .ok w7Diff := by
  have hp : equals [] (pathToJson [.idx 1]) (pathToJson [.idx 1]) = true :=
    pathEq_self L (p := [.idx 1]) (by decide)
  simp [w7Ops, w7Diff, readPatchLoop, readPatchHunk, setPatchCtx, lastIdxOfPointer, rp_0, rp_1, rp_2,
    lastIdx?, tst, rmv, hp, hasContext, Json.isVoid, equals]


/-! writing the pointers of the witnesses and examples -/

theorem wpp_idx {i : Int} (h0 : 0 ≤ i) (h : i.natAbs < 2 ^ 53) {s : String}
    (hs : "/" ++ ptrEscape (toString i) = s) : writePointerPath [.idx i] = .ok s := by
  rw [writePointerPath_cons, writePointerPath_nil]
  have : wtok (.idx i) = some (ptrEscape (toString i)) := by
    simp only [wtok, floatTrunc_intToFloatBits h]
    have : (i == -1) = false := by simp; omega
    simp [this]
  rw [this, ← hs]; simp

theorem wpp_1 : writePointerPath [.idx 1] = .ok "/1" := wpp_idx (by decide) (by decide) (by decide)
theorem wpp_2 : writePointerPath [.idx 2] = .ok "/2" := wpp_idx (by decide) (by decide) (by decide)

/-! ### W7 element by element: the context operations remembered, and the check on them -/

def w7H1 : Hunk := { path := [.idx 1], before := [.str "b"], after := [.str "a"], remove := [.str "r1"] }
def w7H2 : Hunk := { path := [.idx 1], before := [.void], after := [.void], remove := [.str "r2"] }
def w7Rest : List PatchOp := [tst "/1" (.str "r2"), rmv "/1" (.str "r2")]
def w7Ctx : PatchCtx := { before := some (tst "/0" (.str "b")), after := some (tst "/2" (.str "a")) }

theorem w7_e1 : readPatchHunk w7Ops = .ok (w7H1, w7Rest) := by
  simp [w7Ops, w7H1, w7Rest, readPatchHunk, setPatchCtx, lastIdxOfPointer, rp_0, rp_1, rp_2,
    lastIdx?, tst, rmv, equals]

theorem w7_c1 : ctxOf w7Ops = w7Ctx := by
  simp [w7Ops, w7Ctx, ctxOf, setPatchCtx, lastIdxOfPointer, rp_0, rp_1, rp_2, lastIdx?, tst, rmv]

theorem w7_e2 : readPatchHunk w7Rest = .ok (w7H2, []) := by
  simp [w7H2, w7Rest, readPatchHunk, setPatchCtx, lastIdxOfPointer, rp_1,
    lastIdx?, tst, rmv, equals]

/-- the context operations remembered for the ONE element read from W7: the two tests at 0 and 2 -/
theorem w7_ctxs (L : FloatLaws) : readPatchCtxLoop (w7Ops.length + 1) w7Ops [] [] = .ok [w7Ctx] := by
  have hp : equals [] (pathToJson [.idx 1]) (pathToJson [.idx 1]) = true :=
    pathEq_self L (p := [.idx 1]) (by decide)
  have h0 : w7Ops = tst "/0" (.str "b") :: w7Ops.tail := rfl
  have h1 : w7Rest = tst "/1" (.str "r2") :: w7Rest.tail := rfl
  rw [show w7Ops.length + 1 = 5 + 1 + 1 from rfl, h0, readPatchCtxLoop_cons, ← h0, w7_e1]
  simp only
  rw [h1, readPatchCtxLoop_cons, ← h1, w7_e2, w7_c1]
  simp [pushElem, pushCtx, w7H1, w7H2, hp, hasContext, Json.isVoid, readPatchCtxLoop]

/-- the after-context test at 2 is not at `1 + |Remove| = 3` -/
theorem w7_check : checkPatchCtxs w7Diff [w7Ctx] = .err := by
  simp [w7Diff, w7Ctx, checkPatchCtxs, checkPatchCtx, ctxTestOK, rp_0, rp_2, tst, lastIdx?, pathToJson,
    equals, effTag, Json.dispatch, equalsList, dispatchTag]

/-! ### REGRESSIONS for D28: the witnesses F1–F3b are rejected by the reader

For each witness `loop_alone_…` states what the element loop `readPatchLoop` alone reads, what jd's
`Patch` does with it and what RFC 6902 evaluation gives; `fixed_…` states that `readPatchOps` =
`ReadPatchString` (with the context check) REJECTS the operation list, as RFC 6902 does. -/

/-- (D28, F1: context of another array) what the element loop alone does with
    `test /a/0 "x"; add /b/1 "y"` on `{"a":["z"],"b":["x"]}`: the `test` is taken as the
    before-context of the edit of `b` (only the LAST index of its pointer is looked at), jd would
    check `b[0]` and succeed; RFC 6902 tests `a[0]` and rejects the patch. -/
theorem loop_alone_context_of_another_array :
    readPatchLoop (w1Ops.length + 1) w1Ops [] = .ok w1Diff ∧
    (∃ r, patchM w1Doc w1Diff = .ok r ∧
      untag r = .obj [("a", .arr .raw [.str "z"]), ("b", .arr .raw [.str "x", .str "y"])]) ∧
    eval w1Doc (w1Ops.map PatchOp.toSpec) = none :=
  ⟨w1_read, w1_patch, w1_rfc⟩

/-- **REGRESSION F1**: the reader rejects it (the parent of the context test is not the parent
    of the edit). -/
theorem fixed_context_of_another_array : readPatchOps w1Ops = .err := by
  rw [(readPatchOps_single w1_hunk).2]
  simp [w1Ops, setPatchCtx, lastIdxOfPointer, rp_a0, rp_b1, lastIdx?, tst, adp, ctxOf, checkPatchCtx,
    ctxTestOK, Json.isVoid, pathToJson, equals, effTag, Json.dispatch, equalsList, dispatchTag]

/-- (D28, F2: an operation that is not a `test` consumed as context) the element loop alone
    on `test /1 "b"; remove /3; add /2 "x"`, `["a","b","c","d"]`: the `remove` is taken as the
    after-context line `"c"` of the `add` and would NOT be executed: jd `["a","b","x","c","d"]`,
    RFC 6902 `["a","b","x","c"]`. -/
theorem loop_alone_non_test_taken_as_context :
    readPatchLoop (w2Ops.length + 1) w2Ops [] = .ok w2Diff ∧
    (∃ r, patchM w2Doc w2Diff = .ok r ∧
      untag r = .arr .raw [.str "a", .str "b", .str "x", .str "c", .str "d"]) ∧
    eval w2Doc (w2Ops.map PatchOp.toSpec) = some (.arr .raw [.str "a", .str "b", .str "x", .str "c"]) :=
  ⟨(readPatchOps_single w2_hunk).1,
   patchM_of_ref (m := .arr .raw [.str "a", .str "b", .str "x", .str "c", .str "d"]) (by decide) (by decide)
     (by simp [applyStrictAll, applyStrict, w2Doc, w2Diff, splice, prefixEq, beforeOk, afterOk, specEq,
       equivB]),
   (eval_cons_some ((evalOp_test_str pp_1 (x := "b") rfl).trans (if_pos rfl))).trans <|
     (eval_cons_some ((evalOp_rmv pp_3).trans rfl)).trans <|
       (eval_cons_some ((evalOp_adp pp_2).trans rfl)).trans rfl⟩

/-- **REGRESSION F2**: the reader rejects it (the operation taken as after-context is not a
    `test`). -/
theorem fixed_non_test_taken_as_context : readPatchOps w2Ops = .err := by
  rw [(readPatchOps_single w2_hunk).2]
  simp [w2Ops, setPatchCtx, lastIdxOfPointer, rp_1, rp_2, rp_3, lastIdx?, tst, adp, rmv, ctxOf,
    checkPatchCtx, ctxTestOK, pathToJson, equals, effTag, Json.dispatch, equalsList,
    dispatchTag]

/-- (D28, F3: index arithmetic of the context tests unchecked) the element loop alone on
    `test /0 "a"; test /5 "b"; add /3 "x"`, `["q","q","a","b"]`: only `3 ≤ 5` is checked; jd would
    compare the context lines with the elements at 2 and 3 and succeed, RFC 6902 tests the elements
    at 0 and 5 and rejects. -/
theorem loop_alone_context_indices_unchecked :
    readPatchLoop (w3Ops.length + 1) w3Ops [] = .ok w3Diff ∧
    (∃ r, patchM w3Doc w3Diff = .ok r ∧
      untag r = .arr .raw [.str "q", .str "q", .str "a", .str "x", .str "b"]) ∧
    eval w3Doc (w3Ops.map PatchOp.toSpec) = none :=
  ⟨(readPatchOps_single w3_hunk).1,
   patchM_of_ref (m := .arr .raw [.str "q", .str "q", .str "a", .str "x", .str "b"]) (by decide) (by decide)
     (by simp [applyStrictAll, applyStrict, w3Doc, w3Diff, splice, prefixEq, beforeOk, afterOk, specEq,
       equivB]),
   eval_cons_none ((evalOp_test_str pp_0 (x := "q") rfl).trans (if_neg (by decide)))⟩

/-- **REGRESSION F3**: the reader rejects it (the before test is at 0, not at 3 − 1). -/
theorem fixed_context_indices_unchecked : readPatchOps w3Ops = .err := by
  rw [(readPatchOps_single w3_hunk).2]
  simp [w3Ops, setPatchCtx, lastIdxOfPointer, rp_0, rp_5, rp_3, lastIdx?, tst, adp, ctxOf,
    checkPatchCtx, ctxTestOK, pathToJson, equals, effTag, Json.dispatch, equalsList,
    dispatchTag]

/-- (D28, F3b; `FloatLaws` only because READING this patch coalesces two elements, which
    compares their paths with the opaque float `Equals`) the element loop alone on `test /0 "b";
    test /2 "a"; test /1 "r1"; remove /1; test /1 "r2"; remove /1`, `["b","r1","r2","a"]`: the
    after-context would be checked by jd AFTER both removals (element 3 of the original array), by
    the RFC before them at index 2: jd would apply and yield `["b","a"]`, the RFC rejects. -/
theorem loop_alone_after_context_vs_coalesced_removals (L : FloatLaws) :
    readPatchLoop (w7Ops.length + 1) w7Ops [] = .ok w7Diff ∧
    (∃ r, patchM w7Doc w7Diff = .ok r ∧ untag r = .arr .raw [.str "b", .str "a"]) ∧
    eval w7Doc (w7Ops.map PatchOp.toSpec) = none :=
  ⟨w7_read L,
   patchM_of_ref (m := .arr .raw [.str "b", .str "a"]) (by decide) (by decide)
     (by simp [applyStrictAll, applyStrict, w7Doc, w7Diff, splice, prefixEq, beforeOk, afterOk, specEq,
       equivB]),
   (eval_cons_some ((evalOp_test_str pp_0 (x := "b") rfl).trans (if_pos rfl))).trans
     (eval_cons_none ((evalOp_test_str pp_2 (x := "r2") rfl).trans (if_neg (by decide))))⟩

/-- **REGRESSION F3b**: the reader rejects it: the context check runs once the elements are
    complete, with the number of removals coalesced into the element (`1 + 2 = 3 ≠ 2`). -/
theorem fixed_after_context_vs_coalesced_removals (L : FloatLaws) : readPatchOps w7Ops = .err := by
  simp only [readPatchOps, w7_read L, w7_ctxs L, w7_check]

/-- the goal theorem for the element loop ALONE (no context check, no hypothesis on the pointers) is
    false on the model (witness: F1) … -/
theorem loop_alone_unrestricted_goal_is_false :
    ¬ (∀ (ops : List PatchOp) (d : Diff) (t r : Json), t.wf = true → t.listDoc = true →
        (∀ o ∈ ops, valueOK o.value = true) →
        readPatchLoop (ops.length + 1) ops [] = .ok d → patchM t d = .ok r →
        ∃ r', eval t (ops.map PatchOp.toSpec) = some r' ∧ untag r' = untag r) := by
  intro H
  obtain ⟨r, hr, _⟩ := w1_patch
  have hv : ∀ o ∈ w1Ops, valueOK o.value = true := by decide
  obtain ⟨r', h1, _⟩ := H w1Ops w1Diff w1Doc r (by decide) (by decide) hv w1_read hr
  rw [w1_rfc] at h1
  cases h1

/-- … **REGRESSION**: and its witness does not reach `Patch`: `readPatchOps` reads nothing from it. (The goal
    theorem for `readPatchOps` is `readPatchOps_never_more_permissive`.) -/
theorem fixed_unrestricted_goal_witness : ¬ ∃ d, readPatchOps w1Ops = .ok d := by
  rintro ⟨d, h⟩
  rw [fixed_context_of_another_array] at h
  cases h

/-! ### REGRESSIONS for D30: JSON Pointer token syntax

Defect D30: a `readPointer` that parses index tokens with `strconv.Atoi` and keeps a `~` that is not
followed by `0` or `1` as text is more lenient than RFC 6901: jd applies `add` at the pointers
slash-zero-one and slash-minus-one to `["a","b"]` and `add` at slash-tilde-two to `{}`, RFC 6902 rejects
all three — jd MORE PERMISSIVE. With `strconv.Itoa(number) == t` and `checkPointerEscapes`
a token that is not an RFC 6901 array index names a member, and an invalid
escape is an error: RFC 6902 rejects the three witnesses, and so does jd. -/

/-- **REGRESSION (D30)** array index tokens outside the RFC 6901 grammar (leading zero, sign). The
    reader reads `add` at slash-zero-one and at slash-minus-one as additions of the MEMBERS `01`, `-1`;
    on the array `["a","b"]` jd's `Patch` fails, as RFC 6902 does; on the object `{}` both add
    the member. -/
theorem fixed_noncanonical_index_tokens :
    (readPatchOps w4Ops = .ok w4Diff ∧ patchM w4Doc w4Diff = .err ∧
     eval w4Doc (w4Ops.map PatchOp.toSpec) = none ∧
     (∃ r, patchM (.obj []) w4Diff = .ok r ∧ untag r = .obj [("01", .str "x")]) ∧
     eval (.obj []) (w4Ops.map PatchOp.toSpec) = some (.obj [("01", .str "x")])) ∧
    (readPatchOps w5Ops = .ok w5Diff ∧ patchM w4Doc w5Diff = .err ∧
     eval w4Doc (w5Ops.map PatchOp.toSpec) = none ∧
     (∃ r, patchM (.obj []) w5Diff = .ok r ∧ untag r = .obj [("-1", .str "x")]) ∧
     eval (.obj []) (w5Ops.map PatchOp.toSpec) = some (.obj [("-1", .str "x")])) :=
  ⟨⟨w4_accepted, patchM_member_arr _, w4_rfc, patchM_member_obj _, (eval_adp pp_01).trans rfl⟩,
   ⟨w5_accepted, patchM_member_arr _, w5_rfc, patchM_member_obj _, (eval_adp pp_m1).trans rfl⟩⟩

/-- what the pointer reader makes of the tokens: `01`, `-1`, `+1`, `-0` are member names, `-` alone is
    the append index, `0` and `1` are indices -/
theorem fixed_index_token_reading :
    readPointer "/01" = .ok [.key "01"] ∧ readPointer "/-1" = .ok [.key "-1"] ∧
    readPointer "/+1" = .ok [.key "+1"] ∧ readPointer "/-0" = .ok [.key "-0"] ∧
    readPointer "/-" = .ok [.idx (-1)] ∧ readPointer "/0" = .ok [.idx 0] ∧
    readPointer "/1" = .ok [.idx 1] :=
  ⟨rp_01, rp_m1,
   rp_single_key (tok := "+1") (by decide) (by decide) (by decide),
   rp_single_key (tok := "-0") (by decide) (by decide) (by decide),
   rp_dash, rp_0, rp_1⟩

/-- **REGRESSION (D30)** an escape RFC 6901 does not allow: the pointers slash-tilde-two and
    slash-a-tilde are rejected by `readPointer`, `add` at slash-tilde-two is not read at all; RFC 6901
    rejects the pointer. -/
theorem fixed_invalid_escape_rejected :
    readPointer "/~2" = .err ∧ readPointer "/a~" = .err ∧ readPatchOps w6Ops = .err ∧
    eval (.obj []) (w6Ops.map PatchOp.toSpec) = none :=
  ⟨rp_t2, rp_t_end, by simp [readPatchOps, w6Ops, readPatchLoop, readPatchHunk, rp_t2, adp], w6_rfc⟩

/-- what makes D30 a defect: the diffs a reader with the lenient token syntax builds from the three
    witnesses apply under jd's `Patch` (insert at 1, append, member tilde-two)
    where RFC 6902 evaluation of the operations fails -/
theorem before_repair_readings_applied :
    ((∃ r, patchM w4Doc w4DiffOld = .ok r ∧ untag r = .arr .raw [.str "a", .str "x", .str "b"]) ∧
     eval w4Doc (w4Ops.map PatchOp.toSpec) = none) ∧
    ((∃ r, patchM w4Doc w5DiffOld = .ok r ∧ untag r = .arr .raw [.str "a", .str "b", .str "x"]) ∧
     eval w4Doc (w5Ops.map PatchOp.toSpec) = none) ∧
    ((∃ r, patchM (.obj []) w6DiffOld = .ok r ∧ untag r = .obj [("~2", .str "x")]) ∧
     eval (.obj []) (w6Ops.map PatchOp.toSpec) = none) :=
  ⟨⟨patchM_of_ref (m := .arr .raw [.str "a", .str "x", .str "b"]) (by decide) (by decide)
      (by simp [applyStrictAll, applyStrict, w4Doc, w4DiffOld, splice, prefixEq, beforeOk, afterOk]),
    w4_rfc⟩,
   ⟨patchM_of_ref (m := .arr .raw [.str "a", .str "b", .str "x"]) (by decide) (by decide)
      (by simp [applyStrictAll, applyStrict, w4Doc, w5DiffOld, splice]),
    w5_rfc⟩,
   ⟨patchM_member_obj _, w6_rfc⟩⟩

/-- none of these pointer texts is canonical in the sense of `canonPtr` (the text jd itself
    writes): the first two are member names that `writePointer` refuses (number-like), the third
    is not read -/
theorem fixed_pointers_not_canonical :
    canonPtr "/01" = false ∧ canonPtr "/-1" = false ∧ canonPtr "/~2" = false := by
  refine ⟨?_, ?_, ?_⟩
  · have : (atoi? "01").isNone = false := by decide
    simp [canonPtr, rp_01, pathOK', elemOK', this]
  · have : (atoi? "-1").isNone = false := by decide
    simp [canonPtr, rp_m1, pathOK', elemOK', this]
  · simp [canonPtr, rp_t2]

/-- `canonPtr` is not needed in `readPatchOps_never_more_permissive` at the D30 witness (the pointer
    slash-zero-one on `["a","b"]`): the patch is read, and jd's `Patch`
    of what was read FAILS, so the statement holds at this instance without `canonPtr` -/
theorem fixed_canonical_pointers_witness :
    readPatchOps w4Ops = .ok w4Diff ∧ (∀ h ∈ w4Diff, HunkRange h) ∧
    ¬ ∃ r, patchM w4Doc w4Diff = .ok r := by
  refine ⟨w4_accepted, hunkRange_of_all (by decide), ?_⟩
  · rintro ⟨r, hr⟩
    cases (patchM_member_arr "01").symm.trans hr

#print axioms fixed_context_of_another_array
#print axioms fixed_non_test_taken_as_context
#print axioms fixed_context_indices_unchecked
#print axioms fixed_after_context_vs_coalesced_removals
#print axioms fixed_unrestricted_goal_witness
#print axioms loop_alone_context_of_another_array
#print axioms loop_alone_non_test_taken_as_context
#print axioms loop_alone_context_indices_unchecked
#print axioms loop_alone_after_context_vs_coalesced_removals
#print axioms loop_alone_unrestricted_goal_is_false
#print axioms fixed_noncanonical_index_tokens
#print axioms fixed_index_token_reading
#print axioms fixed_invalid_escape_rejected
#print axioms before_repair_readings_applied
#print axioms fixed_pointers_not_canonical
#print axioms fixed_canonical_pointers_witness

end Jd.NMP
