/-
  JdProofs.KeyedPatch — property C08, the keyed-member clause (v2 library):
  "For a keyed member {"k":v} the nested change is applied strictly inside the object matching the
  keys, and a failure there fails the whole patch."

  Model: `patchNode sw false (.arr t xs) (.setKeys po :: rest) …` (JdModel/Patch.lean), which runs the
  search loop `patchKeyed` (`Keyed.keyedLoop` of JdProofs.PatchEqns, where the steps of `patchNode`
  along a path are stated) with the pass chosen by `keyedTol` and the 64-bit identities `pathIdent` /
  `pathIdentTol` / `identObj` (JdModel/Hash.lean). `sw = true` is the Go code as it is (set.go discards
  the result of the nested patch), `sw = false` the error-propagating variant.
  Reference: `Jd.Spec.applyHunkRef` on `.setKeys po :: rest` with `keyedMembers`, `matchesKeys`,
  `matchesKeysTol` (JdSpec/HunkSem.lean) — no hashes.

  Results: (1) the error-propagating variant IS the reference, up to array tags; (2) the code as it is
  swallows a failure of the nested change and otherwise agrees with the reference; (3) the order of
  the members of the target is irrelevant. All go through `keyed_step`, which holds for any rest of
  the path, and its forms when at most one member matches: `keyed_uniq` (code and reference side by
  side) and `keyed_outcome` (the result of the code as a function, applied member by member, of the
  matching members — from which success, swallowed and propagated failure and (3) are read off).
  Stages A–C compare the nested change with the reference on longer and longer paths.

  Hypotheses (all explicit and decidable on the inputs)
    * `t = .raw ∨ t = .set`: the addressed array is a plain `jsonArray` (what the readers produce) or
      a `jsonSet` (what an earlier set hunk leaves). For a `jsonList` / `jsonMultiset` the code rejects
      every keyed element (`keyed_on_list_typed`); the reference ignores Go dynamic types.
    * `wfList xs`, `keysSorted po`: members and path object have distinct (sorted) keys, as a Go map
      guarantees; needed to identify "the hashed restricted object is equivalent to the path object"
      with "the member carries the key values" (a counting argument on distinct keys).
    * `KeyedFaithful po xs`: no hash collision between the path object and the objects hashed by the
      two passes, for every object member. Without it the search acts on hash codes, not on key
      values. (It asks both passes to be faithful even when the second is not run.)
    * `(xs.filter (keyedMembers xs po)).length ≤ 1`: at most one member matches. With two or more the
      reference rejects the hunk and the code patches the first match (`keyed_ambiguous`).
    * for the comparison of the nested change with the reference: stage A `strictPath rest` (the
      domain of StrictPatch); stage B `navPath rest`, `okAlong rest m` (further keys, indices and
      keyed elements); stage C `navElems q`, `okNav q n`, `target q n` and `Faithful` of
      JdProofs.SetPatch for a final `{}` / `[]`.

  What is false / not proved
    * "a failure there fails the whole patch" is FALSE for the code as it is (`sw = true`):
      `keyed_failure_is_swallowed`, `keyed_strict_swallow`, the example below (known finding
      KF-C08-swallow); it holds for the error-propagating variant.
    * For `sw = true` no general description is given of a run in which an INNER keyed element
      swallows a failure and an outer part of the path then goes on (only: the outermost keyed level at
      which the nested patch reports an error returns its array unchanged).
    * `msetKeys` elements: the model has no branch for them (both sides reject); not treated.
-/
import JdModel
import JdSpec
import JdProofs.StrictPatch
import JdProofs.SetPatch
import JdProofs.HashCheck

namespace Jd.Keyed
open Jd Jd.Spec

/-! ### 1. the hash test of the code and the key test of the reference -/

theorem matchesKeys_iff (kvs po : List (String × Json)) (hP : (po.map Prod.fst).Nodup) :
    matchesKeys kvs po = true ↔
      ∀ k v', alookup k po = some v' → ∃ v, alookup k kvs = some v ∧ equivB [.set] v v' = true := by
  simp only [matchesKeys, List.all_eq_true]
  constructor
  · intro h k v' hl
    have := h (k, v') (mem_of_alookup hl)
    simp only at this
    cases hk : alookup k kvs with
    | none => simp [hk] at this
    | some v => exact ⟨v, rfl, by simpa [hk] using this⟩
  · rintro h ⟨k, v'⟩ hm
    obtain ⟨v, hv, he⟩ := h k v' (alookup_of_mem_nodup hP hm)
    simp [hv, he]

theorem matchesKeysTol_iff (kvs po : List (String × Json)) (hP : (po.map Prod.fst).Nodup) :
    matchesKeysTol kvs po = true ↔
      ∀ k v', alookup k po = some v' →
        (match alookup k kvs with
          | some v => equivB [.set] v v'
          | none => v'.isNull) = true := by
  simp only [matchesKeysTol, List.all_eq_true]
  constructor
  · intro h k v' hl
    exact h (k, v') (mem_of_alookup hl)
  · rintro h ⟨k, v'⟩ hm
    exact h k v' (alookup_of_mem_nodup hP hm)

/-- the restricted member is equivalent to the path object iff the member carries the key values -/
theorem equivB_restrict_iff {kvs po : List (String × Json)} (hK : keysSorted kvs = true)
    (hP : keysSorted po = true) :
    equivB [.set] (.obj (restrictKeys kvs po)) (.obj po) = matchesKeys kvs po := by
  rw [Bool.eq_iff_iff, matchesKeys_iff _ _ (keysSorted_nodup hP),
    equivB_obj_optRel [.set] (keysSorted_restrictKeys hK po) hP]
  refine forall_congr' fun k => ?_
  rw [alookup_restrictKeys]
  cases alookup k po <;> cases alookup k kvs <;> simp [DPK.OptRel]

/-- the object of the tolerant pass is equivalent to the path object iff the member carries the key
    values where it has the key and lacks only keys that are null in the path object -/
theorem equivB_tolObj_iff {kvs po : List (String × Json)} (hK : keysSorted kvs = true)
    (hP : keysSorted po = true) :
    equivB [.set] (.obj (tolObj kvs po)) (.obj po) = matchesKeysTol kvs po := by
  have hPn := keysSorted_nodup hP
  rw [Bool.eq_iff_iff, matchesKeysTol_iff _ _ hPn,
    equivB_obj_optRel [.set] (keysSorted_tolObj hK po) hP]
  refine forall_congr' fun k => ?_
  rw [alookup_tolObj hPn]
  cases alookup k po with
  | none => simp [DPK.OptRel]
  | some v' =>
    cases hk : alookup k kvs with
    | some w => simp [DPK.OptRel]
    | none => cases v' <;> simp [DPK.OptRel, Json.isNull, equivB]

/-! ### 2. the faithfulness hypothesis; the member test of the code is the member test of the reference -/

/-- no collision between the hash code of the object `a` and that of the path object `po`: the 64-bit
    FNV values agree exactly when the objects are equivalent -/
def objFaithful (a po : List (String × Json)) : Bool :=
  decide (hashCode [.set] (.obj a) = hashCode [.set] (.obj po)) == equivB [.set] (.obj a) (.obj po)

/-- **the faithfulness hypothesis** (decidable, on the path object and the members of the target): for
    every object member, neither the restriction to the keys of the path object (`pathIdent`, first
    pass) nor the restriction completed by nulls (`pathIdentTol`, second pass) collides with the path
    object -/
def KeyedFaithful (po : List (String × Json)) (xs : List Json) : Bool :=
  xs.all (fun x => match x with
    | .obj kvs => objFaithful (restrictKeys kvs po) po && objFaithful (tolObj kvs po) po
    | _ => true)

/-- `objFaithful` for a number-free `a`, with the kernel-evaluable `equivS` -/
def objFaithfulS (a po : List (String × Json)) : Bool :=
  (Json.obj a).numFree &&
    (decide (hashCode [.set] (.obj a) = hashCode [.set] (.obj po)) == equivS [.set] (.obj a) (.obj po))

theorem objFaithful_of_check {a po : List (String × Json)} (h : objFaithfulS a po = true) :
    objFaithful a po = true := by
  simp only [objFaithfulS, Bool.and_eq_true] at h
  rw [objFaithful, ← equivS_eq _ _ _ h.1]; exact h.2

/-- `KeyedFaithful` of concrete number-free members by one evaluation of a Boolean -/
theorem keyedFaithful_of_check {po : List (String × Json)} {xs : List Json}
    (h : xs.all (fun x => match x with
      | .obj kvs => objFaithfulS (restrictKeys kvs po) po && objFaithfulS (tolObj kvs po) po
      | _ => true) = true) : KeyedFaithful po xs = true := by
  rw [List.all_eq_true] at h
  refine List.all_eq_true.2 fun x hx => ?_
  have hx := h x hx
  cases x with
  | obj kvs =>
    simp only [Bool.and_eq_true] at hx ⊢
    exact ⟨objFaithful_of_check hx.1, objFaithful_of_check hx.2⟩
  | _ => rfl

/-- the member test of `jsonSet.patch` (pass `tol`) -/
abbrev hashMatch (tol : Bool) (po : List (String × Json)) : Json → Bool :=
  hashMatchL tol (identObj [.set] po) po

/-- the exact member test of the reference -/
def exactMember (po : List (String × Json)) : Json → Bool
  | .obj kvs => matchesKeys kvs po
  | _ => false

/-- the tolerant member test of the reference -/
def tolMember (po : List (String × Json)) : Json → Bool
  | .obj kvs => matchesKeysTol kvs po
  | _ => false

theorem keyedMembers_eq (xs : List Json) (po : List (String × Json)) :
    keyedMembers xs po = if xs.any (exactMember po) then exactMember po else tolMember po := by
  rfl

theorem keyedTol_eq (po : List (String × Json)) (xs : List Json) :
    keyedTol po xs = !(xs.any (hashMatch false po)) := by
  unfold keyedTol
  congr 2

theorem wf_member {xs : List Json} (hwf : wfList xs = true) {kvs : List (String × Json)}
    (hm : Json.obj kvs ∈ xs) : keysSorted kvs = true := by
  have := wfList_iff.1 hwf _ hm
  simp only [Json.wf, Bool.and_eq_true] at this
  exact this.1

theorem hashMatch_eq {po : List (String × Json)} {xs : List Json} (hwf : wfList xs = true)
    (hpo : keysSorted po = true) (hF : KeyedFaithful po xs = true) {x : Json} (hx : x ∈ xs) :
    hashMatch false po x = exactMember po x ∧ hashMatch true po x = tolMember po x := by
  cases x with
  | obj kvs =>
    have hK := wf_member hwf hx
    have := (List.all_eq_true.1 hF) _ hx
    simp only [Bool.and_eq_true, objFaithful, beq_iff_eq] at this
    obtain ⟨f1, f2⟩ := this
    rw [equivB_restrict_iff hK hpo] at f1
    rw [equivB_tolObj_iff hK hpo] at f2
    simp only [hashMatchL, exactMember, tolMember, identObj_set, pathIdent_eq, pathIdentTol_eq,
      if_true, if_false, Bool.false_eq_true]
    rw [← f1, ← f2]
    exact ⟨Bool.beq_eq_decide_eq _ _, Bool.beq_eq_decide_eq _ _⟩
  | _ => simp [hashMatchL, exactMember, tolMember]

/-- under the hypotheses, the member test of the code (with the pass chosen by `keyedTol`) is the
    member test `keyedMembers` of the reference, on every member of the target -/
theorem hashMatch_keyedMembers {po : List (String × Json)} {xs : List Json}
    (hwf : wfList xs = true) (hpo : keysSorted po = true) (hF : KeyedFaithful po xs = true)
    {x : Json} (hx : x ∈ xs) :
    hashMatch (keyedTol po xs) po x = keyedMembers xs po x := by
  have hany : xs.any (hashMatch false po) = xs.any (exactMember po) := by
    rw [Bool.eq_iff_iff, List.any_eq_true, List.any_eq_true]
    constructor
    · rintro ⟨y, hy, e⟩; exact ⟨y, hy, by rw [← (hashMatch_eq hwf hpo hF hy).1]; exact e⟩
    · rintro ⟨y, hy, e⟩; exact ⟨y, hy, by rw [(hashMatch_eq hwf hpo hF hy).1]; exact e⟩
  rw [keyedTol_eq, keyedMembers_eq, hany]
  cases xs.any (exactMember po)
  · simpa using (hashMatch_eq hwf hpo hF hx).2
  · simpa using (hashMatch_eq hwf hpo hF hx).1

theorem keyedMembers_obj {xs : List Json} {po : List (String × Json)} {x : Json}
    (h : keyedMembers xs po x = true) : ∃ kvs, x = .obj kvs := by
  rw [keyedMembers_eq] at h
  cases x with
  | obj kvs => exact ⟨kvs, rfl⟩
  | _ => split at h <;> simp [exactMember, tolMember] at h

/-! ### 3. a keyed element at the end of the path -/

/-- a keyed element at the end of the path is rejected -/
theorem patchNode_setKeys_last (sw : Bool) (t : Tag) (xs : List Json)
    (po : List (String × Json)) (before remove add after : List Json) :
    patchNode sw false (.arr t xs) [.setKeys po] before remove add after = .err := by
  simp only [patchNode_strict, patchS, ne_eq, not_true_eq_false, and_false, if_false]

/-! ### 4. the first member satisfying a test -/

theorem first_match {α} (p : α → Bool) (xs : List α) : (∀ x ∈ xs, p x = false) ∨
    ∃ l1 m l2, xs = l1 ++ m :: l2 ∧ (∀ x ∈ l1, p x = false) ∧ p m = true := by
  cases h : xs.find? p with
  | none => exact .inl (by simpa using h)
  | some m =>
    obtain ⟨hm, l1, l2, e, h1⟩ := List.find?_eq_some_iff_append.1 h
    exact .inr ⟨l1, m, l2, e, by simpa using h1, hm⟩

theorem filter_none {α} {p : α → Bool} {l : List α} (h : ∀ x ∈ l, p x = false) : l.filter p = [] :=
  List.filter_eq_nil_iff.2 (fun x hx => by simp [h x hx])

theorem filter_split {α} (p : α → Bool) {l1 l2 : List α} {m : α} (h1 : ∀ x ∈ l1, p x = false)
    (hm : p m = true) : (l1 ++ m :: l2).filter p = m :: l2.filter p := by
  simp [List.filter_append, filter_none h1, hm]

theorem filter_unique {α} (p : α → Bool) {l1 l2 : List α} {m : α} (h1 : ∀ x ∈ l1, p x = false)
    (hm : p m = true) (h2 : ∀ x ∈ l2, p x = false) : (l1 ++ m :: l2).filter p = [m] := by
  rw [filter_split p h1 hm, filter_none h2]

theorem map_replace_fn {p : Json → Bool} (g : Json → Json) {l1 l2 : List Json} {m : Json}
    (h1 : ∀ x ∈ l1, p x = false) (hm : p m = true) (h2 : ∀ x ∈ l2, p x = false) :
    (l1 ++ m :: l2).map (fun x => if p x then g x else x) = l1 ++ g m :: l2 := by
  have e : ∀ l : List Json, (∀ x ∈ l, p x = false) → l.map (fun x => if p x then g x else x) = l :=
    fun l hl => (List.map_congr_left (fun x hx => by simp [hl x hx])).trans (List.map_id l)
  simp [e l1 h1, e l2 h2, hm]

theorem map_replace {p : Json → Bool} {l1 l2 : List Json} {m v : Json}
    (h1 : ∀ x ∈ l1, p x = false) (hm : p m = true) (h2 : ∀ x ∈ l2, p x = false) :
    (l1 ++ m :: l2).map (fun x => if p x then v else x) = l1 ++ v :: l2 :=
  map_replace_fn (fun _ => v) h1 hm h2

/-! ### 5. the reference on a keyed element -/

theorem applyHunkRef_setKeys (t : Tag) (xs : List Json) (po : List (String × Json)) (rest : Path)
    (hrest : rest ≠ []) (h : Hunk) :
    applyHunkRef (.arr t xs) (.setKeys po :: rest) h =
      match xs.filter (keyedMembers xs po) with
      | [m] => (applyHunkRef m rest h).map (fun v =>
          Json.arr .raw (xs.map (fun x => if keyedMembers xs po x then v else x)))
      | _ => none := by
  have hre : rest.isEmpty = false := by cases rest <;> simp_all
  rw [applyHunkRef]
  simp only [hre, Bool.false_eq_true, if_false]
  rfl

theorem applyHunkRef_idx_arr (t : Tag) (xs : List Json) (i : Int) (rest : Path) (hrest : rest ≠ [])
    (h : Hunk) :
    applyHunkRef (.arr t xs) (.idx i :: rest) h =
      if i < 0 then none else match xs[i.toNat]? with
        | some x => (applyHunkRef x rest h).map (fun v => Json.arr .raw (xs.set i.toNat v))
        | none => none := by
  cases rest with
  | nil => exact absurd rfl hrest
  | cons e r => simp only [applyHunkRef]; rfl

theorem applyHunkRef_setKeys_last (n : Json) (po : List (String × Json)) (h : Hunk) :
    applyHunkRef n [.setKeys po] h = none := by
  simp [applyHunkRef]


/-! ### 6. one keyed element: the code and the reference, for ANY rest of the path -/

/-- **The keyed step.** Under the hypotheses (sorted keys, faithful hashes) either no member of the
    target matches the path object — the code reports an error and the reference rejects — or the
    target is `l1 ++ m :: l2` with `m` the FIRST matching member, an object; the code patches `m` with
    the rest of the path and puts the result back in place (`keyedOut`); the reference does the same
    when no other member matches, and rejects the hunk when another member matches too. -/
theorem keyed_step (sw : Bool) (t : Tag) (ht : t = .raw ∨ t = .set) (xs : List Json)
    (po : List (String × Json)) (rest : Path) (hrest : rest ≠ []) (h : Hunk)
    (hwf : wfList xs = true) (hpo : keysSorted po = true) (hF : KeyedFaithful po xs = true) :
    ((∀ x ∈ xs, keyedMembers xs po x = false) ∧
      patchNode sw false (.arr t xs) (.setKeys po :: rest) h.before h.remove h.add h.after = .err ∧
      applyHunkRef (.arr t xs) (.setKeys po :: rest) h = none) ∨
    ∃ l1 kvs l2, xs = l1 ++ .obj kvs :: l2 ∧ (∀ x ∈ l1, keyedMembers xs po x = false) ∧
      keyedMembers xs po (.obj kvs) = true ∧
      patchNode sw false (.arr t xs) (.setKeys po :: rest) h.before h.remove h.add h.after =
        keyedOut sw l1 (.obj kvs) l2
          (patchNode sw false (.obj kvs) rest h.before h.remove h.add h.after) ∧
      ((∀ x ∈ l2, keyedMembers xs po x = false) →
        applyHunkRef (.arr t xs) (.setKeys po :: rest) h =
          (applyHunkRef (.obj kvs) rest h).map (fun v => Json.arr .raw (l1 ++ v :: l2))) ∧
      ((∃ x ∈ l2, keyedMembers xs po x = true) →
        applyHunkRef (.arr t xs) (.setKeys po :: rest) h = none) := by
  have hmm : ∀ x ∈ xs, hashMatchL (keyedTol po xs) (identObj [.set] po) po x = keyedMembers xs po x :=
    fun x hx => hashMatch_keyedMembers hwf hpo hF hx
  rw [patchNode_setKeys_loop sw t ht xs po rest hrest, applyHunkRef_setKeys t xs po rest hrest]
  rcases first_match (keyedMembers xs po) xs with hno | ⟨l1, m, l2, e, h1, hm⟩
  · refine Or.inl ⟨hno, ?_, ?_⟩
    · exact keyedLoop_none _ _ _ _ _ (fun x hx => by rw [hmm x hx]; exact hno x hx)
    · rw [filter_none hno]
  · obtain ⟨kvs, rfl⟩ := keyedMembers_obj hm
    subst e
    refine Or.inr ⟨l1, kvs, l2, rfl, h1, hm, ?_, ?_, ?_⟩
    · exact keyedLoop_found _ _ _ _ (by rw [hmm _ (by simp)]; exact hm) l1 []
        (fun x hx => by rw [hmm x (by simp [hx])]; exact h1 x hx)
    · intro h2
      rw [filter_unique _ h1 hm h2]
      simp only [map_replace h1 hm h2]
    · rintro ⟨x, hx, hkx⟩
      rw [filter_split _ h1 hm]
      have : x ∈ l2.filter _ := List.mem_filter.2 ⟨hx, hkx⟩
      cases hl : l2.filter (keyedMembers (l1 ++ .obj kvs :: l2) po) with
      | nil => rw [hl] at this; simp at this
      | cons y r => rfl

theorem unique_after {xs : List Json} {p : Json → Bool} {l1 l2 : List Json} {m : Json}
    (huniq : (xs.filter p).length ≤ 1) (e : xs = l1 ++ m :: l2) (h1 : ∀ x ∈ l1, p x = false)
    (hm : p m = true) : ∀ x ∈ l2, p x = false := by
  rw [e, filter_split p h1 hm, List.length_cons] at huniq
  have hnil : l2.filter p = [] := List.eq_nil_of_length_eq_zero (by omega)
  intro x hx
  simpa using List.filter_eq_nil_iff.1 hnil x hx

theorem filter_eq_singleton {α} {p : α → Bool} {xs : List α} (huniq : (xs.filter p).length ≤ 1)
    {m : α} (hmem : m ∈ xs) (hm : p m = true) : xs.filter p = [m] := by
  have hin : m ∈ xs.filter p := List.mem_filter.2 ⟨hmem, hm⟩
  obtain ⟨a, ha⟩ := List.length_eq_one_iff.1
    (Nat.le_antisymm huniq (List.length_pos_of_mem hin))
  rw [ha] at hin ⊢
  rw [List.mem_singleton.1 hin]

/-- **The keyed step when at most one member matches.** No member matches, the code reports an error
    and the reference rejects; or the target is `l1 ++ m :: l2` with `m` the one matching member, and
    code and reference both patch `m` with the rest of the path and put the result back in place. -/
theorem keyed_uniq (sw : Bool) (t : Tag) (ht : t = .raw ∨ t = .set) (xs : List Json)
    (po : List (String × Json)) (rest : Path) (hrest : rest ≠ []) (h : Hunk)
    (hwf : wfList xs = true) (hpo : keysSorted po = true) (hF : KeyedFaithful po xs = true)
    (huniq : (xs.filter (keyedMembers xs po)).length ≤ 1) :
    (xs.filter (keyedMembers xs po) = [] ∧
      patchNode sw false (.arr t xs) (.setKeys po :: rest) h.before h.remove h.add h.after = .err ∧
      applyHunkRef (.arr t xs) (.setKeys po :: rest) h = none) ∨
    ∃ l1 kvs l2, xs = l1 ++ .obj kvs :: l2 ∧ xs.filter (keyedMembers xs po) = [.obj kvs] ∧
      (∀ x ∈ l1, keyedMembers xs po x = false) ∧ keyedMembers xs po (.obj kvs) = true ∧
      (∀ x ∈ l2, keyedMembers xs po x = false) ∧
      patchNode sw false (.arr t xs) (.setKeys po :: rest) h.before h.remove h.add h.after =
        keyedOut sw l1 (.obj kvs) l2
          (patchNode sw false (.obj kvs) rest h.before h.remove h.add h.after) ∧
      applyHunkRef (.arr t xs) (.setKeys po :: rest) h =
        (applyHunkRef (.obj kvs) rest h).map (fun v => Json.arr .raw (l1 ++ v :: l2)) := by
  rcases keyed_step sw t ht xs po rest hrest h hwf hpo hF with
    ⟨hno, e1, e2⟩ | ⟨l1, kvs, l2, e, h1, hm, e1, e2, _⟩
  · exact .inl ⟨filter_none hno, e1, e2⟩
  · have h2 := unique_after huniq e h1 hm
    exact .inr ⟨l1, kvs, l2, e, by rw [e] at h1 hm h2 ⊢; exact filter_unique _ h1 hm h2,
      h1, hm, h2, e1, e2 h2⟩

/-- what the code applies to every member of the target when at most one member matches, as a
    function of the matching members `F`, the member test `p` and the nested patch `P`: the nested
    result in place of the matching member; the identity when the nested patch fails and `sw` -/
def keyedFn (sw : Bool) (p : Json → Bool) (P : Json → Outcome Json) :
    List Json → Outcome (Json → Json)
  | [m] => match P m with
    | .ok v => .ok (fun x => if p x then v else x)
    | .err => if sw then .ok id else .err
    | .panic => .panic
  | _ => .err

/-- **The outcome of the keyed step**, at most one member matching: `keyedFn` of the matching members
    `xs.filter (keyedMembers xs po)` and the test `keyedMembers xs po` (neither changes when `xs` is
    permuted), applied member by member. -/
theorem keyed_outcome (sw : Bool) (t : Tag) (ht : t = .raw ∨ t = .set) (xs : List Json)
    (po : List (String × Json)) (rest : Path) (hrest : rest ≠ []) (h : Hunk)
    (hwf : wfList xs = true) (hpo : keysSorted po = true) (hF : KeyedFaithful po xs = true)
    (huniq : (xs.filter (keyedMembers xs po)).length ≤ 1) :
    patchNode sw false (.arr t xs) (.setKeys po :: rest) h.before h.remove h.add h.after =
      Outcome.mapO (fun f => Json.arr .set (xs.map f))
        (keyedFn sw (keyedMembers xs po)
          (fun m => patchNode sw false m rest h.before h.remove h.add h.after)
          (xs.filter (keyedMembers xs po))) := by
  rcases keyed_uniq sw t ht xs po rest hrest h hwf hpo hF huniq with
    ⟨hf, e1, _⟩ | ⟨l1, kvs, l2, e, hf, h1, hm, h2, e1, _⟩
  · rw [e1, hf]; rfl
  · rw [e1, hf]
    simp only [keyedFn]
    cases patchNode sw false (.obj kvs) rest h.before h.remove h.add h.after with
    | ok v => rw [e] at h1 hm h2 ⊢; simp only [Outcome.mapO, map_replace h1 hm h2]; rfl
    | err => cases sw <;> simp [keyedOut, Outcome.mapO, e]
    | panic => rfl


/-! ### 7. stage A: the rest of the path consists of keys and indices (the domain of StrictPatch) -/

/-- on key / index paths the reference interpreter of hunks is the strict reference interpreter -/
theorem applyHunkRef_strict (h : Hunk) :
    ∀ (p : Path) (n : Json), strictPath p = true → applyHunkRef n p h = applyStrict n p h
  | [], n, _ => by simp [applyHunkRef, applyStrict]
  | .key k :: rest, n, hp => by
    simp only [strictPath] at hp
    cases n with
    | obj kvs => simp [applyHunkRef, applyStrict, applyHunkRef_strict h rest _ hp]
    | _ => simp [applyHunkRef, applyStrict]
  | .idx i :: rest, n, hp => by
    simp only [strictPath] at hp
    cases rest with
    | nil => cases n <;> simp [applyHunkRef, applyStrict]
    | cons e r =>
      cases n with
      | arr t xs =>
        simp only [applyHunkRef, applyStrict]
        split
        · rfl
        · cases hx : xs[i.toNat]? with
          | none => rfl
          | some x => simp [applyHunkRef_strict h (e :: r) x hp]
      | _ => simp [applyHunkRef, applyStrict]
  | .set :: _, _, hp => by simp [strictPath] at hp
  | .mset :: _, _, hp => by simp [strictPath] at hp
  | .setKeys _ :: _, _, hp => by simp [strictPath] at hp
  | .msetKeys _ :: _, _, hp => by simp [strictPath] at hp

/-! the two variants of the code against the reference -/

theorem untag_arr_mid (t t' : Tag) (l1 l2 : List Json) {v v' : Json} (h : untag v = untag v') :
    untag (.arr t (l1 ++ v :: l2)) = untag (.arr t' (l1 ++ v' :: l2)) := by
  simp [untag, untagList_eq_map, h]

/-- agreement of the variant `sw` of the code with the reference: where the reference applies the
    hunk, so does the code, with the same result up to tags (BOTH variants); where the reference
    rejects it, the error-propagating variant reports an error -/
def AgreeSw (sw : Bool) (M : Outcome Json) (S : Option Json) : Prop :=
  (∀ r, S = some r → Outcome.mapO untag M = .ok (untag r)) ∧ (sw = false → S = none → M = .err)

theorem AgreeSw.of_eq {sw : Bool} {M : Outcome Json} {S : Option Json}
    (h : Outcome.mapO untag M = Outcome.mapO untag (optToOutcome S)) : AgreeSw sw M S := by
  constructor
  · intro r hr; subst hr; simpa [optToOutcome, Outcome.mapO] using h
  · intro _ hs; subst hs
    cases M <;> simp [optToOutcome, Outcome.mapO] at h ⊢

theorem err_of_untag_eq_none {M : Outcome Json}
    (h : Outcome.mapO untag M = Outcome.mapO untag (optToOutcome none)) : M = .err :=
  (AgreeSw.of_eq (sw := false) h).2 rfl rfl

theorem AgreeSw.eq {M : Outcome Json} {S : Option Json} (h : AgreeSw false M S) :
    Outcome.mapO untag M = Outcome.mapO untag (optToOutcome S) := by
  cases S with
  | none => rw [h.2 rfl rfl]; rfl
  | some r => rw [h.1 r rfl]; rfl

theorem AgreeSw.err_none (sw : Bool) : AgreeSw sw .err none :=
  ⟨fun _ h => (by cases h), fun _ _ => rfl⟩

/-- `M` is `Mc` put into the context `C`: a result is put in place, and (error-propagating variant) an
    error stays an error. What `patchNode` does with the outcome on a child, at every kind of step. -/
def Lift (sw : Bool) (C : Json → Json) (Mc M : Outcome Json) : Prop :=
  (∀ v, Mc = .ok v → M = .ok (C v)) ∧ (sw = false → Mc = .err → M = .err)

theorem Lift.bind (sw : Bool) (C : Json → Json) (Mc : Outcome Json) :
    Lift sw C Mc (Mc >>= fun v => .ok (C v)) :=
  ⟨fun v h => by rw [h]; rfl, fun _ h => by rw [h]; rfl⟩

theorem Lift.keyedOut (sw : Bool) (l1 : List Json) (m : Json) (l2 : List Json) (Mc : Outcome Json) :
    Lift sw (fun v => Json.arr .set (l1 ++ v :: l2)) Mc (keyedOut sw l1 m l2 Mc) :=
  ⟨fun v h => by rw [h]; rfl, fun hsw h => by rw [h, hsw]; rfl⟩

theorem Lift.comp {sw : Bool} {C D : Json → Json} {Ma Mb Mc : Outcome Json}
    (h1 : Lift sw C Ma Mb) (h2 : Lift sw D Mb Mc) : Lift sw (D ∘ C) Ma Mc :=
  ⟨fun v h => h2.1 _ (h1.1 v h), fun hsw h => h2.2 hsw (h1.2 hsw h)⟩

theorem AgreeSw.lift {sw : Bool} {P M : Outcome Json} {S : Option Json} (h : AgreeSw sw P S)
    {C C' : Json → Json} (hL : Lift sw C P M)
    (hC : ∀ v v', untag v = untag v' → untag (C v) = untag (C' v')) :
    AgreeSw sw M (S.map C') := by
  cases S with
  | none => exact ⟨fun _ => nofun, fun hsw _ => hL.2 hsw (h.2 hsw rfl)⟩
  | some v' =>
    refine ⟨fun r hr => ?_, fun _ => nofun⟩
    cases hr
    have := h.1 v' rfl
    cases P with
    | ok v =>
      rw [hL.1 v rfl]
      simp only [Outcome.mapO, Outcome.ok.injEq] at this ⊢
      exact hC _ _ this
    | _ => simp [Outcome.mapO] at this

theorem AgreeSw.bind {sw : Bool} {P : Outcome Json} {S : Option Json} (h : AgreeSw sw P S)
    {C C' : Json → Json} (hC : ∀ v v', untag v = untag v' → untag (C v) = untag (C' v')) :
    AgreeSw sw (P >>= fun v => .ok (C v)) (S.map C') :=
  h.lift (Lift.bind sw C P) hC

theorem AgreeSw.keyedOut {sw : Bool} {P : Outcome Json} {S : Option Json} (h : AgreeSw sw P S)
    (l1 : List Json) (m : Json) (l2 : List Json) :
    AgreeSw sw (keyedOut sw l1 m l2 P) (S.map (fun v => Json.arr .raw (l1 ++ v :: l2))) :=
  h.lift (Lift.keyedOut sw l1 m l2 P) (fun _ _ e => untag_arr_mid _ _ l1 l2 e)

/-- the code on key / index paths (JdProofs.StrictPatch) in this form -/
theorem strict_agree (sw : Bool) (n : Json) (h : Hunk) (p : Path) (hp : strictPath p = true)
    (hn : n.listDoc = true) (hh : hunkListDoc h = true) :
    AgreeSw sw (patchNode sw false n p h.before h.remove h.add h.after) (applyHunkRef n p h) :=
  AgreeSw.of_eq (by
    rw [applyHunkRef_strict h p n hp]; exact patchNode_strict_eq_ref sw n h p hp hn hh)

/-- the keyed step preserves agreement with the reference: when the nested patch of the matching
    member agrees with the reference, so does the patch of the array -/
theorem keyed_agree (sw : Bool) (t : Tag) (ht : t = .raw ∨ t = .set) (xs : List Json)
    (po : List (String × Json)) (rest : Path) (hrest : rest ≠ []) (h : Hunk)
    (hwf : wfList xs = true) (hpo : keysSorted po = true) (hF : KeyedFaithful po xs = true)
    (huniq : (xs.filter (keyedMembers xs po)).length ≤ 1)
    (hm : ∀ m ∈ xs, keyedMembers xs po m = true →
      AgreeSw sw (patchNode sw false m rest h.before h.remove h.add h.after) (applyHunkRef m rest h)) :
    AgreeSw sw
      (patchNode sw false (.arr t xs) (.setKeys po :: rest) h.before h.remove h.add h.after)
      (applyHunkRef (.arr t xs) (.setKeys po :: rest) h) := by
  rcases keyed_uniq sw t ht xs po rest hrest h hwf hpo hF huniq with
    ⟨_, e1, e2⟩ | ⟨l1, kvs, l2, e, _, _, hk, _, e1, e2⟩
  · rw [e1, e2]; exact AgreeSw.err_none sw
  · rw [e1, e2]
    exact (hm _ (by simp [e]) hk).keyedOut l1 _ l2

/-- stage A, both variants -/
theorem keyed_strict_agree (sw : Bool) (t : Tag) (ht : t = .raw ∨ t = .set) (xs : List Json)
    (po : List (String × Json)) (rest : Path) (hrest : rest ≠ []) (hp : strictPath rest = true)
    (h : Hunk) (hh : hunkListDoc h = true) (hl : listDocList xs = true)
    (hwf : wfList xs = true) (hpo : keysSorted po = true) (hF : KeyedFaithful po xs = true)
    (huniq : (xs.filter (keyedMembers xs po)).length ≤ 1) :
    AgreeSw sw
      (patchNode sw false (.arr t xs) (.setKeys po :: rest) h.before h.remove h.add h.after)
      (applyHunkRef (.arr t xs) (.setKeys po :: rest) h) :=
  keyed_agree sw t ht xs po rest hrest h hwf hpo hF huniq
    (fun m hmem _ => strict_agree sw m h rest hp (listDocList_iff.1 hl _ hmem) hh)

/-- **(1), stage A.** The error-propagating variant on a keyed element followed by a key / index path
    IS the reference interpreter, up to array tags: error when no member matches, error when the
    nested strict patch fails, the nested result in place of the member and the other members
    untouched otherwise. -/
theorem keyed_strict_eq_ref (t : Tag) (ht : t = .raw ∨ t = .set) (xs : List Json)
    (po : List (String × Json)) (rest : Path) (hrest : rest ≠ []) (hp : strictPath rest = true)
    (h : Hunk) (hh : hunkListDoc h = true) (hl : listDocList xs = true)
    (hwf : wfList xs = true) (hpo : keysSorted po = true) (hF : KeyedFaithful po xs = true)
    (huniq : (xs.filter (keyedMembers xs po)).length ≤ 1) :
    Outcome.mapO untag
        (patchNode false false (.arr t xs) (.setKeys po :: rest) h.before h.remove h.add h.after)
      = Outcome.mapO untag (optToOutcome (applyHunkRef (.arr t xs) (.setKeys po :: rest) h)) :=
  (keyed_strict_agree false t ht xs po rest hrest hp h hh hl hwf hpo hF huniq).eq


/-! ### 8. the code as it is (`sw = true`): the nested failure is swallowed (KF-C08-swallow) -/

/-- **(2) KF-C08-swallow, general form** (any rest of the path). The code as it is: when the nested
    patch of the matching member fails, `Patch` reports SUCCESS and returns the array unchanged (as a
    set-typed array) -/
theorem keyed_failure_is_swallowed (t : Tag) (ht : t = .raw ∨ t = .set) (xs : List Json)
    (po : List (String × Json)) (rest : Path) (hrest : rest ≠ []) (h : Hunk)
    (hwf : wfList xs = true) (hpo : keysSorted po = true) (hF : KeyedFaithful po xs = true)
    (huniq : (xs.filter (keyedMembers xs po)).length ≤ 1)
    {m : Json} (hmem : m ∈ xs) (hkm : keyedMembers xs po m = true)
    (hfail : patchNode true false m rest h.before h.remove h.add h.after = .err) :
    patchNode true false (.arr t xs) (.setKeys po :: rest) h.before h.remove h.add h.after
      = .ok (.arr .set xs) := by
  rw [keyed_outcome true t ht xs po rest hrest h hwf hpo hF huniq,
    filter_eq_singleton huniq hmem hkm]
  simp only [keyedFn, hfail, if_true, Outcome.mapO, List.map_id]

/-- … and a nested patch that succeeds is put in place of the member (both variants) -/
theorem keyed_success (sw : Bool) (t : Tag) (ht : t = .raw ∨ t = .set) (xs : List Json)
    (po : List (String × Json)) (rest : Path) (hrest : rest ≠ []) (h : Hunk)
    (hwf : wfList xs = true) (hpo : keysSorted po = true) (hF : KeyedFaithful po xs = true)
    (huniq : (xs.filter (keyedMembers xs po)).length ≤ 1)
    {m v : Json} (hmem : m ∈ xs) (hkm : keyedMembers xs po m = true)
    (hok : patchNode sw false m rest h.before h.remove h.add h.after = .ok v) :
    patchNode sw false (.arr t xs) (.setKeys po :: rest) h.before h.remove h.add h.after
      = .ok (.arr .set (xs.map (fun x => if keyedMembers xs po x then v else x))) := by
  rw [keyed_outcome sw t ht xs po rest hrest h hwf hpo hF huniq,
    filter_eq_singleton huniq hmem hkm]
  simp only [keyedFn, hok, Outcome.mapO]

/-- no member matches: error (both variants) -/
theorem keyed_no_member (sw : Bool) (t : Tag) (ht : t = .raw ∨ t = .set) (xs : List Json)
    (po : List (String × Json)) (rest : Path) (hrest : rest ≠ []) (h : Hunk)
    (hwf : wfList xs = true) (hpo : keysSorted po = true) (hF : KeyedFaithful po xs = true)
    (hno : ∀ x ∈ xs, keyedMembers xs po x = false) :
    patchNode sw false (.arr t xs) (.setKeys po :: rest) h.before h.remove h.add h.after = .err := by
  have hf := filter_none hno
  rw [keyed_outcome sw t ht xs po rest hrest h hwf hpo hF (by rw [hf]; exact Nat.zero_le 1), hf]
  rfl

/-- **(2), stage A: the code as it is against the reference**, rest of the path made of keys and
    indices. (a) where the reference applies the hunk, so does the code, with the same result up to
    tags; (b) no member matches: error; (c) a member matches but the reference rejects the nested
    change: the code answers `.ok` with the array unchanged, where the error-propagating variant and
    the reference reject — "a failure there fails the whole patch" is false for the code as it is. -/
theorem keyed_strict_swallow (t : Tag) (ht : t = .raw ∨ t = .set) (xs : List Json)
    (po : List (String × Json)) (rest : Path) (hrest : rest ≠ []) (hp : strictPath rest = true)
    (h : Hunk) (hh : hunkListDoc h = true) (hl : listDocList xs = true)
    (hwf : wfList xs = true) (hpo : keysSorted po = true) (hF : KeyedFaithful po xs = true)
    (huniq : (xs.filter (keyedMembers xs po)).length ≤ 1) :
    (∀ r, applyHunkRef (.arr t xs) (.setKeys po :: rest) h = some r →
      Outcome.mapO untag
        (patchNode true false (.arr t xs) (.setKeys po :: rest) h.before h.remove h.add h.after)
        = .ok (untag r)) ∧
    ((∀ x ∈ xs, keyedMembers xs po x = false) →
      patchNode true false (.arr t xs) (.setKeys po :: rest) h.before h.remove h.add h.after = .err) ∧
    (∀ m ∈ xs, keyedMembers xs po m = true → applyHunkRef m rest h = none →
      patchNode true false (.arr t xs) (.setKeys po :: rest) h.before h.remove h.add h.after
        = .ok (.arr .set xs) ∧
      patchNode false false (.arr t xs) (.setKeys po :: rest) h.before h.remove h.add h.after = .err ∧
      applyHunkRef (.arr t xs) (.setKeys po :: rest) h = none) := by
  have agree := fun sw => keyed_strict_agree sw t ht xs po rest hrest hp h hh hl hwf hpo hF huniq
  refine ⟨(agree true).1, keyed_no_member true t ht xs po rest hrest h hwf hpo hF, ?_⟩
  intro m hmem hkm hnone
  have hfail : patchNode true false m rest h.before h.remove h.add h.after = .err :=
    err_of_untag_eq_none (by
      rw [← hnone, applyHunkRef_strict h rest _ hp]
      exact patchNode_strict_eq_ref true m h rest hp (listDocList_iff.1 hl _ hmem) hh)
  have href : applyHunkRef (.arr t xs) (.setKeys po :: rest) h = none := by
    rw [applyHunkRef_setKeys t xs po rest hrest, filter_eq_singleton huniq hmem hkm]
    simp only [hnone, Option.map_none]
  exact ⟨keyed_failure_is_swallowed t ht xs po rest hrest h hwf hpo hF huniq hmem hkm hfail,
    (agree false).2 rfl href, href⟩


/-- the error-propagating variant: when the nested patch of the matching member fails, the hunk fails -/
theorem keyed_failure_propagated (t : Tag) (ht : t = .raw ∨ t = .set) (xs : List Json)
    (po : List (String × Json)) (rest : Path) (hrest : rest ≠ []) (h : Hunk)
    (hwf : wfList xs = true) (hpo : keysSorted po = true) (hF : KeyedFaithful po xs = true)
    (huniq : (xs.filter (keyedMembers xs po)).length ≤ 1)
    {m : Json} (hmem : m ∈ xs) (hkm : keyedMembers xs po m = true)
    (hfail : patchNode false false m rest h.before h.remove h.add h.after = .err) :
    patchNode false false (.arr t xs) (.setKeys po :: rest) h.before h.remove h.add h.after = .err := by
  rw [keyed_outcome false t ht xs po rest hrest h hwf hpo hF huniq,
    filter_eq_singleton huniq hmem hkm]
  simp only [keyedFn, hfail]
  rfl

/-! ### 9. (3) the order of the members of the target is irrelevant -/

theorem keyedMembers_perm {xs xs' : List Json} (hp : xs'.Perm xs) (po : List (String × Json)) :
    keyedMembers xs' po = keyedMembers xs po := by
  rw [keyedMembers_eq, keyedMembers_eq, hp.any_eq]

theorem perm_eq_of_length_le_one {α} {l l' : List α} (hp : l'.Perm l) (h : l.length ≤ 1) :
    l' = l := by
  match l, h with
  | [], _ => exact List.perm_nil.1 hp
  | [_], _ => exact List.perm_singleton.1 hp

/-- **(3) permutation invariance** (both variants, any rest of the path). The result is a function of
    the members, applied member by member: for a permutation `xs'` of the target `xs` the hunk is
    rejected in both cases, or applies in both with results `xs.map f` and `xs'.map f` for one and the
    same `f` — permuting the target permutes the result accordingly. -/
theorem keyed_perm (sw : Bool) (t : Tag) (ht : t = .raw ∨ t = .set) {xs xs' : List Json}
    (hperm : xs'.Perm xs) (po : List (String × Json)) (rest : Path) (hrest : rest ≠ []) (h : Hunk)
    (hwf : wfList xs = true) (hpo : keysSorted po = true) (hF : KeyedFaithful po xs = true)
    (huniq : (xs.filter (keyedMembers xs po)).length ≤ 1) :
    (patchNode sw false (.arr t xs) (.setKeys po :: rest) h.before h.remove h.add h.after = .err ∧
      patchNode sw false (.arr t xs') (.setKeys po :: rest) h.before h.remove h.add h.after = .err) ∨
    ∃ f : Json → Json,
      patchNode sw false (.arr t xs) (.setKeys po :: rest) h.before h.remove h.add h.after
        = .ok (.arr .set (xs.map f)) ∧
      patchNode sw false (.arr t xs') (.setKeys po :: rest) h.before h.remove h.add h.after
        = .ok (.arr .set (xs'.map f)) := by
  have hkm := keyedMembers_perm hperm po
  have hf := perm_eq_of_length_le_one (hperm.filter (keyedMembers xs po)) huniq
  have e := keyed_outcome sw t ht xs po rest hrest h hwf hpo hF huniq
  have e' := keyed_outcome sw t ht xs' po rest hrest h
    ((wfList_eq_all xs').trans (hperm.all_eq.trans ((wfList_eq_all xs).symm.trans hwf))) hpo
    (hperm.all_eq.trans hF) (by rw [hkm, hf]; exact huniq)
  rw [hkm, hf] at e'
  rw [e, e']
  cases hO : keyedFn sw (keyedMembers xs po)
      (fun m => patchNode sw false m rest h.before h.remove h.add h.after)
      (xs.filter (keyedMembers xs po)) with
  | ok f => exact .inr ⟨f, rfl, rfl⟩
  | err => exact .inl ⟨rfl, rfl⟩
  | panic => rw [hO] at e; exact absurd e (patchNode_ne_panic _ _ _ _ _ _ _ _)


/-! ### 10. stage B: keyed elements nested in key / index / keyed paths -/

/-- paths made of object keys, list indices and keyed elements, ending in a value or a list position -/
def navPath : Path → Bool
  | [] => true
  | .key _ :: r => navPath r
  | .idx _ :: r => navPath r
  | .setKeys _ :: r => navPath r
  | _ => false

/-- **the hypotheses along the path** (decidable, by recursion on the path through the document):
    * the value replaced at the end of the path, or the list edited there, is a list-mode document
      (arrays plain or list-typed: `equals` without options is then the structural equality);
    * an array entered by an index is plain or list-typed;
    * an array entered by a keyed element is plain or set-typed, its members have sorted keys, the path
      object has sorted keys, the hashes are faithful (`KeyedFaithful`), at most one member matches,
      and the hypotheses hold for the rest of the path in the matching member. -/
def okAlong : Path → Json → Bool
  | [], n => n.listDoc
  | .key k :: rest, n =>
    match n with
    | .obj kvs => okAlong rest ((alookup k kvs).getD .void)
    | _ => true
  | .idx i :: rest, n =>
    match n with
    | .arr t xs => (t == .raw || t == .list) &&
        (if rest.isEmpty then listDocList xs
         else if i < 0 then true
         else match xs[i.toNat]? with
           | some x => okAlong rest x
           | none => true)
    | _ => true
  | .setKeys po :: rest, n =>
    match n with
    | .arr t xs => rest.isEmpty ||
        ((t == .raw || t == .set) && wfList xs && keysSorted po && KeyedFaithful po xs &&
          decide ((xs.filter (keyedMembers xs po)).length ≤ 1) &&
          xs.all (fun x => !(keyedMembers xs po x) || okAlong rest x))
    | _ => true
  | _, _ => true

theorem okAlong_key (k : String) (rest : Path) (kvs : List (String × Json)) :
    okAlong (.key k :: rest) (.obj kvs) = okAlong rest ((alookup k kvs).getD .void) := rfl

theorem okAlong_idx (i : Int) (rest : Path) (t : Tag) (xs : List Json) :
    okAlong (.idx i :: rest) (.arr t xs) = ((t == .raw || t == .list) &&
      (if rest.isEmpty then listDocList xs
       else if i < 0 then true
       else match xs[i.toNat]? with
         | some x => okAlong rest x
         | none => true)) := rfl

theorem okAlong_keyed (po : List (String × Json)) (rest : Path) (t : Tag) (xs : List Json) :
    okAlong (.setKeys po :: rest) (.arr t xs) = (rest.isEmpty ||
      ((t == .raw || t == .set) && wfList xs && keysSorted po && KeyedFaithful po xs &&
        decide ((xs.filter (keyedMembers xs po)).length ≤ 1) &&
        xs.all (fun x => !(keyedMembers xs po x) || okAlong rest x))) := rfl

/-! mismatches between the path element and the kind of node: code and reference reject -/

theorem obj_or_not (n : Json) : (∃ kvs, n = .obj kvs) ∨ ∀ kvs, n ≠ .obj kvs := by
  cases n with
  | obj kvs => exact .inl ⟨kvs, rfl⟩
  | _ => exact .inr (fun _ => nofun)

theorem arr_or_not (n : Json) : (∃ t xs, n = .arr t xs) ∨ ∀ t xs, n ≠ .arr t xs := by
  cases n with
  | arr t xs => exact .inl ⟨t, xs, rfl⟩
  | _ => exact .inr (fun _ _ => nofun)

theorem applyHunkRef_key_nonobj {n : Json} (hn : ∀ kvs, n ≠ .obj kvs) {k : String} {rest : Path}
    {h : Hunk} : applyHunkRef n (.key k :: rest) h = none := by
  cases n with
  | obj kvs => exact absurd rfl (hn kvs)
  | _ => rfl

theorem applyHunkRef_nonarr {n : Json} (hn : ∀ t xs, n ≠ .arr t xs) {e : PathElem}
    (he : ∀ k, e ≠ .key k) {rest : Path} {h : Hunk} : applyHunkRef n (e :: rest) h = none := by
  cases n with
  | arr t xs => exact absurd rfl (hn t xs)
  | _ =>
    cases e with
    | key k => exact absurd rfl (he k)
    | idx i => cases rest <;> rfl
    | setKeys po => cases rest <;> rfl
    | _ => rfl

/-- **Stage B, both variants.** On a path of keys, indices and keyed elements, under the hypotheses
    along the path: where the reference applies the hunk the code (either variant) applies it with
    the same result up to tags; where the reference rejects it the error-propagating variant fails. -/
theorem nav_agree (sw : Bool) (h : Hunk) (hh : hunkListDoc h = true) :
    ∀ (p : Path) (n : Json), navPath p = true → okAlong p n = true →
      AgreeSw sw (patchNode sw false n p h.before h.remove h.add h.after) (applyHunkRef n p h) := by
  intro p
  induction p with
  | nil => exact fun n _ hok => strict_agree sw n h [] rfl hok hh
  | cons el rest ih =>
    intro n hp hok
    cases el with
    | key k =>
      rcases obj_or_not n with ⟨kvs, rfl⟩ | hn
      · have ha := ih _ hp hok
        rw [patchNode_key_obj]
        simp only [applyHunkRef]
        exact ha.bind fun v v' e =>
          (congrArg untag (obj_putKvs k v kvs)).trans (untag_objUpdate k kvs e)
      · rw [patchNode_key_nonobj hn, applyHunkRef_key_nonobj hn]
        exact AgreeSw.err_none sw
    | idx i =>
      rcases arr_or_not n with ⟨t, xs, rfl⟩ | hn
      · rw [okAlong_idx] at hok
        simp only [Bool.and_eq_true, Bool.or_eq_true, beq_iff_eq] at hok
        obtain ⟨ht, hok⟩ := hok
        cases rest with
        | nil =>
          simp only [List.isEmpty_nil, if_true] at hok
          have hn : (Json.arr t xs).listDoc = true := by
            simp only [Json.listDoc, Bool.and_eq_true, Bool.or_eq_true, beq_iff_eq]
            exact ⟨ht, hok⟩
          exact strict_agree sw _ h [.idx i] rfl hn hh
        | cons e r =>
          simp only [List.isEmpty_cons, Bool.false_eq_true, if_false] at hok
          rw [patchNode_idx_arr sw t ht xs i (e :: r) _ _ _ _ (by simp)]
          simp only [applyHunkRef]
          by_cases h0 : i < 0
          · simp only [h0, if_true]; exact AgreeSw.err_none sw
          · simp only [h0, if_false] at hok ⊢
            cases hx : xs[i.toNat]? with
            | none => exact AgreeSw.err_none sw
            | some x =>
              rw [hx] at hok
              have ha := ih x hp hok
              exact ha.bind (fun v v' e => untag_arrSet .list .raw xs i.toNat e)
      · rw [patchNode_nonarr hn (by nofun), applyHunkRef_nonarr hn (by nofun)]
        exact AgreeSw.err_none sw
    | setKeys po =>
      rcases arr_or_not n with ⟨t, xs, rfl⟩ | hn
      · cases rest with
        | nil =>
          rw [patchNode_setKeys_last, applyHunkRef_setKeys_last]
          exact AgreeSw.err_none sw
        | cons e r =>
          rw [okAlong_keyed] at hok
          simp only [List.isEmpty_cons, Bool.false_or, Bool.and_eq_true, Bool.or_eq_true,
            beq_iff_eq, decide_eq_true_eq, List.all_eq_true, Bool.not_eq_true'] at hok
          obtain ⟨⟨⟨⟨⟨ht, hwf⟩, hpo⟩, hF⟩, huniq⟩, hall⟩ := hok
          exact keyed_agree sw t ht xs po (e :: r) (by simp) h hwf hpo hF huniq fun m hmem hk =>
            ih m hp ((hall m hmem).resolve_left (by rw [hk]; nofun))
      · rw [patchNode_nonarr hn (by nofun), applyHunkRef_nonarr hn (by nofun)]
        exact AgreeSw.err_none sw
    | set => exact (Bool.false_ne_true hp).elim
    | mset => exact (Bool.false_ne_true hp).elim
    | msetKeys _ => exact (Bool.false_ne_true hp).elim


/-- **(1), stage B.** The error-propagating variant IS the reference interpreter, up to array tags, on
    every path of keys, indices and (nested) keyed elements -/
theorem nav_eq_ref (h : Hunk) (hh : hunkListDoc h = true) (p : Path) (n : Json)
    (hp : navPath p = true) (hok : okAlong p n = true) :
    Outcome.mapO untag (patchNode false false n p h.before h.remove h.add h.after)
      = Outcome.mapO untag (optToOutcome (applyHunkRef n p h)) :=
  (nav_agree false h hh p n hp hok).eq

/-- **(2), stage B, success half.** The code as it is agrees with the reference wherever the reference
    applies the hunk -/
theorem nav_swallow_success (h : Hunk) (hh : hunkListDoc h = true) (p : Path) (n : Json)
    (hp : navPath p = true) (hok : okAlong p n = true) (r : Json)
    (hr : applyHunkRef n p h = some r) :
    Outcome.mapO untag (patchNode true false n p h.before h.remove h.add h.after) = .ok (untag r) :=
  (nav_agree true h hh p n hp hok).1 r hr

theorem all_imp {α} {p q : α → Bool} {xs : List α} (h : ∀ x ∈ xs, p x = true → q x = true) :
    xs.all (fun x => !p x || q x) = true :=
  List.all_eq_true.2 fun x hx => by
    cases hp : p x with
    | false => rfl
    | true => exact h x hx hp

/-- how the hypotheses along the path are established at a keyed element -/
theorem okAlong_setKeys {t : Tag} {xs : List Json} {po : List (String × Json)} {rest : Path}
    (ht : t = .raw ∨ t = .set) (hwf : wfList xs = true) (hpo : keysSorted po = true)
    (hF : KeyedFaithful po xs = true) (huniq : (xs.filter (keyedMembers xs po)).length ≤ 1)
    (hm : ∀ m ∈ xs, keyedMembers xs po m = true → okAlong rest m = true) :
    okAlong (.setKeys po :: rest) (.arr t xs) = true := by
  rw [okAlong_keyed, hwf, hpo, hF, decide_eq_true huniq, all_imp hm]
  rcases ht with rfl | rfl <;> simp

/-- (1) in the form of the task: a keyed element on top of an array, the rest of the path any path of
    keys, indices and keyed elements -/
theorem keyed_eq_ref (t : Tag) (ht : t = .raw ∨ t = .set) (xs : List Json)
    (po : List (String × Json)) (rest : Path) (hp : navPath rest = true)
    (h : Hunk) (hh : hunkListDoc h = true)
    (hwf : wfList xs = true) (hpo : keysSorted po = true) (hF : KeyedFaithful po xs = true)
    (huniq : (xs.filter (keyedMembers xs po)).length ≤ 1)
    (hm : ∀ m ∈ xs, keyedMembers xs po m = true → okAlong rest m = true) :
    Outcome.mapO untag
        (patchNode false false (.arr t xs) (.setKeys po :: rest) h.before h.remove h.add h.after)
      = Outcome.mapO untag (optToOutcome (applyHunkRef (.arr t xs) (.setKeys po :: rest) h)) := by
  exact nav_eq_ref h hh _ _ hp (okAlong_setKeys ht hwf hpo hF huniq hm)


/-! ### 11. stage C: a set / multiset leaf (or any other continuation) below keys, indices and keyed elements -/

/-- navigation prefixes: keys, indices, keyed elements -/
def navElems : Path → Bool
  | [] => true
  | .key _ :: r => navElems r
  | .idx _ :: r => navElems r
  | .setKeys _ :: r => navElems r
  | _ => false

/-- the sub-document a navigation prefix addresses (reference navigation: an absent key is void, a
    keyed element denotes the one matching member) -/
def target : Path → Json → Option Json
  | [], n => some n
  | .key k :: q, n =>
    match n with
    | .obj kvs => target q ((alookup k kvs).getD .void)
    | _ => none
  | .idx i :: q, n =>
    match n with
    | .arr _ xs => if i < 0 then none else
        match xs[i.toNat]? with
        | some x => target q x
        | none => none
    | _ => none
  | .setKeys po :: q, n =>
    match n with
    | .arr _ xs =>
      match xs.filter (keyedMembers xs po) with
      | [m] => target q m
      | _ => none
    | _ => none
  | _, _ => none

/-- the hypotheses along a navigation prefix (as `okAlong`, without the conditions on the end) -/
def okNav : Path → Json → Bool
  | [], _ => true
  | .key k :: q, n =>
    match n with
    | .obj kvs => okNav q ((alookup k kvs).getD .void)
    | _ => true
  | .idx i :: q, n =>
    match n with
    | .arr t xs => (t == .raw || t == .list) &&
        (if i < 0 then true
         else match xs[i.toNat]? with
           | some x => okNav q x
           | none => true)
    | _ => true
  | .setKeys po :: q, n =>
    match n with
    | .arr t xs =>
        (t == .raw || t == .set) && wfList xs && keysSorted po && KeyedFaithful po xs &&
          decide ((xs.filter (keyedMembers xs po)).length ≤ 1) &&
          xs.all (fun x => !(keyedMembers xs po x) || okNav q x)
    | _ => true
  | _, _ => true

theorem okNav_key (k : String) (q : Path) (kvs : List (String × Json)) :
    okNav (.key k :: q) (.obj kvs) = okNav q ((alookup k kvs).getD .void) := rfl

theorem okNav_idx (i : Int) (q : Path) (t : Tag) (xs : List Json) :
    okNav (.idx i :: q) (.arr t xs) = ((t == .raw || t == .list) &&
      (if i < 0 then true
       else match xs[i.toNat]? with
         | some x => okNav q x
         | none => true)) := rfl

theorem okNav_keyed (po : List (String × Json)) (q : Path) (t : Tag) (xs : List Json) :
    okNav (.setKeys po :: q) (.arr t xs) =
      ((t == .raw || t == .set) && wfList xs && keysSorted po && KeyedFaithful po xs &&
        decide ((xs.filter (keyedMembers xs po)).length ≤ 1) &&
        xs.all (fun x => !(keyedMembers xs po x) || okNav q x)) := rfl

/-- how the hypotheses along a navigation prefix are established at a keyed element -/
theorem okNav_setKeys {t : Tag} {xs : List Json} {po : List (String × Json)} {q : Path}
    (ht : t = .raw ∨ t = .set) (hwf : wfList xs = true) (hpo : keysSorted po = true)
    (hF : KeyedFaithful po xs = true) (huniq : (xs.filter (keyedMembers xs po)).length ≤ 1)
    (hm : ∀ m ∈ xs, keyedMembers xs po m = true → okNav q m = true) :
    okNav (.setKeys po :: q) (.arr t xs) = true := by
  rw [okNav_keyed, hwf, hpo, hF, decide_eq_true huniq, all_imp hm]
  rcases ht with rfl | rfl <;> rfl

theorem target_key (k : String) (q : Path) (kvs : List (String × Json)) :
    target (.key k :: q) (.obj kvs) = target q ((alookup k kvs).getD .void) := rfl

theorem target_idx (i : Int) (q : Path) (t : Tag) (xs : List Json) :
    target (.idx i :: q) (.arr t xs) = if i < 0 then none else
      match xs[i.toNat]? with
      | some x => target q x
      | none => none := rfl

theorem target_keyed (po : List (String × Json)) (q : Path) (t : Tag) (xs : List Json) :
    target (.setKeys po :: q) (.arr t xs) =
      match xs.filter (keyedMembers xs po) with
      | [m] => target q m
      | _ => none := rfl

theorem target_key_nonobj {n : Json} (hn : ∀ kvs, n ≠ .obj kvs) {k : String} {q : Path} :
    target (.key k :: q) n = none := by
  cases n with
  | obj kvs => exact absurd rfl (hn kvs)
  | _ => rfl

theorem target_nonarr {n : Json} (hn : ∀ t xs, n ≠ .arr t xs) {e : PathElem}
    (he : ∀ k, e ≠ .key k) {q : Path} : target (e :: q) n = none := by
  cases n with
  | arr t xs => exact absurd rfl (hn t xs)
  | _ =>
    cases e with
    | key k => exact absurd rfl (he k)
    | _ => rfl

/-- putting a value `v` in place of the sub-document addressed by the navigation prefix, the arrays
    on the way typed `tl` (entered by an index) / `ts` (entered by a keyed element): the reference
    builds `plug .raw .raw`, the code `plug .list .set` -/
def plug (tl ts : Tag) : Path → Json → Json → Json
  | [], _, v => v
  | .key k :: q, n, v =>
    match n with
    | .obj kvs =>
      if (plug tl ts q ((alookup k kvs).getD .void) v).isVoid then .obj (aerase k kvs)
      else .obj (ainsert k (plug tl ts q ((alookup k kvs).getD .void) v) kvs)
    | _ => n
  | .idx i :: q, n, v =>
    match n with
    | .arr _ xs =>
      match xs[i.toNat]? with
      | some x => .arr tl (xs.set i.toNat (plug tl ts q x v))
      | none => n
    | _ => n
  | .setKeys po :: q, n, v =>
    match n with
    | .arr _ xs => .arr ts (xs.map (fun x => if keyedMembers xs po x then plug tl ts q x v else x))
    | _ => n
  | _, n, _ => n

theorem plug_key (tl ts : Tag) (k : String) (q : Path) (kvs : List (String × Json)) (v : Json) :
    plug tl ts (.key k :: q) (.obj kvs) v =
      if (plug tl ts q ((alookup k kvs).getD .void) v).isVoid then .obj (aerase k kvs)
      else .obj (ainsert k (plug tl ts q ((alookup k kvs).getD .void) v) kvs) := rfl

theorem plug_idx (tl ts : Tag) (i : Int) (q : Path) (t : Tag) (xs : List Json) (v : Json) :
    plug tl ts (.idx i :: q) (.arr t xs) v =
      match xs[i.toNat]? with
      | some x => .arr tl (xs.set i.toNat (plug tl ts q x v))
      | none => .arr t xs := rfl

theorem plug_keyed (tl ts : Tag) (po : List (String × Json)) (q : Path) (t : Tag) (xs : List Json)
    (v : Json) :
    plug tl ts (.setKeys po :: q) (.arr t xs) v =
      .arr ts (xs.map (fun x => if keyedMembers xs po x then plug tl ts q x v else x)) := rfl

/-- the two ways of putting a value back differ in tags only -/
theorem plug_untag (tl ts tl' ts' : Tag) :
    ∀ (q : Path) (n : Json) {v v' : Json}, untag v = untag v' →
      untag (plug tl ts q n v) = untag (plug tl' ts' q n v')
  | [], _, _, _, e => e
  | .key k :: q, n, v, v', e => by
    cases n with
    | obj kvs =>
      simp only [plug_key]
      exact untag_objUpdate k kvs (plug_untag tl ts tl' ts' q _ e)
    | _ => rfl
  | .idx i :: q, n, v, v', e => by
    cases n with
    | arr t xs =>
      simp only [plug_idx]
      cases hx : xs[i.toNat]? with
      | none => rfl
      | some x => exact untag_arrSet _ _ xs i.toNat (plug_untag tl ts tl' ts' q x e)
    | _ => rfl
  | .setKeys po :: q, n, v, v', e => by
    cases n with
    | arr t xs =>
      simp only [plug_keyed, untag, untagList_eq_map, List.map_map, Json.arr.injEq, true_and]
      apply List.map_congr_left
      intro x _
      simp only [Function.comp]
      split
      · exact plug_untag tl ts tl' ts' q x e
      · rfl
    | _ => rfl
  | .set :: _, _, _, _, _ => rfl
  | .mset :: _, _, _, _, _ => rfl
  | .msetKeys _ :: _, _, _, _, _ => rfl

/-- the prefix addresses nothing: reference and error-propagating variant reject -/
theorem decomp_none {sw : Bool} {T S : Option Json} {M : Outcome Json} {X : Json → Prop}
    (hT : T = none) (hS : S = none) (hM : M = .err) :
    (T = none → S = none ∧ (sw = false → M = .err)) ∧ (∀ m, T = some m → X m) :=
  ⟨fun _ => ⟨hS, fun _ => hM⟩, fun m hm => by rw [hT] at hm; cases hm⟩

/-- one more path element in front: the reference maps its result on the child `Sc` into the context
    `C`, the code lifts its outcome `Mc` into `C'`, the two `plug`s `Q`, `Q'` extend `P`, `P'` by them -/
theorem decomp_step {sw : Bool} {T S Sc : Option Json} {M Mc : Outcome Json}
    {Sm : Json → Option Json} {Mm : Json → Outcome Json} {C C' P P' Q Q' : Json → Json}
    (hS : S = Sc.map C) (hL : Lift sw C' Mc M) (hQ : ∀ v, Q v = C (P v)) (hQ' : ∀ v, Q' v = C' (P' v))
    (ih : (T = none → Sc = none ∧ (sw = false → Mc = .err)) ∧
      (∀ m, T = some m → Sc = (Sm m).map P ∧ Lift sw P' (Mm m) Mc)) :
    (T = none → S = none ∧ (sw = false → M = .err)) ∧
      (∀ m, T = some m → S = (Sm m).map Q ∧ Lift sw Q' (Mm m) M) := by
  cases (funext hQ : Q = C ∘ P)
  cases (funext hQ' : Q' = C' ∘ P')
  subst hS
  refine ⟨fun hT => ?_, fun m hT => ?_⟩
  · obtain ⟨e1, e2⟩ := ih.1 hT
    exact ⟨by rw [e1]; rfl, fun hsw => hL.2 hsw (e2 hsw)⟩
  · obtain ⟨e1, e2⟩ := ih.2 m hT
    exact ⟨by rw [e1, Option.map_map], e2.comp hL⟩

/-- **Decomposition along a navigation prefix** `q`, for ANY non-empty continuation `lf` of the path.
    If the prefix addresses no sub-document, the reference rejects the hunk and the error-propagating
    variant fails. If it addresses `m`: the reference result is the reference result on `m` put back
    in place (`plug .raw .raw`); a successful patch of `m` by the code (either variant) is put back in
    place (`plug .list .set`: the same document up to tags, `plug_untag`); and (error-propagating
    variant) a failure on `m` is a failure. -/
theorem nav_decomp (sw : Bool) (h : Hunk) (lf : Path) (hlf : lf ≠ []) :
    ∀ (q : Path) (n : Json), navElems q = true → okNav q n = true →
      (target q n = none →
        applyHunkRef n (q ++ lf) h = none ∧
        (sw = false → patchNode sw false n (q ++ lf) h.before h.remove h.add h.after = .err)) ∧
      (∀ m, target q n = some m →
        applyHunkRef n (q ++ lf) h = (applyHunkRef m lf h).map (plug .raw .raw q n) ∧
        (∀ v, patchNode sw false m lf h.before h.remove h.add h.after = .ok v →
          patchNode sw false n (q ++ lf) h.before h.remove h.add h.after
            = .ok (plug .list .set q n v)) ∧
        (sw = false → patchNode sw false m lf h.before h.remove h.add h.after = .err →
          patchNode sw false n (q ++ lf) h.before h.remove h.add h.after = .err)) := by
  intro q
  induction q with
  | nil =>
    intro n _ _
    refine ⟨nofun, fun m hm => ?_⟩
    cases hm
    exact ⟨Option.map_id'.symm, fun v hv => hv, fun _ he => he⟩
  | cons e q ih =>
    intro n hq hok
    have hne : q ++ lf ≠ [] := by simp [hlf]
    cases e with
    | key k =>
      rcases obj_or_not n with ⟨kvs, rfl⟩ | hn
      · rw [target_key, List.cons_append, patchNode_key_obj]
        exact decomp_step rfl (Lift.bind ..) (fun _ => rfl)
          (fun v => by rw [plug_key]; exact (obj_putKvs ..).symm)
          (ih _ hq hok)
      · exact decomp_none (target_key_nonobj hn) (applyHunkRef_key_nonobj hn) (patchNode_key_nonobj hn)
    | idx i =>
      rcases arr_or_not n with ⟨t, xs, rfl⟩ | hn
      · rw [okNav_idx] at hok
        simp only [Bool.and_eq_true, Bool.or_eq_true, beq_iff_eq] at hok
        obtain ⟨ht, hok⟩ := hok
        rw [List.cons_append, patchNode_idx_arr sw t ht xs i (q ++ lf) _ _ _ _ hne,
          applyHunkRef_idx_arr t xs i (q ++ lf) hne, target_idx]
        by_cases h0 : i < 0
        · rw [if_pos h0, if_pos h0, if_pos h0]
          exact decomp_none rfl rfl rfl
        · rw [if_neg h0] at hok
          rw [if_neg h0, if_neg h0, if_neg h0]
          cases hx : xs[i.toNat]? with
          | none => exact decomp_none rfl rfl rfl
          | some x =>
            rw [hx] at hok
            exact decomp_step (C := fun v => .arr .raw (xs.set i.toNat v)) rfl
              (Lift.bind ..)
              (fun v => by simp only [plug_idx, hx]) (fun v => by simp only [plug_idx, hx])
              (ih x hq hok)
      · exact decomp_none (target_nonarr hn (by nofun)) (applyHunkRef_nonarr hn (by nofun))
          (patchNode_nonarr hn (by nofun))
    | setKeys po =>
      rcases arr_or_not n with ⟨t, xs, rfl⟩ | hn
      · rw [okNav_keyed] at hok
        simp only [Bool.and_eq_true, Bool.or_eq_true, beq_iff_eq, decide_eq_true_eq,
          List.all_eq_true, Bool.not_eq_true'] at hok
        obtain ⟨⟨⟨⟨⟨ht, hwf⟩, hpo⟩, hF⟩, huniq⟩, hall⟩ := hok
        rcases keyed_uniq sw t ht xs po (q ++ lf) hne h hwf hpo hF huniq with
          ⟨hf, e1, e2⟩ | ⟨l1, kvs, l2, ex, hf, h1, hm, h2, e1, e2⟩
        · exact decomp_none (by rw [target_keyed, hf]) e2 e1
        · subst ex
          have hplug : ∀ tl ts v, plug tl ts (.setKeys po :: q) (.arr t (l1 ++ .obj kvs :: l2)) v
              = .arr ts (l1 ++ plug tl ts q (.obj kvs) v :: l2) := fun tl ts v => by
            rw [plug_keyed, map_replace_fn (fun x => plug tl ts q x v) h1 hm h2]
          rw [target_keyed, hf]
          exact decomp_step e2 (by rw [List.cons_append, e1]; exact Lift.keyedOut ..)
            (hplug _ _) (hplug _ _)
            (ih _ hq ((hall _ (by simp)).resolve_left (by rw [hm]; nofun)))
      · exact decomp_none (target_nonarr hn (by nofun)) (applyHunkRef_nonarr hn (by nofun))
          (patchNode_nonarr hn (by nofun))
    | set => exact (Bool.false_ne_true hq).elim
    | mset => exact (Bool.false_ne_true hq).elim
    | msetKeys _ => exact (Bool.false_ne_true hq).elim


/-- **Stage C, set leaf `{}` below keys, indices and keyed elements.** With the `Faithful` hypothesis
    of JdProofs.SetPatch on the addressed array: the reference rejects and the error-propagating
    variant fails, or both apply and the results are the addressed array as a set (equal as sets up to
    the advertised equivalence) put back in place, the same place up to tags (`plug_untag`). -/
theorem nav_set_ref (sw : Bool) (h : Hunk) (q r : Path) (n : Json) (hq : navElems q = true)
    (hok : okNav q n = true) {t : Tag} {xs : List Json} (ht : t = .raw ∨ t = .set)
    (htg : target q n = some (.arr t xs))
    (hF : Faithful [.set] (xs ++ h.remove ++ h.add)) (hd : distinctEq [.set] h.remove = true) :
    (applyHunkRef n (q ++ .set :: r) h = none ∧
      (sw = false → patchNode sw false n (q ++ .set :: r) h.before h.remove h.add h.after = .err)) ∨
    ∃ zs ys, applyHunkRef n (q ++ .set :: r) h = some (plug .raw .raw q n (.arr .raw zs)) ∧
      patchNode sw false n (q ++ .set :: r) h.before h.remove h.add h.after
        = .ok (plug .list .set q n (.arr .set ys)) ∧
      setEqB [.set] ys zs = true := by
  obtain ⟨e1, e2, e3⟩ := (nav_decomp sw h (.set :: r) (by simp) q n hq hok).2 _ htg
  rcases patchNode_set_ref sw t ht xs r h hF hd with ⟨r1, r2⟩ | ⟨zs, ys, r1, r2, r3⟩
  · exact Or.inl ⟨by rw [e1, r1]; rfl, fun hsw => e3 hsw r2⟩
  · exact Or.inr ⟨zs, ys, by rw [e1, r1]; rfl, e2 _ r2, r3⟩

/-- **Stage C, multiset leaf `[]`.** As `nav_set_ref`, the results equal as bags on the elements at hand -/
theorem nav_mset_ref (sw : Bool) (h : Hunk) (q r : Path) (n : Json) (hq : navElems q = true)
    (hok : okNav q n = true) {t : Tag} {xs : List Json} (ht : t = .raw ∨ t = .mset)
    (htg : target q n = some (.arr t xs))
    (hF : Faithful [.mset] (xs ++ h.remove ++ h.add)) :
    (applyHunkRef n (q ++ .mset :: r) h = none ∧
      (sw = false → patchNode sw false n (q ++ .mset :: r) h.before h.remove h.add h.after = .err)) ∨
    ∃ zs ys, applyHunkRef n (q ++ .mset :: r) h = some (plug .raw .raw q n (.arr .raw zs)) ∧
      patchNode sw false n (q ++ .mset :: r) h.before h.remove h.add h.after
        = .ok (plug .list .set q n (.arr .mset ys)) ∧
      ∀ z ∈ xs ++ h.remove ++ h.add, cntEq [.mset] z ys = cntEq [.mset] z zs := by
  obtain ⟨e1, e2, e3⟩ := (nav_decomp sw h (.mset :: r) (by simp) q n hq hok).2 _ htg
  rcases patchNode_mset_ref sw t ht xs r h hF with ⟨r1, r2⟩ | ⟨zs, ys, r1, r2, r3⟩
  · exact Or.inl ⟨by rw [e1, r1]; rfl, fun hsw => e3 hsw r2⟩
  · exact Or.inr ⟨zs, ys, by rw [e1, r1]; rfl, e2 _ r2, r3⟩

/-- the prefix addresses nothing, or something that is not an array: a set / multiset leaf is rejected
    by the reference and by the error-propagating variant -/
theorem nav_leaf_no_array (h : Hunk) (q r : Path) (e : PathElem) (he : e = .set ∨ e = .mset)
    (n : Json) (hq : navElems q = true) (hok : okNav q n = true)
    (htg : ∀ t xs, target q n ≠ some (.arr t xs)) :
    applyHunkRef n (q ++ e :: r) h = none ∧
      patchNode false false n (q ++ e :: r) h.before h.remove h.add h.after = .err := by
  obtain ⟨hn, hs⟩ := nav_decomp false h (e :: r) (by simp) q n hq hok
  cases hm : target q n with
  | none => exact ⟨(hn hm).1, (hn hm).2 rfl⟩
  | some m =>
    obtain ⟨e1, _, e3⟩ := hs m hm
    have hne : ∀ t xs, m ≠ .arr t xs := fun t xs em => htg t xs (by rw [hm, em])
    have hk : ∀ k, e ≠ .key k := by rcases he with rfl | rfl <;> nofun
    exact ⟨by rw [e1, applyHunkRef_nonarr hne hk]; rfl, e3 rfl (patchNode_nonarr hne hk)⟩


/-! ### 12. outside the preconditions: what the code does there -/

/-- **two or more matching members** (excluded by the precondition "at most one member matches"): the
    reference rejects the hunk as ambiguous, the code patches the FIRST matching member -/
theorem keyed_ambiguous (sw : Bool) (t : Tag) (ht : t = .raw ∨ t = .set) (xs : List Json)
    (po : List (String × Json)) (rest : Path) (hrest : rest ≠ []) (h : Hunk)
    (hwf : wfList xs = true) (hpo : keysSorted po = true) (hF : KeyedFaithful po xs = true)
    (hmany : 2 ≤ (xs.filter (keyedMembers xs po)).length) :
    applyHunkRef (.arr t xs) (.setKeys po :: rest) h = none ∧
    ∃ l1 kvs l2, xs = l1 ++ .obj kvs :: l2 ∧ (∀ x ∈ l1, keyedMembers xs po x = false) ∧
      keyedMembers xs po (.obj kvs) = true ∧
      patchNode sw false (.arr t xs) (.setKeys po :: rest) h.before h.remove h.add h.after =
        keyedOut sw l1 (.obj kvs) l2
          (patchNode sw false (.obj kvs) rest h.before h.remove h.add h.after) := by
  rcases keyed_step sw t ht xs po rest hrest h hwf hpo hF with
    ⟨hno, _, _⟩ | ⟨l1, kvs, l2, e, h1, hm, e1, _, e3⟩
  · rw [filter_none hno] at hmany; simp at hmany
  · subst e
    refine ⟨e3 (Classical.byContradiction fun hc => ?_), l1, kvs, l2, rfl, h1, hm, e1⟩
    rw [filter_unique _ h1 hm (fun x hx => Bool.eq_false_iff.2 fun hk => hc ⟨x, hx, hk⟩)] at hmany
    simp at hmany

/-- **a list-typed or multiset-typed array** (excluded by the hypothesis on the tag; it arises when an
    earlier hunk of the same diff has edited the array by index): the code rejects every keyed
    element, whatever the members; the reference does not look at the Go dynamic type -/
theorem keyed_on_list_typed (sw : Bool) (t : Tag) (ht : t = .list ∨ t = .mset) (xs : List Json)
    (po : List (String × Json)) (rest : Path) (before remove add after : List Json) :
    patchNode sw false (.arr t xs) (.setKeys po :: rest) before remove add after = .err := by
  rw [patchNode_strict]
  rcases ht with rfl | rfl <;> simp [patchS, effTag]

/-- the reference is order-independent in the same sense as `keyed_perm`: one member-wise function -/
theorem keyed_ref_perm (t : Tag) {xs xs' : List Json} (hperm : xs'.Perm xs)
    (po : List (String × Json)) (rest : Path) (hrest : rest ≠ []) (h : Hunk) :
    (applyHunkRef (.arr t xs) (.setKeys po :: rest) h = none ∧
      applyHunkRef (.arr t xs') (.setKeys po :: rest) h = none) ∨
    ∃ f : Json → Json,
      applyHunkRef (.arr t xs) (.setKeys po :: rest) h = some (.arr .raw (xs.map f)) ∧
      applyHunkRef (.arr t xs') (.setKeys po :: rest) h = some (.arr .raw (xs'.map f)) := by
  rw [applyHunkRef_setKeys t xs po rest hrest, applyHunkRef_setKeys t xs' po rest hrest,
    keyedMembers_perm hperm]
  have hp := hperm.filter (keyedMembers xs po)
  cases hf : xs.filter (keyedMembers xs po) with
  | nil =>
    rw [hf] at hp
    rw [List.perm_nil.1 hp]
    exact Or.inl ⟨rfl, rfl⟩
  | cons m r =>
    cases r with
    | nil =>
      rw [hf] at hp
      rw [List.perm_singleton.1 hp]
      simp only
      cases applyHunkRef m rest h with
      | none => exact Or.inl ⟨rfl, rfl⟩
      | some v => exact Or.inr ⟨fun x => if keyedMembers xs po x then v else x, rfl, rfl⟩
    | cons m' r' =>
      rw [hf] at hp
      have hl := hp.length_eq
      cases hf' : xs'.filter (keyedMembers xs po) with
      | nil => rw [hf'] at hl; simp at hl
      | cons a b =>
        cases b with
        | nil => rw [hf'] at hl; simp at hl
        | cons c d => exact Or.inl ⟨rfl, rfl⟩


/-! ### 13. KF-C08-swallow below a navigation prefix -/

/-- **(2) KF-C08-swallow, nested form.** The keyed element stands below any prefix `q` of keys, indices
    and keyed elements addressing the array `xs`; the nested patch of the matching member fails. The
    code as it is reports SUCCESS and returns the document with the addressed array put back unchanged
    (`plug … (.arr .set xs)`), where the error-propagating variant fails. -/
theorem keyed_failure_is_swallowed_nested (h : Hunk) (q : Path) (n : Json)
    (hq : navElems q = true) (hok : okNav q n = true) {t : Tag} {xs : List Json}
    (ht : t = .raw ∨ t = .set) (htg : target q n = some (.arr t xs))
    (po : List (String × Json)) (rest : Path) (hrest : rest ≠ [])
    (hwf : wfList xs = true) (hpo : keysSorted po = true) (hF : KeyedFaithful po xs = true)
    (huniq : (xs.filter (keyedMembers xs po)).length ≤ 1)
    {m : Json} (hmem : m ∈ xs) (hkm : keyedMembers xs po m = true)
    (hfail : patchNode true false m rest h.before h.remove h.add h.after = .err) :
    patchNode true false n (q ++ .setKeys po :: rest) h.before h.remove h.add h.after
      = .ok (plug .list .set q n (.arr .set xs)) :=
  ((nav_decomp true h (.setKeys po :: rest) (by simp) q n hq hok).2 _ htg).2.1 _
    (keyed_failure_is_swallowed t ht xs po rest hrest h hwf hpo hF huniq hmem hkm hfail)

theorem keyed_failure_propagated_nested (h : Hunk) (q : Path) (n : Json)
    (hq : navElems q = true) (hok : okNav q n = true) {t : Tag} {xs : List Json}
    (ht : t = .raw ∨ t = .set) (htg : target q n = some (.arr t xs))
    (po : List (String × Json)) (rest : Path) (hrest : rest ≠ [])
    (hwf : wfList xs = true) (hpo : keysSorted po = true) (hF : KeyedFaithful po xs = true)
    (huniq : (xs.filter (keyedMembers xs po)).length ≤ 1)
    {m : Json} (hmem : m ∈ xs) (hkm : keyedMembers xs po m = true)
    (hfail : patchNode false false m rest h.before h.remove h.add h.after = .err) :
    patchNode false false n (q ++ .setKeys po :: rest) h.before h.remove h.add h.after = .err :=
  ((nav_decomp false h (.setKeys po :: rest) (by simp) q n hq hok).2 _ htg).2.2 rfl
    (keyed_failure_propagated t ht xs po rest hrest h hwf hpo hF huniq hmem hkm hfail)


/-! #### the document comes back unchanged -/

/-- conditions under which putting the addressed sub-document back gives the document again: objects
    on the way have sorted keys and the member entered is not void (decidable) -/
def stepsOK : Path → Json → Bool
  | [], _ => true
  | .key k :: q, n =>
    match n with
    | .obj kvs => keysSorted kvs &&
        (match alookup k kvs with
          | some c => !c.isVoid && stepsOK q c
          | none => true)
    | _ => true
  | .idx i :: q, n =>
    match n with
    | .arr _ xs =>
      match xs[i.toNat]? with
      | some x => stepsOK q x
      | none => true
    | _ => true
  | .setKeys po :: q, n =>
    match n with
    | .arr _ xs => xs.all (fun x => !(keyedMembers xs po x) || stepsOK q x)
    | _ => true
  | _, _ => true

theorem stepsOK_key (k : String) (q : Path) (kvs : List (String × Json)) :
    stepsOK (.key k :: q) (.obj kvs) = (keysSorted kvs &&
      (match alookup k kvs with
        | some c => !c.isVoid && stepsOK q c
        | none => true)) := rfl

theorem stepsOK_idx (i : Int) (q : Path) (t : Tag) (xs : List Json) :
    stepsOK (.idx i :: q) (.arr t xs) =
      match xs[i.toNat]? with
      | some x => stepsOK q x
      | none => true := rfl

theorem stepsOK_keyed (po : List (String × Json)) (q : Path) (t : Tag) (xs : List Json) :
    stepsOK (.setKeys po :: q) (.arr t xs) =
      xs.all (fun x => !(keyedMembers xs po x) || stepsOK q x) := rfl

/-- putting back the addressed sub-document (or anything equal to it up to tags) gives the document,
    up to tags -/
theorem plug_target (tl ts : Tag) :
    ∀ (q : Path) (n m m' : Json), target q n = some m → stepsOK q n = true →
      untag m' = untag m → untag (plug tl ts q n m') = untag n := by
  intro q
  induction q with
  | nil =>
    intro n m m' ht _ e
    obtain rfl : n = m := Option.some.inj ht
    exact e
  | cons el q ih =>
    intro n m m' ht hs e
    cases el with
    | key k =>
      rcases obj_or_not n with ⟨kvs, rfl⟩ | hn
      · rw [target_key] at ht
        rw [stepsOK_key, Bool.and_eq_true] at hs
        obtain ⟨hsort, hs⟩ := hs
        rw [plug_key]
        cases hl : alookup k kvs with
        | none =>
          rw [hl] at ht
          simp only [Option.getD_none] at ht ⊢
          have hq : q = [] := by
            cases q with
            | nil => rfl
            | cons e' r => cases e' <;> cases ht
          subst hq
          obtain rfl : Json.void = m := Option.some.inj ht
          have hv : m' = .void := by cases m' <;> simp [untag] at e; rfl
          subst hv
          show untag (.obj (aerase k kvs)) = _
          rw [aerase_of_alookup_none hl]
        | some c =>
          rw [hl] at ht hs
          simp only [Option.getD_some, Bool.and_eq_true, Bool.not_eq_true'] at ht hs ⊢
          have hp := ih c m m' ht hs.2 e
          have hv : (plug tl ts q c m').isVoid = false := by
            rw [← untag_isVoid, hp, untag_isVoid]; exact hs.1
          simp only [hv, Bool.false_eq_true, if_false, untag, untagKvs_ainsert, hp, Json.obj.injEq]
          apply ainsert_self_of_sorted
          · rw [keysSorted_untagKvs]; exact hsort
          · rw [alookup_untagKvs, hl]; rfl
      · rw [target_key_nonobj hn] at ht; cases ht
    | idx i =>
      rcases arr_or_not n with ⟨t, xs, rfl⟩ | hn
      · rw [target_idx] at ht
        split at ht
        · cases ht
        · cases hx : xs[i.toNat]? with
          | none => rw [hx] at ht; cases ht
          | some x =>
            rw [hx] at ht
            simp only [stepsOK_idx, hx] at hs
            have hp := ih x m m' ht hs e
            obtain ⟨hi, rfl⟩ := List.getElem?_eq_some_iff.1 hx
            simp only [plug_idx, hx]
            rw [untag_arrSet tl t xs i.toNat hp, List.set_getElem_self]
      · rw [target_nonarr hn (by nofun)] at ht; cases ht
    | setKeys po =>
      rcases arr_or_not n with ⟨t, xs, rfl⟩ | hn
      · rw [target_keyed] at ht
        rw [stepsOK_keyed] at hs
        simp only [List.all_eq_true, Bool.or_eq_true, Bool.not_eq_true'] at hs
        cases hf : xs.filter (keyedMembers xs po) with
        | nil => rw [hf] at ht; cases ht
        | cons m0 r =>
          cases r with
          | cons a b => rw [hf] at ht; cases ht
          | nil =>
            rw [hf] at ht
            simp only at ht
            simp only [plug_keyed, untag, untagList_eq_map, List.map_map, Json.arr.injEq, true_and]
            apply List.map_congr_left
            intro x hx
            simp only [Function.comp]
            split
            · rename_i hk
              have hm : x ∈ xs.filter (keyedMembers xs po) := List.mem_filter.2 ⟨hx, hk⟩
              rw [hf, List.mem_singleton] at hm
              subst hm
              rcases hs x hx with hc | hc
              · rw [hk] at hc; cases hc
              · exact ih x m m' ht hc e
            · rfl
      · rw [target_nonarr hn (by nofun)] at ht; cases ht
    | set => cases ht
    | mset => cases ht
    | msetKeys _ => cases ht

/-- **(2) KF-C08-swallow, whole-document form.** Under `keyed_failure_is_swallowed_nested` and
    `stepsOK`: the code as it is answers `.ok r` with `r` the input document up to array tags — a hunk
    whose nested change fails is silently NOT applied. -/
theorem keyed_failure_returns_document (h : Hunk) (q : Path) (n : Json)
    (hq : navElems q = true) (hok : okNav q n = true) (hst : stepsOK q n = true)
    {t : Tag} {xs : List Json}
    (ht : t = .raw ∨ t = .set) (htg : target q n = some (.arr t xs))
    (po : List (String × Json)) (rest : Path) (hrest : rest ≠ [])
    (hwf : wfList xs = true) (hpo : keysSorted po = true) (hF : KeyedFaithful po xs = true)
    (huniq : (xs.filter (keyedMembers xs po)).length ≤ 1)
    {m : Json} (hmem : m ∈ xs) (hkm : keyedMembers xs po m = true)
    (hfail : patchNode true false m rest h.before h.remove h.add h.after = .err) :
    ∃ r, patchNode true false n (q ++ .setKeys po :: rest) h.before h.remove h.add h.after = .ok r ∧
      untag r = untag n :=
  ⟨_, keyed_failure_is_swallowed_nested h q n hq hok ht htg po rest hrest hwf hpo hF huniq hmem hkm
      hfail,
    plug_target .list .set q n (.arr t xs) (.arr .set xs) htg hst (by simp [untag])⟩

/-! ### 14. non-vacuity: concrete inputs satisfying the hypotheses

  Target `[{"id":"x","v":"a"},{"id":"y","v":"c"}]`, path object `{"id":"x"}`, rest `"v"`. -/

namespace Example

def m1 : Json := .obj [("id", .str "x"), ("v", .str "a")]
def m2 : Json := .obj [("id", .str "y"), ("v", .str "c")]
def xs : List Json := [m1, m2]
def po : List (String × Json) := [("id", .str "x")]
def good : Hunk := { path := [.setKeys po, .key "v"], remove := [.str "a"], add := [.str "b"] }
def bad : Hunk := { path := [.setKeys po, .key "v"], remove := [.str "WRONG"], add := [.str "b"] }


theorem hF : KeyedFaithful po xs = true :=
  keyedFaithful_of_check (by decide +kernel)

theorem hwf : wfList xs = true := by decide
theorem hpo : keysSorted po = true := by decide
theorem hl : listDocList xs = true := by decide

/-- a target of two members of which the first alone carries the key values: the exact pass is run
    and selects it -/
theorem filter_pair {po : List (String × Json)} {a b : Json}
    (h : exactMember po a = true ∧ exactMember po b = false) :
    keyedMembers [a, b] po = exactMember po ∧ [a, b].filter (keyedMembers [a, b] po) = [a] := by
  have e : keyedMembers [a, b] po = exactMember po := by rw [keyedMembers_eq]; simp [h.1]
  exact ⟨e, by rw [e]; simp [List.filter, h.1, h.2]⟩

theorem exact_m : exactMember po m1 = true ∧ exactMember po m2 = false := by
  simp [m1, m2, po, exactMember, matchesKeys, alookup, equivB]

theorem km_m1 : keyedMembers xs po m1 = true := by
  rw [xs, (filter_pair exact_m).1]; exact exact_m.1

theorem hfilter : xs.filter (keyedMembers xs po) = [m1] := (filter_pair exact_m).2

theorem huniq : (xs.filter (keyedMembers xs po)).length ≤ 1 := by rw [hfilter]; simp

theorem ref_good : applyHunkRef (.arr .raw xs) [.setKeys po, .key "v"] good
    = some (.arr .raw [.obj [("id", .str "x"), ("v", .str "b")], m2]) := by
  rw [applyHunkRef_setKeys _ _ _ _ (by simp), hfilter, xs, (filter_pair exact_m).1]
  simp [m1, m2, po, good, exactMember, matchesKeys, applyHunkRef, alookup, specEq, single,
    Json.singleValue, equivB, Json.isVoid, ainsert]

example : Outcome.mapO untag (patchNode false false (.arr .raw xs) [.setKeys po, .key "v"] good.before good.remove good.add good.after)
    = .ok (.arr .raw [.obj [("id", .str "x"), ("v", .str "b")], m2]) := by
  rw [keyed_strict_eq_ref .raw (.inl rfl) xs po [.key "v"] (by simp) rfl good rfl hl hwf hpo hF huniq, ref_good]
  simp [optToOutcome, Outcome.mapO, untag, untagList, untagKvs, m2]


/-- the nested change does not match (`v` is `"a"`, not `"WRONG"`): the reference rejects it inside `m1` -/
theorem ref_bad_nested : applyHunkRef m1 [.key "v"] bad = none := by
  simp [m1, bad, applyHunkRef, alookup, specEq, single, Json.singleValue, equivB]

/-- (2) on the example: the code as it is answers `.ok` with the array unchanged; the
    error-propagating variant and the reference reject -/
example :
    patchNode true false (.arr .raw xs) [.setKeys po, .key "v"] bad.before bad.remove bad.add bad.after
      = .ok (.arr .set xs) ∧
    patchNode false false (.arr .raw xs) [.setKeys po, .key "v"] bad.before bad.remove bad.add bad.after
      = .err ∧
    applyHunkRef (.arr .raw xs) [.setKeys po, .key "v"] bad = none :=
  (keyed_strict_swallow .raw (.inl rfl) xs po [.key "v"] (by simp) rfl bad rfl hl hwf hpo hF huniq).2.2
    m1 (by simp [xs]) km_m1 ref_bad_nested

/-- the nested strict patch of `m1` by the bad hunk fails, in both variants -/
theorem bad_nested_err (sw : Bool) :
    patchNode sw false m1 [.key "v"] bad.before bad.remove bad.add bad.after = .err := by
  have := patchNode_strict_eq_ref sw m1 bad [.key "v"] rfl (by decide) rfl
  rw [← applyHunkRef_strict bad [.key "v"] m1 rfl, ref_bad_nested] at this
  exact err_of_untag_eq_none this

/-- (2), whole-document form, on `{"a":[{"id":"x","v":"a"},{"id":"y","v":"c"}]}` with the hunk
    `@ ["a",{"id":"x"},"v"] - "WRONG" + "b"`: the code answers `.ok` with the document unchanged -/
example : ∃ r, patchNode true false (.obj [("a", .arr .raw xs)]) ([.key "a"] ++ .setKeys po :: [.key "v"])
      bad.before bad.remove bad.add bad.after = .ok r ∧
    untag r = untag (.obj [("a", .arr .raw xs)]) :=
  keyed_failure_returns_document bad [.key "a"] (.obj [("a", .arr .raw xs)]) rfl
    rfl (by decide) (.inl rfl)
    rfl po [.key "v"] (by simp) hwf hpo hF huniq
    (m := m1) (by simp [xs]) km_m1
    (bad_nested_err true)

/-- (3) on the example: the two orders of the members -/
example :
    (patchNode true false (.arr .raw xs) [.setKeys po, .key "v"] bad.before bad.remove bad.add bad.after = .err ∧
      patchNode true false (.arr .raw [m2, m1]) [.setKeys po, .key "v"] bad.before bad.remove bad.add bad.after = .err) ∨
    ∃ f : Json → Json,
      patchNode true false (.arr .raw xs) [.setKeys po, .key "v"] bad.before bad.remove bad.add bad.after
        = .ok (.arr .set (xs.map f)) ∧
      patchNode true false (.arr .raw [m2, m1]) [.setKeys po, .key "v"] bad.before bad.remove bad.add bad.after
        = .ok (.arr .set ([m2, m1].map f)) :=
  keyed_perm true .raw (.inl rfl) (List.Perm.swap m1 m2 []) po [.key "v"] (by simp) bad hwf hpo hF huniq

/-! #### the tolerant second pass: the path object holds null for a key the member lacks -/

def t1 : Json := .obj [("v", .str "a")]
def poN : List (String × Json) := [("id", .null)]
def xsN : List Json := [t1, m2]
def goodN : Hunk := { path := [.setKeys poN, .key "v"], remove := [.str "a"], add := [.str "b"] }


theorem hFN : KeyedFaithful poN xsN = true :=
  keyedFaithful_of_check (by decide +kernel)

theorem kmN : keyedMembers xsN poN = tolMember poN := by
  have : xsN.any (exactMember poN) = false := by
    simp [xsN, t1, m2, poN, exactMember, matchesKeys, alookup, equivB]
  rw [keyedMembers_eq, this]; rfl

theorem hfilterN : xsN.filter (keyedMembers xsN poN) = [t1] := by
  rw [kmN]
  simp [xsN, t1, m2, poN, tolMember, matchesKeysTol, alookup, equivB, List.filter, Json.isNull]

example : Outcome.mapO untag (patchNode false false (.arr .raw xsN) [.setKeys poN, .key "v"]
      goodN.before goodN.remove goodN.add goodN.after)
    = .ok (.arr .raw [.obj [("v", .str "b")], m2]) := by
  rw [keyed_strict_eq_ref .raw (.inl rfl) xsN poN [.key "v"] (by simp) rfl goodN rfl (by decide)
    (by decide) (by decide) hFN (by rw [hfilterN]; simp)]
  rw [applyHunkRef_setKeys _ _ _ _ (by simp), hfilterN, kmN]
  simp [xsN, t1, m2, poN, goodN, tolMember, matchesKeysTol, applyHunkRef, alookup, specEq, single,
    Json.singleValue, equivB, Json.isVoid, Json.isNull, ainsert, optToOutcome, Outcome.mapO, untag,
    untagList, untagKvs]


/-! #### a keyed element below a key and another keyed element (stage B) -/

def i1 : Json := .obj [("k", .str "p"), ("v", .str "a")]
def i2 : Json := .obj [("k", .str "q"), ("v", .str "c")]
def o1 : Json := .obj [("id", .str "x"), ("items", .arr .raw [i1, i2])]
def o2 : Json := .obj [("id", .str "y"), ("items", .arr .raw [])]
def doc : Json := .obj [("a", .arr .raw [o1, o2])]
def poK : List (String × Json) := [("k", .str "p")]
def deep : Hunk :=
  { path := [.key "a", .setKeys po, .key "items", .setKeys poK, .key "v"],
    remove := [.str "a"], add := [.str "b"] }


theorem hFo : KeyedFaithful po [o1, o2] = true :=
  keyedFaithful_of_check (by decide +kernel)
theorem hFi : KeyedFaithful poK [i1, i2] = true :=
  keyedFaithful_of_check (by decide +kernel)

theorem fi : [i1, i2].filter (keyedMembers [i1, i2] poK) = [i1] :=
  (filter_pair (by simp [i1, i2, poK, exactMember, matchesKeys, alookup, equivB])).2
theorem fo : [o1, o2].filter (keyedMembers [o1, o2] po) = [o1] :=
  (filter_pair (by simp [o1, o2, po, exactMember, matchesKeys, alookup, equivB])).2

theorem inner_ok : okAlong [.setKeys poK, .key "v"] (.arr .raw [i1, i2]) = true := by
  refine okAlong_setKeys (.inl rfl) (by decide) (by decide) hFi (by rw [fi]; simp) ?_
  intro m hm hk
  have : m ∈ [i1, i2].filter (keyedMembers [i1, i2] poK) := List.mem_filter.2 ⟨hm, hk⟩
  rw [fi] at this
  simp only [List.mem_singleton] at this
  subst this
  rfl

theorem deep_ok : okAlong deep.path doc = true := by
  simp only [deep, doc, okAlong_key, alookup, if_true, Option.getD_some]
  refine okAlong_setKeys (.inl rfl)
    (by simp [wfList, Json.wf, keysSorted, wfKvs, o1, o2, i1, i2]) (by decide) hFo (by rw [fo]; simp) ?_
  intro m hm hk
  have : m ∈ [o1, o2].filter (keyedMembers [o1, o2] po) := List.mem_filter.2 ⟨hm, hk⟩
  rw [fo] at this
  simp only [List.mem_singleton] at this
  subst this
  simp only [o1, okAlong_key, alookup, String.reduceEq, if_false, if_true, Option.getD_some]
  exact inner_ok

example : Outcome.mapO untag (patchNode false false doc deep.path deep.before deep.remove deep.add deep.after)
    = Outcome.mapO untag (optToOutcome (applyHunkRef doc deep.path deep)) :=
  nav_eq_ref deep rfl deep.path doc rfl deep_ok


/-! #### a set leaf below a keyed element and a key (stage C) -/

def s1 : Json := .obj [("id", .str "x"), ("tags", .arr .raw [.bool true, .null])]
def s2 : Json := .obj [("id", .str "y"), ("tags", .arr .raw [])]
def setHunk : Hunk :=
  { path := [.setKeys po, .key "tags", .set], remove := [.null], add := [.bool false] }

theorem hFs : KeyedFaithful po [s1, s2] = true :=
  keyedFaithful_of_check (by decide +kernel)
theorem fs : [s1, s2].filter (keyedMembers [s1, s2] po) = [s1] :=
  (filter_pair (by simp [s1, s2, po, exactMember, matchesKeys, alookup, equivB])).2

theorem set_ok : okNav [.setKeys po, .key "tags"] (.arr .raw [s1, s2]) = true := by
  refine okNav_setKeys (.inl rfl)
    (by simp [wfList, Json.wf, keysSorted, wfKvs, s1, s2]) (by decide) hFs (by rw [fs]; simp) ?_
  intro m _ _
  cases m <;> rfl

theorem set_target : target [.setKeys po, .key "tags"] (.arr .raw [s1, s2])
    = some (.arr .raw [.bool true, .null]) := by
  rw [target_keyed, fs]
  rfl

example :
    (applyHunkRef (.arr .raw [s1, s2]) ([.setKeys po, .key "tags"] ++ [.set]) setHunk = none ∧
      (false = false → patchNode false false (.arr .raw [s1, s2]) ([.setKeys po, .key "tags"] ++ [.set])
        setHunk.before setHunk.remove setHunk.add setHunk.after = .err)) ∨
    ∃ zs ys, applyHunkRef (.arr .raw [s1, s2]) ([.setKeys po, .key "tags"] ++ [.set]) setHunk
        = some (plug .raw .raw [.setKeys po, .key "tags"] (.arr .raw [s1, s2]) (.arr .raw zs)) ∧
      patchNode false false (.arr .raw [s1, s2]) ([.setKeys po, .key "tags"] ++ [.set])
        setHunk.before setHunk.remove setHunk.add setHunk.after
        = .ok (plug .list .set [.setKeys po, .key "tags"] (.arr .raw [s1, s2]) (.arr .set ys)) ∧
      setEqB [.set] ys zs = true :=
  nav_set_ref false setHunk [.setKeys po, .key "tags"] [] (.arr .raw [s1, s2]) rfl set_ok (.inl rfl)
    set_target faithful_scalars (by simp [setHunk, distinctEq, memEq])

end Example

/-! ### axioms -/

#print axioms keyed_step
#print axioms keyed_strict_eq_ref
#print axioms keyed_eq_ref
#print axioms nav_eq_ref
#print axioms nav_agree
#print axioms nav_swallow_success
#print axioms nav_decomp
#print axioms nav_set_ref
#print axioms nav_mset_ref
#print axioms nav_leaf_no_array
#print axioms plug_untag
#print axioms keyed_failure_is_swallowed
#print axioms keyed_failure_is_swallowed_nested
#print axioms keyed_failure_propagated
#print axioms keyed_failure_returns_document
#print axioms plug_target
#print axioms keyed_failure_propagated_nested
#print axioms keyed_success
#print axioms keyed_no_member
#print axioms keyed_strict_swallow
#print axioms keyed_perm
#print axioms keyed_ref_perm
#print axioms keyed_ambiguous
#print axioms keyed_on_list_typed
#print axioms hashMatch_keyedMembers
#print axioms Example.hF
#print axioms Example.deep_ok
#print axioms Example.set_ok

end Jd.Keyed
