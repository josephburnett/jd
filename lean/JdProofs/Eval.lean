/-
  JdProofs.Eval — running the model on concrete test vectors inside the kernel.

  `diffNode`, `V1.diffNode` and `patchNode` are well-founded recursions, which the kernel does not
  unfold. Here are their structural twins: `diffE` and `V1.diffNodeE` recurse on the first document
  (the two loops of the list reading that recurse on a PAIR of lists, `lcsBack` and `diffRest`, take
  fuel), `patchAllE` goes through `patchS` / `patchMg` of JdProofs.PatchEqns. Each twin is proved
  equal to the model function once (`diffE_eq`, `V1.diffNodeE_eq`, `patchAll_eq_E`); with a Boolean
  equality of documents, hunks and outcomes, a concrete run `diffM o a b = d` or
  `patchAll sw a d = r` is then ONE kernel evaluation (`diffM_of_eqb`, `diffM_ne_nil_of_eval`,
  `V1.diffM_of_eqb`, `patchAll_of_eqb`, `renderMergeDoc_of_eqb`, `ok_of_eqb`).
  Limit: `equals` compares two numbers through `Float`, which is opaque to the kernel; a run in which
  two numbers meet in `diffCommon` (or in a strict `remove` test) does not evaluate.
-/
import JdModel.MergeFmt
import JdModel.V1.Diff
import JdProofs.PatchEqns

namespace Jd

/-! ### equality of documents as a Boolean -/

mutual
/-- structural equality of documents as a Boolean (`Json` has no `DecidableEq`) -/
def Json.eqb : Json → Json → Bool
  | .void, .void => true
  | .null, .null => true
  | .bool x, .bool y => x == y
  | .num x, .num y => x == y
  | .str x, .str y => x == y
  | .arr t xs, .arr t' ys => t == t' && eqbList xs ys
  | .obj kvs, .obj kvs' => eqbKvs kvs kvs'
  | _, _ => false
def eqbList : List Json → List Json → Bool
  | [], [] => true
  | x :: r, y :: s => x.eqb y && eqbList r s
  | _, _ => false
def eqbKvs : List (String × Json) → List (String × Json) → Bool
  | [], [] => true
  | (k, v) :: r, (k', v') :: s => k == k' && v.eqb v' && eqbKvs r s
  | _, _ => false
end

mutual
theorem Json.eq_of_eqb : ∀ {a b : Json}, a.eqb b = true → a = b
  | .void, b, h => by cases b <;> simp_all [Json.eqb]
  | .null, b, h => by cases b <;> simp_all [Json.eqb]
  | .bool _, b, h => by cases b <;> simp_all [Json.eqb]
  | .num _, b, h => by cases b <;> simp_all [Json.eqb]
  | .str _, b, h => by cases b <;> simp_all [Json.eqb]
  | .arr t xs, b, h => by
    cases b with
    | arr t' ys =>
      simp only [Json.eqb, Bool.and_eq_true, beq_iff_eq] at h
      rw [h.1, eq_of_eqbList h.2]
    | _ => simp [Json.eqb] at h
  | .obj kvs, b, h => by
    cases b with
    | obj kvs' =>
      simp only [Json.eqb] at h
      rw [eq_of_eqbKvs h]
    | _ => simp [Json.eqb] at h
theorem eq_of_eqbList : ∀ {xs ys : List Json}, eqbList xs ys = true → xs = ys
  | [], ys, h => by cases ys <;> simp_all [eqbList]
  | x :: r, ys, h => by
    cases ys with
    | nil => simp [eqbList] at h
    | cons y s =>
      simp only [eqbList, Bool.and_eq_true] at h
      rw [Json.eq_of_eqb h.1, eq_of_eqbList h.2]
theorem eq_of_eqbKvs : ∀ {kvs kvs' : List (String × Json)}, eqbKvs kvs kvs' = true → kvs = kvs'
  | [], kvs', h => by cases kvs' <;> simp_all [eqbKvs]
  | (k, v) :: r, kvs', h => by
    cases kvs' with
    | nil => simp [eqbKvs] at h
    | cons kv s =>
      obtain ⟨k', v'⟩ := kv
      simp only [eqbKvs, Bool.and_eq_true, beq_iff_eq] at h
      rw [h.1.1, Json.eq_of_eqb h.1.2, eq_of_eqbKvs h.2]
end

/-- the result of reading a concrete text: one evaluation of the reader and a structural
    comparison -/
theorem ok_of_eqb {x : Jd.Outcome Json} {v : Json}
    (h : (match x with | .ok w => w.eqb v | _ => false) = true) : x = .ok v := by
  cases x with
  | ok w => exact congrArg _ (Json.eq_of_eqb h)
  | err => cases h
  | panic => cases h

/-! ### the v2 diff: the two recursions on a pair of lists, by fuel -/

/-- `lcsBack` by recursion on fuel -/
def lcsBackF {α} [BEq α] : Nat → List α → List α → List (List Nat) → List α
  | 0, _, _, _ => []
  | _ + 1, [], _, _ => []
  | _ + 1, _, [], _ => []
  | n + 1, x :: ra, y :: rb, rows =>
    if x == y then x :: lcsBackF n ra rb rows.tail
    else
      let k := rb.length + 1
      let up := (rows.tail.headD []).getD k 0
      let left := (rows.headD []).getD (k - 1) 0
      if up ≥ left then lcsBackF n ra (y :: rb) rows.tail
      else lcsBackF n (x :: ra) rb rows

theorem lcsBackF_eq {α} [BEq α] : ∀ (n : Nat) (ra rb : List α) (rows : List (List Nat)),
    ra.length + rb.length < n → lcsBackF n ra rb rows = lcsBack ra rb rows
  | 0, _, _, _, h => by omega
  | n + 1, [], rb, rows, _ => by rw [lcsBack, lcsBackF]
  | n + 1, x :: ra, [], rows, _ => by rw [lcsBack, lcsBackF] <;> nofun
  | n + 1, x :: ra, y :: rb, rows, h => by
    simp only [List.length_cons] at h
    rw [lcsBack, lcsBackF, lcsBackF_eq n ra rb _ (by omega),
      lcsBackF_eq n ra (y :: rb) _ (by simp only [List.length_cons]; omega),
      lcsBackF_eq n (x :: ra) rb _ (by simp only [List.length_cons]; omega)]

/-- `diffRest` by recursion on fuel; `ss` holds, element by element of `a`, the diff of that element
    against a container of the other list -/
def diffRestF (o : Opts) (parent : Path) : Nat → Nat → Nat → Json → List Json →
    List (Json → Path → Diff) → List Json → List UInt64 → List Json → List Json → Diff
  | 0, _, _, _, _, _, _, _, _, _ => []
  | _ + 1, _, start, prev, [], _, b, _, R, A => accHunk parent start prev R (A ++ b) .void
  | _ + 1, _, start, prev, x :: a', _, [], _, R, A =>
    accHunk parent start prev (R ++ x :: a') A .void
  | _ + 1, _, _, _, _ :: _, [], _ :: _, _, _, _ => []
  | n + 1, k, start, prev, x :: a', s :: ss, y :: b', c, R, A =>
    let atA := match c with | [] => false | z :: _ => hashCode o x == z
    let atB := match c with | [] => false | z :: _ => hashCode o y == z
    if atA && atB then
      accHunk parent start prev R A x ++
        (if a'.isEmpty && b'.isEmpty then []
         else diffRestF o parent n (k + 1) (k + 1) y a' ss b' c.tail [] [])
    else if atA then diffRestF o parent n (k + 1) start prev (x :: a') (s :: ss) b' c R (A ++ [y])
    else if atB then diffRestF o parent n k start prev a' ss (y :: b') c (R ++ [x]) A
    else if sameContainerType o x y then
      let sub := s y (parent ++ [.idx k])
      let after := if sub.isEmpty then a'.headD .void else x
      accHunk parent start prev R A after ++ subAfter parent (R.isEmpty && A.isEmpty) (a'.headD .void) sub ++
        (if a'.isEmpty && b'.isEmpty then []
         else diffRestF o parent n (k + 1) (k + 1) y a' ss b' c [] [])
    else diffRestF o parent n (k + 1) start prev a' ss b' c (R ++ [x]) (A ++ [y])

theorem diffRestF_eq (o : Opts) (parent : Path) : ∀ (n k start : Nat) (prev : Json)
    (a b : List Json) (c : List UInt64) (R A : List Json), a.length + b.length < n →
    diffRestF o parent n k start prev a (a.map fun x y q => diffNode o false x y q) b c R A
      = diffRest o parent k start prev a b c R A
  | 0, _, _, _, _, _, _, _, _, h => by omega
  | n + 1, k, start, prev, [], b, c, R, A, _ => by rw [diffRest.eq_def]; rfl
  | n + 1, k, start, prev, x :: a', [], c, R, A, _ => by rw [diffRest.eq_def]; rfl
  | n + 1, k, start, prev, x :: a', y :: b', c, R, A, h => by
    simp only [List.length_cons] at h
    have i1 := diffRestF_eq o parent n (k + 1) (k + 1) y a' b' c.tail [] [] (by omega)
    have i2 := diffRestF_eq o parent n (k + 1) start prev (x :: a') b' c R (A ++ [y])
      (by simp only [List.length_cons]; omega)
    have i3 := diffRestF_eq o parent n k start prev a' (y :: b') c (R ++ [x]) A
      (by simp only [List.length_cons]; omega)
    have i4 := diffRestF_eq o parent n (k + 1) (k + 1) y a' b' c [] [] (by omega)
    have i5 := diffRestF_eq o parent n (k + 1) start prev a' b' c (R ++ [x]) (A ++ [y]) (by omega)
    rw [List.map_cons] at i2
    rw [diffRest.eq_def]
    dsimp only
    rw [← i1, ← i2, ← i3, ← i4, ← i5]
    rfl

mutual
/-- `diffNode` by structural recursion on the first document; the bodies are those of the model -/
def diffE (o : Opts) (merge : Bool) : Json → Json → Path → Diff
  | .arr t xs, b, p =>
    let b' := if t == .raw then b.dispatch o else b
    match effTag o t with
    | .set =>
      match b' with
      | .arr .set ys =>
        if merge && !(equals o (.arr .set xs) (.arr .set ys)) then
          [{ merge := true, path := p, add := (Json.arr .set ys).nodeList }]
        else
          let parts := ksort (diffSetElemsE o merge p ys xs)
          let subs := parts.flatMap (fun kp => match kp.2 with | .sub d => d | .removed _ => [])
          let rem := parts.filterMap (fun kp => match kp.2 with | .removed x => some x | .sub _ => none)
          let xIds := xs.map (identOf o)
          let addIds := hsort (hdedup ((ys.map (identOf o)).filter (fun h => !xIds.contains h)))
          let add := addIds.filterMap (fun h => identLookup o h ys)
          subs ++ (if rem.isEmpty && add.isEmpty then []
                   else [{ path := p ++ [.set], remove := rem, add := add }])
      | _ =>
        if merge then [{ merge := true, path := p, add := [b'] }]
        else [{ path := p, remove := (Json.arr .raw xs).nodeList, add := b'.nodeList }]
    | .mset =>
      match b' with
      | .arr .mset ys =>
        if merge && !(equals o (.arr .mset xs) (.arr .mset ys)) then
          [{ merge := true, path := p, add := (Json.arr .mset ys).nodeList }]
        else
          let xh := hashList o xs
          let yh := hashList o ys
          let rem := (hsort (hdedup xh)).flatMap (fun h =>
            match hashLookup o h xs with
            | some v => List.replicate (countOcc h xh - countOcc h yh) v
            | none => [])
          let add := (hsort (hdedup yh)).flatMap (fun h =>
            match hashLookup o h ys with
            | some v => List.replicate (countOcc h yh - countOcc h xh) v
            | none => [])
          if rem.isEmpty && add.isEmpty then []
          else [{ path := p ++ [.mset], remove := rem, add := add }]
      | _ =>
        if merge then [{ merge := true, path := p, add := [b'] }]
        else [{ path := p, remove := (Json.arr .raw xs).nodeList, add := b'.nodeList }]
    | _ =>
      match b' with
      | .arr .list ys =>
        if merge then
          if !(equals o (.arr .list xs) (.arr .list ys)) then
            [{ merge := true, path := p, add := (Json.arr .list ys).nodeList }]
          else []
        else
          let xh := hashList o xs
          let yh := hashList o ys
          let c := (lcsBackF (xh.length + yh.length + 1) xh.reverse yh.reverse
            (lcsRows yh xh.reverse)).reverse
          diffRestF o p (xs.length + ys.length + 1) 0 0 .void xs (subsE o xs) ys c [] []
      | _ =>
        if merge then [{ merge := true, path := p, add := [b'] }]
        else [{ path := p, remove := (Json.arr .list xs).nodeList, add := b'.nodeList }]
  | .obj kvs, b, p =>
    match b with
    | .obj kvs' =>
      diffKvsE o merge p kvs' kvs ++
        (kvs'.filter (fun kv => (alookup kv.1 kvs).isNone)).map (fun kv =>
          { merge := merge, path := p ++ [.key kv.1], add := kv.2.nodeList })
    | _ =>
      if merge then [{ merge := true, path := p, add := [b] }]
      else [{ path := p, remove := [Json.obj kvs], add := [b] }]
  | a, b, p => diffCommon merge a b p
/-- per element of a list, its diff against a container of the other list -/
def subsE (o : Opts) : List Json → List (Json → Path → Diff)
  | [] => []
  | x :: r => (fun y q => diffE o false x y q) :: subsE o r
def diffKvsE (o : Opts) (merge : Bool) (p : Path) (kvs' : List (String × Json)) :
    List (String × Json) → Diff
  | [] => []
  | (k, v) :: r =>
    (match alookup k kvs' with
     | some v' => diffE o merge v v' (p ++ [.key k])
     | none =>
       if merge then [{ merge := true, path := p ++ [.key k], add := [.void] }]
       else [{ path := p ++ [.key k], remove := v.nodeList }]) ++ diffKvsE o merge p kvs' r
def diffSetElemsE (o : Opts) (merge : Bool) (p : Path) (ys : List Json) :
    List Json → List (UInt64 × SetPart)
  | [] => []
  | x :: r =>
    let rest := diffSetElemsE o merge p ys r
    let h := identOf o x
    if (r.map (identOf o)).contains h then rest
    else
      match identLookup o h ys with
      | none => (h, .removed x) :: rest
      | some y =>
        match x, y with
        | .obj kvs, .obj _ =>
          (h, .sub (diffE o merge x y (p ++ [newPathSetKeys o kvs]))) :: rest
        | _, _ => rest
end

mutual
theorem diffE_eq (o : Opts) (merge : Bool) : ∀ (a b : Json) (p : Path),
    diffE o merge a b p = diffNode o merge a b p
  | .arr t xs, b, p => by
    have hl : ∀ ys, diffRestF o p (xs.length + ys.length + 1) 0 0 .void xs (subsE o xs) ys
        (lcsBackF ((hashList o xs).length + (hashList o ys).length + 1) (hashList o xs).reverse
          (hashList o ys).reverse (lcsRows (hashList o ys) (hashList o xs).reverse)).reverse [] []
        = diffRest o p 0 0 .void xs ys (lcsValues (hashList o xs) (hashList o ys)) [] [] := by
      intro ys
      rw [subsE_eq o xs, diffRestF_eq o p _ _ _ _ _ _ _ _ _ (by omega),
        lcsBackF_eq _ _ _ _ (by simp), lcsValues]
    rw [diffNode.eq_def]
    simp only [diffE, diffSetElemsE_eq o merge, hl]
    cases effTag o t <;> rfl
  | .obj kvs, b, p => by
    rw [diffNode.eq_def]
    cases b <;> simp only [diffE, diffKvsE_eq o merge]
  | .void, b, p => by rw [diffNode.eq_def, diffE] <;> nofun
  | .null, b, p => by rw [diffNode.eq_def, diffE] <;> nofun
  | .bool _, b, p => by rw [diffNode.eq_def, diffE] <;> nofun
  | .num _, b, p => by rw [diffNode.eq_def, diffE] <;> nofun
  | .str _, b, p => by rw [diffNode.eq_def, diffE] <;> nofun
termination_by structural a => a
theorem subsE_eq (o : Opts) : ∀ xs : List Json,
    subsE o xs = xs.map fun x y q => diffNode o false x y q
  | [] => rfl
  | x :: r => by
    rw [subsE, List.map_cons, subsE_eq o r]
    exact congrArg (· :: _) (funext fun y => funext fun q => diffE_eq o false x y q)
termination_by structural xs => xs
theorem diffKvsE_eq (o : Opts) (merge : Bool) (p : Path) (kvs' : List (String × Json)) :
    ∀ kvs, diffKvsE o merge p kvs' kvs = diffKvs o merge p kvs' kvs
  | [] => by rw [diffKvs, diffKvsE]
  | (k, v) :: r => by
    rw [diffKvs, diffKvsE, diffKvsE_eq o merge p kvs' r]
    cases alookup k kvs' <;> simp only [diffE_eq o merge v]
termination_by structural kvs => kvs
theorem diffSetElemsE_eq (o : Opts) (merge : Bool) (p : Path) (ys : List Json) :
    ∀ xs, diffSetElemsE o merge p ys xs = diffSetElems o merge p ys xs
  | [] => by rw [diffSetElems, diffSetElemsE]
  | x :: r => by
    rw [diffSetElems, diffSetElemsE, diffSetElemsE_eq o merge p ys r]
    cases identLookup o (identOf o x) ys with
    | none => rfl
    | some y => cases x <;> cases y <;> simp only [diffE_eq o merge]
termination_by structural xs => xs
end

/-- `a.Diff(b)` evaluates through the twin -/
theorem diffM_eq_diffE (o : Opts) (a b : Json) : diffM o a b = diffE o (isMerge o) a b [] :=
  (diffE_eq o _ a b []).symm

/-! ### equality of concrete diffs as a Boolean -/

def PathElem.eqb : PathElem → PathElem → Bool
  | .key k, .key k' => k == k'
  | .idx i, .idx i' => i == i'
  | .set, .set => true
  | .mset, .mset => true
  | .setKeys o, .setKeys o' => eqbKvs o o'
  | .msetKeys o, .msetKeys o' => eqbKvs o o'
  | _, _ => false

theorem PathElem.eq_of_eqb {e e' : PathElem} (h : e.eqb e' = true) : e = e' := by
  cases e <;> cases e' <;> simp only [PathElem.eqb, beq_iff_eq, Bool.false_eq_true] at h <;>
    first | rfl | rw [h] | rw [eq_of_eqbKvs h]

/-- lists compared element by element with `f` -/
def eqbBy {α} (f : α → α → Bool) : List α → List α → Bool
  | [], [] => true
  | x :: r, y :: s => f x y && eqbBy f r s
  | _, _ => false

theorem eq_of_eqbBy {α} {f : α → α → Bool} (hf : ∀ {x y}, f x y = true → x = y) :
    ∀ {l l' : List α}, eqbBy f l l' = true → l = l'
  | [], [], _ => rfl
  | x :: r, y :: s, h => by
    simp only [eqbBy, Bool.and_eq_true] at h
    rw [hf h.1, eq_of_eqbBy hf h.2]
  | [], _ :: _, h | _ :: _, [], h => by simp [eqbBy] at h

def Hunk.eqb (h h' : Hunk) : Bool :=
  h.merge == h'.merge && eqbBy PathElem.eqb h.path h'.path && eqbList h.before h'.before &&
    eqbList h.remove h'.remove && eqbList h.add h'.add && eqbList h.after h'.after

theorem Hunk.eq_of_eqb {h h' : Hunk} (e : h.eqb h' = true) : h = h' := by
  obtain ⟨m, p, b, r, a, af⟩ := h
  obtain ⟨m', p', b', r', a', af'⟩ := h'
  simp only [Hunk.eqb, Bool.and_eq_true, beq_iff_eq] at e
  obtain ⟨⟨⟨⟨⟨e1, e2⟩, e3⟩, e4⟩, e5⟩, e6⟩ := e
  rw [e1, eq_of_eqbBy PathElem.eq_of_eqb e2, eq_of_eqbList e3, eq_of_eqbList e4, eq_of_eqbList e5,
    eq_of_eqbList e6]

/-- **a concrete diff by ONE evaluation**: the twin is run and the result compared with `d` -/
theorem diffM_of_eqb {o : Opts} {a b : Json} {d : Diff}
    (h : eqbBy Hunk.eqb (diffE o (isMerge o) a b []) d = true) : diffM o a b = d :=
  (diffM_eq_diffE o a b).trans (eq_of_eqbBy Hunk.eq_of_eqb h)

theorem diffNode_of_eqb {o : Opts} {m : Bool} {a b : Json} {p : Path} {d : Diff}
    (h : eqbBy Hunk.eqb (diffE o m a b p) d = true) : diffNode o m a b p = d :=
  (diffE_eq o m a b p).symm.trans (eq_of_eqbBy Hunk.eq_of_eqb h)

/-- a concrete diff is not empty: one evaluation -/
theorem diffM_ne_nil_of_eval {o : Opts} {a b : Json}
    (h : (diffE o (isMerge o) a b []).isEmpty = false) : diffM o a b ≠ [] := fun e => by
  rw [diffM_eq_diffE] at e
  rw [e] at h
  cases h

/-! ### applying a concrete diff -/

/-- `patchAll` through the structural twins of `patchNode` -/
def patchAllE (sw : Bool) (n : Json) : Diff → Outcome Json
  | [] => .ok n
  | h :: d =>
    match (if h.merge then patchMg h.before h.remove h.add h.after h.path n
           else patchS sw h.before h.remove h.add h.after h.path n) with
    | .ok n' => patchAllE sw n' d
    | .err => .err
    | .panic => .panic

theorem patchAll_eq_E (sw : Bool) : ∀ (d : Diff) (n : Json), patchAll sw n d = patchAllE sw n d
  | [], _ => rfl
  | h :: d, n => by
    rw [patchAll, patchAllE]
    cases hm : h.merge
    · rw [patchNode_strict]
      simp only [Bool.false_eq_true, if_false, patchAll_eq_E sw d]; rfl
    · rw [patchNode_merge_eq]
      simp only [if_true, patchAll_eq_E sw d]; rfl

def Outcome.eqbJ : Outcome Json → Outcome Json → Bool
  | .ok v, .ok v' => v.eqb v'
  | .err, .err => true
  | .panic, .panic => true
  | _, _ => false

theorem Outcome.eq_of_eqbJ : ∀ {x y : Outcome Json}, Outcome.eqbJ x y = true → x = y
  | .ok _, .ok _, h => by rw [Json.eq_of_eqb h]
  | .err, .err, _ | .panic, .panic, _ => rfl
  | .ok _, .err, h | .ok _, .panic, h | .err, .ok _, h | .err, .panic, h | .panic, .ok _, h
  | .panic, .err, h => by cases h

/-- **a concrete patch run by ONE evaluation**, for both variants of the patch code -/
theorem patchAll_of_eqb {n : Json} {d : Diff} {r : Outcome Json}
    (h : (Outcome.eqbJ (patchAllE true n d) r && Outcome.eqbJ (patchAllE false n d) r) = true)
    (sw : Bool) : patchAll sw n d = r := by
  rw [patchAll_eq_E]
  simp only [Bool.and_eq_true] at h
  cases sw
  · exact Outcome.eq_of_eqbJ h.2
  · exact Outcome.eq_of_eqbJ h.1

/-- **`RenderMerge` of a concrete diff by ONE evaluation** (for `renderMergeDoc (diffM o a b)`
    rewrite with `diffM_eq_diffE` first) -/
theorem renderMergeDoc_of_eqb {d : Diff} {r : Outcome Json}
    (h : Outcome.eqbJ
      (if d.isEmpty then .ok (.obj [])
       else if d.any (fun h => !h.merge) then .err
       else patchAllE true .void
         (d.map fun h => { h with add := h.add.map fun v => if v.isVoid then .null else v })) r
      = true) : renderMergeDoc d = r := by
  unfold renderMergeDoc
  rw [patchAll_eq_E]
  exact Outcome.eq_of_eqbJ h

end Jd

namespace Jd.V1
open Jd

/-! ### the v1 diff -/

mutual
def diffNodeE (m : Metas) (merge : Bool) : Json → Json → List Json → VDiff
  | .arr t xs, b, p =>
    let b' := if t == .raw then dispatch m b else b
    match effTag m t with
    | .set =>
      match b' with
      | .arr .set ys =>
        if merge && !(equals m (.arr .set xs) (.arr .set ys)) then
          [{ path := prependMerge p, new := (Json.arr .set ys).nodeList }]
        else
          let parts := ksort (diffSetElemsE m merge p ys xs)
          let subs := parts.flatMap (fun kp => match kp.2 with | .sub d => d | .removed _ => [])
          let rem := parts.filterMap (fun kp => match kp.2 with | .removed x => some x | .sub _ => none)
          let xIds := xs.map (identOf m)
          let addIds := hsort (hdedup ((ys.map (identOf m)).filter (fun h => !xIds.contains h)))
          let add := addIds.filterMap (fun h => identLookup m h ys)
          subs ++ (if rem.isEmpty && add.isEmpty then []
                   else [{ path := appendIndex p [] m, old := rem, new := add }])
      | _ =>
        if merge then [{ path := prependMerge p, new := [b'] }]
        else [{ path := p, old := (Json.arr .raw xs).nodeList, new := b'.nodeList }]
    | .mset =>
      match b' with
      | .arr .mset ys =>
        if merge && !(equals m (.arr .mset xs) (.arr .mset ys)) then
          [{ path := prependMerge p, new := (Json.arr .mset ys).nodeList }]
        else
          let xh := hashList m xs
          let yh := hashList m ys
          let rem := (hsort (hdedup xh)).flatMap (fun h =>
            match hashLookup m h xs with
            | some v => List.replicate (countOcc h xh - countOcc h yh) v
            | none => [])
          let add := (hsort (hdedup yh)).flatMap (fun h =>
            match hashLookup m h ys with
            | some v => List.replicate (countOcc h yh - countOcc h xh) v
            | none => [])
          if rem.isEmpty && add.isEmpty then []
          else [{ path := appendIndex p [] m, old := rem, new := add }]
      | _ =>
        if merge then [{ path := prependMerge p, new := [b'] }]
        else [{ path := p, old := (Json.arr .raw xs).nodeList, new := b'.nodeList }]
    | _ =>
      match b' with
      | .arr .list ys =>
        if merge && !(equals m (.arr .list xs) (.arr .list ys)) then
          -- merge patches do not recurse into lists
          [{ path := prependMerge p, new := (Json.arr .list ys).nodeList }]
        else
          -- positional loop; ascending when the list grows, descending otherwise
          let subs := diffElemsE m merge p 0 ys xs
          if xs.length < ys.length then
            subs.flatten ++ (ys.drop xs.length).map (fun y =>
              { path := p ++ [numNeg1], old := [], new := y.nodeList })
          else
            ((xs.drop ys.length).zipIdx ys.length).reverse.map (fun xi =>
              { path := p ++ [numOfNat xi.2], old := xi.1.nodeList, new := [] }) ++
            subs.reverse.flatten
      | _ =>
        if merge then [{ path := prependMerge p, new := [b'] }]
        else [{ path := p, old := (Json.arr .list xs).nodeList, new := b'.nodeList }]
  | .obj kvs, b, p =>
    match b with
    | .obj kvs' =>
      diffKvsE m merge p kvs' kvs ++
        (kvs'.filter (fun kv => (alookup kv.1 kvs).isNone)).map (fun kv =>
          { path := if merge then prependMerge (p ++ [.str kv.1]) else p ++ [.str kv.1],
            old := [], new := kv.2.nodeList })
    | _ =>
      if merge then [{ path := prependMerge p, new := [b] }]
      else [{ path := p, old := [Json.obj kvs], new := [b] }]
  | a, b, p => diffCommon m merge a b p
termination_by structural a _ _ => a

def diffKvsE (m : Metas) (merge : Bool) (p : List Json) (kvs' : List (String × Json)) :
    (kvs : List (String × Json)) → VDiff
  | [] => []
  | (k, v) :: r =>
    (match alookup k kvs' with
     | some v' => diffNodeE m merge v v' (p ++ [.str k])
     | none =>
       if merge then [{ path := prependMerge (p ++ [.str k]), new := [.void] }]
       else [{ path := p ++ [.str k], old := v.nodeList, new := [] }]) ++ diffKvsE m merge p kvs' r
termination_by structural kvs => kvs

def diffElemsE (m : Metas) (merge : Bool) (p : List Json) (i : Nat) (ys : List Json) :
    (xs : List Json) → List VDiff
  | [] => []
  | x :: xs' =>
    match ys with
    | [] => []
    | y :: ys' =>
      diffNodeE m merge x (dispatch m y) (p ++ [numOfNat i]) :: diffElemsE m merge p (i + 1) ys' xs'
termination_by structural xs => xs

def diffSetElemsE (m : Metas) (merge : Bool) (p : List Json) (ys : List Json) :
    (xs : List Json) → List (UInt64 × SetPart)
  | [] => []
  | x :: r =>
    let rest := diffSetElemsE m merge p ys r
    let h := identOf m x
    if (r.map (identOf m)).contains h then rest
    else
      match identLookup m h ys with
      | none => (h, .removed x) :: rest
      | some y =>
        match x, y with
        | .obj kvs, .obj _ =>
          (h, .sub (diffNodeE m merge x y (appendIndex p (pathObject m kvs) m))) :: rest
        | _, _ => rest
termination_by structural xs => xs
end

mutual
theorem diffNodeE_eq (m : Metas) (merge : Bool) : ∀ (a b : Json) (p : List Json),
    diffNodeE m merge a b p = diffNode m merge a b p
  | .arr t xs, b, p => by
    rw [diffNode.eq_def]
    simp only [diffNodeE, diffSetElemsE_eq m merge, diffElemsE_eq m merge]
    cases effTag m t <;> rfl
  | .obj kvs, b, p => by
    rw [diffNode.eq_def]
    cases b <;> simp only [diffNodeE, diffKvsE_eq m merge]
  | .void, b, p => by rw [diffNode.eq_def, diffNodeE] <;> nofun
  | .null, b, p => by rw [diffNode.eq_def, diffNodeE] <;> nofun
  | .bool _, b, p => by rw [diffNode.eq_def, diffNodeE] <;> nofun
  | .num _, b, p => by rw [diffNode.eq_def, diffNodeE] <;> nofun
  | .str _, b, p => by rw [diffNode.eq_def, diffNodeE] <;> nofun
termination_by structural a => a
theorem diffKvsE_eq (m : Metas) (merge : Bool) (p : List Json) (kvs' : List (String × Json)) :
    ∀ kvs, diffKvsE m merge p kvs' kvs = diffKvs m merge p kvs' kvs
  | [] => by rw [diffKvs, diffKvsE]
  | (k, v) :: r => by
    rw [diffKvs, diffKvsE, diffKvsE_eq m merge p kvs' r]
    cases alookup k kvs' <;> simp only [diffNodeE_eq m merge v]
termination_by structural kvs => kvs
theorem diffElemsE_eq (m : Metas) (merge : Bool) (p : List Json) : ∀ (xs : List Json) (i : Nat)
    (ys : List Json), diffElemsE m merge p i ys xs = diffElems m merge p i ys xs
  | [], _, _ => by rw [diffElems.eq_def]; rfl
  | x :: xs', i, ys => by
    rw [diffElems.eq_def]
    cases ys with
    | nil => rfl
    | cons y ys' =>
      simp only [diffElemsE, diffNodeE_eq m merge x, diffElemsE_eq m merge p xs']
termination_by structural xs => xs
theorem diffSetElemsE_eq (m : Metas) (merge : Bool) (p : List Json) (ys : List Json) :
    ∀ xs, diffSetElemsE m merge p ys xs = diffSetElems m merge p ys xs
  | [] => by rw [diffSetElems, diffSetElemsE]
  | x :: r => by
    rw [diffSetElems, diffSetElemsE, diffSetElemsE_eq m merge p ys r]
    cases identLookup m (identOf m x) ys with
    | none => rfl
    | some y => cases x <;> cases y <;> simp only [diffNodeE_eq m merge]
termination_by structural xs => xs
end

def Hunk.eqb (h h' : Hunk) : Bool :=
  eqbList h.path h'.path && eqbList h.old h'.old && eqbList h.new h'.new

theorem Hunk.eq_of_eqb {h h' : Hunk} (e : h.eqb h' = true) : h = h' := by
  obtain ⟨p, o, n⟩ := h
  obtain ⟨p', o', n'⟩ := h'
  simp only [Hunk.eqb, Bool.and_eq_true] at e
  rw [eq_of_eqbList e.1.1, eq_of_eqbList e.1.2, eq_of_eqbList e.2]

/-- **a concrete v1 diff by ONE evaluation** -/
theorem diffM_of_eqb {m : Metas} {a b : Json} {d : VDiff}
    (h : eqbBy Hunk.eqb (diffNodeE m (hasMerge m) a b []) d = true) : diffM m a b = d :=
  (diffNodeE_eq m _ a b []).symm.trans (eq_of_eqbBy Hunk.eq_of_eqb h)

end Jd.V1
