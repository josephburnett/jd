/-
  JdProofs.CliRoundTrip (namespace `Jd.CliRT`) — property C14, last sentence: "Feeding the output of
  `jd [flags] a b` to `jd -p [flags]` on a reproduces b, in jd, patch and merge formats, for JSON and
  YAML."

  `Jd.Cli.cliM b fl r` is the decision logic of `main` as a function of the flags and of the record
  `r : LibResults` of what the library calls returned.  To speak about TWO runs, the second of which
  reads the text the first one printed, the library calls are made explicit:
    `Lib N D`      the calls both `main.go` files make, as functions; no option reaches a reader or
                   `Patch`, exactly as in `printPatch`;
    `Env`          what the OS returns: the bytes of the two inputs, the result of writing `-o`;
    `resultsDiff`, `resultsPatch`, `resultsFor`   `LibResults` obtained by making exactly the calls
                   of the `Plan` (`planOf`);
    `proc Ls b fl e`  THE PROCESS = `cliM b fl (resultsFor (Ls plan.v1).lib plan fl e)`; `Ls true` is
                   the v1 library, `Ls false` the v2 library (different carrier types: `LibPack`);
    `emitted o`    the bytes that leave the program (the `-o` file if written, stdout otherwise);
    `PatchTwin fl fl2`  `fl2` is `jd -p [same flags]`, with ANY `-o` and one or two arguments;
    `LibRoundTrip L fmt color opts a b Post`   the library-level round trip for ONE pair.

  1. `parsedOptions_twin`, `libIsV1_twin`, `planOf_twin`, `plans_agree`: for every binary the two
     runs call the same library with the same option list, and both read `flag.Arg(0)` first.  The
     reader is chosen by `formatOf fl.f` in `resultsPatch`, the renderer by `formatOf fl.f` in
     `diffCore`, and `PatchTwin` has `fl2.f = fl.f`.
  2. `cli_round_trip` (`core_round_trip` for one library on `cliM`): the CLI adds nothing and loses
     nothing around the library round trip.  If the first process did not exit 2, FILE1 of the second
     run holds what the first emitted, the second input of the second run holds the first input of
     the first, writing `-o` succeeds and `LibRoundTrip` holds for what the inputs parse to, then the
     second process exits 0, writes nothing to stderr and emits exactly `renderDoc fl.yaml opts r`
     (stdout, or the file with `-o`).  All three binaries, formats, carriers; `-o` and stdin in either run.
  3. `Session.twoRuns` (§7): the total form of 2.  `Run` is the situation of one diff process for
     any library, `Session` adds the `-p` twin.  Each process is one equation: the diff process is the
     renderer of the format followed by `haveDiff` (`Run.proc_eq`), the `-p` process is the reader of
     the format, `Patch`, and the rendering of the result (`patch_run_eq`, `Session.patch_proc_eq`);
     the first error ends either.  `Calls` names the three library calls of the round trip (render,
     read, patch; `nativeLib_calls` from the model): once they succeed the first process does not
     fail and `CliRTM.TwoRuns` describes both.  Every end-to-end theorem (here, in
     JdProofs.CliRoundTripModes*, CliRoundTripMergeSet, CliRoundTripV1) is `Session.twoRuns` on the
     library theorem of its mode.
     `native_cli_round_trip`: end to end for the model of the v2 library (`nativeLib nc Y`; about the
     YAML carrier `Y` nothing is assumed), native format, list reading, no `-color`, any `-precision`:
     the library calls succeed by `Jd.E2E.diff_print_read_patch`, whose document hypotheses are
     justified in JdProofs/NativeEndToEnd.lean.
     `(jsonM nc r).getD ""`: `Json()` has no error result in Go; the model's `none` (a number
     `json.Marshal` cannot print: a Go panic, which `cliM` does not represent) is mapped to "".
  4. `ColorWitness.color_breaks_round_trip`, `color_no_libRoundTrip`: with `-color` (which is in the
     flag set of the property) the round trip FAILS: `jd -color a.json b.json` on `{"a":"ab"}`,
     `{"a":"ac"}` exits 1; `jd -p -color T a.json` — same flags, library, option list and reader —
     exits 2, because `ReadDiffString` rejects the ANSI escapes (`c_read`).  The two runs are
     consistent; `-color` output is not input for `jd -p`.  Confirmed on /repo/v2/jd: exit 1, then
     exit 2 with "invalid diff at line 2".  README says only "-color  Print color diff."

  Non-vacuity: `Toy` (all hypotheses of `cli_round_trip` on a toy library) and
  `NativeExample.ex_cli_end_to_end` (`native_cli_round_trip` on two concrete JSON files, codec
  `exCodec`, only `FloatLaws` left).  The other formats and readings: JdProofs.CliRoundTripModes,
  CliRoundTripModesPatch, CliRoundTripMergeSet; the v1 library: JdProofs.CliRoundTripV1.
-/
import JdModel
import JdSpec
import JdProofs.CliProofs
import JdProofs.NativeEndToEnd
import JdProofs.JsonTextRoundTrip

namespace Jd.CliRT
open Jd Jd.Cli

/-! ## 1. the library as the CLI sees it, and the harness instantiation of `LibResults` -/

/-- the library calls `main` makes (both `main.go` files, v1 and v2 library alike), as functions.
    `N` = documents (`JsonNode`), `D` = diffs (`Diff`). -/
structure Lib (N D : Type) where
  /-- `ReadJsonString` (false) / `ReadYamlString` (true) -/
  readDoc     : Bool → String → Except String N
  /-- `a.Diff(b, options…)` -/
  diff        : List Opt → N → N → D
  /-- `len(diff)` -/
  diffLen     : D → Nat
  /-- `diff.Render()` (false) / `diff.Render(COLOR)` (true) -/
  renderJd    : Bool → D → String
  renderPatch : D → Except String String
  renderMerge : D → Except String String
  /-- `ReadDiffString` / `ReadPatchString` / `ReadMergeString` (no option is handed to a reader) -/
  readDiff    : Format → String → Except String D
  /-- `a.Patch(diff)` -/
  patch       : N → D → Except String N
  /-- `n.Json(options…)` (false) / `n.Yaml(options…)` (true) -/
  renderDoc   : Bool → List Opt → N → String

/-- a library with its carrier types (the v1 and the v2 library have different ones) -/
structure LibPack where
  N : Type
  D : Type
  lib : Lib N D

/-- what the operating system returns: the bytes of the first and the second input (`flag.Arg(0)`;
    `flag.Arg(1)` or stdin) and the result of writing the `-o` file -/
structure Env where
  in1   : Except String String
  in2   : Except String String
  write : Except String Unit := .ok ()

def forget {α} : Except String α → Except String Unit
  | .ok _ => .ok ()
  | .error e => .error e

def andThen {α β} : Except String α → (α → Except String β) → Except String β
  | .ok a, f => f a
  | .error e, _ => .error e

@[simp] theorem forget_ok {α} (a : α) : forget (.ok a : Except String α) = .ok () := rfl
@[simp] theorem forget_error {α} (e : String) : forget (.error e : Except String α) = .error e := rfl
@[simp] theorem andThen_ok {α β} (a : α) (f : α → Except String β) : andThen (.ok a) f = f a := rfl
@[simp] theorem andThen_error {α β} (e : String) (f : α → Except String β) :
    andThen (.error e) f = .error e := rfl

/-- the rendering of a diff in the format chosen with `-f` -/
def renderAs {N D} (L : Lib N D) (fmt : Format) (color : Bool) (d : D) : Except String String :=
  match fmt with
  | .jd => .ok (L.renderJd color d)
  | .patch => L.renderPatch d
  | .merge => L.renderMerge d

/-- `LibResults` of a DIFF run, obtained by making the calls of the plan: both inputs are parsed with
    the reader for `-yaml`, the diff is taken with the option list of the plan and rendered (jd
    format: with COLOR when the plan says so). -/
def resultsDiff {N D} (L : Lib N D) (opts : List Opt) (color : Bool) (fl : Flags) (e : Env) :
    LibResults :=
  let a := andThen e.in1 (L.readDoc fl.yaml)
  let b := andThen e.in2 (L.readDoc fl.yaml)
  let d : Except String D := andThen a (fun a => andThen b (fun b => .ok (L.diff opts a b)))
  { file1 := forget e.in1, file2 := forget e.in2,
    parse1 := forget a, parse2 := forget b,
    diffLen := match d with | .ok d => L.diffLen d | .error _ => 0,
    renderJd := match d with | .ok d => L.renderJd color d | .error _ => "",
    renderPatch := andThen d L.renderPatch,
    renderMerge := andThen d L.renderMerge,
    write := e.write }

/-- `LibResults` of a PATCH run: the FIRST input is read as a diff with the reader for `-f`, the
    SECOND input is parsed with the reader for `-yaml`, the diff is applied to it and the result is
    rendered with `Json(options…)` / `Yaml(options…)` for the option list of the plan. -/
def resultsPatch {N D} (L : Lib N D) (opts : List Opt) (fl : Flags) (e : Env) : LibResults :=
  let d : Except String D :=
    match formatOf fl.f with
    | some fmt => andThen e.in1 (L.readDiff fmt)
    | none => uncomputed
  let a := andThen e.in2 (L.readDoc fl.yaml)
  let r := andThen d (fun d => andThen a (fun a => L.patch a d))
  { file1 := forget e.in1, file2 := forget e.in2,
    readDiff := forget d, parse2 := forget a, patch := forget r,
    patched := match r with | .ok r => L.renderDoc fl.yaml opts r | .error _ => "",
    write := e.write }

/-- the harness: `LibResults` for a plan (the translate and git-driver plans are not needed here) -/
def resultsFor {N D} (L : Lib N D) (p : Plan) (fl : Flags) (e : Env) : LibResults :=
  if p.mode = "diff" then resultsDiff L p.opts p.color fl e
  else if p.mode = "patch" then resultsPatch L p.opts fl e
  else {}

/-- THE PROCESS: the CLI decision model run on what the library selected by the plan (`Ls true` =
    the v1 library, `Ls false` = the v2 library) returns for the calls of the plan. -/
def proc (Ls : Bool → LibPack) (b : Binary) (fl : Flags) (e : Env) : Cli.Outcome :=
  match planOf b fl with
  | some p => cliM b fl (resultsFor (Ls p.v1).lib p fl e)
  | none => cliM b fl {}

/-- the bytes that leave the program: the `-o` file when one is written, stdout otherwise -/
def emitted (o : Cli.Outcome) : String :=
  match o.outfile with
  | some s => s
  | none => o.stdout

/-! ## 2. the two command lines -/

/-- `fl2` is `jd -p [the same flags]` for the diff command line `fl`: `-p` set, the flags that
    select library, options, format and carrier are the same; `-o` is free; one or two arguments. -/
structure PatchTwin (fl fl2 : Flags) : Prop where
  version   : fl2.version = false
  port      : fl2.port = 0
  git       : fl2.gitDiffDriver = false
  p         : fl2.p = true
  t         : fl2.t = ""
  f         : fl2.f = fl.f
  set       : fl2.set = fl.set
  mset      : fl2.mset = fl.mset
  setkeys   : fl2.setkeys = fl.setkeys
  precision : fl2.precision = fl.precision
  yaml      : fl2.yaml = fl.yaml
  color     : fl2.color = fl.color
  v2        : fl2.v2 = fl.v2
  nargs     : fl2.nargs = 1 ∨ fl2.nargs = 2

/-- the canonical twin: the same command line with `-p`, any `-o`, one or two arguments -/
theorem patchTwin_with {fl : Flags} (hm : isDiffMode fl) (o2 : String) (n2 : Nat)
    (hn : n2 = 1 ∨ n2 = 2) : PatchTwin fl { fl with p := true, o := o2, nargs := n2 } :=
  ⟨hm.1, hm.2.1, hm.2.2.1, rfl, hm.2.2.2.2, rfl, rfl, rfl, rfl, rfl, rfl, rfl, rfl, hn⟩

theorem optionsOf_twin {fl fl2 : Flags} (h : PatchTwin fl fl2) : optionsOf fl2 = optionsOf fl := by
  unfold optionsOf
  rw [h.precision, h.set, h.mset, h.setkeys, h.f]

/-- **same option list**: the `-p` run computes the option list of the diff run -/
theorem parsedOptions_twin (b : Binary) {fl fl2 : Flags} (h : PatchTwin fl fl2) :
    parsedOptions b fl2 = parsedOptions b fl := by
  rw [parsedOptions_same, parsedOptions_same, optionsOf_twin h]

/-- **same library** -/
theorem libIsV1_twin (b : Binary) {fl fl2 : Flags} (h : PatchTwin fl fl2) :
    libIsV1 b fl2 = libIsV1 b fl := by
  cases b <;> simp [libIsV1, h.v2]

theorem modeOf_diff {fl : Flags} (hm : isDiffMode fl) : modeOf fl = .diff := by
  obtain ⟨_, _, _, hp, ht⟩ := hm
  simp [modeOf, hp, ht]

theorem modeOf_twin {fl fl2 : Flags} (h : PatchTwin fl fl2) : modeOf fl2 = .patch := by
  simp [modeOf, h.p, h.t]

theorem inputsOf_of_nargs {fl : Flags} (ht : fl.t = "") (hn : fl.nargs = 1 ∨ fl.nargs = 2) :
    inputsOf fl = .ok [.arg 0, if fl.nargs = 1 then .stdin else .arg 1] := by
  have hmode : modeOf fl = .diff ∨ modeOf fl = .patch := by
    unfold modeOf; simp only [ht]; cases fl.p <;> simp
  unfold inputsOf
  rcases hn with hn | hn <;> rcases hmode with hmo | hmo <;> rw [hmo, hn] <;> rfl

/-- THE SITUATION of one diff process, for any library: `fl` is a diff command line
    (`jd [flags] FILE1 [FILE2]`) whose library is `L`, both inputs are read and parse (with the reader
    for `-yaml`) to `a` and `b'`, and writing the `-o` file (if one is asked for) succeeds. -/
structure Run {N D} (L : Lib N D) (Ls : Bool → LibPack) (b : Binary) (fl : Flags) (e : Env)
    (a b' : N) : Prop where
  lib   : Ls (libIsV1 b fl) = ⟨N, D, L⟩
  mode  : isDiffMode fl
  nargs : fl.nargs = 1 ∨ fl.nargs = 2
  read1 : ∃ ta, e.in1 = .ok ta ∧ L.readDoc fl.yaml ta = .ok a
  read2 : ∃ tb, e.in2 = .ok tb ∧ L.readDoc fl.yaml tb = .ok b'
  write : fl.o = "" ∨ e.write = .ok ()

/-- THE SITUATION of the round trip: `Run` for the diff process, and a second process `jd -p [same
    flags]` whose first input holds what the first process emitted, whose second input is the first
    input of the first process, and whose `-o` file (if any) can be written. -/
structure Session {N D} (L : Lib N D) (Ls : Bool → LibPack) (b : Binary) (fl fl2 : Flags)
    (e1 e2 : Env) (a b' : N) : Prop extends Run L Ls b fl e1 a b' where
  twin   : PatchTwin fl fl2
  in1    : e2.in1 = .ok (emitted (proc Ls b fl e1))
  in2    : e2.in2 = e1.in1
  write2 : fl2.o = "" ∨ e2.write = .ok ()

/-! ## 3. the plans of the two runs -/

theorem planOf_diff_ok (b : Binary) {fl : Flags} (hm : isDiffMode fl) {opts : List Opt}
    (ho : parsedOptions b fl = .ok opts) (hn : fl.nargs = 1 ∨ fl.nargs = 2) :
    planOf b fl = some ⟨"diff", libIsV1 b fl, opts, fl.color,
        [.arg 0, if fl.nargs = 1 then .stdin else .arg 1]⟩ := by
  have hmode := modeOf_diff hm
  obtain ⟨hv, hp, hg, hpp, ht⟩ := hm
  simp [planOf, hv, hp, ho, hg, hpp, inputsOf_of_nargs ht hn, hmode]

/-- in diff mode either no plan exists, and then the run exits 2 whatever the library returns, or
    the plan is the "diff" plan with the parsed option list -/
theorem planOf_diff (b : Binary) {fl : Flags} (hm : isDiffMode fl) :
    (planOf b fl = none ∧ ∀ r, (cliM b fl r).exit = 2) ∨
    (∃ opts, parsedOptions b fl = .ok opts ∧ (fl.nargs = 1 ∨ fl.nargs = 2) ∧
      planOf b fl = some ⟨"diff", libIsV1 b fl, opts, fl.color,
        [.arg 0, if fl.nargs = 1 then .stdin else .arg 1]⟩) := by
  have hmode := modeOf_diff hm
  obtain ⟨hv, hp, hg, hpp, ht⟩ := hm
  cases ho : parsedOptions b fl with
  | error e =>
    left
    refine ⟨by simp [planOf, hv, hp, ho], fun r => ?_⟩
    simp [cliM, run_diff_eq b r ⟨hv, hp, hg, hpp, ht⟩, ho, bind, Except.bind, outcomeOf]
  | ok opts =>
    by_cases hn : fl.nargs = 1 ∨ fl.nargs = 2
    · exact .inr ⟨opts, rfl, hn, planOf_diff_ok b ⟨hv, hp, hg, hpp, ht⟩ ho hn⟩
    · left
      have hi : inputsOf fl = .error .usage := by
        unfold inputsOf
        rw [hmode]
        split <;> first | rfl | (exfalso; simp_all)
      refine ⟨by simp [planOf, hv, hp, ho, hg, hpp, hi], fun r => ?_⟩
      simp [cliM, run_diff_eq b r ⟨hv, hp, hg, hpp, ht⟩, ho, hi, bind, Except.bind, outcomeOf]

/-- the plan of the `-p` twin: mode "patch", the diff is ALWAYS the first positional argument, the
    document to patch the second one or stdin -/
theorem planOf_twin (b : Binary) {fl fl2 : Flags} (h : PatchTwin fl fl2) {opts : List Opt}
    (ho : parsedOptions b fl = .ok opts) :
    planOf b fl2 = some ⟨"patch", libIsV1 b fl, opts, fl.color,
      [.arg 0, if fl2.nargs = 1 then .stdin else .arg 1]⟩ := by
  have ho2 : parsedOptions b fl2 = .ok opts := by rw [parsedOptions_twin b h, ho]
  simp [planOf, h.version, h.port, ho2, h.git, h.t, inputsOf_of_nargs h.t h.nargs, modeOf_twin h,
    libIsV1_twin b h, h.color]

/-- **the two runs call the same library with the same option list** (and both read the first
    positional argument first: the document `a` in the diff run, the diff text in the `-p` run) -/
theorem plans_agree (b : Binary) {fl fl2 : Flags} (hm : isDiffMode fl) (h : PatchTwin fl fl2)
    {p1 : Plan} (h1 : planOf b fl = some p1) :
    ∃ p2, planOf b fl2 = some p2 ∧ p1.mode = "diff" ∧ p2.mode = "patch" ∧ p2.v1 = p1.v1 ∧
      p2.opts = p1.opts ∧ p2.color = p1.color ∧ parsedOptions b fl = .ok p1.opts ∧
      parsedOptions b fl2 = .ok p1.opts ∧ p1.srcs.head? = some (.arg 0) ∧
      p2.srcs.head? = some (.arg 0) := by
  rcases planOf_diff b hm with ⟨hn, _⟩ | ⟨opts, ho, _, hp⟩
  · rw [hn] at h1; cases h1
  · rw [hp] at h1
    cases h1
    exact ⟨_, planOf_twin b h ho, rfl, rfl, rfl, rfl, rfl, ho, by rw [parsedOptions_twin b h, ho],
      rfl, rfl⟩

/-- `proc` in diff mode, once the option list is known -/
theorem proc_diff (Ls : Bool → LibPack) (b : Binary) {fl : Flags} (e : Env) {opts : List Opt}
    (hp : planOf b fl = some ⟨"diff", libIsV1 b fl, opts, fl.color,
        [.arg 0, if fl.nargs = 1 then .stdin else .arg 1]⟩) :
    proc Ls b fl e = cliM b fl (resultsDiff (Ls (libIsV1 b fl)).lib opts fl.color fl e) := by
  simp [proc, hp, resultsFor]

theorem proc_twin (Ls : Bool → LibPack) (b : Binary) {fl fl2 : Flags} (e : Env) {opts : List Opt}
    (h : PatchTwin fl fl2) (ho : parsedOptions b fl = .ok opts) :
    proc Ls b fl2 e = cliM b fl2 (resultsPatch (Ls (libIsV1 b fl)).lib opts fl2 e) := by
  simp [proc, planOf_twin b h ho, resultsFor]

/-! ## 4. the two runs on `LibResults` -/

/-- without `-o`, or when writing the file succeeds, the output is delivered -/
theorem deliver_ok {fl : Flags} {r : LibResults} (hw : fl.o = "" ∨ r.write = .ok ()) (c : Nat)
    (s : String) : deliver fl r c s = .ok ⟨c, s, fl.o != ""⟩ := by
  unfold deliver
  by_cases hoo : fl.o = ""
  · simp [hoo]
  · simp [hoo, hw.resolve_left hoo]

theorem outcome_emit (b : Binary) (c : Nat) (s o : String) :
    (outcomeOf b (.ok ⟨c, s, o != ""⟩)).exit = c ∧ emitted (outcomeOf b (.ok ⟨c, s, o != ""⟩)) = s ∧
    (outcomeOf b (.ok ⟨c, s, o != ""⟩)).stderr = "" ∧
    (o = "" → (outcomeOf b (.ok ⟨c, s, o != ""⟩)).stdout = s ∧
      (outcomeOf b (.ok ⟨c, s, o != ""⟩)).outfile = none) ∧
    (o ≠ "" → (outcomeOf b (.ok ⟨c, s, o != ""⟩)).stdout = "" ∧
      (outcomeOf b (.ok ⟨c, s, o != ""⟩)).outfile = some s) := by
  by_cases h : o = "" <;> simp [outcomeOf, emitted, h]

/-- **the `-p` process on a library**: once the first input is read and the second input is read and
    parsed, the run is the diff reader of the format, then `Patch`, then the rendering of the patched
    document, with exit status 0; the first error ends it -/
theorem patch_run_eq {N D} (L : Lib N D) (b : Binary) {fl fl2 : Flags} {e2 : Env}
    {opts : List Opt} {fmt : Format} (h : PatchTwin fl fl2) (ho : parsedOptions b fl = .ok opts)
    (hf : formatOf fl.f = some fmt) {T ta : String} {a : N}
    (hT : e2.in1 = .ok T) (ha : e2.in2 = .ok ta) (hra : L.readDoc fl.yaml ta = .ok a)
    (hw : fl2.o = "" ∨ e2.write = .ok ()) :
    cliM b fl2 (resultsPatch L opts fl2 e2) = outcomeOf b
      (match L.readDiff fmt T with
       | .error m => .error (.msg m)
       | .ok d' =>
         match L.patch a d' with
         | .error m => .error (.msg m)
         | .ok r => .ok ⟨0, L.renderDoc fl.yaml opts r, fl2.o != ""⟩) := by
  have hf2 : formatOf fl2.f = some fmt := by rw [h.f, hf]
  have ho2 : parsedOptions b fl2 = .ok opts := by rw [parsedOptions_twin b h, ho]
  unfold cliM
  rw [run_patch_eq b _ h.version h.port h.git h.p h.t, ho2, inputsOf_of_nargs h.t h.nargs]
  cases hrd : L.readDiff fmt T with
  | error m =>
    simp [bind, Except.bind, readInputs, patchCore, resultsPatch, hf2, hT, ha, h.yaml, hra, hrd]
  | ok d' =>
    cases hpa : L.patch a d' <;>
      simp [bind, Except.bind, readInputs, patchCore, resultsPatch, hf2, hT, ha, h.yaml, hra, hrd, hpa,
        deliver_ok, hw]

/-- the library-level round trip, for one pair of documents: whatever text `T` the diff of `a` and `b`
    renders to in the format `fmt`, the reader of that format accepts `T`, the diff read applies to
    `a`, and the result satisfies `Post` (in the instances: it `Equals` `b`).  This is the shape of
    `Jd.E2E.diff_render_read_patch` (native), `Jd.NMP.readPatchOps_render_patch` + `Jd.PRC` (JSON
    Patch) and `Jd.Merge.merge_render_correct` + `merge_read_apply_iff` (merge patch). -/
def LibRoundTrip {N D} (L : Lib N D) (fmt : Format) (color : Bool) (opts : List Opt) (a b : N)
    (Post : N → Prop) : Prop :=
  ∀ T, renderAs L fmt color (L.diff opts a b) = .ok T →
    ∃ d' r, L.readDiff fmt T = .ok d' ∧ L.patch a d' = .ok r ∧ Post r

/-- the three library calls of the round trip succeed: the diff of `a` and `b` renders to `T` in the
    format `fmt`, the reader of that format reads `T` as `d'`, and `d'` applies to `a` with result `r` -/
structure Calls {N D} (L : Lib N D) (fmt : Format) (color : Bool) (opts : List Opt) (a b : N)
    (T : String) (d' : D) (r : N) : Prop where
  render : renderAs L fmt color (L.diff opts a b) = .ok T
  read : L.readDiff fmt T = .ok d'
  patch : L.patch a d' = .ok r

/-- the rendering is a function of the diff -/
theorem Calls.libRoundTrip {N D} {L : Lib N D} {fmt : Format} {color : Bool} {opts : List Opt}
    {a b : N} {T : String} {d' : D} {r : N} (C : Calls L fmt color opts a b T d' r)
    {Post : N → Prop} (hp : Post r) : LibRoundTrip L fmt color opts a b Post :=
  fun T' hT => (Except.ok.inj (C.render.symm.trans hT)) ▸ ⟨d', r, C.read, C.patch, hp⟩

/-- what a successful diff run tells about the inputs and the library calls -/
theorem diff_run_inv {N D} (L : Lib N D) {b : Binary} {fl : Flags} {e : Env} {opts : List Opt}
    (hm : isDiffMode fl)
    (hne : (cliM b fl (resultsDiff L opts fl.color fl e)).exit ≠ 2) :
    ∃ ta tb a b' fmt T, e.in1 = .ok ta ∧ e.in2 = .ok tb ∧ L.readDoc fl.yaml ta = .ok a ∧
      L.readDoc fl.yaml tb = .ok b' ∧ formatOf fl.f = some fmt ∧
      renderAs L fmt fl.color (L.diff opts a b') = .ok T ∧
      emitted (cliM b fl (resultsDiff L opts fl.color fl e)) = T ∧
      ((cliM b fl (resultsDiff L opts fl.color fl e)).exit = 0 ∨
       (cliM b fl (resultsDiff L opts fl.color fl e)).exit = 1) ∧
      (fl.o = "" → (cliM b fl (resultsDiff L opts fl.color fl e)).stdout = T) ∧
      (fl.o ≠ "" → (cliM b fl (resultsDiff L opts fl.color fl e)).outfile = some T) := by
  obtain ⟨em, he⟩ := exit_ne_two_run hne
  obtain ⟨s, hd, hdc, hdel⟩ := run_diff_mode hm he
  obtain ⟨hp1, hp2, hren, _⟩ := diffCore_ok hdc
  obtain ⟨hc, htx, htf⟩ := deliver_code hdel
  -- the inputs were read and parsed
  cases hi1 : e.in1 with
  | error x => simp [resultsDiff, hi1] at hp1
  | ok ta =>
  cases hi2 : e.in2 with
  | error x => simp [resultsDiff, hi2] at hp2
  | ok tb =>
  cases ha : L.readDoc fl.yaml ta with
  | error x => simp [resultsDiff, hi1, ha] at hp1
  | ok a =>
  cases hb : L.readDoc fl.yaml tb with
  | error x => simp [resultsDiff, hi2, hb] at hp2
  | ok b' =>
  cases hf : formatOf fl.f with
  | none => simp [libRendering, hf] at hren
  | some fmt =>
  have hT : renderAs L fmt fl.color (L.diff opts a b') = .ok s := by
    cases fmt <;> simp [libRendering, hf, resultsDiff, hi1, hi2, ha, hb, renderAs, okText] at hren ⊢
    · exact hren
    · cases hr : L.renderPatch (L.diff opts a b') with
      | error x => simp [hr] at hren
      | ok t => simpa [hr, okText] using hren
    · cases hr : L.renderMerge (L.diff opts a b') with
      | error x => simp [hr] at hren
      | ok t => simpa [hr, okText] using hren
  have hcode := run_code he
  refine ⟨ta, tb, a, b', fmt, s, rfl, rfl, ha, hb, rfl, hT, ?_⟩
  unfold cliM
  rw [he]
  obtain ⟨c, t, tf⟩ := em
  simp only at hc htx htf hcode
  subst htx htf
  obtain ⟨x1, x2, _, x4, x5⟩ := outcome_emit b c t fl.o
  exact ⟨x2, by rw [x1]; exact hcode, fun ho => (x4 ho).1, fun ho => (x5 ho).2⟩

/-! ## 5. THE CLI ROUND TRIP relative to the library round trip -/

/-- core statement for one library `L`, on `cliM` and the harness instantiation -/
theorem core_round_trip {N D} (L : Lib N D) (b : Binary) {fl fl2 : Flags} {e1 e2 : Env}
    {opts : List Opt} (hm : isDiffMode fl) (h : PatchTwin fl fl2)
    (ho : parsedOptions b fl = .ok opts)
    (hne : (cliM b fl (resultsDiff L opts fl.color fl e1)).exit ≠ 2)
    (hT : e2.in1 = .ok (emitted (cliM b fl (resultsDiff L opts fl.color fl e1))))
    (ha : e2.in2 = e1.in1) (hw : fl2.o = "" ∨ e2.write = .ok ())
    (Post : N → N → N → Prop)
    (hrt : ∀ ta tb a b' fmt, e1.in1 = .ok ta → e1.in2 = .ok tb → L.readDoc fl.yaml ta = .ok a →
      L.readDoc fl.yaml tb = .ok b' → formatOf fl.f = some fmt →
      LibRoundTrip L fmt fl.color opts a b' (Post a b')) :
    ∃ ta tb a b' fmt T d' r, e1.in1 = .ok ta ∧ e1.in2 = .ok tb ∧ L.readDoc fl.yaml ta = .ok a ∧
      L.readDoc fl.yaml tb = .ok b' ∧ formatOf fl.f = some fmt ∧
      renderAs L fmt fl.color (L.diff opts a b') = .ok T ∧
      emitted (cliM b fl (resultsDiff L opts fl.color fl e1)) = T ∧
      ((cliM b fl (resultsDiff L opts fl.color fl e1)).exit = 0 ∨
       (cliM b fl (resultsDiff L opts fl.color fl e1)).exit = 1) ∧
      L.readDiff fmt T = .ok d' ∧ L.patch a d' = .ok r ∧ Post a b' r ∧
      (cliM b fl2 (resultsPatch L opts fl2 e2)).exit = 0 ∧
      emitted (cliM b fl2 (resultsPatch L opts fl2 e2)) = L.renderDoc fl.yaml opts r ∧
      (cliM b fl2 (resultsPatch L opts fl2 e2)).stderr = "" ∧
      (fl2.o = "" → (cliM b fl2 (resultsPatch L opts fl2 e2)).stdout = L.renderDoc fl.yaml opts r ∧
        (cliM b fl2 (resultsPatch L opts fl2 e2)).outfile = none) ∧
      (fl2.o ≠ "" → (cliM b fl2 (resultsPatch L opts fl2 e2)).stdout = "" ∧
        (cliM b fl2 (resultsPatch L opts fl2 e2)).outfile = some (L.renderDoc fl.yaml opts r)) := by
  obtain ⟨ta, tb, a, b', fmt, T, hi1, hi2, hra, hrb, hf, hren, hem, hex, _, _⟩ :=
    diff_run_inv L hm hne
  obtain ⟨d', r, hrd, hpa, hpost⟩ := hrt ta tb a b' fmt hi1 hi2 hra hrb hf T hren
  have hem0 := hem
  rw [hem] at hT
  rw [hi1] at ha
  refine ⟨ta, tb, a, b', fmt, T, d', r, hi1, hi2, hra, hrb, hf, hren, hem0, hex, hrd, hpa, hpost, ?_⟩
  simp only [patch_run_eq L b h ho hf hT ha hra hw, hrd, hpa]
  exact outcome_emit b 0 (L.renderDoc fl.yaml opts r) fl2.o

/-- **C14, last sentence, on the model (`cli_round_trip`).**
    `Ls` gives the library for each value of `Plan.v1`; `fl` is a diff command line
    (`jd [flags] a b`, any `-f`, with or without `-o`, second input a file or stdin), `fl2` its `-p`
    twin (`jd -p [flags] T a`).  If the first process does not exit 2, the second process is given
    as first input the bytes the first one emitted (stdout, or the `-o` file) and as second input
    the bytes of the first input of the first run, and writing its `-o` file (if any) succeeds, and
    the library has the round-trip property for the parsed documents, THEN
      the two plans exist, name the same library and the same option list;
      the second process exits 0 with nothing on stderr, and the bytes it emits are exactly
      `Json(options…)` / `Yaml(options…)` of a document `r` with `Post a b r` — where `a`, `b` are what
      the document reader of `-yaml` made of the two inputs of the first run, and `r` is what
      `Patch` returned; the bytes are on stdout without `-o`, in the file (and nothing on stdout) with. -/
theorem cli_round_trip (Ls : Bool → LibPack) (b : Binary) {fl fl2 : Flags} {e1 e2 : Env}
    (hm : isDiffMode fl) (h : PatchTwin fl fl2)
    (hne : (proc Ls b fl e1).exit ≠ 2)
    (hT : e2.in1 = .ok (emitted (proc Ls b fl e1)))
    (ha : e2.in2 = e1.in1) (hw : fl2.o = "" ∨ e2.write = .ok ())
    (Post : (Ls (libIsV1 b fl)).N → (Ls (libIsV1 b fl)).N → (Ls (libIsV1 b fl)).N → Prop)
    (hrt : ∀ opts ta tb a b' fmt, parsedOptions b fl = .ok opts → e1.in1 = .ok ta →
      e1.in2 = .ok tb → (Ls (libIsV1 b fl)).lib.readDoc fl.yaml ta = .ok a →
      (Ls (libIsV1 b fl)).lib.readDoc fl.yaml tb = .ok b' → formatOf fl.f = some fmt →
      LibRoundTrip (Ls (libIsV1 b fl)).lib fmt fl.color opts a b' (Post a b')) :
    ∃ opts p1 p2 ta tb a b' fmt T d' r,
      planOf b fl = some p1 ∧ planOf b fl2 = some p2 ∧ p1.mode = "diff" ∧ p2.mode = "patch" ∧
      p1.v1 = libIsV1 b fl ∧ p2.v1 = libIsV1 b fl ∧ p1.opts = opts ∧ p2.opts = opts ∧
      e1.in1 = .ok ta ∧ e1.in2 = .ok tb ∧
      (Ls (libIsV1 b fl)).lib.readDoc fl.yaml ta = .ok a ∧
      (Ls (libIsV1 b fl)).lib.readDoc fl.yaml tb = .ok b' ∧ formatOf fl.f = some fmt ∧
      renderAs (Ls (libIsV1 b fl)).lib fmt fl.color ((Ls (libIsV1 b fl)).lib.diff opts a b') = .ok T ∧
      emitted (proc Ls b fl e1) = T ∧ ((proc Ls b fl e1).exit = 0 ∨ (proc Ls b fl e1).exit = 1) ∧
      (Ls (libIsV1 b fl)).lib.readDiff fmt T = .ok d' ∧
      (Ls (libIsV1 b fl)).lib.patch a d' = .ok r ∧ Post a b' r ∧
      (proc Ls b fl2 e2).exit = 0 ∧
      emitted (proc Ls b fl2 e2) = (Ls (libIsV1 b fl)).lib.renderDoc fl.yaml opts r ∧
      (proc Ls b fl2 e2).stderr = "" ∧
      (fl2.o = "" → (proc Ls b fl2 e2).stdout = (Ls (libIsV1 b fl)).lib.renderDoc fl.yaml opts r ∧
        (proc Ls b fl2 e2).outfile = none) ∧
      (fl2.o ≠ "" → (proc Ls b fl2 e2).stdout = "" ∧
        (proc Ls b fl2 e2).outfile = some ((Ls (libIsV1 b fl)).lib.renderDoc fl.yaml opts r)) := by
  rcases planOf_diff b hm with ⟨hn, h2⟩ | ⟨opts, ho, _, hp⟩
  · exact absurd (by simp only [proc, hn]; exact h2 _) hne
  · rw [proc_diff Ls b e1 hp] at hne hT ⊢
    rw [proc_twin Ls b e2 h ho]
    obtain ⟨ta, tb, a, b', fmt, T, d', r, c1, c2, c3, c4, c5, c6⟩ :=
      core_round_trip (Ls (libIsV1 b fl)).lib b hm h ho hne hT ha hw Post
        (fun ta tb a b' fmt => hrt opts ta tb a b' fmt ho)
    exact ⟨opts, _, _, ta, tb, a, b', fmt, T, d', r, hp, planOf_twin b h ho, rfl, rfl, rfl, rfl, rfl, rfl,
      c1, c2, c3, c4, c5, c6⟩

/-! ## 6. the v2 library of the model as a `Lib` -/

def ofOutcome {α} : Jd.Outcome α → Except String α
  | .ok a => .ok a
  | .err => .error "error"
  | .panic => .error "panic"

/-- renderers that return `(string, error)`; `none` (a number `json.Marshal` cannot print) is an error -/
def ofOutcomeText : Jd.Outcome (Option String) → Except String String
  | .ok (some s) => .ok s
  | .ok none => .error "json: unsupported value"
  | .err => .error "error"
  | .panic => .error "panic"

/-- the YAML carrier (`ReadYamlString`, `Yaml(options…)`): the text level of yaml.v2 is not modelled,
    so it is a parameter; nothing is assumed about it -/
structure YamlCarrier where
  read   : String → Except String Json
  render : List Opt → Json → String

/-- the v2 library functions of the model, in the shape the CLI calls them.  `Render` and `Json` have
    no error result in Go; the model's `none` (`json.Marshal` fails on a number: a panic in Go, which
    the CLI model does not represent) is mapped to the empty text and excluded by hypothesis in the
    corollary (`marshalNode … isSome`). -/
def nativeLib (nc : NumCodec) (Y : YamlCarrier) : Lib Json Diff where
  readDoc yaml s := if yaml then Y.read s else ofOutcome (readJsonM nc s)
  diff o a b := diffM o a b
  diffLen d := d.length
  renderJd color d := (renderM nc (if color then [Opt.color] else []) d).getD ""
  renderPatch d := ofOutcomeText (renderPatchM nc d)
  renderMerge d := ofOutcomeText (renderMergeM nc d)
  readDiff fmt s := ofOutcome (match fmt with
    | .jd => readDiffM nc s
    | .patch => readPatchM nc s
    | .merge => readMergeM nc s)
  patch a d := ofOutcome (patchM a d)
  renderDoc yaml o n := if yaml then Y.render o n else (jsonM nc n).getD ""

theorem nativeLib_renderJd_plain (nc : NumCodec) (Y : YamlCarrier) (d : Diff) :
    (nativeLib nc Y).renderJd false d = (renderM nc [] d).getD "" := rfl
theorem nativeLib_diff (nc : NumCodec) (Y : YamlCarrier) (o : List Opt) (a b : Json) :
    (nativeLib nc Y).diff o a b = diffM o a b := rfl
theorem nativeLib_readDiff_jd (nc : NumCodec) (Y : YamlCarrier) (s : String) :
    (nativeLib nc Y).readDiff .jd s = ofOutcome (readDiffM nc s) := rfl
theorem nativeLib_readDiff (nc : NumCodec) (Y : YamlCarrier) (fmt : Format) (s : String) :
    (nativeLib nc Y).readDiff fmt s = ofOutcome (match fmt with
      | .jd => readDiffM nc s
      | .patch => readPatchM nc s
      | .merge => readMergeM nc s) := rfl
theorem nativeLib_renderDoc_json (nc : NumCodec) (Y : YamlCarrier) (o : List Opt) (n : Json) :
    (nativeLib nc Y).renderDoc false o n = (jsonM nc n).getD "" := rfl
theorem nativeLib_readDoc (nc : NumCodec) (Y : YamlCarrier) (yaml : Bool) (s : String) :
    (nativeLib nc Y).readDoc yaml s = if yaml then Y.read s else ofOutcome (readJsonM nc s) := rfl
theorem nativeLib_readDoc_json (nc : NumCodec) (Y : YamlCarrier) (s : String) :
    (nativeLib nc Y).readDoc false s = ofOutcome (readJsonM nc s) :=
  (nativeLib_readDoc nc Y false s).trans (if_neg Bool.false_ne_true)

/-- **the three library calls of the round trip, from the model**: what `Render` / `RenderPatch` /
    `RenderMerge` returns for the diff (`Render` has no error result), what the reader of the format
    makes of the text, what `Patch` returns — as the calls of `nativeLib` that `Session.twoRuns` and
    `LibRoundTrip` speak of -/
theorem nativeLib_calls (nc : NumCodec) (Y : YamlCarrier) {fmt : Format} {color : Bool}
    {opts : List Opt} {d' : Diff} {T : String} {a b r : Json}
    (hren : (match fmt with
      | .jd => .ok (renderM nc (if color then [Opt.color] else []) (diffM opts a b))
      | .patch => renderPatchM nc (diffM opts a b)
      | .merge => renderMergeM nc (diffM opts a b)) = Jd.Outcome.ok (some T))
    (hrd : (match fmt with
      | .jd => readDiffM nc T
      | .patch => readPatchM nc T
      | .merge => readMergeM nc T) = .ok d')
    (hpa : patchM a d' = .ok r) :
    Calls (nativeLib nc Y) fmt color opts a b T d' r := by
  refine ⟨?_, ?_, congrArg ofOutcome hpa⟩
  · cases fmt
    · exact congrArg (fun x => Except.ok (x.getD "")) (Outcome.ok.inj hren)
    · exact congrArg ofOutcomeText hren
    · exact congrArg ofOutcomeText hren
  · cases fmt <;> exact (nativeLib_readDiff nc Y _ T).trans (congrArg ofOutcome hrd)

theorem ofOutcome_ok {α} {x : Jd.Outcome α} {a : α} : ofOutcome x = .ok a ↔ x = .ok a := by
  cases x <;> simp [ofOutcome]

/-- `-f` names the MERGE format only as `merge` -/
theorem not_merge_of_format {s : String} {f : Format} (h : formatOf s = some f) (hf : f ≠ .merge) :
    (s == "merge") = false := by
  by_cases hs : s = "merge"
  · subst hs; cases h; exact absurd rfl hf
  · simp [hs]

theorem not_merge_of_jd {s : String} (h : formatOf s = some .jd) : (s == "merge") = false :=
  not_merge_of_format h Format.noConfusion

/-- a file that holds the `Json()` text of a raw document of the codec's domain is read back as that
    document -/
theorem readJsonM_of_jsonM {nc : NumCodec} {v : Json} {s : String} (hp : JText.preOK nc v = true)
    (hr : v.rawDoc = true) (h : jsonM nc v = some s) : readJsonM nc s = .ok v := by
  obtain ⟨s', h1, h2⟩ := JText.readJsonM_jsonM nc v (Or.inr hp)
  rw [h] at h1
  cases h1
  rwa [Yaml.rawNorm_of_rawDoc v hr] at h2

/-- list reading (`-set`, `-mset`, `-setkeys` absent): the option list is MERGE for `-f merge`, then
    the Precision option -/
theorem parsedOptions_listReading (b : Binary) {fl : Flags} (hset : fl.set = false)
    (hmset : fl.mset = false) (hkeys : fl.setkeys = "") :
    parsedOptions b fl =
      .ok ((if fl.f == "merge" then [Opt.merge] else []) ++ [Opt.prec fl.precision]) := by
  rw [parsedOptions_same]
  simp [optionsOf, hset, hmset, hkeys]

/-- … in the native format the Precision option alone -/
theorem parsedOptions_list (b : Binary) {fl : Flags} (hset : fl.set = false)
    (hmset : fl.mset = false) (hkeys : fl.setkeys = "") (hfmt : formatOf fl.f = some .jd) :
    parsedOptions b fl = .ok [Opt.prec fl.precision] := by
  rw [parsedOptions_listReading b hset hmset hkeys, not_merge_of_jd hfmt]; rfl

end Jd.CliRT

namespace Jd.CliRTM
open Jd Jd.Spec Jd.Cli Jd.CliRT

/-! ## 7. the two runs, once the three library calls of the round trip are known to succeed -/

/-- the exit status of a diff run that does not fail, per format (`haveDiff` of `main`):
    native: the text is not empty; patch: the text is not `[]`; merge: `len(diff) > 0` -/
def firstExit {N D} (L : Lib N D) (fmt : Format) (d : D) (T : String) : Nat :=
  match fmt with
  | .jd => if T = "" then 0 else 1
  | .patch => if T = "[]" then 0 else 1
  | .merge => if L.diffLen d > 0 then 1 else 0

/-- what is concluded of the two processes `P1` (`jd [flags] a b`) and `P2` (`jd -p [flags] T a`):
    `P1` emits `T` (stdout, or the `-o` file and then nothing on stdout) with exit status `code` and
    nothing on stderr; `P2` exits 0 with nothing on stderr and emits exactly `out`. -/
structure TwoRuns (P1 P2 : Cli.Outcome) (fl fl2 : Flags) (T : String) (code : Nat) (out : String) :
    Prop where
  emit1 : emitted P1 = T
  exit1 : P1.exit = code
  err1 : P1.stderr = ""
  std1 : fl.o = "" → P1.stdout = T ∧ P1.outfile = none
  file1 : fl.o ≠ "" → P1.stdout = "" ∧ P1.outfile = some T
  exit2 : P2.exit = 0
  err2 : P2.stderr = ""
  emit2 : emitted P2 = out
  std2 : fl2.o = "" → P2.stdout = out ∧ P2.outfile = none
  file2 : fl2.o ≠ "" → P2.stdout = "" ∧ P2.outfile = some out

/-- **the diff process** in the situation `R`: the run is the renderer of the format; its text is
    emitted with exit status `firstExit`, its error ends the run -/
theorem _root_.Jd.CliRT.Run.proc_eq {N D} {L : Lib N D} {Ls : Bool → LibPack} {b : Binary}
    {fl : Flags} {e : Env} {a b' : N} (R : Run L Ls b fl e a b') {opts : List Opt} {fmt : Format}
    (ho : parsedOptions b fl = .ok opts) (hfmt : formatOf fl.f = some fmt) :
    proc Ls b fl e = outcomeOf b
      (match renderAs L fmt fl.color (L.diff opts a b') with
       | .ok T => .ok ⟨firstExit L fmt (L.diff opts a b') T, T, fl.o != ""⟩
       | .error m => .error (.msg m)) := by
  obtain ⟨ta, hi1, hra⟩ := R.read1
  obtain ⟨tb, hi2, hrb⟩ := R.read2
  have hw := R.write
  rw [proc_diff Ls b e (planOf_diff_ok b R.mode ho R.nargs), R.lib]
  unfold cliM
  rw [run_diff_eq b _ R.mode, ho, inputsOf_of_nargs R.mode.2.2.2.2 R.nargs]
  cases fmt
  · simp [bind, Except.bind, readInputs, resultsDiff, hi1, hi2, hra, hrb, diffCore, hfmt, renderAs,
      firstExit, deliver_ok, hw]
  · cases hren : L.renderPatch (L.diff opts a b') <;>
      simp [bind, Except.bind, readInputs, resultsDiff, hi1, hi2, hra, hrb, diffCore, hfmt, renderAs,
        firstExit, deliver_ok, hw, hren]
  · cases hren : L.renderMerge (L.diff opts a b') <;>
      simp [bind, Except.bind, readInputs, resultsDiff, hi1, hi2, hra, hrb, diffCore, hfmt, renderAs,
        firstExit, deliver_ok, hw, hren]

/-- **the `-p` process** in the situation `S`, the first process having emitted `T`: `patch_run_eq` -/
theorem _root_.Jd.CliRT.Session.patch_proc_eq {N D} {L : Lib N D} {Ls : Bool → LibPack} {b : Binary}
    {fl fl2 : Flags} {e1 e2 : Env} {a b' : N} (S : Session L Ls b fl fl2 e1 e2 a b')
    {opts : List Opt} {fmt : Format}
    (ho : parsedOptions b fl = .ok opts) (hfmt : formatOf fl.f = some fmt)
    {T : String} (hT : emitted (proc Ls b fl e1) = T) :
    proc Ls b fl2 e2 = outcomeOf b
      (match L.readDiff fmt T with
       | .error m => .error (.msg m)
       | .ok d' =>
         match L.patch a d' with
         | .error m => .error (.msg m)
         | .ok r => .ok ⟨0, L.renderDoc fl.yaml opts r, fl2.o != ""⟩) := by
  obtain ⟨ta, hi1, hra⟩ := S.read1
  rw [proc_twin Ls b e2 S.twin ho, S.lib]
  exact patch_run_eq L b S.twin ho hfmt (hT ▸ S.in1) (S.in2.trans hi1) hra S.write2

/-- **the two-process step**, any library: in the situation `S`, once the diff renders to `T`, the
    reader of the format reads `T` back as `d'` and `Patch` of `d'` on `a` gives `r`, the first process
    does not fail and emits `T`, the second exits 0 and emits `renderDoc r` -/
theorem _root_.Jd.CliRT.Session.twoRuns {N D} {L : Lib N D} {Ls : Bool → LibPack} {b : Binary}
    {fl fl2 : Flags} {e1 e2 : Env} {a b' : N} (S : Session L Ls b fl fl2 e1 e2 a b')
    {opts : List Opt} {fmt : Format}
    (ho : parsedOptions b fl = .ok opts) (hfmt : formatOf fl.f = some fmt)
    {T : String} {d' : D} {r : N}
    (C : Calls L fmt fl.color opts a b' T d' r) :
    TwoRuns (proc Ls b fl e1) (proc Ls b fl2 e2) fl fl2 T
      (firstExit L fmt (L.diff opts a b') T) (L.renderDoc fl.yaml opts r) := by
  have h1 := S.toRun.proc_eq ho hfmt
  rw [C.render] at h1
  obtain ⟨y1, y2, y3, y4, y5⟩ := outcome_emit b (firstExit L fmt (L.diff opts a b') T) T fl.o
  have h2 := S.patch_proc_eq ho hfmt (h1 ▸ y2)
  simp only [C.read, C.patch] at h2
  obtain ⟨x1, x2, x3, x4, x5⟩ := outcome_emit b 0 (L.renderDoc fl.yaml opts r) fl2.o
  rw [h1, h2]
  exact ⟨y2, y1, y3, y4, y5, x1, x3, x2, x4, x5⟩

end Jd.CliRTM

namespace Jd.CliRT
open Jd Jd.Cli

/-! ## 8. end to end, native format, list reading -/

open Jd.Spec Jd.DPL Jd.NativeRT Jd.E2E in
/-- **END TO END, native format, list reading, v2 library** (`native_cli_round_trip`): no library
    hypothesis left — the three library calls succeed by `Jd.E2E.diff_print_read_patch`
    (`nativeLib_calls`), and `Session.twoRuns` gives the two processes.
    `jd [-precision e] [-yaml] [-o F] a b` followed by `jd -p [same flags] [-o G] T a`:
    the first process exits 0 or 1 (1 exactly when the text is not empty) and emits the text `T` of
    `a.Diff(b)`; the second exits 0 and emits `Json()` / `Yaml()` of a document `r` that is
    structurally equal to `b` and `Equals` it. -/
theorem native_cli_round_trip (FL : FloatLaws) (nc : NumCodec) (Y : YamlCarrier)
    (Ls : Bool → LibPack) (hL : Ls false = ⟨Json, Diff, nativeLib nc Y⟩)
    (b : Binary) {fl fl2 : Flags} {e1 e2 : Env}
    (hm : isDiffMode fl) (h : PatchTwin fl fl2) (hv2 : libIsV1 b fl = false)
    (hset : fl.set = false) (hmset : fl.mset = false) (hkeys : fl.setkeys = "")
    (hfmt : formatOf fl.f = some .jd) (hcolor : fl.color = false)
    (hn : fl.nargs = 1 ∨ fl.nargs = 2)
    {ta tb : String} {a b' : Json}
    (hi1 : e1.in1 = .ok ta) (hi2 : e1.in2 = .ok tb) (hw1 : fl.o = "" ∨ e1.write = .ok ())
    (hra : (nativeLib nc Y).readDoc fl.yaml ta = .ok a)
    (hrb : (nativeLib nc Y).readDoc fl.yaml tb = .ok b')
    (ha1 : a.listDoc = true) (ha2 : a.wf = true) (ha3 : a.finiteNums = true)
    (hb1 : b'.listDoc = true) (hb2 : b'.wf = true) (hb3 : b'.finiteNums = true)
    (H : HashOK [Opt.prec fl.precision] a b') (Z : ZeroOK a b')
    (hva : voidFree a = true) (hvb : voidFree b' = true) (hlen : shortArrays b' = true)
    (hv : ∀ z ∈ subterms a ++ subterms b', (marshalNode nc z).isSome = true ∧ ValOK nc z)
    (hp : ∀ h ∈ diffM [Opt.prec fl.precision] a b',
      (jsonM nc (pathToJson h.path)).isSome = true ∧ PathOK nc h.path)
    (hT : e2.in1 = .ok (emitted (proc Ls b fl e1)))
    (ha : e2.in2 = e1.in1) (hw : fl2.o = "" ∨ e2.write = .ok ()) :
    ∃ T d' r,
      renderM nc [] (diffM [Opt.prec fl.precision] a b') = some T ∧
      emitted (proc Ls b fl e1) = T ∧
      (proc Ls b fl e1).exit = (if T = "" then 0 else 1) ∧
      (fl.o = "" → (proc Ls b fl e1).stdout = T ∧ (proc Ls b fl e1).outfile = none) ∧
      (fl.o ≠ "" → (proc Ls b fl e1).stdout = "" ∧ (proc Ls b fl e1).outfile = some T) ∧
      readDiffM nc T = .ok d' ∧ patchM a d' = .ok r ∧
      specEq r b' = true ∧ specEq b' r = true ∧ r.listDoc = true ∧
      (PrecMono [Opt.prec fl.precision] →
        equivB [Opt.prec fl.precision] r b' = true ∧ equals [Opt.prec fl.precision] r b' = true) ∧
      (proc Ls b fl2 e2).exit = 0 ∧ (proc Ls b fl2 e2).stderr = "" ∧
      emitted (proc Ls b fl2 e2) =
        (nativeLib nc Y).renderDoc fl.yaml [Opt.prec fl.precision] r ∧
      (fl2.o = "" → (proc Ls b fl2 e2).stdout =
          (nativeLib nc Y).renderDoc fl.yaml [Opt.prec fl.precision] r ∧
        (proc Ls b fl2 e2).outfile = none) ∧
      (fl2.o ≠ "" → (proc Ls b fl2 e2).stdout = "" ∧
        (proc Ls b fl2 e2).outfile =
          some ((nativeLib nc Y).renderDoc fl.yaml [Opt.prec fl.precision] r)) := by
  have ho := parsedOptions_list b hset hmset hkeys hfmt
  obtain ⟨text, d', r, g1, g2, g3, g4, g5, g6, g7⟩ :=
    diff_print_read_patch FL nc [Opt.prec fl.precision] rfl rfl a b' ha1 ha2 ha3 hb1 hb2 hb3 H Z
      hva hvb hlen hv hp
  have R := Session.twoRuns
    ⟨⟨hv2 ▸ hL, hm, hn, ⟨ta, hi1, hra⟩, ⟨tb, hi2, hrb⟩, hw1⟩, h, hT, ha, hw⟩ ho hfmt
    (nativeLib_calls nc Y (by rw [hcolor]; exact congrArg Outcome.ok g1) g2 g3)
  exact ⟨text, d', r, g1, R.emit1, R.exit1, R.std1, R.file1, g2, g3, g4, g5, g6, g7, R.exit2,
    R.err2, R.emit2, R.std2, R.file2⟩

/-! ## 9. non-vacuity -/

namespace Toy

/-- a toy library: a diff is the target document; readers and renderers are the identity -/
def toyLib : Lib String String where
  readDoc _ s := .ok s
  diff _ _ b := b
  diffLen d := d.length
  renderJd _ d := d
  renderPatch d := .ok d
  renderMerge d := .ok d
  readDiff _ s := .ok s
  patch _ d := .ok d
  renderDoc _ _ n := n

def toyLs : Bool → LibPack := fun _ => ⟨String, String, toyLib⟩

/-- `jd -f patch -o out.diff -yaml -set -color a` (second input from stdin), binary B -/
def toyFl : Flags :=
  { f := "patch", o := "out.diff", nargs := 1, yaml := true, set := true, color := true }
/-- `jd -p -f patch -yaml -set -color out.diff a` -/
def toyFl2 : Flags := { toyFl with p := true, o := "", nargs := 2 }
def toyE1 : Env := { in1 := .ok "A", in2 := .ok "B" }
def toyE2 : Env := { in1 := .ok "B", in2 := .ok "A" }

theorem toy_libRoundTrip (fmt : Format) (color : Bool) (opts : List Opt) (a b : String) :
    LibRoundTrip toyLib fmt color opts a b (fun r => r = b) := by
  intro T hT
  have : T = b := by cases fmt <;> simp [renderAs, toyLib] at hT <;> exact hT.symm
  subst this
  exact ⟨T, T, rfl, rfl, rfl⟩

/-- every hypothesis of `cli_round_trip` holds for a concrete command line (format patch, `-o` in the
    first run only, stdin in the first run only), and the conclusion is what evaluation gives -/
example : isDiffMode toyFl ∧ PatchTwin toyFl toyFl2 ∧ (proc toyLs .top toyFl toyE1).exit = 1 ∧
    (proc toyLs .top toyFl toyE1).outfile = some "B" ∧
    toyE2.in1 = .ok (emitted (proc toyLs .top toyFl toyE1)) ∧ toyE2.in2 = toyE1.in1 ∧
    (proc toyLs .top toyFl2 toyE2).exit = 0 ∧ (proc toyLs .top toyFl2 toyE2).stdout = "B" :=
  ⟨⟨rfl, rfl, rfl, rfl, rfl⟩, patchTwin_with ⟨rfl, rfl, rfl, rfl, rfl⟩ "" 2 (.inr rfl),
    by decide, by decide,
    congrArg Except.ok (by decide : "B" = emitted (proc toyLs .top toyFl toyE1)), rfl,
    by decide, by decide⟩

/-- … and `cli_round_trip` applies to it -/
example : (proc toyLs .top toyFl2 toyE2).exit = 0 := by
  obtain ⟨_, _, _, _, _, _, _, _, _, _, _, _, _, _, _, _, _, _, _, _, _, _, _, _, _, _, _,
      _, _, _, hx, _⟩ :=
    cli_round_trip toyLs .top (fl := toyFl) (fl2 := toyFl2) (e1 := toyE1) (e2 := toyE2)
      ⟨rfl, rfl, rfl, rfl, rfl⟩ (patchTwin_with ⟨rfl, rfl, rfl, rfl, rfl⟩ "" 2 (.inr rfl))
      (by decide)
      (congrArg Except.ok (by decide : "B" = emitted (proc toyLs .top toyFl toyE1))) rfl (.inl rfl)
      (fun _ b r => r = b)
      (fun opts _ _ a b fmt _ _ _ _ _ _ => toy_libRoundTrip fmt _ opts a b)
  exact hx

end Toy

namespace NativeExample
open Jd.Spec Jd.DPL Jd.NativeRT Jd.E2E Jd.E2E.Example

/-- the option list of a plain `jd a b`: the Precision option with the default +0.0 -/
def o0 : List Opt := [Opt.prec 0]
/-- the two input files -/
def taE : String := "{\"k\":[true,null,[\"x\"]]}"
def tbE : String := "{\"k\":[false,null,[\"x\",\"y\"]],\"n\":null}"

theorem read_a : readJsonM exCodec taE = .ok exA :=
  readJsonM_of_jsonM (by decide) (by decide) (by decide +kernel)

theorem read_b : readJsonM exCodec tbE = .ok exB :=
  readJsonM_of_jsonM (by decide) (by decide) (by decide +kernel)

/-! Kernel evaluations of the hash on small values. They tie the regenerated seed tables of
    JdModel/Gen/Seeds.lean to the values this block was written against: a changed or dropped seed
    breaks them, whereas the evaluated runs below would not notice. -/
theorem k1 : hashCode o0 (.bool true) = 2079635739932584740 := by decide +kernel
theorem k2 : hashCode o0 .null = 3942432649579961653 := by decide +kernel
theorem k3 : hashCode o0 (.arr .raw [.str "x"]) = 3137035804415266084 := by decide +kernel
theorem k4 : hashCode o0 (.bool false) = 13771864770451290310 := by decide +kernel
theorem k5 : hashCode o0 (.arr .raw [.str "x", .str "y"]) = 1797125989231641989 := by
  decide +kernel
theorem k6 : hashCode o0 (.str "x") = 12638214688346347271 := by decide +kernel
theorem k7 : hashCode o0 (.str "y") = 12638213588834719060 := by decide +kernel

theorem ex_diff0 : diffM o0 exA exB =
    [ { path := [.key "k", .idx 0], before := [.void], remove := [.bool true], add := [.bool false],
        after := [.null] },
      { path := [.key "k", .idx 2, .idx 1], before := [.str "x"], remove := [], add := [.str "y"],
        after := [.void] },
      { path := [.key "n"], add := [.null] } ] := diffM_of_eqb (by decide +kernel)

/-- the text `jd a.json b.json` prints -/
def exText : String :=
  unlines ["@ [\"k\",0]", "[", "- true", "+ false", "  null",
    "@ [\"k\",2,1]", "  \"x\"", "+ \"y\"", "]", "@ [\"n\"]", "+ null"]

theorem ex_text : renderM exCodec [] (diffM o0 exA exB) = some exText := by
  rw [ex_diff0]; decide +kernel

/-- the Precision option changes neither the diff of this pair nor its paths -/
theorem ex_paths0 : ∀ h ∈ diffM o0 exA exB,
    (jsonM exCodec (pathToJson h.path)).isSome = true ∧ PathOK exCodec h.path := by
  rw [ex_diff0, ← ex_diff]
  exact ex_paths

theorem ex_hash0 (L : FloatLaws) : HashOK o0 exA exB ∧ ZeroOK exA exB :=
  ⟨hashOK_of_check (by decide +kernel), (ex_hash L).2⟩

/-- `jd a.json b.json` -/
def fl1 : Flags := { nargs := 2 }
/-- `jd -p -o out.json T a.json` -/
def fl2 : Flags := { fl1 with p := true, o := "out.json" }
def noYaml : YamlCarrier := { read := fun _ => .error "no yaml", render := fun _ _ => "" }
def Ls : Bool → LibPack := fun _ => ⟨Json, Diff, nativeLib exCodec noYaml⟩
def e1 : Env := { in1 := .ok taE, in2 := .ok tbE }
/-- the second run: FILE1 holds what the first run printed, FILE2 is `a.json` -/
def e2 : Env := { in1 := .ok (emitted (proc Ls .v2jd fl1 e1)), in2 := .ok taE }

/-- **`native_cli_round_trip` on a concrete pair of files**: every hypothesis is discharged (only
    the IEEE laws `FloatLaws` remain): `jd a.json b.json` exits 1 and prints the text `T` of the
    diff, and `jd -p -o out.json T a.json` exits 0, prints nothing and writes to `out.json` the JSON
    text of a document that `Equals` `b.json`. -/
theorem ex_cli_end_to_end (L : FloatLaws) :
    ∃ T r, T = exText ∧
      (proc Ls .v2jd fl1 e1).stdout = T ∧ (proc Ls .v2jd fl1 e1).exit = 1 ∧
      specEq r exB = true ∧ equals o0 r exB = true ∧
      (proc Ls .v2jd fl2 e2).exit = 0 ∧ (proc Ls .v2jd fl2 e2).stdout = "" ∧
      (proc Ls .v2jd fl2 e2).outfile = some ((jsonM exCodec r).getD "") := by
  obtain ⟨a1, a2, a3, a4, b1, b2, b3, b4, va, vb, lb⟩ := dom
  obtain ⟨H, Z⟩ := ex_hash0 L
  have hdm : isDiffMode fl1 := ⟨rfl, rfl, rfl, rfl, rfl⟩
  obtain ⟨T, d', r, c1, c2, c3, c3a, c3b, c4, c5, c6, c7, c8, c9, c10, c11, c12, c13, c14⟩ :=
    native_cli_round_trip L exCodec noYaml Ls rfl .v2jd (fl := fl1) (fl2 := fl2) (e1 := e1)
      (e2 := e2) hdm (patchTwin_with hdm "out.json" 2 (.inr rfl)) rfl rfl rfl rfl rfl rfl
      (.inr rfl) (ta := taE) (tb := tbE) (a := exA) (b' := exB) rfl rfl (.inl rfl)
      (by rw [show fl1.yaml = false from rfl, nativeLib_readDoc_json, read_a]; rfl)
      (by rw [show fl1.yaml = false from rfl, nativeLib_readDoc_json, read_b]; rfl)
      a1 a2 a3 b1 b2 b3 H Z va vb lb ex_vals ex_paths0 rfl rfl (.inr rfl)
  have hT : T = exText := by
    have := c1.symm.trans ex_text
    exact Option.some.inj this
  subst hT
  have hstd : (proc Ls .v2jd fl1 e1).stdout = exText := (c3a rfl).1
  refine ⟨exText, r, rfl, hstd, ?_, c6, (c9 (PrecMono.of_noPrecision rfl)).2, c10,
    (c14 (by decide)).1, ?_⟩
  · rw [c3]; decide
  · rw [(c14 (by decide)).2]; rfl

end NativeExample

/-! ## 10. COUNTER-WITNESS: `-color` breaks the round trip

  `-color` is in the flag set of the property.  The diff run hands COLOR to `Render` (jd format),
  the `-p` run ignores `-color` and reads with `ReadDiffString`, which rejects the ANSI escapes.
  Option list, library and reader are the same in both runs (`plans_agree`): the CLI is consistent,
  but the text it prints with `-color` is not input for `jd -p`.  Checked on the real binary
  (v2/jd): `jd -color a b > T` exits 1, `jd -p -color T a` exits 2 "invalid diff at line 2". -/

theorem nativeLib_renderJd_color (nc : NumCodec) (Y : YamlCarrier) (d : Diff) :
    (nativeLib nc Y).renderJd true d = (renderM nc [Opt.color] d).getD "" := rfl

namespace ColorWitness
open Jd.Spec Jd.DPL Jd.NativeRT Jd.E2E Jd.E2E.Example NativeExample

def cA : Json := .obj [("a", .str "ab")]
def cB : Json := .obj [("a", .str "ac")]
def tcA : String := "{\"a\":\"ab\"}"
def tcB : String := "{\"a\":\"ac\"}"

theorem read_cA : readJsonM exCodec tcA = .ok cA :=
  readJsonM_of_jsonM (by decide) (by decide) (by decide +kernel)
theorem read_cB : readJsonM exCodec tcB = .ok cB :=
  readJsonM_of_jsonM (by decide) (by decide) (by decide +kernel)

def cDiff : Diff := [ { path := [.key "a"], remove := [.str "ab"], add := [.str "ac"] } ]

/-- the diff of the two one-member objects under any option list without MERGE -/
theorem c_diff_of (o : List Opt) (hm : isMerge o = false) : diffM o cA cB = cDiff := by
  unfold diffM cA cB
  rw [hm, diffNode_obj_obj]
  simp [diffKvs_cons, diffKvs_nil, alookup, cDiff]
  rw [diffNode_scalar _ _ _ (by simp) (by simp)]
  simp [diffCommon, equals, Json.nodeList, Json.isVoid]

theorem c_diff : diffM o0 cA cB = cDiff := c_diff_of o0 rfl

def cText : String :=
  unlines ["@ [\"a\"]", "- \"a\x1b[31mb\x1b[0m\"", "+ \"a\x1b[32mc\x1b[0m\""]

theorem c_render : renderM exCodec [Opt.color] cDiff = some cText := E2EP.CharWitness.c_render

theorem c_read : readDiffM exCodec cText = .err := E2EP.CharWitness.c_read

/-- `jd -color a.json b.json` -/
def flc : Flags := { color := true, nargs := 2 }
/-- `jd -p -color T a.json` -/
def flc2 : Flags := { flc with p := true }
def ec1 : Env := { in1 := .ok tcA, in2 := .ok tcB }
def ec2 : Env := { in1 := .ok cText, in2 := .ok tcA }

theorem flc_opts : parsedOptions .v2jd flc = .ok o0 := rfl

theorem read_doc_cA : (nativeLib exCodec noYaml).readDoc flc.yaml tcA = .ok cA := by
  rw [show flc.yaml = false from rfl, nativeLib_readDoc_json, read_cA]; rfl
theorem read_doc_cB : (nativeLib exCodec noYaml).readDoc flc.yaml tcB = .ok cB := by
  rw [show flc.yaml = false from rfl, nativeLib_readDoc_json, read_cB]; rfl

/-- **the library round trip fails with COLOR** (model of the v2 library, codec `exCodec`), whatever
    the reading: the coloured text is rejected by `ReadDiffString` -/
theorem color_no_libRoundTrip_of (o : List Opt) (hm : isMerge o = false) :
    ¬ LibRoundTrip (nativeLib exCodec noYaml) .jd true o cA cB (fun _ => True) := by
  intro h
  obtain ⟨d', r, h1, _, _⟩ := h cText (by
    simp [renderAs, nativeLib_renderJd_color, nativeLib_diff, c_diff_of o hm, c_render])
  rw [nativeLib_readDiff_jd, c_read] at h1
  cases h1

theorem color_no_libRoundTrip :
    ¬ LibRoundTrip (nativeLib exCodec noYaml) .jd true o0 cA cB (fun _ => True) :=
  color_no_libRoundTrip_of o0 rfl

/-- **WITNESS (`-color`)**: `jd -color a.json b.json` with `{"a":"ab"}` / `{"a":"ac"}` exits 1 and
    prints the coloured text; `jd -p -color T a.json` — the same flags, the same library, the same
    option list — exits 2: the round trip of C14 fails for the flag `-color`. -/
theorem color_breaks_round_trip :
    isDiffMode flc ∧ PatchTwin flc flc2 ∧
    (proc NativeExample.Ls .v2jd flc ec1).exit = 1 ∧
    (proc NativeExample.Ls .v2jd flc ec1).stdout = cText ∧
    ec2.in1 = .ok (emitted (proc NativeExample.Ls .v2jd flc ec1)) ∧ ec2.in2 = ec1.in1 ∧
    (proc NativeExample.Ls .v2jd flc2 ec2).exit = 2 := by
  have hdm : isDiffMode flc := ⟨rfl, rfl, rfl, rfl, rfl⟩
  have htw : PatchTwin flc flc2 := patchTwin_with hdm "" 2 (.inr rfl)
  have hren : renderAs (nativeLib exCodec noYaml) .jd flc.color
      ((nativeLib exCodec noYaml).diff o0 cA cB) = .ok cText := by
    rw [nativeLib_diff, c_diff]
    show Except.ok ((renderM exCodec [Opt.color] cDiff).getD "") = _
    rw [c_render]; rfl
  have R : Run (nativeLib exCodec noYaml) NativeExample.Ls .v2jd flc ec1 cA cB :=
    ⟨rfl, hdm, .inr rfl, ⟨tcA, rfl, read_doc_cA⟩, ⟨tcB, rfl, read_doc_cB⟩, .inl rfl⟩
  have hp1 : proc NativeExample.Ls .v2jd flc ec1 = ⟨1, cText, none, "", .none⟩ := by
    rw [R.proc_eq flc_opts (fmt := .jd) rfl, hren]; rfl
  have hin : ec2.in1 = .ok (emitted (proc NativeExample.Ls .v2jd flc ec1)) := by rw [hp1]; rfl
  have S : Session (nativeLib exCodec noYaml) NativeExample.Ls .v2jd flc flc2 ec1 ec2 cA cB :=
    ⟨R, htw, hin, rfl, .inl rfl⟩
  refine ⟨hdm, htw, ?_, ?_, hin, rfl, ?_⟩
  · rw [hp1]
  · rw [hp1]
  · rw [S.patch_proc_eq flc_opts (fmt := .jd) rfl (T := cText) (by rw [hp1]; rfl),
      nativeLib_readDiff_jd, c_read]
    rfl

end ColorWitness

#print axioms parsedOptions_twin
#print axioms plans_agree
#print axioms core_round_trip
#print axioms cli_round_trip
#print axioms Session.twoRuns
#print axioms native_cli_round_trip
#print axioms NativeExample.ex_cli_end_to_end
#print axioms ColorWitness.color_no_libRoundTrip
#print axioms ColorWitness.color_breaks_round_trip

end Jd.CliRT
