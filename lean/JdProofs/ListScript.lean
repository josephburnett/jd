/-
  JdProofs.ListScript — how the v2 library computes a diff in LIST mode (`dispatchTag o = .list`),
  below the properties that are proved about it (C01, C05, C06, C07).

  * `Jd.DE`: the unfolding equations of `diffNode` / `diffKvs`, either strategy; `Jd.DPL`: their
    strict instances, the equations of `jsonList.diffRest` (one per decision of the cursor walk), the
    invariant `LOpt` ("the remaining common sequence is a longest one").
  * `listDoc_induct`: induction on the first of two list documents with the cases of `diffNode`; it
    mentions no diff function.
  * `Jd.RealL`: an alignment `Script` of two arrays (`keep` / `sub` / `edit` steps) and `hunks`, the
    hunks it stands for. `Jd.Align`: `walk`, the alignment the cursor walk follows, and `render`,
    what the code emits for an alignment. `diffRest_render`: `diffRest` IS `render (walk …)`, without
    any hypothesis; it is the one proof that unfolds `diffRest`, `accHunk` and `subAfter`. Facts about
    the list diff are inductions over the script (`mem_render`, `forall₂_of_render_nil`, …);
    `walk_ok` is what a longest common subsequence gives about the steps, and `render_eq_hunks`
    says when the code's rendering is the ideal one (`hunks`).
  * about the walk alone: no two `edit` steps stand in a row (`Spaced`, `walk_spaced`); what a script
    keeps, recurses into, removes and adds (`keeps`, `subs`, `removedOf`, `addedOf`; `walk_keeps`:
    the kept pairs are the common sequence).
-/
import JdModel
import JdSpec
import JdProofs.EqualsList
import JdProofs.LcsProofs
import JdProofs.SubAfter

namespace Jd.DE
open Jd

/-! unfolding equations of `diffNode` / `diffKvs` in list mode, either strategy
  (`m` is `strategy == mergePatchStrategy`); the strict ones of `Jd.DPL` are the instances `m = false` -/

theorem diffNode_arr_arr {o : Opts} (ho : dispatchTag o = .list) {t t' : Tag} (xs ys : List Json)
    (ht : (t == .raw || t == .list) = true) (ht' : (t' == .raw || t' == .list) = true)
    (htt : t = .raw ∨ t' = .list) (m : Bool) (p : Path) :
    diffNode o m (.arr t xs) (.arr t' ys) p =
      if m then
        (if !(equals o (.arr .list xs) (.arr .list ys)) then
          [{ merge := true, path := p, add := (Json.arr .list ys).nodeList }]
         else [])
      else diffRest o p 0 0 .void xs ys (lcsValues (hashList o xs) (hashList o ys)) [] [] := by
  rw [diffNode.eq_def]
  cases t <;> cases t' <;> simp_all [effTag, Json.dispatch]

theorem diffNode_obj_obj (o : Opts) (m : Bool) (kvs kvs' : List (String × Json)) (p : Path) :
    diffNode o m (.obj kvs) (.obj kvs') p =
      diffKvs o m p kvs' kvs ++
        (kvs'.filter (fun kv => (alookup kv.1 kvs).isNone)).map (fun kv =>
          { merge := m, path := p ++ [.key kv.1], add := kv.2.nodeList }) := by
  rw [diffNode.eq_def]

theorem diffNode_scalar (o : Opts) (m : Bool) (a b : Json) (ha : ∀ t xs, a ≠ .arr t xs)
    (ha' : ∀ kvs, a ≠ .obj kvs) (p : Path) : diffNode o m a b p = diffCommon m a b p := by
  rw [diffNode.eq_def]
  cases a <;> simp_all

theorem diffKvs_nil (o : Opts) (m : Bool) (p : Path) (kvs' : List (String × Json)) :
    diffKvs o m p kvs' [] = [] := by
  rw [diffKvs.eq_def]

theorem diffKvs_cons (o : Opts) (m : Bool) (p : Path) (kvs' : List (String × Json)) (k : String)
    (v : Json) (r : List (String × Json)) :
    diffKvs o m p kvs' ((k, v) :: r) =
      (match alookup k kvs' with
       | some v' => diffNode o m v v' (p ++ [.key k])
       | none =>
         if m then [{ merge := true, path := p ++ [.key k], add := [.void] }]
         else [{ path := p ++ [.key k], remove := v.nodeList }]) ++ diffKvs o m p kvs' r := by
  rw [diffKvs.eq_def]
  rfl

/-- what one binding `(k, v)` of the first object contributes to the first loop of `jsonObject.diff` -/
def keyDiff (o : Opts) (m : Bool) (p : Path) (kvs' : List (String × Json)) (kv : String × Json) : Diff :=
  match alookup kv.1 kvs' with
  | some v' => diffNode o m kv.2 v' (p ++ [.key kv.1])
  | none =>
    if m then [{ merge := true, path := p ++ [.key kv.1], add := [.void] }]
    else [{ path := p ++ [.key kv.1], remove := kv.2.nodeList }]

theorem diffKvs_eq_flatMap (o : Opts) (m : Bool) (p : Path) (kvs' : List (String × Json)) :
    ∀ kvs, diffKvs o m p kvs' kvs = kvs.flatMap (keyDiff o m p kvs')
  | [] => diffKvs_nil o m p kvs'
  | (k, v) :: r => by
    rw [diffKvs_cons, diffKvs_eq_flatMap o m p kvs' r, List.flatMap_cons]; rfl

theorem diffNode_obj_other_m (o : Opts) (m : Bool) (kvs : List (String × Json)) (b : Json)
    (hb : ∀ kvs', b ≠ .obj kvs') (p : Path) :
    diffNode o m (.obj kvs) b p =
      if m then [{ merge := true, path := p, add := [b] }]
      else [{ path := p, remove := [Json.obj kvs], add := [b] }] := by
  rw [diffNode.eq_def]
  cases b <;> simp_all

/-- a plain array under the SET / MULTISET reading against anything that does not dispatch to an
    array of that reading: replaced as a whole -/
theorem diffNode_arr_other_m {o : Opts} {t : Tag} (hd : dispatchTag o = t)
    (ht : t = .set ∨ t = .mset) (m : Bool) (xs : List Json) (b : Json)
    (hb : ∀ ys, b.dispatch o ≠ .arr t ys) (p : Path) :
    diffNode o m (.arr .raw xs) b p =
      if m then [{ merge := true, path := p, add := [b.dispatch o] }]
      else [{ path := p, remove := [.arr .raw xs], add := (b.dispatch o).nodeList }] := by
  rw [diffNode.eq_def]
  rcases ht with rfl | rfl <;>
  · simp only [effTag, hd, beq_self_eq_true, if_true]
    generalize b.dispatch o = b' at hb
    cases b' with
    | arr t ys => cases t <;> first | exact absurd rfl (hb ys) | rfl
    | _ => rfl

/-- list mode: a list against a non-array, or a typed `jsonList` against a plain `jsonArray`, is
    replaced as a whole -/
theorem diffNode_arr_other {o : Opts} (ho : dispatchTag o = .list) {t : Tag} (xs : List Json) (b : Json)
    (ht : (t == .raw || t == .list) = true)
    (hb : (∀ t' ys, b ≠ .arr t' ys) ∨ (t = .list ∧ ∃ ys, b = .arr .raw ys)) (m : Bool) (p : Path) :
    diffNode o m (.arr t xs) b p =
      if m then [{ merge := true, path := p, add := [b] }]
      else [{ path := p, remove := [Json.arr .list xs], add := b.nodeList }] := by
  rw [diffNode.eq_def]
  simp only [effTag_list ho ht]
  rcases hb with hb | ⟨rfl, ys, rfl⟩
  · have hd : b.dispatch o = b := by
      cases b <;> first | rfl | exact absurd rfl (hb _ _)
    simp only [hd, ite_self]
    cases b <;> first | exact absurd rfl (hb _ _) | simp [Json.nodeList, Json.isVoid]
  · simp [Json.nodeList, Json.isVoid]

end Jd.DE

namespace Jd

/-- scalars are compared with `Equals` WITHOUT options (`diff_common.go`), under either strategy -/
theorem diffCommon_nil_iff (m : Bool) (a b : Json) (p : Path) :
    diffCommon m a b p = [] ↔ equals [] a b = true := by
  unfold diffCommon
  cases equals [] a b <;> cases m <;> simp

end Jd

namespace Jd.DPL
open Jd Jd.Spec

/-! ## 0. unfolding equations of the diff functions in list mode, strict strategy -/

/-- "the cursor element is the next element of the common sequence" (`atCommonA` / `atCommonB`) -/
def atC (o : Opts) (x : Json) (c : List UInt64) : Bool :=
  match c with | [] => false | z :: _ => hashCode o x == z

theorem diffRest_nil_nil (o : Opts) (p : Path) (k s : Nat) (prev : Json) (c : List UInt64) :
    diffRest o p k s prev [] [] c [] [] = [] := by
  rw [diffRest.eq_def]; simp [accHunk]

theorem diffRest_nilA (o : Opts) (p : Path) (k s : Nat) (prev : Json) (b : List Json) (c : List UInt64)
    (R A : List Json) :
    diffRest o p k s prev [] b c R A = accHunk p s prev R (A ++ b) .void := by
  rw [diffRest.eq_def]

theorem diffRest_nilB (o : Opts) (p : Path) (k s : Nat) (prev : Json) (a : List Json) (c : List UInt64)
    (R A : List Json) (ha : a ≠ []) :
    diffRest o p k s prev a [] c R A = accHunk p s prev (R ++ a) A .void := by
  rw [diffRest.eq_def]
  cases a with
  | nil => exact absurd rfl ha
  | cons x a' => rfl

theorem diffRest_cons (o : Opts) (p : Path) (k s : Nat) (prev x y : Json) (a' b' : List Json)
    (c : List UInt64) (R A : List Json) :
    diffRest o p k s prev (x :: a') (y :: b') c R A =
      if atC o x c && atC o y c then
        accHunk p s prev R A x ++ diffRest o p (k + 1) (k + 1) y a' b' c.tail [] []
      else if atC o x c then diffRest o p (k + 1) s prev (x :: a') b' c R (A ++ [y])
      else if atC o y c then diffRest o p k s prev a' (y :: b') c (R ++ [x]) A
      else if sameContainerType o x y then
        accHunk p s prev R A
            (if (diffNode o false x y (p ++ [.idx k])).isEmpty then a'.headD .void else x) ++
          subAfter p (R.isEmpty && A.isEmpty) (a'.headD .void) (diffNode o false x y (p ++ [.idx k])) ++
          diffRest o p (k + 1) (k + 1) y a' b' c [] []
      else diffRest o p (k + 1) s prev a' b' c (R ++ [x]) (A ++ [y]) := by
  rw [diffRest.eq_def]
  simp only [atC]
  have h0 : ∀ c', (if (a'.isEmpty && b'.isEmpty) = true then ([] : Diff)
      else diffRest o p (k + 1) (k + 1) y a' b' c' [] []) =
      diffRest o p (k + 1) (k + 1) y a' b' c' [] [] := by
    intro c'
    split
    · next h =>
      simp only [Bool.and_eq_true, List.isEmpty_iff] at h
      obtain ⟨rfl, rfl⟩ := h
      rw [diffRest_nil_nil]
    · rfl
  simp only [h0]
  rfl

/-! the five decisions of the cursor walk, one equation each -/

section decisions
variable {o : Opts} {x y : Json} {c : List UInt64} {p : Path} {k s : Nat} {prev : Json}
  {a' b' R A : List Json}

theorem diffRest_both (hA : atC o x c = true) (hB : atC o y c = true) :
    diffRest o p k s prev (x :: a') (y :: b') c R A =
      accHunk p s prev R A x ++ diffRest o p (k + 1) (k + 1) y a' b' c.tail [] [] := by
  rw [diffRest_cons, hA, hB]; rfl

theorem diffRest_onlyA (hA : atC o x c = true) (hB : atC o y c = false) :
    diffRest o p k s prev (x :: a') (y :: b') c R A =
      diffRest o p (k + 1) s prev (x :: a') b' c R (A ++ [y]) := by
  rw [diffRest_cons, hA, hB]; rfl

theorem diffRest_onlyB (hA : atC o x c = false) (hB : atC o y c = true) :
    diffRest o p k s prev (x :: a') (y :: b') c R A =
      diffRest o p k s prev a' (y :: b') c (R ++ [x]) A := by
  rw [diffRest_cons, hA, hB]; rfl

theorem diffRest_sub (hA : atC o x c = false) (hB : atC o y c = false)
    (hs : sameContainerType o x y = true) :
    diffRest o p k s prev (x :: a') (y :: b') c R A =
      accHunk p s prev R A
          (if (diffNode o false x y (p ++ [.idx k])).isEmpty then a'.headD .void else x) ++
        subAfter p (R.isEmpty && A.isEmpty) (a'.headD .void) (diffNode o false x y (p ++ [.idx k])) ++
        diffRest o p (k + 1) (k + 1) y a' b' c [] [] := by
  rw [diffRest_cons, hA, hB, hs]; rfl

theorem diffRest_diff (hA : atC o x c = false) (hB : atC o y c = false)
    (hs : sameContainerType o x y = false) :
    diffRest o p k s prev (x :: a') (y :: b') c R A =
      diffRest o p (k + 1) s prev a' b' c (R ++ [x]) (A ++ [y]) := by
  rw [diffRest_cons, hA, hB, hs]; rfl

end decisions

theorem diffNode_arr_arr {o : Opts} (ho : dispatchTag o = .list) {t t' : Tag} (xs ys : List Json)
    (ht : (t == .raw || t == .list) = true) (ht' : (t' == .raw || t' == .list) = true)
    (htt : t = .raw ∨ t' = .list) (p : Path) :
    diffNode o false (.arr t xs) (.arr t' ys) p =
      diffRest o p 0 0 .void xs ys (lcsValues (hashList o xs) (hashList o ys)) [] [] :=
  DE.diffNode_arr_arr ho xs ys ht ht' htt false p

/-- two list-mode array tags not covered by `diffNode_arr_arr`: a typed `jsonList` against a plain
    `jsonArray` -/
theorem tags_mixed {t t' : Tag} (ht : (t == .raw || t == .list) = true)
    (ht' : (t' == .raw || t' == .list) = true) (h : ¬ (t = .raw ∨ t' = .list)) :
    t = .list ∧ t' = .raw := by
  cases t <;> cases t' <;> simp_all

/-- a list against a non-array, or a typed `jsonList` against a plain `jsonArray`: one hunk
    replacing the whole value -/
theorem diffNode_arr_other {o : Opts} (ho : dispatchTag o = .list) {t : Tag} (xs : List Json) (b : Json)
    (ht : (t == .raw || t == .list) = true)
    (hb : (∀ t' ys, b ≠ .arr t' ys) ∨ (t = .list ∧ ∃ ys, b = .arr .raw ys)) (p : Path) :
    diffNode o false (.arr t xs) b p =
      [{ path := p, remove := [Json.arr .list xs], add := b.nodeList }] :=
  DE.diffNode_arr_other ho xs b ht hb false p

theorem diffNode_obj_obj (o : Opts) (kvs kvs' : List (String × Json)) (p : Path) :
    diffNode o false (.obj kvs) (.obj kvs') p =
      diffKvs o false p kvs' kvs ++
        (kvs'.filter (fun kv => (alookup kv.1 kvs).isNone)).map (fun kv =>
          { merge := false, path := p ++ [.key kv.1], add := kv.2.nodeList }) :=
  DE.diffNode_obj_obj o false kvs kvs' p

theorem diffNode_obj_other (o : Opts) (kvs : List (String × Json)) (b : Json)
    (hb : ∀ kvs', b ≠ .obj kvs') (p : Path) :
    diffNode o false (.obj kvs) b p = [{ path := p, remove := [Json.obj kvs], add := [b] }] :=
  DE.diffNode_obj_other_m o false kvs b hb p

theorem diffNode_scalar (o : Opts) (a b : Json) (ha : ∀ t xs, a ≠ .arr t xs) (ha' : ∀ kvs, a ≠ .obj kvs)
    (p : Path) : diffNode o false a b p = diffCommon false a b p :=
  DE.diffNode_scalar o false a b ha ha' p

theorem diffKvs_nil (o : Opts) (p : Path) (kvs' : List (String × Json)) :
    diffKvs o false p kvs' [] = [] :=
  DE.diffKvs_nil o false p kvs'

theorem diffKvs_cons (o : Opts) (p : Path) (kvs' : List (String × Json)) (k : String) (v : Json)
    (r : List (String × Json)) :
    diffKvs o false p kvs' ((k, v) :: r) =
      (match alookup k kvs' with
       | some v' => diffNode o false v v' (p ++ [.key k])
       | none => [{ path := p ++ [.key k], remove := v.nodeList }]) ++ diffKvs o false p kvs' r :=
  DE.diffKvs_cons o false p kvs' k v r

theorem atC_split (o : Opts) (x : Json) (c : List UInt64) :
    (match c with | [] => false | z :: _ => hashCode o x == z) = atC o x c := rfl

theorem atC_both_hash {o : Opts} {x y : Json} {c : List UInt64} (hx : atC o x c = true)
    (hy : atC o y c = true) : hashCode o x = hashCode o y := by
  cases c with
  | nil => simp [atC] at hx
  | cons z c' =>
    simp only [atC, beq_iff_eq] at hx hy
    rw [hx, hy]


theorem hashList_cons (o : Opts) (x : Json) (r : List Json) :
    hashList o (x :: r) = hashCode o x :: hashList o r := by
  simp [hashList]

/-! ### the longest-common-subsequence invariant of the cursor walk -/

/-- `c` is a longest common subsequence of `ha` and `hb` -/
def LOpt (c ha hb : List UInt64) : Prop :=
  c.Sublist ha ∧ c.Sublist hb ∧ ∀ c' : List UInt64, c'.Sublist ha → c'.Sublist hb → c'.length ≤ c.length

theorem sublist_of_head_ne {c : List UInt64} {h : UInt64} {l : List UInt64}
    (hs : c.Sublist (h :: l)) (hne : c.head? ≠ some h) : c.Sublist l := by
  cases c with
  | nil => exact List.nil_sublist _
  | cons z c' =>
    rcases List.sublist_cons_iff.1 hs with h1 | ⟨r, e, _⟩
    · exact h1
    · cases e; simp at hne

theorem LOpt.skipA {c ha hb : List UInt64} {h : UInt64} (ho : LOpt c (h :: ha) hb)
    (hne : c.head? ≠ some h) : LOpt c ha hb :=
  ⟨sublist_of_head_ne ho.1 hne, ho.2.1, fun c' h1 h2 => ho.2.2 c' (h1.cons _) h2⟩

theorem LOpt.skipB {c ha hb : List UInt64} {h : UInt64} (ho : LOpt c ha (h :: hb))
    (hne : c.head? ≠ some h) : LOpt c ha hb :=
  ⟨ho.1, sublist_of_head_ne ho.2.1 hne, fun c' h1 h2 => ho.2.2 c' h1 (h2.cons _)⟩

theorem LOpt.both {z : UInt64} {c ha hb : List UInt64} (ho : LOpt (z :: c) (z :: ha) (z :: hb)) :
    LOpt c ha hb := by
  refine ⟨List.cons_sublist_cons.1 ho.1, List.cons_sublist_cons.1 ho.2.1, fun c' h1 h2 => ?_⟩
  have := ho.2.2 (z :: c') (h1.cons_cons z) (h2.cons_cons z)
  simp only [List.length_cons] at this
  omega

theorem LOpt.heads_ne {c ha hb : List UInt64} {h : UInt64} (ho : LOpt c (h :: ha) (h :: hb))
    (hne : c.head? ≠ some h) : False := by
  have h1 := sublist_of_head_ne ho.1 hne
  have h2 := sublist_of_head_ne ho.2.1 hne
  have := ho.2.2 (h :: c) (h1.cons_cons h) (h2.cons_cons h)
  simp only [List.length_cons] at this
  omega

theorem atC_true {o : Opts} {x : Json} {c : List UInt64} (h : atC o x c = true) :
    c = hashCode o x :: c.tail := by
  cases c with
  | nil => simp [atC] at h
  | cons z c' => simp only [atC, beq_iff_eq] at h; simp [h]

theorem atC_false {o : Opts} {x : Json} {c : List UInt64} (h : atC o x c = false) :
    c.head? ≠ some (hashCode o x) := by
  cases c with
  | nil => simp
  | cons z c' =>
    simp only [atC, beq_eq_false_iff_ne, ne_eq] at h
    simp only [List.head?_cons, ne_eq, Option.some.injEq]
    exact fun e => h e.symm

theorem LOpt.lcs (ha hb : List UInt64) : LOpt (lcsValues ha hb) ha hb :=
  ⟨lcsValues_sublist_left ha hb, lcsValues_sublist_right ha hb, lcs_optimal ha hb⟩

theorem headD_void_or_mem (l : List Json) : l.headD .void = .void ∨ l.headD .void ∈ l := by
  cases l with
  | nil => exact .inl rfl
  | cons x r => exact .inr List.mem_cons_self

theorem getLast?_getD_void_or_mem (l : List Json) :
    l.getLast?.getD .void = .void ∨ l.getLast?.getD .void ∈ l := by
  rcases List.eq_nil_or_concat l with rfl | ⟨l', z, rfl⟩
  · exact .inl rfl
  · exact .inr (by simp [List.getLast?_append])

/-! ## induction over two list documents -/

theorem listDoc_of_mem {x : Json} {xs : List Json} (h : listDocList xs = true) (hx : x ∈ xs) :
    x.listDoc = true :=
  List.all_eq_true.1 (listDocList_eq_all xs ▸ h) x hx

/-- a list against a list document, list mode: the walk, or a replacement as a whole -/
theorem listDoc_arr_cases {t : Tag} {b : Json} (ht : (t == .raw || t == .list) = true)
    (hb : b.listDoc = true) :
    (∃ t' ys, b = .arr t' ys ∧ (t' == .raw || t' == .list) = true ∧ (t = .raw ∨ t' = .list) ∧
      listDocList ys = true) ∨
    ((∀ t' ys, b ≠ .arr t' ys) ∨ (t = .list ∧ ∃ ys, b = .arr .raw ys)) := by
  cases b with
  | arr t' ys =>
    simp only [Json.listDoc, Bool.and_eq_true] at hb
    by_cases htt : t = .raw ∨ t' = .list
    · exact .inl ⟨t', ys, rfl, hb.1, htt, hb.2⟩
    · obtain ⟨rfl, rfl⟩ := tags_mixed ht hb.1 htt
      exact .inr (.inr ⟨rfl, ys, rfl⟩)
  | _ => exact .inr (.inl fun _ _ e => by cases e)

/-- induction on the first of two list documents, with the cases `diffNode` distinguishes in list
    mode. The cursor walk has no motive: a list against a list receives the hypothesis for every
    element of the first list against every list document. -/
theorem listDoc_induct {mN : Json → Json → Prop}
    {mK : List (String × Json) → List (String × Json) → Prop}
    (arr_arr : ∀ t t' xs ys, (t == .raw || t == .list) = true → (t' == .raw || t' == .list) = true →
      (t = .raw ∨ t' = .list) → listDocList xs = true → listDocList ys = true →
      (∀ x ∈ xs, ∀ y, y.listDoc = true → mN x y) → mN (.arr t xs) (.arr t' ys))
    (arr_other : ∀ t xs b, (t == .raw || t == .list) = true → listDocList xs = true →
      b.listDoc = true → ((∀ t' ys, b ≠ .arr t' ys) ∨ (t = .list ∧ ∃ ys, b = .arr .raw ys)) →
      mN (.arr t xs) b)
    (obj_obj : ∀ kvs kvs', listDocKvs kvs = true → listDocKvs kvs' = true → mK kvs' kvs →
      mN (.obj kvs) (.obj kvs'))
    (obj_other : ∀ kvs b, listDocKvs kvs = true → b.listDoc = true → (∀ kvs', b ≠ .obj kvs') →
      mN (.obj kvs) b)
    (scalar : ∀ a b, (∀ t xs, a ≠ .arr t xs) → (∀ kvs, a ≠ .obj kvs) → b.listDoc = true → mN a b)
    (kvs_nil : ∀ kvs', mK kvs' [])
    (kvs_cons : ∀ kvs' k v r, listDocKvs kvs' = true → v.listDoc = true → listDocKvs r = true →
      (∀ v', v'.listDoc = true → mN v v') → mK kvs' r → mK kvs' ((k, v) :: r)) :
    (∀ a b, a.listDoc = true → b.listDoc = true → mN a b) ∧
    (∀ kvs' kvs, listDocKvs kvs' = true → listDocKvs kvs = true → mK kvs' kvs) := by
  have members : ∀ kvs' kvs, listDocKvs kvs' = true → listDocKvs kvs = true →
      (∀ k v, (k, v) ∈ kvs → ∀ v', v.listDoc = true → v'.listDoc = true → mN v v') → mK kvs' kvs := by
    intro kvs' kvs hl'
    induction kvs with
    | nil => exact fun _ _ => kvs_nil kvs'
    | cons kv r ihr =>
      intro hl ih
      simp only [listDocKvs, Bool.and_eq_true] at hl
      exact kvs_cons kvs' kv.1 kv.2 r hl' hl.1 hl.2 (fun v' hv' => ih kv.1 kv.2 List.mem_cons_self v' hl.1 hv')
        (ihr hl.2 fun k v hm => ih k v (.tail _ hm))
  have node : ∀ a b, a.listDoc = true → b.listDoc = true → mN a b := by
    intro a
    induction a using jsonIndScalar with
    | scalar a h1 h2 => exact fun b _ hb => scalar a b h1 h2 hb
    | arr t xs ih =>
      intro b ha hb
      simp only [Json.listDoc, Bool.and_eq_true] at ha
      rcases listDoc_arr_cases ha.1 hb with ⟨t', ys, rfl, ht', htt, hys⟩ | hb'
      · exact arr_arr t t' xs ys ha.1 ht' htt ha.2 hys fun x hx y hy =>
          ih x hx y (listDoc_of_mem ha.2 hx) hy
      · exact arr_other t xs b ha.1 ha.2 hb hb'
    | obj kvs ih =>
      intro b ha hb
      simp only [Json.listDoc] at ha
      cases b with
      | obj kvs' =>
        simp only [Json.listDoc] at hb
        exact obj_obj kvs kvs' ha hb (members kvs' kvs hb ha fun k v hm v' hv hv' => ih k v hm v' hv hv')
      | _ => exact obj_other kvs _ ha hb fun _ e => by cases e
  exact ⟨node, fun kvs' kvs hl' hl => members kvs' kvs hl' hl fun k v _ v' hv hv' => node v v' hv hv'⟩

end Jd.DPL

namespace Jd.Real
open Jd Jd.Spec Jd.DPL

/-- position by position, as far as both lists go, the hash codes differ -/
def HashApart (o : Opts) (R A : List Json) : Prop :=
  ∀ (j : Nat) (r a : Json), R[j]? = some r → A[j]? = some a → hashCode o r ≠ hashCode o a

theorem HashApart.nil (o : Opts) : HashApart o [] [] := by
  intro j r a h; simp at h

theorem HashApart.append_right {o : Opts} {R A : List Json} (h : HashApart o R A)
    (hle : R.length ≤ A.length) (B : List Json) : HashApart o R (A ++ B) := by
  intro j r a hr ha
  have hj : j < R.length := (List.getElem?_eq_some_iff.1 hr).1
  rw [List.getElem?_append_left (by omega)] at ha
  exact h j r a hr ha

theorem HashApart.append_left {o : Opts} {R A : List Json} (h : HashApart o R A)
    (hle : A.length ≤ R.length) (B : List Json) : HashApart o (R ++ B) A := by
  intro j r a hr ha
  have hj : j < A.length := (List.getElem?_eq_some_iff.1 ha).1
  rw [List.getElem?_append_left (by omega)] at hr
  exact h j r a hr ha

theorem HashApart.snoc {o : Opts} {R A : List Json} (h : HashApart o R A)
    (hlen : R.length = A.length) {x y : Json} (hne : hashCode o x ≠ hashCode o y) :
    HashApart o (R ++ [x]) (A ++ [y]) := by
  intro j r a hr ha
  by_cases hj : j < R.length
  · rw [List.getElem?_append_left hj] at hr
    rw [List.getElem?_append_left (by omega)] at ha
    exact h j r a hr ha
  · have hj' : j < (R ++ [x]).length := (List.getElem?_eq_some_iff.1 hr).1
    simp only [List.length_append, List.length_cons, List.length_nil] at hj'
    have e : j = R.length := by omega
    subst e
    have e1 : (R ++ [x])[R.length]? = some x := by simp
    have e2 : (A ++ [y])[R.length]? = some y := by rw [hlen]; simp
    rw [e1] at hr; rw [e2] at ha
    cases hr; cases ha
    exact hne

theorem lopt_nil_left {c hb : List UInt64} (h : LOpt c [] hb) : c = [] := by
  simpa using h.1

theorem lopt_nil_right {c ha : List UInt64} (h : LOpt c ha []) : c = [] := by
  simpa using h.2.1

/-- one step of the walk keeps the invariant "`c` is a longest common subsequence of the remaining
    hash lists" (`DPL.LOpt`), and in the default step the two cursor elements have different hash
    codes.  At the start the invariant is `LOpt.lcs` (from `lcs_optimal`). -/
theorem walk_keeps_lcs {o : Opts} {x y : Json} {a' b' : List Json} {c : List UInt64}
    (hL : LOpt c (hashList o (x :: a')) (hashList o (y :: b'))) :
    (atC o x c = true → atC o y c = true → LOpt c.tail (hashList o a') (hashList o b')) ∧
    (atC o x c = true → atC o y c = false → LOpt c (hashList o (x :: a')) (hashList o b')) ∧
    (atC o x c = false → atC o y c = true → LOpt c (hashList o a') (hashList o (y :: b'))) ∧
    (atC o x c = false → atC o y c = false →
      LOpt c (hashList o a') (hashList o b') ∧ hashCode o x ≠ hashCode o y) := by
  rw [hashList_cons, hashList_cons] at hL
  refine ⟨fun hA hB => ?_, fun _ hB => ?_, fun hA _ => ?_, fun hA hB => ⟨?_, ?_⟩⟩
  · have hxy : hashCode o x = hashCode o y := DPL.atC_both_hash hA hB
    have hc := atC_true hA
    rw [hc, ← hxy] at hL
    exact hL.both
  · rw [hashList_cons]; exact hL.skipB (atC_false hB)
  · rw [hashList_cons]; exact hL.skipA (atC_false hA)
  · exact (hL.skipA (atC_false hA)).skipB (atC_false hB)
  · intro e
    rw [← e] at hL
    exact hL.heads_ne (atC_false hA)

end Jd.Real

namespace Jd.RealL
open Jd Jd.Spec Jd.DPL

/-- one step of an alignment of two arrays -/
inductive Step where
  /-- `x` of the first array is kept and stands for `y` of the second -/
  | keep (x y : Json)
  /-- `x` and `y` are containers of the same kind: the diff recurses into the pair -/
  | sub (x y : Json)
  /-- the run `R` of the first array is replaced by the run `A` of the second -/
  | edit (R A : List Json)

abbrev Script := List Step

/-- the elements of the first array a step consumes -/
def Step.src : Step → List Json
  | .keep x _ => [x]
  | .sub x _ => [x]
  | .edit R _ => R

/-- the elements of the second array a step produces -/
def Step.tgt : Step → List Json
  | .keep _ y => [y]
  | .sub _ y => [y]
  | .edit _ A => A

/-- the first array of an alignment -/
def src : Script → List Json
  | [] => []
  | st :: r => st.src ++ src r

/-- the second array of an alignment -/
def tgt : Script → List Json
  | [] => []
  | st :: r => st.tgt ++ tgt r

/-- what the diff guarantees about a step: a kept pair has ONE hash code (list elements are matched
    by hash code); a pair that is recursed into consists of two containers of the same kind with
    DIFFERENT hash codes; an edit removes or adds something and pairs, position by position, values
    with different hash codes -/
def Step.ok (o : Opts) : Step → Prop
  | .keep x y => hashCode o x = hashCode o y
  | .sub x y => sameContainerType o x y = true ∧ hashCode o x ≠ hashCode o y
  | .edit R A => (R ≠ [] ∨ A ≠ []) ∧ Real.HashApart o R A

/-- the hunks an alignment stands for, below the path `p`: `k` is the index (in the SECOND array) of
    the first element the alignment produces, `prev` the element before it (void: array start) -/
def hunks (o : Opts) (p : Path) : Nat → Json → Script → Diff
  | _, _, [] => []
  | k, _, .keep _ y :: r => hunks o p (k + 1) y r
  | k, _, .sub x y :: r => diffNode o false x y (p ++ [.idx (k : Int)]) ++ hunks o p (k + 1) y r
  | k, prev, .edit R A :: r =>
    { path := p ++ [.idx (k : Int)], before := [prev], remove := R, add := A,
      after := [(src r).headD .void] } :: hunks o p (k + A.length) (A.getLast?.getD prev) r

@[simp] theorem src_nil : src [] = [] := rfl
@[simp] theorem tgt_nil : tgt [] = [] := rfl
@[simp] theorem src_cons (st : Step) (r : Script) : src (st :: r) = st.src ++ src r := rfl
@[simp] theorem tgt_cons (st : Step) (r : Script) : tgt (st :: r) = st.tgt ++ tgt r := rfl

theorem src_append : ∀ (S1 S2 : Script), src (S1 ++ S2) = src S1 ++ src S2
  | [], _ => rfl
  | st :: r, S2 => by simp [src_append r S2]

theorem tgt_append : ∀ (S1 S2 : Script), tgt (S1 ++ S2) = tgt S1 ++ tgt S2
  | [], _ => rfl
  | st :: r, S2 => by simp [tgt_append r S2]

/-- the pending hunk of the walk, as a script -/
def editIf (R A : List Json) : Script :=
  if R.isEmpty && A.isEmpty then [] else [.edit R A]

theorem editIf_of_ne {R A : List Json} (h : R ≠ [] ∨ A ≠ []) : editIf R A = [.edit R A] := by
  unfold editIf
  rw [if_neg]
  simp only [Bool.and_eq_true, List.isEmpty_iff, not_and]
  rcases h with h | h
  · exact fun e => absurd e h
  · exact fun _ => h

theorem editIf_cases (R A : List Json) :
    (R = [] ∧ A = []) ∨ ((R ≠ [] ∨ A ≠ []) ∧ editIf R A = [.edit R A]) := by
  by_cases hR : R = []
  · by_cases hA : A = []
    · exact .inl ⟨hR, hA⟩
    · exact .inr ⟨.inr hA, editIf_of_ne (.inr hA)⟩
  · exact .inr ⟨.inl hR, editIf_of_ne (.inl hR)⟩

theorem src_editIf (R A : List Json) : src (editIf R A) = R := by
  rcases editIf_cases R A with ⟨rfl, rfl⟩ | ⟨_, e⟩
  · rfl
  · rw [e]; simp [Step.src]

theorem tgt_editIf (R A : List Json) : tgt (editIf R A) = A := by
  rcases editIf_cases R A with ⟨rfl, rfl⟩ | ⟨_, e⟩
  · rfl
  · rw [e]; simp [Step.tgt]

theorem ok_editIf {o : Opts} {R A : List Json} (h : Real.HashApart o R A) :
    ∀ st ∈ editIf R A, st.ok o := by
  rcases editIf_cases R A with ⟨rfl, rfl⟩ | ⟨hne, e⟩
  · exact fun st hst => by cases hst
  · rw [e]
    exact fun st hst => List.mem_singleton.1 hst ▸ ⟨hne, h⟩

/-- the hunks ONE step stands for, at index `k` below `p`; `prev` the element before it in the second
    array, `nx` the element after it in the first -/
def stepHunks (o : Opts) (p : Path) (k : Nat) (prev nx : Json) : Step → Diff
  | .keep _ _ => []
  | .sub x y => diffNode o false x y (p ++ [.idx (k : Int)])
  | .edit R A => [{ path := p ++ [.idx (k : Int)], before := [prev], remove := R, add := A, after := [nx] }]

theorem hunks_cons (o : Opts) (p : Path) (k : Nat) (prev : Json) (st : Step) (r : Script) :
    hunks o p k prev (st :: r) =
      stepHunks o p k prev ((src r).headD .void) st ++
        hunks o p (k + st.tgt.length) (st.tgt.getLast?.getD prev) r := by
  cases st <;> simp [hunks, stepHunks, Step.tgt]

/-- a hunk of a rendered alignment is a hunk of one of its steps, rendered at the index at which the
    step starts in the second array, with the neighbours as context -/
theorem mem_hunks_step {o : Opts} {p : Path} : ∀ (S : Script) (k : Nat) (prev : Json) {h : Hunk},
    h ∈ hunks o p k prev S →
    ∃ S1 st S2, S = S1 ++ st :: S2 ∧
      h ∈ stepHunks o p (k + (tgt S1).length) ((tgt S1).getLast?.getD prev) ((src S2).headD .void) st
  | [], _, _, h, hm => by simp [hunks] at hm
  | st :: r, k, prev, h, hm => by
    rw [hunks_cons] at hm
    rcases List.mem_append.1 hm with hm | hm
    · exact ⟨[], st, r, rfl, by simpa using hm⟩
    · obtain ⟨S1, st', S2, e, hm'⟩ := mem_hunks_step r _ _ hm
      refine ⟨st :: S1, st', S2, by rw [e]; rfl, ?_⟩
      simpa [Nat.add_assoc] using hm'

/-- the two kinds of hunk: an `edit` step itself, or a hunk of the sub-diff of a `sub` step -/
theorem mem_hunks {o : Opts} {p : Path} (S : Script) (k : Nat) (prev : Json) {h : Hunk}
    (hm : h ∈ hunks o p k prev S) :
    (∃ S1 R A S2, S = S1 ++ .edit R A :: S2 ∧
      h = { path := p ++ [.idx ((k + (tgt S1).length : Nat) : Int)],
            before := [(tgt S1).getLast?.getD prev], remove := R, add := A,
            after := [(src S2).headD .void] }) ∨
    (∃ S1 x y S2, S = S1 ++ .sub x y :: S2 ∧
      h ∈ diffNode o false x y (p ++ [.idx ((k + (tgt S1).length : Nat) : Int)])) := by
  obtain ⟨S1, st, S2, e, hm'⟩ := mem_hunks_step S k prev hm
  cases st with
  | keep x y => cases hm'
  | sub x y => exact .inr ⟨S1, x, y, S2, e, hm'⟩
  | edit R A => exact .inl ⟨S1, R, A, S2, e, List.mem_singleton.1 hm'⟩

theorem mem_src_tgt_of_mem {st : Step} {S : Script} (h : st ∈ S) :
    (∀ z ∈ st.src, z ∈ src S) ∧ (∀ z ∈ st.tgt, z ∈ tgt S) := by
  obtain ⟨S1, S2, rfl⟩ := List.append_of_mem h
  simp only [src_append, tgt_append, src_cons, tgt_cons, List.mem_append]
  exact ⟨fun z hz => .inr (.inl hz), fun z hz => .inr (.inl hz)⟩

def Step.isEdit : Step → Bool
  | .edit _ _ => true
  | _ => false

end Jd.RealL

namespace Jd.Align
open Jd Jd.Spec Jd.DPL Jd.RealL

/-- the alignment the cursor walk of `jsonList.diffRest` follows: same arguments as `diffRest`
    (remaining elements `a`, `b`, remaining common sequence `c`, pending `R`, `A`), same five
    decisions, but only the alignment steps are recorded -/
def walk (o : Opts) : List Json → List Json → List UInt64 → List Json → List Json → Script
  | [], b, _, R, A => editIf R (A ++ b)
  | x :: a', [], _, R, A => editIf (R ++ x :: a') A
  | x :: a', y :: b', c, R, A =>
    if atC o x c && atC o y c then editIf R A ++ .keep x y :: walk o a' b' c.tail [] []
    else if atC o x c then walk o (x :: a') b' c R (A ++ [y])
    else if atC o y c then walk o a' (y :: b') c (R ++ [x]) A
    else if sameContainerType o x y then editIf R A ++ .sub x y :: walk o a' b' c [] []
    else walk o a' b' c (R ++ [x]) (A ++ [y])
termination_by a b => a.length + b.length

theorem walk_nilA (o : Opts) (b : List Json) (c : List UInt64) (R A : List Json) :
    walk o [] b c R A = editIf R (A ++ b) := by
  rw [walk]

theorem walk_nilB (o : Opts) (a : List Json) (c : List UInt64) (R A : List Json) (ha : a ≠ []) :
    walk o a [] c R A = editIf (R ++ a) A := by
  cases a with
  | nil => exact absurd rfl ha
  | cons x a' => rw [walk]

theorem walk_cons (o : Opts) (x y : Json) (a' b' : List Json) (c : List UInt64) (R A : List Json) :
    walk o (x :: a') (y :: b') c R A =
      if atC o x c && atC o y c then editIf R A ++ .keep x y :: walk o a' b' c.tail [] []
      else if atC o x c then walk o (x :: a') b' c R (A ++ [y])
      else if atC o y c then walk o a' (y :: b') c (R ++ [x]) A
      else if sameContainerType o x y then editIf R A ++ .sub x y :: walk o a' b' c [] []
      else walk o a' b' c (R ++ [x]) (A ++ [y]) := by
  rw [walk]

theorem walk_src (o : Opts) : ∀ (a b : List Json) (c : List UInt64) (R A : List Json),
    src (walk o a b c R A) = R ++ a := by
  intro a b c R A
  fun_induction walk o a b c R A with
  | case1 b c R A => simp [src_editIf]
  | case2 x a' c R A => simp [src_editIf]
  | case3 x a' y b' c R A h ih => simp [src_append, src_editIf, Step.src, ih]
  | case4 x a' y b' c R A h1 h2 ih => simpa using ih
  | case5 x a' y b' c R A h1 h2 h3 ih => simpa using ih
  | case6 x a' y b' c R A h1 h2 h3 h4 ih => simp [src_append, src_editIf, Step.src, ih]
  | case7 x a' y b' c R A h1 h2 h3 h4 ih => simpa using ih

theorem walk_tgt (o : Opts) : ∀ (a b : List Json) (c : List UInt64) (R A : List Json),
    tgt (walk o a b c R A) = A ++ b := by
  intro a b c R A
  fun_induction walk o a b c R A with
  | case1 b c R A => simp [tgt_editIf]
  | case2 x a' c R A => simp [tgt_editIf]
  | case3 x a' y b' c R A h ih => simp [tgt_append, tgt_editIf, Step.tgt, ih]
  | case4 x a' y b' c R A h1 h2 ih => simpa using ih
  | case5 x a' y b' c R A h1 h2 h3 ih => simpa using ih
  | case6 x a' y b' c R A h1 h2 h3 h4 ih => simp [tgt_append, tgt_editIf, Step.tgt, ih]
  | case7 x a' y b' c R A h1 h2 h3 h4 ih => simpa using ih

/-- the pending side is the shorter one while the other cursor waits at the next common element -/
theorem le_of_phase {o : Opts} {c : List UInt64} {l : List Json} {m n : Nat}
    (hph : m < n → ∃ z l', l = z :: l' ∧ atC o z c = true)
    (hno : ∀ z l', l = z :: l' → atC o z c = false) : n ≤ m :=
  Nat.le_of_not_lt fun hlt => by
    obtain ⟨z, l', e, hz⟩ := hph hlt
    rw [hno z l' e] at hz
    cases hz

theorem ok_flush {o : Opts} {R A : List Json} {st : Step} {S : Script} (hRA : Real.HashApart o R A)
    (hst : st.ok o) (hS : ∀ st ∈ S, st.ok o) : ∀ st' ∈ editIf R A ++ st :: S, st'.ok o := by
  intro st' h
  rcases List.mem_append.1 h with h | h
  · exact ok_editIf hRA st' h
  · rcases List.mem_cons.1 h with rfl | h
    · exact hst
    · exact hS st' h

/-! ### no two `edit` steps in a row -/

/-- no two `edit` steps in a row: between two hunks of one array level stands an element that is
    kept or recursed into -/
def Spaced : Script → Prop
  | st :: st' :: r => ¬ (st.isEdit = true ∧ st'.isEdit = true) ∧ Spaced (st' :: r)
  | _ => True

theorem Spaced.tail {st : Step} : ∀ {S : Script}, Spaced (st :: S) → Spaced S
  | [], _ => trivial
  | _ :: _, h => h.2

theorem spaced_cons {st : Step} (h : st.isEdit = false) : ∀ {S : Script}, Spaced S → Spaced (st :: S)
  | [], _ => trivial
  | _ :: _, hS => ⟨fun e => (by rw [h] at e; cases e.1), hS⟩

theorem spaced_editIf (R A : List Json) {st : Step} {S : Script} (h : st.isEdit = false)
    (hS : Spaced (st :: S)) : Spaced (editIf R A ++ st :: S) := by
  rcases editIf_cases R A with ⟨rfl, rfl⟩ | ⟨_, e⟩
  · exact hS
  · rw [e]
    exact ⟨fun e => (by rw [h] at e; cases e.2), hS⟩

theorem spaced_editIf_nil (R A : List Json) : Spaced (editIf R A) := by
  rcases editIf_cases R A with ⟨rfl, rfl⟩ | ⟨_, e⟩
  · trivial
  · rw [e]; trivial

theorem walk_spaced (o : Opts) (a b : List Json) (c : List UInt64) (R A : List Json) :
    Spaced (walk o a b c R A) := by
  fun_induction walk o a b c R A with
  | case1 b c R A => exact spaced_editIf_nil _ _
  | case2 x a' c R A => exact spaced_editIf_nil _ _
  | case3 x a' y b' c R A h ih => exact spaced_editIf R A rfl (spaced_cons (st := .keep x y) rfl ih)
  | case4 x a' y b' c R A h1 h2 ih => exact ih
  | case5 x a' y b' c R A h1 h2 h3 ih => exact ih
  | case6 x a' y b' c R A h1 h2 h3 h4 ih => exact spaced_editIf R A rfl (spaced_cons (st := .sub x y) rfl ih)
  | case7 x a' y b' c R A h1 h2 h3 h4 ih => exact ih

/-! ### what the code emits for an alignment -/

/-- the after-context the code gives a pending hunk that is flushed in front of `S` (rendered at
    index `k`): the next element of the first array, EXCEPT in front of a recursed pair whose
    sub-diff is empty, where it is the element after that pair (defect D5b lives here) -/
def afterOf (o : Opts) (p : Path) (k : Nat) : Script → Json
  | .sub x y :: r =>
    if (diffNode o false x y (p ++ [.idx (k : Int)])).isEmpty then (src r).headD .void else x
  | S => (src S).headD .void

/-- what `jsonList.diffRest` emits for an alignment, exactly: as `hunks`, but a sub-diff passes
    through `subAfter` (`n`: no hunk was flushed directly before, the flag `subAfter` looks at) and
    the after-context of an `edit` step is `afterOf` -/
def render (o : Opts) (p : Path) : Bool → Nat → Json → Script → Diff
  | _, _, _, [] => []
  | _, k, _, .keep _ y :: r => render o p true (k + 1) y r
  | n, k, _, .sub x y :: r =>
    subAfter p n ((src r).headD .void) (diffNode o false x y (p ++ [.idx (k : Int)])) ++
      render o p true (k + 1) y r
  | _, k, prev, .edit R A :: r =>
    { path := p ++ [.idx (k : Int)], before := [prev], remove := R, add := A,
      after := [afterOf o p (k + A.length) r] } ::
      render o p false (k + A.length) (A.getLast?.getD prev) r

/-- flushing the pending hunk in front of the rest of the walk -/
theorem accHunk_append_render (o : Opts) (p : Path) (s : Nat) (prev : Json) (R A : List Json)
    (S' : Script) :
    accHunk p s prev R A (afterOf o p (s + A.length) S') ++
        render o p (R.isEmpty && A.isEmpty) (s + A.length) (A.getLast?.getD prev) S' =
      render o p true s prev (editIf R A ++ S') := by
  unfold accHunk editIf
  split
  · next h =>
    have h' := h
    simp only [Bool.and_eq_true, List.isEmpty_iff] at h'
    simp [h'.1, h'.2]
  · next h =>
    have : (R.isEmpty && A.isEmpty) = false := by simpa using h
    simp [render, this]

/-- **the cursor walk of `jsonList.diffRest` is the rendering of `walk` on the same arguments**: no
    hypothesis on the elements, the common sequence or the pending lists (`k = s + |A|` is how the
    code keeps its path cursor) -/
theorem diffRest_render (o : Opts) (p : Path) (a b : List Json) (c : List UInt64) (R A : List Json) :
    ∀ s prev, diffRest o p (s + A.length) s prev a b c R A =
      render o p true s prev (walk o a b c R A) := by
  fun_induction walk o a b c R A with
  | case1 b c R A =>
    intro s prev
    rw [diffRest_nilA]
    simpa [render, afterOf] using accHunk_append_render o p s prev R (A ++ b) []
  | case2 x a' c R A =>
    intro s prev
    rw [diffRest_nilB _ _ _ _ _ _ _ _ _ (by simp)]
    simpa [render, afterOf] using accHunk_append_render o p s prev (R ++ x :: a') A []
  | case3 x a' y b' c R A h ih =>
    intro s prev
    obtain ⟨hA, hB⟩ := Bool.and_eq_true_iff.1 h
    rw [diffRest_both hA hB, ← accHunk_append_render]
    simpa [render, afterOf, Step.src] using ih (s + A.length + 1) y
  | case4 x a' y b' c R A h1 h2 ih =>
    intro s prev
    have hB : atC o y c = false := by simpa [h2] using h1
    rw [diffRest_onlyA h2 hB]
    simpa [Nat.add_assoc] using ih s prev
  | case5 x a' y b' c R A h1 h2 h3 ih =>
    intro s prev
    rw [diffRest_onlyB (by simpa using h2) h3]
    exact ih s prev
  | case6 x a' y b' c R A h1 h2 h3 h4 ih =>
    intro s prev
    rw [diffRest_sub (by simpa using h2) (by simpa using h3) h4, List.append_assoc,
      ← accHunk_append_render]
    simpa [render, afterOf, walk_src, Step.src] using ih (s + A.length + 1) y
  | case7 x a' y b' c R A h1 h2 h3 h4 ih =>
    intro s prev
    rw [diffRest_diff (by simpa using h2) (by simpa using h3) (Bool.eq_false_iff.2 h4)]
    simpa [Nat.add_assoc] using ih s prev

/-- **what a longest common subsequence gives**: every step of the walk is `ok`. `c` is a LONGEST
    common subsequence of the remaining hash lists, the pending `R`, `A` are hash-apart and the walk
    is in the phase they indicate. -/
theorem walk_ok (o : Opts) (a b : List Json) (c : List UInt64) (R A : List Json) :
    LOpt c (hashList o a) (hashList o b) → Real.HashApart o R A →
    (R.length < A.length → ∃ x a', a = x :: a' ∧ atC o x c = true) →
    (A.length < R.length → ∃ y b', b = y :: b' ∧ atC o y c = true) →
    ∀ st ∈ walk o a b c R A, st.ok o := by
  fun_induction walk o a b c R A with
  | case1 b c R A =>
    intro hL hRA _ hphB
    exact ok_editIf (hRA.append_right
      (le_of_phase hphB (fun z _ _ => by rw [Real.lopt_nil_left hL]; rfl)) b)
  | case2 x a' c R A =>
    intro hL hRA hphA _
    exact ok_editIf (hRA.append_left
      (le_of_phase hphA (fun z _ _ => by rw [Real.lopt_nil_right hL]; rfl)) _)
  | case3 x a' y b' c R A h ih =>
    intro hL hRA _ _
    obtain ⟨hA, hB⟩ := Bool.and_eq_true_iff.1 h
    exact ok_flush hRA (atC_both_hash hA hB)
      (ih ((Real.walk_keeps_lcs hL).1 hA hB) (Real.HashApart.nil o) (by simp) (by simp))
  | case4 x a' y b' c R A h1 h2 ih =>
    intro hL hRA _ hphB
    have hB : atC o y c = false := by simpa [h2] using h1
    have hle := le_of_phase hphB (fun z _ e => by cases e; exact hB)
    exact ih ((Real.walk_keeps_lcs hL).2.1 h2 hB) (hRA.append_right hle _)
      (fun _ => ⟨x, a', rfl, h2⟩) (fun hlt => by simp at hlt; omega)
  | case5 x a' y b' c R A h1 h2 h3 ih =>
    intro hL hRA hphA _
    have hA : atC o x c = false := by simpa using h2
    have hle := le_of_phase hphA (fun z _ e => by cases e; exact hA)
    exact ih ((Real.walk_keeps_lcs hL).2.2.1 hA h3) (hRA.append_left hle _)
      (fun hlt => by simp at hlt; omega) (fun _ => ⟨y, b', rfl, h3⟩)
  | case6 x a' y b' c R A h1 h2 h3 h4 ih =>
    intro hL hRA _ _
    obtain ⟨hL', hne⟩ := (Real.walk_keeps_lcs hL).2.2.2 (by simpa using h2) (by simpa using h3)
    exact ok_flush hRA ⟨h4, hne⟩ (ih hL' (Real.HashApart.nil o) (by simp) (by simp))
  | case7 x a' y b' c R A h1 h2 h3 h4 ih =>
    intro hL hRA hphA hphB
    have hA : atC o x c = false := by simpa using h2
    have hB : atC o y c = false := by simpa using h3
    obtain ⟨hL', hne⟩ := (Real.walk_keeps_lcs hL).2.2.2 hA hB
    have hlen : R.length = A.length :=
      Nat.le_antisymm (le_of_phase hphB (fun z _ e => by cases e; exact hB))
        (le_of_phase hphA (fun z _ e => by cases e; exact hA))
    exact ih hL' (hRA.snoc hlen hne)
      (fun hlt => by simp at hlt; omega) (fun hlt => by simp at hlt; omega)

/-! ### when the rendering of the code is the ideal one -/

/-- a recursed pair is `Plain` below `p` when its sub-diff is not empty and `subAfter` leaves it
    alone -/
def Plain (o : Opts) (p : Path) (x y : Json) : Prop :=
  ∀ (k : Nat) n nx, diffNode o false x y (p ++ [.idx (k : Int)]) ≠ [] ∧
    subAfter p n nx (diffNode o false x y (p ++ [.idx (k : Int)])) =
      diffNode o false x y (p ++ [.idx (k : Int)])

theorem afterOf_of_plain {o : Opts} {p : Path} (k : Nat) {S : Script}
    (h : ∀ x y, Step.sub x y ∈ S → Plain o p x y) : afterOf o p k S = (src S).headD .void := by
  match S with
  | [] => rfl
  | .keep _ _ :: _ => rfl
  | .edit _ _ :: _ => rfl
  | .sub x y :: r =>
    have := (h x y List.mem_cons_self k true .void).1
    cases hd : diffNode o false x y (p ++ [.idx (k : Int)]) with
    | nil => exact absurd hd this
    | cons _ _ => simp [afterOf, hd, Step.src]

theorem render_eq_hunks (o : Opts) (p : Path) : ∀ (S : Script) (n : Bool) (k : Nat) (prev : Json),
    (∀ x y, Step.sub x y ∈ S → Plain o p x y) → render o p n k prev S = hunks o p k prev S
  | [], _, _, _, _ => rfl
  | .keep _ y :: r, _, k, _, h => by
    simpa [render, hunks] using render_eq_hunks o p r true (k + 1) y fun x y hm => h x y (.tail _ hm)
  | .sub x y :: r, n, k, _, h => by
    simp only [render, hunks, (h x y List.mem_cons_self k n _).2,
      render_eq_hunks o p r true (k + 1) y fun x y hm => h x y (.tail _ hm)]
  | .edit R A :: r, _, k, prev, h => by
    simp only [render, hunks, afterOf_of_plain (k + A.length) fun x y hm => h x y (.tail _ hm),
      render_eq_hunks o p r false (k + A.length) _ fun x y hm => h x y (.tail _ hm)]

/-! ### where a hunk of a rendering comes from -/

/-- the hunks ONE step is rendered to -/
def stepRender (o : Opts) (p : Path) (n : Bool) (k : Nat) (prev : Json) (r : Script) : Step → Diff
  | .keep _ _ => []
  | .sub x y => subAfter p n ((src r).headD .void) (diffNode o false x y (p ++ [.idx (k : Int)]))
  | .edit R A => [{ path := p ++ [.idx (k : Int)], before := [prev], remove := R, add := A,
                    after := [afterOf o p (k + A.length) r] }]

theorem render_cons (o : Opts) (p : Path) (n : Bool) (k : Nat) (prev : Json) (st : Step) (r : Script) :
    render o p n k prev (st :: r) = stepRender o p n k prev r st ++
      render o p (!st.isEdit) (k + st.tgt.length) (st.tgt.getLast?.getD prev) r := by
  cases st <;> simp [render, stepRender, Step.tgt, Step.isEdit]

/-- a hunk of a rendering is a hunk of one of its steps, rendered at the index at which the step
    starts in the second array, with the neighbours as context -/
theorem mem_render_step {o : Opts} {p : Path} : ∀ (S : Script) (n : Bool) (k : Nat) (prev : Json) {h : Hunk},
    h ∈ render o p n k prev S →
    ∃ S1 st S2 n', S = S1 ++ st :: S2 ∧
      h ∈ stepRender o p n' (k + (tgt S1).length) ((tgt S1).getLast?.getD prev) S2 st
  | [], _, _, _, h, hm => by simp [render] at hm
  | st :: r, n, k, prev, h, hm => by
    rw [render_cons] at hm
    rcases List.mem_append.1 hm with hm | hm
    · exact ⟨[], st, r, n, rfl, by simpa using hm⟩
    · obtain ⟨S1, st', S2, n', e, hm'⟩ := mem_render_step r _ _ _ hm
      refine ⟨st :: S1, st', S2, n', by rw [e]; rfl, ?_⟩
      simpa [Nat.add_assoc] using hm'

/-- the two kinds of hunk of a rendering: an `edit` step itself, or a hunk of the sub-diff (as
    `subAfter` leaves it) of a `sub` step -/
theorem mem_render {o : Opts} {p : Path} (S : Script) (n : Bool) (k : Nat) (prev : Json) {h : Hunk}
    (hm : h ∈ render o p n k prev S) :
    (∃ S1 R A S2, S = S1 ++ .edit R A :: S2 ∧
      h = { path := p ++ [.idx ((k + (tgt S1).length : Nat) : Int)],
            before := [(tgt S1).getLast?.getD prev], remove := R, add := A,
            after := [afterOf o p (k + (tgt S1).length + A.length) S2] }) ∨
    (∃ S1 x y S2 n', S = S1 ++ .sub x y :: S2 ∧
      h ∈ subAfter p n' ((src S2).headD .void)
        (diffNode o false x y (p ++ [.idx ((k + (tgt S1).length : Nat) : Int)]))) := by
  obtain ⟨S1, st, S2, n', e, hm'⟩ := mem_render_step S n k prev hm
  cases st with
  | keep x y => cases hm'
  | sub x y => exact .inr ⟨S1, x, y, S2, n', e, hm'⟩
  | edit R A => exact .inl ⟨S1, R, A, S2, e, List.mem_singleton.1 hm'⟩

theorem afterOf_mem (o : Opts) (p : Path) (k : Nat) (S : Script) :
    afterOf o p k S = .void ∨ afterOf o p k S ∈ src S := by
  match S with
  | [] => exact .inl rfl
  | .keep x _ :: _ => exact .inr (by simp [afterOf, Step.src])
  | .edit R _ :: r =>
    simp only [afterOf, src_cons, Step.src]
    exact headD_void_or_mem _
  | .sub x y :: r =>
    simp only [afterOf, src_cons, Step.src]
    split
    · exact (headD_void_or_mem (src r)).imp id fun h => List.mem_append_right _ h
    · exact .inr (by simp)

/-! ### an empty rendering -/

/-- position by position -/
inductive All₂ (P : Json → Json → Prop) : List Json → List Json → Prop
  | nil : All₂ P [] []
  | cons {x y xs ys} : P x y → All₂ P xs ys → All₂ P (x :: xs) (y :: ys)

/-- an empty rendering has no `edit` step: the two arrays are related position by position, by what
    holds of the kept pairs and of the recursed pairs with an empty sub-diff -/
theorem forall₂_of_render_nil {o : Opts} {p : Path} {P : Json → Json → Prop} :
    ∀ (S : Script) (n : Bool) (k : Nat) (prev : Json), render o p n k prev S = [] →
      (∀ x y, Step.keep x y ∈ S → P x y) →
      (∀ x y, Step.sub x y ∈ S → ∀ q, diffNode o false x y q = [] → P x y) →
      All₂ P (src S) (tgt S)
  | [], _, _, _, _, _, _ => .nil
  | .keep x y :: r, _, k, _, h, hk, hs =>
    .cons (hk x y List.mem_cons_self) (forall₂_of_render_nil r true (k + 1) y (by simpa [render] using h)
      (fun x y hm => hk x y (.tail _ hm)) (fun x y hm => hs x y (.tail _ hm)))
  | .sub x y :: r, n, k, _, h, hk, hs => by
    simp only [render, List.append_eq_nil_iff, subAfter_eq_nil_iff] at h
    exact .cons (hs x y List.mem_cons_self _ h.1) (forall₂_of_render_nil r true (k + 1) y h.2
      (fun x y hm => hk x y (.tail _ hm)) (fun x y hm => hs x y (.tail _ hm)))
  | .edit R A :: r, _, _, _, h, _, _ => by simp [render] at h

/-- the alignment of two arrays: the walk started on the whole arrays with the common sequence
    golcs returns for their hash lists -/
def alignment (o : Opts) (xs ys : List Json) : Script :=
  walk o xs ys (lcsValues (hashList o xs) (hashList o ys)) [] []

theorem alignment_src (o : Opts) (xs ys : List Json) : src (alignment o xs ys) = xs := by
  simp [alignment, walk_src]

theorem alignment_tgt (o : Opts) (xs ys : List Json) : tgt (alignment o xs ys) = ys := by
  simp [alignment, walk_tgt]


theorem alignment_ok (o : Opts) (xs ys : List Json) : ∀ st ∈ alignment o xs ys, st.ok o :=
  walk_ok o xs ys _ [] [] (LOpt.lcs _ _) (Real.HashApart.nil o) (by simp) (by simp)

/-- the elements of a step of the alignment are elements of the two arrays -/
theorem mem_of_mem_alignment {o : Opts} {xs ys : List Json} {st : Step} (h : st ∈ alignment o xs ys) :
    (∀ z ∈ st.src, z ∈ xs) ∧ (∀ z ∈ st.tgt, z ∈ ys) := by
  simpa [alignment_src, alignment_tgt] using mem_src_tgt_of_mem h

theorem diffRest_alignment (o : Opts) (p : Path) (xs ys : List Json) :
    diffRest o p 0 0 .void xs ys (lcsValues (hashList o xs) (hashList o ys)) [] [] =
      render o p true 0 .void (alignment o xs ys) :=
  diffRest_render o p xs ys _ [] [] 0 .void

/-- a list against a list, list mode, strict strategy -/
theorem diffNode_alignment {o : Opts} (ho : dispatchTag o = .list) {t t' : Tag} (xs ys : List Json)
    (ht : (t == .raw || t == .list) = true) (ht' : (t' == .raw || t' == .list) = true)
    (htt : t = .raw ∨ t' = .list) (p : Path) :
    diffNode o false (.arr t xs) (.arr t' ys) p = render o p true 0 .void (alignment o xs ys) := by
  rw [diffNode_arr_arr ho xs ys ht ht' htt, diffRest_alignment]

/-! ### what a script keeps, recurses into, removes and adds -/

/-- number of kept pairs -/
def keeps : Script → Nat
  | [] => 0
  | .keep _ _ :: r => keeps r + 1
  | _ :: r => keeps r

/-- number of pairs recursed into -/
def subs : Script → Nat
  | [] => 0
  | .sub _ _ :: r => subs r + 1
  | _ :: r => subs r

/-- what the `edit` steps remove, in order -/
def removedOf : Script → List Json
  | [] => []
  | .edit R _ :: r => R ++ removedOf r
  | _ :: r => removedOf r

/-- what the `edit` steps add, in order -/
def addedOf : Script → List Json
  | [] => []
  | .edit _ A :: r => A ++ addedOf r
  | _ :: r => addedOf r

theorem keeps_append : ∀ (S1 S2 : Script), keeps (S1 ++ S2) = keeps S1 + keeps S2
  | [], _ => by simp [keeps]
  | .keep _ _ :: r, S2 => by simp [keeps, keeps_append r S2]; omega
  | .sub _ _ :: r, S2 => by simp [keeps, keeps_append r S2]
  | .edit _ _ :: r, S2 => by simp [keeps, keeps_append r S2]

@[simp] theorem keeps_editIf (R A : List Json) : keeps (editIf R A) = 0 := by
  rcases editIf_cases R A with ⟨rfl, rfl⟩ | ⟨_, e⟩
  · rfl
  · rw [e]; simp [keeps]

theorem removedOf_sublist : ∀ (S : Script), (removedOf S).Sublist (src S)
  | [] => List.Sublist.refl _
  | .keep x _ :: r => by
    simpa [removedOf, Step.src] using (removedOf_sublist r).cons x
  | .sub x _ :: r => by
    simpa [removedOf, Step.src] using (removedOf_sublist r).cons x
  | .edit R _ :: r => by
    simpa [removedOf, Step.src] using List.Sublist.append (List.Sublist.refl R) (removedOf_sublist r)

theorem addedOf_sublist : ∀ (S : Script), (addedOf S).Sublist (tgt S)
  | [] => List.Sublist.refl _
  | .keep _ y :: r => by
    simpa [addedOf, Step.tgt] using (addedOf_sublist r).cons y
  | .sub _ y :: r => by
    simpa [addedOf, Step.tgt] using (addedOf_sublist r).cons y
  | .edit _ A :: r => by
    simpa [addedOf, Step.tgt] using List.Sublist.append (List.Sublist.refl A) (addedOf_sublist r)

/-- **the kept pairs are the common sequence**: when `c` is a common subsequence of the two
    remaining hash lists, the walk keeps exactly `|c|` pairs -/
theorem walk_keeps (o : Opts) : ∀ (a b : List Json) (c : List UInt64) (R A : List Json),
    c.Sublist (hashList o a) → c.Sublist (hashList o b) → keeps (walk o a b c R A) = c.length := by
  intro a b c R A
  fun_induction walk o a b c R A with
  | case1 b c R A =>
    intro h _
    have : c = [] := by simpa [hashList] using h
    simp [this]
  | case2 x a' c R A =>
    intro _ h
    have : c = [] := by simpa [hashList] using h
    simp [this]
  | case3 x a' y b' c R A h ih =>
    intro hca hcb
    simp only [Bool.and_eq_true] at h
    rw [hashList_cons] at hca hcb
    have ec := atC_true h.1
    have hca' : c.tail.Sublist (hashList o a') := by
      rw [ec] at hca; exact List.cons_sublist_cons.1 hca
    have hcb' : c.tail.Sublist (hashList o b') := by
      rw [atC_true h.2] at hcb; exact List.cons_sublist_cons.1 hcb
    have hlen : c.length = c.tail.length + 1 := by
      conv => lhs; rw [ec]
      simp
    rw [keeps_append, keeps_editIf, keeps, ih hca' hcb', hlen]
    omega
  | case4 x a' y b' c R A h1 h2 ih =>
    intro hca hcb
    have hB : atC o y c = false := by simpa [h2] using h1
    rw [hashList_cons] at hcb
    exact ih hca (sublist_of_head_ne hcb (atC_false hB))
  | case5 x a' y b' c R A h1 h2 h3 ih =>
    intro hca hcb
    rw [hashList_cons] at hca
    exact ih (sublist_of_head_ne hca (atC_false (by simpa using h2))) hcb
  | case6 x a' y b' c R A h1 h2 h3 h4 ih =>
    intro hca hcb
    rw [hashList_cons] at hca hcb
    simp [keeps_append, keeps,
      ih (sublist_of_head_ne hca (atC_false (by simpa using h2)))
        (sublist_of_head_ne hcb (atC_false (by simpa using h3)))]
  | case7 x a' y b' c R A h1 h2 h3 h4 ih =>
    intro hca hcb
    rw [hashList_cons] at hca hcb
    exact ih (sublist_of_head_ne hca (atC_false (by simpa using h2)))
      (sublist_of_head_ne hcb (atC_false (by simpa using h3)))

/-- every element of the first array is kept, recursed into, or removed — exactly one of the three -/
theorem src_length_eq : ∀ (S : Script), (src S).length = keeps S + subs S + (removedOf S).length
  | [] => rfl
  | .keep _ _ :: r => by
    have := src_length_eq r
    simp only [src_cons, Step.src, List.length_append, List.length_cons, List.length_nil, keeps,
      subs, removedOf]
    omega
  | .sub _ _ :: r => by
    have := src_length_eq r
    simp only [src_cons, Step.src, List.length_append, List.length_cons, List.length_nil, keeps,
      subs, removedOf]
    omega
  | .edit _ _ :: r => by
    have := src_length_eq r
    simp only [src_cons, Step.src, List.length_append, keeps, subs, removedOf]
    omega

/-- every element of the second array is kept, recursed into, or added — exactly one of the three -/
theorem tgt_length_eq : ∀ (S : Script), (tgt S).length = keeps S + subs S + (addedOf S).length
  | [] => rfl
  | .keep _ _ :: r => by
    have := tgt_length_eq r
    simp only [tgt_cons, Step.tgt, List.length_append, List.length_cons, List.length_nil, keeps,
      subs, addedOf]
    omega
  | .sub _ _ :: r => by
    have := tgt_length_eq r
    simp only [tgt_cons, Step.tgt, List.length_append, List.length_cons, List.length_nil, keeps,
      subs, addedOf]
    omega
  | .edit _ _ :: r => by
    have := tgt_length_eq r
    simp only [tgt_cons, Step.tgt, List.length_append, keeps, subs, addedOf]
    omega


end Jd.Align
