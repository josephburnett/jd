/-
  JdProofs.PatchParseBack — property C10, first clause: reading jd's own JSON Patch output gives the
  diff back (up to a stated normal form of the context lines), and applying what was read back to
  `a` reproduces `b`.

  `Jd.PB`: the `Bool`-valued domain `PBwf` of jd's own output with the separation of consecutive hunks
  `sepH`, the normal form `normPB` and the shape `jdShaped` of jd's own list hunks, what jd writes for
  the payload of a hunk (`remOpsOf_pairs`, `addOpsOf_run`), and the corollaries about APPLYING what was
  read back (`applyStrictAll_normPB`, `patchM_normPB`, `normH_eq_self`).
  `Jd.NMP`: `rerender`, what jd itself would write for a diff (with the writer `wpL`, appends in
  application order); the grammar `Gwf` (hunks of `PBwfH` or appends; any values, any indices) with its
  normal form `normG`. Reading is a list computation on the reader's fold (JdProofs.PatchRead): per
  hunk `HunkSteps` (`pb_hunkSteps`, `append_hunkSteps`), with the context check proved on the written
  tests (`checkOne_ctxW`, `ctxTestOK_of_written`); a whole diff `readPatchOps_of_hunkSteps`,
  `readPatchOps_of_grammar` (= `readPatchOps_rerender`). For `renderPatchOps` on `PBwf`:
  `PB.readPatch_render`, `PB.readPatch_render_patch` (the element loop alone), `readPatchOps_render`,
  `readPatchOps_render_patch` (the reader with the context check).

  The reader's coalescing rule (D26): an element that removes is not coalesced
  into a hunk that already adds; inside one rendered hunk all removals precede all additions, so
  the rule never fires there.

  Hypothesis `FloatLaws` (only `refl` is used): the reader compares the value of each `test` with
  the value of the `remove` that follows, and the paths of consecutive elements, with `Equals`;
  float comparison is opaque to the kernel.

  The only difference between `d` and `normPB d` on jd-shaped diffs: an array hunk that only adds
  and has the void marker on both sides (`[] → [x…]`) is read back WITHOUT context (JSON Patch has
  no test for "the array is empty"); everything else is read back verbatim (`normH_eq_self`).
-/
import JdProofs.PatchRender
import JdProofs.PatchRead

namespace Jd.PB
open Jd Jd.Spec

/-! ## what jd writes for the payload of a hunk -/

/-- a context list with a real (non-boundary) entry -/
def realCtx (c : List Json) : Bool := c.any (fun n => !n.isVoid)

theorem hasContext_eq (h : Hunk) : hasContext h = (realCtx h.before || realCtx h.after) := rfl

/-- a removed value the reader accepts (`test v` then `remove v` compares `v` with itself) -/
def valOK (v : Json) : Bool := !v.isVoid && v.listDoc && v.wf && v.finiteNums

theorem equals_self (L : FloatLaws) {v : Json} (h : valOK v = true) : equals [] v v = true := by
  simp only [valOK, Bool.and_eq_true] at h
  exact equals_refl_list L [] rfl (by decide) v h.1.1.2 h.1.2 h.2

structure PCtx (s : String) (p : Path) : Prop where
  rp : readPointer s = .ok p
  eq : pathEq p p = true
  nl : lastIdx? p ≠ some (-1)

/-! ### one hunk: the domain and the normal form -/

theorem realCtx_false_of {c : List Json} (hl : c.length ≤ 1) (h : c.length = 1 → c = [.void]) :
    realCtx c = false := by
  match c, hl with
  | [], _ => rfl
  | [b], _ => have := h rfl; injection this with this; subst this; rfl

theorem realCtx_single {b : Json} (h : b.isVoid = false) : realCtx [b] = true := by
  simp [realCtx, h]

theorem lastIdx_bounds {p : Path} {i : Int} (hp : pathOK p = true) (h : lastIdx? p = some i) :
    0 ≤ i ∧ i < 2 ^ 53 :=
  pathOK_bounds hp i (lastIdx_mem h)

theorem lastIdx_setLastIdx (p : Path) (j : Int) : lastIdx? (setLastIdx p j) = some j := by
  simp [setLastIdx, lastIdx?]

/-- context list as the reader reconstructs it: the value where a test was rendered, the array
    boundary marker otherwise -/
def normCtx (c : List Json) : List Json := if realCtx c then c else [.void]

theorem realCtx_normCtx (c : List Json) : realCtx (normCtx c) = realCtx c := by
  unfold normCtx
  cases h : realCtx c
  · simp only [Bool.false_eq_true, if_false]; rfl
  · rw [if_pos rfl]; exact h

theorem realCtx_nil : realCtx [] = false := rfl

theorem realCtx_ite (c : Bool) (l : List Json) :
    realCtx (if c = true then normCtx l else []) = (c && realCtx l) := by
  cases c
  · simp only [Bool.false_eq_true, if_false, Bool.false_and]; rfl
  · simp only [if_true, Bool.true_and, realCtx_normCtx]

/-- **the domain, one hunk**: what a list-mode `Diff` produces and `RenderPatch` accepts.
    Strict hunk; path of keys (not number-like, not `-`) and indices `0 ≤ i < 2^53`; at most one
    line of context on each side; removed values are real, well-formed list-mode documents without
    NaN/Inf (the reader compares each with itself), added values are not the void marker; something
    is removed or added. Path ending in an index `i`: a real `before` line needs `i ≥ 1`, and
    `i + |remove| < 2^53`. Path ending in a key, or the root: no real context, at most one removed
    and one added value. -/
def PBwfH (h : Hunk) : Bool :=
  !h.merge && pathOK h.path && decide (h.before.length ≤ 1) && decide (h.after.length ≤ 1) &&
  h.remove.all valOK && h.add.all (fun v => !v.isVoid) && !(h.remove.isEmpty && h.add.isEmpty) &&
  (match lastIdx? h.path with
   | some i => (!realCtx h.before || decide (1 ≤ i)) && decide (i + (h.remove.length : Int) < 2 ^ 53)
   | none => !realCtx h.before && !realCtx h.after && decide (h.remove.length ≤ 1) &&
             decide (h.add.length ≤ 1))

/-- the conjuncts of `PBwfH`, by name -/
theorem PBwfH_props {h : Hunk} (hw : PBwfH h = true) :
    h.merge = false ∧ pathOK h.path = true ∧ h.before.length ≤ 1 ∧ h.after.length ≤ 1 ∧
    h.remove.all valOK = true ∧ h.add.all (fun v => !v.isVoid) = true ∧
    (h.remove.isEmpty && h.add.isEmpty) = false ∧
    (match lastIdx? h.path with
     | some i => (!realCtx h.before || decide (1 ≤ i)) && decide (i + (h.remove.length : Int) < 2 ^ 53)
     | none => !realCtx h.before && !realCtx h.after && decide (h.remove.length ≤ 1) &&
               decide (h.add.length ≤ 1)) = true := by
  simp only [PBwfH, Bool.and_eq_true, Bool.not_eq_true', decide_eq_true_eq] at hw
  obtain ⟨⟨⟨⟨⟨⟨⟨hm, hp⟩, hbl⟩, hal⟩, hR⟩, hS⟩, hne⟩, hcase⟩ := hw
  exact ⟨hm, hp, hbl, hal, hR, hS, hne, hcase⟩

/-- **the normal form, one hunk**: same path, `remove`, `add`; context as the reader reconstructs
    it. For a path ending in an index whose rendering starts with a `test` (a context test or a
    removal): the value where a context test was rendered, the boundary marker `[void]` where not.
    Otherwise (key / root paths; index hunks with adds only and no real context): no context. -/
def normH (h : Hunk) : Hunk :=
  if (lastIdx? h.path).isSome && (realCtx h.before || realCtx h.after || !h.remove.isEmpty) then
    { path := h.path, before := normCtx h.before, after := normCtx h.after,
      remove := h.remove, add := h.add }
  else { path := h.path, remove := h.remove, add := h.add }

theorem remOpsOf_pairs {s : String} {R : List Json} (h : R.all valOK = true) :
    remOpsOf s R = remPairs s R := by
  rw [remOpsOf_eq]
  · rfl
  · intro x hx
    have := List.all_eq_true.1 h x hx
    simp only [valOK, Bool.and_eq_true, Bool.not_eq_true'] at this
    exact this.1.1.1

theorem addOpsOf_run {s : String} {S : List Json} (h : S.all (fun v => !v.isVoid) = true) :
    addOpsOf s S = addRun s S.reverse := by
  rw [addOpsOf_eq]
  · rfl
  · intro x hx
    simpa using List.all_eq_true.1 h x hx

/-! ### a whole diff -/

/-- separation of consecutive hunks: the reader would coalesce the first element of the second
    hunk into the first hunk if their paths compare equal and the second has no real context line.
    (jd's list diff emits at most one hunk per position of one array, and a later hunk on the same
    index carries the context line that separates it.) -/
def sepH (h1 h2 : Hunk) : Bool := !(pathEq h1.path h2.path) || hasContext h2

def chainOK : Diff → Bool
  | h1 :: h2 :: r => sepH h1 h2 && chainOK (h2 :: r)
  | _ => true

/-- **the domain** -/
def PBwf (d : Diff) : Bool := d.all PBwfH && chainOK d

def normPB (d : Diff) : Diff := d.map normH

theorem normH_path (h : Hunk) : (normH h).path = h.path := by
  unfold normH; split <;> rfl

/-! ### corollary: applying what was read back -/

/-- context weakening: a hunk with the same `remove` / `add` whose context accepts at least the
    same arrays applies wherever the original applies, with the same result -/
theorem applyStrict_ctx {h h' : Hunk} (hr : h'.remove = h.remove) (ha : h'.add = h.add)
    (hsp : ∀ l i r, splice l i h = some r → splice l i h' = some r) (p : Path) :
    ∀ (n r : Json), applyStrict n p h = some r → applyStrict n p h' = some r := by
  induction p with
  | nil => intro n r e; simp only [applyStrict, hr, ha] at e ⊢; exact e
  | cons el rest ih =>
    intro n r e
    rcases applyStrict_cons_cases e with ⟨k, kvs, v, rfl, rfl, ev, rfl⟩ | ⟨i, t, xs, l, rfl, rfl, rfl, hl, rfl⟩ |
      ⟨i, t, xs, x, v, rfl, hne, rfl, hi, hx, ev, rfl⟩
    · rw [applyStrict_key_cons, ih _ _ ev]
      rfl
    · rw [applyStrict_idx_nil]
      show (splice xs i h').map _ = _
      rw [hsp _ _ _ hl]
      rfl
    · obtain ⟨e2, rest, rfl⟩ := List.exists_cons_of_ne_nil hne
      rw [applyStrict_idx_cons, if_neg (Int.not_lt.2 hi)]
      simp only [hx]
      rw [ih _ _ ev]
      rfl

theorem normH_remove (h : Hunk) : (normH h).remove = h.remove := by
  unfold normH; split <;> rfl

theorem normH_add (h : Hunk) : (normH h).add = h.add := by
  unfold normH; split <;> rfl

theorem normH_merge (h : Hunk) : (normH h).merge = false := by
  unfold normH; split <;> rfl

theorem normCtx_single {c : List Json} (h : c.length = 1) : normCtx c = c := by
  match c, h with
  | [x], _ =>
    unfold normCtx
    cases hx : realCtx [x]
    · simp only [Bool.false_eq_true, if_false]
      cases x <;> simp_all [realCtx, Json.isVoid]
    · rfl

/-- the shape of jd's own list-mode hunks: exactly one line of context on each side of a hunk on an
    array (a value, or the void marker at the array boundary) -/
def jdShaped (h : Hunk) : Bool :=
  match lastIdx? h.path with
  | some _ => h.before.length == 1 && h.after.length == 1
  | none => true

theorem splice_normH {h : Hunk} (hs : jdShaped h = true) :
    ∀ l i r, splice l i h = some r → splice l i (normH h) = some r := by
  unfold normH
  split
  · rename_i hc
    simp only [Bool.and_eq_true] at hc
    unfold jdShaped at hs
    cases hl : lastIdx? h.path with
    | none => rw [hl] at hc; simp at hc
    | some i =>
      rw [hl] at hs
      simp only [Bool.and_eq_true, beq_iff_eq] at hs
      rw [normCtx_single hs.1, normCtx_single hs.2]
      intro l i r e
      exact e
  · intro l i r e
    simp only [splice] at e ⊢
    split at e
    · rename_i h1; rw [if_pos h1]; exact e
    · rename_i h1; rw [if_neg h1]
      split at e
      · cases e
      · rename_i h2; rw [if_neg h2]
        split at e
        · rename_i h3
          simp only [Bool.and_eq_true] at h3
          simp only [h3.1.1, beforeOk, afterOk, Bool.and_self, if_true]
          exact e
        · cases e

/-- normalising the context of jd-shaped hunks never turns an applicable diff into an
    inapplicable one, nor changes its result -/
theorem applyStrictAll_normPB : ∀ (d : Diff), d.all jdShaped = true → ∀ (a b : Json),
    applyStrictAll a d = some b → applyStrictAll a (normPB d) = some b
  | [], _, a, b, e => e
  | h :: d, hs, a, b, e => by
    simp only [List.all_cons, Bool.and_eq_true] at hs
    simp only [applyStrictAll, normPB, List.map_cons, normH_path] at e ⊢
    cases h1 : applyStrict a h.path h with
    | none => rw [h1] at e; cases e
    | some a1 =>
      rw [h1] at e
      rw [applyStrict_ctx (normH_remove h) (normH_add h) (splice_normH hs.1) _ _ _ h1]
      exact applyStrictAll_normPB d hs.2 a1 b e

theorem strictPath_of_pathOK : ∀ {p : Path}, pathOK p = true → strictPath p = true
  | [], _ => rfl
  | e :: p, h => by
    simp only [pathOK, List.all_cons, Bool.and_eq_true] at h
    have ih := strictPath_of_pathOK (p := p) h.2
    cases e with
    | key k => exact ih
    | idx i => exact ih
    | _ => exact absurd h.1 Bool.false_ne_true

theorem listDocList_normCtx {c : List Json} (h : listDocList c = true) :
    listDocList (normCtx c) = true := by
  unfold normCtx; split
  · exact h
  · rfl

theorem hunkListDoc_normH {h : Hunk} (hd : hunkListDoc h = true) : hunkListDoc (normH h) = true := by
  simp only [hunkListDoc, Bool.and_eq_true] at hd
  unfold normH; split
  · simp [hunkListDoc, hd.1.1.2, hd.1.2, listDocList_normCtx hd.1.1.1, listDocList_normCtx hd.2]
  · simp [hunkListDoc, hd.1.1.2, hd.1.2, listDocList]

/-- the library's `Patch` follows the reference semantics on the normal form of a diff of the grammar
    (JdProofs.StrictPatch: strict hunks on key / index paths carrying list documents) -/
theorem patchM_normPB {d : Diff} (hwf : d.all PBwfH = true) (hld : d.all hunkListDoc = true)
    {a b : Json} (ha : a.listDoc = true) (hN : applyStrictAll a (normPB d) = some b) :
    (normPB d).all (fun h => !h.merge && strictPath h.path && hunkListDoc h) = true ∧
      ∃ r, patchM a (normPB d) = .ok r ∧ untag r = untag b := by
  have hall : (normPB d).all (fun h => !h.merge && strictPath h.path && hunkListDoc h) = true := by
    rw [List.all_eq_true]
    intro h' hm
    obtain ⟨h0, hm0, rfl⟩ := List.mem_map.1 hm
    have hw := List.all_eq_true.1 hwf h0 hm0
    have hl := List.all_eq_true.1 hld h0 hm0
    simp only [normH_merge, normH_path, Bool.not_false, Bool.true_and, Bool.and_eq_true]
    exact ⟨strictPath_of_pathOK (PBwfH_props hw).2.1, hunkListDoc_normH hl⟩
  refine ⟨hall, ?_⟩
  have := patchM_strict_eq_ref a (normPB d) hall ha
  rw [hN] at this
  cases hP : patchM a (normPB d) with
  | ok r =>
    rw [hP] at this
    simp only [Outcome.mapO, optToOutcome, Outcome.ok.injEq] at this
    exact ⟨r, rfl, this⟩
  | err => rw [hP] at this; simp [Outcome.mapO, optToOutcome] at this
  | panic => rw [hP] at this; simp [Outcome.mapO, optToOutcome] at this

/-- when the normal form is the hunk itself: key / root hunks without context; jd-shaped array
    hunks that remove something or carry a real context line -/
theorem normH_eq_self {h : Hunk} (hw : PBwfH h = true) (hs : jdShaped h = true)
    (hk : lastIdx? h.path = none → h.before = [] ∧ h.after = [])
    (hi : (lastIdx? h.path).isSome = true → (hasContext h || !h.remove.isEmpty) = true) :
    normH h = h := by
  have hm : h.merge = false := (PBwfH_props hw).1
  unfold normH
  cases hl : lastIdx? h.path with
  | none =>
    obtain ⟨h1, h2⟩ := hk hl
    simp only [Option.isSome_none, Bool.false_and, Bool.false_eq_true, if_false]
    cases h; simp_all
  | some i =>
    have := hi (by rw [hl]; rfl)
    rw [hasContext_eq] at this
    unfold jdShaped at hs
    rw [hl] at hs
    simp only [Bool.and_eq_true, beq_iff_eq] at hs
    simp only [Option.isSome_some, Bool.true_and, this, if_true, normCtx_single hs.1,
      normCtx_single hs.2]
    cases h; simp_all

#print axioms normH_eq_self
#print axioms applyStrictAll_normPB

end Jd.PB

namespace Jd.NMP
open Jd Jd.Spec Jd.PB

/-! ## the writer `wpL` in rendered hunks; index ranges -/

theorem renderPatchHunkW_wpL {h : Hunk} (hk : keysOK h.path) :
    renderPatchHunkW wpL h = renderPatchHunk h := by
  rw [renderPatchHunk_eq_W]
  have h1 : ∀ j, wpL (setLastIdx h.path j) = writePointerPath (setLastIdx h.path j) :=
    fun j => wpL_eq_write (keysOK_setLastIdx hk j)
  unfold renderPatchHunkW ctxOpsW
  simp only [wpL_eq_write hk, h1]

theorem hunkPtrOKW_of_range {h : Hunk} (hr : HunkRange h) : HunkPtrOKW wpL h where
  ptr := ptrOKW_wpL (fun i hi => idxRT_of_bound (hr.path i hi))
  ptrBefore := fun i hi => ptrOKW_wpL (idxRange_setLastIdx hr.path (hr.ctx i hi).1)
  ptrAfter := fun i hi => ptrOKW_wpL (idxRange_setLastIdx hr.path (hr.ctx i hi).2)

theorem lastIdx_snoc {p : Path} {i : Int} (h : lastIdx? p = some i) : ∃ pp, p = pp ++ [.idx i] := by
  rcases eq_nil_or_snoc p with rfl | ⟨pp, last, rfl⟩
  · simp [lastIdx?] at h
  · refine ⟨pp, ?_⟩
    cases last <;> simp [lastIdx?] at h
    subst h; rfl

/-- on a path of member names and indices in [−1, 2^53) the hypothesis `HunkRange` only says that the index of the after-context line,
    `i + |Remove|`, is below 2^53 -/
theorem hunkRange_of_pathOKr {h : Hunk} (hp : pathOKr h.path = true)
    (hb : ∀ i, lastIdx? h.path = some i → i + (h.remove.length : Int) < 2 ^ 53) : HunkRange h := by
  refine ⟨natAbs_of_pathOKr hp, fun i hi => ?_⟩
  have := List.all_eq_true.1 hp _ (lastIdx_mem hi)
  simp only [elemOKr, Bool.and_eq_true, decide_eq_true_eq] at this
  have := hb i hi
  omega

/-- every index the re-rendering of the hunk writes is of magnitude below 2^53 -/
def hunkRangeB (h : Hunk) : Bool :=
  h.path.all (fun e => match e with | .idx i => decide (i.natAbs < 2 ^ 53) | _ => true) &&
  (match lastIdx? h.path with
   | some i => decide ((i - 1).natAbs < 2 ^ 53) && decide ((i + (h.remove.length : Int)).natAbs < 2 ^ 53)
   | none => true)

theorem hunkRangeB_sound {h : Hunk} (hb : hunkRangeB h = true) : HunkRange h := by
  simp only [hunkRangeB, Bool.and_eq_true] at hb
  constructor
  · intro i hi
    have := List.all_eq_true.1 hb.1 _ hi
    simpa using this
  · intro i hi
    have := hb.2
    rw [hi] at this
    simpa using this

theorem hunkRange_of_all {d : Diff} (hb : d.all hunkRangeB = true) : ∀ h ∈ d, HunkRange h :=
  fun h hm => hunkRangeB_sound (List.all_eq_true.1 hb h hm)

theorem hunkRangeB_complete {h : Hunk} (hr : HunkRange h) : hunkRangeB h = true := by
  simp only [hunkRangeB, Bool.and_eq_true, List.all_eq_true]
  constructor
  · intro e he
    cases e with
    | idx i => simpa using hr.path i he
    | _ => rfl
  · cases hl : lastIdx? h.path with
    | none => rfl
    | some i => simpa using hr.ctx i hl

/-! ## what jd itself would write for a diff it has read -/

/-- the operations of one hunk, as `Diff.RenderPatch` writes them, except that a hunk appending to
    an array (index −1, pointer token `-`) lists its added values in application order (the
    library's renderer reverses them, finding `cex_append_reversed` of JdProofs.PatchRender, while the
    reader keeps consecutive `-` additions in order) -/
def rerenderHunk (h : Hunk) : Outcome (List PatchOp) :=
  if lastIdx? h.path == some (-1) then
    (match wpL h.path with
     | .ok s => .ok (h.add.map (adp s))
     | .err => .err
     | .panic => .panic)
  else renderPatchHunkW wpL h

def rerender : Diff → Outcome (List PatchOp)
  | [] => .ok []
  | h :: d =>
    match rerenderHunk h, rerender d with
    | .ok a, .ok b => .ok (a ++ b)
    | _, _ => .err

theorem rerenderHunk_append {h : Hunk} (hl : lastIdx? h.path = some (-1)) {ops : List PatchOp}
    (hr : rerenderHunk h = .ok ops) : ∃ s, wpL h.path = .ok s ∧ ops = h.add.map (adp s) := by
  simp only [rerenderHunk, hl, beq_self_eq_true, if_true] at hr
  cases hs : wpL h.path with
  | err => rw [hs] at hr; cases hr
  | panic => rw [hs] at hr; cases hr
  | ok s => rw [hs] at hr; exact ⟨s, rfl, (Outcome.ok.inj hr).symm⟩

theorem rerender_nil {ops : List PatchOp} (e : rerender [] = .ok ops) : ops = [] := by
  rw [rerender] at e; exact (Outcome.ok.inj e).symm

theorem rerender_ok_cons {h : Hunk} {d : Diff} {ops : List PatchOp}
    (e : rerender (h :: d) = .ok ops) :
    ∃ a b, rerenderHunk h = .ok a ∧ rerender d = .ok b ∧ ops = a ++ b := by
  simp only [rerender] at e
  split at e
  · rename_i a b ha hb
    injection e with e
    exact ⟨a, b, ha, hb, e.symm⟩
  · cases e

/-! ## an intrinsic grammar: jd's own layout, any values, any indices, appends -/

/-! ### the reader's normal form renders like the hunk -/


theorem ctxOps_path {h h' : Hunk} (hp : h'.path = h.path) (c : List Json) (f : Int → Int) :
    ctxOps h' c f = ctxOps h c f := by
  unfold ctxOps
  rw [hp]

theorem ctxOps_not_real {h : Hunk} {c : List Json} (hl : c.length ≤ 1) (hr : realCtx c = false)
    (f : Int → Int) : ctxOps h c f = .ok [] := by
  match c, hl with
  | [], _ => rfl
  | [b], _ =>
    have : b.isVoid = true := by simpa [realCtx] using hr
    simp [ctxOps, this]

theorem normCtx_length {c : List Json} (hl : c.length ≤ 1) : (normCtx c).length ≤ 1 := by
  unfold normCtx; split
  · exact hl
  · simp

theorem ctxOps_normCtx {h : Hunk} {c : List Json} (hl : c.length ≤ 1) (f : Int → Int) :
    ctxOps h (normCtx c) f = ctxOps h c f := by
  cases hr : realCtx c with
  | true => simp [normCtx, hr]
  | false =>
    rw [ctxOps_not_real hl hr, ctxOps_not_real (normCtx_length hl) (by rw [realCtx_normCtx]; exact hr)]

theorem renderPatchHunk'_congr {h h' : Hunk} (hp : h'.path = h.path) (hr : h'.remove = h.remove)
    (ha : h'.add = h.add) (hbl' : h'.before.length ≤ 1) (hbl : h.before.length ≤ 1)
    (hal' : h'.after.length ≤ 1) (hal : h.after.length ≤ 1)
    (hb : ∀ f, ctxOps h h'.before f = ctxOps h h.before f)
    (hc : ∀ f, ctxOps h h'.after f = ctxOps h h.after f) :
    renderPatchHunk' h' = renderPatchHunk' h := by
  unfold renderPatchHunk'
  rw [ctxOps_path hp, ctxOps_path hp, hp, hr, ha, hb, hc]
  have h1 : ¬ h'.before.length > 1 := by omega
  have h2 : ¬ h'.after.length > 1 := by omega
  have h3 : ¬ h.before.length > 1 := by omega
  have h4 : ¬ h.after.length > 1 := by omega
  simp only [h1, h2, h3, h4, if_false]

/-- the normal form of a hunk renders like the hunk -/
theorem renderPatchHunk_normH {h : Hunk} (hw : PBwfH h = true) :
    renderPatchHunk (normH h) = renderPatchHunk h := by
  obtain ⟨hm, hp, hbl, hal, hR, hS, _, hcase⟩ := PBwfH_props hw
  rw [renderPatchHunk_eq, renderPatchHunk_eq]
  unfold normH
  split
  · exact renderPatchHunk'_congr rfl rfl rfl (normCtx_length hbl) hbl (normCtx_length hal) hal
      (fun f => ctxOps_normCtx hbl f) (fun f => ctxOps_normCtx hal f)
  · rename_i hc
    have hrb : realCtx h.before = false ∧ realCtx h.after = false := by
      cases hl : lastIdx? h.path with
      | none =>
        rw [hl] at hcase
        simp only [Bool.and_eq_true, Bool.not_eq_true', decide_eq_true_eq] at hcase
        exact ⟨hcase.1.1.1, hcase.1.1.2⟩
      | some i =>
        rw [hl] at hc
        simp only [Option.isSome_some, Bool.true_and, Bool.or_eq_true, Bool.not_eq_true',
          not_or, Bool.not_eq_true] at hc
        exact ⟨hc.1.1, hc.1.2⟩
    exact renderPatchHunk'_congr rfl rfl rfl (by simp) hbl (by simp) hal
      (fun f => by rw [ctxOps_not_real hbl hrb.1]; rfl)
      (fun f => by rw [ctxOps_not_real hal hrb.2]; rfl)


/-! ### the grammar, the reader on it, the theorem -/


/-- a hunk appending to an array: index −1 at the end of a supported path, nothing removed, at least
    one real value added (its context lines, if any, are neither written nor looked at) -/
def appendH (h : Hunk) : Bool :=
  !h.merge && pathOK' h.path && (lastIdx? h.path == some (-1)) && h.remove.isEmpty &&
  !h.add.isEmpty && h.add.all (fun v => !v.isVoid)

/-- the grammar, one hunk: a hunk of the parse-back domain `PB.PBwfH` or an append hunk -/
def GH (h : Hunk) : Bool := PBwfH h || appendH h

/-- what the reader gives back for a hunk of the grammar -/
def normG (h : Hunk) : Hunk :=
  if lastIdx? h.path == some (-1) then { path := h.path, add := h.add } else normH h

/-- consecutive hunks are told apart by the reader: different paths, or the second starts with a
    real context test -/
def sepG (h1 h2 : Hunk) : Bool :=
  !(pathEq h1.path h2.path) || (hasContext h2 && !(lastIdx? h2.path == some (-1)))

def chainG : Diff → Bool
  | h1 :: h2 :: r => sepG h1 h2 && chainG (h2 :: r)
  | _ => true

/-- **the grammar** -/
def Gwf (d : Diff) : Bool := d.all GH && chainG d

theorem GH_cases {h : Hunk} (hw : GH h = true) : PBwfH h = true ∨ appendH h = true := by
  simpa [GH] using hw

theorem appendH_props {h : Hunk} (hw : appendH h = true) :
    pathOK' h.path = true ∧ lastIdx? h.path = some (-1) ∧ h.remove = [] ∧ h.add ≠ [] ∧
      ∀ v ∈ h.add, v.isVoid = false := by
  simp only [appendH, Bool.and_eq_true, Bool.not_eq_true', beq_iff_eq, List.isEmpty_iff,
    List.all_eq_true] at hw
  obtain ⟨⟨⟨⟨⟨_, hp⟩, hl⟩, hrem⟩, hne⟩, hS⟩ := hw
  exact ⟨hp, hl, hrem, by simpa using hne, fun v hv => by simpa using hS v hv⟩

/-- a hunk of the parse-back domain: supported path, last index `0 ≤ i`, `i + |Remove| < 2^53` -/
theorem PBwfH_idx {h : Hunk} (hw : PBwfH h = true) : pathOK h.path = true ∧
    ∀ i, lastIdx? h.path = some i → 0 ≤ i ∧ i + (h.remove.length : Int) < 2 ^ 53 := by
  obtain ⟨_, hp, _, _, _, _, _, hcase⟩ := PBwfH_props hw
  refine ⟨hp, fun i hi => ?_⟩
  rw [hi] at hcase
  simp only [Bool.and_eq_true, decide_eq_true_eq] at hcase
  exact ⟨(lastIdx_bounds hp hi).1, hcase.2⟩

theorem lastIdx_ne_of_PBwfH {h : Hunk} (hw : PBwfH h = true) : (lastIdx? h.path == some (-1)) = false := by
  cases hl : lastIdx? h.path with
  | none => rfl
  | some i =>
    have := (PBwfH_idx hw).2 i hl
    simp only [beq_eq_false_iff_ne, ne_eq, Option.some.injEq]
    omega

theorem keysOK_of_PBwfH {h : Hunk} (hw : PBwfH h = true) : keysOK h.path :=
  keysOK_of_pathOK' (pathOK'_of_pathOK (PBwfH_idx hw).1)

theorem rerenderHunk_of_PBwfH {h : Hunk} (hw : PBwfH h = true) : rerenderHunk h = renderPatchHunk h := by
  simp [rerenderHunk, lastIdx_ne_of_PBwfH hw, renderPatchHunkW_wpL (keysOK_of_PBwfH hw)]

theorem normG_of_PBwfH {h : Hunk} (hw : PBwfH h = true) : normG h = normH h := by
  simp [normG, lastIdx_ne_of_PBwfH hw]

theorem normG_path (h : Hunk) : (normG h).path = h.path := by
  unfold normG; split
  · rfl
  · exact normH_path h

theorem rerenderHunk_normG {h : Hunk} (hw : GH h = true) : rerenderHunk (normG h) = rerenderHunk h := by
  rcases GH_cases hw with hP | hA
  · rw [normG_of_PBwfH hP, rerenderHunk_of_PBwfH hP]
    have : (lastIdx? (normH h).path == some (-1)) = false := by
      rw [normH_path]; exact lastIdx_ne_of_PBwfH hP
    simp only [rerenderHunk, this, Bool.false_eq_true, if_false]
    rw [renderPatchHunkW_wpL (by rw [normH_path]; exact keysOK_of_PBwfH hP)]
    exact renderPatchHunk_normH hP
  · simp [rerenderHunk, normG, (appendH_props hA).2.1]

theorem rerender_map_normG : ∀ {d : Diff}, d.all GH = true → rerender (d.map normG) = rerender d
  | [], _ => rfl
  | h :: d, hw => by
    simp only [List.all_cons, Bool.and_eq_true] at hw
    simp only [List.map_cons, rerender, rerenderHunk_normG hw.1, rerender_map_normG hw.2]

theorem hunkRange_normG {h : Hunk} (hw : GH h = true) : HunkRange (normG h) := by
  rcases GH_cases hw with hP | hA
  · rw [normG_of_PBwfH hP]
    obtain ⟨hp, hidx⟩ := PBwfH_idx hP
    refine hunkRange_of_pathOKr (by rw [normH_path]; exact pathOKr_of_pathOK' (pathOK'_of_pathOK hp))
      fun i hi => ?_
    rw [normH_path] at hi
    rw [normH_remove]
    exact (hidx i hi).2
  · obtain ⟨hp, hl, _, _, _⟩ := appendH_props hA
    have hN : normG h = { path := h.path, add := h.add } := by simp [normG, hl]
    rw [hN]
    refine hunkRange_of_pathOKr (pathOKr_of_pathOK' hp) fun i hi => ?_
    cases Option.some.inj (hl.symm.trans hi)
    show (-1 : Int) + ((0 : Nat) : Int) < 2 ^ 53
    decide

theorem hunkRange_map_normG {d : Diff} (hG : d.all GH = true) : ∀ h ∈ d.map normG, HunkRange h := by
  intro h hm
  obtain ⟨h0, hm0, rfl⟩ := List.mem_map.1 hm
  exact hunkRange_normG (List.all_eq_true.1 hG h0 hm0)

/-! ## parse-back and the grammar: the reader with the context check -/

/-- the context test jd writes passes the context check -/
theorem ctxTestOK_of_written (L : FloatLaws) {h : Hunk} {t : PatchOp} {off i : Int}
    (hpok : pathOK' h.path = true) (hi : lastIdx? h.path = some i) (h0 : 0 ≤ i)
    (hb : -1 ≤ i + off ∧ i + off < 2 ^ 53) (hop : t.op = "test")
    (hw : writePointerPath (setLastIdx h.path (i + off)) = .ok t.path) :
    ctxTestOK h t off = .ok true := by
  obtain ⟨hp, hhp⟩ := lastIdx_snoc hi
  rw [hhp, setLastIdx_concat] at hw
  rw [hhp, pathOK'_append, Bool.and_eq_true] at hpok
  have hok : pathOK' (hp ++ [.idx (i + off)]) = true := by
    rw [pathOK'_append, hpok.1]
    simp only [pathOK', List.all_cons, List.all_nil, elemOK', Bool.and_true, Bool.true_and,
      Bool.and_eq_true, decide_eq_true_eq]
    exact hb
  have hr := readPointer_write' hok hw
  have heq := pathEq_refl L (pathOKr_of_pathOK' hpok.1)
  unfold pathEq at heq
  unfold ctxTestOK
  rw [hr, hhp]
  simp [hop, lastIdx_concat_idx, heq, h0]


/-! ### a whole diff: the steps of its hunks one after the other, with the context check -/

theorem length_le_flatMap : ∀ (steps : List Step), (∀ x ∈ steps, Reads x) →
    steps.length ≤ (steps.flatMap (·.ops)).length
  | [], _ => Nat.le_refl _
  | x :: steps, h => by
    have := length_le_flatMap steps (fun y hy => h y (List.mem_cons_of_mem _ hy))
    have : 0 < x.ops.length := List.length_pos_iff.2 (h x List.mem_cons_self).1
    simp only [List.flatMap_cons, List.length_append, List.length_cons]
    omega

/-- the second hunk of two is not coalesced into the first: it starts with a real context test -/
def flagG (h : Hunk) : Bool := hasContext h && !(lastIdx? h.path == some (-1))

/-- **reading what jd writes for one hunk**: the operations `ops` are steps the reader reads; unless the
    first is coalesced into the element before it (`sep`), their fold appends ONE element `N` and one
    context entry, and that entry passes the check of `N` -/
def HunkSteps (p : Path) (flag : Bool) (ops : List PatchOp) (N : Hunk) : Prop :=
  ∃ (steps : List Step) (c : PatchCtx), ops = steps.flatMap (·.ops) ∧ (∀ x ∈ steps, Reads x) ∧
    (∀ acc cs, sep acc p flag = true → steps.foldl pushStep (acc, cs) = (acc ++ [N], cs ++ [c])) ∧
    checkPatchCtx N c = .ok ()

theorem diff_steps : ∀ (d : Diff), chainG d = true → ∀ ops, rerender d = .ok ops →
    (∀ h ∈ d, ∀ a, rerenderHunk h = .ok a → HunkSteps h.path (flagG h) a (normG h)) →
    ∃ (steps : List Step) (cs' : List PatchCtx), ops = steps.flatMap (·.ops) ∧ (∀ x ∈ steps, Reads x) ∧
      (∀ acc cs, (∀ h, d.head? = some h → sep acc h.path (flagG h) = true) →
        steps.foldl pushStep (acc, cs) = (acc ++ d.map normG, cs ++ cs')) ∧
      checkPatchCtxs (d.map normG) cs' = .ok ()
  | [], _, ops, hr, _ => by
    obtain rfl := rerender_nil hr
    exact ⟨[], [], rfl, by simp, by simp, rfl⟩
  | h :: d, hc, ops, hr, hH => by
    obtain ⟨a, b, ha, hb, rfl⟩ := rerender_ok_cons hr
    obtain ⟨s1, c, rfl, hr1, hf1, hk1⟩ := hH h List.mem_cons_self a ha
    have hc' : chainG d = true ∧ ∀ h2, d.head? = some h2 → ∀ acc : Diff,
        sep (acc ++ [normG h]) h2.path (flagG h2) = true := by
      cases d with
      | nil => exact ⟨rfl, fun _ h0 => nomatch h0⟩
      | cons h2 r =>
        simp only [chainG, Bool.and_eq_true] at hc
        refine ⟨hc.2, fun h3 e3 acc => ?_⟩
        cases Option.some.inj e3
        simp only [sep, List.getLast?_append, List.getLast?_singleton, Option.some_or, normG_path]
        exact hc.1
    obtain ⟨s2, cs2, rfl, hr2, hf2, hk2⟩ := diff_steps d hc'.1 b hb
      (fun h' hm => hH h' (List.mem_cons_of_mem _ hm))
    refine ⟨s1 ++ s2, c :: cs2, by simp, fun x hx => (List.mem_append.1 hx).elim (hr1 x) (hr2 x),
      fun acc cs hs => ?_, by simp only [List.map_cons, checkPatchCtxs, hk1, hk2]⟩
    rw [List.foldl_append, hf1 acc cs (hs h rfl), hf2 _ _ (fun h2 e2 => hc'.2 h2 e2 acc)]
    simp

/-- **parse-back with the full reader** from the per-hunk statement -/
theorem readPatchOps_of_hunkSteps {d : Diff} (hc : chainG d = true) {ops : List PatchOp}
    (hr : rerender d = .ok ops)
    (hH : ∀ h ∈ d, ∀ a, rerenderHunk h = .ok a → HunkSteps h.path (flagG h) a (normG h)) :
    readPatchOps ops = .ok (d.map normG) := by
  obtain ⟨steps, cs', rfl, hreads, hfold, hk⟩ := diff_steps d hc ops hr hH
  obtain ⟨h1, h2⟩ := steps_read hreads (Nat.lt_succ_of_le (length_le_flatMap steps hreads)) [] []
  rw [hfold [] [] (fun _ _ => rfl)] at h1 h2
  simp only [List.nil_append] at h1 h2
  simp only [readPatchOps, h1, h2, hk]


/-! ### one hunk of the grammar -/

/-- an append hunk -/
theorem append_hunkSteps (L : FloatLaws) {h : Hunk} (hw : appendH h = true) {ops : List PatchOp}
    (hr : rerenderHunk h = .ok ops) : HunkSteps h.path (flagG h) ops (normG h) := by
  obtain ⟨hp, hl, hrem, hne, _⟩ := appendH_props hw
  obtain ⟨s, hws, rfl⟩ := rerenderHunk_append hl hr
  rw [wpL_eq_write (keysOK_of_pathOK' hp)] at hws
  have rp := readPointer_write' hp hws
  have heq := pathEq_refl L (pathOKr_of_pathOK' hp)
  have hN : normG h = { path := h.path, add := h.add } := by simp [normG, hl]
  have hfl : flagG h = false := by simp [flagG, hl]
  obtain ⟨b, bs, hadd⟩ := List.exists_cons_of_ne_nil hne
  refine ⟨h.add.map (addStep s h.path), {}, (flatMap_addSteps s h.path h.add).symm,
    fun x hx => ?_, fun acc cs hs => ?_, by rw [hN]; rfl⟩
  · obtain ⟨b, _, rfl⟩ := List.mem_map.1 hx
    exact addStep_reads rp
  · rw [hfl] at hs
    rw [hN, hadd, List.map_cons, List.foldl_cons, addStep, pushStep_sep (by exact hs), fold_adds heq]
    simp [hl]


/-- the one test a context line is rendered to: as the reader sees it, and as it was written -/
def CtxW (p : Path) (bo : List PatchOp) (ctx : List Json) (j : Int) : Prop :=
  (bo = [] ∧ realCtx ctx = false) ∨
  ∃ b pp q, ctx = [b] ∧ realCtx ctx = true ∧ bo = [tst pp b] ∧ readPointer pp = .ok q ∧
    lastIdx? q = some j ∧ writePointerPath (setLastIdx p j) = .ok pp

theorem ctxW_cases {h : Hunk} {ctx : List Json} {f : Int → Int} {bo : List PatchOp} {i : Int}
    (hp : pathOK h.path = true) (hl : lastIdx? h.path = some i) (hlen : ctx.length ≤ 1)
    (e : ctxOps h ctx f = .ok bo) (hf : realCtx ctx = true → 0 ≤ f i ∧ f i < 2 ^ 53) :
    CtxW h.path bo ctx (f i) := by
  rcases ctxOps_ok e with ⟨rfl, hv⟩ | ⟨b, i', pp, rfl, hb, hi', hw, rfl⟩
  · exact Or.inl ⟨rfl, realCtx_false_of hlen hv⟩
  · cases hl.symm.trans hi'
    obtain ⟨h0, h1⟩ := hf (realCtx_single hb)
    exact Or.inr ⟨b, pp, _, rfl, realCtx_single hb, rfl, readPointer_write (pathOK_setLastIdx hp h0 h1) hw,
      lastIdx_setLastIdx _ _, hw⟩

/-- the written context test passes the check of any element with that path -/
theorem checkOne_ctxW (L : FloatLaws) {N : Hunk} {bo : List PatchOp} {ctx : List Json} {i off : Int}
    (hpok : pathOK' N.path = true) (hi : lastIdx? N.path = some i) (h0 : 0 ≤ i)
    (hb : -1 ≤ i + off ∧ i + off < 2 ^ 53) {j : Int} (hj : j = i + off) (hC : CtxW N.path bo ctx j) :
    checkOne N bo.head? off = .ok () := by
  subst hj
  rcases hC with ⟨rfl, _⟩ | ⟨b, pp, q, _, _, rfl, _, _, hw⟩
  · rfl
  · simp only [List.head?_cons, checkOne, ctxTestOK_of_written L hpok hi h0 hb (t := tst pp b) rfl hw]

/-- the first element read from a rendered index hunk that removes -/
theorem first_shape_rem {s : String} {p : Path} {i j : Int} (hp : readPointer s = .ok p)
    (hi : lastIdx? p = some i) {bo ao : List PatchOp} {cb ca : List Json}
    (hB : CtxW p bo cb (i - 1)) (hA : CtxW p ao ca j) (hj : i < j) {x : Json}
    (hx : equals [] x x = true) :
    Reads ⟨bo ++ ao ++ [tst s x, rmv s x],
      { path := p, before := normCtx cb, after := normCtx ca, remove := [x] },
      { before := bo.head?, after := ao.head? }⟩ := by
  rcases hB with ⟨rfl, hb⟩ | ⟨b, pp, q, rfl, hb, rfl, hq, hql, _⟩ <;>
  rcases hA with ⟨rfl, ha⟩ | ⟨a, np, q', rfl, ha, rfl, hq', hql', _⟩ <;>
  simp only [normCtx, hb, ha, if_true, if_false, Bool.false_eq_true,
    List.nil_append, List.cons_append, List.head?_nil, List.head?_cons] <;>
  refine Shape.reads ?_ (fun t ht => by cases ht <;> simpa [realCtx, tst] using hb)
    (fun t ht => by cases ht <;> rfl)
  · exact .remIdx (q := tst s x) (r := rmv s x) rfl rfl rfl hx hp hi
  · exact .afterRem (c := tst np a) (q := tst s x) (r := rmv s x) rfl rfl rfl rfl hx hq' hp hql' hi hj
  · exact .beforeRem (c := tst pp b) (q := tst s x) (r := rmv s x) rfl rfl rfl rfl hx hq hp hql hi
      (by omega)
  · exact .bothRem (c0 := tst pp b) (c1 := tst np a) (q := tst s x) (r := rmv s x) rfl rfl rfl rfl hx hq hq'
      hp hql hql' hi (by omega)


/-- the first element read from a rendered index hunk that only adds -/
theorem first_shape_add {s : String} {p : Path} {i : Int} (hp : readPointer s = .ok p)
    (hi : lastIdx? p = some i) (hi1 : i ≠ -1) {bo ao : List PatchOp} {cb ca : List Json}
    (hB : CtxW p bo cb (i - 1)) (hA : CtxW p ao ca i) (v : Json) :
    Reads ⟨bo ++ ao ++ [adp s v],
      { path := p, before := if realCtx cb || realCtx ca then normCtx cb else [],
        after := if realCtx cb || realCtx ca then normCtx ca else [], add := [v] },
      { before := bo.head?, after := ao.head? }⟩ := by
  have hap : ∀ b a, appendCtxOK p b a := fun b a => by simp [appendCtxOK, hi, hi1]
  rcases hB with ⟨rfl, hb⟩ | ⟨b, pp, q, rfl, hb, rfl, hq, hql, _⟩ <;>
  rcases hA with ⟨rfl, ha⟩ | ⟨a, np, q', rfl, ha, rfl, hq', hql', _⟩ <;>
  simp only [normCtx, hb, ha, if_true, if_false, Bool.false_eq_true, Bool.or_self, Bool.or_true,
    Bool.true_or, List.nil_append, List.cons_append, List.head?_nil, List.head?_cons] <;>
  refine Shape.reads ?_ (fun t ht => by cases ht <;> simpa [realCtx, tst] using hb)
    (fun t ht => by cases ht <;> rfl)
  · exact .add (q := adp s v) rfl hp
  · exact .afterAdd (c := tst np a) (q := adp s v) rfl rfl hq' hp hql' hi (hap _ _)
  · exact .beforeAdd (c := tst pp b) (q := adp s v) rfl rfl hq hp hql hi (hap _ _)
  · exact .bothAdd (c0 := tst pp b) (c1 := tst np a) (q := adp s v) rfl rfl hq hq' hp hql hql' hi
      (Int.le_refl _) (hap _ _)

/-- a first element, then the remaining removals and additions coalesced into it -/
theorem hunkSteps_of_first (L : FloatLaws) {s : String} {p : Path} (C : PCtx s p) {g1 : List PatchOp}
    {e1 : Hunk} {c1 : PatchCtx} (h1 : Reads ⟨g1, e1, c1⟩) (he : e1.path = p) {flag : Bool}
    (hctx : hasContext e1 = flag) (R' bs : List Json) (hR : R'.all valOK = true) (hidx : R' ≠ [] → ∃ i, lastIdx? p = some i)
    (ha0 : R' ≠ [] → e1.add = []) {N : Hunk}
    (hN : { e1 with remove := e1.remove ++ R', add := bs.reverse ++ e1.add } = N)
    (hk : checkPatchCtx N c1 = .ok ()) :
    HunkSteps p flag (g1 ++ (remPairs s R' ++ addRun s bs)) N := by
  subst hctx
  refine ⟨⟨g1, e1, c1⟩ :: (R'.map (remStep s p) ++ bs.map (addStep s p)), c1,
    by simp [flatMap_remSteps, flatMap_addSteps], fun x hx => ?_, fun acc cs hs => ?_, hk⟩
  · rcases List.mem_cons.1 hx with rfl | hx
    · exact h1
    rcases List.mem_append.1 hx with hx | hx
    · obtain ⟨y, hy, rfl⟩ := List.mem_map.1 hx
      obtain ⟨i, hi⟩ := hidx (List.ne_nil_of_mem hy)
      exact remStep_reads C.rp hi (equals_self L (List.all_eq_true.1 hR y hy))
    · obtain ⟨b, _, rfl⟩ := List.mem_map.1 hx
      exact addStep_reads C.rp
  · rw [List.foldl_cons, pushStep_sep (by rw [he]; exact hs), List.foldl_append, ← hN]
    obtain ⟨m, q, bf, R, A, af⟩ := e1
    subst he
    have hl' : (lastIdx? q == some (-1)) = false := by simpa using C.nl
    cases R' with
    | nil => simp [fold_adds C.eq, hl']
    | cons y ys =>
      obtain rfl : A = [] := ha0 (by simp)
      rw [fold_rems C.eq C.nl, fold_adds C.eq]
      simp [hl']


/-- **one hunk of the parse-back domain** -/
theorem pb_hunkSteps (L : FloatLaws) {h : Hunk} (hw : PBwfH h = true) {ops : List PatchOp}
    (hr : renderPatchHunk h = .ok ops) : HunkSteps h.path (hasContext h) ops (normH h) := by
  obtain ⟨s, bo, ao, hws, hne, hbl, hal, hb, ha, rfl⟩ := renderPatchHunk_ok hr
  obtain ⟨hm, hp, _, _, hR, hS, _, hcase⟩ := PBwfH_props hw
  have rp := readPointer_write hp hws
  have heq := pathEq_self L hp
  rw [remOpsOf_pairs hR, addOpsOf_run hS]
  -- nothing removed: the additions are rendered last first
  have hadds : h.remove = [] → ∃ b1 bs, h.add.reverse = b1 :: bs ∧ h.add = bs.reverse ++ [b1] := by
    intro hrem
    cases hadd : h.add.reverse with
    | nil => rw [hrem] at hne; simp at hadd; simp [hadd] at hne
    | cons b1 bs => exact ⟨b1, bs, rfl, by simpa using congrArg List.reverse hadd⟩
  cases hl : lastIdx? h.path with
  | none =>
    rw [hl] at hcase
    simp only [Bool.and_eq_true, Bool.not_eq_true', decide_eq_true_eq] at hcase
    obtain ⟨⟨⟨hcb, hca⟩, hr1⟩, hs1⟩ := hcase
    have C : PCtx s h.path := ⟨rp, heq, by rw [hl]; simp⟩
    obtain rfl := ctxOpsW_nil_of_lastIdx hl hb
    obtain rfl := ctxOpsW_nil_of_lastIdx hl ha
    have hN : normH h = { path := h.path, remove := h.remove, add := h.add } := by simp [normH, hl]
    have hc0 : hasContext h = false := by rw [hasContext_eq, hcb, hca]; rfl
    rw [hN, hc0]
    cases hrem : h.remove with
    | nil =>
      obtain ⟨b1, bs, hadd, hadd'⟩ := hadds hrem
      rw [hadd, hadd']
      exact hunkSteps_of_first L C (addStep_reads rp) rfl rfl [] bs rfl (fun h0 => absurd rfl h0)
        (fun h0 => absurd rfl h0) rfl rfl
    | cons x1 R' =>
      obtain rfl : R' = [] := by rw [hrem] at hr1; simpa using hr1
      rw [hrem] at hR
      simp only [List.all_cons, List.all_nil, Bool.and_true] at hR
      exact hunkSteps_of_first L C (e1 := { path := h.path, remove := [x1] })
        (Shape.reads (.remKey (q := tst s x1) (r := rmv s x1) rfl rfl rfl (equals_self L hR) rp hl)
          (fun _ h0 => nomatch h0) (fun _ h0 => nomatch h0)) rfl rfl [] h.add.reverse rfl
        (fun h0 => absurd rfl h0) (fun h0 => absurd rfl h0) (by simp) rfl
  | some i =>
    rw [hl] at hcase
    simp only [Bool.and_eq_true, Bool.or_eq_true, Bool.not_eq_true', decide_eq_true_eq] at hcase
    obtain ⟨hb1, hir⟩ := hcase
    obtain ⟨hi0, hi1⟩ := lastIdx_bounds hp hl
    have C : PCtx s h.path := ⟨rp, heq, by rw [hl]; simp; omega⟩
    have hB : CtxW h.path bo h.before (i - 1) := ctxW_cases (f := fun i => i - 1) hp hl hbl hb (fun hr => by
      rcases hb1 with hb1 | hb1
      · rw [hb1] at hr; cases hr
      · constructor <;> omega)
    have hA : CtxW h.path ao h.after (i + (h.remove.length : Int)) :=
      ctxW_cases (f := fun i => i + (h.remove.length : Int)) hp hl hal ha (fun _ => ⟨by omega, hir⟩)
    -- the context check of the normal form, on the tests written
    have hk : checkPatchCtx (normH h) { before := bo.head?, after := ao.head? } = .ok () := by
      have hpN : pathOK' (normH h).path = true := by rw [normH_path]; exact pathOK'_of_pathOK hp
      have hlN : lastIdx? (normH h).path = some i := by rw [normH_path]; exact hl
      rw [checkPatchCtx_eq,
        checkOne_ctxW L hpN hlN hi0 (off := -1) (j := i - 1) (by omega) (by omega)
          (by rw [normH_path]; exact hB),
        checkOne_ctxW L hpN hlN hi0 (j := i + (h.remove.length : Int)) (by rw [normH_remove]; omega)
          (by rw [normH_remove]) (by rw [normH_path]; exact hA)]
    simp only [List.append_assoc]
    rw [← List.append_assoc bo ao]
    cases hrem : h.remove with
    | nil =>
      rw [hrem] at hA
      simp only [List.length_nil, Int.natCast_zero, Int.add_zero] at hA
      obtain ⟨b1, bs, hadd, hadd'⟩ := hadds hrem
      have h1 := first_shape_add rp hl (by omega) hB hA b1
      rw [hadd, remPairs, List.flatMap_nil, List.nil_append,
        show addRun s (b1 :: bs) = [adp s b1] ++ (remPairs s [] ++ addRun s bs) by rfl, ← List.append_assoc]
      refine hunkSteps_of_first L C h1 rfl ?_ [] bs rfl (fun h0 => absurd rfl h0) (fun h0 => absurd rfl h0) ?_ hk
      · rw [hasContext_eq, hasContext_eq]
        cases hb' : realCtx h.before <;> cases ha' : realCtx h.after <;>
          simp [realCtx_normCtx, hb', ha', realCtx_nil]
      · simp only [normH, hl, hrem, hadd', Option.isSome_some, Bool.true_and, List.isEmpty_nil,
          Bool.not_true, Bool.or_false, List.append_nil]
        split <;> rfl
    | cons x1 R' =>
      rw [hrem] at hA hR
      simp only [List.all_cons, Bool.and_eq_true] at hR
      have h1 := first_shape_rem rp hl hB hA (by simp; omega) (equals_self L hR.1)
      rw [show bo ++ ao ++ (remPairs s (x1 :: R') ++ addRun s h.add.reverse) =
        bo ++ ao ++ [tst s x1, rmv s x1] ++ (remPairs s R' ++ addRun s h.add.reverse) by simp [remPairs]]
      exact hunkSteps_of_first L C h1 rfl (by rw [hasContext_eq, hasContext_eq]; simp [realCtx_normCtx])
        R' h.add.reverse hR.2 (fun _ => ⟨i, hl⟩) (fun _ => rfl) (by simp [normH, hl, hrem]) hk


/-- **one hunk of the grammar** -/
theorem ghunk_hunkSteps (L : FloatLaws) {h : Hunk} (hw : GH h = true) {ops : List PatchOp}
    (hr : rerenderHunk h = .ok ops) : HunkSteps h.path (flagG h) ops (normG h) := by
  rcases GH_cases hw with hP | hA
  · rw [rerenderHunk_of_PBwfH hP] at hr
    rw [normG_of_PBwfH hP, flagG, lastIdx_ne_of_PBwfH hP, Bool.not_false, Bool.and_true]
    exact pb_hunkSteps L hP hr
  · exact append_hunkSteps L hA hr

/-! ### the grammar is read back -/

/-- **PARSE-BACK with the full reader**: jd's own layout passes the context check. For
    every diff `d0` of the grammar `Gwf`, `ReadPatchString` (= `readPatchOps`) reads the operations
    jd writes for `d0` to the normal form of `d0`. -/
theorem readPatchOps_of_grammar (L : FloatLaws) (d0 : Diff) (hG : Gwf d0 = true)
    (ops : List PatchOp) (h : rerender d0 = .ok ops) : readPatchOps ops = .ok (d0.map normG) := by
  simp only [Gwf, Bool.and_eq_true] at hG
  exact readPatchOps_of_hunkSteps hG.2 h
    fun h hm a ha => ghunk_hunkSteps L (List.all_eq_true.1 hG.1 h hm) ha

/-- **reading back a patch of the grammar** gives its diff in normal form (the element loop alone) -/
theorem readPatch_rerender (L : FloatLaws) (d : Diff) (hwf : Gwf d = true) (ops : List PatchOp)
    (h : rerender d = .ok ops) :
    readPatchLoop (ops.length + 1) ops [] = .ok (d.map normG) :=
  readPatchOps_loop (readPatchOps_of_grammar L d hwf ops h)

/-! ### the operations of the grammar: real values, canonical pointers -/

def OpOK (o : PatchOp) : Prop := o.value.isVoid = false ∧ canonPtr o.path = true

theorem ctxOps_opOK {h : Hunk} {ctx : List Json} {f : Int → Int} {bo : List PatchOp}
    (e : ctxOps h ctx f = .ok bo) (hp : pathOK' h.path = true)
    (hf : ∀ i, lastIdx? h.path = some i → -1 ≤ f i ∧ f i < 2 ^ 53) : ∀ o ∈ bo, OpOK o := by
  rcases ctxOps_ok e with ⟨rfl, _⟩ | ⟨b, i, pp, _, hb, hi, hw, rfl⟩
  · intro o ho; simp at ho
  · intro o ho
    simp only [List.mem_singleton] at ho
    subst ho
    obtain ⟨h0, h1⟩ := hf i hi
    exact ⟨hb, canonPtr_of_write (pathOK'_setLastIdx hp h0 h1) hw⟩

theorem ghunk_opOK {h : Hunk} (hw : GH h = true) {ops : List PatchOp}
    (hr : rerenderHunk h = .ok ops) : ∀ o ∈ ops, OpOK o := by
  rcases GH_cases hw with hP | hA
  · rw [rerenderHunk_of_PBwfH hP] at hr
    obtain ⟨hp, hidx⟩ := PBwfH_idx hP
    obtain ⟨_, _, _, _, hR, hA, _, _⟩ := PBwfH_props hP
    have hp' := pathOK'_of_pathOK hp
    obtain ⟨s, bo, ao, hws, _, _, _, hbo, hao, rfl⟩ := renderPatchHunk_ok hr
    have hcs := canonPtr_of_write hp' hws
    have hRv : noVoid h.remove := by
      intro x hx
      have := List.all_eq_true.1 hR x hx
      simp only [valOK, Bool.and_eq_true, Bool.not_eq_true'] at this
      exact this.1.1.1
    have hAv : noVoid h.add := by
      intro x hx
      simpa using List.all_eq_true.1 hA x hx
    rw [remOpsOf_eq hRv, addOpsOf_eq hAv]
    intro o ho
    simp only [List.mem_append, List.mem_flatMap, List.mem_map, List.mem_reverse] at ho
    rcases ho with ((ho | ho) | ⟨x, hx, ho⟩) | ⟨x, hx, rfl⟩
    · exact ctxOps_opOK hbo hp' (fun i hi => by have := hidx i hi; omega) o ho
    · exact ctxOps_opOK hao hp' (fun i hi => by have := hidx i hi; omega) o ho
    · simp only [List.mem_cons, List.not_mem_nil, or_false] at ho
      rcases ho with rfl | rfl <;> exact ⟨hRv x hx, hcs⟩
    · exact ⟨hAv x hx, hcs⟩
  · obtain ⟨hp, hl, _, _, hS⟩ := appendH_props hA
    obtain ⟨s, hws, rfl⟩ := rerenderHunk_append hl hr
    rw [wpL_eq_write (keysOK_of_pathOK' hp)] at hws
    intro o ho
    obtain ⟨x, hx, rfl⟩ := List.mem_map.1 ho
    exact ⟨hS x hx, canonPtr_of_write hp hws⟩

theorem gdiff_opOK : ∀ {d : Diff}, d.all GH = true → ∀ {ops : List PatchOp},
    rerender d = .ok ops → ∀ o ∈ ops, OpOK o
  | [], _, ops, hr => by
    rw [rerender] at hr; injection hr with hr; subst hr
    intro o ho; simp at ho
  | h :: d, hw, ops, hr => by
    simp only [List.all_cons, Bool.and_eq_true] at hw
    obtain ⟨a, b, ha, hb, rfl⟩ := rerender_ok_cons hr
    intro o ho
    rcases List.mem_append.1 ho with ho | ho
    · exact ghunk_opOK hw.1 ha o ho
    · exact gdiff_opOK hw.2 hb o ho

/-- `readPatchOps_of_grammar` (`FloatEq0` is not used) -/
theorem readPatchOps_rerender (L : FloatLaws) (F : FloatEq0) (d0 : Diff) (hG : Gwf d0 = true)
    (ops : List PatchOp) (h : rerender d0 = .ok ops) :
    readPatchOps ops = .ok (d0.map normG) :=
  readPatchOps_of_grammar L d0 hG ops h

/-! ### jd's own output (`renderPatchOps`, the domain `PB.PBwf`) -/

theorem chainG_of_chainOK : ∀ {d : Diff}, d.all PBwfH = true → chainOK d = true → chainG d = true
  | [], _, _ => rfl
  | [_], _, _ => rfl
  | h1 :: h2 :: r, hw, hc => by
    simp only [List.all_cons, Bool.and_eq_true] at hw
    simp only [chainOK, Bool.and_eq_true] at hc
    simp only [chainG, Bool.and_eq_true]
    refine ⟨?_, chainG_of_chainOK (by simp [hw.2.1, hw.2.2]) hc.2⟩
    have := hc.1
    simp only [sepH, sepG, lastIdx_ne_of_PBwfH hw.2.1, Bool.not_false, Bool.and_true] at this ⊢
    exact this

theorem gwf_of_PBwf {d : Diff} (hwf : PBwf d = true) : Gwf d = true := by
  simp only [PBwf, Bool.and_eq_true] at hwf
  simp only [Gwf, Bool.and_eq_true]
  refine ⟨?_, chainG_of_chainOK hwf.1 hwf.2⟩
  rw [List.all_eq_true] at hwf ⊢
  intro h hm
  simp [GH, hwf.1 h hm]

theorem rerender_of_renderPatchOps : ∀ {d : Diff}, d.all PBwfH = true → ∀ {ops : List PatchOp},
    renderPatchOps d = .ok ops → rerender d = .ok ops
  | [], _, ops, h => by
    rw [renderPatchOps] at h; injection h with h; subst h; rfl
  | h0 :: d, hw, ops, h => by
    simp only [List.all_cons, Bool.and_eq_true] at hw
    obtain ⟨a, b, ha, hb, rfl⟩ := renderPatchOps_ok_cons h
    simp only [rerender, rerenderHunk_of_PBwfH hw.1, ha, rerender_of_renderPatchOps hw.2 hb]

theorem map_normG_of_PBwfH {d : Diff} (hw : d.all PBwfH = true) : d.map normG = normPB d := by
  unfold normPB
  apply List.map_congr_left
  intro h hm
  exact normG_of_PBwfH (List.all_eq_true.1 hw h hm)

end Jd.NMP

namespace Jd.PB
open Jd Jd.Spec

/-- **PARSE-BACK** (property C10, first clause, at the level of operations): reading the JSON Patch
    operations `RenderPatch` produced for a diff of the domain gives the diff back in normal form.
    `FloatLaws` (reflexivity of the float comparison on finite numbers) is needed because the reader
    compares the value of each `test` with the value of the following `remove`, and the paths of
    consecutive elements, with `Equals`. -/
theorem readPatch_render (L : FloatLaws) (d : Diff) (hwf : PBwf d = true) (ops : List PatchOp)
    (h : renderPatchOps d = .ok ops) :
    readPatchLoop (ops.length + 1) ops [] = .ok (normPB d) := by
  have hall : d.all PBwfH = true := by
    simp only [PBwf, Bool.and_eq_true] at hwf; exact hwf.1
  rw [← NMP.map_normG_of_PBwfH hall]
  exact NMP.readPatch_rerender L d (NMP.gwf_of_PBwf hwf) ops (NMP.rerender_of_renderPatchOps hall h)

/-- **C10, first clause, library semantics**: if the diff turns `a` into `b` (reference semantics =
    library semantics by JdProofs.StrictPatch), then the library's `Patch` with the diff read back
    from jd's own JSON Patch output turns `a` into `b`, up to the Go dynamic type of array nodes -/
theorem readPatch_render_patch (L : FloatLaws) (d : Diff) (hwf : PBwf d = true)
    (hs : d.all jdShaped = true) (hld : d.all hunkListDoc = true)
    (ops : List PatchOp) (h : renderPatchOps d = .ok ops)
    (a b : Json) (ha : a.listDoc = true) (hab : applyStrictAll a d = some b) :
    ∃ d' r, readPatchLoop (ops.length + 1) ops [] = .ok d' ∧ patchM a d' = .ok r ∧
      untag r = untag b := by
  have hwf' := hwf
  simp only [PBwf, Bool.and_eq_true] at hwf'
  obtain ⟨_, r, hP, hu⟩ := patchM_normPB hwf'.1 hld ha (applyStrictAll_normPB d hs a b hab)
  exact ⟨normPB d, r, readPatch_render L d hwf ops h, hP, hu⟩

#print axioms readPatch_render
#print axioms readPatch_render_patch

end Jd.PB

namespace Jd.NMP
open Jd Jd.Spec Jd.PB

/-- **C10, last sentence, full reader** (operations): `ReadPatchString` reads
    what `Diff.RenderPatch` writes for a diff of the parse-back domain `PB.PBwf` to its normal form
    (`PB.readPatch_render` for `readPatchOps` instead of the element loop alone) -/
theorem readPatchOps_render (L : FloatLaws) (F : FloatEq0) (d : Diff) (hwf : PBwf d = true)
    (ops : List PatchOp) (h : renderPatchOps d = .ok ops) : readPatchOps ops = .ok (normPB d) := by
  have hall : d.all PBwfH = true := by
    simp only [PBwf, Bool.and_eq_true] at hwf; exact hwf.1
  rw [← map_normG_of_PBwfH hall]
  exact readPatchOps_rerender L F d (gwf_of_PBwf hwf) ops (rerender_of_renderPatchOps hall h)

/-- **C10, last sentence, library semantics, reader with the context check**: if the diff turns `a` into `b`,
    then what `ReadPatchString` reads from jd's own JSON Patch output for the diff, applied by the
    library's `Patch` to `a`, gives `b` (up to the Go dynamic type of array nodes) -/
theorem readPatchOps_render_patch (L : FloatLaws) (F : FloatEq0) (d : Diff) (hwf : PBwf d = true)
    (hs : d.all jdShaped = true) (hld : d.all hunkListDoc = true)
    (ops : List PatchOp) (h : renderPatchOps d = .ok ops)
    (a b : Json) (ha : a.listDoc = true) (hab : applyStrictAll a d = some b) :
    ∃ d' r, readPatchOps ops = .ok d' ∧ patchM a d' = .ok r ∧ untag r = untag b := by
  obtain ⟨d', r, h1, h2, h3⟩ := readPatch_render_patch L d hwf hs hld ops h a b ha hab
  have h4 := readPatchOps_render L F d hwf ops h
  have h5 := readPatchOps_loop h4
  rw [h1] at h5
  injection h5 with h5
  exact ⟨normPB d, r, h4, h5 ▸ h2, h3⟩

#print axioms readPatchOps_of_grammar
#print axioms readPatch_rerender
#print axioms readPatchOps_rerender
#print axioms readPatchOps_render
#print axioms readPatchOps_render_patch

end Jd.NMP
