/-
  JdProofs.RealDiffListStrict — property C07, clause "no hunk is redundant", LIST reading, strict
  strategy, in the general case: objects, arrays in arrays, containers as list elements at any depth
  (namespace `Jd.RealM`). The theorems are about the library functions of the model: `diffM`
  (`a.Diff(b, options...)`), `patchAll sw` / `patchM` (`a.Patch(d)`; `sw = true` is the code),
  `equals`; the reference meaning of strict hunks is `Jd.Spec.applyStrictAll`, structural equality is
  `specEq`.

  Throughout `dispatchTag o = .list`, `isMerge o = false`.
    * `no_redundant_hunk_list`: `diffM o a b = d1 ++ h :: d2 → applyStrictAll a (d1 ++ d2) = some r →
      specEq r b = false` — leave ANY single hunk out: if the rest applies at all under the documented
      meaning of hunks, the result is not structurally equal to `b`.
    * `no_redundant_hunk_list_patch` (`precOf o = 0`): the same about the library's `Patch`, with
      `equals o r b = false` as well (through C03, `strictAll_result`; `diff_strictOK`).
  Hypotheses: those of C01 `DPL.diffM_list_correct` (`listDoc`, `wf`, `finiteNums`, `DPL.memOK`,
    `HashOK`: no FNV collision between a sub-term of `a` and one of `b`, `ZeroOK`: no `0` / `-0` pair,
    `FloatLaws`), with `a.rawDoc` instead of `a.listDoc`: a typed `jsonList` against a plain
    `jsonArray` with the same elements gives ONE hunk, and it is redundant
    (`Witness.typed_list_redundant`; not reachable through the public API).
  Method (`noRed_strict`): induction over the first document (`DPL.listDoc_induct`; `NodeNoRed` is
    the statement about two nodes). An object against an object (`noRed_obj_obj`) is the generic
    object step `NR.NoSub.obj` of JdProofs/NoSub.lean for the family "one hunk left out" and the
    reference interpreter, which acts on objects key by key (`objProj_applyStrictAll`). A list
    against a list is the rendering of the alignment of the two arrays, and `script_noRed` is the
    statement about a rendered script (induction over the script, next to `DPL.apply_render`,
    which applies every complete run of a suffix):
      - the FIRST removed and the FIRST added value of an `edit` step have different hash codes
        (`Step.ok`: the common sequence is a longest one);
      - `first_dropped`: an `edit` hunk is left out; later hunks sit at or below indices beyond
        what it adds (`render_idx_ge`), change the length by the same amount whatever array they are
        applied to and leave earlier positions alone (`applyStrictAll_idx_pair`): the length is
        wrong, or position `s` still holds `R`'s first element, which is not structurally equal to
        `A`'s first;
      - a hunk of a sub-diff below index `k` is left out: the converse frame lemma
        `applyStrictAll_idx_frame_conv` turns the run into a leave-one-out run on the element, and
        later hunks do not touch it.
  Limits: the theorems are about `specEq` (and `Equals` without Precision); with a Precision option C07
    inherits the known finding KF-C05-precision.
  Non-vacuity: `Example.pA` / `pB` (a list hunk, a hunk inside an object standing in the list, a
    removed and an added member; the `#eval`s show that every leave-one-out sub-diff applies and
    misses the target).
-/
import JdProofs.DiffEmpty
import JdProofs.RealDiff
import JdProofs.DiffPatchList
import JdProofs.ListRecursion
import JdProofs.HashCheck
import JdProofs.NoSub
import JdProofs.Eval

set_option autoImplicit false

namespace Jd.RealM
open Jd Jd.Spec

/-! ## lists split at one element -/

theorem map_split {α β} {f : α → β} {l : List α} {x1 x2 : List β} {y : β}
    (e : l.map f = x1 ++ y :: x2) :
    ∃ s1 x s2, l = s1 ++ x :: s2 ∧ x1 = s1.map f ∧ y = f x ∧ x2 = s2.map f := by
  obtain ⟨s1, sr, rfl, h1, hr⟩ := List.map_eq_append_iff.1 e
  obtain ⟨x, s2, rfl, he, h2⟩ := List.map_eq_cons_iff.1 hr
  exact ⟨s1, x, s2, rfl, h1.symm, he.symm, h2.symm⟩

theorem single_split {α} {x e : α} {l1 l2 : List α} (h : [x] = l1 ++ e :: l2) :
    l1 = [] ∧ l2 = [] ∧ e = x := by
  cases l1 with
  | nil =>
    simp only [List.nil_append, List.cons.injEq] at h
    exact ⟨rfl, h.2.symm, h.1.symm⟩
  | cons y l1' =>
    have := congrArg List.length h
    simp at this

/-! ## G. hunks addressed below list indices / object keys, applied by the reference interpreter -/

section
open Jd.DPL

/-- the hunk is addressed at or below a list index `≥ n` -/
def IdxGe (n : Nat) (h : Hunk) : Prop :=
  ∃ (i : Nat) (q : Path), h.path = .idx (i : Int) :: q ∧ n ≤ i

/-- one strict hunk addressed at or below the list index `i` of an array -/
theorem applyStrict_idx_cases (t : Tag) (l : List Json) (i : Nat) (q : Path) (h : Hunk) (r : Json)
    (hr : applyStrict (.arr t l) (.idx (i : Int) :: q) h = some r) :
    (q = [] ∧ ∃ l', splice l (i : Int) h = some l' ∧ r = .arr .raw l') ∨
    (q ≠ [] ∧ ∃ x v, l[i]? = some x ∧ applyStrict x q h = some v ∧ r = .arr .raw (l.set i v)) := by
  cases q with
  | nil =>
    simp only [applyStrict] at hr
    obtain ⟨l', hs, rfl⟩ := Option.map_eq_some_iff.1 hr
    exact .inl ⟨rfl, l', hs, rfl⟩
  | cons e q' =>
    right
    refine ⟨by simp, ?_⟩
    rw [applyStrict] at hr
    · simp only [show ¬ ((i : Int) < 0) by omega, if_false, Int.toNat_natCast] at hr
      cases hx : l[i]? with
      | none => rw [hx] at hr; cases hr
      | some x =>
        rw [hx] at hr
        obtain ⟨v, hv, rfl⟩ := Option.map_eq_some_iff.1 hr
        exact ⟨x, v, rfl, hv, rfl⟩
    · intro e'; cases e'

theorem getElem?_of_take_eq {α} {l l' : List α} {n k : Nat} (h : l.take n = l'.take n) (hk : k < n) :
    l[k]? = l'[k]? := by
  rw [← List.getElem?_take_of_lt hk, h, List.getElem?_take_of_lt hk]

/-- the same hunks, all addressed at or below indices `≥ n`, applied to two arrays: both keep their
    first `n` elements, and their lengths change by the same amount -/
theorem applyStrictAll_idx_pair (n : Nat) : ∀ (d : Diff) (t1 t2 : Tag) (l1 l2 : List Json)
    (r1 r2 : Json), (∀ h ∈ d, IdxGe n h) →
    applyStrictAll (.arr t1 l1) d = some r1 → applyStrictAll (.arr t2 l2) d = some r2 →
    ∃ t1' z1 t2' z2, r1 = .arr t1' z1 ∧ r2 = .arr t2' z2 ∧
      z1.take n = l1.take n ∧ z2.take n = l2.take n ∧
      z1.length + l2.length = z2.length + l1.length
  | [], t1, t2, l1, l2, r1, r2, _, h1, h2 => by
    simp only [applyStrictAll, Option.some.injEq] at h1 h2
    exact ⟨t1, l1, t2, l2, h1.symm, h2.symm, rfl, rfl, Nat.add_comm _ _⟩
  | h :: d, t1, t2, l1, l2, r1, r2, hp, h1, h2 => by
    obtain ⟨i, q, hi, hni⟩ := hp h List.mem_cons_self
    obtain ⟨m1, e1, h1⟩ := Option.bind_eq_some_iff.1 h1
    obtain ⟨m2, e2, h2⟩ := Option.bind_eq_some_iff.1 h2
    rw [hi] at e1 e2
    rcases applyStrict_idx_cases t1 l1 i q h m1 e1 with ⟨hq, l1', hs1, rfl⟩ | ⟨hq, x1, v1, _, _, rfl⟩
    · rcases applyStrict_idx_cases t2 l2 i q h m2 e2 with ⟨_, l2', hs2, rfl⟩ | ⟨hq', _⟩
      · obtain ⟨a1, z1, a2, z2, f1, f2, k1, k2, hl⟩ := applyStrictAll_idx_pair n d .raw .raw l1' l2'
          r1 r2 (fun h' hm => hp h' (List.mem_cons_of_mem _ hm)) h1 h2
        have g1 := Real.splice_length hs1
        have g2 := Real.splice_length hs2
        exact ⟨a1, z1, a2, z2, f1, f2, k1.trans (Real.splice_take hs1 hni),
          k2.trans (Real.splice_take hs2 hni), by omega⟩
      · exact absurd hq hq'
    · rcases applyStrict_idx_cases t2 l2 i q h m2 e2 with ⟨hq', _⟩ | ⟨_, x2, v2, _, _, rfl⟩
      · exact absurd hq' hq
      · obtain ⟨a1, z1, a2, z2, f1, f2, k1, k2, hl⟩ := applyStrictAll_idx_pair n d .raw .raw
          (l1.set i v1) (l2.set i v2) r1 r2
          (fun h' hm => hp h' (List.mem_cons_of_mem _ hm)) h1 h2
        simp only [List.length_set] at hl
        exact ⟨a1, z1, a2, z2, f1, f2, k1.trans (List.take_set_of_le hni),
          k2.trans (List.take_set_of_le hni), hl⟩

/-- converse of the index frame lemma: if the hunks of a sub-diff moved below the index `k` apply
    to the array, they apply to the element, and the array is the old one with that element patched -/
theorem applyStrictAll_idx_frame_conv : ∀ (D : Diff), (∀ h ∈ D, frameOK h) →
    ∀ (t : Tag) (l : List Json) (k : Nat) (x : Json), l[k]? = some x →
      ∀ res, applyStrictAll (.arr t l) (D.map (shiftHunk [.idx (k : Int)])) = some res →
      ∃ r t', applyStrictAll x D = some r ∧ res = .arr t' (l.set k r)
  | [], _, t, l, k, x, hx, res, hr => by
    simp only [List.map_nil, applyStrictAll, Option.some.injEq] at hr
    refine ⟨x, t, rfl, ?_⟩
    obtain ⟨hk, rfl⟩ := List.getElem?_eq_some_iff.1 hx
    rw [← hr, List.set_getElem_self]
  | h :: D, hD, t, l, k, x, hx, res, hr => by
    obtain ⟨m, h1, hr⟩ := Option.bind_eq_some_iff.1 hr
    have e : applyStrict (.arr t l) (.idx (k : Int) :: h.path)
        { h with path := .idx (k : Int) :: h.path } =
        applyStrict (.arr t l) (.idx (k : Int) :: h.path) h :=
      applyStrict_path_irrel _ _ _ _
    simp only [shiftHunk, List.cons_append, List.nil_append] at h1
    rw [e, applyStrict_idx_frame t l k x hx h (hD h List.mem_cons_self)] at h1
    obtain ⟨v, hv, rfl⟩ := Option.map_eq_some_iff.1 h1
    have hk : k < l.length := (List.getElem?_eq_some_iff.1 hx).1
    obtain ⟨r, t', h1, h2⟩ := applyStrictAll_idx_frame_conv D
      (fun h' hm => hD h' (List.mem_cons_of_mem _ hm)) .raw (l.set k v) k v
      (List.getElem?_set_self hk) res hr
    refine ⟨r, t', by simp [applyStrictAll, hv, h1], ?_⟩
    rw [h2, List.set_set]

/-- the reference interpreter acts on objects key by key, and a key no hunk is addressed to keeps
    its binding -/
theorem objProj_applyStrictAll :
    NR.ObjProj (fun a D r => applyStrictAll a D = some r) (fun _ => True)
  | [], kvs, r, _, hs, h => by
    simp only [applyStrictAll, Option.some.injEq] at h
    subst h
    exact ⟨kvs, rfl, hs, fun k => rfl, fun _ _ => rfl⟩
  | h :: D, kvs, r, hD, hs, hr => by
    obtain ⟨_, k0, rest, hpath⟩ := hD h List.mem_cons_self
    obtain ⟨m, h1, hr⟩ := Option.bind_eq_some_iff.1 hr
    rw [hpath, applyStrict_key] at h1
    obtain ⟨v, hv, rfl⟩ := Option.map_eq_some_iff.1 h1
    obtain ⟨kvr, e1, e2, e3, e4⟩ := objProj_applyStrictAll D (Merge.putKvs k0 v kvs) r
      (fun h' hh' => hD h' (List.mem_cons_of_mem _ hh')) (Merge.keysSorted_putKvs k0 v hs) hr
    refine ⟨kvr, e1, e2, fun k => ?_, fun k hk0 => ?_⟩
    · by_cases hk : k0 = k
      · subst hk
        have e : (alookup k0 (Merge.putKvs k0 v kvs)).getD .void = v :=
          Merge.getK_putKvs_self k0 v hs
        have := e3 k0
        rw [e] at this
        rw [RealK.proj_cons_same hpath]
        simp only [applyStrictAll]
        rw [applyStrict_path_irrel, hv]
        exact this
      · have := e3 k
        rw [Merge.alookup_putKvs_ne v kvs (fun e => hk e.symm)] at this
        rw [RealK.proj_cons_ne hpath hk]
        exact this
    · have hk : k0 ≠ k := fun e => by rw [← e, RealK.proj_cons_same hpath] at hk0; cases hk0
      rw [RealK.proj_cons_ne hpath hk] at hk0
      rw [e4 k hk0, Merge.alookup_putKvs_ne v kvs (fun e => hk e.symm)]

/-! ## H. structural equality across kinds and of arrays; equal documents have equal hash codes -/

theorem specEq_kind_ne {a b : Json} (h : a.kind ≠ b.kind) : specEq a b = false := by
  cases hc : specEq a b with
  | false => rfl
  | true => exact absurd (equivB_kind [] a b hc) h

theorem specEq_arr_other (t : Tag) (xs : List Json) {b : Json} (hb : ∀ t' ys, b ≠ .arr t' ys) :
    specEq (.arr t xs) b = false := by
  refine specEq_kind_ne ?_
  cases b with
  | arr t' ys => exact absurd rfl (hb t' ys)
  | _ => simp [Json.kind]

theorem specEq_obj_other (kvs : List (String × Json)) {b : Json} (hb : ∀ kvs', b ≠ .obj kvs') :
    specEq (.obj kvs) b = false := by
  refine specEq_kind_ne ?_
  cases b with
  | obj kvs' => exact absurd rfl (hb kvs')
  | _ => simp [Json.kind]

theorem specEq_arr_false {t t' : Tag} {zs ys : List Json} {k : Nat} {x y : Json}
    (h1 : zs[k]? = some x) (h2 : ys[k]? = some y) (hne : specEq x y = false) :
    specEq (.arr t zs) (.arr t' ys) = false := by
  cases hq : specEq (.arr t zs) (.arr t' ys) with
  | false => rfl
  | true =>
    simp only [specEq, equivB, dispatchTag] at hq
    rw [specEq] at hne
    exact absurd (Real.equivList_getElem [] _ _ _ _ _ hq h1 h2) (by rw [hne]; exact Bool.false_ne_true)

/-- `Equals` on void, null, booleans and strings is equality, whatever the options -/
theorem eq_of_equals_plain {o : Opts} {x y : Json} (he : equals o x y = true)
    (h1 : ∀ u, x ≠ .num u) (h2 : ∀ t xs, x ≠ .arr t xs) (h3 : ∀ kvs, x ≠ .obj kvs) : x = y := by
  cases x with
  | num u => exact absurd rfl (h1 u)
  | arr t xs => exact absurd rfl (h2 t xs)
  | obj kvs => exact absurd rfl (h3 kvs)
  | _ => cases y <;> first | rfl | (simp [equals, Json.isVoid, Json.isNull] at he; try simp [he])

/-- **structurally equal documents have the same hash code** (list reading; `Z`: no `0` / `-0` pair
    between the two sides — the `ZeroOK` of C01; no other hypothesis on hashes or floats) -/
theorem hash_of_equals_nil {o : Opts} (ho : dispatchTag o = .list) {S T : List Json}
    (Z : ∀ u v, Json.num u ∈ S → Json.num v ∈ T → numWithin 0 u v = true → u = v) :
    ∀ x : Json, x.listDoc = true → x.wf = true → Sub (DPL.subterms x) S →
      ∀ y : Json, y.listDoc = true → y.wf = true → Sub (DPL.subterms y) T →
        equals [] x y = true → hashCode o x = hashCode o y := by
  intro x
  induction x using jsonInd with
  | void => intro _ _ _ y _ _ _ he; rw [eq_of_equals_plain he nofun nofun nofun]
  | null => intro _ _ _ y _ _ _ he; rw [eq_of_equals_plain he nofun nofun nofun]
  | bool b => intro _ _ _ y _ _ _ he; rw [eq_of_equals_plain he nofun nofun nofun]
  | str b => intro _ _ _ y _ _ _ he; rw [eq_of_equals_plain he nofun nofun nofun]
  | num u =>
    intro _ _ hS y _ _ hT he
    cases y with
    | num v =>
      have : numWithin 0 u v = true := by simpa [equals, precOf] using he
      rw [Z u v (hS _ (self_mem_subterms _)) (hT _ (self_mem_subterms _)) this]
    | _ => simp [equals] at he
  | arr t xs ih =>
    intro hl hw hS y hl' hw' hT he
    cases y with
    | arr t' ys =>
      simp only [Json.listDoc, Bool.and_eq_true] at hl hl'
      simp only [Json.wf] at hw hw'
      rw [equals_arr_list (o := []) rfl xs ys hl.1 hl'.1] at he
      rw [hashCode_arr_list ho xs hl.1, hashCode_arr_list ho ys hl'.1]
      have key : ∀ (xs ys : List Json), (∀ x ∈ xs, x.listDoc = true → x.wf = true →
            Sub (DPL.subterms x) S → ∀ y : Json, y.listDoc = true → y.wf = true → Sub (DPL.subterms y) T →
            equals [] x y = true → hashCode o x = hashCode o y) →
          listDocList xs = true → wfList xs = true → Sub (DPL.subtermsList xs) S →
          listDocList ys = true → wfList ys = true → Sub (DPL.subtermsList ys) T →
          equalsList [] xs ys = true → hashList o xs = hashList o ys := by
        intro xs
        induction xs with
        | nil =>
          intro ys _ _ _ _ _ _ _ he
          cases ys with
          | nil => rfl
          | cons _ _ => simp [equalsList] at he
        | cons x xr ihx =>
          intro ys ih hl hw hS hl' hw' hT he
          cases ys with
          | nil => simp [equalsList] at he
          | cons y yr =>
            simp only [equalsList, Bool.and_eq_true] at he
            simp only [listDocList, wfList, Bool.and_eq_true] at hl hw hl' hw'
            simp only [hashList]
            rw [ih x List.mem_cons_self hl.1 hw.1 (sub_cons hS).1 y hl'.1 hw'.1 (sub_cons hT).1 he.1,
              ihx yr (fun x' hx' => ih x' (List.mem_cons_of_mem _ hx')) hl.2 hw.2 (sub_cons hS).2
                hl'.2 hw'.2 (sub_cons hT).2 he.2]
      rw [key xs ys ih hl.2 hw (sub_arr hS) hl'.2 hw' (sub_arr hT) he]
    | _ => exact absurd (equals_kind [] _ _ he) (by simp [Json.kind])
  | obj kvs ih =>
    intro hl hw hS y hl' hw' hT he
    cases y with
    | obj kvs' =>
      simp only [Json.listDoc] at hl hl'
      simp only [Json.wf, Bool.and_eq_true] at hw hw'
      obtain ⟨h1, h2⟩ := (equals_obj_iff [] hw.1 hw'.1).1 he
      simp only [hashCode]
      rw [hashKvs_eq_of o kvs kvs' hw.1 hw'.1 (fun k v hm => by
        obtain ⟨v', hlk, hq⟩ := h1 k v hm
        have hja := alookup_of_mem hw.1 hm
        exact ⟨v', hlk, ih k v hm (alookup_listDoc hja hl) (alookup_wf hja hw.2) (sub_lookup (sub_obj hS) hja)
          v' (alookup_listDoc hlk hl') (alookup_wf hlk hw'.2) (sub_lookup (sub_obj hT) hlk) hq⟩) h2]
    | _ => simp [equals] at he

theorem hash_of_specEq {o : Opts} (ho : dispatchTag o = .list) {S T : List Json}
    (Z : ∀ u v, Json.num u ∈ S → Json.num v ∈ T → numWithin 0 u v = true → u = v)
    {x y : Json} (hx : Good x) (hy : Good y) (hS : Sub (DPL.subterms x) S) (hT : Sub (DPL.subterms y) T)
    (h : specEq x y = true) : hashCode o x = hashCode o y := by
  rw [specEq_eq_equals hx.listDoc hy.listDoc] at h
  exact hash_of_equals_nil ho Z x hx.listDoc hx.wf hS y hy.listDoc hy.wf hT h

/-! ## I. the hunks of a rendering are addressed at or below indices `≥ k`; dropping the first hunk -/

open Jd.RealL Jd.Align

theorem render_idx_ge {o : Opts} (S : Script) (n : Bool) (k : Nat) (prev : Json) :
    ∀ h ∈ render o [] n k prev S, IdxGe k h := by
  intro h hm
  rcases mem_render _ _ _ _ hm with ⟨S1, R, A, S2, _, rfl⟩ | ⟨S1, x, y, S2, n', _, hm⟩
  · exact ⟨_, [], rfl, Nat.le_add_right _ _⟩
  · obtain ⟨h0, hm0, hp0, _⟩ := mem_subAfter' hm
    obtain ⟨t, ht⟩ := Real.diff_paths_extend_general o false x y _ h0 hm0
    exact ⟨_, t, by rw [hp0, ← ht]; rfl, Nat.le_add_right _ _⟩

theorem head?_snoc_of_ne_nil {α} {l : List α} (x : α) (h : l ≠ []) : (l ++ [x]).head? = l.head? := by
  cases l with
  | nil => exact absurd rfl h
  | cons y r => rfl

/-- **dropping the first hunk of a walk.** The accumulated hunk (`R` removed, `A` added, at index
    `|pre|`) is left out and the later hunks `D'` — all addressed at or below indices beyond what it
    adds — are applied to the array that still holds `R`: if the complete run reaches a list as long
    as the target, the run without the hunk does not reach the target. Either the length is wrong
    (`|R| ≠ |A|`) or the element at `|pre|` is `R`'s first, which is not the target's (`A`'s first). -/
theorem first_dropped (pre Y R A post rest' : List Json) (t t1 : Tag) (D' : Diff)
    (hY : Y.length = pre.length) (hne : ¬ (R = [] ∧ A = []))
    (hheads : ∀ r0 a0, R.head? = some r0 → A.head? = some a0 → specEq r0 a0 = false)
    (hidx : ∀ h ∈ D', IdxGe (pre.length + A.length) h)
    (tf : Tag) (zf : List Json)
    (hfull : applyStrictAll (.arr t1 (pre ++ A ++ post)) D' = some (.arr tf zf))
    (hfullLen : zf.length = (Y ++ A ++ rest').length)
    (r : Json) (hr : applyStrictAll (.arr t (pre ++ R ++ post)) D' = some r) :
    ∀ t'', specEq r (.arr t'' (Y ++ A ++ rest')) = false := by
  intro t''
  cases hq : specEq r (.arr t'' (Y ++ A ++ rest')) with
  | false => rfl
  | true =>
    exfalso
    obtain ⟨tr, zr, _, z2, rfl, e2, htake, _, hlen⟩ := applyStrictAll_idx_pair
      (pre.length + A.length) D' t t1 (pre ++ R ++ post) (pre ++ A ++ post) _ _ hidx hr hfull
    cases e2
    have hq0 := hq
    simp only [specEq, equivB, dispatchTag] at hq
    have hl := Real.equivList_length [] _ _ hq
    simp only [List.length_append] at hlen hl hfullLen
    have hRA : R.length = A.length := by omega
    cases R with
    | nil =>
      have : A = [] := List.eq_nil_of_length_eq_zero (by simpa using hRA.symm)
      exact hne ⟨rfl, this⟩
    | cons r0 R' =>
      cases A with
      | nil => simp at hRA
      | cons a0 A' =>
        have h1 : zr[pre.length]? = some r0 := by
          rw [getElem?_of_take_eq htake (by simp), List.append_assoc]
          exact getElem?_mid _ _ _
        have h2 : (Y ++ a0 :: A' ++ rest')[pre.length]? = some a0 := by
          rw [← hY]; simp [List.append_assoc]
        exact Bool.false_ne_true ((specEq_arr_false h1 h2 (hheads r0 a0 rfl rfl)).symm.trans hq0)

/-! ## K. the main induction -/

/-- good values of the source and of the target with different hash codes are not structurally
    equal -/
theorem specEq_false_of_hash_ne {o : Opts} (ho : dispatchTag o = .list) {S T : List Json}
    (N : NoCollision o S T) {x y : Json} (gx : Good x) (gy : Good y) (sx : Sub (DPL.subterms x) S)
    (sy : Sub (DPL.subterms y) T) (hne : hashCode o x ≠ hashCode o y) : specEq x y = false := by
  cases hq : specEq x y with
  | false => rfl
  | true => exact absurd (hash_of_specEq ho N.zero gx gy sx sy hq) hne

/-- the only hunk is left out: nothing is applied -/
theorem single_dropped {a r : Json} {x h : Hunk} {d1 d2 : Diff} (hd : [x] = d1 ++ h :: d2)
    (hr : applyStrictAll a (d1 ++ d2) = some r) : r = a := by
  obtain ⟨rfl, rfl, _⟩ := single_split hd
  cases hr
  rfl

/-- what "no hunk is redundant" asks of a step of the alignment beyond `StepApplies`: a recursed
    pair starts from a plain array or an object and has no redundant hunk itself; the first removed
    and the first added value of an `edit` step are not structurally equal -/
def StepNoRed (o : Opts) : Step → Prop
  | .keep _ _ => True
  | .sub x y => x.rawDoc = true ∧ ∀ d1 h d2, diffNode o false x y [] = d1 ++ h :: d2 →
      ∀ r, applyStrictAll x (d1 ++ d2) = some r → specEq r y = false
  | .edit R A => ∀ r0 a0, R.head? = some r0 → A.head? = some a0 → specEq r0 a0 = false

/-- **no hunk of a rendered script is redundant**: the array holds `pre` and the first array of the
    script; leave one hunk of the rendering out: what the others make of the array is not
    structurally equal to any array `Y ++ tgt S` with `|Y| = |pre|`. The dropped hunk is an `edit`
    step (`first_dropped`; the later hunks apply by `apply_render`), or a hunk of a recursed pair
    (the converse frame lemma turns the run into a leave-one-out run on the element), or a later
    one (the step has been applied: induction). -/
theorem script_noRed (L : FloatLaws) {o : Opts} (ho : dispatchTag o = .list) :
    ∀ (S : Script) (n : Bool) (t : Tag) (pre Y : List Json) (prev : Json), Spaced S →
      ((∃ R A r, S = .edit R A :: r) → PrevOK pre prev) → (∀ z ∈ src S, Good z) →
      (∀ st ∈ S, StepApplies o st ∧ StepNoRed o st) → Y.length = pre.length →
      ∀ d1 h d2, render o [] n pre.length prev S = d1 ++ h :: d2 →
      ∀ r, applyStrictAll (.arr t (pre ++ src S)) (d1 ++ d2) = some r →
      ∀ t'', specEq r (.arr t'' (Y ++ tgt S)) = false
  | [], _, _, _, _, _, _, _, _, _, _, d1, h, d2, hd, _, _, _ => by simp [render] at hd
  | .keep x y :: r, n, t, pre, Y, prev, hsp, _, hs, hst, hY, d1, h, d2, hd, res, hr, t'' => by
    have hxy : Rel x y := (hst _ List.mem_cons_self).1
    simp only [src_cons, Step.src, List.singleton_append, List.mem_cons, forall_eq_or_imp] at hs hr
    simp only [render] at hd
    have e : (pre ++ [x]).length = pre.length + 1 := by simp
    have := script_noRed L ho r true t (pre ++ [x]) (Y ++ [y]) y hsp.tail
      (fun _ => PrevOK.concat _ x y hxy.2) hs.2 (fun st h => hst st (.tail _ h)) (by simp [hY])
      d1 h d2 (by rw [e]; exact hd) res (by simpa [List.append_assoc] using hr) t''
    simpa [tgt_cons, Step.tgt, List.append_assoc] using this
  | .sub x y :: r, n, t, pre, Y, prev, hsp, _, hs, hst, hY, d1, h, d2, hd, res, hr, t'' => by
    obtain ⟨⟨hlx, hly, hsc, _, r0, hr0, hrel0, _⟩, hraw, ihN⟩ := hst _ List.mem_cons_self
    simp only [src_cons, Step.src, List.singleton_append, List.mem_cons, forall_eq_or_imp] at hs hr
    have hnv := sameContainerType_notVoid hsc
    have hframe := diff_frameOK o ho x y hlx hly hnv.1 hnv.2
    simp only [render] at hd
    rw [Real.subAfter_diffNode_of_not_mixed o hsc (mixedPair_of_rawDoc_left y hraw),
      diffNode_at o ho x y hlx hly] at hd
    have hxk : (pre ++ x :: src r)[pre.length]? = some x := getElem?_mid _ _ _
    have hidxTail : ∀ h' ∈ render o [] true (pre.length + 1) y r, IdxGe (pre.length + 1) h' :=
      render_idx_ge _ _ _ _
    have hyk : (Y ++ tgt (.sub x y :: r))[pre.length]? = some y := by
      rw [← hY]; simp [Step.tgt]
    have e : (pre ++ [r0]).length = pre.length + 1 := by simp
    rcases Real.split_append hd with ⟨s1', s2', hsub, f1, f2⟩ | ⟨z1, z2, htail, f1, f2⟩
    · -- a hunk of the sub-diff is dropped
      obtain ⟨s1, h0, s2, hsub0, g1, _, g3⟩ := map_split hsub
      rw [f1, f2, g1, g3, ← List.append_assoc (List.map _ s1), ← List.map_append,
        applyStrictAll_append] at hr
      obtain ⟨mid, hmid, hr⟩ := Option.bind_eq_some_iff.1 hr
      obtain ⟨x', t2, hx', rfl⟩ := applyStrictAll_idx_frame_conv (s1 ++ s2)
        (fun h' hm' => hframe h' (by
          rw [hsub0]
          rcases List.mem_append.1 hm' with hm' | hm'
          · exact List.mem_append_left _ hm'
          · exact List.mem_append_right _ (List.mem_cons_of_mem _ hm')))
        t _ pre.length x hxk mid hmid
      rw [set_mid] at hr
      have hne2 := ihN s1 h0 s2 hsub0 x' hx'
      obtain ⟨tr, zr, _, _, rfl, _, htake, _, _⟩ :=
        applyStrictAll_idx_pair (pre.length + 1) _ t2 t2 _ _ res res hidxTail hr hr
      have h1' : zr[pre.length]? = some x' := by
        rw [getElem?_of_take_eq htake (Nat.lt_succ_self _)]
        exact getElem?_mid _ _ _
      exact specEq_arr_false h1' hyk hne2
    · -- a later hunk is dropped
      rw [f1, f2, List.append_assoc _ z1 z2, applyStrictAll_append] at hr
      obtain ⟨t2, _, h2⟩ := applyStrictAll_idx_frame _ hframe t (pre ++ x :: src r) pre.length x hxk
        r0 hr0
      rw [set_mid] at h2
      rw [h2] at hr
      simp only [Option.bind_some] at hr
      have := script_noRed L ho r true t2 (pre ++ [r0]) (Y ++ [y]) y hsp.tail
        (fun _ => PrevOK.concat _ r0 y hrel0.2) hs.2 (fun st h => hst st (.tail _ h)) (by simp [hY])
        z1 h z2 (by rw [e]; exact htail) res (by simpa [List.append_assoc] using hr) t''
      simpa [tgt_cons, Step.tgt, List.append_assoc] using this
  | .edit R A :: r, n, t, pre, Y, prev, hsp, hp, hs, hst, hY, d1, h, d2, hd, res, hr, t'' => by
    obtain ⟨hne, hheads⟩ := hst _ List.mem_cons_self
    have hst' : ∀ st ∈ r, StepApplies o st := fun st h => (hst st (.tail _ h)).1
    simp only [src_cons, Step.src, List.mem_append] at hs hr
    simp only [render, List.nil_append] at hd
    have hnoedit : ¬ ∃ R' A' r', r = .edit R' A' :: r' := fun ⟨R', A', r', e⟩ => by
      subst e; exact hsp.1 ⟨rfl, rfl⟩
    have e : (pre ++ A).length = pre.length + A.length := by simp
    -- the `edit` hunk, and the complete run of the later hunks once it is in place
    have h1 := apply_edit L t pre R A (src r) prev (afterOf o [] (pre.length + A.length) r)
      (goodL_iff.2 fun z hz => hs z (.inl hz)) (hp ⟨R, A, r, rfl⟩)
      (by rw [afterOf_of_applies ho _ hst']; exact afterOK_headD L fun z hz => hs z (.inr hz))
    obtain ⟨tf, zs, _, hfull, hres⟩ := apply_render L o ho r false .raw (pre ++ A)
      (A.getLast?.getD prev) hsp.tail (fun h => absurd h hnoedit) (fun z hz => hs z (.inr hz)) hst'
    rw [e] at hfull
    cases d1 with
    | nil =>
      obtain ⟨rfl, rfl⟩ := List.cons.inj hd
      have := first_dropped pre Y R A (src r) (tgt r) t .raw _ hY
        (fun ⟨hR, hA⟩ => hne.elim (· hR) (· hA)) hheads (render_idx_ge _ _ _ _) tf _ hfull
        (by simp only [List.length_append, hY, hres.length]) res
        (by simpa [List.append_assoc] using hr) t''
      simpa [tgt_cons, Step.tgt, List.append_assoc] using this
    | cons h1' d1' =>
      obtain ⟨rfl, hd'⟩ := List.cons.inj hd
      rw [List.cons_append, show ∀ (h : Hunk) (D : Diff), h :: D = [h] ++ D from fun _ _ => rfl,
        applyStrictAll_append, ← List.append_assoc, h1] at hr
      simp only [Option.bind_some] at hr
      have := script_noRed L ho r false .raw (pre ++ A) (Y ++ A) (A.getLast?.getD prev) hsp.tail
        (fun h => absurd h hnoedit) (fun z hz => hs z (.inr hz)) (fun st h => hst st (.tail _ h))
        (by simp [hY]) d1' h d2 (by rw [e]; exact hd') res hr t''
      simpa [tgt_cons, Step.tgt, List.append_assoc] using this

/-- the first removed and the first added value of an `ok` `edit` step have different hash codes -/
theorem heads_hash_ne {o : Opts} {R A : List Json} (hok : (Step.edit R A).ok o) {r0 a0 : Json}
    (hr0 : R.head? = some r0) (ha0 : A.head? = some a0) : hashCode o r0 ≠ hashCode o a0 :=
  hok.2 0 r0 a0 (List.head?_eq_getElem? ▸ hr0) (List.head?_eq_getElem? ▸ ha0)

/-- a list against a list: the diff is the rendering of the alignment of the two arrays, so no hunk
    is redundant once every step of the alignment applies and is not redundant itself -/
theorem alignment_noRed (L : FloatLaws) {o : Opts} (ho : dispatchTag o = .list) {t t' : Tag}
    {xs ys : List Json} (ht : (t == .raw || t == .list) = true)
    (ht' : (t' == .raw || t' == .list) = true) (htt : t = .raw ∨ t' = .list) (gxs : GoodL xs)
    (steps : ∀ st ∈ alignment o xs ys, StepApplies o st ∧ StepNoRed o st) {d1 d2 : Diff} {h : Hunk}
    (hd : diffNode o false (.arr t xs) (.arr t' ys) [] = d1 ++ h :: d2) {r : Json}
    (hr : applyStrictAll (.arr t xs) (d1 ++ d2) = some r) (t'' : Tag) :
    specEq r (.arr t'' ys) = false := by
  rw [diffNode_alignment ho xs ys ht ht' htt] at hd
  have := script_noRed L ho (alignment o xs ys) true t [] [] .void (walk_spaced o xs ys _ [] [])
    (fun _ => by simp [PrevOK, Json.isVoid]) (fun z hz => gxs.of_mem (alignment_src o xs ys ▸ hz))
    steps rfl d1 h d2 hd r (by rw [alignment_src]; exact hr) t''
  rwa [alignment_tgt] at this

/-- … of two nodes: leave one hunk of the diff out, and what the others make of `a` is not
    structurally equal to `b` -/
abbrev NodeNoRed (o : Opts) (S T : List Json) (a b : Json) : Prop :=
  a.rawDoc = true → Sub (DPL.subterms a) S → Sub (DPL.subterms b) T → Good a → Good b →
    ∀ d1 h d2, diffNode o false a b [] = d1 ++ h :: d2 →
    ∀ r, applyStrictAll a (d1 ++ d2) = some r → specEq r b = false

/-- object against object: `NR.NoSub.obj` for the reference interpreter and "one hunk left out";
    below a key the diff is the diff of the two members, one removal, one addition, or nothing -/
theorem noRed_obj_obj {o : Opts} {S T : List Json} {kvs kvs' : List (String × Json)}
    (ih : ∀ k v v', alookup k kvs = some v → alookup k kvs' = some v' → NodeNoRed o S T v v') :
    NodeNoRed o S T (.obj kvs) (.obj kvs') := by
  intro hraw hS hT ga gb d1 h d2 hd r hr
  have ga' := good_obj.1 ga
  have gb' := good_obj.1 gb
  simp only [Json.rawDoc] at hraw
  refine Bool.eq_false_iff.2 (NR.NoSub.obj NR.subFam_dropOne objProj_applyStrictAll
    (E := fun x y => specEq x y = true) ga'.1
    (fun h' hh' => ⟨trivial, RealK.diff_obj_keyHeaded o kvs kvs' h' hh'⟩)
    (fun kvr hsr he => (equivB_obj_optRel [] hsr gb'.1).1 he) (fun k => ?_) (d1 ++ d2)
    ⟨d1, h, d2, hd, rfl⟩ r hr)
  rw [RealK.proj_diff_obj k ga'.1 gb'.1]
  cases h1 : alookup k kvs <;> cases h2 : alookup k kvs' <;> simp only []
  · exact Nat.le_refl 1
  · exact Nat.le_refl 1
  · rintro D' ⟨e1, h0, e2, hd', rfl⟩ r' hr'
    exact Bool.eq_false_iff.1 (ih k _ _ h1 h2 (alookup_rawDoc h1 hraw) (sub_lookup (sub_obj hS) h1)
      (sub_lookup (sub_obj hT) h2) (ga'.2.lookup h1).1 (gb'.2.lookup h2).1 e1 h0 e2 hd' r' hr')

/-- by induction on the first document (for the members of an object: every member both objects
    hold is `NodeNoRed`); a list against a list is `script_noRed` for the alignment of the two
    arrays, an object against an object is `noRed_obj_obj` -/
theorem noRed_strict (L : FloatLaws) (o : Opts) (ho : dispatchTag o = .list) {S T : List Json}
    (N : NoCollision o S T) :
    ∀ a b, a.listDoc = true → b.listDoc = true → NodeNoRed o S T a b := by
  refine (listDoc_induct (mK := fun kvs' kvs => ∀ k v v', (k, v) ∈ kvs → alookup k kvs' = some v' →
    NodeNoRed o S T v v') ?_ ?_ ?_ ?_ ?_ ?_ ?_).1
  · -- list against list
    intro t t' xs ys ht ht' htt hlx hly ih hraw hS hT ga gb d1 h d2 hd r hr
    simp only [Json.rawDoc, Bool.and_eq_true] at hraw
    have gxs := (good_arr.1 ga).2
    have gys := (good_arr.1 gb).2
    refine alignment_noRed L ho ht ht' htt gxs (fun st hst => ?_) hd hr t'
    · have hok := alignment_ok o xs ys st hst
      obtain ⟨hsrc, htgt⟩ := mem_of_mem_alignment hst
      refine ⟨stepApplies_of_ok o ho N.hash (Rec.numHashOK_of_zero N.zero) gxs gys (sub_arr hS)
        (sub_arr hT) (fun x _ y _ sx sy gx gy =>
          diff_correct L o ho N x y gx.listDoc gy.listDoc sx sy gx gy) hok hsrc htgt, ?_⟩
      cases st with
      | keep x y => trivial
      | sub x y =>
        have hx := hsrc x (by simp [Step.src]); have hy := htgt y (by simp [Step.tgt])
        exact ⟨DES.rawDocList_mem hraw.2 hx, ih x hx y (listDoc_of_mem hly hy)
          (DES.rawDocList_mem hraw.2 hx)
          (fun z hz => sub_arr hS z (subterms_sub_of_mem hx z hz))
          (fun z hz => sub_arr hT z (subterms_sub_of_mem hy z hz)) (gxs.of_mem hx) (gys.of_mem hy)⟩
      | edit R A =>
        intro r0 a0 hr0 ha0
        have hx := hsrc r0 (List.mem_of_mem_head? hr0); have hy := htgt a0 (List.mem_of_mem_head? ha0)
        exact specEq_false_of_hash_ne ho N (gxs.of_mem hx) (gys.of_mem hy)
          (fun z hz => sub_arr hS z (subterms_sub_of_mem hx z hz))
          (fun z hz => sub_arr hT z (subterms_sub_of_mem hy z hz)) (heads_hash_ne hok hr0 ha0)
  · -- list against something else
    intro t xs b ht _ hlb hb' hraw _ _ ga gb d1 h d2 hd r hr
    simp only [Json.rawDoc, Bool.and_eq_true, beq_iff_eq] at hraw
    rw [diffNode_arr_other ho xs b ht hb'] at hd
    rw [single_dropped hd hr]
    rcases hb' with hb' | ⟨e, _⟩
    · exact specEq_arr_other _ xs hb'
    · rw [hraw.1] at e; cases e
  · exact fun _ _ _ _ ih => noRed_obj_obj fun k v v' h1 h2 =>
      ih k v v' (mem_of_alookup h1) h2
  · -- object against something else
    intro kvs b _ _ hb' _ _ _ _ _ d1 h d2 hd r hr
    rw [diffNode_obj_other o kvs b hb'] at hd
    rw [single_dropped hd hr]
    exact specEq_obj_other kvs hb'
  · -- scalars
    intro a b h1 h2 hlb _ _ _ ga gb d1 h d2 hd r hr
    rw [diffNode_scalar o a b h1 h2] at hd
    unfold diffCommon at hd
    split at hd
    · simp at hd
    · next hne =>
      simp only [Bool.false_eq_true, if_false] at hd
      rw [single_dropped hd hr]
      rw [specEq_eq_equals ga.listDoc gb.listDoc]
      simpa using hne
  · -- no member left
    exact fun _ _ _ _ hm => nomatch hm
  · -- one more member
    intro kvs' k v r hl' _ _ ihN ihK k0 v0 v0' hm hl
    rcases List.mem_cons.1 hm with e | hm
    · cases e; exact ihN v0' (alookup_listDoc hl hl')
    · exact ihK k0 v0 v0' hm hl

/-! ## K2. arrays of scalars: the hash hypothesis between the elements only -/

/-- C07 "no hunk is redundant", two arrays of scalars of the domain, no hash collision between an
    element of the first and an element of the second array: leave out ANY one hunk of `a.Diff(b)`;
    if the remaining hunks apply at all, the result is not (structurally equal to) `b`. -/
theorem _root_.Jd.Real.no_redundant_hunk_scalar_arrays (L : FloatLaws) (F : FloatEq0) {o : Opts}
    (ho : dispatchTag o = .list) (hp : precOf o = 0) (hm : isMerge o = false) {t t' : Tag}
    (xs ys : List Json) (hga : Good (.arr t xs)) (hgb : Good (.arr t' ys))
    (hxs : ∀ x ∈ xs, Dom x) (hys : ∀ y ∈ ys, Dom y) (htt : t = .raw ∨ t' = .list)
    (scalars : ∀ x ∈ xs, isScalar x = true)
    (HashOK : ∀ x ∈ xs, ∀ y ∈ ys, hashCode o x = hashCode o y →
      specEq x y = true ∧ specEq y x = true)
    (d1 d2 : Diff) (h : Hunk) (hd : diffM o (.arr t xs) (.arr t' ys) = d1 ++ h :: d2)
    (r : Json) (hr : applyStrictAll (.arr t xs) (d1 ++ d2) = some r) :
    ∀ t'', specEq r (.arr t'' ys) = false := by
  intro t''
  have ht := (good_arr.1 hga).1
  have ht' := (good_arr.1 hgb).1
  have gxs := (good_arr.1 hga).2
  rw [diffM, hm] at hd
  have hok := alignment_ok o xs ys
  refine alignment_noRed L ho ht ht' htt gxs (fun st hst => ?_) hd hr t''
  · obtain ⟨hsrc, htgt⟩ := mem_of_mem_alignment hst
    cases st with
    | keep x y =>
      exact ⟨HashOK x (hsrc x (by simp [Step.src])) y (htgt y (by simp [Step.tgt])) (hok _ hst), trivial⟩
    | sub x y => exact absurd hst (no_sub_of_scalars o ys scalars x y)
    | edit R A =>
      refine ⟨(hok _ hst).1, fun r0 a0 hr0 ha0 => ?_⟩
      cases hq : specEq r0 a0 with
      | false => rfl
      | true =>
        exact absurd (Real.hash_eq_of_specEq F ho hp (hxs r0 (hsrc r0 (List.mem_of_mem_head? hr0)))
          (hys a0 (htgt a0 (List.mem_of_mem_head? ha0))) hq) (heads_hash_ne (hok _ hst) hr0 ha0)

/-! ## L. the hunks of a strict list diff are in the domain of C03 (`Patch` = reference interpreter) -/

/-- strict, addressed through keys and indices, list-document payloads: the domain of
    `patchAll_strict_eq_ref` -/
def StrictOK (h : Hunk) : Prop :=
  h.merge = false ∧ strictPath h.path = true ∧ hunkListDoc h = true

theorem StrictOK.toBool {h : Hunk} (s : StrictOK h) :
    (!h.merge && strictPath h.path && hunkListDoc h) = true := by
  simp [s.1, s.2.1, s.2.2]

theorem listDocKvs_mem {kvs : List (String × Json)} (h : listDocKvs kvs = true) :
    ∀ kv ∈ kvs, kv.2.listDoc = true := fun _ hm =>
  of_mem_of_all (g := fun kv => kv.2.listDoc) (fun _ _ => by rw [listDocKvs]) h hm

theorem listDoc_of_void_or_mem {l : List Json} {z : Json} (hl : listDocList l = true)
    (hz : z = .void ∨ z ∈ l) : z.listDoc = true := by
  rcases hz with rfl | hz
  · rfl
  · exact listDocList_iff.1 hl z hz

theorem listDocList_sublist {l l' : List Json} (h : l.Sublist l') (hl : listDocList l' = true) :
    listDocList l = true :=
  listDocList_iff.2 fun x hx => listDocList_iff.1 hl x (h.subset hx)

theorem strictPath_snoc : ∀ {p : Path} {e : PathElem}, strictPath p = true →
    strictPath [e] = true → strictPath (p ++ [e]) = true
  | [], _, _, he => he
  | .key _ :: r, _, hp, he => strictPath_snoc (p := r) hp he
  | .idx _ :: r, _, hp, he => strictPath_snoc (p := r) hp he
  | .set :: _, _, hp, _ => by cases hp
  | .mset :: _, _, hp, _ => by cases hp
  | .setKeys _ :: _, _, hp, _ => by cases hp
  | .msetKeys _ :: _, _, hp, _ => by cases hp

/-- the hunks of a strict list diff computed below a strict path are strict hunks about list documents;
    one case per origin of a hunk -/
theorem diff_strictOK_at (o : Opts) (ho : dispatchTag o = .list) :
    ∀ a b, a.listDoc = true → b.listDoc = true → ∀ p, ∀ h ∈ diffNode o false a b p,
      strictPath p = true → StrictOK h := by
  apply hunk_induct ho (P := fun _ _ p h => strictPath p = true → StrictOK h)
  · intro t t' xs ys p s prev R A after hlx hly _ _ hprev hR hA hafter hp
    exact ⟨rfl, strictPath_snoc hp rfl, by
      simp [hunkListDoc, listDocList, listDoc_of_void_or_mem hly hprev,
        listDoc_of_void_or_mem hlx hafter, listDocList_sublist hR hlx, listDocList_sublist hA hly]⟩
  · intro t t' xs ys p x y j n nx h hlx _ _ _ _ _ hnx ih hm hp
    -- through `subAfter`: only the after-context may have become the next element of the source
    obtain ⟨h0, hm0, e1, e2, e3, e4, e5, ha⟩ := mem_subAfter' hm
    have g := ih h0 hm0 (strictPath_snoc hp rfl)
    refine ⟨by rw [e5]; exact g.1, by rw [e1]; exact g.2.1, ?_⟩
    have g3 := g.2.2
    simp only [hunkListDoc, Bool.and_eq_true] at g3 ⊢
    rw [e2, e3, e4]
    rcases ha with ha | ha
    · rw [ha]; exact g3
    · rw [ha]
      exact ⟨g3.1, by simp only [listDocList, Bool.and_true]; exact listDoc_of_void_or_mem hlx hnx⟩
  · intro kvs kvs' p k v v' h _ _ _ _ _ ih hp
    exact ih (strictPath_snoc hp rfl)
  · intro kvs kvs' p k v hl hv _ hp
    exact ⟨rfl, strictPath_snoc hp rfl, by
      simp [hunkListDoc, listDocList, listDocList_nodeList (listDocKvs_mem hl _ hv)]⟩
  · intro kvs kvs' p k v' hl' hv' _ hp
    exact ⟨rfl, strictPath_snoc hp rfl, by
      simp [hunkListDoc, listDocList, listDocList_nodeList (listDocKvs_mem hl' _ hv')]⟩
  · intro a b p R A hla hlb _ _ hR hA hp
    have hR' : listDocList R = true := by
      rcases hR with rfl | ⟨t, xs, rfl, rfl⟩
      · exact listDocList_nodeList hla
      · simp only [Json.listDoc, Bool.and_eq_true] at hla
        simp [listDocList, Json.listDoc, hla.2]
    have hA' : listDocList A = true := by
      rcases hA with rfl | ⟨_, _, rfl⟩
      · exact listDocList_nodeList hlb
      · simp [listDocList, hlb]
    exact ⟨rfl, hp, by simp [hunkListDoc, listDocList, hR', hA']⟩

/-- at the root, and for the member loop of two objects -/
theorem diff_strictOK (o : Opts) (ho : dispatchTag o = .list) :
    (∀ a b, a.listDoc = true → b.listDoc = true → ∀ h ∈ diffNode o false a b [], StrictOK h) ∧
    (∀ kvs' kvs, listDocKvs kvs' = true → listDocKvs kvs = true →
      ∀ h ∈ diffKvs o false [] kvs' kvs, StrictOK h) :=
  ⟨fun a b ha hb h hm => diff_strictOK_at o ho a b ha hb [] h hm rfl,
   fun kvs' kvs hl' hl h hm => diff_strictOK_at o ho (.obj kvs) (.obj kvs') hl hl' [] h
    (by rw [diffNode_obj_obj]; exact List.mem_append_left _ hm) rfl⟩

/-! ## M. C07, "no hunk is redundant", LIST reading, strict strategy, the general case -/

/-- **No hunk of `a.Diff(b)` is redundant** (list reading, strict strategy; objects, arrays in arrays,
    containers as list elements: every document as read from text). Leave any single hunk out: if the
    remaining hunks apply at all under the documented meaning of hunks (`applyStrictAll`), the result
    is not structurally equal to `b`. -/
theorem no_redundant_hunk_list (L : FloatLaws) (o : Opts) (ho : dispatchTag o = .list)
    (hm : isMerge o = false) (a b : Json)
    (ha1 : a.rawDoc = true) (ha2 : a.wf = true) (ha3 : a.finiteNums = true) (ha4 : memOK a = true)
    (hb1 : b.listDoc = true) (hb2 : b.wf = true) (hb3 : b.finiteNums = true) (hb4 : memOK b = true)
    (H : HashOK o a b) (Z : ZeroOK a b)
    (d1 d2 : Diff) (h : Hunk) (hd : diffM o a b = d1 ++ h :: d2) (r : Json)
    (hr : applyStrictAll a (d1 ++ d2) = some r) : specEq r b = false := by
  have hal := rawDoc_listDoc a ha1
  have ha : Good a := ⟨hal, ha2, ha3, ha4⟩
  have hb : Good b := ⟨hb1, hb2, hb3, hb4⟩
  have N : NoCollision o (DPL.subterms a) (DPL.subterms b) :=
    ⟨fun x hx y hy h => by
      have e := H x hx y hy h
      exact ⟨e, by rw [specEq_symm L (good_subterms b hb y hy) (good_subterms a ha x hx)]; exact e⟩,
     Z⟩
  unfold diffM at hd
  rw [hm] at hd
  exact noRed_strict L o ho N a b hal hb1 ha1 (fun _ h => h) (fun _ h => h) ha hb d1 h d2 hd r hr

/-- the same about the LIBRARY's `Patch` (`patchAll sw`, either variant): whatever it makes of `a` with
    the remaining hunks is not structurally equal to `b`, and not `Equals` to it -/
theorem no_redundant_hunk_list_patch (L : FloatLaws) (o : Opts) (ho : dispatchTag o = .list)
    (hm : isMerge o = false) (hp : precOf o = 0) (a b : Json)
    (ha1 : a.rawDoc = true) (ha2 : a.wf = true) (ha3 : a.finiteNums = true) (ha4 : memOK a = true)
    (hb1 : b.listDoc = true) (hb2 : b.wf = true) (hb3 : b.finiteNums = true) (hb4 : memOK b = true)
    (H : HashOK o a b) (Z : ZeroOK a b)
    (d1 d2 : Diff) (h : Hunk) (hd : diffM o a b = d1 ++ h :: d2) (sw : Bool) (r : Json)
    (hr : patchAll sw a (d1 ++ d2) = .ok r) : specEq r b = false ∧ equals o r b = false := by
  have hal := rawDoc_listDoc a ha1
  have hall : (d1 ++ d2).all (fun h => !h.merge && strictPath h.path && hunkListDoc h) = true := by
    rw [List.all_eq_true]
    intro h' hm'
    refine ((diff_strictOK o ho).1 a b hal hb1 h' ?_).toBool
    have : h' ∈ diffM o a b := by
      rw [hd]
      rcases List.mem_append.1 hm' with hm' | hm'
      · exact List.mem_append_left _ hm'
      · exact List.mem_append_right _ (List.mem_cons_of_mem _ hm')
    simpa [diffM, hm] using this
  obtain ⟨m, hm1, hm2⟩ := strictAll_result sw a (d1 ++ d2) hall hal r hr
  have hne := no_redundant_hunk_list L o ho hm a b ha1 ha2 ha3 ha4 hb1 hb2 hb3 hb4 H Z d1 d2 h hd m hm1
  have hne' : specEq r b = false := by
    exact (specEq_left_of_untag_eq hm2).trans hne
  refine ⟨hne', ?_⟩
  have hrl : r.listDoc = true := patchAll_listDoc sw (d1 ++ d2) a hall hal r hr
  rw [equals_eq_equivB_list o ho r b hrl hb1, DPL.equivB_congr o [] ho rfl (by simpa [precOf] using hp)]
  exact hne'

end

/-! ## N. boundary witness, non-vacuity -/

namespace Witness

/-- OUTSIDE the domain (`a.rawDoc` fails: a typed `jsonList` node, which no reader produces, against a
    plain `jsonArray`): the diff of the EMPTY typed list and the EMPTY plain array is one hunk
    replacing the whole value, and it IS redundant — leaving it out, nothing is applied and the
    document is already structurally equal to the target. (The known boundary
    `diff_list_vs_array_nonempty` of C05, read for C07.) This is why `no_redundant_hunk_list` asks
    `a.rawDoc` and not only `a.listDoc`. -/
theorem typed_list_redundant :
    diffM [] (.arr .list []) (.arr .raw []) =
      [] ++ ({ path := [], remove := [.arr .list []], add := [.arr .raw []] } : Hunk) :: [] ∧
    applyStrictAll (.arr .list []) ([] ++ []) = some (.arr .list []) ∧
    specEq (.arr .list []) (.arr .raw []) = true := by
  exact ⟨diffM_of_eqb (by decide +kernel), rfl, by simp [specEq, equivB, dispatchTag, equivList]⟩

end Witness

namespace Example

/-- `{"l":["a",{"k":"u"},"c"],"m":"x"}` -/
def pA : Json :=
  .obj [("l", .arr .raw [.str "a", .obj [("k", .str "u")], .str "c"]), ("m", .str "x")]
/-- `{"l":["b",{"k":"v"},"c"],"n":"y"}` -/
def pB : Json :=
  .obj [("l", .arr .raw [.str "b", .obj [("k", .str "v")], .str "c"]), ("n", .str "y")]

/-- `HashOK` and `ZeroOK` of concrete collections of sub-terms by one evaluation: the first holds no
    number (`equivB` on numbers goes through the opaque `Float`), and every pair has different codes
    or is structurally equal -/
theorem hashOK_of_check {o : Opts} {S T : List Json}
    (h : (S.all fun x => x.numFree && T.all fun y => hashCode o x != hashCode o y || equivS [] x y)
      = true) :
    (∀ x ∈ S, ∀ y ∈ T, hashCode o x = hashCode o y → specEq x y = true) ∧
    (∀ u v, Json.num u ∈ S → Json.num v ∈ T → numWithin 0 u v = true → u = v) := by
  simp only [List.all_eq_true, Bool.and_eq_true] at h
  refine ⟨fun x hx y hy e => ?_, fun u v hu _ _ => ?_⟩
  · have := (h x hx).2 y hy
    rw [e, bne_self_eq_false, Bool.false_or, equivS_eq [] x y (h x hx).1] at this
    exact this
  · exact absurd (h _ hu).1 (by simp [Json.numFree])

theorem p_docs : pA.rawDoc = true ∧ pA.wf = true ∧ pA.finiteNums = true ∧ DPL.memOK pA = true ∧
    pB.listDoc = true ∧ pB.wf = true ∧ pB.finiteNums = true ∧ DPL.memOK pB = true := by decide

/-- no hash collision and no signed-zero pair between the sub-terms (7 × 7 pairs) -/
theorem p_hash (_ : FloatLaws) : DPL.HashOK [] pA pB ∧ DPL.ZeroOK pA pB :=
  hashOK_of_check (by decide +kernel)

-- four hunks: a list hunk at `l[0]` (after-context: the object), one INSIDE the object standing at
-- `l[1]`, the removed member `m`, the added member `n`
#eval (diffM [] pA pB).map (fun h => (h.path, h.remove, h.add))
-- every leave-one-out sub-diff applies (so the hypothesis `hr` of the theorem is satisfiable) …
#eval (List.range 4).map (fun i =>
  (applyStrictAll pA ((diffM [] pA pB).eraseIdx i)).isSome)
-- … and none of the results is structurally equal to the target
#eval (List.range 4).map (fun i =>
  (applyStrictAll pA ((diffM [] pA pB).eraseIdx i)).map (fun r => specEq r pB))

theorem p_diff_ne (L : FloatLaws) : diffM [] pA pB ≠ [] := by
  intro e
  obtain ⟨a1, a2, a3, a4, b1, b2, b3, b4⟩ := p_docs
  obtain ⟨H, Z⟩ := p_hash L
  obtain ⟨r, h1, h2, _⟩ := DPL.diffM_list_correct L [] rfl rfl pA pB (rawDoc_listDoc _ a1) a2 a3 a4
    b1 b2 b3 b4 H Z
  rw [e] at h1
  simp only [applyStrictAll, Option.some.injEq] at h1
  subst h1
  simp [specEq, equivB, pA, pB, equivKvs, alookup] at h2

/-- whatever hunk of the example diff is left out: the reference interpreter and the library's
    `Patch` do not reach the target with the rest -/
example (L : FloatLaws) (d1 d2 : Diff) (h : Hunk) (hd : diffM [] pA pB = d1 ++ h :: d2) :
    (∀ r, applyStrictAll pA (d1 ++ d2) = some r → specEq r pB = false) ∧
    (∀ r, patchM pA (d1 ++ d2) = .ok r → specEq r pB = false ∧ equals [] r pB = false) := by
  obtain ⟨a1, a2, a3, a4, b1, b2, b3, b4⟩ := p_docs
  obtain ⟨H, Z⟩ := p_hash L
  exact ⟨fun r hr => no_redundant_hunk_list L [] rfl rfl pA pB a1 a2 a3 a4 b1 b2 b3 b4 H Z d1 d2 h
      hd r hr,
    fun r hr => no_redundant_hunk_list_patch L [] rfl rfl rfl pA pB a1 a2 a3 a4 b1 b2 b3 b4 H Z d1
      d2 h hd true r hr⟩

end Example

end Jd.RealM

#print axioms Jd.Real.no_redundant_hunk_scalar_arrays
#print axioms Jd.RealM.no_redundant_hunk_list
#print axioms Jd.RealM.no_redundant_hunk_list_patch
