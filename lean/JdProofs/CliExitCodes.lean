/-
  JdProofs.CliExitCodes (namespace `Jd.CliExit`) — property C05, second sentence: "Consequently the
  CLI exits 0 exactly when the two inputs are equal under the flags given and 1 exactly when they
  differ", and C14: "exit 0 when there is no difference, 1 when there is, 2 on any error" — for the v2
  library (the v1 library: JdProofs.CliExitCodesV1).

  SETTING.  `CliRT.proc Ls b fl e` (JdProofs.CliRoundTrip) runs the CLI decision model `Cli.cliM` on the
  results of the library calls; `DiffRun nc Y Ls b fl e a b'` is the situation of the property: `Ls false`
  is the v2 library of the model (`nativeLib nc Y`; nothing is assumed of the YAML carrier `Y`), `fl` is
  a diff command line, both inputs are read and parse to `a`, `b'`, the `-o` file can be written.
  `haveDiff` of main.go decides the exit status: `text != ""` (native), `text != "[]"` (`-f patch`),
  `len(diff) > 0` (`-f merge`).  The first section states this for ANY `Lib`, in the situation
  `CliRT.Run` (`Run.ends`, `Run.jd_exit`, `Run.merge_exit`, `Run.patch_exit`, against an arbitrary `P`
  for "`haveDiff` is false"; `DiffRun.run` maps the situation into it); `jd_exit`, `merge_exit`
  are these at `P` = "the diff is empty" (`-f patch`: `renderPatch_text_iff` says what the text `[]`
  means), and the targets at `P` = "Equal", through the
  library-level equivalences "diff empty ⇔ Equal" (JdProofs.DiffEmpty, DiffEmptySet, PatchRenderClosed,
  MergeProofs).

  WHAT HOLDS, AND WHAT DOES NOT
    * list reading, native format (`cli_exit_zero_iff_equal_list`): exit 0 ⇔ Equal, exit 1 ⇔ not, never
      2, under the hypotheses of `diffM_nil_iff_equals` and "`Render` does not panic"
      (`renderM … isSome`).  The last one is needed ON THE MODEL only (`nativeLib.renderJd` maps the
      model's `none` = "json.Marshal fails on a number" = a Go panic to the empty text):
      `Witness.render_panic_artifact`.
    * `-f patch`: "1 exactly when they differ" is FALSE as soon as `RenderPatch` refuses the diff — a
      changed location at or below an object key that is number-like or `-`
      (`PRC.render_diffM_err_iff`): the run exits 2 (`cli_exit_zero_iff_equal_list_patch`).  With
      `PRC.keysExpressible` documents: `cli_exit_codes_list_patch`.  `-f merge`: the exit status comes
      from the diff, not the text; `cli_exit_zero_iff_equal_list_merge`, `cli_exit_codes_list_merge`.
    * `-set` / `-mset`: (exit 0 ⇒ Equal) unconditionally (`cli_exit_zero_implies_equal_set`);
      (Equal ⇒ exit 0) under `DES.DiffFaithful`, which is NECESSARY: `Witness.set_collision_exit` (a
      genuine FNV-1a collision: Equal, the process does not exit 0).
    * `-precision eps ≠ 0`: the statement is FALSE (KF-C05-precision): `diff_common.go` calls `Equals`
      without the options, so numbers within `eps` are Equal and the process exits 1
      (`precision_exit_one_though_equal`, `Witness.precision_process_witness`, relative to two IEEE
      facts the kernel cannot evaluate; the `#eval` next to it gives `(true, false)`).
    * JSON inputs (no `-yaml`): `rawDoc`, `listDoc`, `wf`, `PRC.vfree` of the documents are PROVED from
      the reader (`parse_shape`, `readJsonM_shape`, `DiffRun.shape`); the `*_json` theorems keep only the
      number hypotheses, `HashOK` and "Render does not panic".
    * `Example.*`: the theorems applied to concrete command lines and JSON texts (binary A, `exCodec`).

  NOT PROVED / NOT COVERED
    * `-setkeys`; `-set`/`-mset` with `-f patch` in the direction (exit 0 ⇒ Equal) (`PRC.Gen` is a
      list-mode invariant; set hunks carry a `{}` path element that `RenderPatch` refuses).
    * `-precision=-0`: `precNonZero` is false, the CLI passes `Precision(-0)`, `precOf ≠ 0` as a bit
      pattern; not covered (needs an IEEE fact about `≤ -0`).
    * YAML inputs: the YAML carrier is a parameter, so `rawDoc`, `wf`, `vfree` stay hypotheses there.
      `finiteNums`, `noNegZero` depend on the number codec (`-0` in a file is outside `Dom`).
    * `PRC.vfree` is needed by `diffM_nil_of_no_ops` on the model (a removal whose first value is the
      void marker is dropped by `RenderPatch`: `PRC.Example.void_element_witness`); no process-level
      witness (it needs a YAML carrier returning a document with a void element).
    * `HashOK` is asked for the native and patch formats (strict strategy), as in DiffEmpty.
-/
import JdProofs.CliRoundTrip
import JdProofs.CliRoundTripModes
import JdProofs.DiffEmptySet
import JdProofs.PatchRenderClosed
import JdProofs.MergeProofs
import JdProofs.JsonTextRoundTrip
import JdProofs.HashCheck
import JdProofs.Eval

namespace Jd.CliRT
open Jd Jd.Cli
open Jd.CliRTM (firstExit)

/-! ## the exit status of a diff process, for ANY library (the situation `Run`) -/

variable {N D : Type} {L : Lib N D} {Ls : Bool → LibPack} {b : Binary} {fl : Flags} {e : Env}
  {a b' : N} {opts : List Opt}

/-- **the two ways a diff run ends**: the renderer of the format returned a text `T`, which is what
    leaves the program, with exit status `firstExit` (`haveDiff` of `main`) and nothing on stderr; or
    it returned an error (`RenderPatch`, `RenderMerge` only) and the exit status is 2 -/
theorem Run.ends (R : Run L Ls b fl e a b') (ho : parsedOptions b fl = .ok opts) {fmt : Format}
    (hf : formatOf fl.f = some fmt) :
    (∃ T, renderAs L fmt fl.color (L.diff opts a b') = .ok T ∧
      (proc Ls b fl e).exit = firstExit L fmt (L.diff opts a b') T ∧
      emitted (proc Ls b fl e) = T ∧ (proc Ls b fl e).stderr = "") ∨
    (∃ m, renderAs L fmt fl.color (L.diff opts a b') = .error m ∧ (proc Ls b fl e).exit = 2) := by
  rw [R.proc_eq ho hf]
  cases renderAs L fmt fl.color (L.diff opts a b') with
  | ok T =>
    obtain ⟨y1, y2, y3, _, _⟩ := outcome_emit b (firstExit L fmt (L.diff opts a b') T) T fl.o
    exact .inl ⟨T, rfl, y1, y2, y3⟩
  | error m => exact .inr ⟨m, rfl, rfl⟩

theorem Run.exit_of_text (R : Run L Ls b fl e a b') (ho : parsedOptions b fl = .ok opts)
    {fmt : Format} (hf : formatOf fl.f = some fmt) {T : String}
    (hren : renderAs L fmt fl.color (L.diff opts a b') = .ok T) :
    (proc Ls b fl e).exit = firstExit L fmt (L.diff opts a b') T := by
  rw [R.proc_eq ho hf, hren]
  exact (outcome_emit b _ T fl.o).1

theorem Run.exit_of_error (R : Run L Ls b fl e a b') (ho : parsedOptions b fl = .ok opts)
    {fmt : Format} (hf : formatOf fl.f = some fmt) {m : String}
    (hren : renderAs L fmt fl.color (L.diff opts a b') = .error m) : (proc Ls b fl e).exit = 2 := by
  rw [R.proc_eq ho hf, hren]
  rfl

/-- **native format**: `Render` has no error result, so the run never exits 2; `P`: what the empty
    text means -/
theorem Run.jd_exit (R : Run L Ls b fl e a b') (ho : parsedOptions b fl = .ok opts)
    (hf : formatOf fl.f = some .jd) {P : Prop}
    (hP : L.renderJd fl.color (L.diff opts a b') = "" ↔ P) :
    ((proc Ls b fl e).exit = 0 ↔ P) ∧ ((proc Ls b fl e).exit = 1 ↔ ¬P) ∧
    (proc Ls b fl e).exit ≠ 2 := by
  rw [R.exit_of_text ho hf (T := L.renderJd fl.color (L.diff opts a b')) rfl, ← hP]
  by_cases h : L.renderJd fl.color (L.diff opts a b') = "" <;> simp [firstExit, h]

/-- the exit status when the renderer can fail: `P` says that `haveDiff` is false, `OK` / `ERR` that
    the renderer returned a text / an error -/
theorem exit_three_way {x : Nat} {P OK ERR : Prop} (hOK : P → OK) (hex : ¬(OK ∧ ERR))
    (hc : (OK ∧ (P → x = 0) ∧ (¬P → x = 1)) ∨ (ERR ∧ x = 2)) :
    (x = 0 ↔ P) ∧ (x = 1 ↔ ¬P ∧ OK) ∧ (x = 2 ↔ ¬P ∧ ERR) := by
  rcases hc with ⟨h, h0, h1⟩ | ⟨h, rfl⟩
  · have : ¬ERR := fun h' => hex ⟨h, h'⟩
    by_cases hp : P
    · simp [h0 hp, hp]
    · simp [h1 hp, hp, h, this]
  · have hp : ¬P := fun hp => hex ⟨hOK hp, h⟩
    have : ¬OK := fun h' => hex ⟨h', h⟩
    simp [hp, h, this]

/-- … and when the renderer succeeds whenever `haveDiff` is true, the run never exits 2 -/
theorem exit_never_two {x : Nat} {P Q OK ERR : Prop}
    (h : (x = 0 ↔ P) ∧ (x = 1 ↔ Q ∧ OK) ∧ (x = 2 ↔ Q ∧ ERR)) (hok : Q → OK)
    (hex : ¬(OK ∧ ERR)) : (x = 0 ↔ P) ∧ (x = 1 ↔ Q) ∧ x ≠ 2 :=
  ⟨h.1, ⟨fun hx => (h.2.1.1 hx).1, fun hp => h.2.1.2 ⟨hp, hok hp⟩⟩,
    fun hx => hex ⟨hok (h.2.2.1 hx).1, (h.2.2.1 hx).2⟩⟩

theorem not_ok_and_error {α : Type} {x : Except String α} : ¬((∃ T, x = .ok T) ∧ ∃ m, x = .error m) :=
  fun ⟨⟨_, h1⟩, ⟨_, h2⟩⟩ => by rw [h1] at h2; cases h2

/-- **merge format**: the exit status comes from `len(diff)`, not from the text -/
theorem Run.merge_exit (R : Run L Ls b fl e a b') (ho : parsedOptions b fl = .ok opts)
    (hf : formatOf fl.f = some .merge) {P : Prop}
    (hP : L.diffLen (L.diff opts a b') = 0 ↔ P)
    (hnil : P → ∃ T, L.renderMerge (L.diff opts a b') = .ok T) :
    ((proc Ls b fl e).exit = 0 ↔ P) ∧
    ((proc Ls b fl e).exit = 1 ↔ ¬P ∧ ∃ T, L.renderMerge (L.diff opts a b') = .ok T) ∧
    ((proc Ls b fl e).exit = 2 ↔ ¬P ∧ ∃ m, L.renderMerge (L.diff opts a b') = .error m) := by
  refine exit_three_way hnil not_ok_and_error ((R.ends ho hf).imp
    (fun ⟨T, h, hx, _⟩ => ⟨⟨T, h⟩, fun hp => ?_, fun hp => ?_⟩) (fun ⟨m, h, hx⟩ => ⟨⟨m, h⟩, hx⟩))
  · rw [hx]; simp [firstExit, hP.2 hp]
  · rw [hx]; simp [firstExit, Nat.pos_of_ne_zero (mt hP.1 hp)]

/-- **JSON Patch format**: the exit status comes from `text != "[]"`; `P`: what the text `[]` means -/
theorem Run.patch_exit (R : Run L Ls b fl e a b') (ho : parsedOptions b fl = .ok opts)
    (hf : formatOf fl.f = some .patch) {P : Prop}
    (hP : ∀ T, L.renderPatch (L.diff opts a b') = .ok T → (T = "[]" ↔ P))
    (hnil : P → ∃ T, L.renderPatch (L.diff opts a b') = .ok T) :
    ((proc Ls b fl e).exit = 0 ↔ P) ∧
    ((proc Ls b fl e).exit = 1 ↔ ¬P ∧ ∃ T, L.renderPatch (L.diff opts a b') = .ok T) ∧
    ((proc Ls b fl e).exit = 2 ↔ ¬P ∧ ∃ m, L.renderPatch (L.diff opts a b') = .error m) := by
  refine exit_three_way hnil not_ok_and_error ((R.ends ho hf).imp
    (fun ⟨T, h, hx, _⟩ => ⟨⟨T, h⟩, fun hp => ?_, fun hp => ?_⟩) (fun ⟨m, h, hx⟩ => ⟨⟨m, h⟩, hx⟩))
  · rw [hx]; simp [firstExit, (hP T h).2 hp]
  · rw [hx]; simp [firstExit, mt (hP T h).1 hp]

end Jd.CliRT

namespace Jd.CliExit
open Jd Jd.Cli Jd.CliRT
open Jd.CliRTM (firstExit)

/-! ## the situation for the v2 library -/

/-- THE SITUATION of the property: a diff command line (`jd [flags] FILE1 [FILE2]`) of a binary that
    uses the v2 library (`Ls false` is the v2 library of the model), both inputs are read and parse
    (with the reader for `-yaml`) to the documents `a` and `b'`, and writing the `-o` file (if one is
    asked for) succeeds. -/
structure DiffRun (nc : NumCodec) (Y : YamlCarrier) (Ls : Bool → LibPack) (b : Binary) (fl : Flags)
    (e : Env) (a b' : Json) : Prop where
  lib   : Ls false = ⟨Json, Diff, nativeLib nc Y⟩
  mode  : isDiffMode fl
  v2    : libIsV1 b fl = false
  nargs : fl.nargs = 1 ∨ fl.nargs = 2
  read1 : ∃ ta, e.in1 = .ok ta ∧ (nativeLib nc Y).readDoc fl.yaml ta = .ok a
  read2 : ∃ tb, e.in2 = .ok tb ∧ (nativeLib nc Y).readDoc fl.yaml tb = .ok b'
  write : fl.o = "" ∨ e.write = .ok ()

theorem nativeLib_diffLen (nc : NumCodec) (Y : YamlCarrier) (d : Diff) :
    (nativeLib nc Y).diffLen d = d.length := rfl

variable {nc : NumCodec} {Y : YamlCarrier} {Ls : Bool → LibPack} {b : Binary} {fl : Flags} {e : Env}
  {a b' : Json}

theorem DiffRun.run (R : DiffRun nc Y Ls b fl e a b') : Run (nativeLib nc Y) Ls b fl e a b' :=
  ⟨R.v2 ▸ R.lib, R.mode, R.nargs, R.read1, R.read2, R.write⟩

/-! ## what the text of a diff tells about its emptiness -/


theorem renderHunk_ne_empty {nc : NumCodec} {o : Opts} {h : Hunk} {t : String}
    (ht : renderHunk nc o h = some t) : t ≠ "" := by
  unfold renderHunk at ht
  simp only [Option.bind_eq_bind, Option.bind_eq_some_iff, Option.pure_def, Option.some.injEq] at ht
  obtain ⟨pt, _, bf, _, rm, _, ad, _, af, _, rfl⟩ := ht
  intro h0
  simp only [String.append_eq_empty_iff] at h0
  exact absurd h0.1.1.1.1.1.1.2 (by decide)

/-- the native text of a diff is empty exactly when the diff is -/
theorem renderM_empty_iff {nc : NumCodec} {o : Opts} {d : Diff} {T : String}
    (h : renderM nc o d = some T) : T = "" ↔ d = [] := by
  cases d with
  | nil =>
    simp [renderM, optAll] at h
    simp [← h]
  | cons x r =>
    simp only [renderM, List.map_cons, Option.map_eq_some_iff] at h
    obtain ⟨l, hl, rfl⟩ := h
    obtain ⟨y, ys, hy, _, rfl⟩ := NativeRT.optAll_cons_some hl
    simp only [String.join_cons, String.append_eq_empty_iff, reduceCtorEq, iff_false, not_and]
    intro h0
    exact absurd h0 (renderHunk_ne_empty hy)

/-- the text of one JSON Patch operation is not empty, whatever prints the value (`patchOpText` of
    either library) -/
theorem opText_ne_empty {val : Option String} {p : PatchOp} {t : String}
    (h : val.map (fun v => "{\"op\":" ++ quoteString p.op ++ ",\"path\":" ++ quoteString p.path ++
      ",\"value\":" ++ v ++ "}") = some t) : t ≠ "" := by
  simp only [Option.map_eq_some_iff] at h
  obtain ⟨v, _, rfl⟩ := h
  intro h0
  simp only [String.append_eq_empty_iff] at h0
  exact absurd h0.1.1.1.1.1.1 (by decide)

theorem bracket_eq {X : String} (h : "[" ++ X ++ "]" = "[]") : X = "" := by
  have := congrArg String.toList h
  simp only [String.toList_append] at this
  have h2 : X.toList = [] := by
    have : ("[" : String).toList = ['['] := rfl
    have h3 : ("]" : String).toList = [']'] := rfl
    have h4 : ("[]" : String).toList = ['[', ']'] := rfl
    simp_all
  exact String.toList_eq_nil_iff.1 h2

theorem intercalate_cons_ne {x : String} {r : List String} (hx : x ≠ "") :
    ",".intercalate (x :: r) ≠ "" := by
  cases r with
  | nil => simpa using hx
  | cons y ys =>
    rw [String.intercalate_cons_cons]
    intro h0
    simp only [String.append_eq_empty_iff] at h0
    exact hx h0.1.1

/-- a bracketed, comma-separated list of non-empty texts is `[]` only for the empty list -/
theorem bracket_text_iff {α : Type} {f : α → Option String} (hf : ∀ p t, f p = some t → t ≠ "")
    {ops : List α} {T : String}
    (h : (optAll (ops.map f)).map (fun l => "[" ++ ",".intercalate l ++ "]") = some T) :
    T = "[]" ↔ ops = [] := by
  simp only [Option.map_eq_some_iff] at h
  obtain ⟨l, hl, rfl⟩ := h
  cases ops with
  | nil =>
    simp [optAll] at hl
    subst hl
    simp
  | cons p ps =>
    obtain ⟨y, ys, hy, _, rfl⟩ := NativeRT.optAll_cons_some hl
    simp only [reduceCtorEq, iff_false]
    intro h0
    exact intercalate_cons_ne (hf p y hy) (bracket_eq h0)

/-- `RenderPatch` of either library (`[]` for the empty diff, otherwise the bracketed texts of the
    operations `ops`, printed by `f`): the text is `[]` exactly when the diff is empty or renders to no
    operation -/
theorem patchText_iff {α : Type} {d : List α} {ops : Jd.Outcome (List PatchOp)}
    {f : PatchOp → Option String} (hf : ∀ p t, f p = some t → t ≠ "") {T : String}
    (h : (if d.isEmpty then Jd.Outcome.ok (some "[]") else
      match ops with
      | .ok ops => .ok ((optAll (ops.map f)).map (fun l => "[" ++ String.intercalate "," l ++ "]"))
      | .err => .err
      | .panic => .panic) = .ok (some T)) :
    T = "[]" ↔ (d = [] ∨ ops = .ok []) := by
  cases d with
  | nil => simp at h; simp [← h]
  | cons x r =>
    simp only [List.isEmpty_cons, Bool.false_eq_true, if_false] at h
    cases ops with
    | err => cases h
    | panic => cases h
    | ok ops => simpa using bracket_text_iff hf (Outcome.ok.inj h)

theorem renderPatchM_text_iff {nc : NumCodec} {d : Diff} {T : String}
    (h : renderPatchM nc d = .ok (some T)) :
    T = "[]" ↔ (d = [] ∨ renderPatchOps d = .ok []) :=
  patchText_iff (fun _ _ => opText_ne_empty) h

theorem renderPatchHunk_ops_ne {h : Hunk} {ops : List PatchOp} (e : renderPatchHunk h = .ok ops)
    (hr : noVoid h.remove) (ha : noVoid h.add) : ops ≠ [] := by
  obtain ⟨s, bo, ao, _, hne, _, _, _, _, rfl⟩ := renderPatchHunk_ok e
  intro h0
  simp only [List.append_eq_nil_iff] at h0
  obtain ⟨⟨_, h1⟩, h2⟩ := h0
  cases hrem : h.remove with
  | cons r0 rs =>
    have hv : r0.isVoid = false := hr r0 (by rw [hrem]; exact List.mem_cons_self)
    rw [hrem] at h1
    simp [remOpsOf, hv] at h1
  | nil =>
    cases hadd : h.add with
    | nil => simp [hrem, hadd] at hne
    | cons a0 as =>
      have hv : a0.isVoid = false := ha a0 (by rw [hadd]; exact List.mem_cons_self)
      rw [hadd] at h2
      simp [addOpsOf, hv] at h2

/-- a list-mode diff (strict strategy) that renders to NO operation is empty -/
theorem diffM_nil_of_no_ops (o : Opts) (ho : dispatchTag o = .list) (hm : isMerge o = false)
    (a b : Json) (ha1 : a.listDoc = true) (ha2 : a.wf = true) (ha4 : PRC.vfree a = true)
    (hb1 : b.listDoc = true) (hb2 : b.wf = true) (hb4 : PRC.vfree b = true)
    (h : renderPatchOps (diffM o a b) = .ok []) : diffM o a b = [] := by
  cases hv : (a.isObj && b.isVoid) with
  | false =>
    have G := PRC.diffM_gen o ho hm a b ha1 ha2 ha4 hb1 hb2 hb4 (PRC.lenLe_maxLen a)
      (PRC.lenLe_maxLen b) hv
    cases hd : diffM o a b with
    | nil => rfl
    | cons x r =>
      rw [hd] at h G
      obtain ⟨p, q, hp, _, hpq⟩ := renderPatchOps_ok_cons h
      have g := G x List.mem_cons_self
      have := renderPatchHunk_ops_ne hp g.remNoVoid g.addNoVoid
      cases p with
      | nil => exact absurd rfl this
      | cons _ _ => cases hpq
  | true =>
    simp only [Bool.and_eq_true] at hv
    cases a with
    | obj kvs =>
      rw [PRC.isVoid_eq hv.2, PRC.diffM_obj_void o hm, PRC.render_objVoidHunk] at h
      cases h
    | _ => simp [Json.isObj] at hv

/-! ## exit status and emptiness of the diff, format by format -/

/-- the option list `Render` receives: COLOR with `-color` -/
def colorOpts (fl : Flags) : List Opt := if fl.color then [Opt.color] else []

/-- when `Render` does not panic (`renderM … isSome`: every number of the diff can be printed) the
    native text is empty exactly when the diff is -/
theorem renderJd_empty_iff {d : Diff} (hs : (renderM nc (colorOpts fl) d).isSome = true) :
    (nativeLib nc Y).renderJd fl.color d = "" ↔ d = [] := by
  obtain ⟨t, ht⟩ := Option.isSome_iff_exists.1 hs
  show (renderM nc (colorOpts fl) d).getD "" = "" ↔ d = []
  rw [ht]
  exact renderM_empty_iff ht

theorem ofOutcomeText_ok {x : Jd.Outcome (Option String)} {T : String} :
    ofOutcomeText x = .ok T ↔ x = .ok (some T) := by
  cases x with
  | ok o => cases o <;> simp [ofOutcomeText]
  | err => simp [ofOutcomeText]
  | panic => simp [ofOutcomeText]

theorem renderMerge_nil (nc : NumCodec) (Y : YamlCarrier) :
    (nativeLib nc Y).renderMerge [] = .ok "{}" := by
  show ofOutcomeText (renderMergeM nc []) = .ok "{}"
  simp [renderMergeM, renderMergeDoc, jsonM, rawNorm, rawNormKvs, jsonText, jsonTextKvs,
    ofOutcomeText]

/-- what the three renderers make of the empty diff: a text for which `haveDiff` is false -/
theorem renderAs_nil (nc : NumCodec) (Y : YamlCarrier) (fmt : Format) (c : Bool) :
    ∃ T, renderAs (nativeLib nc Y) fmt c [] = .ok T ∧ firstExit (nativeLib nc Y) fmt [] T = 0 := by
  cases fmt
  · exact ⟨"", by cases c <;> rfl, rfl⟩
  · exact ⟨"[]", rfl, rfl⟩
  · exact ⟨"{}", renderMerge_nil nc Y, rfl⟩

/-- an empty diff gives exit 0, in every format -/
theorem exit_zero_of_nil (R : DiffRun nc Y Ls b fl e a b') {opts : List Opt}
    (ho : parsedOptions b fl = .ok opts) {fmt : Format} (hf : formatOf fl.f = some fmt)
    (hd : diffM opts a b' = []) : (proc Ls b fl e).exit = 0 := by
  obtain ⟨T, h1, h2⟩ := renderAs_nil nc Y fmt fl.color
  rw [← hd] at h1 h2
  exact (R.run.exit_of_text ho hf h1).trans h2

/-- **native format**, `Render` not panicking: exit 0 / 1 tell exactly whether the diff is empty;
    never exit 2 -/
theorem jd_exit (R : DiffRun nc Y Ls b fl e a b') {opts : List Opt}
    (ho : parsedOptions b fl = .ok opts) (hf : formatOf fl.f = some .jd)
    (hren : (renderM nc (colorOpts fl) (diffM opts a b')).isSome = true) :
    ((proc Ls b fl e).exit = 0 ↔ diffM opts a b' = []) ∧
    ((proc Ls b fl e).exit = 1 ↔ diffM opts a b' ≠ []) ∧ (proc Ls b fl e).exit ≠ 2 :=
  R.run.jd_exit ho hf (renderJd_empty_iff hren)

/-- **merge format** (exit status from `len(diff)`, not from the text): exact characterisation -/
theorem merge_exit (R : DiffRun nc Y Ls b fl e a b') {opts : List Opt}
    (ho : parsedOptions b fl = .ok opts) (hf : formatOf fl.f = some .merge) :
    ((proc Ls b fl e).exit = 0 ↔ diffM opts a b' = []) ∧
    ((proc Ls b fl e).exit = 1 ↔ diffM opts a b' ≠ [] ∧
      ∃ T, (nativeLib nc Y).renderMerge (diffM opts a b') = .ok T) ∧
    ((proc Ls b fl e).exit = 2 ↔ diffM opts a b' ≠ [] ∧
      ∃ m, (nativeLib nc Y).renderMerge (diffM opts a b') = .error m) :=
  R.run.merge_exit ho hf List.length_eq_zero_iff
    (fun hd => ⟨"{}", by rw [nativeLib_diff, hd]; exact renderMerge_nil nc Y⟩)

/-- what the JSON Patch text `[]` means for a diff that renders to no operation only when it is empty
    (`hgen`; proved for the diffs `Diff` produces in the list reading: `diffM_nil_of_no_ops`) -/
theorem renderPatch_text_iff {d : Diff} (hgen : renderPatchOps d = .ok [] → d = []) (T : String)
    (hT : (nativeLib nc Y).renderPatch d = .ok T) : T = "[]" ↔ d = [] :=
  (renderPatchM_text_iff (ofOutcomeText_ok.1 hT)).trans ⟨fun h => h.elim id hgen, .inl⟩

/-! ## LIST reading (no `-set`, `-mset`, `-setkeys`), no `-precision` -/

theorem merge_of_fmt {s : String} (h : formatOf s = some .merge) : (s == "merge") = true := by
  unfold formatOf at h
  split at h
  · cases h
  · split at h
    · cases h
    · split at h
      · assumption
      · cases h

theorem not_merge_of_patch {s : String} (h : formatOf s = some .patch) : (s == "merge") = false :=
  not_merge_of_format h Format.noConfusion

/-- the flags of the list reading without Precision -/
structure PlainFlags (fl : Flags) : Prop where
  set     : fl.set = false
  mset    : fl.mset = false
  setkeys : fl.setkeys = ""
  prec    : fl.precision = 0

/-- **C05 / C14 on the process, native format, list reading** (`cli_exit_zero_iff_equal_list`):
    `jd [-color] [-yaml] [-o F] a b` exits 0 exactly when `a.Equals(b, Precision(0))`, exits 1
    exactly when not, and never exits 2. -/
theorem cli_exit_zero_iff_equal_list (F : FloatEq0) (R : DiffRun nc Y Ls b fl e a b')
    (P : PlainFlags fl) (hfmt : formatOf fl.f = some .jd)
    (hraw : a.rawDoc = true) (ha : Dom a) (hb : Dom b') (H : DE.HashOK [Opt.prec 0] a b')
    (hren : (renderM nc (colorOpts fl) (diffM [Opt.prec 0] a b')).isSome = true) :
    ((proc Ls b fl e).exit = 0 ↔ equals [Opt.prec 0] a b' = true) ∧
    ((proc Ls b fl e).exit = 1 ↔ equals [Opt.prec 0] a b' = false) ∧
    (proc Ls b fl e).exit ≠ 2 := by
  have ho := parsedOptions_list b P.set P.mset P.setkeys hfmt
  rw [P.prec] at ho
  simpa only [Bool.not_eq_true] using R.run.jd_exit ho hfmt ((renderJd_empty_iff hren).trans
    (diffM_nil_iff_equals F [Opt.prec 0] rfl rfl a b' hraw ha hb H))

/-- (Equal ⇒ exit 0), native format: no hash hypothesis, no rendering hypothesis -/
theorem cli_equal_exit_zero_list (F : FloatEq0) (R : DiffRun nc Y Ls b fl e a b')
    (P : PlainFlags fl) (hfmt : formatOf fl.f = some .jd)
    (hraw : a.rawDoc = true) (ha : Dom a) (hb : Dom b')
    (heq : equals [Opt.prec 0] a b' = true) : (proc Ls b fl e).exit = 0 := by
  have ho := parsedOptions_list b P.set P.mset P.setkeys hfmt
  rw [P.prec] at ho
  exact exit_zero_of_nil R ho hfmt (diffM_nil_of_equals F [Opt.prec 0] rfl rfl a b' hraw ha hb heq)

/-- **`-f merge`, list reading**: the exit status comes from `len(diff)`; exit 0 exactly when
    `a.Equals(b, MERGE, Precision(0))`; when not Equal, exit 1 or — exactly when `RenderMerge`
    returns an error — exit 2.  No hash hypothesis (merge diffs compare arrays with `Equals`). -/
theorem cli_exit_zero_iff_equal_list_merge (F : FloatEq0) (R : DiffRun nc Y Ls b fl e a b')
    (P : PlainFlags fl) (hfmt : formatOf fl.f = some .merge)
    (hraw : a.rawDoc = true) (ha : Dom a) (hb : Dom b') :
    ((proc Ls b fl e).exit = 0 ↔ equals [Opt.merge, Opt.prec 0] a b' = true) ∧
    ((proc Ls b fl e).exit = 1 ↔ equals [Opt.merge, Opt.prec 0] a b' = false ∧
      ∃ T, (nativeLib nc Y).renderMerge (diffM [Opt.merge, Opt.prec 0] a b') = .ok T) ∧
    ((proc Ls b fl e).exit = 2 ↔ equals [Opt.merge, Opt.prec 0] a b' = false ∧
      ∃ m, (nativeLib nc Y).renderMerge (diffM [Opt.merge, Opt.prec 0] a b') = .error m) := by
  have ho : parsedOptions b fl = .ok [Opt.merge, Opt.prec 0] := by
    rw [parsedOptions_listReading b P.set P.mset P.setkeys, merge_of_fmt hfmt, P.prec]; rfl
  have hiff := diffM_nil_iff_equals_merge F [Opt.merge, Opt.prec 0] rfl rfl rfl a b' hraw ha hb
  simpa only [Bool.not_eq_true, nativeLib_diff] using R.run.merge_exit ho hfmt (List.length_eq_zero_iff.trans hiff)
    (fun he => ⟨"{}", by rw [nativeLib_diff, hiff.2 he]; exact renderMerge_nil nc Y⟩)

/-- **`-f patch`, list reading**: the exit status comes from `text != "[]"`; the text is `[]`
    exactly when the diff is empty (`diffM_nil_of_no_ops`), so exit 0 exactly when Equal; when not
    Equal, exit 1 or — exactly when `RenderPatch` returns an error — exit 2. -/
theorem cli_exit_zero_iff_equal_list_patch (F : FloatEq0) (R : DiffRun nc Y Ls b fl e a b')
    (P : PlainFlags fl) (hfmt : formatOf fl.f = some .patch)
    (hraw : a.rawDoc = true) (ha : Dom a) (hb : Dom b') (H : DE.HashOK [Opt.prec 0] a b')
    (hva : PRC.vfree a = true) (hvb : PRC.vfree b' = true) :
    ((proc Ls b fl e).exit = 0 ↔ equals [Opt.prec 0] a b' = true) ∧
    ((proc Ls b fl e).exit = 1 ↔ equals [Opt.prec 0] a b' = false ∧
      ∃ T, (nativeLib nc Y).renderPatch (diffM [Opt.prec 0] a b') = .ok T) ∧
    ((proc Ls b fl e).exit = 2 ↔ equals [Opt.prec 0] a b' = false ∧
      ∃ m, (nativeLib nc Y).renderPatch (diffM [Opt.prec 0] a b') = .error m) := by
  have ho : parsedOptions b fl = .ok [Opt.prec 0] := by
    rw [parsedOptions_listReading b P.set P.mset P.setkeys, not_merge_of_patch hfmt, P.prec]; rfl
  have hiff := diffM_nil_iff_equals F [Opt.prec 0] rfl rfl a b' hraw ha hb H
  simpa only [Bool.not_eq_true, nativeLib_diff] using R.run.patch_exit ho hfmt
    (fun T hT => (renderPatch_text_iff (diffM_nil_of_no_ops [Opt.prec 0] rfl rfl a b' ha.listDoc
      ha.wf hva hb.listDoc hb.wf hvb) T hT).trans hiff)
    (fun he => ⟨"[]", by rw [nativeLib_diff, hiff.2 he]; rfl⟩)

/-! ## when `-f patch` / `-f merge` never exit 2 -/

/-- `RenderPatch` succeeds on the text level when it succeeds on the operation level and every
    value of an operation can be printed -/
theorem renderPatch_ok_of_ops (Y : YamlCarrier) {d : Diff} {ops : List PatchOp}
    (ho : renderPatchOps d = .ok ops)
    (hmar : ∀ p ∈ ops, (marshalNode nc p.value).isSome = true) :
    ∃ T, (nativeLib nc Y).renderPatch d = .ok T := by
  show ∃ T, ofOutcomeText (renderPatchM nc d) = .ok T
  unfold renderPatchM
  split
  · exact ⟨"[]", rfl⟩
  · rw [ho]
    obtain ⟨r, hr⟩ := E2E.optAll_map_isSome (patchOpText nc) ops (fun p hp => by
      simp only [patchOpText, Option.isSome_map]; exact hmar p hp)
    exact ⟨"[" ++ ",".intercalate r ++ "]", by simp only [hr, Option.map_some, ofOutcomeText]⟩

/-- **`-f patch`, list reading, never exit 2**: when every object key of both documents is
    expressible as a JSON Pointer token (`PRC.keysExpressible`: not number-like, not `-`) and every
    value of the rendered operations can be printed, the run exits 0 when Equal and 1 when not. -/
theorem cli_exit_codes_list_patch (F : FloatEq0) (R : DiffRun nc Y Ls b fl e a b')
    (P : PlainFlags fl) (hfmt : formatOf fl.f = some .patch)
    (hraw : a.rawDoc = true) (ha : Dom a) (hb : Dom b') (H : DE.HashOK [Opt.prec 0] a b')
    (hva : PRC.vfree a = true) (hvb : PRC.vfree b' = true)
    (ka : PRC.keysExpressible a = true) (kb : PRC.keysExpressible b' = true)
    (hmar : ∀ ops, renderPatchOps (diffM [Opt.prec 0] a b') = .ok ops →
      ∀ p ∈ ops, (marshalNode nc p.value).isSome = true) :
    ((proc Ls b fl e).exit = 0 ↔ equals [Opt.prec 0] a b' = true) ∧
    ((proc Ls b fl e).exit = 1 ↔ equals [Opt.prec 0] a b' = false) ∧
    (proc Ls b fl e).exit ≠ 2 := by
  obtain ⟨ops, hops⟩ := (PRC.render_diffM_ok_iff [Opt.prec 0] rfl rfl a b' ha.listDoc ha.wf hva
    hb.listDoc hb.wf hvb).2
    (PRC.diffM_paths_expressible [Opt.prec 0] rfl rfl a b' ha.listDoc hb.listDoc ka kb)
  obtain ⟨T, hT⟩ := renderPatch_ok_of_ops (nc := nc) Y hops (hmar ops hops)
  exact exit_never_two (cli_exit_zero_iff_equal_list_patch F R P hfmt hraw ha hb H hva hvb)
    (fun _ => ⟨T, hT⟩) not_ok_and_error

/-- **`-f merge`, list reading, never exit 2**: when the second document is in the domain of JSON
    Merge Patch (no `null`, no void member) and the rendered merge document can be printed -/
theorem cli_exit_codes_list_merge (F : FloatEq0) (L : Jd.Spec.FloatLaws)
    (R : DiffRun nc Y Ls b fl e a b')
    (P : PlainFlags fl) (hfmt : formatOf fl.f = some .merge)
    (hraw : a.rawDoc = true) (ha : Dom a) (hb : Dom b')
    (hbr : b'.rawDoc = true) (hbn : b'.nullFree = true) (hbv : Merge.objVoidFree b' = true)
    (hmar : ∀ m, renderMergeDoc (diffM [Opt.merge, Opt.prec 0] a b') = .ok m →
      (jsonM nc m).isSome = true) :
    ((proc Ls b fl e).exit = 0 ↔ equals [Opt.merge, Opt.prec 0] a b' = true) ∧
    ((proc Ls b fl e).exit = 1 ↔ equals [Opt.merge, Opt.prec 0] a b' = false) ∧
    (proc Ls b fl e).exit ≠ 2 := by
  have hok : equals [Opt.merge, Opt.prec 0] a b' = false →
      ∃ T, (nativeLib nc Y).renderMerge (diffM [Opt.merge, Opt.prec 0] a b') = .ok T := by
    intro hne
    obtain ⟨m, hm, _⟩ := Merge.merge_render_correct L [Opt.merge, Opt.prec 0] rfl rfl rfl a b'
      ha.wf hraw hb.wf hbr hbn hbv hb.fin hne
    obtain ⟨t, ht⟩ := Option.isSome_iff_exists.1 (hmar m hm)
    refine ⟨t, ?_⟩
    show ofOutcomeText (renderMergeM nc _) = .ok t
    simp [renderMergeM, hm, ht, ofOutcomeText]
  exact exit_never_two (cli_exit_zero_iff_equal_list_merge F R P hfmt hraw ha hb) hok
    not_ok_and_error

/-! ## SET / MULTISET readings (`-set`, `-mset`, no `-setkeys`), no `-precision` -/

/-- the option list the CLI builds for `-set` / `-mset` (no `-setkeys`, no `-precision`) -/
def setOpts (fl : Flags) : List Opt :=
  (if fl.set then [Opt.set] else []) ++ (if fl.mset then [Opt.mset] else []) ++
    (if fl.f == "merge" then [Opt.merge] else []) ++ [Opt.prec 0]

structure SetFlags (fl : Flags) : Prop where
  some    : fl.set = true ∨ fl.mset = true
  setkeys : fl.setkeys = ""
  prec    : fl.precision = 0

theorem parsedOptions_set (b : Binary) {fl : Flags} (S : SetFlags fl) :
    parsedOptions b fl = .ok (setOpts fl) := by
  rw [parsedOptions_same]
  simp [optionsOf, setOpts, S.setkeys, S.prec, precNonZero]

theorem setOpts_reading {fl : Flags} (S : SetFlags fl) :
    DES.SetReading (setOpts fl) ∧ precOf (setOpts fl) = 0 := by
  unfold setOpts
  rcases S.some with h | h
  · rw [h]
    cases fl.mset <;> cases (fl.f == "merge") <;> exact ⟨.inl ⟨rfl, rfl⟩, rfl⟩
  · rw [h]
    cases fl.set <;> cases (fl.f == "merge") <;>
      first | exact ⟨.inl ⟨rfl, rfl⟩, rfl⟩ | exact ⟨.inr rfl, rfl⟩

/-- **(exit 0 ⇒ Equal), `-set` / `-mset`, native and merge formats — unconditionally** (no hash
    hypothesis, no float hypothesis).  In the native format `Render` must not panic. -/
theorem cli_exit_zero_implies_equal_set (R : DiffRun nc Y Ls b fl e a b') (S : SetFlags fl)
    (hfmt : formatOf fl.f = some .merge ∨ (formatOf fl.f = some .jd ∧
      (renderM nc (colorOpts fl) (diffM (setOpts fl) a b')).isSome = true))
    (hraw : a.rawDoc = true) (haw : a.wf = true) (hbw : b'.wf = true)
    (hx : (proc Ls b fl e).exit = 0) : equals (setOpts fl) a b' = true := by
  have ho := parsedOptions_set b S
  obtain ⟨hr, hp⟩ := setOpts_reading S
  apply DES.equals_of_diffM_nil (setOpts fl) hr hp a b' hraw haw hbw
  rcases hfmt with hf | ⟨hf, hren⟩
  · exact (merge_exit R ho hf).1.1 hx
  · exact (jd_exit R ho hf hren).1.1 hx

/-- **(Equal ⇒ exit 0), `-set` / `-mset`, every format — under `DES.DiffFaithful`** (necessary:
    `DES.Witness.alias_breaks_converse`, `DES.Witness.fnv_collision_breaks_converse`,
    `Witness.set_collision_exit` below) -/
theorem cli_equal_implies_exit_zero_set (R : DiffRun nc Y Ls b fl e a b') (S : SetFlags fl)
    {fmt : Format} (hfmt : formatOf fl.f = some fmt)
    (hraw : a.rawDoc = true) (haw : a.wf = true) (hbw : b'.wf = true)
    (FH : DES.DiffFaithful (setOpts fl) (subterms a) (subterms b'))
    (heq : equals (setOpts fl) a b' = true) : (proc Ls b fl e).exit = 0 := by
  have ho := parsedOptions_set b S
  obtain ⟨hr, hp⟩ := setOpts_reading S
  exact exit_zero_of_nil R ho hfmt
    (DES.diffM_nil_of_equals (setOpts fl) hr hp a b' hraw haw hbw FH heq)

/-- **`-set` / `-mset`, native format, under `DiffFaithful`**: exit 0 ⇔ Equal, exit 1 ⇔ not Equal,
    never 2 -/
theorem cli_exit_zero_iff_equal_set (R : DiffRun nc Y Ls b fl e a b') (S : SetFlags fl)
    (hfmt : formatOf fl.f = some .jd)
    (hraw : a.rawDoc = true) (haw : a.wf = true) (hbw : b'.wf = true)
    (FH : DES.DiffFaithful (setOpts fl) (subterms a) (subterms b'))
    (hren : (renderM nc (colorOpts fl) (diffM (setOpts fl) a b')).isSome = true) :
    ((proc Ls b fl e).exit = 0 ↔ equals (setOpts fl) a b' = true) ∧
    ((proc Ls b fl e).exit = 1 ↔ equals (setOpts fl) a b' = false) ∧
    (proc Ls b fl e).exit ≠ 2 := by
  obtain ⟨hr, hp⟩ := setOpts_reading S
  simpa only [Bool.not_eq_true] using R.run.jd_exit (parsedOptions_set b S) hfmt
    ((renderJd_empty_iff hren).trans (DES.diffM_nil_iff_equals (setOpts fl) hr hp a b' hraw haw hbw FH))

/-- **`-set` / `-mset`, `-f merge`, under `DiffFaithful`**: exit 0 ⇔ Equal; not Equal ⇔ exit 1 or 2 -/
theorem cli_exit_zero_iff_equal_set_merge (R : DiffRun nc Y Ls b fl e a b') (S : SetFlags fl)
    (hfmt : formatOf fl.f = some .merge)
    (hraw : a.rawDoc = true) (haw : a.wf = true) (hbw : b'.wf = true)
    (FH : DES.DiffFaithful (setOpts fl) (subterms a) (subterms b')) :
    ((proc Ls b fl e).exit = 0 ↔ equals (setOpts fl) a b' = true) ∧
    ((proc Ls b fl e).exit = 1 ∨ (proc Ls b fl e).exit = 2 ↔ equals (setOpts fl) a b' = false) := by
  have ho := parsedOptions_set b S
  obtain ⟨hr, hp⟩ := setOpts_reading S
  obtain ⟨h0, h1, h2⟩ := merge_exit R ho hfmt
  have hiff := DES.diffM_nil_iff_equals (setOpts fl) hr hp a b' hraw haw hbw FH
  have h0' := h0.trans hiff
  refine ⟨h0', ?_⟩
  rw [← Bool.not_eq_true, ← h0']
  have hr3 : (proc Ls b fl e).exit = 0 ∨ (proc Ls b fl e).exit = 1 ∨ (proc Ls b fl e).exit = 2 := by
    rw [proc_diff Ls b e (planOf_diff_ok b R.mode ho R.nargs)]; exact exit_range _ _ _
  omega

/-! ## with `-precision eps ≠ 0` the property is FALSE (KF-C05-precision) -/

/-- the diff of two numbers that are not within `+0` of each other, whatever the Precision option:
    `diff_common.go` calls `Equals` WITHOUT the options -/
theorem diffM_num_prec (eps x y : UInt64) (h0 : numWithin 0 x y = false) :
    diffM [Opt.prec eps] (.num x) (.num y) = [{ path := [], remove := [.num x], add := [.num y] }] ∧
    diffM [Opt.merge, Opt.prec eps] (.num x) (.num y) =
      [{ merge := true, path := [], add := [.num y] }] := by
  constructor
  · unfold diffM
    rw [DE.diffNode_scalar _ _ _ _ (fun _ _ e => by cases e) (fun _ e => by cases e)]
    simp [diffCommon, equals, precOf, h0, isMerge, Json.nodeList, Json.isVoid]
  · unfold diffM
    rw [DE.diffNode_scalar _ _ _ _ (fun _ _ e => by cases e) (fun _ e => by cases e)]
    simp [diffCommon, equals, precOf, h0, isMerge]

/-- **KF-C05-precision on the process, native format** — relative to the two IEEE facts
    `|x − y| ≤ eps` and `¬ |x − y| ≤ +0` about the bit patterns (the kernel cannot evaluate `Float`):
    whenever the two inputs parse to such numbers, `jd -precision eps a b` EXITS 1 although
    `a.Equals(b, Precision(eps))`. -/
theorem precision_exit_one_though_equal {x y : UInt64}
    (R : DiffRun nc Y Ls b fl e (.num x) (.num y))
    (hset : fl.set = false) (hmset : fl.mset = false) (hkeys : fl.setkeys = "")
    (hfmt : formatOf fl.f = some .jd)
    (h1 : numWithin fl.precision x y = true) (h0 : numWithin 0 x y = false)
    (hren : (renderM nc (colorOpts fl)
      [{ path := [], remove := [.num x], add := [.num y] }]).isSome = true) :
    equals [Opt.prec fl.precision] (.num x) (.num y) = true ∧ (proc Ls b fl e).exit = 1 := by
  have ho := parsedOptions_list b hset hmset hkeys hfmt
  refine ⟨by simp [equals, precOf, h1], ?_⟩
  have hd := (diffM_num_prec fl.precision x y h0).1
  exact (jd_exit R ho hfmt (by rw [hd]; exact hren)).2.1.2 (by rw [hd]; simp)

/-- … and with `-f merge` (exit status from `len(diff)`): the run does NOT exit 0 although Equal -/
theorem precision_exit_nonzero_though_equal_merge {x y : UInt64}
    (R : DiffRun nc Y Ls b fl e (.num x) (.num y))
    (hset : fl.set = false) (hmset : fl.mset = false) (hkeys : fl.setkeys = "")
    (hfmt : formatOf fl.f = some .merge)
    (h1 : numWithin fl.precision x y = true) (h0 : numWithin 0 x y = false) :
    equals [Opt.merge, Opt.prec fl.precision] (.num x) (.num y) = true ∧
      (proc Ls b fl e).exit ≠ 0 := by
  have ho : parsedOptions b fl = .ok [Opt.merge, Opt.prec fl.precision] := by
    rw [parsedOptions_listReading b hset hmset hkeys, merge_of_fmt hfmt]; rfl
  refine ⟨by simp [equals, precOf, h1], ?_⟩
  have hd := (diffM_num_prec fl.precision x y h0).2
  intro hx
  have := (merge_exit R ho hfmt).1.1 hx
  rw [hd] at this
  cases this

/-! ## non-vacuity: concrete command lines and files -/

namespace Example
open Jd.Spec Jd.DPL Jd.NativeRT Jd.E2E Jd.E2E.Example Jd.CliRT.NativeExample

/-- the situation for binary A (`v2/jd`), two JSON files, no `-o`, the codec `exCodec` -/
theorem mkRun {fl : Flags} {ta tb : String} {a b' : Json} (hm : isDiffMode fl)
    (hn : fl.nargs = 2) (hy : fl.yaml = false) (ho : fl.o = "")
    (ha : readJsonM exCodec ta = .ok a) (hb : readJsonM exCodec tb = .ok b') :
    DiffRun exCodec noYaml NativeExample.Ls .v2jd fl { in1 := .ok ta, in2 := .ok tb } a b' where
  lib := rfl
  mode := hm
  v2 := rfl
  nargs := .inr hn
  read1 := ⟨ta, rfl, by rw [hy, nativeLib_readDoc_json, ha]; rfl⟩
  read2 := ⟨tb, rfl, by rw [hy, nativeLib_readDoc_json, hb]; rfl⟩
  write := .inl ho

theorem exA_dom : Dom exA := ⟨by decide, by decide, by decide, by decide⟩
theorem exB_dom : Dom exB := ⟨by decide, by decide, by decide, by decide⟩

/-- `DE.HOK` of two concrete collections by one evaluation: every pair has different codes or is
    `Equals` (documents without numbers: `equals` on numbers goes through the opaque `Float`) -/
theorem hOK_of_check {o : Opts} {SA SB : List Json}
    (h : (SA.all fun x => SB.all fun y => hashCode o x != hashCode o y || equals o x y) = true) :
    DE.HOK o SA SB := by
  intro x hx y hy e
  simp only [List.all_eq_true] at h
  simpa [e] using h x hx y hy

theorem ex_hashOK : DE.HashOK o0 exA exB := hOK_of_check (by decide +kernel)

/-- **`cli_exit_zero_iff_equal_list` applies** to `jd a.json b.json` with
    `{"k":[true,null,["x"]]}` and `{"k":[false,null,["x","y"]],"n":null}`: every hypothesis is
    discharged (`FloatEq0` remains), the documents are not Equal, and the process exits 1 -/
theorem ex_list_differ (F : FloatEq0) :
    (proc NativeExample.Ls .v2jd fl1 e1).exit = 1 ∧ equals o0 exA exB = false := by
  have R : DiffRun exCodec noYaml NativeExample.Ls .v2jd fl1 e1 exA exB :=
    mkRun ⟨rfl, rfl, rfl, rfl, rfl⟩ rfl rfl rfl read_a read_b
  have hne : equals o0 exA exB = false := by decide +kernel
  obtain ⟨_, h1, _⟩ := cli_exit_zero_iff_equal_list F R ⟨rfl, rfl, rfl, rfl⟩ rfl (by decide)
    exA_dom exB_dom ex_hashOK (by
      show (renderM exCodec [] (diffM o0 exA exB)).isSome = true
      rw [ex_text]; rfl)
  exact ⟨h1.2 hne, hne⟩

/-- the same file with other white space -/
def taE' : String := "{ \"k\" : [ true , null,[\"x\" ]]\n}\n"

theorem read_a' : readJsonM exCodec taE' = .ok exA := ok_of_eqb (by decide +kernel)

theorem ex_hashOK_self : DE.HashOK o0 exA exA := hOK_of_check (by decide +kernel)

/-- … and to two texts of the same document: Equal, exit 0 -/
theorem ex_list_equal (F : FloatEq0) :
    (proc NativeExample.Ls .v2jd fl1 { in1 := .ok taE, in2 := .ok taE' }).exit = 0 ∧
      equals o0 exA exA = true := by
  have R : DiffRun exCodec noYaml NativeExample.Ls .v2jd fl1 { in1 := .ok taE, in2 := .ok taE' }
      exA exA := mkRun ⟨rfl, rfl, rfl, rfl, rfl⟩ rfl rfl rfl read_a read_a'
  have he : equals o0 exA exA = true := by decide +kernel
  have hd := diffM_nil_of_equals F o0 rfl rfl exA exA (by decide) exA_dom exA_dom he
  obtain ⟨h0, _, _⟩ := cli_exit_zero_iff_equal_list F R ⟨rfl, rfl, rfl, rfl⟩ rfl (by decide)
    exA_dom exA_dom ex_hashOK_self (by
      show (renderM exCodec [] (diffM o0 exA exA)).isSome = true
      rw [hd]; rfl)
  exact ⟨h0.2 he, he⟩

def flPatch : Flags := { f := "patch", nargs := 2 }
def flMerge : Flags := { f := "merge", nargs := 2 }

/-- `jd -f patch a.json b.json` and `jd -f merge a.json b.json` on the first pair: the hypotheses of
    the two theorems hold; the documents are not Equal, so neither run exits 0 -/
theorem ex_list_patch_merge (F : FloatEq0) :
    (proc NativeExample.Ls .v2jd flPatch e1).exit ≠ 0 ∧
    (proc NativeExample.Ls .v2jd flMerge e1).exit ≠ 0 := by
  have R1 : DiffRun exCodec noYaml NativeExample.Ls .v2jd flPatch e1 exA exB :=
    mkRun ⟨rfl, rfl, rfl, rfl, rfl⟩ rfl rfl rfl read_a read_b
  have R2 : DiffRun exCodec noYaml NativeExample.Ls .v2jd flMerge e1 exA exB :=
    mkRun ⟨rfl, rfl, rfl, rfl, rfl⟩ rfl rfl rfl read_a read_b
  have hne : equals o0 exA exB = false := by decide +kernel
  have hne' : equals [Opt.merge, Opt.prec 0] exA exB = false := by decide +kernel
  obtain ⟨p0, _, _⟩ := cli_exit_zero_iff_equal_list_patch F R1 ⟨rfl, rfl, rfl, rfl⟩ (by decide)
    (by decide) exA_dom exB_dom ex_hashOK (by decide) (by decide)
  obtain ⟨m0, _, _⟩ := cli_exit_zero_iff_equal_list_merge F R2 ⟨rfl, rfl, rfl, rfl⟩ (by decide)
    (by decide) exA_dom exB_dom
  refine ⟨fun h => ?_, fun h => ?_⟩
  · exact Bool.noConfusion ((p0.1 h).symm.trans hne)
  · exact Bool.noConfusion ((m0.1 h).symm.trans hne')

end Example

namespace Example
open Jd.NativeRT Jd.CliRT.NativeExample

/-! ### `-set` -/

/-- `jd -set a.json b.json` -/
def flSet : Flags := { set := true, nargs := 2 }
def tsA : String := "{\"s\":[true,null,{\"k\":[\"x\",\"y\"]}],\"t\":\"u\"}"
def tsB : String := "{\"s\":[{\"k\":[\"y\",\"x\",\"y\"]},null,true,null],\"t\":\"u\"}"

theorem read_sA : readJsonM exCodec tsA = .ok DES.Example.exA :=
  JText.readJsonM_jsonText _ _ _ (by decide +kernel) (by decide +kernel) (by decide +kernel)
theorem read_sB : readJsonM exCodec tsB = .ok DES.Example.exB :=
  JText.readJsonM_jsonText _ _ _ (by decide +kernel) (by decide +kernel) (by decide +kernel)

theorem setOpts_flSet : setOpts flSet = [Opt.set, Opt.prec 0] := by decide

/-- the situation, Equal and `DiffFaithful` for `jd -set` on the two files -/
theorem set_run : DiffRun exCodec noYaml NativeExample.Ls .v2jd flSet
    { in1 := .ok tsA, in2 := .ok tsB } DES.Example.exA DES.Example.exB :=
  mkRun ⟨rfl, rfl, rfl, rfl, rfl⟩ rfl rfl rfl read_sA read_sB
theorem set_equal : equals (setOpts flSet) DES.Example.exA DES.Example.exB = true := by
  rw [setOpts_flSet]; decide +kernel
theorem set_faithful :
    DES.DiffFaithful (setOpts flSet) (subterms DES.Example.exA) (subterms DES.Example.exB) := by
  rw [setOpts_flSet]; exact DES.diffFaithful_of_check (by decide +kernel)

/-- **the `-set` theorems apply**: `{"s":[true,null,{"k":["x","y"]}],"t":"u"}` against
    `{"s":[{"k":["y","x","y"]},null,true,null],"t":"u"}` with `jd -set`: `DiffFaithful` holds
    (checked), the documents are Equal as sets, the process exits 0 -/
theorem ex_set_equal :
    (proc NativeExample.Ls .v2jd flSet { in1 := .ok tsA, in2 := .ok tsB }).exit = 0 ∧
      equals [Opt.set, Opt.prec 0] DES.Example.exA DES.Example.exB = true := by
  refine ⟨cli_equal_implies_exit_zero_set set_run ⟨.inl rfl, rfl, rfl⟩ (fmt := .jd) (by decide)
    (by decide) (by decide) (by decide) set_faithful set_equal, ?_⟩
  rw [← setOpts_flSet]; exact set_equal

end Example

/-! ## WITNESSES -/

namespace Witness
open Jd.NativeRT Jd.CliRT.NativeExample Example

def tcA : String := "[\"aedb68afb\",\"b7cdeb749\"]"
def tcB : String := "[\"a568b3ad2\",\"b76a57d20\"]"

theorem read_cA : readJsonM exCodec tcA = .ok DES.Witness.ca :=
  JText.readJsonM_jsonText _ _ _ (by decide +kernel) (by decide +kernel) (by decide +kernel)
theorem read_cB : readJsonM exCodec tcB = .ok DES.Witness.cb :=
  JText.readJsonM_jsonText _ _ _ (by decide +kernel) (by decide +kernel) (by decide +kernel)

/-- `jd -set -f merge a.json b.json` -/
def flSetMerge : Flags := { set := true, f := "merge", nargs := 2 }

theorem setOpts_flSetMerge : setOpts flSetMerge = [Opt.set, Opt.merge, Opt.prec 0] := by decide

/-- **(Equal ⇒ exit 0) is FALSE on the process without `DiffFaithful`** (a genuine FNV-1a
    collision): `["aedb68afb","b7cdeb749"]` against `["a568b3ad2","b76a57d20"]` are Equal under the
    options of `jd -set -f merge` (and of `jd -set`), and `jd -set -f merge a.json b.json` does NOT
    exit 0 (it exits 1 or 2); the library diff under the options of `jd -set` is not empty either. -/
theorem set_collision_exit :
    equals [Opt.set, Opt.merge, Opt.prec 0] DES.Witness.ca DES.Witness.cb = true ∧
    (proc NativeExample.Ls .v2jd flSetMerge { in1 := .ok tcA, in2 := .ok tcB }).exit ≠ 0 ∧
    equals [Opt.set, Opt.prec 0] DES.Witness.ca DES.Witness.cb = true ∧
    diffM [Opt.set, Opt.prec 0] DES.Witness.ca DES.Witness.cb ≠ [] := by
  have R1 : DiffRun exCodec noYaml NativeExample.Ls .v2jd flSetMerge
      { in1 := .ok tcA, in2 := .ok tcB } DES.Witness.ca DES.Witness.cb :=
    mkRun ⟨rfl, rfl, rfl, rfl, rfl⟩ rfl rfl rfl read_cA read_cB
  have d1 : diffM [Opt.set, Opt.merge, Opt.prec 0] DES.Witness.ca DES.Witness.cb ≠ [] :=
    diffM_ne_nil_of_eval (by decide +kernel)
  have d2 : diffM [Opt.set, Opt.prec 0] DES.Witness.ca DES.Witness.cb ≠ [] :=
    diffM_ne_nil_of_eval (by decide +kernel)
  refine ⟨by decide +kernel, fun h => ?_, by decide +kernel, d2⟩
  have := (merge_exit R1 (parsedOptions_set .v2jd ⟨.inl rfl, rfl, rfl⟩) (by decide)).1.1 h
  rw [setOpts_flSetMerge] at this
  exact d1 this

end Witness

namespace Witness
open Jd.NativeRT Jd.CliRT.NativeExample Example

/-! ### `-precision` -/

/-- the doubles 1 and 2, and the precision 1.5 -/
def one : UInt64 := 0x3FF0000000000000
def two : UInt64 := 0x4000000000000000
def eps15 : UInt64 := 0x3FF8000000000000

/-- `jd -precision 1.5 a.json b.json` -/
def flPrec : Flags := { precision := eps15, nargs := 2 }

theorem read_one : readJsonM exCodec "1" = .ok (.num one) :=
  JText.readJsonM_jsonText _ _ _ (by decide +kernel) (by decide +kernel) (by decide +kernel)
theorem read_two : readJsonM exCodec "2" = .ok (.num two) :=
  JText.readJsonM_jsonText _ _ _ (by decide +kernel) (by decide +kernel) (by decide +kernel)

theorem fmt_one : fmtNum exCodec one = some "1" := by
  have h2 : floatToInt? 4607182418800017408 = some 1 := by decide
  have h3 : natToDigits 1 = "1" := by decide
  simp [fmtNum, h2, h3, one]
theorem fmt_two : fmtNum exCodec two = some "2" := by
  have h2 : floatToInt? 4611686018427387904 = some 2 := by decide
  have h3 : natToDigits 2 = "2" := by decide
  simp [fmtNum, h2, h3, two]

theorem render_one_two :
    (renderM exCodec [] [{ path := [], remove := [.num one], add := [.num two] }]).isSome = true := by
  simp [renderM, renderHunk, optAll, jsonM, pathToJson, rawNorm, rawNormList, jsonText,
    jsonTextList, marshalNode, fmt_one, fmt_two, Json.isVoid, isColor, isMerge]

/-- **KF-C05-precision, a concrete command line**: `jd -precision 1.5 a.json b.json` with the files
    `1` and `2` exits 1 although `1` and `2` are Equal under `Precision(1.5)` — relative to the two
    IEEE facts `|1 − 2| ≤ 1.5` and `¬ |1 − 2| ≤ +0`, which the kernel cannot evaluate (`numWithin`
    computes with `Float`; the `#eval` below evaluates them with the runtime: `(true, false)`). -/
theorem precision_process_witness (h1 : numWithin eps15 one two = true)
    (h0 : numWithin 0 one two = false) :
    precNonZero flPrec.precision = true ∧
    equals [Opt.prec eps15] (.num one) (.num two) = true ∧
    (proc NativeExample.Ls .v2jd flPrec { in1 := .ok "1", in2 := .ok "2" }).exit = 1 := by
  have R : DiffRun exCodec noYaml NativeExample.Ls .v2jd flPrec { in1 := .ok "1", in2 := .ok "2" }
      (.num one) (.num two) := mkRun ⟨rfl, rfl, rfl, rfl, rfl⟩ rfl rfl rfl read_one read_two
  have hc : colorOpts flPrec = [] := rfl
  have hf : formatOf flPrec.f = some .jd := by decide
  have hp : flPrec.precision = eps15 := rfl
  have key := precision_exit_one_though_equal R rfl rfl rfl hf (by rw [hp]; exact h1) h0
    (by rw [hc]; exact render_one_two)
  rw [hp] at key
  exact ⟨by decide, key⟩

#eval (numWithin eps15 one two, numWithin 0 one two)

end Witness

namespace Witness
open Jd.NativeRT Jd.CliRT.NativeExample Example

/-! ### why the native-format theorems ask that `Render` does not panic (`renderM … isSome`) -/

/-- a codec that reads the token `1.5` but cannot print any number -/
def badCodec : NumCodec :=
  { fmt := fun _ => none, parse := fun s => if s = "1.5" then some 0x3FF8000000000000 else none }
def badLs : Bool → LibPack := fun _ => ⟨Json, Diff, nativeLib badCodec noYaml⟩
def x15 : Json := .num 0x3FF8000000000000

theorem read_15 : readJsonM badCodec "1.5" = .ok x15 := ok_of_eqb (by decide +kernel)
theorem read_null : readJsonM badCodec "null" = .ok .null :=
  JText.readJsonM_jsonText _ _ _ (by decide +kernel) (by decide +kernel) (by decide +kernel)

theorem diff_15_null : diffM [Opt.prec 0] x15 .null =
    [{ path := [], remove := [x15], add := [.null] }] := diffM_of_eqb (by decide +kernel)

theorem render_15_null : renderM badCodec [] (diffM [Opt.prec 0] x15 .null) = none := by
  have h2 : floatToInt? 0x3FF8000000000000 = none := by decide
  rw [diff_15_null]
  simp [renderM, renderHunk, optAll, jsonM, pathToJson, rawNorm, rawNormList, jsonText,
    jsonTextList, marshalNode, fmtNum, h2, badCodec, x15, Json.isVoid, isColor, isMerge]

/-- **the hypothesis `renderM … isSome` of `cli_exit_zero_iff_equal_list` is needed ON THE MODEL**
    (an artifact of the totalisation `getD ""` in `nativeLib.renderJd`, not a behaviour of the Go
    program: there `json.Marshal` of a finite number never fails, and a failure would be a panic,
    which `cliM` does not represent): with a codec that cannot print `1.5`, the files `1.5` and
    `null` satisfy every other hypothesis, are not Equal, and the model process exits 0. -/
theorem render_panic_artifact :
    x15.rawDoc = true ∧ Dom x15 ∧ Dom .null ∧ DE.HashOK [Opt.prec 0] x15 .null ∧
    equals [Opt.prec 0] x15 .null = false ∧
    (proc badLs .v2jd fl1 { in1 := .ok "1.5", in2 := .ok "null" }).exit = 0 := by
  have R : DiffRun badCodec noYaml badLs .v2jd fl1 { in1 := .ok "1.5", in2 := .ok "null" }
      x15 .null :=
    { lib := rfl, mode := ⟨rfl, rfl, rfl, rfl, rfl⟩, v2 := rfl, nargs := .inr rfl,
      read1 := ⟨_, rfl, by rw [show fl1.yaml = false from rfl, nativeLib_readDoc_json, read_15]; rfl⟩,
      read2 := ⟨_, rfl, by rw [show fl1.yaml = false from rfl, nativeLib_readDoc_json, read_null]; rfl⟩,
      write := .inl rfl }
  have hf : formatOf fl1.f = some .jd := by decide
  have ho : parsedOptions .v2jd fl1 = .ok [Opt.prec 0] := rfl
  refine ⟨by decide, ⟨by decide, by decide, by decide, by decide⟩,
    ⟨by decide, by decide, by decide, by decide⟩, ?_, by decide, ?_⟩
  · intro x hx y hy h
    simp only [x15, DE.subterms, List.mem_cons, List.not_mem_nil, or_false] at hx hy
    subst hx; subst hy
    exact absurd h (by decide +kernel)
  · refine (R.run.exit_of_text ho hf (T := "") ?_).trans rfl
    show Except.ok ((renderM badCodec [] (diffM [Opt.prec 0] x15 .null)).getD "") = .ok ""
    rw [render_15_null]; rfl

end Witness

namespace Example
open Jd.NativeRT Jd.CliRT.NativeExample Jd.CliRT.ColorWitness

/-! ### the two "never exit 2" corollaries apply -/

theorem wpp_a : ∃ s, writePointerPath [.key "a"] = .ok s :=
  PRC.wpp_ok (fun e he => by
    simp only [List.mem_cons, List.not_mem_nil, or_false] at he
    subst he
    exact (PRC.keyOK_iff "a").1 (by decide))

theorem cDiff_ops : ∃ s, renderPatchOps cDiff =
    .ok [{ op := "test", path := s, value := .str "ab" }, { op := "remove", path := s, value := .str "ab" },
      { op := "add", path := s, value := .str "ac" }] := by
  obtain ⟨s, hs⟩ := wpp_a
  refine ⟨s, ?_⟩
  have : renderPatchHunk { path := [.key "a"], remove := [.str "ab"], add := [.str "ac"] } =
      .ok [{ op := "test", path := s, value := .str "ab" }, { op := "remove", path := s, value := .str "ab" },
      { op := "add", path := s, value := .str "ac" }] := by
    rw [renderPatchHunk_eq]
    simp [renderPatchHunk', hs, ctxOps, remOpsOf, addOpsOf, Json.isVoid]
    rfl
  rw [cDiff, renderPatchOps, this]
  rfl

/-- `jd -f patch a.json b.json` with `{"a":"ab"}` / `{"a":"ac"}`: every hypothesis of
    `cli_exit_codes_list_patch` holds; not Equal; exit 1 -/
theorem ex_patch_exit_one (F : FloatEq0) :
    (proc NativeExample.Ls .v2jd flPatch ec1).exit = 1 := by
  have R : DiffRun exCodec noYaml NativeExample.Ls .v2jd flPatch ec1 cA cB :=
    mkRun ⟨rfl, rfl, rfl, rfl, rfl⟩ rfl rfl rfl read_cA read_cB
  have H : DE.HashOK o0 cA cB := hOK_of_check (by decide +kernel)
  obtain ⟨_, h1, _⟩ := cli_exit_codes_list_patch F R ⟨rfl, rfl, rfl, rfl⟩ (by decide) (by decide)
    ⟨by decide, by decide, by decide, by decide⟩ ⟨by decide, by decide, by decide, by decide⟩ H
    (by decide) (by decide) (by decide) (by decide) (by
      intro ops hops p hp
      have hd : diffM [Opt.prec 0] cA cB = cDiff := c_diff
      rw [hd] at hops
      obtain ⟨s, hs⟩ := cDiff_ops
      rw [hs] at hops
      cases hops
      simp only [List.mem_cons, List.not_mem_nil, or_false] at hp
      rcases hp with rfl | rfl | rfl <;> rfl)
  exact h1.2 (by decide +kernel)

end Example

namespace Example
open Jd.NativeRT Jd.CliRT.NativeExample Jd.CliRT.ColorWitness

theorem c_diff_merge : diffM [Opt.merge, Opt.prec 0] cA cB =
    [{ merge := true, path := [.key "a"], add := [.str "ac"] }] := diffM_of_eqb (by decide +kernel)

theorem c_mergeDoc : renderMergeDoc [{ merge := true, path := [.key "a"], add := [.str "ac"] }] =
    .ok (.obj [("a", .str "ac")]) := renderMergeDoc_of_eqb (by decide +kernel)

/-- `jd -f merge a.json b.json` with `{"a":"ab"}` / `{"a":"ac"}`: every hypothesis of
    `cli_exit_codes_list_merge` holds; not Equal; exit 1 -/
theorem ex_merge_exit_one (F : FloatEq0) (L : Jd.Spec.FloatLaws) :
    (proc NativeExample.Ls .v2jd flMerge ec1).exit = 1 := by
  have R : DiffRun exCodec noYaml NativeExample.Ls .v2jd flMerge ec1 cA cB :=
    mkRun ⟨rfl, rfl, rfl, rfl, rfl⟩ rfl rfl rfl read_cA read_cB
  obtain ⟨_, h1, _⟩ := cli_exit_codes_list_merge F L R ⟨rfl, rfl, rfl, rfl⟩ (by decide) (by decide)
    ⟨by decide, by decide, by decide, by decide⟩ ⟨by decide, by decide, by decide, by decide⟩
    (by decide) (by decide) (by decide) (by
      intro m hm
      rw [c_diff_merge, c_mergeDoc] at hm
      cases hm
      simp [jsonM, rawNorm, rawNormKvs, jsonText, jsonTextKvs])
  exact h1.2 (by decide +kernel)

end Example

namespace Example
open Jd.NativeRT Jd.CliRT.NativeExample

/-! ### more `-set` examples -/

/-- `cli_exit_zero_iff_equal_set` applies to the Equal pair (the diff is empty, so `Render` does not
    panic) -/
theorem ex_set_iff :
    ((proc NativeExample.Ls .v2jd flSet { in1 := .ok tsA, in2 := .ok tsB }).exit = 0 ↔
      equals (setOpts flSet) DES.Example.exA DES.Example.exB = true) := by
  have S : SetFlags flSet := ⟨.inl rfl, rfl, rfl⟩
  have hd := DES.diffM_nil_of_equals (setOpts flSet) (setOpts_reading S).1 (setOpts_reading S).2
    DES.Example.exA DES.Example.exB (by decide) (by decide) (by decide) set_faithful set_equal
  exact (cli_exit_zero_iff_equal_set set_run S (by decide) (by decide) (by decide) (by decide)
    set_faithful (by rw [hd]; rfl)).1

def tsD : String := "{\"s\":[{\"k\":[\"y\",\"z\"]},null,true],\"t\":\"u\"}"
theorem read_sD : readJsonM exCodec tsD = .ok DES.Example.exD :=
  JText.readJsonM_jsonText _ _ _ (by decide +kernel) (by decide +kernel) (by decide +kernel)

def flSetMerge' : Flags := { set := true, f := "merge", nargs := 2 }

/-- `jd -set -f merge` on a pair that differs as sets: `cli_exit_zero_implies_equal_set` and
    `cli_exit_zero_iff_equal_set_merge` apply; not Equal; the process exits 1 or 2 -/
theorem ex_set_merge_differ :
    (proc NativeExample.Ls .v2jd flSetMerge' { in1 := .ok tsA, in2 := .ok tsD }).exit ≠ 0 ∧
    ((proc NativeExample.Ls .v2jd flSetMerge' { in1 := .ok tsA, in2 := .ok tsD }).exit = 1 ∨
     (proc NativeExample.Ls .v2jd flSetMerge' { in1 := .ok tsA, in2 := .ok tsD }).exit = 2) := by
  have R : DiffRun exCodec noYaml NativeExample.Ls .v2jd flSetMerge'
      { in1 := .ok tsA, in2 := .ok tsD } DES.Example.exA DES.Example.exD :=
    mkRun ⟨rfl, rfl, rfl, rfl, rfl⟩ rfl rfl rfl read_sA read_sD
  have ho : setOpts flSetMerge' = [Opt.set, Opt.merge, Opt.prec 0] := by decide
  have S : SetFlags flSetMerge' := ⟨.inl rfl, rfl, rfl⟩
  have hne : equals (setOpts flSetMerge') DES.Example.exA DES.Example.exD = false := by
    rw [ho]; decide +kernel
  have FH : DES.DiffFaithful (setOpts flSetMerge') (subterms DES.Example.exA)
      (subterms DES.Example.exD) := by
    rw [ho]; exact DES.diffFaithful_of_check (by decide +kernel)
  refine ⟨fun h => ?_, ?_⟩
  · have := cli_exit_zero_implies_equal_set R S (.inl (by decide)) (by decide) (by decide)
      (by decide) h
    rw [hne] at this; cases this
  · exact (cli_exit_zero_iff_equal_set_merge R S (by decide) (by decide) (by decide) (by decide)
      FH).2.2 hne

end Example

/-! ## JSON inputs (no `-yaml`): the shape hypotheses are discharged by the reader -/

theorem DiffRun.shape (R : DiffRun nc Y Ls b fl e a b') (hy : fl.yaml = false) :
    (a.rawDoc = true ∧ a.listDoc = true ∧ a.wf = true ∧ PRC.vfree a = true) ∧
    (b'.rawDoc = true ∧ b'.listDoc = true ∧ b'.wf = true ∧ PRC.vfree b' = true) := by
  obtain ⟨ta, _, hra⟩ := R.read1
  obtain ⟨tb, _, hrb⟩ := R.read2
  rw [hy, nativeLib_readDoc_json] at hra hrb
  exact ⟨readJsonM_shape (ofOutcome_ok.1 hra), readJsonM_shape (ofOutcome_ok.1 hrb)⟩

/-- **exit status for JSON files, list reading**: the only hypotheses on the documents are about NUMBERS
    (`finiteNums`, `noNegZero`: they depend on the number codec), the hash hypothesis and that
    `Render` does not panic -/
theorem cli_exit_zero_iff_equal_list_json (F : FloatEq0) (R : DiffRun nc Y Ls b fl e a b')
    (P : PlainFlags fl) (hfmt : formatOf fl.f = some .jd) (hy : fl.yaml = false)
    (hfa : a.finiteNums = true) (hza : a.noNegZero = true)
    (hfb : b'.finiteNums = true) (hzb : b'.noNegZero = true)
    (H : DE.HashOK [Opt.prec 0] a b')
    (hren : (renderM nc (colorOpts fl) (diffM [Opt.prec 0] a b')).isSome = true) :
    ((proc Ls b fl e).exit = 0 ↔ equals [Opt.prec 0] a b' = true) ∧
    ((proc Ls b fl e).exit = 1 ↔ equals [Opt.prec 0] a b' = false) ∧
    (proc Ls b fl e).exit ≠ 2 := by
  obtain ⟨⟨a1, a2, a3, _⟩, ⟨_, b2, b3, _⟩⟩ := R.shape hy
  exact cli_exit_zero_iff_equal_list F R P hfmt a1 ⟨a2, a3, hfa, hza⟩ ⟨b2, b3, hfb, hzb⟩ H hren

/-- `-f patch` for JSON files -/
theorem cli_exit_zero_iff_equal_list_patch_json (F : FloatEq0) (R : DiffRun nc Y Ls b fl e a b')
    (P : PlainFlags fl) (hfmt : formatOf fl.f = some .patch) (hy : fl.yaml = false)
    (hfa : a.finiteNums = true) (hza : a.noNegZero = true)
    (hfb : b'.finiteNums = true) (hzb : b'.noNegZero = true)
    (H : DE.HashOK [Opt.prec 0] a b') :
    ((proc Ls b fl e).exit = 0 ↔ equals [Opt.prec 0] a b' = true) ∧
    ((proc Ls b fl e).exit = 1 ↔ equals [Opt.prec 0] a b' = false ∧
      ∃ T, (nativeLib nc Y).renderPatch (diffM [Opt.prec 0] a b') = .ok T) ∧
    ((proc Ls b fl e).exit = 2 ↔ equals [Opt.prec 0] a b' = false ∧
      ∃ m, (nativeLib nc Y).renderPatch (diffM [Opt.prec 0] a b') = .error m) := by
  obtain ⟨⟨a1, a2, a3, a4⟩, ⟨_, b2, b3, b4⟩⟩ := R.shape hy
  exact cli_exit_zero_iff_equal_list_patch F R P hfmt a1 ⟨a2, a3, hfa, hza⟩ ⟨b2, b3, hfb, hzb⟩ H a4 b4

/-- `-f merge` for JSON files -/
theorem cli_exit_zero_iff_equal_list_merge_json (F : FloatEq0) (R : DiffRun nc Y Ls b fl e a b')
    (P : PlainFlags fl) (hfmt : formatOf fl.f = some .merge) (hy : fl.yaml = false)
    (hfa : a.finiteNums = true) (hza : a.noNegZero = true)
    (hfb : b'.finiteNums = true) (hzb : b'.noNegZero = true) :
    ((proc Ls b fl e).exit = 0 ↔ equals [Opt.merge, Opt.prec 0] a b' = true) ∧
    ((proc Ls b fl e).exit = 1 ↔ equals [Opt.merge, Opt.prec 0] a b' = false ∧
      ∃ T, (nativeLib nc Y).renderMerge (diffM [Opt.merge, Opt.prec 0] a b') = .ok T) ∧
    ((proc Ls b fl e).exit = 2 ↔ equals [Opt.merge, Opt.prec 0] a b' = false ∧
      ∃ m, (nativeLib nc Y).renderMerge (diffM [Opt.merge, Opt.prec 0] a b') = .error m) := by
  obtain ⟨⟨a1, a2, a3, _⟩, ⟨_, b2, b3, _⟩⟩ := R.shape hy
  exact cli_exit_zero_iff_equal_list_merge F R P hfmt a1 ⟨a2, a3, hfa, hza⟩ ⟨b2, b3, hfb, hzb⟩

/-- **`-set` / `-mset`, JSON files, `-f merge`: exit 0 ⇒ Equal with NO hypothesis on the documents** -/
theorem cli_exit_zero_implies_equal_set_merge_json (R : DiffRun nc Y Ls b fl e a b')
    (S : SetFlags fl) (hfmt : formatOf fl.f = some .merge) (hy : fl.yaml = false)
    (hx : (proc Ls b fl e).exit = 0) : equals (setOpts fl) a b' = true := by
  obtain ⟨⟨a1, _, a3, _⟩, ⟨_, _, b3, _⟩⟩ := R.shape hy
  exact cli_exit_zero_implies_equal_set R S (.inl hfmt) a1 a3 b3 hx

/-- **`-set` / `-mset`, JSON files, every format: Equal ⇒ exit 0 under `DiffFaithful` alone** -/
theorem cli_equal_implies_exit_zero_set_json (R : DiffRun nc Y Ls b fl e a b') (S : SetFlags fl)
    {fmt : Format} (hfmt : formatOf fl.f = some fmt) (hy : fl.yaml = false)
    (FH : DES.DiffFaithful (setOpts fl) (subterms a) (subterms b'))
    (heq : equals (setOpts fl) a b' = true) : (proc Ls b fl e).exit = 0 := by
  obtain ⟨⟨a1, _, a3, _⟩, ⟨_, _, b3, _⟩⟩ := R.shape hy
  exact cli_equal_implies_exit_zero_set R S hfmt a1 a3 b3 FH heq

/-! ## axioms -/

#print axioms Run.ends
#print axioms renderM_empty_iff
#print axioms renderPatchM_text_iff
#print axioms diffM_nil_of_no_ops
#print axioms jd_exit
#print axioms merge_exit
#print axioms cli_exit_zero_iff_equal_list
#print axioms cli_equal_exit_zero_list
#print axioms cli_exit_zero_iff_equal_list_merge
#print axioms cli_exit_zero_iff_equal_list_patch
#print axioms cli_exit_codes_list_patch
#print axioms cli_exit_codes_list_merge
#print axioms cli_exit_zero_implies_equal_set
#print axioms cli_equal_implies_exit_zero_set
#print axioms cli_exit_zero_iff_equal_set
#print axioms cli_exit_zero_iff_equal_set_merge
#print axioms precision_exit_one_though_equal
#print axioms precision_exit_nonzero_though_equal_merge
#print axioms Witness.set_collision_exit
#print axioms Witness.precision_process_witness
#print axioms Witness.render_panic_artifact
#print axioms Example.ex_list_differ
#print axioms Example.ex_list_equal
#print axioms Example.ex_list_patch_merge
#print axioms Example.ex_patch_exit_one
#print axioms Example.ex_merge_exit_one
#print axioms Example.ex_set_equal
#print axioms Example.ex_set_iff
#print axioms Example.ex_set_merge_differ
#print axioms DiffRun.shape
#print axioms cli_exit_zero_iff_equal_list_json
#print axioms cli_exit_zero_iff_equal_list_patch_json
#print axioms cli_exit_zero_iff_equal_list_merge_json
#print axioms cli_exit_zero_implies_equal_set_merge_json
#print axioms cli_equal_implies_exit_zero_set_json

end Jd.CliExit
