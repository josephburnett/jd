/-
  JdProofs.V1Core — what the strict diff and the strict patch of the v1 library (`lib/`) do in EVERY
  reading of arrays; JdProofs.V1ListDiffPatch (lists) and JdProofs.V1SetDiffPatch (sets, multisets)
  rest on it and differ in the step of two arrays only.

  `Jd.V1P`: the equations of `V1.diffNode` that do not look at the metadata (objects, scalars); a hunk
  moved below a path (`shift`), the hunks the strict patch accepts (`HOK`); one hunk applied (`ap`)
  and the library's patch loop on a sequence (`patchAll_cons`, `patchAll_append`); the steps of
  `V1.patchNode`, `V1.patchCommon`, `V1.patchKeyed`, unfolded HERE only — per kind of node, and for a
  key / index element the object step `patchNode_obj`, the list step `patchNode_arr` with the body
  `listBody` of `jsonList.patch` as four equivalences, the root step `patchNode_root`; `Equals` on
  objects whatever the metadata (`v1_equals_obj_optRel`).
  `Jd.V1S`: `StepR R m a b p`, what one node of the diff has to achieve for a relation `R` between
  the patched value and the target; the steps of a scalar, of a value replaced as a whole and of two
  objects (`ObjDom.obj_step`: `ObjPatch.obj_step` of JdProofs.ObjStep at the instance `objPatch` of
  `V1.patchAll`, whose one-hunk law below a key is `ap_key`) over a domain of documents `ObjDom P`.

  The patch code checks a removed value with `Equals` WITHOUT metadata, i.e. in the list reading of
  arrays: hence `V1L.equals_arr` here, and `n.listDoc` in `patchNode_root`.
-/
import JdModel
import JdSpec
import JdProofs.EqualsList
import JdProofs.DiffPatchList
import JdProofs.ObjStep
import JdProofs.StrictPatch

namespace Jd.V1P
open Jd Jd.Spec Jd.DPL

/-! ## 0. arrays read as lists (the reading of the metadata-free `Equals` of the patch code) -/

abbrev okTag (t : Tag) : Prop := (t == .raw || t == .list) = true

end Jd.V1P

namespace Jd.V1L
open Jd Jd.Spec Jd.DPL Jd.V1P

theorem effTag_ok {m : V1.Metas} (hl : V1.dispatchTag m = .list) {t : Tag} (ht : okTag t) :
    V1.effTag m t = .list := by
  cases t <;> simp_all [V1.effTag, okTag]

theorem equals_arr {m : V1.Metas} (hl : V1.dispatchTag m = .list) {t : Tag} (ht : okTag t)
    (xs : List Json) (b : Json) :
    V1.equals m (.arr t xs) b =
      match b with
      | .arr .raw ys => V1.equalsList m xs ys
      | .arr .list ys => V1.equalsList m xs ys
      | _ => false := by
  rw [V1.equals.eq_def]
  simp only [effTag_ok hl ht]
  cases b with
  | arr t' ys => cases t' <;> simp [V1.dispatch, hl]
  | _ => simp [V1.dispatch]

theorem equals_arr_arr {m : V1.Metas} (hl : V1.dispatchTag m = .list) {t t' : Tag} (ht : okTag t)
    (ht' : okTag t') (xs ys : List Json) :
    V1.equals m (.arr t xs) (.arr t' ys) = V1.equalsList m xs ys := by
  rw [equals_arr hl ht]
  cases t' <;> simp_all [okTag]

end Jd.V1L

namespace Jd.V1P
open Jd Jd.Spec Jd.DPL

/-! ## 1. unfolding equations of the v1 diff, strict strategy: the cases that do not look at the
  metadata -/

/-- prefix the path of a hunk -/
def shift (p : List Json) (h : V1.Hunk) : V1.Hunk := { h with path := p ++ h.path }

theorem diffNode_obj_obj (m : V1.Metas) (kvs kvs' : List (String × Json)) (p : List Json) :
    V1.diffNode m false (.obj kvs) (.obj kvs') p =
      V1.diffKvs m false p kvs' kvs ++
        (kvs'.filter (fun kv => (alookup kv.1 kvs).isNone)).map (fun kv =>
          { path := p ++ [.str kv.1], old := [], new := kv.2.nodeList }) := by
  rw [V1.diffNode.eq_def]
  simp

theorem diffNode_obj_other (m : V1.Metas) (kvs : List (String × Json)) (b : Json)
    (hb : ∀ kvs', b ≠ .obj kvs') (p : List Json) :
    V1.diffNode m false (.obj kvs) b p = [{ path := p, old := [Json.obj kvs], new := [b] }] := by
  rw [V1.diffNode.eq_def]
  cases b <;> simp_all

theorem diffNode_scalar (m : V1.Metas) (a b : Json) (ha : ∀ t xs, a ≠ .arr t xs)
    (ha' : ∀ kvs, a ≠ .obj kvs) (p : List Json) :
    V1.diffNode m false a b p = V1.diffCommon m false a b p := by
  rw [V1.diffNode.eq_def]
  cases a <;> simp_all

theorem diffKvs_nil (m : V1.Metas) (p : List Json) (kvs' : List (String × Json)) :
    V1.diffKvs m false p kvs' [] = [] := by
  rw [V1.diffKvs.eq_def]

theorem diffKvs_cons (m : V1.Metas) (p : List Json) (kvs' : List (String × Json)) (k : String)
    (v : Json) (r : List (String × Json)) :
    V1.diffKvs m false p kvs' ((k, v) :: r) =
      (match alookup k kvs' with
       | some v' => V1.diffNode m false v v' (p ++ [.str k])
       | none => [{ path := p ++ [.str k], old := v.nodeList, new := [] }]) ++
        V1.diffKvs m false p kvs' r := by
  rw [V1.diffKvs.eq_def]
  simp only [Bool.false_eq_true, if_false]
  rfl

/-! ## 2. moving a hunk below a path; the hunks the strict patch code accepts -/

theorem shift_shift (p q : List Json) (h : V1.Hunk) : shift p (shift q h) = shift (p ++ q) h := by
  simp [shift]

theorem diffCommon_shift (m : V1.Metas) (p q : List Json) (a b : Json) :
    V1.diffCommon m false a b (p ++ q) = (V1.diffCommon m false a b q).map (shift p) := by
  unfold V1.diffCommon
  split <;> simp [shift]

/-- a path made of object keys and list indices -/
def plain : List Json → Bool
  | [] => true
  | .str _ :: r => plain r
  | .num _ :: r => plain r
  | _ => false

/-- a hunk the strict patch code accepts: plain path, at most one old and one new value -/
structure HOK (h : V1.Hunk) : Prop where
  plain : plain h.path = true
  old : h.old.length ≤ 1
  new : h.new.length ≤ 1

theorem nodeList_length (x : Json) : x.nodeList.length ≤ 1 := by
  unfold Json.nodeList; split <;> simp

theorem HOK.shift_str {h : V1.Hunk} (hh : HOK h) (k : String) : HOK (shift [.str k] h) :=
  ⟨by simpa [shift, V1P.plain] using hh.plain, hh.old, hh.new⟩

theorem HOK.shift_num {h : V1.Hunk} (hh : HOK h) (b : UInt64) : HOK (shift [.num b] h) :=
  ⟨by simpa [shift, V1P.plain] using hh.plain, hh.old, hh.new⟩

theorem shift_path_ne_nil (e : Json) (h : V1.Hunk) : (shift [e] h).path ≠ [] := by
  simp [shift]

/-! ## 3. one hunk of the v1 patch code on a plain path (strict strategy) -/

/-- apply one hunk, strict strategy -/
def ap (n : Json) (h : V1.Hunk) : Outcome Json :=
  V1.patchNode false n (V1.liftPath h.path) h.old h.new

theorem pathIsMerge_plain : ∀ {p : List Json}, plain p = true →
    V1.pathIsMerge (V1.liftPath p) = false
  | [], _ => rfl
  | .str _ :: _, _ => rfl
  | .num _ :: _, _ => rfl
  | .void :: _, h => by simp [plain] at h
  | .null :: _, h => by simp [plain] at h
  | .bool _ :: _, h => by simp [plain] at h
  | .arr _ _ :: _, h => by simp [plain] at h
  | .obj _ :: _, h => by simp [plain] at h

theorem patchAll_nil (n : Json) : V1.patchAll n [] = .ok n := rfl

theorem patchAll_cons (n : Json) (h : V1.Hunk) (d : V1.VDiff) (hh : HOK h) :
    V1.patchAll n (h :: d) = (ap n h >>= fun n' => V1.patchAll n' d) := by
  simp only [V1.patchAll, V1.liftDiff, List.map_cons, V1.patchAllP, V1.Hunk.toP,
    pathIsMerge_plain hh.plain, ap]
  cases V1.patchNode false n (V1.liftPath h.path) h.old h.new <;> rfl

theorem patchAll_append (n : Json) (d1 d2 : V1.VDiff) :
    V1.patchAll n (d1 ++ d2) = (V1.patchAll n d1 >>= fun n' => V1.patchAll n' d2) := by
  induction d1 generalizing n with
  | nil => rfl
  | cons h d ih =>
    simp only [V1.patchAll, V1.liftDiff, List.map_cons, List.cons_append, V1.patchAllP] at ih ⊢
    cases V1.patchNode (V1.pathIsMerge h.toP.path) n h.toP.path h.toP.old h.toP.new with
    | ok n' => exact ih n'
    | err => rfl
    | panic => rfl

theorem patchObjChild_eq (merge : Bool) (k : String) (rest : V1.PPath) (old new : List Json) :
    ∀ (kvs : List (String × Json)) (v : Json), alookup k kvs = some v →
      V1.patchObjChild merge kvs k rest old new = V1.patchNode merge v rest old new
  | [], _, h => by simp [alookup] at h
  | (k', v') :: r, v, h => by
    rw [V1.patchObjChild.eq_def]
    simp only [alookup] at h
    simp only
    split
    · rename_i hk; rw [if_pos hk] at h; cases h; rfl
    · rename_i hk; rw [if_neg hk] at h
      exact patchObjChild_eq merge k rest old new r v h

theorem patchListChild_eq (rest : V1.PPath) (old new : List Json) :
    ∀ (xs : List Json) (i : Nat) (x : Json), xs[i]? = some x →
      V1.patchListChild i rest old new xs = V1.patchNode false x rest old new
  | [], _, _, h => by simp at h
  | y :: r, 0, x, h => by
    rw [V1.patchListChild.eq_def]; simp at h; subst h; rfl
  | y :: r, i + 1, x, h => by
    rw [V1.patchListChild.eq_def]
    simp only [List.getElem?_cons_succ] at h
    exact patchListChild_eq rest old new r i x h

theorem v1_effTag_nil {t : Tag} (ht : okTag t) : V1.effTag [] t = .list := V1L.effTag_ok rfl ht

theorem v1_equals_arr_tag {t : Tag} (ht : okTag t) (xs : List Json) (o : Json) :
    V1.equals [] (.arr .list xs) o = V1.equals [] (.arr t xs) o := by
  rw [V1L.equals_arr rfl (t := .list) rfl, V1L.equals_arr rfl ht]

/-! ### the steps of `V1.patchNode`

  `V1.patchNode`, `V1.patchCommon` and `V1.patchKeyed` are unfolded HERE only: one equation per kind
  of node and per case; every other proof reads a step off these. What the functions look at of the
  path is `V1.pathIsLeaf` and `V1.pathNext` (for a key / index element: `pathNext_simple`). -/

theorem lenOK {old new : List Json} (h1 : old.length ≤ 1) (h2 : new.length ≤ 1) :
    (decide (old.length > 1) || decide (new.length > 1)) = false := by
  simp only [Bool.or_eq_false_iff, decide_eq_false_iff_not]; omega

/-- a path element that is neither metadata nor a set member: a string, a number, or a
    `jsonStringOrInteger` token -/
def simple : V1.PElem → Bool
  | .sori _ => true
  | .node (.str _) => true
  | .node (.num _) => true
  | _ => false

theorem pathNext_simple {e : V1.PElem} (he : simple e = true) (r : V1.PPath) :
    V1.pathNext (e :: r) = (e, [], r) := by
  cases e with
  | sori s => rfl
  | node n => cases n <;> simp_all [simple, V1.pathNext, V1.pathNextAux]

theorem pathIsLeaf_simple {e : V1.PElem} (he : simple e = true) (r : V1.PPath) :
    V1.pathIsLeaf (e :: r) = false := by
  cases e with
  | sori s => cases r <;> rfl
  | node n => cases n <;> cases r <;> simp_all [simple, V1.pathIsLeaf]

theorem pathIsMerge_simple {e : V1.PElem} (he : simple e = true) (r : V1.PPath) :
    V1.pathIsMerge (e :: r) = false := by
  cases e with
  | sori s => rfl
  | node n => cases n <;> simp_all [simple, V1.pathIsMerge]

/-- anything but an object or an array: `patch` of patch_common.go -/
theorem patchNode_scalar (merge : Bool) {n : Json} (h1 : ∀ t xs, n ≠ .arr t xs)
    (h2 : ∀ kvs, n ≠ .obj kvs) (pa : V1.PPath) (old new : List Json) :
    V1.patchNode merge n pa old new = V1.patchCommon merge n pa old new := by
  cases n with
  | arr t xs => exact absurd rfl (h1 t xs)
  | obj kvs => exact absurd rfl (h2 kvs)
  | _ => rw [V1.patchNode.eq_def]

theorem patchNode_void (pa : V1.PPath) (old new : List Json) :
    V1.patchNode false .void pa old new = V1.patchCommon false .void pa old new :=
  patchNode_scalar false (fun _ _ e => by cases e) (fun _ e => by cases e) pa old new

/-- `jsonObject.patch`: the value itself at a leaf path; otherwise the next element is read as a
    key, the member (or what stands in for a missing one) is patched along the rest and stored -/
theorem patchNode_obj_eq (merge : Bool) (kvs : List (String × Json)) (pa : V1.PPath)
    (old new : List Json) :
    V1.patchNode merge (.obj kvs) pa old new =
      if pa.isEmpty && (old.length > 1 || new.length > 1) then .err
      else if V1.pathIsLeaf pa then
        if merge then .ok (Json.singleValue new)
        else if V1.equals [] (.obj kvs) (Json.singleValue old) then .ok (Json.singleValue new)
        else .err
      else match V1.asKey (V1.pathNext pa).1 with
        | some k =>
          (match alookup k kvs with
            | some c => V1.patchNode merge c (V1.pathNext pa).2.2 old new
            | none => V1.patchMissing merge (V1.pathNext pa).2.2 old new) >>= putKey k kvs
        | none => .err := by
  rw [V1.patchNode.eq_def]
  simp only []
  refine ite_congr rfl (fun _ => rfl) (fun _ => ite_congr rfl (fun _ => rfl) (fun _ => ?_))
  cases V1.asKey (V1.pathNext pa).1 with
  | none => rfl
  | some k =>
    cases hl : alookup k kvs with
    | some c => simp only [patchObjChild_eq merge k _ _ _ kvs c hl, putKey_eq]; rw [hl]
    | none => simp only [putKey_eq]; rw [hl]

/-- `jsonArray.patch` on an array that the metadata of the next path element make a set -/
theorem patchNode_arr_set {t : Tag} {pa : V1.PPath}
    (he : V1.effTag (V1.pathNext pa).2.1 t = .set) (merge : Bool) (xs old new : List Json) :
    V1.patchNode merge (.arr t xs) pa old new =
      if merge then V1.patchCommon merge (.arr .set xs) pa old new
      else if V1.pathIsLeaf pa then
        if old.length > 1 || new.length > 1 then .err
        else if V1.equals [] (.arr .set xs) (Json.singleValue old) then .ok (Json.singleValue new)
        else .err
      else match (V1.pathNext pa).1 with
        | .node (.obj po) =>
          if (V1.pathNext pa).2.2.length > 0 then
            V1.patchKeyed (V1.pathNext pa).2.1 (V1.identObj (V1.pathNext pa).2.1 po) po
              (V1.pathNext pa).2.2 old new [] xs
          else V1.patchSetLeaf (V1.pathNext pa).2.1 xs old new
        | _ => .err := by
  rw [V1.patchNode.eq_def]
  simp only [he]
  rfl

/-- … a multiset -/
theorem patchNode_arr_mset {t : Tag} {pa : V1.PPath}
    (he : V1.effTag (V1.pathNext pa).2.1 t = .mset) (merge : Bool) (xs old new : List Json) :
    V1.patchNode merge (.arr t xs) pa old new =
      if merge then V1.patchCommon merge (.arr .mset xs) pa old new
      else if V1.pathIsLeaf pa then
        if old.length > 1 || new.length > 1 then .err
        else if V1.equals [] (.arr .mset xs) (Json.singleValue old) then .ok (Json.singleValue new)
        else .err
      else match (V1.pathNext pa).1 with
        | .node (.obj po) =>
          if po.isEmpty then V1.patchMsetLeaf (V1.pathNext pa).2.1 xs old new else .err
        | _ => .err := by
  rw [V1.patchNode.eq_def]
  simp only [he]
  rfl

/-- the index a numeric path element denotes in a list of the given length (-1: one past the end) -/
def idxOf (bits : UInt64) (len : Nat) : Int :=
  if V1.floatToInt bits == -1 then (len : Int) else V1.floatToInt bits

theorem natCast_beq_neg1 (k : Nat) : ((k : Int) == -1) = false := by
  simp only [beq_eq_false_iff_ne, ne_eq]; omega

theorem idxOf_nat {bits : UInt64} {k : Nat} (hb : V1.floatToInt bits = (k : Int)) (len : Nat) :
    idxOf bits len = (k : Int) := by
  rw [idxOf, hb, natCast_beq_neg1]; rfl

theorem idxOf_neg1 {bits : UInt64} (hb : V1.floatToInt bits = -1) (len : Nat) :
    idxOf bits len = (len : Int) := by
  rw [idxOf, hb]; rfl

/-- the body of `jsonList.patch` once the index `i` is known, as a function of the two possible
    child computations (`C1`: the element at the index, `C2`: nothing there); `re`: the path ends
    at the index -/
def listE (xs : List Json) (i : Int) (re : Bool) (oldV newV : Json) (C1 C2 : Outcome Json) :
    Outcome Json :=
  let len : Int := xs.length
  if newV.isVoid then
    if i < 0 then .panic
    else do
      let r ← (if len > i then C1 else C2)
      if i ≥ len then .err
      else if re then pure (.arr .list (xs.eraseIdx i.toNat))
      else pure (.arr .list (xs.set i.toNat r))
  else if oldV.isVoid then
    if len > i && !re && i < 0 then .panic
    else do
      let r ← (if len > i && !re then C1 else C2)
      if i < 0 || i > len then .err
      else if i == len then pure (.arr .list (xs ++ [r]))
      else if re then pure (.arr .list (xs.take i.toNat ++ r :: xs.drop i.toNat))
      else pure (.arr .list (xs.set i.toNat r))
  else
    if i < 0 then .panic
    else do
      let r ← (if len > i then C1 else C2)
      let l ← setAtP xs i r
      pure (.arr .list l)

/-- … with the two child computations of the strict strategy -/
def listBody (xs : List Json) (rest : V1.PPath) (old new : List Json) (i : Int) : Outcome Json :=
  listE xs i rest.isEmpty (Json.singleValue old) (Json.singleValue new)
    (V1.patchListChild i.toNat rest old new xs) (V1.patchCommon false .void rest old new)

/-- … a list -/
theorem patchNode_arr_list {t : Tag} {pa : V1.PPath}
    (he : V1.effTag (V1.pathNext pa).2.1 t = .list) (merge : Bool) (xs old new : List Json) :
    V1.patchNode merge (.arr t xs) pa old new =
      if old.length > 1 || new.length > 1 then .err
      else if merge then V1.patchCommon merge (.arr .list xs) pa old new
      else if pa.isEmpty then
        if V1.equals [] (.arr .list xs) (Json.singleValue old) then .ok (Json.singleValue new)
        else .err
      else match V1.asIndexBits (V1.pathNext pa).1 with
        | some bits => listBody xs (V1.pathNext pa).2.2 old new (idxOf bits xs.length)
        | none => .err := by
  rw [V1.patchNode.eq_def]
  simp only [he]
  rfl

theorem effTag_ne_raw (m : V1.Metas) (t : Tag) : V1.effTag m t ≠ .raw := by
  cases t <;> simp only [V1.effTag, V1.dispatchTag, ne_eq, reduceCtorEq, not_false_eq_true]
  split <;> (try split) <;> simp

/-- the merge strategy does not enter arrays: `patch` of patch_common.go on the (typed) array -/
theorem patchNode_arr_merge (t : Tag) (xs : List Json) (pa : V1.PPath) {old new : List Json}
    (h1 : old.length ≤ 1) (h2 : new.length ≤ 1) :
    ∃ t', V1.patchNode true (.arr t xs) pa old new = V1.patchCommon true (.arr t' xs) pa old new := by
  cases he : V1.effTag (V1.pathNext pa).2.1 t with
  | set => exact ⟨.set, by rw [patchNode_arr_set he]; rfl⟩
  | mset => exact ⟨.mset, by rw [patchNode_arr_mset he]; rfl⟩
  | list => exact ⟨.list, by rw [patchNode_arr_list he, lenOK h1 h2]; rfl⟩
  | raw => exact absurd he (effTag_ne_raw _ _)

/-- `patch` of patch_common.go at a leaf path -/
theorem patchCommon_leaf {pa : V1.PPath} (hl : V1.pathIsLeaf pa = true) (merge : Bool) (n : Json)
    (old new : List Json) :
    V1.patchCommon merge n pa old new =
      if old.length > 1 || new.length > 1 then .err
      else if merge then
        (if (Json.singleValue old).isVoid then .ok (Json.singleValue new) else .err)
      else if V1.equals [] n (Json.singleValue old) then .ok (Json.singleValue new) else .err := by
  rw [V1.patchCommon.eq_def]
  simp only [hl, dite_true]

/-- … below a leaf path: the strict strategy fails -/
theorem patchCommon_strict {pa : V1.PPath} (hl : V1.pathIsLeaf pa = false) (n : Json)
    (old new : List Json) : V1.patchCommon false n pa old new = .err := by
  rw [V1.patchCommon.eq_def]
  simp [hl]

/-- … the merge strategy creates an object around what the rest of the path gives -/
theorem patchCommon_merge_key {pa rest : V1.PPath} {k : String} {mt : V1.Metas}
    (hl : V1.pathIsLeaf pa = false) (hn : V1.pathNext pa = (.node (.str k), mt, rest)) (n : Json)
    (old new : List Json) :
    V1.patchCommon true n pa old new =
      match V1.patchCommon true n rest old new with
      | .ok v => if !v.isVoid || !V1.pathIsLeaf rest then .ok (.obj [(k, v)]) else .ok (.obj [])
      | e => e := by
  rw [V1.patchCommon.eq_def]
  simp only [hl, Bool.false_eq_true, dite_false, Bool.not_true]
  rw [hn, if_neg (fun h => h)]
  rfl

/-- how `jsonSet.patch` puts the keyed member back: the RESULT of the nested call is discarded when
    its path was a leaf, its ERROR always (`v.patch(…); return s, nil`) -/
def keyedOut (leaf : Bool) (pre : List Json) (x : Json) (r : List Json) :
    Outcome Json → Outcome Json
  | .ok v' => .ok (.arr .set (pre ++ (if leaf then x else v') :: r))
  | .err => .ok (.arr .set (pre ++ x :: r))
  | .panic => .panic

/-- the member test of the keyed branch: an object whose `pathIdent` is the identity looked for -/
def keyedTest (m : V1.Metas) (lf : UInt64) (po : List (String × Json)) : Json → Bool
  | .obj kvs => V1.pathIdent m kvs po == lf
  | _ => false

/-- the keyed branch of `jsonSet.patch` is the first-match loop `Keyed.keyedLoop` -/
theorem patchKeyed_eq (m : V1.Metas) (lf : UInt64) (po : List (String × Json)) (rest : V1.PPath)
    (old new : List Json) :
    ∀ (xs pre : List Json), V1.patchKeyed m lf po rest old new pre xs =
      Keyed.keyedLoop (keyedOut (V1.pathIsLeaf rest)) (keyedTest m lf po)
        (fun x => V1.patchNode false x rest old new) pre xs
  | [], pre => by rw [V1.patchKeyed.eq_def]; rfl
  | x :: xs, pre => by
    rw [V1.patchKeyed.eq_def, Keyed.keyedLoop]
    cases x with
    | obj kvs =>
      by_cases h : (V1.pathIdent m kvs po == lf) = true
      · simp only [keyedTest, h, if_true]
        cases V1.patchNode false (.obj kvs) rest old new with
        | ok v => simp only [keyedOut]; cases V1.pathIsLeaf rest <;> rfl
        | err => rfl
        | panic => rfl
      · simp only [keyedTest, h, Bool.false_eq_true, if_false, patchKeyed_eq m lf po rest old new xs]
    | _ =>
      simp only [keyedTest, Bool.false_eq_true, if_false, patchKeyed_eq m lf po rest old new xs]

/-! ### the steps for a key / index element, strict strategy -/

/-- not an object, not an array: the strict patch of a path that goes on fails -/
theorem patchCommon_cons {e : V1.PElem} (he : simple e = true) (n : Json) (r : V1.PPath)
    (old new : List Json) : V1.patchCommon false n (e :: r) old new = .err :=
  patchCommon_strict (pathIsLeaf_simple he r) n old new

theorem patchNode_other {e : V1.PElem} (he : simple e = true) (n : Json) (r : V1.PPath)
    (old new : List Json) (h1 : ∀ t xs, n ≠ .arr t xs) (h2 : ∀ kvs, n ≠ .obj kvs) :
    V1.patchNode false n (e :: r) old new = .err := by
  rw [patchNode_scalar false h1 h2, patchCommon_cons he]

/-- object: the head element is read as a key -/
theorem patchNode_obj {e : V1.PElem} (he : simple e = true) (kvs : List (String × Json))
    (r : V1.PPath) (old new : List Json) :
    V1.patchNode false (.obj kvs) (e :: r) old new =
      match V1.asKey e with
      | some k => (V1.patchNode false ((alookup k kvs).getD .void) r old new >>= fun v =>
          .ok (.obj (Merge.putKvs k v kvs)))
      | none => .err := by
  rw [patchNode_obj_eq, pathIsLeaf_simple he, pathNext_simple he]
  simp only [List.isEmpty_cons, Bool.false_and, Bool.false_eq_true, if_false]
  cases V1.asKey e with
  | none => rfl
  | some k =>
    cases hl : alookup k kvs with
    | some c => simp only [hl, Option.getD_some]
    | none =>
      simp only [hl, Option.getD_none, V1.patchMissing, Bool.false_and, Bool.false_eq_true, if_false,
        patchNode_void]

/-- list: the head element is read as an index -/
theorem patchNode_arr {e : V1.PElem} (he : simple e = true) {t : Tag} (ht : okTag t)
    (xs : List Json) (r : V1.PPath) (old new : List Json) (h1 : old.length ≤ 1)
    (h2 : new.length ≤ 1) :
    V1.patchNode false (.arr t xs) (e :: r) old new =
      match V1.asIndexBits e with
      | some bits => listBody xs r old new (idxOf bits xs.length)
      | none => .err := by
  rw [patchNode_arr_list (by rw [pathNext_simple he]; exact v1_effTag_nil ht), pathNext_simple he]
  simp only [lenOK h1 h2, Bool.false_eq_true, if_false, List.isEmpty_cons]

/-- a hunk addressed to the node itself: the old value is checked, the new value is the result -/
theorem patchNode_root (n : Json) (old new : List Json) (hn : n.listDoc = true)
    (h1 : old.length ≤ 1) (h2 : new.length ≤ 1) :
    V1.patchNode false n [] old new =
      if V1.equals [] n (Json.singleValue old) then .ok (Json.singleValue new) else .err := by
  cases n with
  | arr t xs =>
    simp only [Json.listDoc, Bool.and_eq_true] at hn
    rw [patchNode_arr_list (pa := []) (v1_effTag_nil hn.1)]
    simp only [lenOK h1 h2, Bool.false_eq_true, if_false, List.isEmpty_nil, if_true,
      v1_equals_arr_tag hn.1]
  | obj kvs =>
    rw [patchNode_obj_eq]
    simp [lenOK h1 h2, V1.pathIsLeaf]
  | _ =>
    rw [patchNode_scalar false (fun _ _ e => by cases e) (fun _ e => by cases e),
      patchCommon_leaf rfl]
    simp [lenOK h1 h2]

theorem equals_void_left (o : Json) : V1.equals [] .void o = o.isVoid := by
  rw [V1.equals]

/-- the strict patch of void at its root: only "nothing there" is accepted as old value -/
theorem patchCommon_void_nil (old new : List Json) (h1 : old.length ≤ 1) (h2 : new.length ≤ 1) :
    V1.patchCommon false .void [] old new =
      if (Json.singleValue old).isVoid then .ok (Json.singleValue new) else .err := by
  rw [← patchNode_void, patchNode_root .void old new rfl h1 h2, equals_void_left]

/-- a hunk below an object key: applied to the member (void when absent), the member is updated -/
theorem ap_key (kvs : List (String × Json)) (k : String) (h : V1.Hunk) :
    ap (.obj kvs) (shift [.str k] h) =
      (ap ((alookup k kvs).getD .void) h >>= fun v => .ok (.obj (Merge.putKvs k v kvs))) :=
  patchNode_obj (e := .node (.str k)) rfl kvs _ _ _

/-- the list case of `patchNode` on a path starting with a number, strict strategy -/
theorem patchNode_list {t : Tag} (ht : okTag t) (xs : List Json) (bits : UInt64) (rest : V1.PPath)
    (old new : List Json) (h1 : old.length ≤ 1) (h2 : new.length ≤ 1) :
    V1.patchNode false (.arr t xs) (.node (.num bits) :: rest) old new =
      listBody xs rest old new (idxOf bits xs.length) :=
  patchNode_arr (e := .node (.num bits)) rfl ht xs rest old new h1 h2

theorem lt_of_getElem? {α} {l : List α} {k : Nat} {x : α} (hx : l[k]? = some x) : k < l.length :=
  (List.getElem?_eq_some_iff.1 hx).1

theorem setAtP_ok {xs : List Json} {i : Int} (hi : ¬ i < 0) (hl : (xs.length : Int) > i) (v : Json) :
    setAtP xs i v = .ok (xs.set i.toNat v) := by
  simp only [setAtP]
  rw [if_neg]
  simp only [Bool.or_eq_true, decide_eq_true_eq, not_or]
  omega

/-- the body of `jsonList.patch` at an index in range, with more path below it or with an old and a
    new value: the element at the index is patched and put back -/
theorem listBody_at {xs : List Json} {i : Int} {x : Json} (h0 : 0 ≤ i) (hx : xs[i.toNat]? = some x)
    (r : V1.PPath) (old new : List Json)
    (h : r.isEmpty = false ∨
      ((Json.singleValue new).isVoid = false ∧ (Json.singleValue old).isVoid = false)) :
    listBody xs r old new i =
      (V1.patchNode false x r old new >>= fun v => .ok (.arr .list (xs.set i.toNat v))) := by
  have hk := lt_of_getElem? hx
  have hi : ¬ i < 0 := by omega
  have hl : (xs.length : Int) > i := by omega
  have hge : ¬ i ≥ (xs.length : Int) := by omega
  have hgt : ¬ i > (xs.length : Int) := by omega
  have hne : (i == (xs.length : Int)) = false := by
    simp only [beq_eq_false_iff_ne, ne_eq]; omega
  rcases h with hr | ⟨hnv, hov⟩
  · cases hnv : (Json.singleValue new).isVoid <;> cases hov : (Json.singleValue old).isVoid <;>
      simp only [listBody, listE, hnv, hov, hr, Bool.not_false, Bool.and_true,
        Bool.false_eq_true, if_false, hi, hl, hge, hgt, hne, if_true, decide_true, decide_false,
        Bool.and_false, Bool.or_self, patchListChild_eq _ _ _ xs _ _ hx] <;>
      cases V1.patchNode false x r old new <;>
      first | rfl | (simp only [Outcome.bind_ok, setAtP_ok hi hl]; rfl)
  · simp only [listBody, listE, hnv, hov, Bool.false_eq_true, if_false, hi, hl, if_true,
      patchListChild_eq _ _ _ xs _ _ hx]
    cases V1.patchNode false x r old new <;>
      first | rfl | (simp only [Outcome.bind_ok, setAtP_ok hi hl]; rfl)

/-! ### the body of `jsonList.patch` (`listBody`) below an index element, as equivalences: recursion
  into the element, and the three leaf cases -/

theorem getElem?_toNat {xs : List Json} {i : Int} (h0 : ¬ i < 0) (hl : (xs.length : Int) > i) :
    xs[i.toNat]? = some (xs[i.toNat]'(by omega)) := by
  rw [List.getElem?_eq_getElem]

/-- index element followed by more path: the element at the index is patched and put back -/
theorem listBody_cons {e : V1.PElem} (he : simple e = true) (xs : List Json) (r : V1.PPath)
    (old new : List Json) (i : Int) (n' : Json) :
    listBody xs (e :: r) old new i = .ok n' ↔
      ∃ x v, 0 ≤ i ∧ xs[i.toNat]? = some x ∧ V1.patchNode false x (e :: r) old new = .ok v ∧
        n' = .arr .list (xs.set i.toNat v) := by
  have hc := patchCommon_cons he .void r old new
  by_cases hin : ¬ i < 0 ∧ (xs.length : Int) > i
  · -- in range: each of the three branches patches the element and puts it back
    obtain ⟨hi, hl⟩ := hin
    have hx := getElem?_toNat hi hl
    rw [listBody_at (by omega) hx (e :: r) old new (Or.inl rfl)]
    constructor
    · intro h
      cases hp : V1.patchNode false (xs[i.toNat]'(by omega)) (e :: r) old new with
      | ok v => rw [hp] at h; cases h; exact ⟨_, v, by omega, hx, hp, rfl⟩
      | err => rw [hp] at h; cases h
      | panic => rw [hp] at h; cases h
    · rintro ⟨x, v, _, hx', hp, rfl⟩
      rw [hx] at hx'; cases hx'
      rw [hp]; rfl
  · -- out of range: no branch succeeds
    constructor
    · intro h
      exfalso
      by_cases hi : i < 0
      · have hl : (xs.length : Int) > i := by omega
        cases hnv : (Json.singleValue new).isVoid <;> cases hov : (Json.singleValue old).isVoid <;>
          simp [listBody, listE, hnv, hov, hi, hl] at h
      · have hl : ¬ (xs.length : Int) > i := fun hl => hin ⟨hi, hl⟩
        cases hnv : (Json.singleValue new).isVoid <;> cases hov : (Json.singleValue old).isVoid <;>
          simp [listBody, listE, hnv, hov, hc, hi, hl] at h
    · rintro ⟨x, v, h0, hx', _⟩
      have := lt_of_getElem? hx'
      exact absurd ⟨by omega, by omega⟩ hin

/-- index element at the end of the path, nothing new: the element is checked and deleted -/
theorem listBody_nil_del (xs : List Json) (old new : List Json) (i : Int) (n' : Json)
    (hxs : ∀ x, xs[i.toNat]? = some x → x.listDoc = true) (h1 : old.length ≤ 1) (h2 : new.length ≤ 1)
    (hn : (Json.singleValue new).isVoid = true) :
    listBody xs [] old new i = .ok n' ↔
      ∃ x, 0 ≤ i ∧ xs[i.toNat]? = some x ∧ V1.equals [] x (Json.singleValue old) = true ∧
        n' = .arr .list (xs.eraseIdx i.toNat) := by
  unfold listBody listE
  simp only [hn, if_true, List.isEmpty_nil]
  by_cases hi : i < 0
  · simp only [hi, if_true]
    constructor
    · intro h; cases h
    · rintro ⟨x, h0, _⟩; omega
  · by_cases hl : (xs.length : Int) > i
    · have hx := getElem?_toNat hi hl
      have hge : ¬ i ≥ (xs.length : Int) := by omega
      simp only [hi, hl, hge, if_true, if_false, patchListChild_eq _ _ _ xs _ _ hx,
        patchNode_root _ old new (hxs _ hx) h1 h2]
      constructor
      · intro h
        split at h
        · rename_i he
          cases h
          exact ⟨_, by omega, hx, he, rfl⟩
        · cases h
      · rintro ⟨x, _, hx', he, rfl⟩
        rw [hx] at hx'; cases hx'
        rw [if_pos he]; rfl
    · have hge : i ≥ (xs.length : Int) := by omega
      simp only [hi, hl, hge, if_true, if_false]
      constructor
      · intro h
        cases hp : V1.patchCommon false Json.void [] old new <;> rw [hp] at h <;> cases h
      · rintro ⟨x, _, hx', _⟩
        have := lt_of_getElem? hx'
        omega

/-- index element at the end of the path, nothing old: the new value is inserted (appended when
    the index is the length) -/
theorem listBody_nil_ins (xs : List Json) (old new : List Json) (i : Int) (n' : Json)
    (h1 : old.length ≤ 1) (h2 : new.length ≤ 1)
    (hn : (Json.singleValue new).isVoid = false) (ho : (Json.singleValue old).isVoid = true) :
    listBody xs [] old new i = .ok n' ↔
      0 ≤ i ∧ i ≤ (xs.length : Int) ∧
        n' = .arr .list (xs.take i.toNat ++ Json.singleValue new :: xs.drop i.toNat) := by
  unfold listBody listE
  simp only [hn, ho, if_true, if_false, Bool.false_eq_true, List.isEmpty_nil, Bool.not_true,
    Bool.and_false, Bool.false_and, patchCommon_void_nil old new h1 h2, Outcome.bind_ok]
  by_cases hr : i < 0 ∨ i > (xs.length : Int)
  · have : (decide (i < 0) || decide (i > (xs.length : Int))) = true := by simpa using hr
    simp only [this, if_true]
    constructor
    · intro h; cases h
    · rintro ⟨_, _, _⟩; omega
  · have : (decide (i < 0) || decide (i > (xs.length : Int))) = false := by simpa using hr
    simp only [this, Bool.false_eq_true, if_false]
    by_cases he : i = (xs.length : Int)
    · subst he
      simp only [beq_self_eq_true, if_true, Int.toNat_natCast, List.take_length, List.drop_length]
      constructor
      · intro h; cases h; exact ⟨by omega, by omega, rfl⟩
      · rintro ⟨_, _, rfl⟩; rfl
    · have : (i == (xs.length : Int)) = false := by simpa using he
      simp only [this, Bool.false_eq_true, if_false]
      constructor
      · intro h; cases h; exact ⟨by omega, by omega, rfl⟩
      · rintro ⟨_, _, rfl⟩; rfl

/-- index element at the end of the path, old and new value: the element is checked and replaced -/
theorem listBody_nil_rep (xs : List Json) (old new : List Json) (i : Int) (n' : Json)
    (hxs : ∀ x, xs[i.toNat]? = some x → x.listDoc = true) (h1 : old.length ≤ 1) (h2 : new.length ≤ 1)
    (hn : (Json.singleValue new).isVoid = false) (ho : (Json.singleValue old).isVoid = false) :
    listBody xs [] old new i = .ok n' ↔
      ∃ x, 0 ≤ i ∧ xs[i.toNat]? = some x ∧ V1.equals [] x (Json.singleValue old) = true ∧
        n' = .arr .list (xs.set i.toNat (Json.singleValue new)) := by
  by_cases hi : i < 0
  · simp only [listBody, listE, hn, ho, if_false, Bool.false_eq_true, hi, if_true]
    constructor
    · intro h; cases h
    · rintro ⟨x, h0, _⟩; omega
  · by_cases hl : (xs.length : Int) > i
    · have hx := getElem?_toNat hi hl
      rw [listBody_at (by omega) hx [] old new (Or.inr ⟨hn, ho⟩),
        patchNode_root _ old new (hxs _ hx) h1 h2]
      constructor
      · intro h
        split at h
        · rename_i he
          cases h
          exact ⟨_, by omega, hx, he, rfl⟩
        · cases h
      · rintro ⟨x, _, hx', he, rfl⟩
        rw [hx] at hx'; cases hx'
        rw [if_pos he]
        rfl
    · simp only [listBody, listE, hn, ho, Bool.false_eq_true, hi, hl, if_false,
        patchCommon_void_nil old new h1 h2]
      constructor
      · intro h; cases h
      · rintro ⟨x, _, hx', _⟩
        have := lt_of_getElem? hx'
        omega

/-- a hunk at the root: replace the value -/
theorem patch_root (a : Json) (old new : List Json) (ha : a.listDoc = true) (h1 : old.length ≤ 1)
    (h2 : new.length ≤ 1) (h : V1.equals [] a (Json.singleValue old) = true) :
    V1.patchAll a [{ path := [], old := old, new := new }] = .ok (Json.singleValue new) := by
  rw [patchAll_cons _ _ _ ⟨rfl, h1, h2⟩]
  unfold ap
  simp only [V1.liftPath, List.map_nil]
  rw [patchNode_root a old new ha h1 h2, if_pos h]
  rfl

/-! ## 4. `Equals` with the metadata, whatever it is -/

theorem v1_equalsList_length (m : V1.Metas) :
    ∀ (xs ys : List Json), V1.equalsList m xs ys = true → xs.length = ys.length
  | [], [], _ => rfl
  | [], _ :: _, h => by simp [V1.equalsList] at h
  | _ :: _, [], h => by simp [V1.equalsList] at h
  | x :: xs, y :: ys, h => by
    simp only [V1.equalsList, Bool.and_eq_true] at h
    simp [v1_equalsList_length m xs ys h.2]

theorem v1_equalsKvs_keys (m : V1.Metas) (kvs' : List (String × Json)) :
    ∀ (kvs : List (String × Json)), V1.equalsKvs m kvs kvs' = true →
      ∀ k, k ∈ kvs.map Prod.fst → k ∈ kvs'.map Prod.fst
  | [], _, _, hk => by cases hk
  | (k0, v) :: r, h, k, hk => by
    rw [V1.equalsKvs, Bool.and_eq_true] at h
    rcases List.mem_cons.1 hk with rfl | hk
    · rw [← alookup_isSome_iff]
      cases hl : alookup k kvs' with
      | none => rw [hl] at h; simp at h
      | some _ => rfl
    · exact v1_equalsKvs_keys m kvs' r h.2 k hk

theorem dispatch_wf (m : V1.Metas) (y : Json) : (V1.dispatch m y).wf = y.wf := by
  cases y with
  | arr t ys => cases t <;> simp [V1.dispatch, Json.wf]
  | _ => rfl

theorem filter_isNone_eq_nil_iff (kvs kvs' : List (String × Json)) :
    kvs'.filter (fun kv => (alookup kv.1 kvs).isNone) = [] ↔
      ∀ k, k ∈ kvs'.map Prod.fst → k ∈ kvs.map Prod.fst := by
  rw [List.filter_eq_nil_iff]
  constructor
  · intro h k hk
    obtain ⟨⟨k0, v⟩, hm, rfl⟩ := List.mem_map.1 hk
    rw [← alookup_isSome_iff]
    have := h (k0, v) hm
    cases hl : alookup k0 kvs with
    | none => simp [hl] at this
    | some _ => rfl
  · intro h kv hm
    have := h kv.1 (List.mem_map.2 ⟨kv, hm, rfl⟩)
    rw [← alookup_isSome_iff] at this
    cases hl : alookup kv.1 kvs with
    | none => rw [hl] at this; cases this
    | some _ => simp

/-- documents that are `Equal` are both void or both not -/
theorem v1_equals_isVoid (m : V1.Metas) {z v : Json} (h : V1.equals m z v = true) :
    z.isVoid = v.isVoid := by
  cases z with
  | void => simpa [V1.equals, Json.isVoid] using h.symm
  | arr t xs =>
    cases v with
    | void =>
      rw [V1.equals.eq_def] at h
      simp only [V1.dispatch] at h
      split at h <;> simp_all
    | _ => rfl
  | _ => cases v <;> simp_all [V1.equals, Json.isVoid, Json.isNull]

theorem v1_equalsList_append (m : V1.Metas) :
    ∀ {zs ys zs' ys' : List Json}, V1.equalsList m zs ys = true → V1.equalsList m zs' ys' = true →
      V1.equalsList m (zs ++ zs') (ys ++ ys') = true
  | [], [], _, _, _, h2 => h2
  | [], _ :: _, _, _, h1, _ => by simp [V1.equalsList] at h1
  | _ :: _, [], _, _, h1, _ => by simp [V1.equalsList] at h1
  | z :: zs, y :: ys, zs', ys', h1, h2 => by
    simp only [V1.equalsList, Bool.and_eq_true] at h1
    simp only [List.cons_append, V1.equalsList, Bool.and_eq_true]
    exact ⟨h1.1, v1_equalsList_append m h1.2 h2⟩

theorem _root_.Jd.V1S.equalsKvs_eq_lookAll (m : V1.Metas) (kvs' : List (String × Json)) :
    ∀ (kvs : List (String × Json)), V1.equalsKvs m kvs kvs' = lookAll (V1.equals m) kvs kvs'
  | [] => by simp [V1.equalsKvs, lookAll]
  | (k, v) :: r => by rw [V1.equalsKvs, lookAll, V1S.equalsKvs_eq_lookAll m kvs' r]; rfl

/-- `Equal` on two objects with unique keys, key by key -/
theorem v1_equals_obj_optRel (m : V1.Metas) {X Y : List (String × Json)}
    (hX : keysSorted X = true) (hY : keysSorted Y = true) :
    V1.equals m (.obj X) (.obj Y) = true ↔
      ∀ k, DPK.OptRel (fun x y => V1.equals m x y = true) (alookup k X) (alookup k Y) := by
  rw [V1.equals, V1S.equalsKvs_eq_lookAll]; exact lenLookAll_iff _ hX hY

/-- two objects with sorted keys whose members are pointwise `Equal` are `Equal` -/
theorem v1_equals_obj (m : V1.Metas) {cur kvs' : List (String × Json)}
    (hs : keysSorted cur = true) (hs' : keysSorted kvs' = true)
    (h : ∀ k, match alookup k kvs' with
      | none => alookup k cur = none
      | some v' => ∃ z, alookup k cur = some z ∧ V1.equals m z v' = true) :
    V1.equals m (.obj cur) (.obj kvs') = true :=
  (v1_equals_obj_optRel m hs hs').2 fun k => .of_lookup (h k)

end Jd.V1P

/-! ## 5. the strict diff, then the strict patch, for any relation between result and target: what
  is common to all readings (hunks below an object key, a value replaced as a whole, objects) -/

namespace Jd.V1S
open Jd Jd.Spec Jd.V1P
open Jd.DPL hiding diffCommon_shift diffKvs_cons diffKvs_nil diffNode_obj_obj
  diffNode_obj_other diffNode_scalar

/-- a hunk whose path does not announce the merge strategy -/
def NM (h : V1.Hunk) : Prop := V1.pathIsMerge (V1.liftPath h.path) = false

theorem nm_nil (old new : List Json) : NM { path := [], old := old, new := new } := rfl

theorem nm_shift_str (k : String) (h : V1.Hunk) : NM (shift [.str k] h) := rfl

theorem shift_nil_map (D : V1.VDiff) : D.map (shift []) = D := by
  rw [List.map_congr_left (g := id) (fun h _ => by simp [shift]), List.map_id]

theorem nm_of_hok {h : V1.Hunk} (hh : HOK h) : NM h := pathIsMerge_plain hh.plain

theorem patchAll_cons (n : Json) (h : V1.Hunk) (d : V1.VDiff) (hh : NM h) :
    V1.patchAll n (h :: d) = (ap n h >>= fun n' => V1.patchAll n' d) := by
  unfold NM at hh
  simp only [V1.patchAll, V1.liftDiff, List.map_cons, V1.patchAllP, V1.Hunk.toP, hh, ap]
  cases V1.patchNode false n (V1.liftPath h.path) h.old h.new <;> rfl

theorem patchAll_single (n : Json) (h : V1.Hunk) (hh : NM h) {r : Json} (e : ap n h = .ok r) :
    V1.patchAll n [h] = .ok r := by
  rw [patchAll_cons n h [] hh, e]; rfl

theorem patchAll_append_ok (n n' : Json) (d1 d2 : V1.VDiff) (h : V1.patchAll n d1 = .ok n') :
    V1.patchAll n (d1 ++ d2) = V1.patchAll n' d2 := by
  rw [patchAll_append, h]; rfl

theorem singleValue_nodeList (b : Json) : Json.singleValue b.nodeList = b := single_nodeList b

/-- what one node of the diff has to achieve: the hunks are hunks below the path, none announces
    the merge strategy, they apply to the source in sequence (`V1.patchAll`: the library's patch
    loop), and the result stands in the relation `R` to the target -/
def StepR (R : Json → Json → Prop) (m : V1.Metas) (a b : Json) (p : List Json) : Prop :=
  ∃ D r, V1.diffNode m false a b p = D.map (shift p) ∧ (∀ h ∈ D, NM h) ∧
    V1.patchAll a D = .ok r ∧ R r b

/-- a domain of source documents closed under object members: what the object step asks of it.
    `self`: the strict patch checks a removed value with `Equals` WITHOUT metadata. -/
structure ObjDom (P : Json → Prop) : Prop where
  listDoc : ∀ {a}, P a → a.listDoc = true
  self : ∀ {a}, P a → V1.equals [] a a = true
  sorted : ∀ {kvs}, P (.obj kvs) → keysSorted kvs = true
  val : ∀ {kvs : List (String × Json)} {k v}, P (.obj kvs) → (k, v) ∈ kvs → P v ∧ v.isVoid = false

/-- a hunk at the root that removes the value itself: the value is replaced -/
theorem ObjDom.replace {P : Json → Prop} (DP : ObjDom P) {a : Json} (ha : P a) (addl : List Json)
    (hadd : addl.length ≤ 1) :
    V1.patchAll a [{ path := [], old := a.nodeList, new := addl }] =
      .ok (Json.singleValue addl) := by
  apply patch_root a a.nodeList addl (DP.listDoc ha) (nodeList_length a) hadd
  rw [singleValue_nodeList]
  exact DP.self ha

/-- a value replaced as a whole -/
theorem ObjDom.replace_step {P : Json → Prop} (DP : ObjDom P) {m : V1.Metas}
    {R : Json → Json → Prop} {a b : Json}
    (ha : P a) (hR : R b b) (p : List Json) (addl : List Json) (hl : addl.length ≤ 1)
    (hs : Json.singleValue addl = b)
    (hdiff : V1.diffNode m false a b p = [{ path := p, old := a.nodeList, new := addl }]) :
    StepR R m a b p := by
  refine ⟨[{ path := [], old := a.nodeList, new := addl }], b, ?_, ?_, ?_, hR⟩
  · rw [hdiff]; simp [shift]
  · intro h hh
    simp only [List.mem_singleton] at hh
    subst hh; exact nm_nil _ _
  · rw [DP.replace ha addl hl, hs]

/-- a scalar source: nothing when `Equals` holds, replaced otherwise -/
theorem ObjDom.scalar_step {P : Json → Prop} (DP : ObjDom P) {m : V1.Metas}
    {R : Json → Json → Prop} {a b : Json} (h1 : ∀ t xs, a ≠ .arr t xs) (h2 : ∀ kvs, a ≠ .obj kvs)
    (ha : P a) (hsc : V1.equals m a b = true → R a b) (hR : R b b) (p : List Json) :
    StepR R m a b p := by
  have hd := diffNode_scalar m a b h1 h2 p
  by_cases he : V1.equals m a b = true
  · refine ⟨[], a, ?_, by simp, rfl, hsc he⟩
    rw [hd]; simp [V1.diffCommon, he]
  · apply DP.replace_step ha hR p b.nodeList (nodeList_length b) (singleValue_nodeList b)
    rw [hd]; simp [V1.diffCommon, he]

/-- the v1 library's patch loop as an `ObjPatch`, on a domain `ObjDom P` of sources -/
def objPatch {P : Json → Prop} (DP : ObjDom P) : ObjPatch V1.Hunk where
  Runs x D r := V1.patchAll x D = .ok r
  Ok := NM
  sh k := shift [.str k]
  Dom := P
  remH v := { path := [], old := v.nodeList, new := [] }
  addH v := { path := [], old := [], new := v.nodeList }
  runs_nil := ⟨fun h => (Outcome.ok.inj h).symm, fun h => h ▸ rfl⟩
  runs_append := by intros; rw [patchAll_append]; exact Outcome.bind_eq_ok
  ok_sh k h _ := nm_shift_str k h
  key_step h k cur x v hh hx hv := by
    rw [patchAll_cons _ _ _ hh] at hv
    obtain ⟨v', hv', e⟩ := Outcome.bind_eq_ok.1 hv
    cases (Outcome.ok.inj e : v' = v)
    rw [patchAll_cons _ _ _ (nm_shift_str k h), ap_key, hx, Merge.getD_toOpt, hv']
    rfl
  ok_rem _ := nm_nil _ _
  runs_rem ha := DP.replace ha [] (by simp)
  ok_add _ := nm_nil _ _
  runs_add v := by
    have := patch_root .void [] v.nodeList rfl (by simp) (nodeList_length v) rfl
    rwa [singleValue_nodeList] at this

/-- the first loop of `jsonObject.diff` member by member -/
theorem diffKvs_eq_flatMap (m : V1.Metas) (p : List Json) (kvs' : List (String × Json)) :
    ∀ kvs, V1.diffKvs m false p kvs' kvs = kvs.flatMap fun kv =>
      match alookup kv.1 kvs' with
      | some v' => V1.diffNode m false kv.2 v' (p ++ [.str kv.1])
      | none => [{ path := p ++ [.str kv.1], old := kv.2.nodeList, new := [] }]
  | [] => diffKvs_nil m p kvs'
  | (k, v) :: r => by rw [diffKvs_cons, diffKvs_eq_flatMap m p kvs' r]; rfl

/-- two objects: when every common member makes its step and the members only the second object
    has are related to themselves, the two loops of `jsonObject.diff` take the first object key by
    key to the second; every hunk lies below a key that one of the objects has and, if both have
    it, under which the members' diff is not empty -/
theorem ObjDom.obj_step_of {P : Json → Prop} (DP : ObjDom P) {R : Json → Json → Prop} {m : V1.Metas}
    (hvoid : ∀ {r b}, R r b → r.isVoid = b.isVoid)
    {kvs kvs' : List (String × Json)} (ha : P (.obj kvs)) (hsb : keysSorted kvs' = true)
    (hnv : ∀ k v', (k, v') ∈ kvs' → v'.isVoid = false)
    (hmem : ∀ k v, (k, v) ∈ kvs → ∀ v', alookup k kvs' = some v' → ∀ q, StepR R m v v' q)
    (hrefl : ∀ k v', (k, v') ∈ kvs' → R v' v') (p : List Json) :
    ∃ D cur, V1.diffNode m false (.obj kvs) (.obj kvs') p = D.map (shift p) ∧
      (∀ h ∈ D, ∃ k rest, h.path = .str k :: rest ∧
        ((∃ v, (k, v) ∈ kvs ∧ ∀ v', alookup k kvs' = some v' →
            V1.diffNode m false v v' (p ++ [.str k]) ≠ []) ∨
         (alookup k kvs = none ∧ (alookup k kvs').isSome = true))) ∧
      V1.patchAll (.obj kvs) D = .ok (.obj cur) ∧ keysSorted cur = true ∧
      ∀ k, match alookup k kvs' with
        | none => alookup k cur = none
        | some v' => ∃ z, alookup k cur = some z ∧ R z v' := by
  obtain ⟨M, cur, hM, hrun, _, hs, hfin⟩ := (objPatch DP).obj_step (DP.sorted ha) hsb
    (fun k v hm => DP.val ha hm) hnv R (fun _ _ h => hvoid h) hrefl
    (fun k v v' D => V1.diffNode m false v v' (p ++ [.str k]) = D.map (shift (p ++ [.str k])))
    (fun k v v' hm hl => by
      obtain ⟨D, z, d1, d2, d3, d4⟩ := hmem k v hm v' hl (p ++ [.str k])
      exact ⟨D, z, d1, d2, d3, d4⟩)
  refine ⟨_, cur, ?_, ?_, hrun, hs, hfin⟩
  · rw [diffNode_obj_obj, diffKvs_eq_flatMap, List.map_append, List.map_flatMap, List.map_map]
    congr 1
    refine flatMap_congr_left fun kv hkv => ?_
    have := hM kv.1 kv.2 hkv
    cases hl : alookup kv.1 kvs' with
    | some v' =>
      simp only [hl] at this ⊢
      rw [this, List.map_map]
      exact List.map_congr_left fun h _ => by simp [objPatch, shift_shift]
    | none => simp only [hl] at this ⊢; rw [this]; simp [objPatch, shift]
  · intro h hh
    obtain ⟨k, h0, rfl, ⟨v, hkv, hh0⟩ | ⟨v', rfl, hn, hsome⟩⟩ := (objPatch DP).hunk_origin hsb M hh
    · refine ⟨k, h0.path, rfl, .inl ⟨v, hkv, fun v' hl e => ?_⟩⟩
      have := hM k v hkv
      simp only [hl] at this
      rw [e] at this
      rw [List.map_eq_nil_iff.1 this.symm] at hh0
      cases hh0
    · exact ⟨k, [], rfl, .inr ⟨hn, hsome⟩⟩

/-- the step of two objects, for a relation `R` that passes from the members to the objects -/
theorem ObjDom.obj_step {P : Json → Prop} (DP : ObjDom P) {R : Json → Json → Prop} {m : V1.Metas}
    (hvoid : ∀ {r b}, R r b → r.isVoid = b.isVoid)
    (objR : ∀ {cur kvs' : List (String × Json)}, keysSorted cur = true → keysSorted kvs' = true →
      (∀ k, match alookup k kvs' with
        | none => alookup k cur = none
        | some v' => ∃ z, alookup k cur = some z ∧ R z v') → R (.obj cur) (.obj kvs'))
    {kvs kvs' : List (String × Json)} (ha : P (.obj kvs)) (hsb : keysSorted kvs' = true)
    (hnv : ∀ k v', (k, v') ∈ kvs' → v'.isVoid = false)
    (hmem : ∀ k v, (k, v) ∈ kvs → ∀ v', alookup k kvs' = some v' → ∀ q, StepR R m v v' q)
    (hrefl : ∀ k v', (k, v') ∈ kvs' → R v' v') (p : List Json) :
    StepR R m (.obj kvs) (.obj kvs') p := by
  obtain ⟨D, cur, e, hD, hpa, hs, hfin⟩ := DP.obj_step_of hvoid ha hsb hnv hmem hrefl p
  refine ⟨D, .obj cur, e, fun h hh => ?_, hpa, objR hs hsb hfin⟩
  obtain ⟨k, rest, e', _⟩ := hD h hh
  exact congrArg (fun q => V1.pathIsMerge (V1.liftPath q)) e'

end Jd.V1S

