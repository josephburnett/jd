/-
  JdProofs.PointerRead — reading a JSON Pointer text: the library's `readPointer` (v2/pointer.go)
  against RFC 6901 parsing, on the text level of JdProofs.PointerText. No patch reader in here.

  `Jd.PB`: unescaping and `atoi?` on what jd writes (`ptrUnescape_esc`, `atoi?_toString`); the reader's
  token codec `elemR` (a token `indexToken?` accepts is an index, `-` is the append index, any other a
  member name) with `elemR_props` / `elemR_elemTok`; `pathEq`, the reader's comparison of two paths.
  `Jd.NMP` (the namespace of C10, whose theorems carry these predicates as hypotheses):
  `readPointer_eq_parse` — `readPointer s` is `parsePointer s` followed by `elemR` token by token, for
  every text; read off it: the round trip `readPointer_write`, the strictness of the paths read
  (`readPointer_strict`) and the injectivity of the reader. `wpL`, the pointer writer that refuses no
  member name (`writePointerPath` refuses those `strconv.Atoi` accepts, D30); path domains `pathOK` ⊆
  `pathOK'` (with the append index) ⊆ `pathOKr` (what the reader produces); `pathEq_eq_r`: the reader's
  comparison is equality on `pathOKr` paths (under `FloatEq0`); the pointer hypotheses of C10,
  `canonicalPointer` ⟹ `canonPtr` ⟹ `ptrOKr` ⟸ `idxTokensOK`.
-/
import JdProofs.PointerText
import JdProofs.Common

namespace Jd.PB
open Jd Jd.Spec

/-! ### the pointer layer: `readPointer` inverts `writePointerPath` -/

/-- first pass of `jsonpointer.Unescape` on escaped text: only `~` → `~0` remains -/
def esc0 : List Char → List Char
  | [] => []
  | c :: r => if c = '~' then '~' :: '0' :: esc0 r else c :: esc0 r

theorem pass1_escChars : ∀ l : List Char, ptrUnescape.pass '1' '/' (escChars l) = esc0 l
  | [] => rfl
  | c :: r => by
    have ih := pass1_escChars r
    unfold escChars esc0
    by_cases h1 : c = '~'
    · subst h1
      simp only [if_true]
      rw [ptrUnescape.pass]
      simp only [show ('0' == '1') = false by decide, Bool.false_eq_true, if_false]
      rw [ptrUnescape.pass]
      · rw [ih]
      · intro x t h; cases h
    · by_cases h2 : c = '/'
      · subst h2
        simp only [h1, if_false, if_true]
        rw [ptrUnescape.pass]
        simp [ih]
      · simp only [h1, h2, if_false]
        rw [ptrUnescape.pass]
        · rw [ih]
        · intro x t h; exact absurd h h1

theorem pass0_esc0 : ∀ l : List Char, ptrUnescape.pass '0' '~' (esc0 l) = l
  | [] => rfl
  | c :: r => by
    have ih := pass0_esc0 r
    unfold esc0
    by_cases h1 : c = '~'
    · subst h1
      simp only [if_true]
      rw [ptrUnescape.pass]
      simp [ih]
    · simp only [h1, if_false]
      rw [ptrUnescape.pass]
      · rw [ih]
      · intro x t h; exact absurd h h1

theorem ptrUnescape_esc (l : List Char) : ptrUnescape (String.ofList (escChars l)) = String.ofList l := by
  unfold ptrUnescape
  rw [String.toList_ofList, pass1_escChars, pass0_esc0]

/-! decimal text of a non-negative index -/

def signSplit (cs : List Char) : Bool × List Char :=
  match cs with
  | '-' :: r => (true, r)
  | '+' :: r => (false, r)
  | r => (false, r)

theorem signSplit_digits : ∀ ds : List Char, (∀ c ∈ ds, isDigit c = true) → signSplit ds = (false, ds) := by
  intro ds
  unfold signSplit
  split <;> intro hd
  · have := hd '-' List.mem_cons_self; simp [isDigit] at this
  · have := hd '+' List.mem_cons_self; simp [isDigit] at this
  · rfl

theorem atoi?_eq (s : String) : atoi? s =
    (if (signSplit s.toList).2.isEmpty || !((signSplit s.toList).2.all isDigit) then none
     else
      let n : Nat := (signSplit s.toList).2.foldl (fun (acc : Nat) c => acc * 10 + (c.toNat - 48)) 0
      if (signSplit s.toList).1 then (if n ≤ 2 ^ 63 then some (-(n : Int)) else none)
      else (if n < 2 ^ 63 then some (n : Int) else none)) := rfl

theorem atoi?_natRepr (n : Nat) (h : n < 2 ^ 63) : atoi? n.repr = some (n : Int) := by
  rw [atoi?_eq]
  simp only [Nat.toList_repr]
  have hd : ∀ c ∈ Nat.toDigits 10 n, isDigit c = true := by
    intro c hc
    have := Nat.isDigit_of_mem_toDigits (by decide) (by decide) hc
    simp only [Char.isDigit, Bool.and_eq_true, decide_eq_true_eq] at this
    simp only [isDigit, Bool.and_eq_true, decide_eq_true_eq]
    exact ⟨this.1, this.2⟩
  have hne : Nat.toDigits 10 n ≠ [] := Nat.toDigits_ne_nil
  rw [signSplit_digits _ hd]
  have h1 : (Nat.toDigits 10 n).isEmpty = false := by
    cases hh : Nat.toDigits 10 n with | nil => exact absurd hh hne | cons _ _ => rfl
  have h2 : (Nat.toDigits 10 n).all isDigit = true := List.all_eq_true.2 hd
  simp only [h1, h2, Bool.not_true, Bool.or_false, Bool.false_eq_true, if_false]
  rw [foldl_digits, Nat.ofDigitChars_ten_toDigits]
  simp [h]

theorem atoi?_toString {i : Int} (h0 : 0 ≤ i) (h : i < 2 ^ 63) : atoi? (toString i) = some i := by
  rw [Int.toString_eq_repr, Int.repr_eq_if, if_pos h0, atoi?_natRepr _ (by omega)]
  congr 1; omega

/-- a path element of the supported subset: a key that is not number-like and not `-`,
    or an index `0 ≤ i < 2^53` -/
def elemOK : PathElem → Bool
  | .key k => (atoi? k).isNone && k != "-"
  | .idx i => decide (0 ≤ i) && decide (i < 2 ^ 53)
  | _ => false

def pathOK (p : Path) : Bool := p.all elemOK

/-- the JSON form `readPointer` gives a token -/
def tokJson (t : String) : Json :=
  match indexToken? t with
  | some i => .num (intToFloatBits i)
  | none => if t == "-" then .num (intToFloatBits (-1)) else .str t

theorem indexToken?_of_atoi_none {t : String} (h : atoi? t = none) : indexToken? t = none := by
  simp [indexToken?, h]

theorem indexToken?_toString {i : Int} (h0 : 0 ≤ i) (h : i < 2 ^ 63) :
    indexToken? (toString i) = some i := by
  unfold indexToken?
  rw [atoi?_toString h0 h]
  simp [h0]

theorem escapesOK_cons_ne {c : Char} (h : c ≠ '~') (r : List Char) :
    escapesOK (c :: r) = escapesOK r := by
  rw [escapesOK.eq_def]
  split
  · rename_i heq; cases heq
  · rename_i heq; injection heq with heq _; exact absurd heq h
  · rename_i heq; injection heq with _ heq; rw [heq]

theorem escapesOK_tilde (x : Char) (r : List Char) :
    escapesOK ('~' :: x :: r) = ((x == '0' || x == '1') && escapesOK (x :: r)) := by
  rw [escapesOK.eq_def]; rfl

theorem escapesOK_tilde_nil : escapesOK ['~'] = false := by
  rw [escapesOK.eq_def]; rfl

theorem idxTok_nonneg {i : Int} (h : 0 ≤ i) : idxTok i = toString i := by
  have : (i == -1) = false := by simp; omega
  simp [idxTok, this]

/-- the path element `readPointer` makes of a (decoded) reference token; an index goes through the
    model's `int → float64 → int` conversion -/
def elemR (u : String) : PathElem :=
  match indexToken? u with
  | some i => .idx (floatTrunc (intToFloatBits i))
  | none => if u == "-" then .idx (-1) else .key u

/-- an index token is below 2^53, where the model's `int → float64 → int` conversion is exact -/
def tokBound (u : String) : Prop :=
  match indexToken? u with
  | some i => i < 2 ^ 53
  | none => True

theorem indexToken?_some {u : String} {i : Int} (h : indexToken? u = some i) :
    0 ≤ i ∧ toString i = u := by
  unfold indexToken? at h
  cases ha : atoi? u with
  | none => rw [ha] at h; cases h
  | some j =>
    rw [ha] at h
    simp only at h
    split at h
    · rename_i hc
      cases Option.some.inj h
      simpa using hc
    · cases h

theorem go_num (b : UInt64) (r : List Json) :
    newPathM.go (.num b :: r) =
      (match newPathM.go r with | .ok p => .ok (.idx (floatTrunc b) :: p) | e' => e') := by
  simp only [newPathM.go]; cases newPathM.go r <;> rfl

theorem go_str (k : String) (r : List Json) :
    newPathM.go (.str k :: r) =
      (match newPathM.go r with | .ok p => .ok (.key k :: p) | e' => e') := by
  simp only [newPathM.go]; cases newPathM.go r <;> rfl

theorem elemR_idx {u : String} {i : Int} (h : indexToken? u = some i) (hi : i.natAbs < 2 ^ 53) :
    elemR u = .idx i := by simp only [elemR, h, floatTrunc_intToFloatBits hi]

theorem elemR_key {u : String} (h : indexToken? u = none) (hd : (u == "-") = false) :
    elemR u = .key u := by simp [elemR, h, hd]

theorem elemR_dash : elemR "-" = .idx (-1) := by
  have : indexToken? "-" = none := by decide
  simp [elemR, this]

theorem elemR_cases (u : String) : (∃ k, elemR u = .key k) ∨ ∃ i, elemR u = .idx i := by
  unfold elemR
  split
  · exact .inr ⟨_, rfl⟩
  · split
    · exact .inr ⟨_, rfl⟩
    · exact .inl ⟨_, rfl⟩

/-- **one token, read**: within the bound, `elemR u` is a member name or an index in [−1, 2^53), and its
    reference token is `u` again -/
theorem elemR_props {u : String} (hb : tokBound u) :
    ((∃ k, elemR u = .key k) ∨ ∃ i, elemR u = .idx i ∧ -1 ≤ i ∧ i < 2 ^ 53) ∧
    elemTok (elemR u) = u := by
  unfold tokBound at hb
  cases hi : indexToken? u with
  | some i =>
    rw [hi] at hb
    obtain ⟨h0, hs⟩ := indexToken?_some hi
    have h2 := elemR_idx hi (by omega)
    refine ⟨.inr ⟨i, h2, by omega, hb⟩, ?_⟩
    rw [h2, elemTok, idxTok_nonneg h0, hs]
  | none =>
    by_cases hd : u = "-"
    · subst hd
      exact ⟨.inr ⟨-1, elemR_dash, by decide, by decide⟩, by rw [elemR_dash]; rfl⟩
    · have h2 := elemR_key hi (by simpa using hd)
      exact ⟨.inl ⟨u, h2⟩, by rw [h2]; rfl⟩

/-- … and written: the reference token of a member name `writePointer` accepts, or of an index in
    [−1, 2^53), is read back to the element -/
theorem elemR_elemTok {e : PathElem} (he : expressible e)
    (hi : ∀ i, e = .idx i → -1 ≤ i ∧ i < 2 ^ 53) : elemR (elemTok e) = e ∧ tokBound (elemTok e) := by
  cases e with
  | key k =>
    have hk : (k == "-") = false := by simpa using he.2
    have hn := indexToken?_of_atoi_none he.1
    exact ⟨elemR_key hn hk, by simp only [elemTok, tokBound, hn]⟩
  | idx i =>
    obtain ⟨h1, h2⟩ := hi i rfl
    by_cases h0 : 0 ≤ i
    · have ht : indexToken? (elemTok (.idx i)) = some i := by
        rw [elemTok, idxTok_nonneg h0]; exact indexToken?_toString h0 (by omega)
      exact ⟨elemR_idx ht (by omega), by simp only [tokBound, ht]; exact h2⟩
    · obtain rfl : i = -1 := by omega
      have : indexToken? "-" = none := by decide
      exact ⟨elemR_dash, by simp only [elemTok, idxTok, tokBound]; simp [this]⟩
  | _ => cases he

theorem ptoks_map_elemR {toks : List String} (h : ∀ u ∈ toks, tokBound u) :
    ptoks (toks.map elemR) = toks := by
  rw [ptoks, List.map_map]
  exact (List.map_congr_left fun u hu => (elemR_props (h u hu)).2).trans (List.map_id toks)

theorem idxRange_of_bounds {p : Path} (hi : ∀ i, PathElem.idx i ∈ p → -1 ≤ i ∧ i < 2 ^ 53) :
    idxRange p := fun i hm => floatTrunc_intToFloatBits (by have := hi i hm; omega)

theorem readPointer_eq (s : String) : readPointer s =
    (if s == "" then newPathM (.arr .raw [])
     else if !(s.startsWith "/") then .err
     else if !(escapesOK s.toList) then .err
     else newPathM (.arr .raw ((((s.splitOn "/").drop 1).map ptrUnescape).map tokJson))) := by
  unfold readPointer
  rfl

theorem pathOK_bounds {p : Path} (hp : pathOK p = true) :
    ∀ i, PathElem.idx i ∈ p → 0 ≤ i ∧ i < 2 ^ 53 := by
  intro i hm
  simpa [elemOK] using List.all_eq_true.1 hp _ hm

theorem pathOK_setLastIdx {p : Path} {j : Int} (hp : pathOK p = true) (h0 : 0 ≤ j) (h1 : j < 2 ^ 53) :
    pathOK (setLastIdx p j) = true :=
  List.all_eq_true.2 fun e he => by
    rcases mem_setLastIdx he with he | rfl
    · exact List.all_eq_true.1 hp e he
    · simp only [elemOK, Bool.and_eq_true, decide_eq_true_eq]; exact ⟨h0, h1⟩

/-! ### path comparison of the coalescing step -/

/-- the comparison `last.Path.JsonNode().Equals(e.Path.JsonNode())` of the coalescing step -/
def pathEq (p q : Path) : Bool := equals [] (pathToJson p) (pathToJson q)

theorem finiteBits_intToFloatBits {i : Int} (h : i.natAbs < 2 ^ 53) :
    finiteBits (intToFloatBits i) = true := by
  have ht := floatTrunc_intToFloatBits h
  cases hf : finiteBits (intToFloatBits i) with
  | true => rfl
  | false =>
    exfalso
    simp only [finiteBits, bne_eq_false_iff_eq] at hf
    have : floatTrunc (intToFloatBits i) = -(2 ^ 63 : Int) := by
      unfold floatTrunc
      simp only [hf]
      rfl
    rw [ht] at this
    omega

/-- a path of member names and indices below 2^53 in magnitude equals itself -/
theorem pathEq_refl_of (L : FloatLaws) {p : Path}
    (hp : ∀ e ∈ p, (∃ k, e = .key k) ∨ ∃ i, e = .idx i ∧ i.natAbs < 2 ^ 53) : pathEq p p = true := by
  unfold pathEq pathToJson
  rw [equals_arr_list (o := []) rfl _ _ (by rfl) (by rfl)]
  induction p with
  | nil => simp [equalsList]
  | cons e p ih =>
    simp only [List.map_cons, equalsList, Bool.and_eq_true]
    refine ⟨?_, ih fun e he => hp e (List.mem_cons_of_mem _ he)⟩
    rcases hp e List.mem_cons_self with ⟨k, rfl⟩ | ⟨i, rfl, hi⟩
    · simp [equals]
    · simp only [equals]
      exact L.refl _ _ (finiteBits_intToFloatBits hi) (by decide)

theorem pathEq_self (L : FloatLaws) {p : Path} (hp : pathOK p = true) : pathEq p p = true :=
  pathEq_refl_of L fun e he => by
    have := List.all_eq_true.1 hp e he
    cases e with
    | key k => exact .inl ⟨k, rfl⟩
    | idx i =>
      simp only [elemOK, Bool.and_eq_true, decide_eq_true_eq] at this
      exact .inr ⟨i, rfl, by omega⟩
    | _ => cases this

/-! ## pointer texts: what the reader accepts, what jd writes, what RFC 6901 parses -/

end Jd.PB

namespace Jd.NMP
open Jd Jd.Spec Jd.PB

/-! ### a pointer writer that does not refuse member names

`writePointer` refuses a member name that `strconv.Atoi` accepts (and the name `-`): such a name cannot
be told from an index by a reader that makes an index of every such token (D30). `readPointer` reads
the tokens `01`, `+1`, `-1`, `-0`, … as member names, so the reader produces paths `writePointer` refuses. `wpL` is
`writePointerPath` without that refusal: the text of the path, token by token. -/

def wtokL : PathElem → Option String
  | .key k => some (ptrEscape k)
  | .idx i => wtok (.idx i)
  | _ => none

def wpL : Path → Outcome String
  | [] => .ok ""
  | e :: p =>
    match wtokL e with
    | some t => (match wpL p with | .ok rest => .ok ("/" ++ t ++ rest) | e' => e')
    | none => .err

theorem wpL_eq_wpOf : ∀ p : Path, wpL p = wpOf wtokL p
  | [] => rfl
  | e :: p => by rw [wpL, wpL_eq_wpOf p]; rfl

theorem wtokL_of_wtok {e : PathElem} {t : String} (h : wtok e = some t) : wtokL e = some t := by
  cases e with
  | key k =>
    simp only [wtok] at h
    split at h
    · cases h
    · split at h
      · cases h
      · exact h
  | idx i => exact h
  | _ => cases h

/-- what `writePointerPath` writes, `wpL` writes -/
theorem wpL_of_write {p : Path} {s : String} (h : writePointerPath p = .ok s) : wpL p = .ok s := by
  rw [wpL_eq_wpOf]; rw [writePointerPath_eq_wpOf] at h
  exact wpOf_mono (fun _ _ => wtokL_of_wtok) h

theorem wtokL_some {e : PathElem} {t : String} (h : wtokL e = some t)
    (hr : ∀ i, e = .idx i → IdxRT i) : t.toList = escChars (elemTok e).toList := by
  cases e with
  | key k =>
    cases Option.some.inj h
    exact ptrEscape_toList k
  | idx i => exact (wtok_some (e := .idx i) h hr).2
  | _ => cases h

theorem wpL_ok {p : Path} {s : String} (h : wpL p = .ok s) (hr : idxRange p) :
    s.toList = (ptoks p).flatMap (fun t => '/' :: escChars t.toList) := by
  rw [wpL_eq_wpOf] at h
  exact wpOf_text (fun _ _ => wtokL_some) h hr

/-- the member names of the path are names `writePointer` does not refuse -/
def keysOK (q : Path) : Prop := ∀ k, PathElem.key k ∈ q → atoi? k = none ∧ k ≠ "-"

theorem wpL_eq_write {q : Path} (h : keysOK q) : wpL q = writePointerPath q := by
  rw [wpL_eq_wpOf, writePointerPath_eq_wpOf]
  refine wpOf_congr fun e he => ?_
  cases e with
  | key k =>
    obtain ⟨h1, h2⟩ := h k he
    have h2' : (k == "-") = false := by simpa using h2
    simp [wtokL, wtok, h1, h2']
  | _ => rfl

theorem keysOK_setLastIdx {p : Path} (h : keysOK p) (j : Int) : keysOK (setLastIdx p j) := by
  intro k hk
  rcases mem_setLastIdx hk with hk | hk
  · exact h k hk
  · cases hk

theorem ptrOKW_wpL {p : Path} (hr : idxRange p) : PtrOKW wpL p := by
  intro s hs
  exact parsePointer_of_toList (wpL_ok hs hr)

/-! ### the pointer layer with the append index -/


/-- a path element of the grammar: as `PB.elemOK`, plus the append index −1 -/
def elemOK' : PathElem → Bool
  | .key k => (atoi? k).isNone && k != "-"
  | .idx i => decide (-1 ≤ i) && decide (i < 2 ^ 53)
  | _ => false

def pathOK' (p : Path) : Bool := p.all elemOK'

theorem elemOK'_of_elemOK {e : PathElem} (h : elemOK e = true) : elemOK' e = true := by
  cases e with
  | key k => exact h
  | idx i =>
    simp only [elemOK, elemOK', Bool.and_eq_true, decide_eq_true_eq] at h ⊢
    omega
  | _ => cases h

theorem pathOK'_of_pathOK {p : Path} (h : pathOK p = true) : pathOK' p = true :=
  List.all_eq_true.2 fun e he => elemOK'_of_elemOK (List.all_eq_true.1 h e he)

theorem pathOK'_setLastIdx {p : Path} {j : Int} (hp : pathOK' p = true) (h0 : -1 ≤ j)
    (h1 : j < 2 ^ 53) : pathOK' (setLastIdx p j) = true :=
  List.all_eq_true.2 fun e he => by
    rcases mem_setLastIdx he with he | rfl
    · exact List.all_eq_true.1 hp e he
    · simp only [elemOK', Bool.and_eq_true, decide_eq_true_eq]; exact ⟨h0, h1⟩

/-- a path element the reader can produce within the range of the model: ANY member name,
    or an index in [−1, 2^53) -/
def elemOKr : PathElem → Bool
  | .key _ => true
  | .idx i => decide (-1 ≤ i) && decide (i < 2 ^ 53)
  | _ => false

def pathOKr (p : Path) : Bool := p.all elemOKr

theorem elemOKr_of_elemOK' {e : PathElem} (h : elemOK' e = true) : elemOKr e = true := by
  cases e with
  | key k => rfl
  | idx i => exact h
  | _ => cases h

theorem pathOKr_of_pathOK' {p : Path} (h : pathOK' p = true) : pathOKr p = true :=
  List.all_eq_true.2 fun e he => elemOKr_of_elemOK' (List.all_eq_true.1 h e he)

theorem pathOKr_bounds {p : Path} (h : pathOKr p = true) :
    ∀ i, PathElem.idx i ∈ p → -1 ≤ i ∧ i < 2 ^ 53 := by
  intro i hi
  simpa [elemOKr] using List.all_eq_true.1 h _ hi

theorem natAbs_of_pathOKr {p : Path} (h : pathOKr p = true) :
    ∀ i, PathElem.idx i ∈ p → i.natAbs < 2 ^ 53 := by
  intro i hi
  have := pathOKr_bounds h i hi
  omega

theorem idxRange_of_pathOKr {p : Path} (h : pathOKr p = true) : idxRange p :=
  idxRange_of_bounds (pathOKr_bounds h)

theorem pathOKr_append {p q : Path} : pathOKr (p ++ q) = (pathOKr p && pathOKr q) := by
  simp [pathOKr, List.all_append]

theorem idxRange_of_pathOK' {p : Path} (h : pathOK' p = true) : idxRange p :=
  idxRange_of_pathOKr (pathOKr_of_pathOK' h)

theorem wpL_total {p : Path} (h : pathOKr p = true) : ∃ s, wpL p = .ok s := by
  simp only [wpL_eq_wpOf]
  refine wpOf_ok_iff.2 fun e he => ?_
  have := List.all_eq_true.1 h e he
  cases e <;> first | rfl | cases this

theorem keysOK_of_pathOK' {p : Path} (h : pathOK' p = true) : keysOK p := by
  intro k hk
  have := List.all_eq_true.1 h _ hk
  simpa [elemOK'] using this

/-- `writePointerPath` accepts every path of keys and indices in [−1, 2^53) -/
theorem writePointerPath_total : ∀ {p : Path}, pathOK' p = true → ∃ s, writePointerPath p = .ok s := by
  intro p h
  obtain ⟨s, hs⟩ := wpL_total (pathOKr_of_pathOK' h)
  exact ⟨s, by rw [← wpL_eq_write (keysOK_of_pathOK' h)]; exact hs⟩

/-! ### RFC 6901 parsing and the library's reader on the same tokens -/

/-- the reference tokens of the text after a leading slash -/
def slashToks : List Char → List (List Char)
  | [] => [[]]
  | c :: r =>
    if c = '/' then [] :: slashToks r
    else match slashToks r with
      | t :: ts => (c :: t) :: ts
      | [] => [[c]]

theorem slashToks_spec : ∀ l : List Char,
    (slashToks l).flatMap (fun t => '/' :: t) = '/' :: l ∧
    ∀ t ∈ slashToks l, ∀ x ∈ t, (x == '/') = false
  | [] => by simp [slashToks]
  | c :: r => by
    obtain ⟨h1, h2⟩ := slashToks_spec r
    unfold slashToks
    by_cases hc : c = '/'
    · subst hc
      simp only [if_true, List.flatMap_cons, h1, List.mem_cons]
      refine ⟨rfl, ?_⟩
      rintro t (rfl | ht)
      · simp
      · exact h2 t ht
    · simp only [hc, if_false]
      cases hs : slashToks r with
      | nil => rw [hs] at h1; simp at h1
      | cons t ts =>
        rw [hs] at h1 h2
        simp only [List.flatMap_cons, List.cons_append, List.cons.injEq, true_and] at h1
        simp only [List.flatMap_cons, List.cons_append, h1, List.mem_cons]
        refine ⟨trivial, ?_⟩
        rintro t' (rfl | ht')
        · intro x hx
          rcases List.mem_cons.1 hx with rfl | hx
          · simpa using hc
          · exact h2 t (by simp) x hx
        · exact h2 t' (by simp [ht'])

/-- a text that starts with a slash is its raw reference tokens, each after a slash -/
theorem raw_of_startsWith {s : String} (h : s.startsWith "/" = true) :
    ∃ raw : List (List Char), s.toList = raw.flatMap (fun t => '/' :: t) ∧
      ∀ t ∈ raw, ∀ x ∈ t, (x == '/') = false := by
  rw [String.startsWith_string_iff] at h
  obtain ⟨rest, hrest⟩ := h
  obtain ⟨hj, hns⟩ := slashToks_spec rest
  exact ⟨slashToks rest, by rw [hj]; simpa using hrest.symm, hns⟩

/-- escaping what RFC 6901 decoding gives returns the token (a token has no raw slash) -/
theorem escChars_of_decode : ∀ (r u : List Char), decodeToken r = some u →
    (∀ x ∈ r, (x == '/') = false) → escChars u = r
  | [], u, h, _ => by
    simp only [decodeToken] at h
    injection h with h; subst h; rfl
  | c :: r, u, h, hs => by
    have hs' : ∀ x ∈ r, (x == '/') = false := fun x hx => hs x (List.mem_cons_of_mem _ hx)
    have hc : c ≠ '/' := by simpa using hs c List.mem_cons_self
    by_cases h1 : c = '~'
    · subst h1
      cases r with
      | nil => simp [decodeToken] at h
      | cons c2 r2 =>
        have hs2 : ∀ x ∈ r2, (x == '/') = false := fun x hx => hs' x (List.mem_cons_of_mem _ hx)
        by_cases h20 : c2 = '0'
        · subst h20
          simp only [decodeToken, Option.map_eq_some_iff] at h
          obtain ⟨u', hu', rfl⟩ := h
          simp [escChars, escChars_of_decode r2 u' hu' hs2]
        · by_cases h21 : c2 = '1'
          · subst h21
            simp only [decodeToken, Option.map_eq_some_iff] at h
            obtain ⟨u', hu', rfl⟩ := h
            simp [escChars, escChars_of_decode r2 u' hu' hs2]
          · rw [decodeToken] at h
            · cases h
            · intro r' hr'; injection hr' with hr' _; exact h20 hr'
            · intro r' hr'; injection hr' with hr' _; exact h21 hr'
    · rw [decodeToken] at h
      · simp only [Option.map_eq_some_iff] at h
        obtain ⟨u', hu', rfl⟩ := h
        simp [escChars, h1, hc, escChars_of_decode r u' hu' hs']
      · intro r' hr' _; exact h1 hr'
      · intro r' hr' _; exact h1 hr'
      · intro hr'; exact h1 hr'


theorem decodeToken_cons_ne {c : Char} (h : c ≠ '~') (r : List Char) :
    decodeToken (c :: r) = (decodeToken r).map (c :: ·) := by
  rw [decodeToken]
  · intro r' hr' _; exact h hr'
  · intro r' hr' _; exact h hr'
  · intro hr'; exact h hr'

/-- re-escaping the unescaped token gives the token back when it decodes (RFC 6901) -/
theorem escChars_unescape {r : List Char} (hd : ∃ u, decodeToken r = some u)
    (hs : ∀ x ∈ r, (x == '/') = false) : escChars (ptrUnescape (String.ofList r)).toList = r := by
  obtain ⟨u, hu⟩ := hd
  have he := escChars_of_decode r u hu hs
  rw [← he, ptrUnescape_esc, String.toList_ofList]

/-- one token, read: `newPathM.go` never fails on what `readPointer` hands it -/
theorem go_tokJson (u : String) (r : List Json) :
    newPathM.go (tokJson u :: r) =
      (match newPathM.go r with | .ok p => .ok (elemR u :: p) | e' => e') := by
  unfold tokJson elemR
  cases indexToken? u with
  | some i => exact go_num _ r
  | none =>
    simp only
    by_cases hd : (u == "-") = true
    · rw [if_pos hd, if_pos hd, go_num, floatTrunc_intToFloatBits (i := -1) (by decide)]
    · rw [if_neg hd, if_neg hd, go_str]

theorem go_elemR : ∀ toks : List String, newPathM.go (toks.map tokJson) = .ok (toks.map elemR)
  | [] => rfl
  | u :: toks => by rw [List.map_cons, go_tokJson, go_elemR toks]; rfl

/-- `checkPointerEscapes` on a token followed by the rest of the text = the token decodes (RFC 6901)
    and the rest passes -/
theorem escapesOK_append : ∀ (n : Nat) (r rest : List Char), r.length ≤ n →
    (rest = [] ∨ ∃ t, rest = '/' :: t) →
    escapesOK (r ++ rest) = ((decodeToken r).isSome && escapesOK rest)
  | _, [], rest, _, _ => by simp [decodeToken]
  | 0, _ :: _, _, hn, _ => by simp at hn
  | n + 1, c :: r, rest, hn, hrest => by
    have hn' : r.length ≤ n := by simpa using hn
    by_cases hc : c = '~'
    · subst hc
      cases r with
      | nil =>
        rcases hrest with rfl | ⟨t, rfl⟩
        · simp [escapesOK_tilde_nil, decodeToken]
        · simp [escapesOK_tilde, decodeToken]
      | cons x r2 =>
        have hn2 : r2.length ≤ n := by simp at hn'; omega
        have ih := escapesOK_append n r2 rest hn2 hrest
        simp only [List.cons_append]
        rw [escapesOK_tilde]
        by_cases h0 : x = '0'
        · subst h0
          rw [escapesOK_cons_ne (by decide), ih]
          simp [decodeToken]
        · by_cases h1 : x = '1'
          · subst h1
            rw [escapesOK_cons_ne (by decide), ih]
            simp [decodeToken]
          · have : decodeToken ('~' :: x :: r2) = none := by
              rw [decodeToken]
              · intro r' hr'; simp only [List.cons.injEq] at hr'; obtain ⟨hx, _⟩ := hr'; exact h0 hx
              · intro r' hr'; simp only [List.cons.injEq] at hr'; obtain ⟨hx, _⟩ := hr'; exact h1 hx
            simp [this, h0, h1]
    · simp only [List.cons_append]
      rw [escapesOK_cons_ne hc, escapesOK_append n r rest hn' hrest, decodeToken_cons_ne hc]
      cases decodeToken r <;> rfl

/-- the text of raw tokens passes `checkPointerEscapes` iff every token decodes -/
theorem escapesOK_raw : ∀ raw : List (List Char),
    escapesOK (raw.flatMap (fun t => '/' :: t)) = raw.all (fun r => (decodeToken r).isSome)
  | [] => rfl
  | t :: raw => by
    have hrest : (raw.flatMap (fun t => '/' :: t)) = [] ∨
        ∃ t', (raw.flatMap (fun t => '/' :: t)) = '/' :: t' := by
      cases raw with
      | nil => exact Or.inl rfl
      | cons a b => exact Or.inr ⟨_, rfl⟩
    simp only [List.flatMap_cons, List.cons_append, List.all_cons]
    rw [escapesOK_cons_ne (by decide), escapesOK_append t.length t _ (Nat.le_refl _) hrest,
      escapesOK_raw raw]

/-- RFC 6901 decoding of the raw tokens = the library's two-pass unescape, where every token decodes -/
theorem mapM_decode_raw : ∀ raw : List (List Char), (∀ t ∈ raw, ∀ x ∈ t, (x == '/') = false) →
    (raw.map String.ofList).mapM (fun t => (decodeToken t.toList).map String.ofList) =
      if raw.all (fun r => (decodeToken r).isSome) then some ((raw.map String.ofList).map ptrUnescape)
      else none
  | [], _ => rfl
  | r :: raw, hs => by
    have ih := mapM_decode_raw raw (fun t ht => hs t (List.mem_cons_of_mem _ ht))
    simp only [List.map_cons, List.mapM_cons, String.toList_ofList, List.all_cons, ih]
    cases hd : decodeToken r with
    | none => simp
    | some u =>
      have hu : ptrUnescape (String.ofList r) = String.ofList u := by
        have := escChars_unescape ⟨u, hd⟩ (hs r List.mem_cons_self)
        rw [← escChars_of_decode r u hd (hs r List.mem_cons_self), ptrUnescape_esc]
      by_cases hall : raw.all (fun r => (decodeToken r).isSome) = true
      · simp [hall, hu]
      · simp [hall]

/-- **RFC 6901 parsing in the library's terms**: the text passes `checkPointerEscapes` and the tokens are
    the two-pass unescape of the pieces between slashes. The only proof about `parsePointer` and
    `escapesOK` together. -/
theorem parsePointer_eq (s : String) :
    parsePointer s =
      (if s == "" then some []
       else if !(s.startsWith "/") then none
       else if !(escapesOK s.toList) then none
       else some (((s.splitOn "/").drop 1).map ptrUnescape)) := by
  unfold parsePointer
  by_cases h0 : (s == "") = true
  · rw [if_pos h0, if_pos h0]
  · rw [if_neg h0, if_neg h0]
    by_cases hsw : s.startsWith "/" = true
    · obtain ⟨raw, hraw, hns⟩ := raw_of_startsWith hsw
      simp only [hsw, Bool.not_true, Bool.false_eq_true, if_false]
      rw [splitOn_drop_of_raw hraw hns, mapM_decode_raw raw hns, hraw, escapesOK_raw]
      cases raw.all (fun r => (decodeToken r).isSome) <;> rfl
    · simp [hsw]

/-- **jd's pointer reader is RFC 6901 parsing, then the token codec** — for EVERY text -/
theorem readPointer_eq_parse (s : String) :
    readPointer s =
      match parsePointer s with
      | some toks => .ok (toks.map elemR)
      | none => .err := by
  rw [readPointer_eq, parsePointer_eq]
  split
  · rfl
  · split
    · rfl
    · split
      · rfl
      · exact go_elemR _

/-! ### read off the bridge -/

theorem readPointer_ok {s : String} {p : Path} (h : readPointer s = .ok p) :
    ∃ toks, parsePointer s = some toks ∧ p = toks.map elemR := by
  rw [readPointer_eq_parse] at h
  cases hp : parsePointer s with
  | none => rw [hp] at h; cases h
  | some toks => rw [hp] at h; exact ⟨toks, rfl, (Outcome.ok.inj h).symm⟩

theorem readPointer_of_parse {s : String} {toks : List String} (h : parsePointer s = some toks) :
    readPointer s = .ok (toks.map elemR) := by
  rw [readPointer_eq_parse, h]

theorem mapM_decode_inv (raw : List (List Char)) (toks : List String)
    (h : (raw.map String.ofList).mapM (fun t => (decodeToken t.toList).map String.ofList) = some toks)
    (hs : ∀ t ∈ raw, ∀ x ∈ t, (x == '/') = false) :
    toks.flatMap (fun t => '/' :: escChars t.toList) = raw.flatMap (fun t => '/' :: t) := by
  rw [mapM_decode_raw raw hs] at h
  split at h
  · rename_i hall
    cases h
    rw [List.map_map, List.flatMap_map, List.flatMap_def, List.flatMap_def]
    refine congrArg List.flatten (List.map_congr_left fun r hr => ?_)
    simp only [Function.comp]
    rw [escChars_unescape (Option.isSome_iff_exists.1 (List.all_eq_true.1 hall r hr)) (hs r hr)]
  · cases h

/-- **RFC 6901 parsing is injective**: a pointer text is determined by its reference tokens — it is
    the escaped tokens, each after a slash -/
theorem toList_of_parsePointer {s : String} {toks : List String} (h : parsePointer s = some toks) :
    s.toList = toks.flatMap (fun t => '/' :: escChars t.toList) := by
  unfold parsePointer at h
  by_cases h0 : (s == "") = true
  · rw [if_pos h0] at h
    injection h with h; subst h
    have : s = "" := by simpa using h0
    subst this; rfl
  · rw [if_neg h0] at h
    by_cases hsw : s.startsWith "/" = true
    · simp only [hsw, Bool.not_true, Bool.false_eq_true, if_false] at h
      obtain ⟨raw, hraw, hns⟩ := raw_of_startsWith hsw
      rw [splitOn_drop_of_raw hraw hns] at h
      rw [mapM_decode_inv _ _ h hns, hraw]
    · simp only [hsw, Bool.not_false, if_true] at h
      cases h

theorem readPointer_strict {s : String} {p : Path} (h : readPointer s = .ok p) :
    strictPath p = true := by
  obtain ⟨toks, -, rfl⟩ := readPointer_ok h
  clear h
  induction toks with
  | nil => rfl
  | cons u toks ih =>
    rw [List.map_cons]
    rcases elemR_cases u with ⟨k, hk⟩ | ⟨i, hi⟩
    · rw [hk]; exact ih
    · rw [hi]; exact ih

/-- **pointer round trip**: `readPointer` gives back the path `writePointerPath` wrote, whatever its
    member names (those `writePointer` accepts), for indices in [−1, 2^53) -/
theorem _root_.Jd.PB.readPointer_write_of {p : Path} {s : String}
    (hi : ∀ i, PathElem.idx i ∈ p → -1 ≤ i ∧ i < 2 ^ 53)
    (hs : writePointerPath p = .ok s) : readPointer s = .ok p := by
  obtain ⟨he, h⟩ := writePointerPath_ok hs (idxRange_of_bounds hi)
  rw [readPointer_of_parse (parsePointer_of_toList h), ptoks, List.map_map]
  refine congrArg Outcome.ok ((List.map_congr_left fun e hm => ?_).trans (List.map_id p))
  obtain ⟨h1, h2⟩ := elemR_elemTok (he e hm) (fun i hei => hi i (hei ▸ hm))
  simp only [Function.comp, h1, id]

theorem _root_.Jd.PB.readPointer_write {p : Path} {s : String} (hp : pathOK p = true)
    (hs : writePointerPath p = .ok s) : readPointer s = .ok p :=
  readPointer_write_of (fun i hm => by have := pathOK_bounds hp i hm; omega) hs

/-- pointer round trip, paths with the append index included -/
theorem readPointer_write' {p : Path} {s : String} (hp : pathOK' p = true)
    (hs : writePointerPath p = .ok s) : readPointer s = .ok p :=
  readPointer_write_of (pathOKr_bounds (pathOKr_of_pathOK' hp)) hs

theorem pathEq_refl (L : FloatLaws) {p : Path} (hp : pathOKr p = true) : pathEq p p = true :=
  pathEq_refl_of L fun e he => by
    have := List.all_eq_true.1 hp e he
    cases e with
    | key k => exact .inl ⟨k, rfl⟩
    | idx i => exact .inr ⟨i, rfl, natAbs_of_pathOKr hp i he⟩
    | _ => cases this

/-! ### the reader's path comparison is equality on paths of member names and indices below 2^53 -/

theorem intToFloatBits_inj {i j : Int} (hi : i.natAbs < 2 ^ 53) (hj : j.natAbs < 2 ^ 53)
    (h : intToFloatBits i = intToFloatBits j) : i = j := by
  have := congrArg floatTrunc h
  rwa [floatTrunc_intToFloatBits hi, floatTrunc_intToFloatBits hj] at this

theorem intToFloatBits_ne_negZero {i : Int} (hi : i.natAbs < 2 ^ 53) :
    intToFloatBits i ≠ negZeroBits := by
  intro h
  have h1 := congrArg floatTrunc h
  rw [floatTrunc_intToFloatBits hi] at h1
  have h0 : floatTrunc negZeroBits = 0 := by decide
  rw [h0] at h1
  subst h1
  revert h
  decide

/-- the element of `Path.JsonNode()` for one path element -/
def pj (e : PathElem) : Json :=
  match e with
  | .key k => .str k
  | .idx i => .num (intToFloatBits i)
  | .set => .obj []
  | .mset => .arr .raw []
  | .setKeys o => .obj o
  | .msetKeys o => .arr .raw [.obj o]

theorem pathToJson_eq (p : Path) : pathToJson p = .arr .raw (p.map pj) := by
  unfold pathToJson
  congr 1

theorem elem_eq_of_equals (F : FloatEq0) {e e' : PathElem} (he : elemOKr e = true)
    (he' : elemOKr e' = true) (h : equals [] (pj e) (pj e') = true) : e = e' := by
  cases e with
  | key k =>
    cases e' with
    | key k' => simp only [pj, equals, beq_iff_eq] at h; rw [h]
    | idx j => simp [pj, equals] at h
    | _ => cases he'
  | idx i =>
    cases e' with
    | key k' => simp [pj, equals] at h
    | idx j =>
      simp only [elemOKr, Bool.and_eq_true, decide_eq_true_eq] at he he'
      have hi : i.natAbs < 2 ^ 53 := by omega
      have hj : j.natAbs < 2 ^ 53 := by omega
      simp only [pj, equals, precOf] at h
      have := F.eq_of_within0 _ _ (finiteBits_intToFloatBits hi) (finiteBits_intToFloatBits hj)
        (intToFloatBits_ne_negZero hi) (intToFloatBits_ne_negZero hj) h
      rw [intToFloatBits_inj hi hj this]
    | _ => cases he'
  | _ => cases he

theorem pathEq_eq_r (F : FloatEq0) : ∀ {p q : Path}, pathOKr p = true → pathOKr q = true →
    pathEq p q = true → p = q := by
  intro p q hp hq h
  unfold pathEq at h
  rw [pathToJson_eq, pathToJson_eq, equals_arr_list (o := []) rfl _ _ (by rfl) (by rfl)] at h
  induction p generalizing q with
  | nil =>
    cases q with
    | nil => rfl
    | cons e' q => simp [equalsList] at h
  | cons e p ih =>
    cases q with
    | nil => simp [equalsList] at h
    | cons e' q =>
      simp only [pathOKr, List.all_cons, Bool.and_eq_true] at hp hq
      simp only [List.map_cons, equalsList, Bool.and_eq_true] at h
      rw [elem_eq_of_equals F hp.1 hq.1 h.1, ih hp.2 hq.2 h.2]

/-- the same on paths `writePointer` can express -/
theorem pathEq_eq (F : FloatEq0) {p q : Path} (hp : pathOK' p = true) (hq : pathOK' q = true)
    (h : pathEq p q = true) : p = q :=
  pathEq_eq_r F (pathOKr_of_pathOK' hp) (pathOKr_of_pathOK' hq) h

theorem pathOK'_append {p q : Path} : pathOK' (p ++ q) = (pathOK' p && pathOK' q) := by
  simp [pathOK', List.all_append]

/-! ### canonical pointers -/

/-- **canonical pointer text**: `readPointer` accepts it, the path consists of object keys and
    array indices in [−1, 2^53) (−1 = the token `-`), and `writePointerPath` writes the path back as
    the SAME text. Excludes what jd reads but does not write: member names `strconv.Atoi` accepts
    (`01`, `-1`, `+0`: `writePointer` refuses them) and indices ≥ 2^53
    (`fixed_pointers_not_canonical`). -/
def canonPtr (s : String) : Bool :=
  match readPointer s with
  | .ok p => pathOK' p && (match writePointerPath p with | .ok s' => s' == s | _ => false)
  | _ => false

theorem ok_of_match_beq {x : Outcome String} {s : String}
    (h : (match x with | .ok s' => s' == s | _ => false) = true) : x = .ok s := by
  cases x with
  | ok s' => simp only [beq_iff_eq] at h; rw [h]
  | err => cases h
  | panic => cases h

theorem canonPtr_ok {s : String} {p : Path} (h : canonPtr s = true) (hr : readPointer s = .ok p) :
    pathOK' p = true ∧ writePointerPath p = .ok s := by
  unfold canonPtr at h
  rw [hr] at h
  simp only [Bool.and_eq_true] at h
  exact ⟨h.1, ok_of_match_beq h.2⟩

/-- what jd writes for a path of keys and indices in [−1, 2^53) is canonical -/
theorem canonPtr_of_write {p : Path} {s : String} (hp : pathOK' p = true)
    (hw : writePointerPath p = .ok s) : canonPtr s = true := by
  simp [canonPtr, readPointer_write' hp hw, hp, hw]

/-- **the pointer hypothesis of the main theorem**: IF `readPointer` accepts the
    text, THEN the path read consists of member names (any) and indices in [−1, 2^53), and the text is
    the path written token by token (`wpL`: escaped member names, decimal indices, `-`). A text the
    reader rejects satisfies it: no accepted patch contains one. It follows from `canonPtr`
    (`ptrOKr_of_canonPtr`) and — the point — from a condition on the index tokens alone
    (`ptrOKr_of_idxTokens`, section 9b): the reader is injective. -/
def ptrOKr (s : String) : Bool :=
  match readPointer s with
  | .ok p => pathOKr p && (match wpL p with | .ok s' => s' == s | _ => false)
  | _ => true

theorem ptrOKr_ok {s : String} {p : Path} (h : ptrOKr s = true) (hr : readPointer s = .ok p) :
    pathOKr p = true ∧ wpL p = .ok s := by
  unfold ptrOKr at h
  rw [hr] at h
  simp only [Bool.and_eq_true] at h
  exact ⟨h.1, ok_of_match_beq h.2⟩

theorem ptrOKr_of_canonPtr {s : String} (h : canonPtr s = true) : ptrOKr s = true := by
  unfold ptrOKr
  cases hr : readPointer s with
  | ok p =>
    obtain ⟨h1, h2⟩ := canonPtr_ok h hr
    simp [pathOKr_of_pathOK' h1, wpL_of_write h2]
  | err => rfl
  | panic => rfl

theorem ptrOKr_of_write {p : Path} {s : String} (hp : pathOK' p = true)
    (hw : writePointerPath p = .ok s) : ptrOKr s = true :=
  ptrOKr_of_canonPtr (canonPtr_of_write hp hw)

/-! ### canonical pointers in terms of RFC 6901 -/

/-- a reference token in canonical spelling: if `strconv.Atoi` accepts it, it is the decimal text
    of an index in [0, 2^53) (no sign, no leading zero: an RFC 6901 array index) -/
def canonTok (u : String) : Bool :=
  match atoi? u with
  | some i => decide (0 ≤ i) && decide (i < 2 ^ 53) && (toString i == u)
  | none => true

theorem elemR_of_canonTok {u : String} (h : canonTok u = true) :
    tokBound u ∧ elemOK' (elemR u) = true := by
  unfold canonTok at h
  cases ha : atoi? u with
  | some i =>
    rw [ha] at h
    simp only [Bool.and_eq_true, decide_eq_true_eq, beq_iff_eq] at h
    obtain ⟨⟨h0, h1⟩, h2⟩ := h
    have hi : indexToken? u = some i := by simp [indexToken?, ha, h0, h2]
    rw [elemR_idx hi (by omega)]
    simp only [tokBound, hi, elemOK', Bool.and_eq_true, decide_eq_true_eq]
    exact ⟨h1, by omega, h1⟩
  | none =>
    have hi := indexToken?_of_atoi_none ha
    refine ⟨by simp only [tokBound, hi], ?_⟩
    by_cases hd : u = "-"
    · subst hd; rw [elemR_dash]; decide
    · rw [elemR_key hi (by simpa using hd)]; simp [hd, elemOK', ha]

theorem pathOK'_map_elemR {toks : List String} (h : toks.all canonTok = true) :
    pathOK' (toks.map elemR) = true ∧ ptoks (toks.map elemR) = toks := by
  have hc := fun u hu => elemR_of_canonTok (List.all_eq_true.1 h u hu)
  refine ⟨List.all_eq_true.2 fun e he => ?_, ptoks_map_elemR fun u hu => (hc u hu).1⟩
  obtain ⟨u, hu, rfl⟩ := List.mem_map.1 he
  exact (hc u hu).2

/-- **canonical pointer text, in terms of RFC 6901**: the independent RFC 6901 parser accepts the
    text (in particular every `~` is followed by `0` or `1`), and every reference token that
    `strconv.Atoi` accepts is the decimal text of an index in [0, 2^53) -/
def canonicalPointer (s : String) : Bool :=
  match parsePointer s with
  | some toks => toks.all canonTok
  | none => false

/-- the RFC 6901 form of the hypothesis implies the round-trip form the proofs use -/
theorem canonPtr_of_canonicalPointer {s : String} (h : canonicalPointer s = true) :
    canonPtr s = true := by
  unfold canonicalPointer at h
  cases hp : parsePointer s with
  | none => rw [hp] at h; cases h
  | some toks =>
    rw [hp] at h
    simp only at h
    obtain ⟨hok, hpt⟩ := pathOK'_map_elemR h
    obtain ⟨s', hw⟩ := writePointerPath_total hok
    have h1 := (writePointerPath_ok hw (idxRange_of_pathOK' hok)).2
    rw [hpt, ← toList_of_parsePointer hp] at h1
    have : s' = s := String.toList_inj.1 h1
    subst this
    exact canonPtr_of_write hok hw


/-! ### the reader is injective: NO hypothesis on the spelling of reference tokens

A pointer text `readPointer` accepts is determined by the path read: every `~`
is a valid escape (`checkPointerEscapes`), so the library's two-pass unescape is RFC 6901 decoding
and re-escaping gives the raw token back (`escChars_unescape`); an index token is the canonical
decimal text of its index (`strconv.Itoa(number) == t`); every other token is a member name, written
back by escaping. Hence `ptrOKr` — the pointer hypothesis of `readPatchOps_never_more_permissive_r` —
holds of EVERY text whose index tokens are below 2^53 (`ptrOKr_of_idxTokens`; the bound is the
range in which the model's `int → float64` conversion of an index is exact, as `HunkRange`), and
the main theorem needs no more (`readPatchOps_never_more_permissive_all_pointers`). -/


/-- every reference token of the text that is an RFC 6901 array index is below 2^53 -/
def idxTokensOK (s : String) : Bool :=
  (((s.splitOn "/").drop 1).map ptrUnescape).all (fun u =>
    match indexToken? u with
    | some i => decide (i < 2 ^ 53)
    | none => true)

theorem pathOKr_map_elemR {toks : List String} (h : ∀ u ∈ toks, tokBound u) :
    pathOKr (toks.map elemR) = true := by
  refine List.all_eq_true.2 fun e he => ?_
  obtain ⟨u, hu, rfl⟩ := List.mem_map.1 he
  rcases (elemR_props (h u hu)).1 with ⟨k, hk⟩ | ⟨i, hi, h0, h1⟩
  · rw [hk]; rfl
  · rw [hi]
    simp only [elemOKr, Bool.and_eq_true, decide_eq_true_eq]
    exact ⟨h0, h1⟩

theorem parse_idxTokens {s : String} {toks : List String} (hp : parsePointer s = some toks)
    (h : idxTokensOK s = true) : ∀ u ∈ toks, tokBound u := by
  rw [parsePointer_eq] at hp
  have : ∀ u ∈ ((s.splitOn "/").drop 1).map ptrUnescape, tokBound u := fun u hu => by
    have := List.all_eq_true.1 h u hu
    unfold tokBound
    cases hi : indexToken? u with
    | none => trivial
    | some i => rw [hi] at this; simpa using this
  split at hp
  · cases hp; intro u hu; cases hu
  · split at hp
    · cases hp
    · split at hp
      · cases hp
      · cases hp; exact this

/-- **the reader is injective**: whatever `readPointer` accepts, with index tokens
    below 2^53, is read to member names and indices whose token-by-token text is the input -/
theorem ptrOKr_of_idxTokens {s : String} (h : idxTokensOK s = true) : ptrOKr s = true := by
  unfold ptrOKr
  cases hr : readPointer s with
  | err => rfl
  | panic => rfl
  | ok p =>
    obtain ⟨toks, hp, rfl⟩ := readPointer_ok hr
    have hb := parse_idxTokens hp h
    have g2 := pathOKr_map_elemR hb
    obtain ⟨s', hs'⟩ := wpL_total g2
    have htl := wpL_ok hs' (idxRange_of_pathOKr g2)
    rw [ptoks_map_elemR hb, ← toList_of_parsePointer hp] at htl
    obtain rfl : s' = s := String.toList_inj.1 htl
    simp only [g2, hs', Bool.true_and, beq_self_eq_true]

#print axioms readPointer_write
#print axioms readPointer_eq_parse
#print axioms toList_of_parsePointer
#print axioms canonPtr_of_canonicalPointer
#print axioms ptrOKr_of_idxTokens

end Jd.NMP
