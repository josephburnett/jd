/-
  JdProofs.RobustReaders (namespace `Jd.Robust`) — property C13: reading arbitrary text with any of
  the readers, rendering any diff, and applying any successfully read diff never panics.  Kept apart
  from JdProofs.Robust so that these theorems do not rest on the native round-trip proofs.
-/
import JdModel
import JdSpec
import JdProofs.EqualsList
import JdProofs.NoPanic
import JdProofs.StrictPatch
import JdProofs.SetPatch
import JdProofs.Common
import JdProofs.PatchRender

set_option linter.unusedVariables false

namespace Jd.Robust
open Jd Jd.Spec

theorem readJsonM_ne_panic (nc : NumCodec) (s : String) : readJsonM nc s ≠ .panic := by
  unfold readJsonM
  split
  · simp
  · split <;> simp

theorem newPathM_go_ne_panic : ∀ xs : List Json, newPathM.go xs ≠ .panic
  | [] => by simp [newPathM.go]
  | e :: r => by
    have ih := newPathM_go_ne_panic r
    simp only [newPathM.go]
    split
    · split
      · simp
      · intro h3; exact ih h3
    · simp
    · rename_i hp
      split at hp <;> first | (split at hp <;> simp at hp) | simp at hp

theorem newPathM_ne_panic (n : Json) : newPathM n ≠ .panic := by
  unfold newPathM
  split
  · exact newPathM_go_ne_panic _
  · simp


/-! ### the native reader -/

theorem readMetadataM_ne_panic (n : Json) : readMetadataM n ≠ .panic := by
  unfold readMetadataM
  split
  · split <;> simp
  · simp

/-- Every leaf of `readLine` is `.ok _` or `.err`, except that the `^` and `@` branches hand on
    `saved`, which is one of the two as well.  The `if` chain is walked with `Outcome.ite_ne_panic`;
    `split` is only used on the small leaves. -/
theorem readLine_ne_panic (nc : NumCodec) (acc : RAcc) (line : String) :
    readLine nc acc line ≠ .panic := by
  unfold readLine
  split
  · simp
  · extract_lets header payload saved
    have hs : saved ≠ .panic :=
      Outcome.ite_ne_panic (Outcome.ite_ne_panic (by simp) (by simp)) (by simp)
    clear_value saved header
    generalize readJsonM nc payload = j
    refine Outcome.ite_ne_panic (by simp) <| Outcome.ite_ne_panic ?_ <| Outcome.ite_ne_panic ?_ <|
      Outcome.ite_ne_panic (Outcome.ite_ne_panic (by simp) (by simp)) <|
      Outcome.ite_ne_panic (Outcome.ite_ne_panic (by simp) (by simp)) <|
      Outcome.ite_ne_panic
        (Outcome.ite_ne_panic ?_ (Outcome.ite_ne_panic ?_ (by simp))) <|
      Outcome.ite_ne_panic ?_ (Outcome.ite_ne_panic ?_ (by simp))
    · split
      · split
        · split <;> simp
        · simp
      · exact hs
    · split
      · split
        · split <;> simp
        · simp
      · exact hs
    all_goals split <;> simp

theorem readLines_ne_panic (nc : NumCodec) : ∀ (ls : List String) (acc : RAcc),
    readLines nc acc ls ≠ .panic
  | [], acc => by simp [readLines]
  | l :: r, acc => by
    simp only [readLines]
    have h := readLine_ne_panic nc acc l
    split
    · exact readLines_ne_panic nc r _
    · rename_i e hne
      cases hl : readLine nc acc l with
      | ok a => exact absurd hl (hne a)
      | err => simp
      | panic => exact absurd hl h

theorem readDiffM_ne_panic (nc : NumCodec) (s : String) : readDiffM nc s ≠ .panic := by
  unfold readDiffM
  have h := readLines_ne_panic nc (s.splitOn "\n") {}
  split
  · repeat' split
    all_goals simp
  · simp
  · rename_i hp; exact absurd hp h


/-! ### JSON Pointer and the JSON Patch reader -/

theorem readPointer_ne_panic (s : String) : readPointer s ≠ .panic := by
  unfold readPointer
  split
  · exact newPathM_ne_panic _
  · split
    · simp
    · split
      · simp
      · exact newPathM_ne_panic _

theorem strField_ne_panic (kvs : List (String × Json)) (k : String) :
    patchOpsOfJson.strField kvs k ≠ .panic := by
  unfold patchOpsOfJson.strField
  split <;> simp

theorem valueField_ne_panic (kvs : List (String × Json)) (op : String) :
    patchOpsOfJson.valueField kvs op ≠ .panic := by
  unfold patchOpsOfJson.valueField
  split
  · simp
  · split <;> simp

theorem patchOpsOfJson_go_ne_panic : ∀ xs : List Json, patchOpsOfJson.go xs ≠ .panic
  | [] => by simp [patchOpsOfJson.go]
  | x :: r => by
    have ih := patchOpsOfJson_go_ne_panic r
    unfold patchOpsOfJson.go
    split
    · simp
    · rename_i kvs r' heq
      cases heq
      refine Outcome.bind_ne_panic _ _ (strField_ne_panic _ _) ?_
      intro op _
      refine Outcome.bind_ne_panic _ _ (strField_ne_panic _ _) ?_
      intro path _
      refine Outcome.bind_ne_panic _ _ (valueField_ne_panic _ _) ?_
      intro value _
      refine Outcome.bind_ne_panic _ _ ih ?_
      intro rest _
      simp [pure]
    · simp

theorem patchOpsOfJson_ne_panic (doc : Json) : patchOpsOfJson doc ≠ .panic := by
  unfold patchOpsOfJson
  split
  · exact patchOpsOfJson_go_ne_panic _
  · simp

theorem lastIdxOfPointer_ne_panic (s : String) : lastIdxOfPointer s ≠ .panic := by
  unfold lastIdxOfPointer
  have h := readPointer_ne_panic s
  split
  · simp
  · simp
  · rename_i hp; exact absurd hp h

/-- The results of the three pointer readers are named and taken apart by `cases`; what is left of
    the body then reduces by itself, and its `if` chains end in `.ok _` or `.err`. -/
theorem setPatchCtx_ne_panic : ∀ patch : List PatchOp, setPatchCtx patch ≠ .panic
  | [] => by simp [setPatchCtx]
  | [_] => by simp [setPatchCtx]
  | p0 :: p1 :: tail => by
    simp only [setPatchCtx]
    have h0 := lastIdxOfPointer_ne_panic p0.path
    have h1 := lastIdxOfPointer_ne_panic p1.path
    generalize lastIdxOfPointer p0.path = l0 at h0 ⊢
    generalize lastIdxOfPointer p1.path = l1 at h1 ⊢
    refine Outcome.ite_ne_panic (by simp) ?_
    rcases l0 with (_ | first) | _ | _
    · simp
    · rcases l1 with (_ | second) | _ | _
      · simp
      · refine Outcome.ite_ne_panic (by simp) <| Outcome.ite_ne_panic (by simp) <|
          Outcome.ite_ne_panic (by simp) ?_
        cases tail with
        | nil => simp
        | cons p2 _ =>
          have h2 := readPointer_ne_panic p2.path
          dsimp only
          generalize readPointer p2.path = r2 at h2 ⊢
          cases r2 with
          | ok path2 =>
            refine Outcome.ite_ne_panic (by simp) ?_
            cases lastIdx? path2 with
            | none => simp
            | some third =>
              exact Outcome.ite_ne_panic (by simp) <| Outcome.ite_ne_panic (by simp) <|
                Outcome.ite_ne_panic (by simp) (by simp)
          | err => simp
          | panic => exact absurd rfl h2
      · simp
      · exact absurd rfl h1
    · simp
    · exact absurd rfl h0

theorem readPatchHunk_ne_panic (patch : List PatchOp) : readPatchHunk patch ≠ .panic := by
  unfold readPatchHunk
  split
  · simp
  · extract_lets ctx
    have hc : ctx ≠ .panic := Outcome.ite_ne_panic (setPatchCtx_ne_panic _) (by simp)
    clear_value ctx
    rcases ctx with c | _ | _
    · dsimp only
      generalize c.rest = l
      cases l with
      | nil => simp
      | cons q rest =>
        have hq := readPointer_ne_panic q.path
        dsimp only
        generalize readPointer q.path = rp at hq ⊢
        refine Outcome.ite_ne_panic ?_ (Outcome.ite_ne_panic ?_ (by simp))
        · cases rp with
          | ok path =>
            cases rest with
            | nil => simp
            | cons r1 rest2 =>
              exact Outcome.ite_ne_panic (by simp) <| Outcome.ite_ne_panic (by simp) <|
                Outcome.ite_ne_panic (by simp) (by simp)
          | err => simp
          | panic => exact absurd rfl hq
        · cases rp with
          | ok path => exact Outcome.ite_ne_panic (by simp) (by simp)
          | err => simp
          | panic => exact absurd rfl hq
    · simp
    · exact absurd rfl hc
theorem readPatchLoop_ne_panic : ∀ (fuel : Nat) (patch : List PatchOp) (acc : Diff),
    readPatchLoop fuel patch acc ≠ .panic
  | 0, _, _ => by simp [readPatchLoop]
  | fuel + 1, patch, acc => by
    unfold readPatchLoop
    split
    · simp
    · split
      · simp
      · rename_i hp; exact absurd hp (readPatchHunk_ne_panic _)
      · exact readPatchLoop_ne_panic fuel _ _

theorem readPatchCtxLoop_ne_panic : ∀ (fuel : Nat) (patch : List PatchOp) (acc : Diff)
    (cs : List PatchCtx), readPatchCtxLoop fuel patch acc cs ≠ .panic
  | 0, _, _, _ => by simp [readPatchCtxLoop]
  | fuel + 1, patch, acc, cs => by
    unfold readPatchCtxLoop
    split
    · simp
    · split
      · simp
      · rename_i hp; exact absurd hp (readPatchHunk_ne_panic _)
      · split
        · exact readPatchCtxLoop_ne_panic fuel _ _ _
        · split
          · exact readPatchCtxLoop_ne_panic fuel _ _ _
          · exact readPatchCtxLoop_ne_panic fuel _ _ _

theorem ctxTestOK_ne_panic (h : Hunk) (t : PatchOp) (off : Int) : ctxTestOK h t off ≠ .panic := by
  unfold ctxTestOK
  split
  · simp
  · rename_i hp; exact absurd hp (readPointer_ne_panic _)
  · simp

theorem checkPatchCtx_ne_panic (h : Hunk) (c : PatchCtx) : checkPatchCtx h c ≠ .panic := by
  have one : ∀ (t : Option PatchOp) (off : Int),
      (match t with
       | none => (Outcome.ok () : Outcome Unit)
       | some t =>
         match ctxTestOK h t off with
         | .ok true => .ok ()
         | .ok false => .err
         | .err => .err
         | .panic => .panic) ≠ .panic := by
    intro t off
    cases t with
    | none => simp
    | some t =>
      have := ctxTestOK_ne_panic h t off
      cases hc : ctxTestOK h t off with
      | ok b => cases b <;> simp [hc]
      | err => simp [hc]
      | panic => exact absurd hc this
  unfold checkPatchCtx
  simp only
  split
  · exact one _ _
  · rename_i e hne
    intro he
    exact one c.before (-1) he

theorem checkPatchCtxs_ne_panic : ∀ (d : Diff) (cs : List PatchCtx), checkPatchCtxs d cs ≠ .panic
  | [], _ => by simp [checkPatchCtxs]
  | _ :: _, [] => by simp [checkPatchCtxs]
  | h :: d, c :: cs => by
    unfold checkPatchCtxs
    split
    · exact checkPatchCtxs_ne_panic d cs
    · rename_i e hne
      intro he
      exact checkPatchCtx_ne_panic h c he

theorem readPatchOps_ne_panic (ops : List PatchOp) : readPatchOps ops ≠ .panic := by
  unfold readPatchOps
  split
  · split
    · split
      · simp
      · simp
      · rename_i hp; exact absurd hp (checkPatchCtxs_ne_panic _ _)
    · simp
    · rename_i hp; exact absurd hp (readPatchCtxLoop_ne_panic _ _ _ _)
  · simp
  · rename_i hp; exact absurd hp (readPatchLoop_ne_panic _ _ _)

theorem readPatchDoc_ne_panic (doc : Json) : readPatchDoc doc ≠ .panic := by
  unfold readPatchDoc
  split
  · exact readPatchOps_ne_panic _
  · simp
  · rename_i hp; exact absurd hp (patchOpsOfJson_ne_panic _)

theorem readPatchM_ne_panic (nc : NumCodec) (s : String) : readPatchM nc s ≠ .panic := by
  unfold readPatchM
  split
  · exact readPatchDoc_ne_panic _
  · simp

/-! ### the merge-patch reader -/

theorem readMergeM_ne_panic (nc : NumCodec) (s : String) : readMergeM nc s ≠ .panic := by
  unfold readMergeM
  split
  · simp
  · simp
  · rename_i hp; exact absurd hp (readJsonM_ne_panic nc s)

/-! ### the renderers -/

theorem writePointerPath_ne_panic (p : Path) : writePointerPath p ≠ .panic := by
  rw [writePointerPath_eq_wpOf]
  rcases wpOf_err_or_ok (w := wtok) p with h | ⟨s, h⟩ <;> rw [h] <;> exact fun e => nomatch e

/-- the `test` operation for a context line, before or after -/
theorem ctxOps_ne_panic (h : Hunk) (ctx : List Json) (f : Int → Int) : ctxOps h ctx f ≠ .panic := by
  unfold ctxOps
  split
  · refine Outcome.ite_ne_panic (by simp) (Outcome.ite_ne_panic (by simp) ?_)
    split
    · simp
    · exact Outcome.bind_ne_panic _ _ (writePointerPath_ne_panic _) fun _ _ => by simp
  · simp

theorem renderPatchHunk_ne_panic (h : Hunk) : renderPatchHunk h ≠ .panic := by
  rw [renderPatchHunk_eq]
  unfold renderPatchHunk'
  refine Outcome.bind_ne_panic _ _ (writePointerPath_ne_panic _) fun path _ => ?_
  refine Outcome.ite_ne_panic (by simp) (Outcome.ite_ne_panic (by simp) ?_)
  refine Outcome.bind_ne_panic _ _ (ctxOps_ne_panic _ _ _) fun bo _ => ?_
  refine Outcome.ite_ne_panic (by simp) ?_
  exact Outcome.bind_ne_panic _ _ (ctxOps_ne_panic _ _ _) fun ao _ => by simp [pure]

theorem renderPatchOps_ne_panic : ∀ d : Diff, renderPatchOps d ≠ .panic
  | [] => by simp [renderPatchOps]
  | h :: d => by
    unfold renderPatchOps
    refine Outcome.bind_ne_panic _ _ (renderPatchHunk_ne_panic h) ?_
    intro a _
    refine Outcome.bind_ne_panic _ _ (renderPatchOps_ne_panic d) ?_
    intro b _
    simp [pure]

theorem renderPatchM_ne_panic (nc : NumCodec) (d : Diff) : renderPatchM nc d ≠ .panic := by
  unfold renderPatchM
  split
  · simp
  · split
    · simp
    · simp
    · rename_i hp; exact absurd hp (renderPatchOps_ne_panic d)

theorem renderMergeDoc_ne_panic (d : Diff) : renderMergeDoc d ≠ .panic := by
  unfold renderMergeDoc
  split
  · simp
  · split
    · simp
    · exact patchAll_ne_panic _ _ _

theorem renderMergeM_ne_panic (nc : NumCodec) (d : Diff) : renderMergeM nc d ≠ .panic := by
  unfold renderMergeM
  split
  · simp
  · simp
  · rename_i hp; exact absurd hp (renderMergeDoc_ne_panic d)

/-! ### read a document, read a diff, apply (the clause of C13 itself: JdProps/C13) -/

/-- read a document, read a diff, apply: no panic if neither reader panics -/
theorem read_read_patch_ne_panic {x : Outcome Json} {y : Outcome Diff} (hx : x ≠ .panic)
    (hy : y ≠ .panic) : (x >>= fun c => y >>= fun d => patchM c d) ≠ .panic :=
  Outcome.bind_ne_panic _ _ hx fun c _ => Outcome.bind_ne_panic _ _ hy fun d _ => patchM_ne_panic c d

end Jd.Robust
