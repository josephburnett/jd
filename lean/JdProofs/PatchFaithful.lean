/-
  JdProofs.PatchFaithful — every patch the reader accepts is a fixed point of read-then-write
  (`Faithful d ops`: re-rendering the diff read gives the operations back, up to the value member of
  `remove`, `OpSim`). This is what lets C10 compare jd with RFC 6902 on ANY accepted operation list.

  `loops_segs`: the two runs of the element loop keep, for every element, the segment of operations
  consumed for it (`SegP`; `seg_of_shape` off `shape_split`, `segP_merge_add` / `segP_merge_rem` for
  coalescing, where `pathEq_eq_r` and `ptrOKr` make the pointer texts equal); `ctxTestOK_true`: a
  context operation that passes the check IS the test jd writes for that line, so a segment is what
  jd writes for its element (`seg_rerender`), and `faithful_of_segs` concatenates. Results:
  `readPatchOps_faithful_r` (pointer hypothesis `ptrOKr`), `readPatchOps_faithful` (`canonPtr`),
  `readPatchOps_faithful_all_pointers` (`idxTokensOK`), and `readPatchOps_pathOKr`.
  `FloatEq0` is used only to turn the reader's comparison of paths into equality (`pathEq_eq_r`).
-/
import JdProofs.PatchParseBack

namespace Jd.NMP
open Jd Jd.Spec Jd.PB

/-- two operations that RFC 6902 cannot tell apart: same `op`, same `path`, same `value` except on a
    `remove` (whose value member RFC 6902 ignores) -/
def OpSim (a b : PatchOp) : Prop :=
  a.op = b.op ∧ a.path = b.path ∧ (a.op ≠ "remove" → a.value = b.value)

theorem OpSim.refl (a : PatchOp) : OpSim a a := ⟨rfl, rfl, fun _ => rfl⟩

theorem forall₂_opSim_refl : ∀ l : List PatchOp, List.Forall₂ OpSim l l
  | [] => .nil
  | a :: l => .cons (OpSim.refl a) (forall₂_opSim_refl l)

/-- **the faithful sub-grammar**: the operations are what jd itself writes (`rerender`) for the diff
    `d`, up to the ignored value member of `remove` operations. Decidable: `rerender` is a program
    and the comparison is structural. With `d` the diff jd READ from `ops` this says that the patch
    is a fixed point of read-then-write: every `test` the reader consumed as a context line is the
    test jd writes for that line (same array, index `i - 1` resp. `i + |Remove|`), and every JSON
    Pointer is in the canonical form jd writes. -/
def Faithful (d : Diff) (ops : List PatchOp) : Prop :=
  ∃ ops', rerender d = .ok ops' ∧ List.Forall₂ OpSim ops' ops

/-! ### the operations consumed for one diff element -/

/-- the added values in the order of their `add` operations -/
def addPart (h : Hunk) : List Json := if lastIdx? h.path == some (-1) then h.add else h.add.reverse

/-- the `test`/`remove` pairs and the `add`s of a diff element at the pointer text `sp` -/
def editOps (sp : String) (h : Hunk) : List PatchOp := remPairs sp h.remove ++ addRun sp (addPart h)

/-- a context line of the element and the operation remembered for it -/
def CtxSide (t : Option PatchOp) (l : List Json) : Prop :=
  match t with
  | none => l = [] ∨ l = [.void]
  | some t => l = [t.value] ∧ t.value.isVoid = false ∧ ptrOKr t.path = true

/-- **the operations `s` the reader consumed for the diff element `h` whose context operations are
    `c`**: up to `OpSim`, the remembered context operations followed by the `test`/`remove` pairs and
    the `add`s at the pointer text `sp` that jd writes for `h.path` -/
structure SegP (sp : String) (s : List PatchOp) (h : Hunk) (c : PatchCtx) : Prop where
  wr : wpL h.path = .ok sp
  pok : pathOKr h.path = true
  sim : List.Forall₂ OpSim (ctxList c ++ editOps sp h) s
  vals : ∀ v ∈ h.remove ++ h.add, v.isVoid = false
  before : CtxSide c.before h.before
  after : CtxSide c.after h.after
  nonEmpty : (h.remove.isEmpty && h.add.isEmpty) = false
  appendNoCtx : lastIdx? h.path = some (-1) → h.remove = [] → c.before = none ∧ c.after = none

def Seg (s : List PatchOp) (h : Hunk) (c : PatchCtx) : Prop := ∃ sp, SegP sp s h c

theorem forall₂_append {α β} {R : α → β → Prop} {a a' : List α} {b b' : List β}
    (h1 : List.Forall₂ R a b) (h2 : List.Forall₂ R a' b') : List.Forall₂ R (a ++ a') (b ++ b') := by
  induction h1 with
  | nil => exact h2
  | cons h _ ih => exact .cons h ih

theorem opSim_adp {q : PatchOp} (hq : q.op = "add") : OpSim (adp q.path q.value) q :=
  ⟨hq.symm, rfl, fun _ => rfl⟩

theorem opSim_tst {q : PatchOp} (hq : q.op = "test") : OpSim (tst q.path q.value) q :=
  ⟨hq.symm, rfl, fun _ => rfl⟩

theorem opSim_rmv {q r : PatchOp} (hr : r.op = "remove") (hp : r.path = q.path) :
    OpSim (rmv q.path q.value) r :=
  ⟨hr.symm, hp.symm, fun h => absurd rfl h⟩

theorem addPart_single {path : Path} {b a : List Json} {v : Json} {m : Bool} {r : List Json} :
    addPart { merge := m, path := path, before := b, after := a, remove := r, add := [v] } = [v] := by
  unfold addPart; split <;> rfl

/-- an element that adds one value -/
theorem segP_add {cx : PatchCtx} {q : PatchOp} {path : Path} {before after : List Json}
    (hq : q.op = "add") (hp : readPointer q.path = .ok path) (hcan : ptrOKr q.path = true)
    (hv : q.value.isVoid = false) (hb : CtxSide cx.before before) (ha : CtxSide cx.after after)
    (happ : lastIdx? path = some (-1) → cx.before = none ∧ cx.after = none) :
    SegP q.path (ctxList cx ++ [q])
      { path := path, before := before, after := after, add := [q.value] } cx := by
  obtain ⟨hok, hwr⟩ := ptrOKr_ok hcan hp
  refine ⟨hwr, hok, ?_, ?_, hb, ha, rfl, fun h _ => happ h⟩
  · refine forall₂_append (forall₂_opSim_refl _) ?_
    simp only [editOps, remPairs, List.flatMap_nil, List.nil_append, addPart_single, addRun,
      List.map_cons, List.map_nil]
    exact .cons (opSim_adp hq) .nil
  · intro v hm
    simp only [List.nil_append, List.mem_singleton] at hm
    subst hm; exact hv

/-- an element that removes one value -/
theorem segP_rem {cx : PatchCtx} {q r : PatchOp} {path : Path} {before after : List Json}
    (hq : q.op = "test") (hr : r.op = "remove") (hrp : r.path = q.path)
    (hp : readPointer q.path = .ok path) (hcan : ptrOKr q.path = true)
    (hv : q.value.isVoid = false) (hb : CtxSide cx.before before) (ha : CtxSide cx.after after) :
    SegP q.path (ctxList cx ++ [q, r])
      { path := path, before := before, after := after, remove := [q.value] } cx := by
  obtain ⟨hok, hwr⟩ := ptrOKr_ok hcan hp
  refine ⟨hwr, hok, ?_, ?_, hb, ha, rfl, fun _ h => by simp at h⟩
  · refine forall₂_append (forall₂_opSim_refl _) ?_
    have : addPart { path := path, before := before, after := after, remove := [q.value] } = [] := by
      unfold addPart; split <;> rfl
    simp only [editOps, remPairs, this, addRun, List.map_nil, List.append_nil, List.flatMap_cons,
      List.flatMap_nil]
    exact .cons (opSim_tst hq) (.cons (opSim_rmv hr hrp) .nil)
  · intro v hm
    simp only [List.append_nil, List.mem_singleton] at hm
    subst hm; exact hv

/-- an element without a real context line has no context operation -/
theorem ctxSide_none_of_noContext {t : Option PatchOp} {l : List Json} (hs : CtxSide t l)
    (h : l.any (fun n => !n.isVoid) = false) : t = none := by
  cases t with
  | none => rfl
  | some t =>
    obtain ⟨rfl, hv, _⟩ := hs
    simp [hv] at h

/-- `CtxSide` is `Side` plus the facts about the remembered operation -/
theorem ctxSide_of {t : Option PatchOp} {l : List Json} (h : Side t l)
    (hf : ∀ o ∈ t.toList, o.value.isVoid = false ∧ ptrOKr o.path = true) : CtxSide t l := by
  cases t with
  | none => exact h
  | some t => exact ⟨h, hf t (by simp)⟩

theorem seg_of_shape {g : List PatchOp} {e : Hunk} {c : PatchCtx} (hs : Shape g e c)
    (hg : ∀ o ∈ g, o.value.isVoid = false ∧ ptrOKr o.path = true) : Seg g e c := by
  obtain ⟨q, path, b, a, hp, hb, ha, h | ⟨r, h⟩⟩ := shape_split hs
  · obtain ⟨hop, rfl, hap, rfl⟩ := h
    have hB := ctxSide_of hb fun o ho => hg o (List.mem_append_left _ (List.mem_append_left _ ho))
    have hA := ctxSide_of ha fun o ho => hg o (List.mem_append_left _ (List.mem_append_right _ ho))
    have hq := hg q (by simp)
    refine ⟨q.path, segP_add hop hp hq.2 hq.1 hB hA fun hl => ?_⟩
    -- an append carries no real context line, and a remembered operation is one
    unfold appendCtxOK at hap
    rw [hl] at hap
    simp only [beq_self_eq_true, Bool.true_and, Bool.or_eq_false_iff] at hap
    exact ⟨ctxSide_none_of_noContext hB hap.1, ctxSide_none_of_noContext hA hap.2⟩
  · obtain ⟨hop, hr, hrp, rfl, rfl⟩ := h
    have hB := ctxSide_of hb fun o ho => hg o (List.mem_append_left _ (List.mem_append_left _ ho))
    have hA := ctxSide_of ha fun o ho => hg o (List.mem_append_left _ (List.mem_append_right _ ho))
    have hq := hg q (by simp)
    exact ⟨q.path, segP_rem hop hr hrp hp hq.2 hq.1 hB hA⟩


/-! ### coalescing -/

theorem addRun_append (s : String) (a b : List Json) : addRun s (a ++ b) = addRun s a ++ addRun s b := by
  simp [addRun]

theorem remPairs_append (s : String) (a b : List Json) :
    remPairs s (a ++ b) = remPairs s a ++ remPairs s b := by
  simp [remPairs]

/-- an element coalesced into the one before it has the same path, hence the same pointer text -/
theorem merge_ptr (F : FloatEq0) {sp : String} {s : List PatchOp} {last e : Hunk} {c : PatchCtx}
    {q : PatchOp} (hS : SegP sp s last c) (hp : readPointer q.path = .ok e.path)
    (hcan : ptrOKr q.path = true) (heq : pathEq last.path e.path = true) :
    last.path = e.path ∧ q.path = sp := by
  obtain ⟨hok, hwr⟩ := ptrOKr_ok hcan hp
  have hpath : last.path = e.path := pathEq_eq_r F hS.pok hok heq
  refine ⟨hpath, ?_⟩
  have := hS.wr
  rw [hpath, hwr] at this
  injection this

/-- an `add` element coalesced into the element before it -/
theorem segP_merge_add (F : FloatEq0) {sp : String} {s : List PatchOp} {last e : Hunk} {c : PatchCtx}
    {q : PatchOp} (hS : SegP sp s last c) (hq : q.op = "add") (hp : readPointer q.path = .ok e.path)
    (hcan : ptrOKr q.path = true) (hv : q.value.isVoid = false)
    (hr : e.remove = []) (ha : e.add = [q.value])
    (heq : pathEq last.path e.path = true) :
    SegP sp (s ++ [q])
      { last with remove := last.remove ++ e.remove,
                  add := if lastIdx? e.path == some (-1) then last.add ++ e.add else e.add ++ last.add }
      c := by
  obtain ⟨hpath, hsp⟩ := merge_ptr F hS hp hcan heq
  have hvals := hS.vals
  simp only [List.mem_append] at hvals
  refine ⟨hS.wr, hS.pok, ?_, ?_, hS.before, hS.after, ?_, ?_⟩
  · have hedit : editOps sp
        { last with remove := last.remove ++ e.remove,
                    add := if lastIdx? e.path == some (-1) then last.add ++ e.add else e.add ++ last.add }
        = editOps sp last ++ [adp sp q.value] := by
      simp only [editOps, addPart, hr, ha, List.append_nil, ← hpath]
      split
      · simp [addRun]
      · simp [addRun]
    rw [hedit, ← List.append_assoc]
    refine forall₂_append hS.sim (.cons ?_ .nil)
    rw [← hsp]
    exact opSim_adp hq
  · intro v hm
    simp only [hr, ha, List.append_nil, List.mem_append] at hm
    rcases hm with hm | hm
    · exact hvals v (Or.inl hm)
    · rcases mem_mergedAdd hm with hm | hm
      · exact hvals v (Or.inr hm)
      · cases List.mem_singleton.1 hm; exact hv
  · simp only [ha, Bool.and_eq_false_iff]
    right
    split <;> simp
  · intro hl hrem
    simp only [hr, List.append_nil] at hrem
    exact hS.appendNoCtx hl hrem

/-- a `test`/`remove` element coalesced into the element before it (which does not add) -/
theorem segP_merge_rem (F : FloatEq0) {sp : String} {s : List PatchOp} {last e : Hunk} {c : PatchCtx}
    {q r : PatchOp} (hS : SegP sp s last c) (hq : q.op = "test") (hrr : r.op = "remove")
    (hrp : r.path = q.path) (hp : readPointer q.path = .ok e.path)
    (hcan : ptrOKr q.path = true) (hv : q.value.isVoid = false)
    (hr : e.remove = [q.value]) (ha : e.add = []) (hla : last.add = [])
    (heq : pathEq last.path e.path = true) :
    SegP sp (s ++ [q, r])
      { last with remove := last.remove ++ e.remove,
                  add := if lastIdx? e.path == some (-1) then last.add ++ e.add else e.add ++ last.add }
      c := by
  obtain ⟨hpath, hsp⟩ := merge_ptr F hS hp hcan heq
  have hvals := hS.vals
  simp only [List.mem_append] at hvals
  have hadd : (if lastIdx? e.path == some (-1) then last.add ++ e.add else e.add ++ last.add) = [] := by
    rw [ha, hla]; split <;> rfl
  rw [hadd]
  refine ⟨hS.wr, hS.pok, ?_, ?_, hS.before, hS.after, ?_, ?_⟩
  · have hedit : editOps sp { last with remove := last.remove ++ e.remove, add := [] }
        = editOps sp last ++ [tst sp q.value, rmv sp q.value] := by
      have h1 : ∀ R, addPart { last with remove := R, add := [] } = [] := by
        intro R; unfold addPart; split <;> rfl
      have h2 : addPart last = [] := by
        unfold addPart; rw [hla]; split <;> rfl
      simp only [editOps, h1, h2, hr, remPairs_append, addRun, List.map_nil, List.append_nil]
      simp [remPairs]
    rw [hedit, ← List.append_assoc]
    refine forall₂_append hS.sim (.cons ?_ (.cons ?_ .nil))
    · rw [← hsp]; exact opSim_tst hq
    · rw [← hsp]; exact opSim_rmv hrr hrp
  · intro v hm
    simp only [hr, List.append_nil, List.mem_append, List.mem_singleton] at hm
    rcases hm with hm | rfl
    · exact hvals v (Or.inl hm)
    · exact hv
  · simp [hr]
  · intro _ hrem
    simp [hr] at hrem

/-! ### the two loops, in step -/

/-- the diff elements built so far, each with its context operations and the operations consumed
    for it -/
def Segs (pre : List PatchOp) (acc : Diff) (cs : List PatchCtx) : Prop :=
  ∃ segs : List Step,
    pre = segs.flatMap (·.ops) ∧ acc = segs.map (·.elem) ∧ cs = segs.map (·.ctx) ∧
    ∀ x ∈ segs, Seg x.ops x.elem x.ctx

/-- one step of the two loops keeps the segments -/
theorem push_segs (F : FloatEq0) {pre : List PatchOp} {acc : Diff} {cs : List PatchCtx}
    {g : List PatchOp} {e : Hunk} {c0 : PatchCtx} (hS : Segs pre acc cs) (hsh : Shape g e c0)
    (hg : ∀ o ∈ g, o.value.isVoid = false ∧ ptrOKr o.path = true) :
    Segs (pre ++ g) (pushStep (acc, cs) ⟨g, e, c0⟩).1 (pushStep (acc, cs) ⟨g, e, c0⟩).2 := by
  obtain ⟨segs, rfl, rfl, rfl, hall⟩ := hS
  have hnew : Seg g e c0 := seg_of_shape hsh hg
  rcases eq_nil_or_snoc segs with rfl | ⟨init, x, rfl⟩
  · exact ⟨[⟨g, e, c0⟩], by simp, rfl, rfl, List.forall_mem_singleton.2 hnew⟩
  · obtain ⟨hinit, hx⟩ := List.forall_mem_append.1 hall
    simp only [List.map_append, List.map_cons, List.map_nil]
    rw [pushStep_snoc]
    split
    · -- coalesced
      rename_i hcond
      simp only [Bool.and_eq_true, Bool.not_eq_true', Bool.and_eq_false_iff, Bool.not_eq_false',
        List.isEmpty_iff] at hcond
      obtain ⟨⟨heq, hctx⟩, hguard⟩ := hcond
      obtain ⟨sp, hx⟩ := List.forall_mem_singleton.1 hx
      obtain ⟨_, hN⟩ := hnew
      simp only [hasContext, Bool.or_eq_false_iff] at hctx
      have hc0 : ctxList c0 = [] := by
        simp [ctxList, ctxSide_none_of_noContext hN.before hctx.1,
          ctxSide_none_of_noContext hN.after hctx.2]
      have hmerged : Seg (x.ops ++ g)
          { x.elem with remove := x.elem.remove ++ e.remove,
                        add := if lastIdx? e.path == some (-1) then x.elem.add ++ e.add
                               else e.add ++ x.elem.add } x.ctx := by
        obtain ⟨q, path, b, a, hp, _, _, h | ⟨r, h⟩⟩ := shape_split hsh
        · obtain ⟨hop, rfl, _, rfl⟩ := h
          have hq := hg q (by simp)
          rw [hc0]
          exact ⟨sp, segP_merge_add F hx hop hp hq.2 hq.1 rfl rfl heq⟩
        · obtain ⟨hop, hr, hrp, rfl, rfl⟩ := h
          have hq := hg q (by simp)
          have hla : x.elem.add = [] := by
            rcases hguard with hg' | hg'
            · simp at hg'
            · exact hg'
          rw [hc0]
          exact ⟨sp, segP_merge_rem F hx hop hr hrp hp hq.2 hq.1 rfl rfl hla heq⟩
      exact ⟨init ++ [⟨x.ops ++ g,
          { x.elem with remove := x.elem.remove ++ e.remove,
                        add := if lastIdx? e.path == some (-1) then x.elem.add ++ e.add
                               else e.add ++ x.elem.add }, x.ctx⟩], by simp, by simp, by simp,
        List.forall_mem_append.2 ⟨hinit, List.forall_mem_singleton.2 hmerged⟩⟩
    · exact ⟨init ++ [x] ++ [⟨g, e, c0⟩], by simp, by simp, by simp,
        List.forall_mem_append.2 ⟨hall, List.forall_mem_singleton.2 hnew⟩⟩

/-- **the two runs of the element loop, in step**: the diff read and the contexts remembered come
    with a partition of the operations into the segments consumed for each element -/
theorem loops_segs (F : FloatEq0) (fuel : Nat) (patch : List PatchOp) (acc d : Diff)
    (cs cs' : List PatchCtx) (pre : List PatchOp)
    (h : readPatchLoop fuel patch acc = .ok d) (h' : readPatchCtxLoop fuel patch acc cs = .ok cs')
    (hv : ∀ o ∈ patch, o.value.isVoid = false ∧ ptrOKr o.path = true)
    (hS : Segs pre acc cs) : Segs (pre ++ patch) d cs' := by
  obtain ⟨steps, rfl, hsh, rfl, h4⟩ := loops_steps fuel patch acc d cs h (fun o ho => (hv o ho).1)
  cases h4.symm.trans h'
  exact foldl_pushStep (I := fun a pre => Segs pre a.1 a.2)
    (P := fun x => Shape x.ops x.elem x.ctx ∧ ∀ o ∈ x.ops, o.value.isVoid = false ∧ ptrOKr o.path = true)
    (fun _ _ _ hI hx => push_segs F hI hx.1 hx.2) steps (acc, cs) pre hS
    (fun x hx => ⟨hsh x hx, fun o ho => hv o (List.mem_flatMap.2 ⟨x, hx, ho⟩)⟩)


/-! ### the context check pins the context tests to what jd writes -/

/-- **what the check establishes**: the operation is a `test`, the element's path ends in an index
    `j ≥ 0`, and the pointer of the test is the text jd writes for the element's path with its last
    index moved to `j + offset` -/
theorem ctxTestOK_true (F : FloatEq0) {h : Hunk} {t : PatchOp} {off : Int}
    (hpok : pathOKr h.path = true) (hcan : ptrOKr t.path = true)
    (hk : ctxTestOK h t off = .ok true) :
    t.op = "test" ∧ ∃ j, lastIdx? h.path = some j ∧ 0 ≤ j ∧
      wpL (setLastIdx h.path (j + off)) = .ok t.path := by
  unfold ctxTestOK at hk
  cases hr : readPointer t.path with
  | err => rw [hr] at hk; cases hk
  | panic => rw [hr] at hk; cases hk
  | ok p =>
    rw [hr] at hk
    simp only at hk
    injection hk with hk
    obtain ⟨hok, hwr⟩ := ptrOKr_ok hcan hr
    simp only [Bool.and_eq_true, beq_iff_eq] at hk
    obtain ⟨⟨⟨hop, _⟩, hlen⟩, hm⟩ := hk
    refine ⟨hop, ?_⟩
    cases hi : lastIdx? p with
    | none => rw [hi] at hm; simp at hm
    | some i =>
      cases hj : lastIdx? h.path with
      | none => rw [hi, hj] at hm; simp at hm
      | some j =>
        rw [hi, hj] at hm
        simp only [Bool.and_eq_true, decide_eq_true_eq, beq_iff_eq] at hm
        obtain ⟨⟨hj0, hij⟩, heq⟩ := hm
        obtain ⟨pp, rfl⟩ := lastIdx_snoc hi
        obtain ⟨hp, hhp⟩ := lastIdx_snoc hj
        rw [hhp] at heq hpok ⊢
        simp only [List.dropLast_concat] at heq
        rw [pathOKr_append, Bool.and_eq_true] at hok hpok
        have : pp = hp := pathEq_eq_r F hok.1 hpok.1 heq
        subst this
        refine ⟨j, rfl, hj0, ?_⟩
        rw [setLastIdx_concat, ← hij]
        exact hwr

/-- the context test jd writes for a context line = the operation the reader remembered for it -/
theorem ctxOps_of_side (F : FloatEq0) {h : Hunk} {t : Option PatchOp} {l : List Json} {off : Int}
    {f : Int → Int} (hf : ∀ i, f i = i + off) (hpok : pathOKr h.path = true) (hs : CtxSide t l)
    (hk : checkOne h t off = .ok ()) : ctxOpsW wpL h l f = .ok t.toList ∧ l.length ≤ 1 := by
  cases t with
  | none =>
    rcases hs with rfl | rfl
    · exact ⟨rfl, by simp⟩
    · exact ⟨by simp [ctxOpsW, Json.isVoid], by simp⟩
  | some t =>
    obtain ⟨rfl, hv, hcan⟩ := hs
    refine ⟨?_, by simp⟩
    simp only [checkOne] at hk
    cases hc : ctxTestOK h t off with
    | err => rw [hc] at hk; cases hk
    | panic => rw [hc] at hk; cases hk
    | ok b =>
      rw [hc] at hk
      cases b with
      | false => cases hk
      | true =>
        obtain ⟨hop, j, hj, _, hwr⟩ := ctxTestOK_true F hpok hcan hc
        have hne : h.path.isEmpty = false := isEmpty_of_lastIdx hj
        simp only [ctxOpsW, hv, Bool.false_eq_true, if_false, hne, hj, hf, hwr]
        cases t
        simp only at hop
        subst hop
        rfl

/-- **one element**: the operations consumed for it are, up to `OpSim`, what jd writes for it -/
theorem seg_rerender (F : FloatEq0) {s : List PatchOp} {h : Hunk} {c : PatchCtx} (hS : Seg s h c)
    (hk : checkPatchCtx h c = .ok ()) (happ : lastIdx? h.path = some (-1) → h.remove = []) :
    ∃ ops', rerenderHunk h = .ok ops' ∧ List.Forall₂ OpSim ops' s := by
  obtain ⟨sp, hS⟩ := hS
  have hvals := hS.vals
  simp only [List.mem_append] at hvals
  by_cases hl : lastIdx? h.path = some (-1)
  · have hrem := happ hl
    obtain ⟨hcb, hca⟩ := hS.appendNoCtx hl hrem
    refine ⟨h.add.map (adp sp), ?_, ?_⟩
    · simp [rerenderHunk, hl, hS.wr]
    · have := hS.sim
      simpa [ctxList, hcb, hca, editOps, hrem, remPairs, addRun, addPart, hl] using this
  · obtain ⟨hk1, hk2⟩ := checkPatchCtx_ok hk
    obtain ⟨hb, hbl⟩ := ctxOps_of_side F (f := fun i => i - 1) (fun i => by omega) hS.pok hS.before hk1
    obtain ⟨ha, hal⟩ := ctxOps_of_side F (f := fun i => i + (h.remove.length : Int)) (fun i => rfl)
      hS.pok hS.after hk2
    have hl' : (lastIdx? h.path == some (-1)) = false := by simpa using hl
    refine ⟨ctxList c ++ editOps sp h, ?_, hS.sim⟩
    simp only [rerenderHunk, hl', Bool.false_eq_true, if_false]
    unfold renderPatchHunkW
    have h1 : ¬ h.before.length > 1 := by omega
    have h2 : ¬ h.after.length > 1 := by omega
    simp only [hS.wr, Outcome.bind_ok, hS.nonEmpty, Bool.false_eq_true, if_false, h1, h2, hb, ha]
    rw [remOpsOf_eq (fun x hx => hvals x (Or.inl hx)), addOpsOf_eq (fun x hx => hvals x (Or.inr hx))]
    simp only [ctxList, editOps, remPairs, addRun, addPart, hl', Bool.false_eq_true, if_false, tst,
      rmv, List.append_assoc]
    rfl

theorem faithful_of_segs (F : FloatEq0) : ∀ (segs : List Step),
    (∀ x ∈ segs, Seg x.ops x.elem x.ctx) →
    checkPatchCtxs (segs.map (·.elem)) (segs.map (·.ctx)) = .ok () →
    (∀ x ∈ segs, lastIdx? x.elem.path = some (-1) → x.elem.remove = []) →
    ∃ ops', rerender (segs.map (·.elem)) = .ok ops' ∧ List.Forall₂ OpSim ops' (segs.flatMap (·.ops))
  | [], _, _, _ => ⟨[], rfl, .nil⟩
  | x :: segs, hall, hk, happ => by
    simp only [List.map_cons] at hk
    obtain ⟨hk1, hk2⟩ := checkPatchCtxs_cons hk
    obtain ⟨a, ha, hsa⟩ := seg_rerender F (hall x (by simp)) hk1 (happ x (by simp))
    obtain ⟨b, hb, hsb⟩ := faithful_of_segs F segs (fun y hy => hall y (by simp [hy])) hk2
      (fun y hy => happ y (by simp [hy]))
    refine ⟨a ++ b, ?_, ?_⟩
    · simp only [List.map_cons, rerender, ha, hb]
    · simp only [List.flatMap_cons]
      exact forall₂_append hsa hsb

/-! ## what `readPatchOps` accepts is faithful -/

/-- what the reader accepts comes with its segments, and these pass the context check -/
theorem readPatchOps_segs (F : FloatEq0) {ops : List PatchOp} {d : Diff}
    (hv : ∀ o ∈ ops, o.value.isVoid = false) (hc : ∀ o ∈ ops, ptrOKr o.path = true)
    (hread : readPatchOps ops = .ok d) :
    ∃ segs : List Step, ops = segs.flatMap (·.ops) ∧ d = segs.map (·.elem) ∧
      (∀ x ∈ segs, Seg x.ops x.elem x.ctx) ∧
      checkPatchCtxs (segs.map (·.elem)) (segs.map (·.ctx)) = .ok () := by
  obtain ⟨h1, cs, h2, h3⟩ := readPatchOps_ok hread
  obtain ⟨segs, hpre, rfl, rfl, hall⟩ := loops_segs F (ops.length + 1) ops [] d [] cs [] h1 h2
    (fun o ho => ⟨hv o ho, hc o ho⟩) ⟨[], rfl, rfl, rfl, by simp⟩
  exact ⟨segs, by simpa using hpre, rfl, hall, h3⟩

/-- **every patch the reader accepts is faithful** (canonical pointer texts; the elements at the
    append index do not remove): re-rendering the diff that was read gives the operations back, up
    to the ignored value member of `remove` operations -/
theorem readPatchOps_faithful_r (F : FloatEq0) {ops : List PatchOp} {d : Diff}
    (hv : ∀ o ∈ ops, o.value.isVoid = false) (hc : ∀ o ∈ ops, ptrOKr o.path = true)
    (hread : readPatchOps ops = .ok d)
    (happ : ∀ h ∈ d, lastIdx? h.path = some (-1) → h.remove = []) : Faithful d ops := by
  obtain ⟨segs, rfl, rfl, hall, h3⟩ := readPatchOps_segs F hv hc hread
  exact faithful_of_segs F segs hall h3 (fun x hx => happ x.elem (List.mem_map.2 ⟨x, hx, rfl⟩))

/-- the paths of the elements read from canonical pointers consist of keys and indices in [−1, 2^53) -/
theorem readPatchOps_pathOKr (F : FloatEq0) {ops : List PatchOp} {d : Diff}
    (hv : ∀ o ∈ ops, o.value.isVoid = false) (hc : ∀ o ∈ ops, ptrOKr o.path = true)
    (hread : readPatchOps ops = .ok d) : ∀ h ∈ d, pathOKr h.path = true := by
  obtain ⟨segs, _, rfl, hall, _⟩ := readPatchOps_segs F hv hc hread
  intro h hm
  obtain ⟨x, hx, rfl⟩ := List.mem_map.1 hm
  obtain ⟨sp, hS⟩ := hall x hx
  exact hS.pok

/-- `readPatchOps_faithful_r` under the stronger hypothesis `canonPtr` (the text jd writes) -/
theorem readPatchOps_faithful (F : FloatEq0) {ops : List PatchOp} {d : Diff}
    (hv : ∀ o ∈ ops, o.value.isVoid = false) (hc : ∀ o ∈ ops, canonPtr o.path = true)
    (hread : readPatchOps ops = .ok d)
    (happ : ∀ h ∈ d, lastIdx? h.path = some (-1) → h.remove = []) : Faithful d ops :=
  readPatchOps_faithful_r F hv (fun o ho => ptrOKr_of_canonPtr (hc o ho)) hread happ

/-- what the reader accepts is a fixed point of read-then-write, where
    "write" is `rerender` (jd's layout with the pointer writer `wpL`, which does not refuse
    number-like member names) -/
theorem readPatchOps_faithful_all_pointers (F : FloatEq0) {ops : List PatchOp} {d : Diff}
    (hv : ∀ o ∈ ops, o.value.isVoid = false) (hidx : ∀ o ∈ ops, idxTokensOK o.path = true)
    (hread : readPatchOps ops = .ok d)
    (happ : ∀ h ∈ d, lastIdx? h.path = some (-1) → h.remove = []) : Faithful d ops :=
  readPatchOps_faithful_r F hv (fun o ho => ptrOKr_of_idxTokens (hidx o ho)) hread happ

#print axioms loops_segs
#print axioms readPatchOps_faithful
#print axioms readPatchOps_faithful_all_pointers

end Jd.NMP
