/-
  JdProofs.DiffEmptySet — property C05 in the SET and MULTISET readings of the v2 library (strict
  and MERGE strategy, no Precision), and with SetKeys:
      `diffM o a b = []  ↔  equals o a b = true`.
  Everything lives in the namespace `Jd.DES`. (List reading: JdProofs.DiffEmpty.) The equations of the
  diff, `DiffFaithful`, the induction `diffNode_nil_of_equals` behind (⇐) and
  `diffFaithful_of_hashFaithful` are in JdProofs.SetDiff, below property C01.

  MAIN THEOREMS (about the library functions `diffM` / `diffNode` and `equals` of the model)
    * `equals_of_diffM_nil`  (⇒)  an empty diff means `Equals`.
        Hypotheses: `SetReading o` (= `dispatchTag o = .set ∧ keysOf o = none`, or
        `dispatchTag o = .mset` — SetKeys plays no role in the multiset diff), `precOf o = 0`,
        `a.rawDoc`, `a.wf`, `b.wf`.  NO hash hypothesis, NO float hypothesis, `b` may carry any tags.
        (In the set modes the diff compares member hash codes and `Equals` compares the hash code
        of the sorted member hash codes: whatever the diff cannot see, `Equals` cannot see either.)
    * `diffM_nil_of_equals`  (⇐)  `Equals` means an empty diff, under the same hypotheses plus
        `DiffFaithful o (subterms a) (subterms b)`: for a node `x` of `a` and a node `y` of `b` with the
        same hash code, (i) if both are arrays, the lists of member hash codes that were hashed
        (`arrPre`: sorted, and deduplicated for a set) are the same — no FNV collision between array
        nodes; (ii) SET reading only: if both are objects they are `Equals` — no collision and no
        alias between object members of sets (the set diff matches members by hash code and then
        diffs two matched objects member by member). Pairs of other kinds are unconstrained: the
        aliases of KF-C04-alias between scalars and arrays (`""` / `[]`) are harmless here.
        Both clauses are needed, and (⇐) is FALSE without them — on the Go code as well:
          - `Witness.alias_breaks_converse`: `[{"a":""}]` and `[{"a":[]}]` are `Equals` under SET (and
            SET+MERGE) and their diff is NOT empty (consequence of KF-C04-alias);
          - `Witness.fnv_collision_breaks_converse`: `["aedb68afb","b7cdeb749"]` and
            `["a568b3ad2","b76a57d20"]` are `Equals` under SET, MULTISET, SET+MERGE, MULTISET+MERGE
            (a genuine FNV-1a 64 collision of the two 16-byte pre-images; the four member hash codes
            are distinct) and their diff is NOT empty.
        In the MULTISET reading clause (ii) is not required (`Witness.alias_mset_consistent`).
    * `diffM_nil_iff_equals` the two together; `c05_setmodes` for `o ∈ [[.set], [.mset],
        [.set,.merge], [.mset,.merge]]`; `equals_of_diffNode_nil` the induction behind (⇒) (every
        node, every path prefix, either strategy; `diffNode_nil_of_equals` of JdProofs.SetDiff for (⇐)).
    * `diffM_nil_iff_equals_hashFaithful`: C05 under the hypothesis family of JdProofs.EqualsSet /
        SetDiffPatch (`HashFaithful o (subterms a ++ subterms b)`, `setDoc` documents, `FloatEq0`),
        which implies `DiffFaithful` (`diffFaithful_of_hashFaithful` of JdProofs.SetDiff).
    * SetKeys (`dispatchTag o = .set`, `keysOf o` arbitrary; either strategy):
        `equals_of_diffNode_nil_keys` (⇒), `diffNode_nil_of_equals_keys` (⇐),
        `diffM_nil_iff_equals_keys`. Extra hypotheses: `IdentInj o (subterms a)` / `(subterms b)` —
        in every array node two members with the same identity (same hash codes of the values under
        the keys) have the same hash code, i.e. the keys identify the members; `KindSepI` / `KindSepH` —
        no object has the identity / hash code of a non-object; `setDoc` on both sides and
        `FloatEq0` (`Equals` objects have equal hash codes, `hash_eq_of_equals`). (⇒) uses
        `IdentInj` on both sides and `KindSepI`; (⇐) uses `DiffFaithful`, `KindSepH` and `IdentInj`
        on `b`; `diffNode_nil_of_equals_rel` is (⇐) relative to any condition on the pairs of set
        members that are sub-diffed, `IdentInj` on `b` being one that guarantees them equal hash
        codes. WITHOUT `IdentInj` BOTH directions are FALSE, with no collision involved, on the Go
        code as well (defect class KF-C01-identperm):
          - `Witness.setkeys_forward_fails`: `[{"id":"k","v":"x"},{"id":"k","v":"y"}]` against
            `[{"id":"k","v":"y"}]` under SetKeys(id): EMPTY diff, NOT `Equals`;
          - `Witness.setkeys_converse_fails`: the same first document against its members in the
            other order: `Equals`, NON-empty diff (the LAST bearers of the identity are compared).

  HYPOTHESES and why
    * `precOf o = 0`: with Precision the property is false already for scalars (KF-C05-precision,
      JdProofs.DiffEmpty).
    * `a.rawDoc`: documents as read from text; a `jsonSet`-typed left node is `Equals` to a plain
      array but is replaced wholesale by the diff (`Witness.typed_set_left_is_excluded`; model only).
    * `a.wf`, `b.wf` (strictly increasing keys): the model's invariant standing for Go maps
      (`Witness.dup_keys_excluded`).
    * `DiffFaithful`, `IdentInj`, `KindSepI`, `KindSepH`: decidable (`diffFaithful_of_check`, …),
      see above. No witness is known for the necessity of `KindSepI` / `KindSepH` (it would take a
      genuine collision between an object identity and a string hash code).
    * No `FloatLaws` / `FloatEq0` for the SET / MULTISET theorems: scalars are compared by the very
      same call (`diff_common.go` calls `Equals` without options, which agrees with `Equals` with
      options when there is no Precision), numbers inside arrays only through hash codes.
  NON-VACUITY: `Example.ex_set`, `ex_mset`, `ex_ne`, `ex_keys` and the `example`s there.
-/
import JdProofs.SetDiffPatch

namespace Jd.DES
open Jd Jd.Spec Jd.SetDP

/-! ## 1. (⇒) an empty diff means `Equals` — no hash hypothesis, either strategy -/

/-- one array node, SET reading: the hunk is empty only if the two arrays have the same set of
    member hash codes, hence the same hash code -/
theorem set_equals_of_body_nil {o : Opts} (hk : keysOf o = none) {m : Bool} {p : Path}
    {xs ys : List Json} (h : setBody o m p xs ys = []) :
    hcombine (hdedup (hashList o xs)) = hcombine (hdedup (hashList o ys)) := by
  have h2 := ((setBody_nil_iff o m p xs ys).1 h).2
  rw [funext (identOf_eq_hashCode hk)] at h2
  unfold hcombine
  rw [hsort_hdedup_ext (l := hashList o xs) (l' := hashList o ys)
    (fun c => by rw [hashList_eq_map, hashList_eq_map]; exact h2 c)]

/-- the object step of C05 (⇒) once, wherever arrays are leaves of the walk (MERGE strategy in every
    reading; strict strategy in the SET / MULTISET readings without keys): the reading enters only
    at a first node that is not an object. `Q`: what is known of a pair met on the way down. -/
theorem equals_of_diff_nil_of {o : Opts} {m : Bool} {Q : Json → Json → Prop}
    (hval : ∀ {kvs kvs' k v v'}, Q (.obj kvs) (.obj kvs') → (k, v) ∈ kvs →
      alookup k kvs' = some v' → Q v v')
    (hs : ∀ {kvs kvs'}, Q (.obj kvs) (.obj kvs') → keysSorted kvs = true ∧ keysSorted kvs' = true)
    (leaf : ∀ a b, Q a b → a.isObj = false → ∀ p, diffNode o m a b p = [] → equals o a b = true) :
    ∀ a b, Q a b → ∀ p, diffNode o m a b p = [] → equals o a b = true :=
  pairInd hval
    (fun a b hQ hn p h => by
      cases a with
      | obj kvs =>
        exact absurd h (DE.diffNode_obj_other_ne o m kvs b
          (fun _ e => by subst e; simp [Json.isObj] at hn) p)
      | _ => exact leaf _ b hQ rfl p h)
    fun kvs kvs' hQ ih p h =>
      equals_obj_of_diff_nil (hs hQ).1 (hs hQ).2 h fun hd k v hm =>
        let ⟨v', hl, hdv⟩ := diffKvs_nil_inv hd k v hm
        ⟨v', hl, ih k v v' hm hl _ hdv⟩

theorem equals_of_diffNode_nil {o : Opts} (hm : SetReading o) (hp : precOf o = 0) (m : Bool) :
    ∀ a : Json, a.rawDoc = true → a.wf = true → ∀ b : Json, b.wf = true →
      ∀ p, diffNode o m a b p = [] → equals o a b = true := fun a hr hw b hwb =>
  equals_of_diff_nil_of (Q := fun a b => (a.rawDoc = true ∧ a.wf = true) ∧ b.wf = true)
    (fun h hm hl => by
      simp only [Json.rawDoc, Json.wf, Bool.and_eq_true] at h
      exact ⟨⟨rawDocKvs_mem h.1.1 hm, wfKvs_mem h.1.2.2 hm⟩, alookup_wf hl h.2.2⟩)
    (fun h => by simp only [Json.wf, Bool.and_eq_true] at h; exact ⟨h.1.2.1, h.2.1⟩)
    (fun a b hQ ho p h => by
      cases a with
      | obj _ => cases ho
      | arr t xs =>
        have hr := hQ.1.1
        simp only [Json.rawDoc, Bool.and_eq_true, beq_iff_eq] at hr
        obtain ⟨rfl, _⟩ := hr
        rcases hm with ⟨hd, hk⟩ | hd
        · by_cases hb : ∃ ys, b.dispatch o = .arr .set ys
          · obtain ⟨ys, hb⟩ := hb
            rw [equals_raw_set hd xs hb]
            rw [diffNode_set hd m xs b ys hb p] at h
            split at h
            · cases h
            · simp [set_equals_of_body_nil hk h]
          · exact absurd h (diffNode_set_other hd m xs b (fun ys e => hb ⟨ys, e⟩) p)
        · by_cases hb : ∃ ys, b.dispatch o = .arr .mset ys
          · obtain ⟨ys, hb⟩ := hb
            rw [equals_raw_mset hd xs hb]
            rw [diffNode_mset hd m xs b ys hb p] at h
            split at h
            · cases h
            · have hperm := (msetBody_nil_iff o p xs ys).1 h
              have hlen : xs.length = ys.length := by
                have := hperm.length_eq
                rwa [hashList_eq_map, hashList_eq_map, List.length_map, List.length_map] at this
              simp [hsort_eq_of_perm hperm, hlen]
          · exact absurd h (diffNode_arr_other_ne hd (.inr rfl) m xs b (fun ys e => hb ⟨ys, e⟩) p)
      | _ =>
        exact (diffNode_scalar_nil_iff hp m _ b (fun _ _ e => by cases e) (fun _ e => by cases e)
          p).1 h)
    a b ⟨⟨hr, hw⟩, hwb⟩

/-! ## 2. property C05 in the SET and MULTISET readings, strict and MERGE strategy -/

/-- **(⇒)** an empty diff means `Equals`: no hash hypothesis, no float hypothesis -/
theorem equals_of_diffM_nil (o : Opts) (hm : SetReading o) (hp : precOf o = 0) (a b : Json)
    (hr : a.rawDoc = true) (hw : a.wf = true) (hw' : b.wf = true) (h : diffM o a b = []) :
    equals o a b = true :=
  equals_of_diffNode_nil hm hp (isMerge o) a hr hw b hw' [] h

/-- **(⇐)** `Equals` means an empty diff, when no two nodes of the two documents collide harmfully -/
theorem diffM_nil_of_equals (o : Opts) (hm : SetReading o) (hp : precOf o = 0) (a b : Json)
    (hr : a.rawDoc = true) (hw : a.wf = true) (hw' : b.wf = true)
    (FH : DiffFaithful o (subterms a) (subterms b)) (h : equals o a b = true) :
    diffM o a b = [] :=
  diffNode_nil_of_equals hm hp (isMerge o) FH a hr hw (within_subterms a) b hw' (within_subterms b)
    h []

/-- **C05, SET / MULTISET readings, strict or MERGE strategy** -/
theorem diffM_nil_iff_equals (o : Opts) (hm : SetReading o) (hp : precOf o = 0) (a b : Json)
    (hr : a.rawDoc = true) (hw : a.wf = true) (hw' : b.wf = true)
    (FH : DiffFaithful o (subterms a) (subterms b)) :
    diffM o a b = [] ↔ equals o a b = true :=
  ⟨equals_of_diffM_nil o hm hp a b hr hw hw', diffM_nil_of_equals o hm hp a b hr hw hw' FH⟩

/-- the four option lists of the task -/
def setOptions : List Opts := [[.set], [.mset], [.set, .merge], [.mset, .merge]]

theorem setOptions_reading {o : Opts} (ho : o ∈ setOptions) : SetReading o ∧ precOf o = 0 := by
  simp only [setOptions, List.mem_cons, List.not_mem_nil, or_false] at ho
  rcases ho with rfl | rfl | rfl | rfl
  · exact ⟨.inl ⟨rfl, rfl⟩, rfl⟩
  · exact ⟨.inr rfl, rfl⟩
  · exact ⟨.inl ⟨rfl, rfl⟩, rfl⟩
  · exact ⟨.inr rfl, rfl⟩

/-- C05 for `o = [.set]`, `[.mset]`, `[.set, .merge]`, `[.mset, .merge]` -/
theorem c05_setmodes {o : Opts} (ho : o ∈ setOptions) (a b : Json)
    (hr : a.rawDoc = true) (hw : a.wf = true) (hw' : b.wf = true) :
    (diffM o a b = [] → equals o a b = true) ∧
    (DiffFaithful o (subterms a) (subterms b) → equals o a b = true → diffM o a b = []) :=
  ⟨equals_of_diffM_nil o (setOptions_reading ho).1 (setOptions_reading ho).2 a b hr hw hw',
   fun FH => diffM_nil_of_equals o (setOptions_reading ho).1 (setOptions_reading ho).2 a b hr hw hw'
     FH⟩

/-- C05 in the set modes under the hypotheses of `diff_then_patch_set/_mset` (without `memOK`) -/
theorem diffM_nil_iff_equals_hashFaithful (F : FloatEq0) (o : Opts) (hm : SetReading o)
    (hp : precOf o = 0) (a b : Json) (ha : a.setDoc = true) (hb : b.setDoc = true)
    (HF : HashFaithful o (subterms a ++ subterms b)) :
    diffM o a b = [] ↔ equals o a b = true := by
  have hm' : dispatchTag o = .set ∨ dispatchTag o = .mset := by
    rcases hm with ⟨h, _⟩ | h
    · exact .inl h
    · exact .inr h
  have ha' := ha
  have hb' := hb
  simp only [Json.setDoc, Bool.and_eq_true] at ha' hb'
  exact diffM_nil_iff_equals o hm hp a b ha'.1.1.1 ha'.1.1.2 hb'.1.1.2
    (diffFaithful_of_hashFaithful F hm' hp (docOk_of_setDoc ha) (docOk_of_setDoc hb) HF)

/-! ## 3. SetKeys: members of a set are matched by the hash codes of their key values -/

/-- `Equals` documents have the same hash code in the set modes (numbers: `FloatEq0`) -/
theorem hash_eq_of_equals (F : FloatEq0) {o : Opts}
    (hm : dispatchTag o = .set ∨ dispatchTag o = .mset) (hp : precOf o = 0) :
    ∀ a b, DocOk a → DocOk b → equals o a b = true → hashCode o a = hashCode o b := by
  intro a
  induction a using jsonIndScalar with
  | scalar a h1 h2 =>
    intro b ha hb h
    exact equivB_hash_core F o hm hp a b ha hb (by rw [← equals_eq_equivB_scalar o a b h1 h2]; exact h)
  | arr t xs _ =>
    intro b ha hb h
    have ht := ha.raw
    subst ht
    cases b with
    | arr t' ys =>
      have ht' := hb.raw
      subst ht'
      rcases hm with hd | hd
      · rw [equals_arr_raw_set hd, beq_iff_eq] at h; exact h
      · rw [equals_arr_raw_mset hd, Bool.and_eq_true, beq_iff_eq, beq_iff_eq] at h; exact h.2
    | _ => rcases hm with hd | hd <;> simp [equals, effTag, hd, Json.dispatch] at h
  | obj kvs ih =>
    intro b ha hb h
    cases b with
    | obj kvs' =>
      have hs := ha.sorted
      have hs' := hb.sorted
      have hlen : kvs.length = kvs'.length := by
        simp only [equals, Bool.and_eq_true, beq_iff_eq] at h; exact h.1
      obtain ⟨h1, _⟩ := (equals_obj_iff o hs hs').1 h
      have hflip := AllLook.flip hs hs' hlen h1
      have key : hashKvs o kvs = hashKvs o kvs' :=
        hashKvs_congr o (equals o) kvs kvs' hs hs' h1 hflip
          (fun k v v' hm1 hm2 e => ih k v hm1 v' (ha.val hm1) (hb.val hm2) e)
      simp only [hashCode, key]
    | _ => simp [equals] at h

theorem identOf_nonobj (o : Opts) {x : Json} (h : x.isObj = false) : identOf o x = hashCode o x := by
  cases x <;> simp_all [identOf, Json.isObj]

/-- `Equals` objects have the same identity, with or without SetKeys -/
theorem ident_eq_of_equals (F : FloatEq0) {o : Opts}
    (hm : dispatchTag o = .set ∨ dispatchTag o = .mset) (hp : precOf o = 0)
    {kvs kvs' : List (String × Json)} (ha : DocOk (.obj kvs)) (hb : DocOk (.obj kvs'))
    (h : equals o (.obj kvs) (.obj kvs') = true) :
    identOf o (.obj kvs) = identOf o (.obj kvs') := by
  simp only [identOf, identObj]
  cases hk : keysOf o with
  | none => exact hash_eq_of_equals F hm hp _ _ ha hb h
  | some ks =>
    have hs := ha.sorted
    have hs' := hb.sorted
    have hlen : kvs.length = kvs'.length := by
      simp only [equals, Bool.and_eq_true, beq_iff_eq] at h; exact h.1
    obtain ⟨h1, _⟩ := (equals_obj_iff o hs hs').1 h
    have hflip := AllLook.flip hs hs' hlen h1
    have key : ∀ l : List String, identKeyHashes o kvs l = identKeyHashes o kvs' l := by
      intro l
      induction l with
      | nil => rfl
      | cons k r ihr =>
        simp only [identKeyHashes, ihr]
        cases e : alookup k kvs with
        | some v =>
          obtain ⟨v', hl, he⟩ := h1 k v (mem_of_alookup e)
          rw [hl]
          simp only [hash_eq_of_equals F hm hp v v' (ha.val (mem_of_alookup e))
            (hb.val (mem_of_alookup hl)) he]
        | none =>
          cases e' : alookup k kvs' with
          | none => rfl
          | some v' =>
            obtain ⟨v, hl, _⟩ := hflip k v' (mem_of_alookup e')
            rw [e] at hl
            cases hl
    simp only [key ks]

/-- an identity present in both arrays: its LAST bearers on either side are the pair the set diff
    looks at; when both are objects their sub-diff is one of the parts -/
theorem matched_of_present (o : Opts) (m : Bool) (p : Path) (ys : List Json) :
    ∀ (xs : List Json) (h : UInt64), h ∈ xs.map (identOf o) → h ∈ ys.map (identOf o) →
      ∃ x ∈ xs, ∃ y ∈ ys, identOf o x = h ∧ identOf o y = h ∧
        ∀ kvs kvs', x = .obj kvs → y = .obj kvs' →
          (h, SetPart.sub (diffNode o m (.obj kvs) (.obj kvs') (p ++ [newPathSetKeys o kvs]))) ∈
            diffSetElems o m p ys xs := fun _ _ hx hy =>
  have ⟨x, ex⟩ := identLookup_of_mem hx
  have ⟨y, ey⟩ := identLookup_of_mem hy
  ⟨x, (identLookup_some ex).1, y, (identLookup_some ey).1, (identLookup_some ex).2,
    (identLookup_some ey).2, fun kvs kvs' hx' hy' =>
      sub_mem_diffSetElems.2 ⟨kvs, kvs', hx' ▸ ex, hy' ▸ ey, rfl⟩⟩

/-- the members of one array node are told apart by their identities: two members with the same
    identity (the same values under the SetKeys) have the same hash code -/
def nodeIdentInj (o : Opts) : Json → Bool
  | .arr _ xs =>
    xs.all fun x => xs.all fun x' => identOf o x != identOf o x' || hashCode o x == hashCode o x'
  | _ => true

/-- every array node among `S` has members told apart by their identities -/
def IdentInj (o : Opts) (S : List Json) : Prop := ∀ n ∈ S, nodeIdentInj o n = true

theorem IdentInj.apply {o : Opts} {S : List Json} (h : IdentInj o S) {t : Tag} {xs : List Json}
    (hn : Json.arr t xs ∈ S) {x x' : Json} (hx : x ∈ xs) (hx' : x' ∈ xs)
    (e : identOf o x = identOf o x') : hashCode o x = hashCode o x' := by
  have := h _ hn
  simp only [nodeIdentInj, List.all_eq_true] at this
  simpa [e] using this x hx x' hx'

/-- no alias between the identity of an object and the identity (= hash code) of a non-object -/
def KindSepI (o : Opts) (SA SB : List Json) : Prop :=
  ∀ x ∈ SA, ∀ y ∈ SB, identOf o x = identOf o y → x.isObj = y.isObj

/-- no alias between the hash code of an object and the hash code of a non-object -/
def KindSepH (o : Opts) (SA SB : List Json) : Prop :=
  ∀ x ∈ SA, ∀ y ∈ SB, hashCode o x = hashCode o y → x.isObj = y.isObj

/-- **(⇒) with SetKeys** (any options reading arrays as sets, in particular `keysOf o = some ks`):
    an empty diff means `Equals` when identities tell the members of every set apart -/
theorem equals_of_diffNode_nil_keys (F : FloatEq0) {o : Opts} (hd : dispatchTag o = .set)
    (hp : precOf o = 0) (m : Bool) {SA SB : List Json} (IA : IdentInj o SA) (IB : IdentInj o SB)
    (KS : KindSepI o SA SB) :
    ∀ a : Json, DocOk a → Within SA a → ∀ b : Json, DocOk b → Within SB b →
      ∀ p, diffNode o m a b p = [] → equals o a b = true := by
  intro a
  induction a using jsonIndScalar with
  | scalar a h1 h2 => intro _ _ b _ _ p h; exact (diffNode_scalar_nil_iff hp m a b h1 h2 p).1 h
  | arr t xs ih =>
    intro da wa b db wb p h
    have ht := da.raw
    subst ht
    by_cases hb : ∃ ys, b.dispatch o = .arr .set ys
    · obtain ⟨ys, hb⟩ := hb
      have hbr : b = .arr .raw ys := by
        rcases dispatch_eq_set hd hb with rfl | rfl
        · rfl
        · exact absurd db.raw (by simp)
      subst hbr
      rw [equals_raw_set hd xs hb]
      rw [diffNode_set hd m xs _ ys hb p] at h
      split at h
      · cases h
      · obtain ⟨hsub, hids⟩ := (setBody_nil_iff o m p xs ys).1 h
        rw [List.flatMap_eq_nil_iff] at hsub
        have core : ∀ c, c ∈ xs.map (identOf o) → ∃ x ∈ xs, ∃ y ∈ ys,
            identOf o x = c ∧ identOf o y = c ∧ hashCode o x = hashCode o y := by
          intro c hc
          obtain ⟨x, hx, y, hy, e1, e2, hpart⟩ :=
            matched_of_present o m p ys xs c hc ((hids c).1 hc)
          refine ⟨x, hx, y, hy, e1, e2, ?_⟩
          have hkind := KS x (wa.elem hx).self y (wb.elem hy).self (e1.trans e2.symm)
          cases x with
          | obj kvs =>
            cases y with
            | obj kvs' =>
              have hd0 := hsub _ ((ksort_perm _).mem_iff.2 (hpart kvs kvs' rfl rfl))
              simp only [subOf] at hd0
              exact hash_eq_of_equals F (.inl hd) hp _ _ (da.elem hx) (db.elem hy)
                (ih _ hx (da.elem hx) (wa.elem hx) _ (db.elem hy) (wb.elem hy) _ hd0)
            | _ => simp [Json.isObj] at hkind
          | _ =>
            have hx0 := hkind
            simp only [Json.isObj] at hx0
            rw [← identOf_nonobj o (by simp [Json.isObj]), ← identOf_nonobj o hx0.symm, e1, e2]
        have hext : ∀ c, c ∈ hashList o xs ↔ c ∈ hashList o ys := by
          intro c
          simp only [hashList_eq_map, List.mem_map]
          constructor
          · rintro ⟨x, hx, rfl⟩
            obtain ⟨x', hx', y', hy', e1, _, e3⟩ := core _ (List.mem_map_of_mem (f := identOf o) hx)
            exact ⟨y', hy', by rw [← e3, IA.apply wa.self hx hx' e1.symm]⟩
          · rintro ⟨y, hy, rfl⟩
            obtain ⟨x', hx', y', hy', _, e2, e3⟩ :=
              core _ ((hids _).2 (List.mem_map_of_mem (f := identOf o) hy))
            exact ⟨x', hx', by rw [e3, IB.apply wb.self hy hy' e2.symm]⟩
        simp [hcombine, hsort_hdedup_ext hext]
    · exact absurd h (diffNode_set_other hd m xs b (fun ys e => hb ⟨ys, e⟩) p)
  | obj kvs ih =>
    intro da wa b db wb p h
    cases b with
    | obj kvs' =>
      refine equals_obj_of_diff_nil da.sorted db.sorted h (fun hd' k v hmem => ?_)
      obtain ⟨v', hl, hdv⟩ := diffKvs_nil_inv hd' k v hmem
      have hmem' := mem_of_alookup hl
      exact ⟨v', hl, ih k v hmem (da.val hmem) (wa.val hmem) v' (db.val hmem') (wb.val hmem') _ hdv⟩
    | _ => exact absurd h (DE.diffNode_obj_other_ne o m kvs _ (fun _ e => by cases e) p)

/-- two plain arrays that are `Equals` as sets: every member of either has a partner in the other
    with the same hash code (no collision between the array nodes) and the same identity (`Equals`
    objects have equal identities; a non-object is its own identity) -/
theorem members_partnered (F : FloatEq0) {o : Opts} (hd : dispatchTag o = .set) (hp : precOf o = 0)
    {SA SB : List Json} (FH : DiffFaithful o SA SB) (KH : KindSepH o SA SB) {xs ys : List Json}
    (da : DocOk (.arr .raw xs)) (wa : Within SA (.arr .raw xs)) (db : DocOk (.arr .raw ys))
    (wb : Within SB (.arr .raw ys)) (h : equals o (.arr .raw xs) (.arr .raw ys) = true) :
    (∀ x ∈ xs, ∃ y ∈ ys, hashCode o x = hashCode o y ∧ identOf o x = identOf o y) ∧
    (∀ y ∈ ys, ∃ x ∈ xs, hashCode o x = hashCode o y ∧ identOf o x = identOf o y) := by
  have hraw : effTag o .raw = .set := by simp [effTag, hd]
  rw [equals_arr_raw_set hd, beq_iff_eq] at h
  have hok := FH _ wa.self _ wb.self h
  simp only [pairOK, arrPre, hraw, beq_iff_eq] at hok
  have hext := mem_hashes_iff hok
  have hid : ∀ x ∈ xs, ∀ y ∈ ys, hashCode o x = hashCode o y → identOf o x = identOf o y := by
    intro x hx y hy e
    have hkind := KH x (wa.elem hx).self y (wb.elem hy).self e
    cases x with
    | obj kvs =>
      cases y with
      | obj kvs' =>
        have hok' := FH _ (wa.elem hx).self _ (wb.elem hy).self e
        simp only [pairOK, hd, show (Tag.set == Tag.mset) = false from rfl, Bool.false_or] at hok'
        exact ident_eq_of_equals F (.inl hd) hp (da.elem hx) (db.elem hy) hok'
      | _ => simp [Json.isObj] at hkind
    | _ =>
      have hx0 := hkind
      simp only [Json.isObj] at hx0
      rw [identOf_nonobj o (by simp [Json.isObj]), identOf_nonobj o hx0.symm, e]
  constructor
  · intro x hx
    obtain ⟨y, hy, ey⟩ := List.mem_map.1 ((hext _).1 (List.mem_map_of_mem (f := hashCode o) hx))
    exact ⟨y, hy, ey.symm, hid x hx y hy ey.symm⟩
  · intro y hy
    obtain ⟨x, hx, ex⟩ := List.mem_map.1 ((hext _).2 (List.mem_map_of_mem (f := hashCode o) hy))
    exact ⟨x, hx, ex, hid x hx y hy ex⟩

/-- **(⇐) with SetKeys, relative to a condition `Q` on the pairs of nodes the diff compares**:
    `Equals` means an empty diff when no two nodes collide harmfully, no object is hashed like a
    non-object, and `Q` — which passes from two objects to their members under the same key —
    guarantees that the object members of two `Equals` arrays that the set diff sub-diffs (the last
    bearers of a common identity) have the same hash code and are again related by `Q`. -/
theorem diffNode_nil_of_equals_rel (F : FloatEq0) {o : Opts} (hd : dispatchTag o = .set)
    (hp : precOf o = 0) (m : Bool) {SA SB : List Json} (FH : DiffFaithful o SA SB)
    (KH : KindSepH o SA SB) {Q : Json → Json → Prop}
    (Qobj : ∀ {kvs kvs' : List (String × Json)} {k : String} {v v' : Json},
      Q (.obj kvs) (.obj kvs') → (k, v) ∈ kvs → alookup k kvs' = some v' → Q v v')
    (Qarr : ∀ {xs ys : List Json}, Json.arr .raw ys ∈ SB → Q (.arr .raw xs) (.arr .raw ys) →
      equals o (.arr .raw xs) (.arr .raw ys) = true →
      (∀ x ∈ xs, ∃ y ∈ ys, hashCode o x = hashCode o y ∧ identOf o x = identOf o y) →
      ∀ {p : Path} {h : UInt64} {d : Diff}, (h, SetPart.sub d) ∈ diffSetElems o m p ys xs →
        ∃ kvs kvs', Json.obj kvs ∈ xs ∧ Json.obj kvs' ∈ ys ∧
          d = diffNode o m (.obj kvs) (.obj kvs') (p ++ [newPathSetKeys o kvs]) ∧
          hashCode o (.obj kvs) = hashCode o (.obj kvs') ∧ Q (.obj kvs) (.obj kvs')) :
    ∀ a : Json, DocOk a → Within SA a → ∀ b : Json, DocOk b → Within SB b →
      equals o a b = true → Q a b → ∀ p, diffNode o m a b p = [] := by
  intro a
  induction a using jsonIndScalar with
  | scalar a h1 h2 => intro _ _ b _ _ h _ p; exact (diffNode_scalar_nil_iff hp m a b h1 h2 p).2 h
  | arr t xs ih =>
    intro da wa b db wb h hq p
    have ht := da.raw
    subst ht
    by_cases hb : ∃ ys, b.dispatch o = .arr .set ys
    · obtain ⟨ys, hb⟩ := hb
      have hbr : b = .arr .raw ys := by
        rcases dispatch_eq_set hd hb with rfl | rfl
        · rfl
        · exact absurd db.raw (by simp)
      subst hbr
      obtain ⟨px, py⟩ := members_partnered F hd hp FH KH da wa db wb h
      have hsub := @Qarr xs ys wb.self hq h px
      rw [equals_raw_set hd xs hb, beq_iff_eq] at h
      rw [diffNode_set hd m xs _ ys hb p, equals_set_set, h]
      simp only [beq_self_eq_true, Bool.not_true, Bool.and_false, Bool.false_eq_true, if_false]
      rw [setBody_nil_iff]
      constructor
      · rw [List.flatMap_eq_nil_iff]
        rintro ⟨c, part⟩ hkp
        cases part with
        | removed z => rfl
        | sub d =>
          obtain ⟨kvs, kvs', hx, hy, rfl, e, hq'⟩ := hsub ((ksort_perm _).mem_iff.1 hkp)
          have hok := FH _ (wa.elem hx).self _ (wb.elem hy).self e
          simp only [pairOK, hd, show (Tag.set == Tag.mset) = false from rfl, Bool.false_or] at hok
          exact ih _ hx (da.elem hx) (wa.elem hx) _ (db.elem hy) (wb.elem hy) hok hq' _
      · intro c
        simp only [List.mem_map]
        constructor
        · rintro ⟨x, hx, rfl⟩
          obtain ⟨y, hy, _, e⟩ := px x hx
          exact ⟨y, hy, e.symm⟩
        · rintro ⟨y, hy, rfl⟩
          obtain ⟨x, hx, _, e⟩ := py y hy
          exact ⟨x, hx, e⟩
    · rw [equals_raw_set_other hd xs (fun ys e => hb ⟨ys, e⟩)] at h
      cases h
  | obj kvs ih =>
    intro da wa b db wb h hq p
    cases b with
    | obj kvs' =>
      obtain ⟨h1, h2⟩ := (equals_obj_iff o da.sorted db.sorted).1 h
      refine diffNode_obj_nil (fun k v hmem => ?_) h2 p
      obtain ⟨v', hl, he⟩ := h1 k v hmem
      have hmem' := mem_of_alookup hl
      exact ⟨v', hl, ih k v hmem (da.val hmem) (wa.val hmem) v' (db.val hmem') (wb.val hmem') he
        (Qobj hq hmem hl)⟩
    | _ => simp [equals] at h

/-- **(⇐) with SetKeys**: `Equals` means an empty diff when no two nodes collide harmfully, no
    object is hashed like a non-object, and identities tell the members of every set of `b` apart -/
theorem diffNode_nil_of_equals_keys (F : FloatEq0) {o : Opts} (hd : dispatchTag o = .set)
    (hp : precOf o = 0) (m : Bool) {SA SB : List Json} (FH : DiffFaithful o SA SB)
    (KH : KindSepH o SA SB) (IB : IdentInj o SB) :
    ∀ a : Json, DocOk a → Within SA a → ∀ b : Json, DocOk b → Within SB b →
      equals o a b = true → ∀ p, diffNode o m a b p = [] := fun a da wa b db wb h =>
  diffNode_nil_of_equals_rel F hd hp m FH KH (Q := fun _ _ => True) (fun _ _ _ => trivial)
    (fun hys _ _ hpart _ _ _ hm => by
      -- the partner of the first member has the identity of the second, hence its hash code
      obtain ⟨kvs, kvs', _, e, _, _, hx, hy, hd'⟩ := sub_origin hm
      obtain ⟨y, hy', e1, e2⟩ := hpart _ hx
      exact ⟨kvs, kvs', hx, hy, hd', e1.trans (IB.apply hys hy' hy (e2.symm.trans e.symm)), trivial⟩)
    a da wa b db wb h trivial

/-- **C05 with SetKeys** (options reading arrays as sets; `keysOf o` arbitrary) -/
theorem diffM_nil_iff_equals_keys (F : FloatEq0) (o : Opts) (hd : dispatchTag o = .set)
    (hp : precOf o = 0) (a b : Json) (ha : a.setDoc = true) (hb : b.setDoc = true)
    (IA : IdentInj o (subterms a)) (IB : IdentInj o (subterms b))
    (KI : KindSepI o (subterms a) (subterms b)) (KH : KindSepH o (subterms a) (subterms b))
    (FH : DiffFaithful o (subterms a) (subterms b)) :
    diffM o a b = [] ↔ equals o a b = true :=
  ⟨equals_of_diffNode_nil_keys F hd hp (isMerge o) IA IB KI a (docOk_of_setDoc ha)
      (within_subterms a) b (docOk_of_setDoc hb) (within_subterms b) [],
   fun h => diffNode_nil_of_equals_keys F hd hp (isMerge o) FH KH IB a (docOk_of_setDoc ha)
      (within_subterms a) b (docOk_of_setDoc hb) (within_subterms b) h []⟩

/-! ## 4. non-vacuity: concrete documents satisfying every hypothesis -/

def diffFaithfulB (o : Opts) (SA SB : List Json) : Bool :=
  SA.all fun x => SB.all fun y => hashCode o x != hashCode o y || pairOK o x y

/-- a condition on the pairs with equal codes, from its Boolean sweep over all pairs -/
theorem pairs_of_check {c : Json → UInt64} {P : Json → Json → Bool} {SA SB : List Json}
    (h : (SA.all fun x => SB.all fun y => c x != c y || P x y) = true) :
    ∀ x ∈ SA, ∀ y ∈ SB, c x = c y → P x y = true := by
  intro x hx y hy e
  simp only [List.all_eq_true] at h
  simpa [e] using h x hx y hy

theorem diffFaithful_of_check {o : Opts} {SA SB : List Json} (h : diffFaithfulB o SA SB = true) :
    DiffFaithful o SA SB :=
  pairs_of_check h

namespace Example

/-- `{"s":[true,null,{"k":["x","y"]}],"t":"u"}` -/
def exA : Json :=
  .obj [("s", .arr .raw [.bool true, .null, .obj [("k", .arr .raw [.str "x", .str "y"])]]),
        ("t", .str "u")]
/-- `{"s":[{"k":["y","x","y"]},null,true,null],"t":"u"}`: equal to `exA` when arrays are sets -/
def exB : Json :=
  .obj [("s", .arr .raw [.obj [("k", .arr .raw [.str "y", .str "x", .str "y"])], .null, .bool true,
          .null]),
        ("t", .str "u")]
/-- `{"s":[{"k":["y","x"]},null,true],"t":"u"}`: equal to `exA` when arrays are multisets -/
def exC : Json :=
  .obj [("s", .arr .raw [.obj [("k", .arr .raw [.str "y", .str "x"])], .null, .bool true]),
        ("t", .str "u")]
/-- `{"s":[{"k":["y","z"]},null,true],"t":"u"}`: differs from `exA` in either reading -/
def exD : Json :=
  .obj [("s", .arr .raw [.obj [("k", .arr .raw [.str "y", .str "z"])], .null, .bool true]),
        ("t", .str "u")]

theorem ex_docs : exA.rawDoc = true ∧ exA.wf = true ∧ exB.wf = true ∧ exC.wf = true ∧
    exD.wf = true := by decide

theorem ex_faithful_set : DiffFaithful [.set] (subterms exA) (subterms exB) :=
  diffFaithful_of_check (by decide +kernel)
theorem ex_faithful_set_merge : DiffFaithful [.set, .merge] (subterms exA) (subterms exB) :=
  diffFaithful_of_check (by decide +kernel)
theorem ex_faithful_mset : DiffFaithful [.mset] (subterms exA) (subterms exC) :=
  diffFaithful_of_check (by decide +kernel)
theorem ex_faithful_mset_merge : DiffFaithful [.mset, .merge] (subterms exA) (subterms exC) :=
  diffFaithful_of_check (by decide +kernel)
theorem ex_faithful_set_D : DiffFaithful [.set] (subterms exA) (subterms exD) :=
  diffFaithful_of_check (by decide +kernel)

/-- the hypotheses of (⇐) hold and so does its premise: the diff of `exA` and `exB` is empty in the
    SET reading, with either strategy -/
theorem ex_set : equals [.set] exA exB = true ∧ diffM [.set] exA exB = [] ∧
    diffM [.set, .merge] exA exB = [] := by
  have e1 : equals [.set] exA exB = true := by decide +kernel
  have e2 : equals [.set, .merge] exA exB = true := by decide +kernel
  exact ⟨e1,
    diffM_nil_of_equals _ (.inl ⟨rfl, rfl⟩) rfl exA exB ex_docs.1 ex_docs.2.1 ex_docs.2.2.1
      ex_faithful_set e1,
    diffM_nil_of_equals _ (.inl ⟨rfl, rfl⟩) rfl exA exB ex_docs.1 ex_docs.2.1 ex_docs.2.2.1
      ex_faithful_set_merge e2⟩

theorem ex_mset : equals [.mset] exA exC = true ∧ diffM [.mset] exA exC = [] ∧
    diffM [.mset, .merge] exA exC = [] := by
  have e1 : equals [.mset] exA exC = true := by decide +kernel
  have e2 : equals [.mset, .merge] exA exC = true := by decide +kernel
  exact ⟨e1,
    diffM_nil_of_equals _ (.inr rfl) rfl exA exC ex_docs.1 ex_docs.2.1 ex_docs.2.2.2.1
      ex_faithful_mset e1,
    diffM_nil_of_equals _ (.inr rfl) rfl exA exC ex_docs.1 ex_docs.2.1 ex_docs.2.2.2.1
      ex_faithful_mset_merge e2⟩

/-- (⇒) used contrapositively: `exA` and `exB` are not equal as multisets, `exA` and `exD` are not
    equal as sets, so the diffs are not empty -/
theorem ex_ne : diffM [.mset] exA exB ≠ [] ∧ diffM [.set] exA exD ≠ [] ∧
    diffM [.set, .merge] exA exD ≠ [] := by
  refine ⟨fun h => ?_, fun h => ?_, fun h => ?_⟩
  · have := equals_of_diffM_nil _ (.inr rfl) rfl exA exB ex_docs.1 ex_docs.2.1 ex_docs.2.2.1 h
    exact absurd this (by decide +kernel)
  · have := equals_of_diffM_nil _ (.inl ⟨rfl, rfl⟩) rfl exA exD ex_docs.1 ex_docs.2.1
      ex_docs.2.2.2.2 h
    exact absurd this (by decide +kernel)
  · have := equals_of_diffM_nil _ (.inl ⟨rfl, rfl⟩) rfl exA exD ex_docs.1 ex_docs.2.1
      ex_docs.2.2.2.2 h
    exact absurd this (by decide +kernel)

/-- the iff on a pair where both sides are false -/
example : diffM [.set] exA exD = [] ↔ equals [.set] exA exD = true :=
  diffM_nil_iff_equals _ (.inl ⟨rfl, rfl⟩) rfl exA exD ex_docs.1 ex_docs.2.1 ex_docs.2.2.2.2
    ex_faithful_set_D

/-- the version with the hypotheses of `diff_then_patch_set` on the example documents of
    JdProofs.SetDiffPatch (`{"s":[true,null,{"k":null}]}` against
    `{"s":[{"k":null},null,false],"t":null}`) -/
example (F : FloatEq0) :
    diffM [.set] SetDP.Example.exA SetDP.Example.exB = [] ↔
      equals [.set] SetDP.Example.exA SetDP.Example.exB = true :=
  diffM_nil_iff_equals_hashFaithful F _ (.inl ⟨rfl, rfl⟩) rfl _ _ SetDP.Example.ex_docs.1
    SetDP.Example.ex_docs.2.1 SetDP.Example.ex_hashFaithful_set

example (F : FloatEq0) :
    diffM [.mset] SetDP.Example.exA SetDP.Example.exB = [] ↔
      equals [.mset] SetDP.Example.exA SetDP.Example.exB = true :=
  diffM_nil_iff_equals_hashFaithful F _ (.inr rfl) rfl _ _ SetDP.Example.ex_docs.1
    SetDP.Example.ex_docs.2.1 SetDP.Example.ex_hashFaithful_mset

/-! SetKeys -/

theorem identInj_of_check {o : Opts} {S : List Json} (h : S.all (nodeIdentInj o) = true) :
    IdentInj o S := fun n hn => List.all_eq_true.1 h n hn

theorem kindSepI_of_check {o : Opts} {SA SB : List Json}
    (h : (SA.all fun x => SB.all fun y => identOf o x != identOf o y || x.isObj == y.isObj) = true) :
    KindSepI o SA SB :=
  fun x hx y hy e => eq_of_beq (pairs_of_check h x hx y hy e)

theorem kindSepH_of_check {o : Opts} {SA SB : List Json}
    (h : (SA.all fun x => SB.all fun y => hashCode o x != hashCode o y || x.isObj == y.isObj) = true) :
    KindSepH o SA SB :=
  fun x hx y hy e => eq_of_beq (pairs_of_check h x hx y hy e)

/-- all hypotheses of `diffM_nil_iff_equals_keys` about one pair of documents in one evaluation
    (the hash codes and identities of the sub-terms are computed once) -/
theorem keysHyps_of_check {o : Opts} {a b : Json}
    (h : ((subterms a).all (nodeIdentInj o) && (subterms b).all (nodeIdentInj o) &&
      (subterms a).all (fun x => (subterms b).all fun y =>
        (identOf o x != identOf o y || x.isObj == y.isObj) &&
        (hashCode o x != hashCode o y || (x.isObj == y.isObj && pairOK o x y)))) = true) :
    IdentInj o (subterms a) ∧ IdentInj o (subterms b) ∧ KindSepI o (subterms a) (subterms b) ∧
      KindSepH o (subterms a) (subterms b) ∧ DiffFaithful o (subterms a) (subterms b) := by
  simp only [Bool.and_eq_true, List.all_eq_true] at h
  refine ⟨fun n hn => h.1.1 n hn, fun n hn => h.1.2 n hn, fun x hx y hy e => ?_,
    fun x hx y hy e => ?_, fun x hx y hy e => ?_⟩
  · simpa [e] using (h.2 x hx y hy).1
  · have := (h.2 x hx y hy).2; simp [e] at this; exact this.1
  · have := (h.2 x hx y hy).2; simp [e] at this; exact this.2

def keysO : Opts := [.setKeys ["id"]]
/-- `[{"id":"k","v":["p","q"]},{"id":"l","v":"y"}]` -/
def kA : Json := .arr .raw [.obj [("id", .str "k"), ("v", .arr .raw [.str "p", .str "q"])],
  .obj [("id", .str "l"), ("v", .str "y")]]
/-- `[{"id":"l","v":"y"},{"id":"k","v":["q","p","p"]}]`: the same set -/
def kB : Json := .arr .raw [.obj [("id", .str "l"), ("v", .str "y")],
  .obj [("id", .str "k"), ("v", .arr .raw [.str "q", .str "p", .str "p"])]]
/-- `[{"id":"l","v":"y"},{"id":"k","v":["q","r"]}]`: the member with identity `k` has changed -/
def kD : Json := .arr .raw [.obj [("id", .str "l"), ("v", .str "y")],
  .obj [("id", .str "k"), ("v", .arr .raw [.str "q", .str "r"])]]

/-- every hypothesis of `diffM_nil_iff_equals_keys` holds for `kA`, `kB` (both sides true) and for
    `kA`, `kD` (both sides false: the object with identity `k` is sub-diffed) -/
theorem ex_keys (F : FloatEq0) :
    (equals keysO kA kB = true ∧ diffM keysO kA kB = []) ∧
    (equals keysO kA kD = false ∧ diffM keysO kA kD ≠ []) := by
  obtain ⟨b1, b2, b3, b4, b5⟩ := keysHyps_of_check (o := keysO) (a := kA) (b := kB) (by decide +kernel)
  obtain ⟨d1, d2, d3, d4, d5⟩ := keysHyps_of_check (o := keysO) (a := kA) (b := kD) (by decide +kernel)
  have iAB := diffM_nil_iff_equals_keys F keysO rfl rfl kA kB (by decide) (by decide) b1 b2 b3 b4 b5
  have iAD := diffM_nil_iff_equals_keys F keysO rfl rfl kA kD (by decide) (by decide) d1 d2 d3 d4 d5
  have e1 : equals keysO kA kB = true := by decide +kernel
  have e2 : equals keysO kA kD = false := by decide +kernel
  exact ⟨⟨e1, iAB.2 e1⟩, ⟨e2, fun h => by rw [iAD.1 h] at e2; cases e2⟩⟩

end Example

/-! ## 5. the hypotheses are needed; where the property is false -/

namespace Witness

/-- `[{"a":""}]` -/
def wa : Json := .arr .raw [.obj [("a", .str "")]]
/-- `[{"a":[]}]` -/
def wb : Json := .arr .raw [.obj [("a", .arr .raw [])]]

/-- **(⇐) is FALSE without the no-collision hypothesis, SET reading, both strategies** (a
    consequence of the known finding KF-C04-alias: the empty string and the empty set have the same
    hash code, hence so have `{"a":""}` and `{"a":[]}`): `[{"a":""}]` and `[{"a":[]}]` are `Equals`
    under SET, and their diff is not empty (the two members are matched by hash code and then
    compared member by member). Confirmed on the Go code. -/
theorem alias_breaks_converse :
    wa.rawDoc = true ∧ wa.wf = true ∧ wb.rawDoc = true ∧ wb.wf = true ∧
    equals [.set] wa wb = true ∧ diffM [.set] wa wb ≠ [] ∧
    equals [.set, .merge] wa wb = true ∧ diffM [.set, .merge] wa wb ≠ [] :=
  ⟨by decide, by decide, by decide, by decide, by decide +kernel,
    diffM_ne_nil_of_eval (by decide +kernel), by decide +kernel,
    diffM_ne_nil_of_eval (by decide +kernel)⟩

/-- the pair violates `DiffFaithful` (as it must) -/
theorem alias_not_faithful : ¬ DiffFaithful [.set] (subterms wa) (subterms wb) := fun FH =>
  alias_breaks_converse.2.2.2.2.2.1
    (diffM_nil_of_equals _ (.inl ⟨rfl, rfl⟩) rfl wa wb (by decide) (by decide) (by decide) FH
      alias_breaks_converse.2.2.2.2.1)

/-- in the MULTISET reading the same pair is harmless: the multiset diff never looks inside a member,
    `DiffFaithful` holds, the documents are `Equals` and the diff is empty -/
theorem alias_mset_consistent :
    DiffFaithful [.mset] (subterms wa) (subterms wb) ∧ equals [.mset] wa wb = true ∧
      diffM [.mset] wa wb = [] := by
  have FH : DiffFaithful [.mset] (subterms wa) (subterms wb) :=
    diffFaithful_of_check (by decide +kernel)
  have e : equals [.mset] wa wb = true := by decide +kernel
  exact ⟨FH, e,
    diffM_nil_of_equals _ (.inr rfl) rfl wa wb (by decide) (by decide) (by decide) FH e⟩

/-- `["aedb68afb","b7cdeb749"]` -/
def ca : Json := .arr .raw [.str "aedb68afb", .str "b7cdeb749"]
/-- `["a568b3ad2","b76a57d20"]` -/
def cb : Json := .arr .raw [.str "a568b3ad2", .str "b76a57d20"]

/-- **(⇐) is FALSE outright, SET and MULTISET readings, both strategies — no alias involved**: a
    genuine FNV-1a 64 collision. The four strings have four different hash codes, but the two
    16-byte strings "sorted hash codes of the members" of `ca` and of `cb` have the same FNV-1a hash
    code, so `ca` and `cb` (arrays of strings, no member in common) are `Equals` under SET and under
    MULTISET, while their diff removes two members and adds two. (Found by a parallel collision
    search, about 2³² evaluations; confirmed on the Go code: `Equals` returns true, `Diff` has one
    hunk.) This is why `DiffFaithful` has a clause for array nodes. -/
theorem fnv_collision_breaks_converse :
    ca.rawDoc = true ∧ ca.wf = true ∧ cb.rawDoc = true ∧ cb.wf = true ∧
    (∀ o ∈ setOptions, equals o ca cb = true ∧ diffM o ca cb ≠ []) := by
  refine ⟨by decide, by decide, by decide, by decide, fun o ho => ?_⟩
  simp only [setOptions, List.mem_cons, List.not_mem_nil, or_false] at ho
  rcases ho with rfl | rfl | rfl | rfl <;>
    exact ⟨by decide +kernel, diffM_ne_nil_of_eval (by decide +kernel)⟩

/-- no alias: the four members have four different hash codes, none of them shared -/
theorem fnv_collision_members_distinct :
    (hashList [.set] [.str "aedb68afb", .str "b7cdeb749", .str "a568b3ad2", .str "b76a57d20"]).Nodup := by
  decide +kernel

/-- why `rawDoc` on the left: a `jsonSet`-typed node against a plain array is `Equals` but the diff
    replaces it wholesale (model only: a `jsonSet` exists in Go only as the result of `dispatch`,
    and `jsonArray.diff` dispatches both sides) -/
theorem typed_set_left_is_excluded (m : Bool) :
    equals [.set] (.arr .set []) (.arr .raw []) = true ∧
      diffNode [.set] m (.arr .set []) (.arr .raw []) [] ≠ [] := by
  refine ⟨by decide +kernel, ?_⟩
  rw [diffNode.eq_def]
  cases m <;> simp [effTag, Json.nodeList, Json.isVoid]

/-! ### SetKeys: both directions are FALSE when two members of one set have the same identity
  (defect class KF-C01-identperm); confirmed on the Go code -/

abbrev ox : Json := .obj [("id", .str "k"), ("v", .str "x")]
abbrev oy : Json := .obj [("id", .str "k"), ("v", .str "y")]
/-- `[{"id":"k","v":"x"},{"id":"k","v":"y"}]` -/
def ka : Json := .arr .raw [ox, oy]
/-- `[{"id":"k","v":"y"}]` -/
def kb : Json := .arr .raw [oy]
/-- `[{"id":"k","v":"y"},{"id":"k","v":"x"}]`: the members of `ka` in the other order -/
def kc : Json := .arr .raw [oy, ox]
def ko : Opts := [.setKeys ["id"]]

/-! Kernel evaluations of the hash on small values. They tie the regenerated seed tables of
    JdModel/Gen/Seeds.lean to the values this block was written against: a changed or dropped seed
    breaks them, whereas the evaluated runs below would not notice. -/
theorem ident_xy : identOf ko ox = identOf ko oy := by decide +kernel

/-- **(⇒) is FALSE under SetKeys**: `ka` has two members with the same key value; only the last one
    is compared; the diff against `kb` is empty although the documents are not `Equals` -/
theorem setkeys_forward_fails :
    ka.setDoc = true ∧ kb.setDoc = true ∧ equals ko ka kb = false ∧ diffM ko ka kb = [] :=
  ⟨by decide, by decide, by decide +kernel, diffM_of_eqb (by decide +kernel)⟩

/-- **(⇐) is FALSE under SetKeys**, without any hash collision: `ka` and `kc` have the same
    members, they are `Equals`, but the diff compares the LAST member of each side bearing the
    shared identity, `oy` against `ox`, and is not empty -/
theorem setkeys_converse_fails :
    ka.setDoc = true ∧ kc.setDoc = true ∧ equals ko ka kc = true ∧ diffM ko ka kc ≠ [] :=
  ⟨by decide, by decide, by decide +kernel, diffM_ne_nil_of_eval (by decide +kernel)⟩

/-- the two pairs are outside the domain of the SetKeys theorems: identities do not tell the
    members of `ka` apart -/
theorem ka_not_identInj : ¬ IdentInj ko (subterms ka) := fun h =>
  absurd (h ka (mem_subterms_self ka)) (by decide +kernel)

/-- why `wf` (unique keys, the invariant standing for Go maps): with a duplicated key the model's
    `Equals` compares the numbers of bindings, the diff does not (not reachable in Go) -/
theorem dup_keys_excluded :
    equals [.set] (.obj [("a", .str "x"), ("a", .str "x")]) (.obj [("a", .str "x")]) = false ∧
      diffM [.set] (.obj [("a", .str "x"), ("a", .str "x")]) (.obj [("a", .str "x")]) = [] :=
  ⟨by decide +kernel, diffM_of_eqb (by decide +kernel)⟩

end Witness

end Jd.DES

-- the witnesses, evaluated
#eval (Jd.equals [.set] Jd.DES.Witness.wa Jd.DES.Witness.wb,
  Jd.diffM [.set] Jd.DES.Witness.wa Jd.DES.Witness.wb)
#eval (Jd.equals [.mset] Jd.DES.Witness.ca Jd.DES.Witness.cb,
  Jd.diffM [.mset] Jd.DES.Witness.ca Jd.DES.Witness.cb)
#eval (Jd.equals Jd.DES.Witness.ko Jd.DES.Witness.ka Jd.DES.Witness.kb,
  Jd.diffM Jd.DES.Witness.ko Jd.DES.Witness.ka Jd.DES.Witness.kb)
#eval (Jd.equals Jd.DES.Witness.ko Jd.DES.Witness.ka Jd.DES.Witness.kc,
  Jd.diffM Jd.DES.Witness.ko Jd.DES.Witness.ka Jd.DES.Witness.kc)

#print axioms Jd.DES.equals_of_diffNode_nil
#print axioms Jd.DES.diffNode_nil_of_equals
#print axioms Jd.DES.equals_of_diffM_nil
#print axioms Jd.DES.diffM_nil_of_equals
#print axioms Jd.DES.diffM_nil_iff_equals
#print axioms Jd.DES.c05_setmodes
#print axioms Jd.DES.diffFaithful_of_hashFaithful
#print axioms Jd.DES.diffM_nil_iff_equals_hashFaithful
#print axioms Jd.DES.Example.ex_set
#print axioms Jd.DES.Example.ex_mset
#print axioms Jd.DES.Example.ex_ne
#print axioms Jd.DES.Witness.alias_breaks_converse
#print axioms Jd.DES.Witness.alias_not_faithful
#print axioms Jd.DES.Witness.fnv_collision_breaks_converse
#print axioms Jd.DES.Witness.fnv_collision_members_distinct
#print axioms Jd.DES.Witness.alias_mset_consistent
#print axioms Jd.DES.Witness.typed_set_left_is_excluded
#print axioms Jd.DES.equals_of_diffNode_nil_keys
#print axioms Jd.DES.diffNode_nil_of_equals_keys
#print axioms Jd.DES.diffM_nil_iff_equals_keys
#print axioms Jd.DES.Example.ex_keys
#print axioms Jd.DES.Witness.setkeys_forward_fails
#print axioms Jd.DES.Witness.setkeys_converse_fails
#print axioms Jd.DES.Witness.ka_not_identInj
#print axioms Jd.DES.Witness.dup_keys_excluded
