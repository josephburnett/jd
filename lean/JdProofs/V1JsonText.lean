/-
  JdProofs.V1JsonText (namespace `Jd.V1T`) — property C18 (v1 library `lib/`) at the level of the JSON
  TEXT: the strings that `Diff.RenderMerge()` / `Diff.RenderPatch()` return and that
  `ReadMergeString` / `ReadPatchString` parse. The value-level C18 theorems (V1MergeRender,
  V1PatchRender) stop at the patch DOCUMENT (`V1.renderMergeDoc`, `V1.renderPatchOps`); here they are
  composed with the print / parse round trip of the model's JSON codec (JsonTextRoundTrip, `Jd.JText`).

  Library functions: `V1.diffM`, `V1.renderMergeM nc` (= `RenderMerge`), `V1.readMergeM nc`
  (= `ReadMergeString`), `V1.renderPatchM nc` (= `RenderPatch`), `V1.readPatchM nc`
  (= `ReadPatchString`), `V1.patchM` / `V1.patchP` (= `Patch`), `V1.equals m`, `parseJson nc`
  (= `json.Unmarshal`). Independent specifications: `Spec.mergePatch` (RFC 7386), `Spec.opsOfJson` +
  `Spec.eval` (RFC 6902, JdSpec/Rfc6902.lean — shares nothing with jd's reader), `specEq`.

  Merge half: `v1_merge_text_rfc`, `v1_merge_text_readback` (and `…_obj` without "that differ" when
  `a` is an object); the exclusion `a.isObj ∨ b ≠ {}` of the read-back is witnessed at the text level
  for every non-object `a` by `v1_text_witness_readback_nonobj_to_empty_object` (KF-C12-emptyobj).
  Patch half: `v1_patch_text_rfc`, `v1_patch_text_readback` (and `…_noDash`). What the reader gets
  back is `untag` of what was printed (every array a plain `jsonArray`); `patch_core` and
  `merge_text_core` carry that through.

  The codec facts that are HYPOTHESES, on the INPUT documents (the printed values are parts of them:
  `diff_valsP`, `tok_pdoc`):
    `JText.NumOK nc x`  every number of `x` is printed as one JSON number token that `nc` reads back.
        `nc : NumCodec` is the graph of `strconv.FormatFloat` / `ParseFloat` supplied by the harness, a
        parameter of the model, so this cannot be a theorem (integers below 10^15: `JText.numOK_int`).
        Necessary: `Witness.numOK_needed_merge`, `Witness.numOK_needed_patch`,
        `Witness.numOK_a_needed_patch` (`null → 10^15`, `10^15 → null` with the codec that knows no
        token: the text is produced and the model's readers reject it; a remark on the model, not Go).
    `Yaml.voidFree x`   no void node inside `x` and `x` is not void (what every reader produces). The
        value-level theorems need only `objVoidFree b` / `V1P.vfree`; necessary beyond that for the
        merge half: `Witness.voidFree_needed_merge` (`b = [void]`: the text is `[""]`). For the patch
        half the difference is only "the root is not void"; whether the text theorems hold there is
        not decided — such an `a` is not the parse of any text.

  NOT PROVED: non-integral numbers (`NumOK` is a hypothesis for them); SET / MULTISET metadata; reading
  texts the model did not print; `a` or `b` void in the patch half.
-/
import JdModel
import JdSpec
import JdProofs.JsonTextRoundTrip
import JdProofs.V1MergeRender
import JdProofs.V1PatchRender
import JdProofs.V1SetDiffPatch

set_option linter.deprecated false
set_option linter.unusedVariables false

namespace Jd.V1T
open Jd Jd.Spec

/-! ## 1. what the text layer does to a list document: `untag` -/

theorem rawNorm_listDoc : ∀ v : Json, v.listDoc = true → V1.rawNorm v = untag v :=
  fun v h => JText.V1T.isRawNorm_v1.eq_untag v (JText.setFree_of_listDoc v h)

theorem rawNormList_listDoc : ∀ xs : List Json, listDocList xs = true → V1.rawNormList xs = untagList xs :=
  fun xs h => by
    have := rawNorm_listDoc (.arr .raw xs) (by simpa [Json.listDoc] using h)
    rw [V1.rawNorm, untag] at this <;> first | exact (Json.arr.inj this).2 | exact nofun

theorem rawNormKvs_listDoc : ∀ kvs : List (String × Json), listDocKvs kvs = true →
    V1.rawNormKvs kvs = untagKvs kvs :=
  fun kvs h => Json.obj.inj (by simpa [V1.rawNorm, untag] using rawNorm_listDoc (.obj kvs) h)

theorem mnorm_listDoc : ∀ v : Json, v.listDoc = true → Yaml.voidFree v = true →
    JText.V1T.mnorm v = untag v :=
  fun v h hv => JText.V1T.isMNorm_v1.eq_untag JText.V1T.isRawNorm_v1 v hv
    (JText.mSetFree_of_setFree v (JText.setFree_of_listDoc v h))

theorem mnormList_listDoc : ∀ xs : List Json, listDocList xs = true → Yaml.voidFreeList xs = true →
    JText.V1T.mnormList xs = untagList xs :=
  fun xs h hv => by
    have := mnorm_listDoc (.arr .raw xs) (by simpa [Json.listDoc] using h) hv
    rw [JText.V1T.mnorm, untag] at this
    exact (Json.arr.inj this).2

theorem vfree_of_voidFree : ∀ v : Json, Yaml.voidFree v = true → V1P.vfree v = true :=
  fun v h => V1P.vfree_eq v ▸ PRC.vfree_of_voidFree v h

theorem vfreeList_of_voidFree : ∀ xs : List Json, Yaml.voidFreeList xs = true →
    V1P.vfreeList xs = true := fun xs h => by
  rw [V1P.vfreeList_eq_all, List.all_eq_true]
  intro x hx
  have hv := List.all_eq_true.1 (Yaml.voidFreeList_eq_all _ ▸ h) x hx
  rw [Yaml.voidFree_notVoid hv, vfree_of_voidFree x hv]; rfl

theorem vfreeKvs_of_voidFree : ∀ kvs : List (String × Json), Yaml.voidFreeKvs kvs = true →
    V1P.vfreeKvs kvs = true := fun kvs h => by
  rw [V1P.vfreeKvs_eq_all, List.all_eq_true]
  intro kv hkv
  have hv := List.all_eq_true.1 (Yaml.voidFreeKvs_eq_all _ ▸ h) kv hkv
  rw [Yaml.voidFree_notVoid hv, vfree_of_voidFree kv.2 hv]; rfl


/-! ## 2. JSON Patch: the diff with its values untagged -/

section Patch
open Jd.V1P Jd.V1R Jd.V1S

mutual
theorem finiteNums_untag : ∀ v : Json, (untag v).finiteNums = v.finiteNums
  | .void => rfl
  | .null => rfl
  | .bool _ => rfl
  | .num _ => rfl
  | .str _ => rfl
  | .arr t xs => by simp [untag, Json.finiteNums, finiteNumsList_untag xs]
  | .obj kvs => by simp [untag, Json.finiteNums, finiteNumsKvs_untag kvs]
theorem finiteNumsList_untag : ∀ xs : List Json, finiteNumsList (untagList xs) = finiteNumsList xs
  | [] => rfl
  | x :: r => by simp [untagList, finiteNumsList, finiteNums_untag x, finiteNumsList_untag r]
theorem finiteNumsKvs_untag : ∀ kvs : List (String × Json),
    finiteNumsKvs (untagKvs kvs) = finiteNumsKvs kvs
  | [] => rfl
  | (k, v) :: r => by simp [untagKvs, finiteNumsKvs, finiteNums_untag v, finiteNumsKvs_untag r]
end

/-- the hunk with its values through `untag` -/
def untagH (h : V1.Hunk) : V1.Hunk :=
  { path := h.path, old := h.old.map untag, new := h.new.map untag }

theorem singleValue_map_untag (l : List Json) :
    Json.singleValue (l.map untag) = untag (Json.singleValue l) := by
  cases l <;> rfl

theorem hk_untagH {h : V1.Hunk} (hk : HK h) : HK (untagH h) where
  hok := ⟨hk.hok.plain, by simpa [untagH] using hk.hok.old, by simpa [untagH] using hk.hok.new⟩
  nodash := hk.nodash
  ne := by
    simp only [untagH, singleValue_map_untag, untag_isVoid]
    exact hk.ne
  oldOK := by
    intro o ho
    simp only [untagH, List.mem_map] at ho
    obtain ⟨o', ho', rfl⟩ := ho
    obtain ⟨h1, h2, h3, h4⟩ := hk.oldOK o' ho'
    exact ⟨untag_listDoc o', by rw [untag_wf]; exact h2, by rw [finiteNums_untag]; exact h3,
      by rw [untag_isVoid]; exact h4⟩
  newOK := by
    intro o ho
    simp only [untagH, List.mem_map] at ho
    obtain ⟨o', ho', rfl⟩ := ho
    obtain ⟨h1, h2⟩ := hk.newOK o' ho'
    exact ⟨untag_listDoc o', by rw [untag_wf]; exact h2⟩
  newV := by
    rcases hk.newV with h | h
    · left
      intro o ho
      simp only [untagH, List.mem_map] at ho
      obtain ⟨o', ho', rfl⟩ := ho
      rw [untag_isVoid]; exact h o' ho'
    · right; exact h

theorem remOpsOf_untag (s : String) (l : List Json) :
    remOpsOf s (nv (l.map untag)) = (remOpsOf s (nv l)).map JText.untagOp := by
  rw [remOpsOf_eq (noVoid_nv _), remOpsOf_eq (noVoid_nv _), V1R.nv_map_untag, List.flatMap_map,
    List.map_flatMap]
  rfl

theorem addOpsOf_untag (s : String) (l : List Json) :
    addOpsOf s (nv (l.map untag)) = (addOpsOf s (nv l)).map JText.untagOp := by
  rw [addOpsOf_eq (noVoid_nv _), addOpsOf_eq (noVoid_nv _), V1R.nv_map_untag, ← List.map_reverse,
    List.map_map, List.map_map]
  rfl

theorem renderPatchHunk_untag (p : V1.PPath) (old new : List Json) (ops : List PatchOp)
    (e : V1.renderPatchHunk { path := p, old := old, new := new } = .ok ops) :
    V1.renderPatchHunk { path := p, old := old.map untag, new := new.map untag } =
      .ok (ops.map JText.untagOp) := by
  obtain ⟨s, hw, hg, rfl⟩ := renderPatchHunk_inv e
  rw [renderPatchHunk_ops, hw]
  simp only [Outcome.bind_ok, List.length_map, List.isEmpty_map, if_neg hg, remOpsOf_untag,
    addOpsOf_untag, List.map_append]

theorem renderPatchOps_untag : ∀ (d : V1.VDiff) (ops : List PatchOp),
    V1.renderPatchOps (V1.liftDiff d) = .ok ops →
    V1.renderPatchOps (V1.liftDiff (d.map untagH)) = .ok (ops.map JText.untagOp)
  | [], ops, e => by
    simp only [V1.liftDiff, List.map_nil, V1.renderPatchOps, Outcome.ok.injEq] at e
    subst e; rfl
  | h :: d, ops, e => by
    obtain ⟨a, b, h1, h2, rfl⟩ := renderPatchOps_cons_inv e
    rw [List.map_append]
    exact renderPatchOps_cons (renderPatchHunk_untag _ _ _ a h1) (renderPatchOps_untag d b h2)


/-- a predicate on documents inherited by the parts of a document, whatever the array tags -/
structure Closed (P : Json → Prop) : Prop where
  elem : ∀ {t xs x}, P (.arr t xs) → x ∈ xs → P x
  member : ∀ {kvs k v}, P (.obj kvs) → (k, v) ∈ kvs → P v
  retag : ∀ {t xs} (t' : Tag), P (.arr t xs) → P (.arr t' xs)

theorem Closed.dispatch {P : Json → Prop} (C : Closed P) (m : V1.Metas) {y : Json} (h : P y) :
    P (V1.dispatch m y) := by
  cases y with
  | arr t ys => cases t <;> first | exact h | exact C.retag _ h
  | _ => exact h

/-- every value of the hunk satisfies `P` -/
def VP (P : Json → Prop) (h : V1.Hunk) : Prop := (∀ v ∈ h.old, P v) ∧ (∀ v ∈ h.new, P v)

/-- **the values of a list-mode diff are parts of the two documents**: every predicate inherited by
    parts (and blind to array tags) that holds of `a` and `b` holds of every value of `a.Diff(b)` -/
theorem diff_valsP (P : Json → Prop) (C : Closed P) (m : V1.Metas) (hm : ListMode m)
    (a b : Json) (ha : a.listDoc = true) (hb : b.listDoc = true) (pa : P a) (pb : P b) :
    ∀ h ∈ V1.diffNode m false a b [], VP P h := fun h hh =>
  have q := (V1L.diff_parts P (fun _ => True) C.elem (fun h hm' => ⟨trivial, C.member h hm'⟩)
    (C.retag _) m hm.tag) a b ha hb (fun _ => pa) pb h hh
  ⟨q.old, q.new⟩

/-- the part of the codec domain that is inherited by parts: no void inside, every number
    round-trips through the number codec -/
def TOK (nc : NumCodec) (v : Json) : Prop := Yaml.voidFree v = true ∧ JText.NumOK nc v = true

theorem hered_tok (nc : NumCodec) : Hered (TOK nc) := hered_voidFree.and (JText.hered_numOK nc)

theorem putP_tok (nc : NumCodec) : PutP (TOK nc) := putP_voidFree.and (JText.putP_numOK nc)

theorem TOK.closed (nc : NumCodec) : Closed (TOK nc) where
  elem := (hered_tok nc).elem
  member := (hered_tok nc).member
  retag := by
    intro t xs t' h
    simpa only [TOK, Yaml.voidFree, JText.NumOK] using h

/-- the values of the operations are values of the hunks -/
theorem renderPatchHunk_vals {Q : Json → Prop} (p : V1.PPath) (old new : List Json)
    (ops : List PatchOp) (e : V1.renderPatchHunk { path := p, old := old, new := new } = .ok ops)
    (ho : ∀ v ∈ old, Q v) (hn : ∀ v ∈ new, Q v) : ∀ o ∈ ops, Q o.value := by
  obtain ⟨s, _, _, rfl⟩ := renderPatchHunk_inv e
  intro o hmem
  rcases List.mem_append.1 hmem with hmem | hmem
  · rw [remOpsOf_eq (noVoid_nv _)] at hmem
    obtain ⟨v, hv, hov⟩ := List.mem_flatMap.1 hmem
    simp only [List.mem_cons, List.not_mem_nil, or_false] at hov
    rcases hov with rfl | rfl <;> exact ho v (nv_sub hv)
  · rw [addOpsOf_eq (noVoid_nv _)] at hmem
    obtain ⟨v, hv, rfl⟩ := List.mem_map.1 hmem
    exact hn v (nv_sub (List.mem_reverse.1 hv))

theorem renderPatchOps_vals {Q : Json → Prop} : ∀ (d : V1.VDiff) (ops : List PatchOp),
    V1.renderPatchOps (V1.liftDiff d) = .ok ops → (∀ h ∈ d, VP Q h) → ∀ o ∈ ops, Q o.value
  | [], ops, e, _ => by
    simp only [V1.liftDiff, List.map_nil, V1.renderPatchOps, Outcome.ok.injEq] at e
    subst e; simp
  | h :: d, ops, e, hd => by
    obtain ⟨a, b, h1, h2, rfl⟩ := renderPatchOps_cons_inv e
    intro o ho
    rcases List.mem_append.1 ho with ho | ho
    · exact renderPatchHunk_vals _ _ _ a h1 (hd h List.mem_cons_self).1
        (hd h List.mem_cons_self).2 o ho
    · exact renderPatchOps_vals d b h2 (fun h' hh' => hd h' (List.mem_cons_of_mem _ hh')) o ho

/-- the printed JSON Patch text and what it parses to, for values on which `json.Marshal` only
    erases tags: the operations with untagged values, as documents -/
theorem renderPatchM_parse (nc : NumCodec) (d : V1.PDiff) (ops : List PatchOp)
    (hops : V1.renderPatchOps d = .ok ops) (hok : ∀ p ∈ ops, JText.mOK nc p.value = true)
    (hu : ∀ p ∈ ops, JText.V1T.mnorm p.value = untag p.value) :
    ∃ text, V1.renderPatchM nc d = .ok (some text) ∧
      parseJson nc text = some (.arr .raw ((ops.map JText.untagOp).map JText.opJson)) := by
  have e : ops.map JText.V1T.normOp = ops.map JText.untagOp :=
    List.map_congr_left fun p hp => by simp only [JText.V1T.normOp, JText.untagOp, hu p hp]
  obtain ⟨text, h1, h2⟩ := JText.parse_opJsons nc (ops.map JText.untagOp) (by
    intro p hp
    obtain ⟨q, hq, rfl⟩ := List.mem_map.1 hp
    simp only [JText.untagOp, ← hu q hq]
    exact ⟨JText.V1T.preOK_mnorm nc _ (hok q hq), JText.V1T.rawDoc_mnorm _⟩)
  refine ⟨text, ?_, h2⟩
  rw [JText.V1T.renderPatchM_eq, hops]
  exact congrArg Outcome.ok ((JText.V1T.map_opDoc ops).trans (congrArg _ e) ▸ h1)

/-- everything the two text-level theorems share -/
theorem patch_core (L : FloatLaws) {N : Nat} (I : IdxLaws N) (nc : NumCodec)
    (m : V1.Metas) (hm : ListMode m) (a b : Json)
    (ha1 : a.listDoc = true) (ha2 : a.wf = true) (ha3 : a.finiteNums = true)
    (ha4 : Yaml.voidFree a = true) (ha5 : lenLe N a = true) (ha6 : JText.NumOK nc a = true)
    (hb1 : b.listDoc = true) (hb2 : b.wf = true) (hb3 : b.finiteNums = true)
    (hb4 : Yaml.voidFree b = true) (hb6 : JText.NumOK nc b = true)
    (hdash : ∀ h ∈ V1.diffM m a b, noDashP h.path = true) :
    ∃ ops text r0 r',
      V1.renderPatchOps (V1.liftDiff (V1.diffM m a b)) = .ok ops ∧
      V1.renderPatchM nc (V1.liftDiff (V1.diffM m a b)) = .ok (some text) ∧
      parseJson nc text = some (.arr .raw ((ops.map JText.untagOp).map JText.opJson)) ∧
      V1.renderPatchOps (V1.liftDiff ((V1.diffM m a b).map untagH)) = .ok (ops.map JText.untagOp) ∧
      V1.patchAll a (V1.diffM m a b) = .ok r0 ∧
      V1.patchAll a ((V1.diffM m a b).map untagH) = .ok r' ∧
      untag r' = untag r0 ∧ r'.listDoc = true ∧ specEq r0 b = true ∧ specEq b r0 = true ∧
      (∀ h ∈ (V1.diffM m a b).map untagH, HK h ∧ V1L.idxP N h.path) := by
  have hd : V1.diffM m a b = V1.diffNode m false a b [] := by
    unfold V1.diffM; rw [hm.noMerge]
  have va := vfree_of_voidFree a ha4
  have vb := vfree_of_voidFree b hb4
  have hbv := Yaml.voidFree_notVoid hb4
  rw [hd] at hdash ⊢
  have hHK : ∀ h ∈ V1.diffNode m false a b [], HK h ∧ V1L.idxP N h.path := fun h hh =>
    diff_HK m hm a b ha1 ha2 ha3 va ha5 hb1 hb2 hb3 vb h hh (hdash h hh)
  have hVH : ∀ h ∈ V1.diffNode m false a b [], HOK h ∧ VH h := fun h hh =>
    ⟨(hHK h hh).1.hok, diff_vals m hm.tag ha1 hb1 va vb hbv h hh⟩
  have hT : ∀ h ∈ V1.diffNode m false a b [], VP (TOK nc) h :=
    diff_valsP (TOK nc) (TOK.closed nc) m hm a b ha1 hb1 ⟨ha4, ha6⟩ ⟨hb4, hb6⟩
  obtain ⟨r0, p1, p2, p3⟩ := diff_correct L I m hm a b ha1 hb1 (Dom.mk' ha1 ha2 ha3 va)
    (Dom.mk' hb1 hb2 hb3 vb) ha5
  obtain ⟨ops, hr, _, _, _, _⟩ := diff_sim L _ ha1 ha2 rfl (fun h hh => (hHK h hh).1) p1
  -- the values of the operations
  have hQ : ∀ h ∈ V1.diffNode m false a b [],
      VP (fun v => v.listDoc = true ∧ v.wf = true ∧ TOK nc v) h := by
    intro h hh
    have hk := (hHK h hh).1
    exact ⟨fun v hv => ⟨(hk.oldOK v hv).1, (hk.oldOK v hv).2.1, (hT h hh).1 v hv⟩,
      fun v hv => ⟨(hk.newOK v hv).1, (hk.newOK v hv).2, (hT h hh).2 v hv⟩⟩
  have hvals := renderPatchOps_vals _ ops hr hQ
  have hok : ∀ p ∈ ops, JText.mOK nc p.value = true := by
    intro p hp
    obtain ⟨_, h2, h3, h4⟩ := hvals p hp
    apply JText.mOK_of_preOK
    rw [JText.preOK_iff, h2, h3, h4]; rfl
  obtain ⟨text, ht1, ht2⟩ := renderPatchM_parse nc _ ops hr hok
    (fun p hp => mnorm_listDoc _ (hvals p hp).1 (hvals p hp).2.2.1)
  -- the untagged diff
  have hnd : normDiff (V1.diffNode m false a b []) = (V1.diffNode m false a b []).map untagH := by
    unfold normDiff
    apply List.map_congr_left
    intro h hh
    rw [normHunk_plain (hVH h hh).1 (hVH h hh).2]; rfl
  obtain ⟨r', hp, hs'⟩ := patchAll_untag _ hVH a a r0 ⟨rfl, ha1, ha1⟩ p1
  rw [hnd] at hp
  refine ⟨ops, text, r0, r', hr, ht1, ht2, renderPatchOps_untag _ ops hr, p1, hp,
    hs'.1.symm, hs'.2.2, p2.1, p2.2, ?_⟩
  intro h hh
  obtain ⟨h0, hh0, rfl⟩ := List.mem_map.1 hh
  exact ⟨hk_untagH (hHK h0 hh0).1, (hHK h0 hh0).2⟩


/-- **C18, JSON Patch half, clause 1 at the TEXT level.** The text `Diff.RenderPatch()` returns for a
    list-mode v1 diff is produced (`.ok (some text)`), parses (`parseJson` = `json.Unmarshal`) to a
    document which the INDEPENDENT decoder `Spec.opsOfJson` reads as a list of RFC 6902 operations, and
    the independent evaluator `Spec.eval` applied to `a` yields a document structurally equal to `b`. -/
theorem v1_patch_text_rfc (L : FloatLaws) {N : Nat} (I : IdxLaws N) (nc : NumCodec)
    (m : V1.Metas) (hm : ListMode m) (a b : Json)
    (ha1 : a.listDoc = true) (ha2 : a.wf = true) (ha3 : a.finiteNums = true)
    (ha4 : Yaml.voidFree a = true) (ha5 : lenLe N a = true) (ha6 : JText.NumOK nc a = true)
    (hb1 : b.listDoc = true) (hb2 : b.wf = true) (hb3 : b.finiteNums = true)
    (hb4 : Yaml.voidFree b = true) (hb6 : JText.NumOK nc b = true)
    (hdash : ∀ h ∈ V1.diffM m a b, noDashP h.path = true) :
    ∃ text doc sops r,
      V1.renderPatchM nc (V1.liftDiff (V1.diffM m a b)) = .ok (some text) ∧
      parseJson nc text = some doc ∧ Spec.opsOfJson doc = some sops ∧
      (∀ o ∈ sops, o.op = "test" ∨ o.op = "remove" ∨ o.op = "add") ∧
      eval a sops = some r ∧ specEq r b = true ∧ specEq b r = true := by
  obtain ⟨ops, text, r0, r', hr, ht1, ht2, hru, p1, hp', hu, hl', s1, s2, hHK⟩ :=
    patch_core L I nc m hm a b ha1 ha2 ha3 ha4 ha5 ha6 hb1 hb2 hb3 hb4 hb6 hdash
  obtain ⟨ops', hr', hwf, _, _, r, hev, hur⟩ := diff_sim L _ ha1 ha2 rfl
    (fun h hh => (hHK h hh).1) hp'
  rw [hru] at hr'
  cases hr'
  refine ⟨text, _, _, r, ht1, ht2, JText.opsOfJson_opJsons _, ?_, hev, ?_, ?_⟩
  · intro o ho
    obtain ⟨o', ho', rfl⟩ := List.mem_map.1 ho
    exact hwf o' ho'
  · exact (specEq_left_of_untag_eq (hur.trans hu)).trans s1
  · exact (specEq_right_of_untag_eq (hur.trans hu)).trans s2

/-- **C18, JSON Patch half, clause 2 at the TEXT level.** `ReadPatchString` of the text
    `Diff.RenderPatch()` returns succeeds, and `a.Patch` of the diff read succeeds with a document
    that the v1 `Equals` (and `specEq`) identifies with `b`. -/
theorem v1_patch_text_readback (L : FloatLaws) {N : Nat} (I : IdxLaws N) (hN : N ≤ 2 ^ 63)
    (nc : NumCodec) (m : V1.Metas) (hm : ListMode m) (a b : Json)
    (ha1 : a.listDoc = true) (ha2 : a.wf = true) (ha3 : a.finiteNums = true)
    (ha4 : Yaml.voidFree a = true) (ha5 : lenLe N a = true) (ha6 : JText.NumOK nc a = true)
    (hb1 : b.listDoc = true) (hb2 : b.wf = true) (hb3 : b.finiteNums = true)
    (hb4 : Yaml.voidFree b = true) (hb6 : JText.NumOK nc b = true)
    (hdash : ∀ h ∈ V1.diffM m a b, noDashP h.path = true) :
    ∃ text d' r,
      V1.renderPatchM nc (V1.liftDiff (V1.diffM m a b)) = .ok (some text) ∧
      V1.readPatchM nc text = .ok d' ∧ V1.patchP a d' = .ok r ∧
      V1.equals m r b = true ∧ specEq r b = true ∧ specEq b r = true := by
  obtain ⟨ops, text, r0, r', hr, ht1, ht2, hru, p1, hp', hu, hl', s1, s2, hHK⟩ :=
    patch_core L I nc m hm a b ha1 ha2 ha3 ha4 ha5 ha6 hb1 hb2 hb3 hb4 hb6 hdash
  obtain ⟨ops', hr', hrd, hpp⟩ := diff_readBack L I hN _ ha1 ha2 hHK hp'
  rw [hru] at hr'
  cases hr'
  have hloop := hrd.loop ((ops.map JText.untagOp).length + 1) [] (Nat.lt_succ_of_le hrd.length_le)
  have s1' : specEq r' b = true := by exact (specEq_left_of_untag_eq hu).trans s1
  refine ⟨text, _, r', ht1, ?_, hpp, ?_, s1', ?_⟩
  · simp only [V1.readPatchM, ht2, V1.readPatchDoc, V1.patchOpsOfJson,
      JText.V1T.patchOpsOfJson_go_opJsons]
    simpa using hloop
  · rw [v1_equals_eq_specEq hm hl' hb1]; exact s1'
  · exact (specEq_right_of_untag_eq hu).trans s2

end Patch


/-! ## 3. JSON Merge Patch -/

section Merge
open Jd.Merge Jd.V1M

/-! ### 3.1 `untag` on merge patch documents -/

theorem untag_isNull (v : Json) : (untag v).isNull = v.isNull := by
  cases v <;> rfl

theorem untag_mergePatch : ∀ (p t : Json), untag (mergePatch t p) = mergePatch (untag t) (untag p) :=
  isRawNorm_untag.mergePatch

theorem untagKvs_mergeMembers : ∀ (pkvs t : List (String × Json)),
    untagKvs (mergeMembers t pkvs) = mergeMembers (untagKvs t) (untagKvs pkvs) :=
  fun pkvs t => by
    simp only [untagKvs_eq_map]
    exact isRawNorm_untag.mergeMembers pkvs (fun kv _ t => untag_mergePatch kv.2 t) t

mutual
theorem objVoidFree_untag : ∀ v : Json, objVoidFree (untag v) = objVoidFree v
  | .void => rfl
  | .null => rfl
  | .bool _ => rfl
  | .num _ => rfl
  | .str _ => rfl
  | .arr _ _ => by simp [untag, objVoidFree]
  | .obj kvs => by simp [untag, objVoidFree, objVoidFreeKvs_untag kvs]
theorem objVoidFreeKvs_untag : ∀ kvs : List (String × Json),
    objVoidFreeKvs (untagKvs kvs) = objVoidFreeKvs kvs
  | [] => rfl
  | (k, v) :: r => by simp [untagKvs, objVoidFreeKvs, objVoidFree_untag v, objVoidFreeKvs_untag r]
end

theorem untagKvs_isEmpty (kvs : List (String × Json)) : (untagKvs kvs).isEmpty = kvs.isEmpty := by
  cases kvs with
  | nil => rfl
  | cons kv r => obtain ⟨k, v⟩ := kv; simp [untagKvs]

mutual
theorem cleanIn_untag : ∀ (p t : Json), cleanIn t (untag p) = cleanIn t p
  | .obj pkvs, t => by
    have e : untag (Json.obj pkvs) = .obj (untagKvs pkvs) := by simp [untag]
    rw [e, cleanIn, cleanIn, untagKvs_isEmpty, cleanKvs_untag pkvs]
  | .arr _ _, _ => by simp [untag, cleanIn]
  | .void, _ => rfl
  | .null, _ => rfl
  | .bool _, _ => rfl
  | .num _, _ => rfl
  | .str _, _ => rfl
theorem cleanKvs_untag : ∀ (pkvs tkvs : List (String × Json)),
    cleanKvs tkvs (untagKvs pkvs) = cleanKvs tkvs pkvs
  | [], _ => rfl
  | (k, v) :: r, tkvs => by
    simp only [untagKvs, cleanKvs, cleanIn_untag v, cleanKvs_untag r]
end

theorem clean_untag (t p : Json) : Clean t (untag p) = Clean t p := by
  cases p with
  | obj pkvs =>
    cases pkvs with
    | nil => rfl
    | cons kv r =>
      obtain ⟨k, v⟩ := kv
      have := cleanIn_untag (.obj ((k, v) :: r)) t
      simpa [Clean, untag, untagKvs] using this
  | arr _ _ => simp [untag, Clean, cleanIn]
  | void => rfl
  | null => rfl
  | bool _ => rfl
  | num _ => rfl
  | str _ => rfl


/-! ### 3.2 the rendered patch document is made of parts of `b` -/

theorem tok_of_members (nc : NumCodec) : ∀ (kvs : List (String × Json)),
    (∀ k v, (k, v) ∈ kvs → TOK nc v) → TOK nc (.obj kvs)
  | [], _ => ⟨rfl, rfl⟩
  | (k, v) :: r, h => by
    have h1 := h k v List.mem_cons_self
    have h2 := tok_of_members nc r (fun k' v' hm => h k' v' (List.mem_cons_of_mem _ hm))
    simp only [TOK, Yaml.voidFree, JText.NumOK] at h2
    simp only [TOK, Yaml.voidFree, Yaml.voidFreeKvs, JText.NumOK, JText.NumOKKvs, h1.1, h1.2,
      h2.1, h2.2, Bool.and_self]
    exact ⟨trivial, trivial⟩

theorem tok_null (nc : NumCodec) : TOK nc .null := ⟨rfl, rfl⟩

theorem dlKvs_vals (nc : NumCodec) (o : Opts) (kvs' : List (String × Json))
    (hb : ∀ k v, (k, v) ∈ kvs' → TOK nc v) : ∀ (kvs : List (String × Json)),
    ∀ e ∈ dlKvs o kvs' kvs, e.2.isVoid = true ∨ TOK nc e.2 := fun kvs =>
  (pDiff_dl o).valsK kvs fun _ v v' _ hl =>
    (pDiff_dl o).vals (hered_tok nc).member ((TOK.closed nc).retag _) v v' (hb _ v' (mem_of_alookup hl))

theorem tok_pdoc (nc : NumCodec) (a b : Json) (hb : TOK nc b) (hd : dl [] a b ≠ []) :
    TOK nc (pdoc a b) := by
  refine (putP_tok nc).mapply_of_ne _ _ (fun kvs e => by cases e) (fun e he => ?_)
    (by simpa [rl] using hd)
  obtain ⟨e0, he0, rfl⟩ := List.mem_map.1 he
  rcases (pDiff_dl []).vals (hered_tok nc).member ((TOK.closed nc).retag _) a b hb e0 he0 with h | h
  · simp only [nulE, h, if_true]; exact tok_null nc
  · simp only [nulE, Yaml.voidFree_notVoid h.1]; exact h


/-! ### 3.3 the text-level theorems -/

mutual
theorem objVoidFree_of_voidFree : ∀ v : Json, Yaml.voidFree v = true → objVoidFree v = true
  | .null, _ => rfl
  | .bool _, _ => rfl
  | .num _, _ => rfl
  | .str _, _ => rfl
  | .arr _ _, _ => rfl
  | .obj kvs, h => by
    simp only [Yaml.voidFree] at h
    simp only [objVoidFree]; exact objVoidFreeKvs_of_voidFree kvs h
theorem objVoidFreeKvs_of_voidFree : ∀ kvs : List (String × Json), Yaml.voidFreeKvs kvs = true →
    objVoidFreeKvs kvs = true
  | [], _ => rfl
  | (k, v) :: r, h => by
    simp only [Yaml.voidFreeKvs, Bool.and_eq_true] at h
    simp [objVoidFreeKvs, objVoidFree_of_voidFree v h.1, objVoidFreeKvs_of_voidFree r h.2]
end

/-- the text of a NON-EMPTY v1 merge diff: it is produced, it is the JSON text of the rendered patch
    document `pdoc a b`, and both `json.Unmarshal` and `ReadMergeString` get `untag (pdoc a b)` (the
    same document with every array a plain `jsonArray`) out of it -/
theorem merge_text_core (L : FloatLaws) (nc : NumCodec) {m : V1.Metas} (hm : MergeMode m)
    (a b : Json) (haw : a.wf = true) (har : a.rawDoc = true)
    (hbw : b.wf = true) (hbr : b.rawDoc = true) (hbn : b.nullFree = true)
    (hbf : b.finiteNums = true) (hbv : Yaml.voidFree b = true) (hbN : JText.NumOK nc b = true)
    (hd : dl [] a b ≠ []) :
    ∃ text, V1.renderMergeM nc (V1.liftDiff (V1.diffM m a b)) = .ok (some text) ∧
      parseJson nc text = some (untag (pdoc a b)) ∧
      V1.readMergeM nc text = .ok (V1.readMergeDoc (untag (pdoc a b))) := by
  have hov := objVoidFree_of_voidFree b hbv
  have G : GoodB b := ⟨hbw, hbr, hbn, hov, hbf⟩
  have Qp := xnode L a haw har b G hd
  have hT := tok_pdoc nc a b ⟨hbv, hbN⟩ hd
  have hp : JText.preOK nc (pdoc a b) = true := by rw [JText.preOK_iff, Qp.wf, hT.1, hT.2]; rfl
  have hrd : V1.renderMergeDoc (V1.liftDiff (V1.diffM m a b)) = .ok (pdoc a b) := by
    rw [renderMergeDoc_diffM hm a b har haw (rawDoc_listDoc b hbr) hbw hov, if_neg hd]; rfl
  have hne : (V1.liftDiff (V1.diffM m a b)).isEmpty = false := by
    rw [diffM_eq_dl hm a b har haw (rawDoc_listDoc b hbr) hbw hov]
    cases h : dl [] a b with
    | nil => exact absurd h hd
    | cons e l => simp [V1.liftDiff]
  obtain ⟨s, h1, h2⟩ := JText.V1T.readMergeM_renderMergeM nc _ _ hrd (Or.inr hp)
  obtain ⟨s', j1, j2⟩ := JText.V1T.jsonM_parse nc (pdoc a b) Qp.wf hT.1 hT.2
  have hss : s = s' := by
    have := v1_renderMergeM_eq nc _ _ hrd hne
    rw [h1, j1] at this
    cases this; rfl
  subst hss
  rw [rawNorm_listDoc _ Qp.ld] at h2 j2
  exact ⟨s, h1, j2, h2⟩

theorem mergePatch_untag_right {a : Json} (har : a.rawDoc = true) (p : Json) :
    mergePatch a (untag p) = untag (mergePatch a p) := by
  rw [untag_mergePatch, Robust.untag_rawDoc a har]

/-- clause 1 for a non-empty `dl` (what both `v1_merge_text_rfc` and its `_obj` version use) -/
theorem merge_text_rfc_of_dl (L : FloatLaws) (nc : NumCodec) {m : V1.Metas} (hm : MergeMode m)
    (a b : Json) (haw : a.wf = true) (har : a.rawDoc = true)
    (hbw : b.wf = true) (hbr : b.rawDoc = true) (hbn : b.nullFree = true)
    (hbf : b.finiteNums = true) (hbv : Yaml.voidFree b = true) (hbN : JText.NumOK nc b = true)
    (hd : dl [] a b ≠ []) :
    ∃ text p, V1.renderMergeM nc (V1.liftDiff (V1.diffM m a b)) = .ok (some text) ∧
      parseJson nc text = some p ∧ p.isVoid = false ∧ p.isNull = false ∧
      specEq (mergePatch a p) b = true := by
  have S := (sound L [] rfl rfl a haw har b
    ⟨hbw, hbr, hbn, objVoidFree_of_voidFree b hbv, hbf⟩).2 hd
  obtain ⟨text, h1, h2, _⟩ := merge_text_core L nc hm a b haw har hbw hbr hbn hbf hbv hbN hd
  refine ⟨text, _, h1, h2, ?_, ?_, ?_⟩
  · rw [untag_isVoid]; exact S.1
  · rw [untag_isNull]; exact S.2.1
  · rw [mergePatch_untag_right har, specEq_untag_left]; exact S.2.2

/-- clause 2 for a non-empty `dl` -/
theorem merge_text_readback_of_dl (L : FloatLaws) (nc : NumCodec) {m : V1.Metas}
    (hm : MergeMode m) (a b : Json) (haw : a.wf = true) (har : a.rawDoc = true)
    (hbw : b.wf = true) (hbr : b.rawDoc = true) (hbn : b.nullFree = true)
    (hbf : b.finiteNums = true) (hbv : Yaml.voidFree b = true) (hbN : JText.NumOK nc b = true)
    (hd : dl [] a b ≠ []) (hab : a.isObj = true ∨ b ≠ .obj []) :
    ∃ text p d r, V1.renderMergeM nc (V1.liftDiff (V1.diffM m a b)) = .ok (some text) ∧
      parseJson nc text = some p ∧
      V1.readMergeM nc text = .ok d ∧ V1.patchM a d = .ok r ∧ r = mergePatch a p ∧
      V1.equals m r b = true ∧ specEq r b = true ∧ r.listDoc = true := by
  have G : GoodB b := ⟨hbw, hbr, hbn, objVoidFree_of_voidFree b hbv, hbf⟩
  have S := (sound L [] rfl rfl a haw har b G).2 hd
  obtain ⟨c1, c2, c3, c4⟩ := pdoc_clean L a b haw har G hd hab
  obtain ⟨text, h1, h2, h3⟩ := merge_text_core L nc hm a b haw har hbw hbr hbn hbf hbv hbN hd
  have hs : specEq (mergePatch a (untag (pdoc a b))) b = true := by
    rw [mergePatch_untag_right har, specEq_untag_left]; exact S.2.2
  have hl : (mergePatch a (untag (pdoc a b))).listDoc = true := by
    rw [mergePatch_untag_right har]; exact untag_listDoc _
  refine ⟨text, _, _, _, h1, h2, h3, ?_, rfl, ?_, hs, hl⟩
  · exact v1_merge_read_apply a _ haw (by rw [untag_wf]; exact c1)
      (by rw [objVoidFree_untag]; exact c2) (by rw [clean_untag]; exact c4)
  · rw [equals_eq_equivB hm hl (rawDoc_listDoc b hbr)]; exact hs

/-- **C18, merge half, clause 1 at the TEXT level.** For documents as read from JSON text, `b`
    null-free, that the v1 `Equals` tells apart: `Diff.RenderMerge()` returns a text, that text parses
    (`parseJson` = `json.Unmarshal`) to a document `p` (not void, not `null`), and RFC 7386
    `MergePatch(a, p)` is `b`. -/
theorem v1_merge_text_rfc (L : FloatLaws) (nc : NumCodec) {m : V1.Metas} (hm : MergeMode m)
    (a b : Json) (haw : a.wf = true) (har : a.rawDoc = true)
    (hbw : b.wf = true) (hbr : b.rawDoc = true) (hbn : b.nullFree = true)
    (hbf : b.finiteNums = true) (hbv : Yaml.voidFree b = true) (hbN : JText.NumOK nc b = true)
    (hne : V1.equals m a b = false) :
    ∃ text p, V1.renderMergeM nc (V1.liftDiff (V1.diffM m a b)) = .ok (some text) ∧
      parseJson nc text = some p ∧ p.isVoid = false ∧ p.isNull = false ∧
      specEq (mergePatch a p) b = true :=
  merge_text_rfc_of_dl L nc hm a b haw har hbw hbr hbn hbf hbv hbN
    (dl_ne_nil_of_ne L hm haw har ⟨hbw, hbr, hbn, objVoidFree_of_voidFree b hbv, hbf⟩ hne)

/-- **C18, merge half, clause 2 at the TEXT level.** Under the same hypotheses and not (`a` a
    non-object and `b = {}`): `ReadMergeString` of the text `Diff.RenderMerge()` returns succeeds, and
    `a.Patch` of the diff read succeeds with EXACTLY RFC 7386 `MergePatch(a, p)` for the parsed patch
    document `p`, which the v1 `Equals` (and `specEq`) identifies with `b`. -/
theorem v1_merge_text_readback (L : FloatLaws) (nc : NumCodec) {m : V1.Metas} (hm : MergeMode m)
    (a b : Json) (haw : a.wf = true) (har : a.rawDoc = true)
    (hbw : b.wf = true) (hbr : b.rawDoc = true) (hbn : b.nullFree = true)
    (hbf : b.finiteNums = true) (hbv : Yaml.voidFree b = true) (hbN : JText.NumOK nc b = true)
    (hne : V1.equals m a b = false) (hab : a.isObj = true ∨ b ≠ .obj []) :
    ∃ text p d r, V1.renderMergeM nc (V1.liftDiff (V1.diffM m a b)) = .ok (some text) ∧
      parseJson nc text = some p ∧
      V1.readMergeM nc text = .ok d ∧ V1.patchM a d = .ok r ∧ r = mergePatch a p ∧
      V1.equals m r b = true ∧ specEq r b = true ∧ r.listDoc = true :=
  merge_text_readback_of_dl L nc hm a b haw har hbw hbr hbn hbf hbv hbN
    (dl_ne_nil_of_ne L hm haw har ⟨hbw, hbr, hbn, objVoidFree_of_voidFree b hbv, hbf⟩ hne) hab

end Merge


/-! ## 4. decidable input conditions, witnesses, non-vacuity -/

section Final
open Jd.Merge Jd.V1M Jd.V1P Jd.V1R

/-- clause 1 of the JSON Patch half with the decidable key condition on the inputs -/
theorem v1_patch_text_rfc_noDash (L : FloatLaws) {N : Nat} (I : IdxLaws N) (nc : NumCodec)
    (m : V1.Metas) (hm : ListMode m) (a b : Json)
    (ha1 : a.listDoc = true) (ha2 : a.wf = true) (ha3 : a.finiteNums = true)
    (ha4 : Yaml.voidFree a = true) (ha5 : lenLe N a = true) (ha6 : JText.NumOK nc a = true)
    (hb1 : b.listDoc = true) (hb2 : b.wf = true) (hb3 : b.finiteNums = true)
    (hb4 : Yaml.voidFree b = true) (hb6 : JText.NumOK nc b = true)
    (hda : noDash a = true) (hdb : noDash b = true) :
    ∃ text doc sops r,
      V1.renderPatchM nc (V1.liftDiff (V1.diffM m a b)) = .ok (some text) ∧
      parseJson nc text = some doc ∧ Spec.opsOfJson doc = some sops ∧
      (∀ o ∈ sops, o.op = "test" ∨ o.op = "remove" ∨ o.op = "add") ∧
      eval a sops = some r ∧ specEq r b = true ∧ specEq b r = true :=
  v1_patch_text_rfc L I nc m hm a b ha1 ha2 ha3 ha4 ha5 ha6 hb1 hb2 hb3 hb4 hb6
    (noDash_diffM m hm a b ha1 hb1 hda hdb)

/-- clause 2 of the JSON Patch half with the decidable key condition on the inputs -/
theorem v1_patch_text_readback_noDash (L : FloatLaws) {N : Nat} (I : IdxLaws N) (hN : N ≤ 2 ^ 63)
    (nc : NumCodec) (m : V1.Metas) (hm : ListMode m) (a b : Json)
    (ha1 : a.listDoc = true) (ha2 : a.wf = true) (ha3 : a.finiteNums = true)
    (ha4 : Yaml.voidFree a = true) (ha5 : lenLe N a = true) (ha6 : JText.NumOK nc a = true)
    (hb1 : b.listDoc = true) (hb2 : b.wf = true) (hb3 : b.finiteNums = true)
    (hb4 : Yaml.voidFree b = true) (hb6 : JText.NumOK nc b = true)
    (hda : noDash a = true) (hdb : noDash b = true) :
    ∃ text d' r,
      V1.renderPatchM nc (V1.liftDiff (V1.diffM m a b)) = .ok (some text) ∧
      V1.readPatchM nc text = .ok d' ∧ V1.patchP a d' = .ok r ∧
      V1.equals m r b = true ∧ specEq r b = true ∧ specEq b r = true :=
  v1_patch_text_readback L I hN nc m hm a b ha1 ha2 ha3 ha4 ha5 ha6 hb1 hb2 hb3 hb4 hb6
    (noDash_diffM m hm a b ha1 hb1 hda hdb)

/-! ### witnesses -/

namespace Witness
open Jd.NativeRT (exCodec)

/-- 10^15 as a binary64: printed by the model itself, read back only through the codec -/
def big : Json := .num 0x430C6BF526340000

theorem dl_null (b : Json) (hb : b ≠ .null) (hv : b.isVoid = false) :
    dl [] .null b = [([], b)] := by
  cases b <;> simp_all [dl, equals, Json.isVoid, Json.isNull]

/-- the merge diff of `null` against any other document (not "no document"): the rendered patch
    document is that document -/
theorem merge_doc_null (b : Json) (hb : b ≠ .null) (hv : b.isVoid = false) (h1 : b.listDoc = true)
    (h2 : b.wf = true) (h3 : objVoidFree b = true) :
    V1.renderMergeDoc (V1.liftDiff (V1.diffM [.merge] .null b)) = .ok b := by
  rw [renderMergeDoc_diffM MergeMode.single .null _ rfl rfl h1 h2 h3]
  simp [rl, dl_null b hb hv, nulE, mapply, mset, hv]

theorem renderMergeM_null (nc : NumCodec) (b : Json) (hb : b ≠ .null) (hv : b.isVoid = false)
    (h1 : b.listDoc = true) (h2 : b.wf = true) (h3 : objVoidFree b = true) :
    V1.renderMergeM nc (V1.liftDiff (V1.diffM [.merge] .null b)) = .ok (V1.jsonM nc b) := by
  refine v1_renderMergeM_eq nc _ b (merge_doc_null b hb hv h1 h2 h3) ?_
  rw [diffM_eq_dl MergeMode.single .null b rfl rfl h1 h2 h3, dl_null b hb hv]
  rfl

/-- `parseJson` on a text given by its characters. A string literal is such a text by `rfl` (the
    unifier reads the literal as `String.ofList` of its characters as long as `String.ofList` stays
    folded); `String.toList` of a long literal is very slow in the kernel. -/
theorem parseJson_ofList (nc : NumCodec) {s : String} {cs : List Char} (h : s = String.ofList cs) :
    parseJson nc s =
      match parseValue nc (cs.length + 2) cs with
      | some (v, r) => if (skipWs r).isEmpty then some v else none
      | none => none := by
  subst h
  simp only [parseJson, String.toList_ofList]
  rfl

/-- **`NumOK nc b` is necessary (merge half)**: `null → 10^15` with the codec that knows no token:
    every other hypothesis of `v1_merge_text_rfc` holds, the text `1000000000000000` is produced, and
    neither `json.Unmarshal` nor `ReadMergeString` of the model reads it (the model's own integer
    parser stops at 15 digits; in the harness — and in Go — the token is in the graph of the codec) -/
theorem numOK_needed_merge :
    big.wf = true ∧ big.rawDoc = true ∧ big.nullFree = true ∧ big.finiteNums = true ∧
    Yaml.voidFree big = true ∧ V1.equals [.merge] .null big = false ∧
    JText.NumOK exCodec big = false ∧
    V1.renderMergeM exCodec (V1.liftDiff (V1.diffM [.merge] .null big))
      = .ok (some "1000000000000000") ∧
    parseJson exCodec "1000000000000000" = none ∧
    V1.readMergeM exCodec "1000000000000000" = .err := by
  have hp : parseJson exCodec "1000000000000000" = none :=
    (parseJson_ofList exCodec (by with_reducible rfl)).trans (by decide +kernel)
  refine ⟨by decide, by decide, by decide, by decide +kernel, by decide, rfl,
    JText.numOK_1e15_emptyCodec, ?_, hp, ?_⟩
  · rw [renderMergeM_null exCodec big (by simp [big]) rfl rfl rfl rfl]
    exact congrArg Outcome.ok (by decide +kernel)
  · have h2 : (trimGoSpace "1000000000000000").isEmpty = false := by decide +kernel
    simp only [V1.readMergeM, readJsonM, hp, h2]
    rfl

/-- a printed text is the given literal when its UTF-8 bytes are the encoded characters of the
    literal (comparing the strings themselves makes the kernel encode the literal, which is slow) -/
theorem eq_some_of_bytes {o : Option String} {s : String} {cs : List Char}
    (hs : s = String.ofList cs)
    (h : o.map (fun t => t.toByteArray.data.toList) = some (cs.flatMap String.utf8EncodeChar)) :
    o = some s := by
  cases o with
  | none => cases h
  | some t =>
    simp only [Option.map_some, Option.some.injEq] at h
    subst hs
    refine congrArg some (String.toByteArray_inj.1 (ByteArray.ext ?_))
    rw [String.toByteArray_ofList, List.utf8Encode, List.data_toByteArray, ← h]

theorem renderPatchM_of_ops (nc : NumCodec) {d : V1.PDiff} {ops : List PatchOp}
    (h : V1.renderPatchOps d = .ok ops) :
    V1.renderPatchM nc d = .ok (jsonText nc (.arr .raw (ops.map JText.V1T.opDoc))) := by
  rw [JText.V1T.renderPatchM_eq, h]

/-- the list-mode diff of two documents that differ, the first a scalar: one hunk at the root -/
theorem diffM_scalar {a b : Json} (ha : ∀ t xs, a ≠ .arr t xs) (ha' : ∀ kvs, a ≠ .obj kvs)
    (hne : V1.equals [] a b = false) :
    V1.diffM [] a b = [{ path := [], old := a.nodeList, new := b.nodeList }] := by
  simp only [V1.diffM, V1.hasMerge]
  rw [V1P.diffNode_scalar _ _ _ ha ha']
  simp [V1.diffCommon, hne]

def bigText : String :=
  "[{\"op\":\"test\",\"path\":\"\",\"value\":null},{\"op\":\"remove\",\"path\":\"\",\"value\":null},{\"op\":\"add\",\"path\":\"\",\"value\":1000000000000000}]"

/-- **`NumOK nc b` is necessary (JSON Patch half)**: the same pair in list mode: the text is
    produced and `ReadPatchString` of the model rejects it -/
theorem numOK_needed_patch :
    JText.NumOK exCodec big = false ∧
    V1.renderPatchM exCodec (V1.liftDiff (V1.diffM [] .null big)) = .ok (some bigText) ∧
    parseJson exCodec bigText = none ∧ V1.readPatchM exCodec bigText = .err := by
  have hp : parseJson exCodec bigText = none := by
    unfold bigText
    exact (parseJson_ofList exCodec (by with_reducible rfl)).trans (by decide +kernel)
  refine ⟨JText.numOK_1e15_emptyCodec, ?_, hp, by rw [V1.readPatchM, hp]⟩
  rw [diffM_scalar (by simp) (by simp) rfl, renderPatchM_of_ops exCodec rfl]
  exact congrArg Outcome.ok
    (eq_some_of_bytes (by unfold bigText; with_reducible rfl) (by decide +kernel))

def bigTextA : String :=
  "[{\"op\":\"test\",\"path\":\"\",\"value\":1000000000000000},{\"op\":\"remove\",\"path\":\"\",\"value\":1000000000000000},{\"op\":\"add\",\"path\":\"\",\"value\":null}]"

/-- **`NumOK nc a` is necessary too (JSON Patch half)**: the removed value is printed in the `test`
    and `remove` operations: `10^15 → null` -/
theorem numOK_a_needed_patch :
    JText.NumOK exCodec big = false ∧ JText.NumOK exCodec .null = true ∧
    V1.renderPatchM exCodec (V1.liftDiff (V1.diffM [] big .null)) = .ok (some bigTextA) ∧
    parseJson exCodec bigTextA = none ∧ V1.readPatchM exCodec bigTextA = .err := by
  have hp : parseJson exCodec bigTextA = none := by
    unfold bigTextA
    exact (parseJson_ofList exCodec (by with_reducible rfl)).trans (by decide +kernel)
  refine ⟨JText.numOK_1e15_emptyCodec, rfl, ?_, hp, by rw [V1.readPatchM, hp]⟩
  rw [diffM_scalar (by simp [big]) (by simp [big]) rfl, renderPatchM_of_ops exCodec rfl]
  exact congrArg Outcome.ok
    (eq_some_of_bytes (by unfold bigTextA; with_reducible rfl) (by decide +kernel))

/-- `[void]`: a value no reader produces, allowed by `objVoidFree` (the hypothesis of the value-level
    merge theorems) but not by `Yaml.voidFree` -/
def bv : Json := .arr .raw [.void]

/-- **`Yaml.voidFree b` (instead of `objVoidFree b`) is necessary for the text level**: for
    `b = [void]` every hypothesis of the value-level theorem `V1M.v1_merge_render_correct` holds, but
    the text is `[""]` (Go's `raw()` of void is the empty string), which parses to `[""]`, and
    RFC 7386 then yields `[""]`, not `b`. (Not a defect: `[void]` is not a document.) -/
theorem voidFree_needed_merge (nc : NumCodec) :
    bv.wf = true ∧ bv.rawDoc = true ∧ bv.nullFree = true ∧ bv.finiteNums = true ∧
    objVoidFree bv = true ∧ JText.NumOK nc bv = true ∧ Yaml.voidFree bv = false ∧
    V1.renderMergeM nc (V1.liftDiff (V1.diffM [.merge] .null bv)) = .ok (some "[\"\"]") ∧
    parseJson nc "[\"\"]" = some (.arr .raw [.str ""]) ∧
    specEq (mergePatch .null (.arr .raw [.str ""])) bv = false := by
  refine ⟨by decide, by decide, by decide, by decide, by decide, rfl, by decide, ?_,
    (JText.void_inside_not_roundtripped nc).2, ?_⟩
  · rw [renderMergeM_null nc bv (by simp [bv]) rfl rfl rfl rfl]
    have : V1.jsonM nc bv = some "[\"\"]" := by
      simp [V1.jsonM, bv, V1.rawNorm, V1.rawNormList, jsonText, jsonTextList]
    rw [this]
  · simp [specEq, equivB, mergePatch, bv, equivList, dispatchTag]

end Witness


/-- the text `{}`: what `json.Unmarshal` and `ReadMergeString` make of it -/
theorem empty_object_text (nc : NumCodec) :
    parseJson nc "{}" = some (.obj []) ∧ V1.readMergeM nc "{}" = .ok [] := by
  have hp : parseJson nc "{}" = some (.obj []) :=
    JText.parseJson_text' nc (.obj []) "{}" rfl rfl rfl
  have h2 : (trimGoSpace "{}").isEmpty = false := by decide +kernel
  refine ⟨hp, ?_⟩
  simp only [V1.readMergeM, readJsonM, hp, h2]
  rfl

/-- **the exclusion of clause 2 of the merge half, at the TEXT level** (known finding KF-C12-emptyobj,
    class (a), v1 library): for EVERY first document `a` that is not an object (as read from text)
    and `b = {}`, with any number codec: the documents differ, `RenderMerge` returns the text `{}`,
    that text parses to `{}` and RFC 7386 applied to `a` gives `{}` = `b` (clause 1 holds), but
    `ReadMergeString("{}")` is the EMPTY diff and `a.Patch` of it returns `a`. -/
theorem v1_text_witness_readback_nonobj_to_empty_object (nc : NumCodec) {m : V1.Metas}
    (hm : MergeMode m) (a : Json) (haw : a.wf = true) (har : a.rawDoc = true)
    (hobj : a.isObj = false) :
    V1.equals m a (.obj []) = false ∧
    V1.renderMergeM nc (V1.liftDiff (V1.diffM m a (.obj []))) = .ok (some "{}") ∧
    parseJson nc "{}" = some (.obj []) ∧ mergePatch a (.obj []) = .obj [] ∧
    V1.readMergeM nc "{}" = .ok [] ∧ V1.patchM a [] = .ok a := by
  obtain ⟨h1, h2, h3, _⟩ := v1_witness_readback_nonobj_to_empty_object hm a haw har hobj
  refine ⟨h1, ?_, (empty_object_text nc).1, h3, (empty_object_text nc).2, rfl⟩
  unfold V1.renderMergeM
  split
  · rfl
  · rw [h2]; rfl

/-- equal documents (empty `dl`), the first an object: the text is `{}`, the identity on objects -/
theorem merge_text_empty (nc : NumCodec) {m : V1.Metas} (hm : MergeMode m) (a b : Json)
    (haw : a.wf = true) (har : a.rawDoc = true) (hbw : b.wf = true) (hbr : b.rawDoc = true)
    (hbv : Yaml.voidFree b = true) (hobj : a.isObj = true) (hd : dl [] a b = []) :
    V1.renderMergeM nc (V1.liftDiff (V1.diffM m a b)) = .ok (some "{}") ∧
      mergePatch a (.obj []) = a := by
  constructor
  · rw [diffM_eq_dl hm a b har haw (rawDoc_listDoc b hbr) hbw (objVoidFree_of_voidFree b hbv), hd]
    rfl
  · exact mergePatch_empty_object hobj

/-- clause 1 of the merge half at the text level without the hypothesis "that differ" when the first
    document is an object (the empty diff is rendered as the text `{}`, the identity on objects) -/
theorem v1_merge_text_rfc_obj (L : FloatLaws) (nc : NumCodec) {m : V1.Metas} (hm : MergeMode m)
    (a b : Json) (haw : a.wf = true) (har : a.rawDoc = true)
    (hbw : b.wf = true) (hbr : b.rawDoc = true) (hbn : b.nullFree = true)
    (hbf : b.finiteNums = true) (hbv : Yaml.voidFree b = true) (hbN : JText.NumOK nc b = true)
    (hobj : a.isObj = true) :
    ∃ text p, V1.renderMergeM nc (V1.liftDiff (V1.diffM m a b)) = .ok (some text) ∧
      parseJson nc text = some p ∧ p.isVoid = false ∧ p.isNull = false ∧
      specEq (mergePatch a p) b = true := by
  by_cases hd : dl [] a b = []
  · obtain ⟨ht, hmp⟩ := merge_text_empty nc hm a b haw har hbw hbr hbv hobj hd
    refine ⟨"{}", .obj [], ht, (empty_object_text nc).1, rfl, rfl, ?_⟩
    rw [hmp]
    exact (sound L [] rfl rfl a haw har b
      ⟨hbw, hbr, hbn, objVoidFree_of_voidFree b hbv, hbf⟩).1 hd
  · exact merge_text_rfc_of_dl L nc hm a b haw har hbw hbr hbn hbf hbv hbN hd

/-- clause 2 of the merge half at the text level without the hypothesis "that differ" when the first
    document is an object (the text `{}` is read back as the empty diff) -/
theorem v1_merge_text_readback_obj (L : FloatLaws) (nc : NumCodec) {m : V1.Metas}
    (hm : MergeMode m) (a b : Json) (haw : a.wf = true) (har : a.rawDoc = true)
    (hbw : b.wf = true) (hbr : b.rawDoc = true) (hbn : b.nullFree = true)
    (hbf : b.finiteNums = true) (hbv : Yaml.voidFree b = true) (hbN : JText.NumOK nc b = true)
    (hobj : a.isObj = true) :
    ∃ text p d r, V1.renderMergeM nc (V1.liftDiff (V1.diffM m a b)) = .ok (some text) ∧
      parseJson nc text = some p ∧
      V1.readMergeM nc text = .ok d ∧ V1.patchM a d = .ok r ∧ r = mergePatch a p ∧
      V1.equals m r b = true ∧ specEq r b = true ∧ r.listDoc = true := by
  by_cases hd : dl [] a b = []
  · obtain ⟨ht, hmp⟩ := merge_text_empty nc hm a b haw har hbw hbr hbv hobj hd
    have hl := rawDoc_listDoc a har
    have hs := (sound L [] rfl rfl a haw har b
      ⟨hbw, hbr, hbn, objVoidFree_of_voidFree b hbv, hbf⟩).1 hd
    refine ⟨"{}", .obj [], [], a, ht, (empty_object_text nc).1, (empty_object_text nc).2, rfl,
      hmp.symm, ?_, hs, hl⟩
    rw [equals_eq_equivB hm hl (rawDoc_listDoc b hbr)]; exact hs
  · exact merge_text_readback_of_dl L nc hm a b haw har hbw hbr hbn hbf hbv hbN hd (Or.inl hobj)

/-! ### non-vacuity -/

namespace Example
open Jd.NativeRT (exCodec)

theorem numOK_two : JText.numOK exCodec 0x4000000000000000 = true :=
  JText.numOK_exCodec_int _ 2 (by decide) (by decide) (by decide)

/-- the merge pair of JdProofs/V1MergeRender.lean (`{"a":{"b":"x","c":null},"d":["p"],"f":[{"g":1}]}`
    → `{"a":{"b":"y"},"e":{"h":{}},"f":[{"g":1}]}`) satisfies the two additional text hypotheses for
    the codec that knows no token -/
theorem merge_hyps : Yaml.voidFree V1M.Example.exB = true ∧
    JText.NumOK exCodec V1M.Example.exB = true := by
  refine ⟨by decide, ?_⟩
  simp [V1M.Example.exB, JText.NumOK, JText.NumOKKvs, JText.NumOKList, JText.numOK_one]

example (L : FloatLaws) :
    ∃ text p d r,
      V1.renderMergeM exCodec (V1.liftDiff (V1.diffM [.merge] V1M.Example.exA V1M.Example.exB))
        = .ok (some text) ∧
      parseJson exCodec text = some p ∧
      V1.readMergeM exCodec text = .ok d ∧ V1.patchM V1M.Example.exA d = .ok r ∧
      r = mergePatch V1M.Example.exA p ∧
      V1.equals [.merge] r V1M.Example.exB = true ∧ specEq r V1M.Example.exB = true ∧
      r.listDoc = true := by
  obtain ⟨h0, h1, h2, h3, h4, h5, _, h7, h8, h9⟩ := V1M.Example.hyps
  exact v1_merge_text_readback L exCodec h0 _ _ h1 h2 h3 h4 h5 h7 merge_hyps.1 merge_hyps.2 h8 h9

example (L : FloatLaws) :
    ∃ text p,
      V1.renderMergeM exCodec (V1.liftDiff (V1.diffM [.merge] V1M.Example.exA V1M.Example.exB))
        = .ok (some text) ∧
      parseJson exCodec text = some p ∧ p.isVoid = false ∧ p.isNull = false ∧
      specEq (mergePatch V1M.Example.exA p) V1M.Example.exB = true := by
  obtain ⟨h0, h1, h2, h3, h4, h5, _, h7, h8, _⟩ := V1M.Example.hyps
  exact v1_merge_text_rfc L exCodec h0 _ _ h1 h2 h3 h4 h5 h7 merge_hyps.1 merge_hyps.2 h8

/-- the JSON Patch pair of JdProofs/V1PatchRender.lean (`{"0":[1,2],"1":1,"a/b~c":{"7":1},"k":2}` and
    `{"0":[2],"2":1,"a/b~c":{"+5":1,"7":2},"k":[]}`: integer-looking keys, a key needing both escapes)
    satisfies the additional text hypotheses -/
theorem patch_hyps : Yaml.voidFree V1R.Example.exA = true ∧ JText.NumOK exCodec V1R.Example.exA = true ∧
    Yaml.voidFree V1R.Example.exB = true ∧ JText.NumOK exCodec V1R.Example.exB = true := by
  refine ⟨by decide, ?_, by decide, ?_⟩
  · simp [V1R.Example.exA, V1R.Example.one, V1R.Example.two, JText.NumOK, JText.NumOKKvs,
      JText.NumOKList, JText.numOK_one, numOK_two]
  · simp [V1R.Example.exB, V1R.Example.one, V1R.Example.two, JText.NumOK, JText.NumOKKvs,
      JText.NumOKList, JText.numOK_one, numOK_two]

example (L : FloatLaws) (I : IdxLaws 8) :
    ∃ text doc sops r,
      V1.renderPatchM exCodec (V1.liftDiff (V1.diffM [] V1R.Example.exA V1R.Example.exB))
        = .ok (some text) ∧
      parseJson exCodec text = some doc ∧ Spec.opsOfJson doc = some sops ∧
      (∀ o ∈ sops, o.op = "test" ∨ o.op = "remove" ∨ o.op = "add") ∧
      eval V1R.Example.exA sops = some r ∧ specEq r V1R.Example.exB = true ∧
      specEq V1R.Example.exB r = true := by
  obtain ⟨h1, h2, h3, _, h5, h6, h7, h8, h9, _, _, h12⟩ := V1R.Example.hyps
  exact v1_patch_text_rfc_noDash L I exCodec [] ListMode.nil _ _ h1 h2 h3 patch_hyps.1 h5
    patch_hyps.2.1 h7 h8 h9 patch_hyps.2.2.1 patch_hyps.2.2.2 h6 h12

example (L : FloatLaws) (I : IdxLaws 8) :
    ∃ text d' r,
      V1.renderPatchM exCodec
        (V1.liftDiff (V1.diffM [.setkeys ["a"]] V1R.Example.exB V1R.Example.exA)) = .ok (some text) ∧
      V1.readPatchM exCodec text = .ok d' ∧ V1.patchP V1R.Example.exB d' = .ok r ∧
      V1.equals [.setkeys ["a"]] r V1R.Example.exA = true ∧ specEq r V1R.Example.exA = true ∧
      specEq V1R.Example.exA r = true := by
  obtain ⟨h1, h2, h3, _, _, h6, h7, h8, h9, _, h11, h12⟩ := V1R.Example.hyps
  exact v1_patch_text_readback_noDash L I (by decide) exCodec _ (ListMode.setkeys ["a"]) _ _
    h7 h8 h9 patch_hyps.2.2.1 h11 patch_hyps.2.2.2 h1 h2 h3 patch_hyps.1 patch_hyps.2.1 h12 h6

end Example

end Final

end Jd.V1T

#print axioms Jd.V1T.v1_merge_text_rfc
#print axioms Jd.V1T.v1_merge_text_readback
#print axioms Jd.V1T.v1_merge_text_rfc_obj
#print axioms Jd.V1T.v1_merge_text_readback_obj
#print axioms Jd.V1T.merge_text_core
#print axioms Jd.V1T.v1_text_witness_readback_nonobj_to_empty_object
#print axioms Jd.V1T.v1_patch_text_rfc
#print axioms Jd.V1T.v1_patch_text_readback
#print axioms Jd.V1T.v1_patch_text_rfc_noDash
#print axioms Jd.V1T.v1_patch_text_readback_noDash
#print axioms Jd.V1T.patch_core
#print axioms Jd.V1T.diff_valsP
#print axioms Jd.V1T.tok_pdoc
#print axioms Jd.V1T.untag_mergePatch
#print axioms Jd.V1T.Witness.numOK_needed_merge
#print axioms Jd.V1T.Witness.numOK_needed_patch
#print axioms Jd.V1T.Witness.numOK_a_needed_patch
#print axioms Jd.V1T.Witness.voidFree_needed_merge
#print axioms Jd.V1T.Example.merge_hyps
#print axioms Jd.V1T.Example.patch_hyps
