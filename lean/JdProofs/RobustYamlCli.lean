/-
  JdProofs.RobustYamlCli (namespace `Jd.RobustYC`) — property C13: (1) the YAML reader never panics;
  (2) the CLI clause "exits with status 2 and a one-line message rather than a Go stack trace".

  PART 1 (JdModel/Yaml.lean).  The text level of yaml.v2 / encoding/json is external code: no YAML text
  enters Lean.  `Raw` is Go's `interface{}` universe, `newJsonNodeM : Raw → Glue Json` is `NewJsonNode`
  of v2/node.go.  `Glue` has no `.panic` constructor: every type switch of `NewJsonNode` has an error
  branch (`.unsupported`).  The one faulty path is `GlueErr.nilElem`: under `[]interface{}` an element
  that already is a jd `JsonNode` is skipped and its slot stays a nil interface, so any later use of
  the node panics; `glueOutcome` maps it to `Outcome.panic`.  `readYamlM` is defined here from the
  model's `unmarshalM`, with the decoder `yaml.Unmarshal` a PARAMETER (`none` = decoder error).
  The result of `newJsonNodeM` is classified for ALL `Raw` values by the Boolean functions `bad` /
  `slot`.  The no-panic theorems assume `nodeFree r` resp. `DecoderValues dec`: the decoder returns
  values without jd nodes.  That is every value yaml.v2 / encoding/json can build (they do not know
  jd's types); non-string keys, overflowing integers, NaN, ±Inf, duplicate keys are all inside the
  hypothesis.  The round-trip totality theorems hold for EVERY node, without `wf`.
  Not modelled: faults inside yaml.v2 itself (decoder panics, alias bombs, memory); `yaml.Marshal`
  failing inside `Yaml()` (`renderYaml` ends in `panic(err)`) — the proposition `Ym` of part 2.

  PART 2 (JdModel/Cli.lean).  `cliM b fl r` is the decision logic of `main` as a function of the
  binary, the flags and `r : LibResults`, which holds for every call `main` may make what the call
  RETURNED (a value or an error message).  The bytes of library / OS messages are data; the messages
  `main` composes itself are modelled exactly.  Stderr is empty or one record of Go's `log` package
  without its timestamp prefix.  `cliM` has no panic outcome, so "rather than a stack trace" is stated
  on a lifting defined here: `cliP b fl r cr`, where `cr : Call → Bool` says which calls do not return;
  it is `.goPanic` iff a call that is actually made does not return.  `program b fl` lists the steps
  of `main` in order; `program_sound` ties its first failing step to the error `Jd.Cli.run` ends with.
  The clause as worded is false in three ways, all faithful to main.go: `usage_witness` (usage text
  on STDOUT, nothing on stderr), `multiLine_setkeys_witness` (`invalid set key: %v` shows the piece
  verbatim), `multiLine_library_message_witness` (a library message with an interior newline).
  Not proved: `¬ RenderPanics nc Ym` (false for an arbitrary `NumCodec`: `renderM` / `jsonM` return
  `none` when the codec cannot print a number); the v1 library (`ModelPanics` speaks of the v2 model
  only); `runAsGitHubAction`; that `main` itself has no faulting operation (by inspection of main.go).
-/
import JdModel.Yaml
import JdModel.Cli
import JdProofs.NoPanic
import JdProofs.RobustReaders
import JdProofs.YamlProofs
import JdProofs.CliProofs
import JdProofs.SplitOn

set_option autoImplicit false

namespace Jd.RobustYC
open Jd Jd.Yaml

/-! ## §1 the glue `NewJsonNode`: exact classification of the result for ALL `Raw` inputs -/

/-- the error (if any) of a glue result -/
def errOf? {α} : Glue α → Option GlueErr
  | .ok _ => none
  | .error e => some e

/-- how the errors of two sub-results combine in `both`: `unsupported` anywhere wins, then a nil slot -/
def combine : Option GlueErr → Option GlueErr → Option GlueErr
  | some .unsupported, _ => some .unsupported
  | _, some .unsupported => some .unsupported
  | none, none => none
  | _, _ => some .nilElem

theorem errOf?_both {α β γ} (f : α → β → γ) (x : Glue α) (y : Glue β) :
    errOf? (both f x y) = combine (errOf? x) (errOf? y) := by
  cases x with
  | ok a =>
    cases y with
    | ok b => rfl
    | error e => cases e <;> rfl
  | error e =>
    cases e with
    | unsupported => rfl
    | nilElem =>
      cases y with
      | ok b => rfl
      | error e' => cases e' <;> rfl

theorem errOf?_map {α β} (f : α → β) (x : Glue α) : errOf? (x.map f) = errOf? x := by
  cases x <;> rfl

mutual
/-- `NewJsonNode` returns an error: somewhere on the traversal there is a value of an unsupported
    dynamic type (int64, uint64, a foreign type, a JsonNode at the top), a NaN / ±Inf float64, or a
    map key that is not a string.  Values that already are JsonNodes are NOT visited below a map or a
    slice (they are stored, dropped, or leave a nil slot). -/
def bad : Raw → Bool
  | .mapS kvs => badS kvs
  | .mapI kvs => badI kvs
  | .slice xs => badL xs
  | .f64 b => !isFinite64 b
  | .int _ => false
  | .str _ => false
  | .bool _ => false
  | .nil => false
  | .int64 _ => true
  | .uint64 _ => true
  | .other _ => true
  | .node _ => true
def badS : List (String × Raw) → Bool
  | [] => false
  | (_, v) :: r =>
    (match asNode? v with
      | some _ => false
      | none => bad v) || badS r
def badI : List (Raw × Raw) → Bool
  | [] => false
  | (key, v) :: r =>
    (match key with
      | .str _ =>
        (match asNode? v with
          | some _ => false
          | none => bad v)
      | _ => true) || badI r
def badL : List Raw → Bool
  | [] => false
  | x :: r =>
    (match asNode? x with
      | some _ => false
      | none => bad x) || badL r
end

mutual
/-- the traversal of `NewJsonNode` meets a `[]interface{}` with an element that already is a
    JsonNode: the slot of the result stays a nil interface (a LATENT PANIC) -/
def slot : Raw → Bool
  | .mapS kvs => slotS kvs
  | .mapI kvs => slotI kvs
  | .slice xs => slotL xs
  | _ => false
def slotS : List (String × Raw) → Bool
  | [] => false
  | (_, v) :: r =>
    (match asNode? v with
      | some _ => false
      | none => slot v) || slotS r
def slotI : List (Raw × Raw) → Bool
  | [] => false
  | (key, v) :: r =>
    (match key with
      | .str _ =>
        (match asNode? v with
          | some _ => false
          | none => slot v)
      | _ => false) || slotI r
def slotL : List Raw → Bool
  | [] => false
  | x :: r =>
    (match asNode? x with
      | some _ => true
      | none => slot x) || slotL r
end

/-- the classification as one function -/
def classify (b s : Bool) : Option GlueErr :=
  if b then some .unsupported else if s then some .nilElem else none

theorem combine_classify (b1 s1 b2 s2 : Bool) :
    combine (classify b1 s1) (classify b2 s2) = classify (b1 || b2) (s1 || s2) := by
  cases b1 <;> cases s1 <;> cases b2 <;> cases s2 <;> rfl

mutual
theorem errOf?_new : ∀ r : Raw, errOf? (newJsonNodeM r) = classify (bad r) (slot r)
  | .mapS kvs => by
    simp only [newJsonNodeM, errOf?_map, bad, slot]; exact errOf?_newMapS kvs
  | .mapI kvs => by
    simp only [newJsonNodeM, errOf?_map, bad, slot]; exact errOf?_newMapI kvs
  | .slice xs => by
    simp only [newJsonNodeM, errOf?_map, bad, slot]; exact errOf?_newSlice xs
  | .f64 b => by
    simp only [newJsonNodeM, bad, slot]
    cases isFinite64 b <;> rfl
  | .int _ => rfl
  | .str _ => rfl
  | .bool _ => rfl
  | .nil => rfl
  | .int64 _ => rfl
  | .uint64 _ => rfl
  | .other _ => rfl
  | .node _ => rfl
theorem errOf?_newMapS : ∀ kvs : List (String × Raw),
    errOf? (newMapS kvs) = classify (badS kvs) (slotS kvs)
  | [] => rfl
  | (k, v) :: r => by
    simp only [newMapS, errOf?_both, badS, slotS, ← combine_classify]
    rw [errOf?_newMapS r]
    congr 1
    cases h : asNode? v with
    | some j => rfl
    | none => exact errOf?_new v
theorem errOf?_newMapI : ∀ kvs : List (Raw × Raw),
    errOf? (newMapI kvs) = classify (badI kvs) (slotI kvs)
  | [] => rfl
  | (key, v) :: r => by
    have ih := errOf?_newMapI r
    cases key with
    | str k =>
      simp only [newMapI, badI, slotI]
      cases h : asNode? v with
      | some j =>
        simp only [ih, Bool.false_or]
      | none =>
        simp only [errOf?_both, ← combine_classify, ih]
        congr 1
        exact errOf?_new v
    | _ =>
      simp only [newMapI, errOf?_both, badI, slotI, ← combine_classify, ih]
      rfl
theorem errOf?_newSlice : ∀ xs : List Raw,
    errOf? (newSlice xs) = classify (badL xs) (slotL xs)
  | [] => rfl
  | x :: r => by
    have ih := errOf?_newSlice r
    simp only [newSlice, badL, slotL]
    cases h : asNode? x with
    | some j =>
      simp only [errOf?_both, ← combine_classify, ih]
      rfl
    | none =>
      simp only [errOf?_both, ← combine_classify, ih]
      congr 1
      exact errOf?_new x
end

theorem errOf?_eq_some {α} {x : Glue α} {e : GlueErr} : errOf? x = some e ↔ x = .error e := by
  cases x <;> simp [errOf?]

theorem errOf?_eq_none {α} {x : Glue α} : errOf? x = none ↔ ∃ a, x = .ok a := by
  cases x <;> simp [errOf?]

theorem newJsonNodeM_nilElem_iff (r : Raw) :
    newJsonNodeM r = .error .nilElem ↔ bad r = false ∧ slot r = true := by
  rw [← errOf?_eq_some, errOf?_new]
  cases bad r <;> cases slot r <;> simp [classify]

theorem newJsonNodeM_unsupported_iff (r : Raw) :
    newJsonNodeM r = .error .unsupported ↔ bad r = true := by
  rw [← errOf?_eq_some, errOf?_new]
  cases bad r <;> cases slot r <;> simp [classify]

theorem newJsonNodeM_ok_iff (r : Raw) :
    (∃ j, newJsonNodeM r = .ok j) ↔ bad r = false ∧ slot r = false := by
  rw [← errOf?_eq_none, errOf?_new]
  cases bad r <;> cases slot r <;> simp [classify]

/-- **the result of `NewJsonNode`, for EVERY Go value**: an error iff `bad`, otherwise a result
    with a nil slot iff `slot`, otherwise a proper node -/
theorem newJsonNodeM_classified (r : Raw) :
    (bad r = true → newJsonNodeM r = .error .unsupported) ∧
    (bad r = false → slot r = true → newJsonNodeM r = .error .nilElem) ∧
    (bad r = false → slot r = false → ∃ j, newJsonNodeM r = .ok j) :=
  ⟨(newJsonNodeM_unsupported_iff r).2, fun hb hs => (newJsonNodeM_nilElem_iff r).2 ⟨hb, hs⟩,
    fun hb hs => (newJsonNodeM_ok_iff r).2 ⟨hb, hs⟩⟩

/-! ### values a DECODER can return: no jd node inside -/

mutual
/-- no value that already is a jd `JsonNode` occurs anywhere (keys included).  This is what
    encoding/json and yaml.v2 return: neither package knows jd's node types, they build
    `map[string]interface{}` / `map[interface{}]interface{}`, `[]interface{}`, float64, int, int64,
    uint64, string, bool, nil and (yaml.v2, for `!!timestamp`) `time.Time` = `.other`. -/
def nodeFree : Raw → Bool
  | .mapS kvs => nodeFreeS kvs
  | .mapI kvs => nodeFreeI kvs
  | .slice xs => nodeFreeL xs
  | .node _ => false
  | _ => true
def nodeFreeS : List (String × Raw) → Bool
  | [] => true
  | (_, v) :: r => nodeFree v && nodeFreeS r
def nodeFreeI : List (Raw × Raw) → Bool
  | [] => true
  | (k, v) :: r => nodeFree k && nodeFree v && nodeFreeI r
def nodeFreeL : List Raw → Bool
  | [] => true
  | x :: r => nodeFree x && nodeFreeL r
end

theorem asNode?_of_nodeFree {r : Raw} (h : nodeFree r = true) : asNode? r = none := by
  cases r <;> first | rfl | (simp [nodeFree] at h)

mutual
theorem slot_of_nodeFree : ∀ r : Raw, nodeFree r = true → slot r = false
  | .mapS kvs, h => by simp only [nodeFree] at h; simp only [slot]; exact slotS_of_nodeFree kvs h
  | .mapI kvs, h => by simp only [nodeFree] at h; simp only [slot]; exact slotI_of_nodeFree kvs h
  | .slice xs, h => by simp only [nodeFree] at h; simp only [slot]; exact slotL_of_nodeFree xs h
  | .f64 _, _ => rfl
  | .int _, _ => rfl
  | .int64 _, _ => rfl
  | .uint64 _, _ => rfl
  | .str _, _ => rfl
  | .bool _, _ => rfl
  | .nil, _ => rfl
  | .other _, _ => rfl
  | .node _, _ => rfl
theorem slotS_of_nodeFree : ∀ kvs : List (String × Raw), nodeFreeS kvs = true → slotS kvs = false
  | [], _ => rfl
  | (k, v) :: r, h => by
    simp only [nodeFreeS, Bool.and_eq_true] at h
    simp only [slotS, asNode?_of_nodeFree h.1, slot_of_nodeFree v h.1, slotS_of_nodeFree r h.2,
      Bool.or_self]
theorem slotI_of_nodeFree : ∀ kvs : List (Raw × Raw), nodeFreeI kvs = true → slotI kvs = false
  | [], _ => rfl
  | (key, v) :: r, h => by
    simp only [nodeFreeI, Bool.and_eq_true] at h
    have ih := slotI_of_nodeFree r h.2
    cases key <;>
      simp only [slotI, asNode?_of_nodeFree h.1.2, slot_of_nodeFree v h.1.2, ih, Bool.or_self]
theorem slotL_of_nodeFree : ∀ xs : List Raw, nodeFreeL xs = true → slotL xs = false
  | [], _ => rfl
  | x :: r, h => by
    simp only [nodeFreeL, Bool.and_eq_true] at h
    simp only [slotL, asNode?_of_nodeFree h.1, slot_of_nodeFree x h.1, slotL_of_nodeFree r h.2,
      Bool.or_self]
end

/-- **`NewJsonNode` on a decoder value never leaves a nil slot** (the latent panic of the glue is
    unreachable from `ReadJsonString` / `ReadYamlString`): the result is a node or an error -/
theorem newJsonNodeM_ne_nilElem (r : Raw) (h : nodeFree r = true) :
    newJsonNodeM r ≠ .error .nilElem := by
  intro hn
  have := ((newJsonNodeM_nilElem_iff r).1 hn).2
  rw [slot_of_nodeFree r h] at this
  cases this

/-- … and which of the two it is, is decided by `bad` -/
theorem newJsonNodeM_decoder_value (r : Raw) (h : nodeFree r = true) :
    (bad r = true ∧ newJsonNodeM r = .error .unsupported) ∨
    (bad r = false ∧ ∃ j, newJsonNodeM r = .ok j) := by
  cases hb : bad r
  · exact .inr ⟨rfl, (newJsonNodeM_classified r).2.2 hb (slot_of_nodeFree r h)⟩
  · exact .inl ⟨rfl, (newJsonNodeM_classified r).1 hb⟩

/-! ### `raw()`, the `yamlize` contract, and the two round trips, for EVERY node -/

theorem isFinite64_of_floatToInt {b : UInt64} {i : Int} (h : floatToInt? b = some i) :
    isFinite64 b = true := by
  cases hf : isFinite64 b
  · -- not finite: the exponent is 0x7FF, which is the first test of `floatToInt?`
    have hn : floatToInt? b = none :=
      if_pos (by simpa [isFinite64] using congrArg UInt64.toNat (bne_eq_false_iff_eq.1 hf))
    rw [hn] at h; cases h
  · rfl

theorem nodeFree_yamlizeNum (b : UInt64) : nodeFree (yamlizeNum b) = true := by
  unfold yamlizeNum
  split
  · split <;> rfl
  · rfl

theorem bad_yamlizeNum (b : UInt64) : bad (yamlizeNum b) = !isFinite64 b := by
  unfold yamlizeNum
  split
  · rename_i i hi
    rw [isFinite64_of_floatToInt hi]
    split <;> simp [bad, isFinite64_of_floatToInt hi]
  · rfl

mutual
theorem nodeFree_rawOf : ∀ d : Json, nodeFree (rawOf d) = true
  | .void => rfl
  | .null => rfl
  | .bool _ => rfl
  | .num _ => rfl
  | .str _ => rfl
  | .arr _ xs => by simp only [rawOf, nodeFree]; exact nodeFreeL_rawOfList xs
  | .obj kvs => by simp only [rawOf, nodeFree]; exact nodeFreeS_rawOfKvs kvs
theorem nodeFreeL_rawOfList : ∀ xs : List Json, nodeFreeL (rawOfList xs) = true
  | [] => rfl
  | x :: r => by simp only [rawOfList, nodeFreeL, nodeFree_rawOf x, nodeFreeL_rawOfList r, Bool.and_self]
theorem nodeFreeS_rawOfKvs : ∀ kvs : List (String × Json), nodeFreeS (rawOfKvs kvs) = true
  | [] => rfl
  | (k, v) :: r => by
    simp only [rawOfKvs, nodeFreeS, nodeFree_rawOf v, nodeFreeS_rawOfKvs r, Bool.and_self]
end

mutual
/-- the contract `yamlize` does not create jd nodes -/
theorem nodeFree_yamlize : ∀ r : Raw, nodeFree r = true → nodeFree (yamlize r) = true
  | .mapS kvs, h => by
    simp only [nodeFree] at h; simp only [yamlize, nodeFree]; exact nodeFreeI_yamlizeKvs kvs h
  | .slice xs, h => by
    simp only [nodeFree] at h; simp only [yamlize, nodeFree]; exact nodeFreeL_yamlizeList xs h
  | .f64 b, _ => by simp only [yamlize]; exact nodeFree_yamlizeNum b
  | .mapI _, h => h
  | .int _, _ => rfl
  | .int64 _, _ => rfl
  | .uint64 _, _ => rfl
  | .str _, _ => rfl
  | .bool _, _ => rfl
  | .nil, _ => rfl
  | .other _, _ => rfl
  | .node _, h => h
theorem nodeFreeL_yamlizeList : ∀ xs : List Raw, nodeFreeL xs = true → nodeFreeL (yamlizeList xs) = true
  | [], _ => rfl
  | x :: r, h => by
    simp only [nodeFreeL, Bool.and_eq_true] at h
    simp only [yamlizeList, nodeFreeL, nodeFree_yamlize x h.1, nodeFreeL_yamlizeList r h.2, Bool.and_self]
theorem nodeFreeI_yamlizeKvs : ∀ kvs : List (String × Raw), nodeFreeS kvs = true →
    nodeFreeI (yamlizeKvs kvs) = true
  | [], _ => rfl
  | (k, v) :: r, h => by
    simp only [nodeFreeS, Bool.and_eq_true] at h
    simp only [yamlizeKvs, nodeFreeI, nodeFree, nodeFree_yamlize v h.1, nodeFreeI_yamlizeKvs r h.2,
      Bool.and_self]
end

mutual
/-- on `raw()` values the glue errs exactly on a non-finite number … -/
theorem bad_rawOf : ∀ d : Json, bad (rawOf d) = !finite d
  | .void => rfl
  | .null => rfl
  | .bool _ => rfl
  | .num _ => rfl
  | .str _ => rfl
  | .arr _ xs => by simp only [rawOf, bad, finite]; exact badL_rawOfList xs
  | .obj kvs => by simp only [rawOf, bad, finite]; exact badS_rawOfKvs kvs
theorem badL_rawOfList : ∀ xs : List Json, badL (rawOfList xs) = !finiteList xs
  | [] => rfl
  | x :: r => by
    simp only [rawOfList, badL, finiteList, asNode?_rawOf, bad_rawOf x, badL_rawOfList r, Bool.not_and]
theorem badS_rawOfKvs : ∀ kvs : List (String × Json), badS (rawOfKvs kvs) = !finiteKvs kvs
  | [] => rfl
  | (k, v) :: r => by
    simp only [rawOfKvs, badS, finiteKvs, asNode?_rawOf, bad_rawOf v, badS_rawOfKvs r, Bool.not_and]
end

mutual
/-- … and so it does on what yaml.v2 makes of them (the contract) -/
theorem bad_yamlize_rawOf : ∀ d : Json, bad (yamlize (rawOf d)) = !finite d
  | .void => rfl
  | .null => rfl
  | .bool _ => rfl
  | .num b => by simp only [rawOf, yamlize, finite]; exact bad_yamlizeNum b
  | .str _ => rfl
  | .arr _ xs => by simp only [rawOf, yamlize, bad, finite]; exact badL_yamlize_rawOfList xs
  | .obj kvs => by simp only [rawOf, yamlize, bad, finite]; exact badI_yamlize_rawOfKvs kvs
theorem badL_yamlize_rawOfList : ∀ xs : List Json, badL (yamlizeList (rawOfList xs)) = !finiteList xs
  | [] => rfl
  | x :: r => by
    simp only [rawOfList, yamlizeList, badL, finiteList, asNode?_yamlize_rawOf, bad_yamlize_rawOf x,
      badL_yamlize_rawOfList r, Bool.not_and]
theorem badI_yamlize_rawOfKvs : ∀ kvs : List (String × Json),
    badI (yamlizeKvs (rawOfKvs kvs)) = !finiteKvs kvs
  | [] => rfl
  | (k, v) :: r => by
    simp only [rawOfKvs, yamlizeKvs, badI, finiteKvs, asNode?_yamlize_rawOf, bad_yamlize_rawOf v,
      badI_yamlize_rawOfKvs r, Bool.not_and]
end

/-- `raw()` is a total function (no partial operation: type `Json → Raw`) and yields a decoder-like
    value; so does the `yamlize` contract on it -/
theorem nodeFree_rawM (j : Json) : nodeFree (rawM j) = true := nodeFree_rawOf _
theorem nodeFree_yamlize_rawM (j : Json) : nodeFree (yamlize (rawM j)) = true :=
  nodeFree_yamlize _ (nodeFree_rawM j)

theorem decoder_value_total {r : Raw} (hf : nodeFree r = true) {d : Json}
    (hb : bad r = !finite d) :
    (finite d = true ∧ ∃ j, newJsonNodeM r = .ok j) ∨
    (finite d = false ∧ newJsonNodeM r = .error .unsupported) := by
  rw [← Bool.not_not (finite d), ← hb]
  rcases newJsonNodeM_decoder_value r hf with ⟨h1, h2⟩ | ⟨h1, h2⟩
  · exact .inr ⟨by rw [h1]; rfl, h2⟩
  · exact .inl ⟨by rw [h1]; rfl, h2⟩

/-- **`ReadJsonString(n.Json())` on the glue, for EVERY node `n`** (typed arrays, void inside,
    duplicate or unsorted keys, anything): a node when all numbers are finite, an error otherwise;
    never a nil slot -/
theorem jsonRoundTripM_total (j : Json) :
    (finite (rawNorm j) = true ∧ ∃ d, jsonRoundTripM j = .ok d) ∨
    (finite (rawNorm j) = false ∧ jsonRoundTripM j = .error .unsupported) :=
  decoder_value_total (nodeFree_rawM j) (bad_rawOf _)

/-- **`ReadYamlString(n.Yaml())` through the contract, for EVERY node `n`**: the same -/
theorem yamlRoundTripM_total (j : Json) :
    (finite (rawNorm j) = true ∧ ∃ d, yamlRoundTripM j = .ok d) ∨
    (finite (rawNorm j) = false ∧ yamlRoundTripM j = .error .unsupported) :=
  decoder_value_total (nodeFree_yamlize_rawM j) (bad_yamlize_rawOf _)

theorem jsonRoundTripM_ne_nilElem (j : Json) : jsonRoundTripM j ≠ .error .nilElem :=
  newJsonNodeM_ne_nilElem _ (nodeFree_rawM j)
theorem yamlRoundTripM_ne_nilElem (j : Json) : yamlRoundTripM j ≠ .error .nilElem :=
  newJsonNodeM_ne_nilElem _ (nodeFree_yamlize_rawM j)

/-! ## §2 the YAML reader as an `Outcome`, and the pipeline read – read – apply -/

/-- a glue result in the three-valued `Outcome` of the library model: an error value is `.err`; a
    result with a nil slot is counted as `.panic` (no error is returned, and ANY later use of the
    node — `Json()`, `Equals`, `Diff`, `Patch`, `hashCode` — dereferences the nil interface) -/
def glueOutcome {α} : Glue α → Jd.Outcome α
  | .ok a => .ok a
  | .error .unsupported => .err
  | .error .nilElem => .panic

/-- the text level of yaml.v2 (`yaml.Unmarshal` into an `interface{}`) is external code and is NOT
    modelled: a decoder is a parameter — `none` is a decoder error, `some r` the Go value -/
abbrev YamlDecoder := String → Option Raw

/-- the only thing assumed of yaml.v2: it does not manufacture jd nodes (it cannot: it does not
    import jd; see `nodeFree`).  Non-string keys, int64 / uint64, `time.Time`, NaN and ±Inf, duplicate
    keys … are all ALLOWED. -/
def DecoderValues (dec : YamlDecoder) : Prop := ∀ s r, dec s = some r → nodeFree r = true

/-- `ReadYamlString` (node_read.go: `unmarshal(bytes, yaml.Unmarshal)`): blank text
    (`strings.Trim(s, " \t\r\n") == ""`, the same test as in `readJsonM`) is the void document and
    the decoder is not called; otherwise `NewJsonNode` of what the decoder returned -/
def readYamlM (dec : YamlDecoder) (s : String) : Jd.Outcome Json :=
  glueOutcome (unmarshalM (trimGoSpace s).isEmpty (dec s))

theorem glueOutcome_panic_iff {α} (x : Glue α) : glueOutcome x = .panic ↔ x = .error .nilElem := by
  cases x with
  | ok a => simp [glueOutcome]
  | error e => cases e <;> simp [glueOutcome]

/-- `NewJsonNode` as an `Outcome`, for ALL Go values: `.panic` (the latent nil slot) exactly when a
    visited `[]interface{}` holds a jd node and nothing on the traversal is unsupported -/
theorem newJsonNodeM_panic_iff (r : Raw) :
    glueOutcome (newJsonNodeM r) = .panic ↔ bad r = false ∧ slot r = true := by
  rw [glueOutcome_panic_iff, newJsonNodeM_nilElem_iff]

/-- **`NewJsonNode` never panics on a decoder value** -/
theorem newJsonNodeM_ne_panic (r : Raw) (h : nodeFree r = true) :
    glueOutcome (newJsonNodeM r) ≠ .panic := by
  rw [Ne, glueOutcome_panic_iff]
  exact newJsonNodeM_ne_nilElem r h

/-- `unmarshal` never panics whatever the decoder did, as long as its value holds no jd node -/
theorem unmarshalM_ne_panic (blank : Bool) (d : Option Raw)
    (h : ∀ r, d = some r → nodeFree r = true) : glueOutcome (unmarshalM blank d) ≠ .panic := by
  unfold unmarshalM
  cases blank
  · cases d with
    | none => simp [glueOutcome]
    | some r => simpa using newJsonNodeM_ne_panic r (h r rfl)
  · simp [glueOutcome]

/-- **reading ANY string as YAML: a document or an error** -/
theorem readYamlM_ne_panic (dec : YamlDecoder) (hd : DecoderValues dec) (s : String) :
    readYamlM dec s ≠ .panic :=
  unmarshalM_ne_panic _ _ (fun r hr => hd s r hr)

/-- what `ReadYamlString` returns, exactly -/
theorem readYamlM_cases (dec : YamlDecoder) (hd : DecoderValues dec) (s : String) :
    ((trimGoSpace s).isEmpty = true ∧ readYamlM dec s = .ok .void) ∨
    ((trimGoSpace s).isEmpty = false ∧ dec s = none ∧ readYamlM dec s = .err) ∨
    (∃ r, (trimGoSpace s).isEmpty = false ∧ dec s = some r ∧ bad r = true ∧ readYamlM dec s = .err) ∨
    (∃ r j, (trimGoSpace s).isEmpty = false ∧ dec s = some r ∧ bad r = false ∧
      newJsonNodeM r = .ok j ∧ readYamlM dec s = .ok j) := by
  unfold readYamlM unmarshalM
  cases hb : (trimGoSpace s).isEmpty
  · cases hds : dec s with
    | none => right; left; simp [glueOutcome]
    | some r =>
      rcases newJsonNodeM_decoder_value r (hd s r hds) with ⟨hbad, h⟩ | ⟨hbad, j, h⟩
      · right; right; left
        exact ⟨r, rfl, rfl, hbad, by simp [h, glueOutcome]⟩
      · right; right; right
        exact ⟨r, j, rfl, rfl, hbad, h, by simp [h, glueOutcome]⟩
  · left; simp [glueOutcome]

/-- the document reader the CLI selects with `-yaml` -/
def readDocM (nc : NumCodec) (dec : YamlDecoder) (yaml : Bool) (s : String) : Jd.Outcome Json :=
  if yaml then readYamlM dec s else readJsonM nc s

theorem readDocM_ne_panic (nc : NumCodec) (dec : YamlDecoder) (hd : DecoderValues dec)
    (yaml : Bool) (s : String) : readDocM nc dec yaml s ≠ .panic := by
  unfold readDocM
  split
  · exact readYamlM_ne_panic dec hd s
  · exact Robust.readJsonM_ne_panic nc s

/-- the diff reader the CLI selects with `-f` -/
def readDiffFmtM (nc : NumCodec) : Cli.Format → String → Jd.Outcome Diff
  | .jd => readDiffM nc
  | .patch => readPatchM nc
  | .merge => readMergeM nc

theorem readDiffFmtM_ne_panic (nc : NumCodec) (fmt : Cli.Format) (s : String) :
    readDiffFmtM nc fmt s ≠ .panic := by
  cases fmt
  · exact Robust.readDiffM_ne_panic nc s
  · exact Robust.readPatchM_ne_panic nc s
  · exact Robust.readMergeM_ne_panic nc s

/-- **the pipeline: read `doc` as YAML, read `text` as a diff in any of the three formats, apply —
    for ANY two strings and ANY decoder behaviour the outcome is a result or an error** -/
theorem read_yaml_then_patch_ne_panic (nc : NumCodec) (dec : YamlDecoder) (hd : DecoderValues dec)
    (doc text : String) :
    (readYamlM dec doc >>= fun c => readDiffM nc text >>= fun d => patchM c d) ≠ .panic ∧
    (readYamlM dec doc >>= fun c => readPatchM nc text >>= fun d => patchM c d) ≠ .panic ∧
    (readYamlM dec doc >>= fun c => readMergeM nc text >>= fun d => patchM c d) ≠ .panic :=
  ⟨Robust.read_read_patch_ne_panic (readYamlM_ne_panic dec hd _) (Robust.readDiffM_ne_panic _ _),
    Robust.read_read_patch_ne_panic (readYamlM_ne_panic dec hd _) (Robust.readPatchM_ne_panic _ _),
    Robust.read_read_patch_ne_panic (readYamlM_ne_panic dec hd _) (Robust.readMergeM_ne_panic _ _)⟩

/-- the same in the order `printPatch` makes the calls (diff first, then the document), for both
    carriers and all formats -/
theorem cli_patch_pipeline_ne_panic (nc : NumCodec) (dec : YamlDecoder) (hd : DecoderValues dec)
    (yaml : Bool) (fmt : Cli.Format) (text doc : String) :
    (readDiffFmtM nc fmt text >>= fun d => readDocM nc dec yaml doc >>= fun a => patchM a d)
      ≠ .panic := by
  refine Outcome.bind_ne_panic _ _ (readDiffFmtM_ne_panic nc fmt text) fun d _ => ?_
  exact Outcome.bind_ne_panic _ _ (readDocM_ne_panic nc dec hd yaml doc) fun a _ => patchM_ne_panic a d

/-- a YAML document round-tripped through the contract and then patched with any read diff -/
theorem yaml_round_trip_then_patch_ne_panic (nc : NumCodec) (j : Json) (fmt : Cli.Format)
    (text : String) :
    (glueOutcome (yamlRoundTripM j) >>= fun c => readDiffFmtM nc fmt text >>= fun d => patchM c d)
      ≠ .panic :=
  Robust.read_read_patch_ne_panic
    (fun h => yamlRoundTripM_ne_nilElem j ((glueOutcome_panic_iff _).1 h))
    (readDiffFmtM_ne_panic nc fmt text)

/-! ### non-vacuity and the boundary of §1–§2 -/

/-- a hostile yaml.v2 value: nested maps and sequences with an int key, a uint64, a NaN, a
    timestamp and an int64 — it satisfies the hypothesis `nodeFree` and is rejected with an error -/
def hostile : Raw :=
  .mapI [(.str "a", .slice [.int 1, .f64 0x7ff8000000000000, .mapI [(.int 3, .nil)]]),
         (.str "b", .uint64 18446744073709551615), (.bool true, .other "time.Time"),
         (.str "c", .int64 (-1))]

example : nodeFree hostile = true := by decide
theorem hostile_rejected : newJsonNodeM hostile = .error .unsupported :=
  (newJsonNodeM_classified _).1 (by decide)
example : glueOutcome (newJsonNodeM hostile) = .err := by rw [hostile_rejected]; rfl

/-- an accepted yaml.v2 value with an int beyond 2^53 (rounded, no overflow fault) -/
example : nodeFree (.mapI [(.str "k", .slice [.int 9007199254740993, .str "x", .nil])]) = true := by
  decide
example : ∃ j, newJsonNodeM (.mapI [(.str "k", .slice [.int (-5), .str "x", .nil])]) = .ok j :=
  (newJsonNodeM_classified _).2.2 (by decide) (by decide)

/-- a decoder that satisfies `DecoderValues` and returns the hostile value for every text -/
def hostileDec : YamlDecoder := fun _ => some hostile
theorem hostileDec_values : DecoderValues hostileDec := by
  intro s r h
  cases h
  decide
example : readYamlM hostileDec "a: 1" = .err := by
  have h : (trimGoSpace "a: 1").isEmpty = false := by decide
  simp [readYamlM, unmarshalM, h, hostileDec, hostile_rejected, glueOutcome]

/-- THE BOUNDARY (API callers, not decoders): `NewJsonNode([]interface{}{someJsonNode})` returns
    NO error and a node whose only element is a nil interface — the classification says `.panic` -/
theorem nilSlot_witness :
    nodeFree (.slice [.node (.str "x")]) = false ∧
    bad (.slice [.node (.str "x")]) = false ∧ slot (.slice [.node (.str "x")]) = true ∧
    newJsonNodeM (.slice [.node (.str "x")]) = .error .nilElem ∧
    glueOutcome (newJsonNodeM (.slice [.node (.str "x")])) = .panic := by
  refine ⟨by decide, by decide, by decide, rfl, rfl⟩

/-- … and a jd node as a member of a `map[interface{}]interface{}` is silently DROPPED (no panic, no
    error, wrong result) while under `map[string]interface{}` it is kept -/
theorem dropped_member_witness :
    newJsonNodeM (.mapI [(.str "a", .node (.str "x"))]) = .ok (.obj []) ∧
    newJsonNodeM (.mapS [("a", .node (.str "x"))]) = .ok (.obj [("a", .str "x")]) := ⟨rfl, rfl⟩

/-! ## §3 the CLI clause: exit status 2 and ONE log record, never a stack trace -/

section CliPart
open Jd.Cli

/-- the calls `main` makes to the library and to the operating system.  `diff` (`a.Diff(b, …)`),
    `renderJd` (`diff.Render(…)`) and `renderDoc` (`n.Json(…)` / `n.Yaml(…)`) have NO error result in
    Go: `LibResults` holds their value only. -/
inductive Call where
  | serve | file1 | file2 | parse1 | parse2 | diff | renderJd | renderPatch | renderMerge
  | readDiff | patch | renderDoc | translate | write
deriving DecidableEq, Repr, Inhabited

/-- what `LibResults` records of a call, the value forgotten: returned normally / returned this error -/
def Call.result (r : LibResults) : Call → Except Err Unit
  | .serve => chk r.serve
  | .file1 => chk r.file1
  | .file2 => chk r.file2
  | .parse1 => chk r.parse1
  | .parse2 => chk r.parse2
  | .renderPatch => chk r.renderPatch
  | .renderMerge => chk r.renderMerge
  | .readDiff => chk r.readDiff
  | .patch => chk r.patch
  | .translate => chk r.translate
  | .write => chk r.write
  | .diff => .ok ()
  | .renderJd => .ok ()
  | .renderDoc => .ok ()

/-- one step of `main`: a check of the command line alone (its verdict is a function of the flags),
    or a call -/
inductive Step where
  | flag (verdict : Except Err Unit)
  | call (c : Call)
deriving Repr, Inhabited

def Step.verdict (r : LibResults) : Step → Except Err Unit
  | .flag v => v
  | .call c => c.result r

def inputSteps (srcs : List Src) : List Step :=
  .call .file1 :: (if srcs.length ≥ 2 then [.call .file2] else [])

/-- `diff(a, b, options)` of main.go -/
def diffSteps (fl : Flags) : List Step :=
  [.call .parse1, .call .parse2, .call .diff,
   match formatOf fl.f with
   | some .jd => .call .renderJd
   | some .patch => .call .renderPatch
   | some .merge => .call .renderMerge
   | none => .flag (.error (.msg ("Invalid format: " ++ goQuote fl.f)))]

/-- `printPatch` -/
def patchSteps (fl : Flags) : List Step :=
  [.flag (match formatOf fl.f with
          | none => .error (.msg ("Invalid format: " ++ goQuote fl.f))
          | some _ => .ok ()),
   .call .readDiff, .call .parse2, .call .patch, .call .renderDoc]

/-- `printTranslation` -/
def translateSteps (fl : Flags) : List Step :=
  [.flag (guardMsg (!translations.contains fl.t) ("unsupported translation: " ++ goQuote fl.t)),
   .call .translate]

def writeSteps (fl : Flags) : List Step := if fl.o == "" then [] else [.call .write]

/-- THE PROGRAM: the steps `main` goes through for these flags when every step succeeds, in program
    order.  A function of the command line ALONE. -/
def program (b : Binary) (fl : Flags) : List Step :=
  if fl.version then []
  else if fl.port != 0 then [.flag (guardMsg (fl.nargs > 0) portArgs), .call .serve]
  else
    .flag (chk (parsedOptions b fl)) ::
    (if fl.gitDiffDriver then
      .flag (guardMsg (fl.nargs != 7) gitDriverArgs) :: (inputSteps [.arg 1, .arg 4] ++ diffSteps fl)
    else
      .flag (guardMsg (fl.p && fl.t != "") patchAndTranslate) ::
      (match inputsOf fl with
       | .error e => [.flag (.error e)]
       | .ok srcs =>
         inputSteps srcs ++
         ((match modeOf fl with
          | .diff => diffSteps fl
          | .patch => patchSteps fl
          | .translate => translateSteps fl) ++
         writeSteps fl)))

def verdicts (b : Binary) (fl : Flags) (r : LibResults) : List (Except Err Unit) :=
  (program b fl).map (Step.verdict r)

theorem firstErr_ok' (l : List (Except Err Unit)) : firstErr (.ok () :: l) = firstErr l := rfl

theorem verdicts_inputSteps (srcs : List Src) (r : LibResults) :
    (inputSteps srcs).map (Step.verdict r) = inputChecks srcs r := by
  unfold inputSteps inputChecks
  by_cases h : srcs.length ≥ 2 <;> simp [h, Step.verdict, Call.result]

/-- a call without an error result (`diff`, `renderJd`, `renderDoc`) is a step of the program and no
    check of `Jd.Cli.checks` -/
theorem firstErr_skip_ok (l₁ l₂ : List (Except Err Unit)) :
    firstErr (l₁ ++ .ok () :: l₂) = firstErr (l₁ ++ l₂) := by
  rw [firstErr_append, firstErr_append]; rfl

theorem firstErr_diffSteps (fl : Flags) (r : LibResults) (l : List (Except Err Unit)) :
    firstErr ((diffSteps fl).map (Step.verdict r) ++ l) = firstErr (renderChecks fl r ++ l) := by
  unfold diffSteps renderChecks
  cases formatOf fl.f with
  | none => exact firstErr_skip_ok [_, _] _
  | some f => cases f <;> exact firstErr_skip_ok [_, _] _

theorem firstErr_patchSteps (fl : Flags) (r : LibResults) (l : List (Except Err Unit)) :
    firstErr ((patchSteps fl).map (Step.verdict r) ++ l) = firstErr (patchChecks fl r ++ l) :=
  firstErr_skip_ok [_, _, _, _] l

theorem verdicts_translateSteps (fl : Flags) (r : LibResults) :
    (translateSteps fl).map (Step.verdict r) = translateChecks fl r := by
  simp [translateSteps, translateChecks, Step.verdict, Call.result]

theorem verdicts_writeSteps (fl : Flags) (r : LibResults) :
    (writeSteps fl).map (Step.verdict r) = writeChecks fl r := by
  unfold writeSteps writeChecks
  split <;> simp [Step.verdict, Call.result]

/-- **the program is what `main` does**: the first failing step of the program is the first failing
    check of `Jd.Cli.checks`, i.e. (by `run_error_eq_firstErr`) the error `run` ends with -/
theorem program_sound (b : Binary) (fl : Flags) (r : LibResults) :
    firstErr (verdicts b fl r) = errOf (run b fl r) := by
  rw [run_error_eq_firstErr]
  unfold verdicts program checks
  by_cases hv : fl.version = true
  · simp [hv]
  simp only [hv]
  by_cases hp : (fl.port != 0) = true
  · simp [hp, Step.verdict, Call.result]
  simp only [hp]
  simp only [Bool.false_eq_true, if_false, List.map_cons, Step.verdict]
  cases parsedOptions b fl with
  | error e => simp
  | ok opts =>
    simp only [chk_ok, firstErr_ok]
    by_cases hg : fl.gitDiffDriver = true
    · simp only [hg, if_true, List.map_cons, Step.verdict, List.map_append, verdicts_inputSteps]
      cases guardMsg (fl.nargs != 7) gitDriverArgs with
      | error e => simp
      | ok u =>
        simp only [firstErr_ok]
        rw [firstErr_append, firstErr_append (inputChecks _ r)]
        have := firstErr_diffSteps fl r []
        simp only [List.append_nil] at this
        rw [this]
    · simp only [hg, Bool.false_eq_true, if_false, List.map_cons, Step.verdict]
      cases guardMsg (fl.p && fl.t != "") patchAndTranslate with
      | error e => simp
      | ok u =>
        simp only [firstErr_ok]
        cases inputsOf fl with
        | error e => simp [Step.verdict]
        | ok srcs =>
          simp only [List.map_append, verdicts_inputSteps, verdicts_writeSteps]
          rw [firstErr_append, firstErr_append (inputChecks _ r)]
          cases modeOf fl with
          | diff => simp only [firstErr_diffSteps]
          | patch => simp only [firstErr_patchSteps]
          | translate => simp only [verdicts_translateSteps]

/-! ### the three shapes of the outcome -/

theorem run_of_firstErr {b : Binary} {fl : Flags} {r : LibResults} {e : Err}
    (h : firstErr (verdicts b fl r) = some e) : run b fl r = .error e := by
  rw [program_sound] at h
  cases hr : run b fl r with
  | ok v => rw [hr] at h; cases h
  | error e' => rw [hr] at h; simp only [errOf_error, Option.some.injEq] at h; rw [h]

/-- (a) the first failing step has a message `m`: exit 2, NOTHING on stdout, no `-o` file, and stderr
    is exactly ONE log record, `logRecord m` (the message, newline-terminated; the timestamp prefix of
    Go's `log` package is not part of the model) -/
theorem outcome_of_message {b : Binary} {fl : Flags} {r : LibResults} {m : String}
    (h : firstErr (verdicts b fl r) = some (.msg m)) :
    cliM b fl r = ⟨2, "", none, logRecord m, classOfRecord (logRecord m)⟩ := by
  unfold cliM; rw [run_of_firstErr h]; rfl

/-- (b) the first failing step is the argument-count switch: exit 2, the usage text on STDOUT,
    nothing on stderr -/
theorem outcome_of_usage {b : Binary} {fl : Flags} {r : LibResults}
    (h : firstErr (verdicts b fl r) = some .usage) :
    cliM b fl r = ⟨2, usageText b, none, "", .usage⟩ := by
  unfold cliM; rw [run_of_firstErr h]; rfl

/-- (c) no step fails: exit 0 or 1, nothing on stderr -/
theorem outcome_of_success {b : Binary} {fl : Flags} {r : LibResults}
    (h : firstErr (verdicts b fl r) = none) :
    ((cliM b fl r).exit = 0 ∨ (cliM b fl r).exit = 1) ∧ (cliM b fl r).stderr = "" ∧
      (cliM b fl r).stderrClass = .none := by
  rw [program_sound] at h
  unfold cliM
  cases hr : run b fl r with
  | error e => rw [hr] at h; cases h
  | ok v =>
    have hc := run_code hr
    simp only [outcomeOf]
    split <;> exact ⟨hc, rfl, rfl⟩

/-! ### exit 2 ⇔ a step of the program failed -/

theorem mem_verdicts {b : Binary} {fl : Flags} {r : LibResults} {x : Except Err Unit} :
    x ∈ verdicts b fl r ↔ ∃ s ∈ program b fl, s.verdict r = x := by
  simp [verdicts, List.mem_map]

theorem exit_two_iff_firstErr (b : Binary) (fl : Flags) (r : LibResults) :
    (cliM b fl r).exit = 2 ↔ (firstErr (verdicts b fl r)).isSome := by
  rw [program_sound, run_error_eq_firstErr, firstErr_some_iff]
  exact exit_two_iff_error b fl r

/-- **exit status 2 exactly when a step of the program failed**: a check of the command line
    rejected it, or a call of the plan returned an error -/
theorem exit_two_iff (b : Binary) (fl : Flags) (r : LibResults) :
    (cliM b fl r).exit = 2 ↔
      (∃ e, Step.flag (.error e) ∈ program b fl) ∨
      (∃ c e, Step.call c ∈ program b fl ∧ c.result r = .error e) := by
  rw [exit_two_iff_firstErr, firstErr_some_iff]
  constructor
  · rintro ⟨x, hx, e, rfl⟩
    obtain ⟨s, hs, hv⟩ := mem_verdicts.1 hx
    cases s with
    | flag v => left; simp only [Step.verdict] at hv; subst hv; exact ⟨e, hs⟩
    | call c => right; exact ⟨c, e, hs, hv⟩
  · rintro (⟨e, hs⟩ | ⟨c, e, hs, hv⟩)
    · exact ⟨.error e, mem_verdicts.2 ⟨_, hs, rfl⟩, e, rfl⟩
    · exact ⟨.error e, mem_verdicts.2 ⟨_, hs, hv⟩, e, rfl⟩

/-- ⇒ spelled out: ANY failing call of the program makes the exit status 2 -/
theorem failing_call_exits_two {b : Binary} {fl : Flags} {r : LibResults} {c : Call} {e : Err}
    (hc : Step.call c ∈ program b fl) (he : c.result r = .error e) : (cliM b fl r).exit = 2 :=
  (exit_two_iff b fl r).2 (.inr ⟨c, e, hc, he⟩)

theorem rejected_flags_exit_two {b : Binary} {fl : Flags} {r : LibResults} {e : Err}
    (hc : Step.flag (.error e) ∈ program b fl) : (cliM b fl r).exit = 2 :=
  (exit_two_iff b fl r).2 (.inl ⟨e, hc⟩)

/-! ### which of (a) / (b): the usage exit is decided by the command line alone -/

/-- the run reaches the argument-count switch and the count is wrong (`printUsageAndExit`) -/
def usageExit (b : Binary) (fl : Flags) : Bool :=
  !fl.version && !(fl.port != 0) &&
  (match parsedOptions b fl with | .ok _ => true | .error _ => false) &&
  !fl.gitDiffDriver && !(fl.p && fl.t != "") &&
  (match inputsOf fl with | .ok _ => false | .error _ => true)

theorem chk_ne_usage {α} (x : Except String α) : chk x ≠ .error .usage := by
  cases x <;> simp [chk]

theorem guardMsg_ne_usage (c : Bool) (m : String) : guardMsg c m ≠ .error .usage := by
  cases c <;> simp [guardMsg]

theorem Call.result_ne_usage (r : LibResults) (c : Call) : c.result r ≠ .error .usage := by
  cases c <;> simp [Call.result, chk_ne_usage]

theorem firstErr_mem {l : List (Except Err Unit)} {e : Err} (h : firstErr l = some e) :
    .error e ∈ l := by
  induction l with
  | nil => cases h
  | cons x l ih =>
    cases x with
    | ok u => exact List.mem_cons_of_mem _ (ih h)
    | error e' => simp only [firstErr_error, Option.some.injEq] at h; subst h; exact List.mem_cons_self

def flagsNoUsage (l : List Step) : Prop := ∀ v, Step.flag v ∈ l → v ≠ .error .usage

theorem firstErr_ne_usage {l : List Step} (h : flagsNoUsage l) (r : LibResults) :
    firstErr (l.map (Step.verdict r)) ≠ some .usage := by
  intro hf
  have hm := firstErr_mem hf
  obtain ⟨s, hs, hv⟩ := List.mem_map.1 hm
  cases s with
  | flag v => exact h v hs hv
  | call c => exact Call.result_ne_usage r c hv

theorem flagsNoUsage_append {l₁ l₂ : List Step} (h₁ : flagsNoUsage l₁) (h₂ : flagsNoUsage l₂) :
    flagsNoUsage (l₁ ++ l₂) := by
  intro v hv
  rcases List.mem_append.1 hv with h | h
  · exact h₁ v h
  · exact h₂ v h

theorem flagsNoUsage_cons {s : Step} {l : List Step}
    (h₁ : ∀ v, s = .flag v → v ≠ .error .usage) (h₂ : flagsNoUsage l) : flagsNoUsage (s :: l) := by
  intro v hv
  rcases List.mem_cons.1 hv with h | h
  · exact h₁ v h.symm
  · exact h₂ v h

theorem flagsNoUsage_nil : flagsNoUsage [] := by intro v hv; cases hv

/-! the checks of the command line in each part of the program -/

theorem flag_not_mem_inputSteps {srcs : List Src} {v : Except Err Unit} :
    Step.flag v ∉ inputSteps srcs := by
  unfold inputSteps
  split <;> simp

theorem flag_mem_diffSteps {fl : Flags} {v : Except Err Unit} (h : Step.flag v ∈ diffSteps fl) :
    v = .error (.msg ("Invalid format: " ++ goQuote fl.f)) := by
  unfold diffSteps at h
  cases hf : formatOf fl.f with
  | none => simpa [hf] using h
  | some f => cases f <;> simp [hf] at h

theorem flag_mem_patchSteps {fl : Flags} {v : Except Err Unit} (h : Step.flag v ∈ patchSteps fl) :
    v = .ok () ∨ v = .error (.msg ("Invalid format: " ++ goQuote fl.f)) := by
  unfold patchSteps at h
  cases hf : formatOf fl.f <;> simp [hf] at h <;> simp [h]

theorem flag_mem_translateSteps {fl : Flags} {v : Except Err Unit}
    (h : Step.flag v ∈ translateSteps fl) :
    v = guardMsg (!translations.contains fl.t) ("unsupported translation: " ++ goQuote fl.t) := by
  simpa [translateSteps] using h

theorem flag_not_mem_writeSteps {fl : Flags} {v : Except Err Unit} :
    Step.flag v ∉ writeSteps fl := by
  unfold writeSteps
  split <;> simp

theorem flagsNoUsage_inputSteps (srcs : List Src) : flagsNoUsage (inputSteps srcs) :=
  fun _ hv => absurd hv flag_not_mem_inputSteps

theorem flagsNoUsage_diffSteps (fl : Flags) : flagsNoUsage (diffSteps fl) :=
  fun _ hv => by rw [flag_mem_diffSteps hv]; simp

theorem flagsNoUsage_patchSteps (fl : Flags) : flagsNoUsage (patchSteps fl) :=
  fun _ hv => by rcases flag_mem_patchSteps hv with h | h <;> simp [h]

theorem flagsNoUsage_translateSteps (fl : Flags) : flagsNoUsage (translateSteps fl) :=
  fun _ hv => flag_mem_translateSteps hv ▸ guardMsg_ne_usage _ _

theorem flagsNoUsage_writeSteps (fl : Flags) : flagsNoUsage (writeSteps fl) :=
  fun _ hv => absurd hv flag_not_mem_writeSteps

theorem inputsOf_error {fl : Flags} {e : Err} (h : inputsOf fl = .error e) : e = .usage := by
  unfold inputsOf at h
  split at h <;> first | (cases h; done) | (cases h; rfl)

/-- the usage exit happens exactly when `usageExit` says so — whatever the library returns -/
theorem usage_iff (b : Binary) (fl : Flags) (r : LibResults) :
    firstErr (verdicts b fl r) = some .usage ↔ usageExit b fl = true := by
  unfold verdicts program usageExit
  by_cases hv : fl.version = true
  · simp [hv]
  simp only [hv]
  by_cases hp : (fl.port != 0) = true
  · simp only [hp, if_true, Bool.not_true, Bool.and_false, Bool.false_and, Bool.false_eq_true, iff_false]
    refine firstErr_ne_usage (l := [_, _]) ?_ r
    exact flagsNoUsage_cons (fun v h => by cases h; exact guardMsg_ne_usage _ _)
      (flagsNoUsage_cons (fun v h => by cases h) flagsNoUsage_nil)
  simp only [hp, Bool.false_eq_true, if_false, List.map_cons, Step.verdict]
  cases ho : parsedOptions b fl with
  | error e => simp
  | ok opts =>
    simp only [chk_ok, firstErr_ok]
    by_cases hg : fl.gitDiffDriver = true
    · simp only [hg, if_true, Bool.not_true, Bool.and_false, Bool.false_and, Bool.false_eq_true,
        iff_false]
      refine firstErr_ne_usage (l := _ :: _) ?_ r
      exact flagsNoUsage_cons (fun v h => by cases h; exact guardMsg_ne_usage _ _)
        (flagsNoUsage_append (flagsNoUsage_inputSteps _) (flagsNoUsage_diffSteps fl))
    · simp only [hg, Bool.false_eq_true, if_false, List.map_cons, Step.verdict]
      by_cases hpt : (fl.p && fl.t != "") = true
      · simp [hpt, guardMsg]
      · simp only [hpt, guardMsg_false, firstErr_ok]
        cases hi : inputsOf fl with
        | error e =>
          have := inputsOf_error hi
          subst this
          simp [Step.verdict]
        | ok srcs =>
          simp only [Bool.not_false, Bool.and_true, Bool.and_false,
            Bool.false_eq_true, iff_false]
          refine firstErr_ne_usage ?_ r
          refine flagsNoUsage_append (flagsNoUsage_inputSteps _)
            (flagsNoUsage_append ?_ (flagsNoUsage_writeSteps fl))
          cases modeOf fl
          · exact flagsNoUsage_diffSteps fl
          · exact flagsNoUsage_patchSteps fl
          · exact flagsNoUsage_translateSteps fl

/-! ### what stderr is: ONE log record; when it is one line -/

theorem count_nl (l : List Char) :
    ((if l.getLast? = some '\n' then l else l ++ ['\n']).filter (· == '\n')).length = 1 ↔
      '\n' ∉ l.dropLast := by
  rcases List.eq_nil_or_concat l with rfl | ⟨ys, a, rfl⟩
  · simp
  · simp only [List.concat_eq_append]
    have hfil : ∀ zs : List Char, (zs.filter (· == '\n')).length = 0 ↔ '\n' ∉ zs := by
      intro zs
      rw [List.length_eq_zero_iff, List.filter_eq_nil_iff]
      constructor
      · intro h hm; exact h _ hm (by simp)
      · intro h c hc hcc; simp at hcc; subst hcc; exact h hc
    by_cases ha : a = '\n'
    · subst ha
      have : (ys ++ ['\n']).getLast? = some '\n' := by simp
      rw [if_pos this, List.dropLast_concat, List.filter_append, List.length_append, ← hfil ys]
      simp
    · have : ¬ ((ys ++ [a]).getLast? = some '\n') := by simp [ha]
      rw [if_neg this, List.dropLast_concat, List.filter_append, List.filter_append,
        List.length_append, List.length_append, ← hfil ys]
      simp [ha]

def oneLineMsg (m : String) : Bool := !(m.toList.dropLast.contains '\n')

theorem logRecord_toList (m : String) :
    (logRecord m).toList = if m.toList.getLast? = some '\n' then m.toList else m.toList ++ ['\n'] := by
  unfold logRecord
  by_cases h : m.toList.getLast? = some '\n'
  · simp [h]
  · simp [h, String.toList_append]

theorem class_oneLine_iff (m : String) :
    classOfRecord (logRecord m) = .oneLine ↔ oneLineMsg m = true := by
  unfold classOfRecord oneLineMsg
  rw [logRecord_toList]
  have := count_nl m.toList
  by_cases h : '\n' ∈ m.toList.dropLast
  · have h2 := (not_congr this).2 (by simpa using h)
    simp [h]
    intro h3; exact absurd h3 h2
  · have h2 := this.2 h
    simp [h, h2]

theorem logRecord_last (m : String) : (logRecord m).toList.getLast? = some '\n' := by
  rw [logRecord_toList]
  split
  · assumption
  · simp

theorem logRecord_ne_empty (m : String) : logRecord m ≠ "" := by
  intro h
  have := logRecord_last m
  rw [h] at this
  cases this

/-! ### the messages `main` composes itself -/

theorem hexNibble_ne_nl : ∀ k, k < 16 → hexNibble k ≠ '\n' := by decide

theorem no_nl_ite {p : Prop} [Decidable p] {s t : String} (hs : '\n' ∉ s.toList)
    (ht : ¬p → '\n' ∉ t.toList) : '\n' ∉ (if p then s else t).toList := by
  by_cases h : p
  · rw [if_pos h]; exact hs
  · rw [if_neg h]; exact ht h

/-- branch by branch: nine two-character escapes, `\x` and two hex digits, or the character itself,
    which is then not the newline (the sixth test has failed) -/
theorem goQuoteChar_no_nl (c : Char) : '\n' ∉ (goQuoteChar c).toList :=
  no_nl_ite (by decide) fun _ => no_nl_ite (by decide) fun _ => no_nl_ite (by decide) fun _ =>
  no_nl_ite (by decide) fun _ => no_nl_ite (by decide) fun _ => no_nl_ite (by decide) fun h10 =>
  no_nl_ite (by decide) fun _ => no_nl_ite (by decide) fun _ => no_nl_ite (by decide) fun _ => by
  split
  · rename_i hlt
    have h1 : c.toNat / 16 < 16 := by
      simp only [Bool.or_eq_true, decide_eq_true_eq, beq_iff_eq] at hlt
      omega
    have h2 : c.toNat % 16 < 16 := by omega
    simp only [String.toList_append, String.toList_ofList, List.mem_append, List.mem_cons,
      List.not_mem_nil, or_false]
    intro h
    rcases h with h | h | h
    · revert h; decide
    · exact hexNibble_ne_nl _ h1 h.symm
    · exact hexNibble_ne_nl _ h2 h.symm
  · simp only [String.toList_singleton, List.mem_singleton]
    intro h
    apply h10
    rw [← h]
    rfl

theorem goQuote_no_nl (s : String) : '\n' ∉ (goQuote s).toList := by
  unfold goQuote
  simp only [String.toList_append, String.toList_join, List.mem_append, List.mem_flatMap,
    List.mem_map]
  intro h
  rcases h with (h | ⟨t, ⟨c, _, rfl⟩, h⟩) | h
  · revert h; decide
  · exact goQuoteChar_no_nl c h
  · revert h; decide

theorem oneLineMsg_of_no_nl {m : String} (h : '\n' ∉ m.toList) : oneLineMsg m = true := by
  unfold oneLineMsg
  simp only [Bool.not_eq_true', List.contains_eq_mem, decide_eq_false_iff_not]
  exact fun hm => h (List.dropLast_subset _ hm)

theorem oneLineMsg_prefix_goQuote (pre s : String) (hp : '\n' ∉ pre.toList) :
    oneLineMsg (pre ++ goQuote s) = true := by
  apply oneLineMsg_of_no_nl
  rw [String.toList_append, List.mem_append]
  rintro (h | h)
  · exact hp h
  · exact goQuote_no_nl s h

theorem mapM_error {α β ε} (f : α → Except ε β) : ∀ (l : List α) (e : ε),
    l.mapM f = .error e → ∃ a ∈ l, f a = .error e
  | [], e, h => by simp [pure, Except.pure] at h
  | a :: l, e, h => by
    rw [List.mapM_cons] at h
    cases hf : f a with
    | error e' =>
      simp only [hf, bind, Except.bind] at h
      injection h with h
      exact ⟨a, List.mem_cons_self, by rw [hf, h]⟩
    | ok b =>
      simp only [hf, bind, Except.bind] at h
      cases hl : l.mapM f with
      | error e' =>
        simp only [hl] at h
        injection h with h
        obtain ⟨a', ha', hfa'⟩ := mapM_error f l e' hl
        exact ⟨a', List.mem_cons_of_mem _ ha', by rw [hfa', h]⟩
      | ok bs => simp [hl, pure, Except.pure] at h

theorem splitKeys_error {s e : String} (h : splitKeys s = .error e) :
    ∃ k ∈ s.splitOn ",", e = "invalid set key: " ++ k := by
  obtain ⟨k, hk, hfk⟩ := mapM_error _ _ _ h
  refine ⟨k, hk, ?_⟩
  by_cases ht : (goTrimSpace k == "") = true
  · injection hfk.symm.trans (if_pos ht)
  · cases hfk.symm.trans (if_neg ht)

/-- the only messages `parseMetadata` produces -/
theorem parsedOptions_error {b : Binary} {fl : Flags} {m : String}
    (h : parsedOptions b fl = .error m) :
    m = precisionRefusal ∨ ∃ k ∈ fl.setkeys.splitOn ",", m = "invalid set key: " ++ k := by
  rw [parsedOptions_same] at h
  unfold optionsOf at h
  split at h
  · injection h with h; exact .inl h.symm
  · right
    split at h
    · rename_i e he
      injection h with h
      subst h
      split at he
      · cases hs : splitKeys fl.setkeys with
        | ok ks => rw [hs] at he; cases he
        | error e' => rw [hs] at he; injection he with he; exact he ▸ splitKeys_error hs
      · cases he
    · cases h

theorem guardMsg_eq_msg {c : Bool} {m' m : String} (h : guardMsg c m' = .error (.msg m)) :
    m = m' := by
  cases c
  · cases h
  · injection h with h; injection h with h; exact h.symm

/-- the messages `main` composes itself -/
theorem msg_mem_program {b : Binary} {fl : Flags} {m : String}
    (h : Step.flag (.error (.msg m)) ∈ program b fl) :
    parsedOptions b fl = .error m ∨
    m ∈ [portArgs, gitDriverArgs, patchAndTranslate, "Invalid format: " ++ goQuote fl.f,
      "unsupported translation: " ++ goQuote fl.t] := by
  have hd : Step.flag (.error (.msg m)) ∈ diffSteps fl → m = "Invalid format: " ++ goQuote fl.f :=
    fun h => by injection flag_mem_diffSteps h with h; injection h
  unfold program at h
  split at h
  · cases h
  split at h
  · rcases List.mem_cons.1 h with h | h
    · injection h with h; simp [guardMsg_eq_msg h.symm]
    · simp at h
  rcases List.mem_cons.1 h with h | h
  · injection h with h
    cases ho : parsedOptions b fl with
    | ok o => rw [ho] at h; cases h
    | error e => rw [ho] at h; injection h with h; injection h with h; rw [h]; exact .inl rfl
  right
  split at h
  · rcases List.mem_cons.1 h with h | h
    · injection h with h; simp [guardMsg_eq_msg h.symm]
    · rcases List.mem_append.1 h with h | h
      · exact absurd h flag_not_mem_inputSteps
      · simp [hd h]
  · rcases List.mem_cons.1 h with h | h
    · injection h with h; simp [guardMsg_eq_msg h.symm]
    · split at h
      · rename_i e he
        rw [inputsOf_error he] at h
        simp at h
      · rcases List.mem_append.1 h with h | h
        · exact absurd h flag_not_mem_inputSteps
        · rcases List.mem_append.1 h with h | h
          · split at h
            · simp [hd h]
            · rcases flag_mem_patchSteps h with h | h
              · cases h
              · injection h with h; injection h with h; simp [h]
            · simp [guardMsg_eq_msg (flag_mem_translateSteps h).symm]
          · exact absurd h flag_not_mem_writeSteps

/-- The kernel reads a string literal as `String.ofList` of its characters, so for a literal `s` the
    hypothesis is a test on that list.  `decide` on `"…".toList` instead evaluates the UTF-8 decoder
    inside `String.toList`, which is slow to check. -/
theorem no_nl_ofList {l : List Char} (h : l.contains '\n' = false) :
    '\n' ∉ (String.ofList l).toList := by
  rw [String.toList_ofList]
  simpa using h

/-- **every message `main` composes itself is one line, except `invalid set key: …`**, which shows
    the offending piece of `-setkeys` verbatim (`%v`, not `%q`) -/
theorem own_messages_oneLine {b : Binary} {fl : Flags} {m : String}
    (h : Step.flag (.error (.msg m)) ∈ program b fl) :
    oneLineMsg m = true ∨ ∃ k ∈ fl.setkeys.splitOn ",", m = "invalid set key: " ++ k := by
  rcases msg_mem_program h with ho | hm
  · rcases parsedOptions_error ho with rfl | hk
    · exact .inl (oneLineMsg_of_no_nl (no_nl_ofList (by decide)))
    · exact .inr hk
  · left
    simp only [List.mem_cons, List.not_mem_nil, or_false] at hm
    rcases hm with rfl | rfl | rfl | rfl | rfl
    · exact oneLineMsg_of_no_nl (no_nl_ofList (by decide))
    · exact oneLineMsg_of_no_nl (no_nl_ofList (by decide))
    · exact oneLineMsg_of_no_nl (no_nl_ofList (by decide))
    · exact oneLineMsg_prefix_goQuote _ _ (no_nl_ofList (by decide))
    · exact oneLineMsg_prefix_goQuote _ _ (no_nl_ofList (by decide))

/-! ### MAIN: the error exit -/

/-- the error shown is that of the FIRST failing step: everything before it succeeded -/
theorem firstErr_split {l : List Step} {r : LibResults} {e : Err}
    (h : firstErr (l.map (Step.verdict r)) = some e) :
    ∃ pre s post, l = pre ++ s :: post ∧ (∀ s' ∈ pre, s'.verdict r = .ok ()) ∧
      s.verdict r = .error e := by
  induction l with
  | nil => cases h
  | cons s l ih =>
    cases hs : s.verdict r with
    | error e' =>
      simp only [List.map_cons, hs, firstErr_error, Option.some.injEq] at h
      subst h
      exact ⟨[], s, l, rfl, by simp, hs⟩
    | ok u =>
      simp only [List.map_cons, hs, firstErr_ok] at h
      obtain ⟨pre, s', post, hl, hpre, hs'⟩ := ih h
      refine ⟨s :: pre, s', post, by rw [hl]; rfl, ?_, hs'⟩
      intro x hx
      rcases List.mem_cons.1 hx with rfl | hx
      · exact hs
      · exact hpre x hx

/-- **MAIN 1 — exit status 2: what the program has done.**  If `cliM` exits 2 then EITHER
    (message exit) nothing is on stdout, no `-o` file is written, stderr is exactly ONE log record
    `logRecord m` — `m` being the error of the first failing step of the program, all earlier steps
    having succeeded — and that record is a single line iff `m` has no interior newline;
    OR (usage exit, decided by the command line alone: wrong number of positional arguments) the
    usage text is on STDOUT, nothing is on stderr and no file is written. -/
theorem error_exit_contract (b : Binary) (fl : Flags) (r : LibResults)
    (h : (cliM b fl r).exit = 2) :
    (usageExit b fl = false ∧ ∃ m,
        cliM b fl r = ⟨2, "", none, logRecord m, classOfRecord (logRecord m)⟩ ∧
        (∃ pre s post, program b fl = pre ++ s :: post ∧ (∀ s' ∈ pre, s'.verdict r = .ok ()) ∧
          s.verdict r = .error (.msg m)) ∧
        ((cliM b fl r).stderrClass = .oneLine ↔ oneLineMsg m = true)) ∨
    (usageExit b fl = true ∧ cliM b fl r = ⟨2, usageText b, none, "", .usage⟩) := by
  have hs := (exit_two_iff_firstErr b fl r).1 h
  cases hf : firstErr (verdicts b fl r) with
  | none => rw [hf] at hs; cases hs
  | some e =>
    cases e with
    | usage => exact .inr ⟨(usage_iff b fl r).1 hf, outcome_of_usage hf⟩
    | msg m =>
      left
      refine ⟨?_, m, outcome_of_message hf, firstErr_split hf, ?_⟩
      · cases hu : usageExit b fl
        · rfl
        · rw [(usage_iff b fl r).2 hu] at hf; cases hf
      · rw [outcome_of_message hf]
        -- reduce the projection first: unifying it with `classOfRecord _` unfolds the latter
        dsimp only
        exact class_oneLine_iff m

theorem no_call_of_usageExit {b : Binary} {fl : Flags} (h : usageExit b fl = true) (c : Call) :
    Step.call c ∉ program b fl := by
  unfold usageExit at h
  simp only [Bool.and_eq_true, Bool.not_eq_true', bne_eq_false_iff_eq] at h
  obtain ⟨⟨⟨⟨⟨hv, hp⟩, ho⟩, hg⟩, hpt⟩, hi⟩ := h
  unfold program
  cases hio : inputsOf fl with
  | ok srcs => rw [hio] at hi; cases hi
  | error e => simp [hv, hp, hg]

/-- **MAIN 2 — any failing call of the program** (missing / unreadable input: `file1`, `file2`;
    malformed document: `parse1`, `parse2`; malformed diff / patch / merge patch: `readDiff`; a patch
    that does not apply: `patch`; a diff that cannot be translated: `renderPatch`, `renderMerge`,
    `translate`; the `-o` file cannot be written: `write`; the web UI: `serve`): exit status 2,
    NOTHING on stdout, no `-o` file, stderr exactly one log record -/
theorem failing_call_contract {b : Binary} {fl : Flags} {r : LibResults} {c : Call} {e : Err}
    (hc : Step.call c ∈ program b fl) (he : c.result r = .error e) :
    ∃ m, cliM b fl r = ⟨2, "", none, logRecord m, classOfRecord (logRecord m)⟩ ∧
      firstErr (verdicts b fl r) = some (.msg m) := by
  have h2 := failing_call_exits_two hc he
  have hs := (exit_two_iff_firstErr b fl r).1 h2
  cases hf : firstErr (verdicts b fl r) with
  | none => rw [hf] at hs; cases hs
  | some e' =>
    cases e' with
    | usage => exact absurd hc (no_call_of_usageExit ((usage_iff b fl r).1 hf) c)
    | msg m => exact ⟨m, outcome_of_message hf, rfl⟩

/-! ### the Go panic: a lifting of `cliM`

  `Jd.Cli.cliM` HAS NO PANIC OUTCOME: `LibResults` records what each call RETURNED (`Except String _`:
  a value or an error message), and `Cli.Outcome` is what `main` then does.  A Go panic inside a
  library call is a call that does not return: the runtime prints `panic: …` and a goroutine stack
  trace on stderr and exits with status 2.  The lifting below adds exactly that: `cr c = true` says
  "call `c` does not return".  `main` itself has no partial operation (no indexing, no type
  assertion, no nil dereference on the paths modelled by `run`), so a crashing call is the only
  source. -/

/-- the calls actually made: the calls of the program up to the first failing step or the first
    call that does not return -/
def callsMade (r : LibResults) (cr : Call → Bool) : List Step → List Call
  | [] => []
  | .flag (.ok _) :: l => callsMade r cr l
  | .flag (.error _) :: _ => []
  | .call c :: l =>
    c :: (if cr c then [] else
      match c.result r with
      | .ok _ => callsMade r cr l
      | .error _ => [])

inductive POutcome where
  /-- `main` ended through `os.Exit` / `return`: the outcome of `cliM` -/
  | exited (o : Cli.Outcome)
  /-- a call panicked: exit status 2, `panic: …` and a multi-line stack trace on stderr -/
  | goPanic
deriving DecidableEq, Repr

def cliP (b : Binary) (fl : Flags) (r : LibResults) (cr : Call → Bool) : POutcome :=
  if (callsMade r cr (program b fl)).any cr then .goPanic else .exited (cliM b fl r)

theorem callsMade_subset (r : LibResults) (cr : Call → Bool) : ∀ (l : List Step) (c : Call),
    c ∈ callsMade r cr l → Step.call c ∈ l
  | [], c, h => by cases h
  | .flag (.ok u) :: l, c, h => List.mem_cons_of_mem _ (callsMade_subset r cr l c h)
  | .flag (.error e) :: l, c, h => by cases h
  | .call c' :: l, c, h => by
    simp only [callsMade, List.mem_cons] at h
    rcases h with rfl | h
    · exact List.mem_cons_self
    · split at h
      · cases h
      · split at h
        · exact List.mem_cons_of_mem _ (callsMade_subset r cr l c h)
        · cases h

/-- **MAIN 3 — a call that does not return is the ONLY way to a stack trace**, and only if it is
    actually reached -/
theorem cliP_goPanic_iff (b : Binary) (fl : Flags) (r : LibResults) (cr : Call → Bool) :
    cliP b fl r cr = .goPanic ↔ ∃ c ∈ callsMade r cr (program b fl), cr c = true := by
  unfold cliP
  split
  · rename_i h
    simp only [true_iff]
    simpa using h
  · rename_i h
    simp only [reduceCtorEq, false_iff]
    simpa using h

theorem cliP_exited_of_ne_goPanic {b : Binary} {fl : Flags} {r : LibResults} {cr : Call → Bool}
    (h : cliP b fl r cr ≠ .goPanic) : cliP b fl r cr = .exited (cliM b fl r) := by
  unfold cliP at h ⊢
  split
  · rename_i hc; exact absurd (if_pos hc) h
  · rfl

/-- if no call of the program panics, the process ends as `cliM` says — in particular with exit
    status 0 or 1, or with exit status 2 and the single log record / the usage text of MAIN 1 -/
theorem cliP_of_no_crash (b : Binary) (fl : Flags) (r : LibResults) (cr : Call → Bool)
    (h : ∀ c, Step.call c ∈ program b fl → cr c = false) :
    cliP b fl r cr = .exited (cliM b fl r) :=
  cliP_exited_of_ne_goPanic fun hc => by
    obtain ⟨c, hm, hcr⟩ := (cliP_goPanic_iff b fl r cr).1 hc
    rw [h c (callsMade_subset r cr _ c hm)] at hcr
    cases hcr

/-- a rejected plan (`planOf b fl = none`: `-version`, `-port`, bad `-precision` / `-setkeys`, a wrong
    argument count, `-p` with `-t`) makes no library call at all, except `serveWeb` for `-port` -/
theorem callsMade_of_no_plan {b : Binary} {fl : Flags} (r : LibResults) (cr : Call → Bool)
    (h : planOf b fl = none) : ∀ c ∈ callsMade r cr (program b fl), c = .serve := by
  intro c hc
  unfold program at hc
  by_cases hv : fl.version = true
  · simp [hv, callsMade] at hc
  by_cases hp : (fl.port != 0) = true
  · -- `-port`: the check of the argument count, then `serveWeb`
    have := callsMade_subset r cr _ c hc
    simpa [hv, hp] using this
  -- otherwise a check of the command line fails before any call
  simp only [hv, hp, Bool.false_eq_true, if_false] at hc
  revert h
  fun_cases planOf b fl <;> intro h
  case case1 hvp => simp [hv, hp] at hvp
  case case2 _ a ho => simp [ho, callsMade] at hc
  case case3 _ opts ho hg h7 => simp [ho, hg, h7, guardMsg, callsMade] at hc
  case case5 _ opts ho hg hpt => simp [ho, hg, hpt, guardMsg, callsMade] at hc
  case case6 _ opts ho hg hpt e hi => simp [ho, hg, hpt, hi, guardMsg, callsMade] at hc
  case case4 | case7 => cases h

/-! ### the model library behind the calls: which of them can fail to return -/

/-- the reading / error-returning part of `printTranslation` for `-t` (the final `Render()` / `Json()` /
    `Yaml()` have no error result; they are accounted for in `RenderPanics`) -/
def translateM (nc : NumCodec) (dec : YamlDecoder) (t : String) (s : String) : Jd.Outcome Unit :=
  if t == "jd2patch" then readDiffM nc s >>= fun d => renderPatchM nc d >>= fun _ => pure ()
  else if t == "patch2jd" then readPatchM nc s >>= fun _ => pure ()
  else if t == "jd2merge" then readDiffM nc s >>= fun d => renderMergeM nc d >>= fun _ => pure ()
  else if t == "merge2jd" then readMergeM nc s >>= fun _ => pure ()
  else if t == "json2yaml" then readJsonM nc s >>= fun _ => pure ()
  else if t == "yaml2json" then readYamlM dec s >>= fun _ => pure ()
  else .err

/-- the calls WITHOUT an error result panic in Go when marshalling fails (`renderJson` / `renderYaml`
    of node_write.go and the renderer of diff_write.go end in `panic(err)`): in the model `renderM` and
    `jsonM` return `none` then.  `Ym` stands for "yaml.Marshal fails on some `raw()` value"
    (external code, not modelled). -/
def RenderPanics (nc : NumCodec) (Ym : Prop) : Prop :=
  (∃ o d, renderM nc o d = none) ∨ (∃ n, jsonM nc n = none) ∨ Ym

/-- "some input makes the model's library function behind call `c` panic".  `diffM` is a total
    function of the model; the operating-system calls (`ioutil.ReadFile`, stdin, `WriteFile`,
    `http.ListenAndServe`) are Go runtime calls with `(value, error)` results, not jd code. -/
def ModelPanics (nc : NumCodec) (dec : YamlDecoder) (Ym : Prop) : Call → Prop
  | .parse1 => ∃ yaml s, readDocM nc dec yaml s = .panic
  | .parse2 => ∃ yaml s, readDocM nc dec yaml s = .panic
  | .readDiff => ∃ fmt s, readDiffFmtM nc fmt s = .panic
  | .patch => ∃ a d, patchM a d = .panic
  | .renderPatch => ∃ d, renderPatchM nc d = .panic
  | .renderMerge => ∃ d, renderMergeM nc d = .panic
  | .translate => (∃ t s, translateM nc dec t s = .panic) ∨ RenderPanics nc Ym
  | .renderJd => RenderPanics nc Ym
  | .renderDoc => RenderPanics nc Ym
  | .diff => False
  | .serve => False
  | .file1 => False
  | .file2 => False
  | .write => False

theorem translateM_ne_panic (nc : NumCodec) (dec : YamlDecoder) (hd : DecoderValues dec)
    (t s : String) : translateM nc dec t s ≠ .panic := by
  have hu : ∀ {α} {x : Outcome α}, x ≠ .panic →
      (x >>= fun _ => (pure () : Outcome Unit)) ≠ .panic :=
    fun hx => Outcome.bind_ne_panic _ _ hx fun _ _ => by simp [pure]
  unfold translateM
  refine Outcome.ite_ne_panic ?_ <| Outcome.ite_ne_panic (hu (Robust.readPatchM_ne_panic nc s)) <|
    Outcome.ite_ne_panic ?_ <| Outcome.ite_ne_panic (hu (Robust.readMergeM_ne_panic nc s)) <|
    Outcome.ite_ne_panic (hu (Robust.readJsonM_ne_panic nc s)) <|
    Outcome.ite_ne_panic (hu (readYamlM_ne_panic dec hd s)) (by simp)
  · exact Outcome.bind_ne_panic _ _ (Robust.readDiffM_ne_panic nc s) fun d _ =>
      hu (Robust.renderPatchM_ne_panic nc d)
  · exact Outcome.bind_ne_panic _ _ (Robust.readDiffM_ne_panic nc s) fun d _ =>
      hu (Robust.renderMergeM_ne_panic nc d)

/-- the calls whose panic would be a marshalling failure -/
def Call.isRender : Call → Bool
  | .renderJd | .renderDoc | .translate => true
  | _ => false

theorem modelPanics_not_render (nc : NumCodec) (dec : YamlDecoder) (hd : DecoderValues dec)
    (Ym : Prop) (c : Call) (hc : c.isRender = false) : ¬ ModelPanics nc dec Ym c := by
  intro h
  cases c with
  | serve => exact h.elim
  | file1 => exact h.elim
  | file2 => exact h.elim
  | write => exact h.elim
  | diff => exact h.elim
  | parse1 => obtain ⟨y, s, hs⟩ := h; exact absurd hs (readDocM_ne_panic nc dec hd y s)
  | parse2 => obtain ⟨y, s, hs⟩ := h; exact absurd hs (readDocM_ne_panic nc dec hd y s)
  | renderPatch => obtain ⟨d, hs⟩ := h; exact absurd hs (Robust.renderPatchM_ne_panic nc d)
  | renderMerge => obtain ⟨d, hs⟩ := h; exact absurd hs (Robust.renderMergeM_ne_panic nc d)
  | readDiff => obtain ⟨f, s, hs⟩ := h; exact absurd hs (readDiffFmtM_ne_panic nc f s)
  | patch => obtain ⟨a, d, hs⟩ := h; exact absurd hs (patchM_ne_panic a d)
  | renderJd => cases hc
  | renderDoc => cases hc
  | translate => cases hc

/-- **MAIN 4 — with §1–§2 and the library no-panic theorems, NO reading, applying or
    error-returning rendering call of the model can fail to return, for the JSON and the YAML
    carrier**: whatever panics is a marshalling failure inside a call without an error result -/
theorem modelPanics_only_render (nc : NumCodec) (dec : YamlDecoder) (hd : DecoderValues dec)
    (Ym : Prop) (c : Call) (h : ModelPanics nc dec Ym c) : RenderPanics nc Ym := by
  cases c with
  | renderJd => exact h
  | renderDoc => exact h
  | translate =>
    rcases h with ⟨t, s, hs⟩ | h
    · exact absurd hs (translateM_ne_panic nc dec hd t s)
    · exact h
  | _ => exact absurd h (modelPanics_not_render nc dec hd Ym _ rfl)

/-- the calls C13 speaks about (reading arbitrary text, applying a read diff) and the
    error-returning renderers -/
def Call.readOrApply : Call → Bool
  | .parse1 | .parse2 | .readDiff | .patch | .renderPatch | .renderMerge => true
  | _ => false

theorem model_readOrApply_never_panics (nc : NumCodec) (dec : YamlDecoder)
    (hd : DecoderValues dec) (Ym : Prop) (c : Call) (hc : c.readOrApply = true) :
    ¬ ModelPanics nc dec Ym c :=
  modelPanics_not_render nc dec hd Ym c (by cases c <;> first | rfl | cases hc)

/-- **MAIN 5 — the CLI clause on the model library.**  `cr` is any account of which calls did not
    return that is justified by the model (`cr c = true` only if the model function behind `c` can
    panic at all).  Then a stack trace can only come from a marshalling failure … -/
theorem cli_stack_trace_only_from_marshal (nc : NumCodec) (dec : YamlDecoder)
    (hd : DecoderValues dec) (Ym : Prop) (b : Binary) (fl : Flags) (r : LibResults)
    (cr : Call → Bool) (hsound : ∀ c, cr c = true → ModelPanics nc dec Ym c)
    (h : cliP b fl r cr = .goPanic) : RenderPanics nc Ym := by
  obtain ⟨c, _, hc⟩ := (cliP_goPanic_iff b fl r cr).1 h
  exact modelPanics_only_render nc dec hd Ym c (hsound c hc)

/-- … and if marshalling cannot fail there is none: the process ends as `cliM` says (exit 0 / 1, or
    exit 2 with ONE log record resp. the usage text, MAIN 1) -/
theorem cli_never_stack_trace (nc : NumCodec) (dec : YamlDecoder) (hd : DecoderValues dec)
    (Ym : Prop) (hr : ¬ RenderPanics nc Ym) (b : Binary) (fl : Flags) (r : LibResults)
    (cr : Call → Bool) (hsound : ∀ c, cr c = true → ModelPanics nc dec Ym c) :
    cliP b fl r cr = .exited (cliM b fl r) :=
  cliP_exited_of_ne_goPanic fun h =>
    hr (cli_stack_trace_only_from_marshal nc dec hd Ym b fl r cr hsound h)

/-! ### error paths: no marshalling hypothesis is needed -/

def Step.isRender : Step → Bool
  | .call c => c.isRender
  | .flag _ => false

/-- no marshalling call is reached: every one of them is preceded by a failing step (decidable) -/
def renderShielded (r : LibResults) : List Step → Bool
  | [] => true
  | s :: l =>
    !s.isRender && (match s.verdict r with
      | .error _ => true
      | .ok _ => renderShielded r l)

theorem callsMade_of_shielded (r : LibResults) (cr : Call → Bool) : ∀ (l : List Step),
    renderShielded r l = true → ∀ c ∈ callsMade r cr l, c.isRender = false
  | [], _, c, hc => by cases hc
  | .flag (.ok u) :: l, h, c, hc => by
    simp only [renderShielded, Step.isRender, Step.verdict, Bool.not_false, Bool.true_and] at h
    exact callsMade_of_shielded r cr l h c hc
  | .flag (.error e) :: l, _, c, hc => by cases hc
  | .call c' :: l, h, c, hc => by
    simp only [renderShielded, Step.isRender, Step.verdict, Bool.and_eq_true,
      Bool.not_eq_true'] at h
    simp only [callsMade, List.mem_cons] at hc
    rcases hc with rfl | hc
    · exact h.1
    · split at hc
      · cases hc
      · split at hc
        · rename_i u hu
          rw [hu] at h
          exact callsMade_of_shielded r cr l h.2 c hc
        · cases hc

/-- **MAIN 6 — on a run in which no marshalling call is reached there is NO stack trace, without
    any hypothesis on marshalling** -/
theorem shielded_never_stack_trace (nc : NumCodec) (dec : YamlDecoder) (hd : DecoderValues dec)
    (Ym : Prop) (b : Binary) (fl : Flags) (r : LibResults) (cr : Call → Bool)
    (hsound : ∀ c, cr c = true → ModelPanics nc dec Ym c)
    (hsh : renderShielded r (program b fl) = true) :
    cliP b fl r cr = .exited (cliM b fl r) :=
  cliP_exited_of_ne_goPanic fun h => by
    obtain ⟨c, hm, hc⟩ := (cliP_goPanic_iff b fl r cr).1 h
    exact absurd (hsound c hc)
      (modelPanics_not_render nc dec hd Ym c (callsMade_of_shielded r cr _ hsh c hm))

theorem inputsOf_length_two {fl : Flags} {srcs : List Src} (ht : fl.t = "")
    (h : inputsOf fl = .ok srcs) : srcs.length = 2 := by
  have hm : modeOf fl ≠ .translate := by
    unfold modeOf; simp only [ht, bne_self_eq_false, Bool.false_eq_true, if_false]
    split <;> simp
  unfold inputsOf at h
  split at h
  · rename_i h1 _; exact absurd h1 hm
  · rename_i h1 _; exact absurd h1 hm
  · cases h
  · cases h; rfl
  · cases h; rfl
  · cases h

/-- a failing step with no marshalling call before it shields all that follows -/
theorem renderShielded_of_failing {r : LibResults} {s : Step} {e : Err}
    (hs : s.verdict r = .error e) (hr : s.isRender = false) (post : List Step) :
    ∀ pre : List Step, pre.all (fun x => !x.isRender) = true →
      renderShielded r (pre ++ s :: post) = true
  | [], _ => by simp [renderShielded, hs, hr]
  | x :: pre, h => by
    simp only [List.all_cons, Bool.and_eq_true, Bool.not_eq_true'] at h
    simp only [List.cons_append, renderShielded, h.1, Bool.not_false, Bool.true_and]
    split
    · rfl
    · exact renderShielded_of_failing hs hr post pre h.2

/-- the program of a plain run (`jd [-p] A B`): the two checks of the command line, then the usage
    exit, or the two inputs followed by the steps of the mode -/
theorem program_plain {b : Binary} {fl : Flags} (hv : fl.version = false) (hp : fl.port = 0)
    (hg : fl.gitDiffDriver = false) (ht : fl.t = "") :
    (∃ e, program b fl = [.flag (chk (parsedOptions b fl)), .flag (.ok ()), .flag (.error e)]) ∨
    program b fl = .flag (chk (parsedOptions b fl)) :: .flag (.ok ()) :: .call .file1 ::
      .call .file2 :: ((if fl.p then patchSteps fl else diffSteps fl) ++ writeSteps fl) := by
  have hmode : modeOf fl = if fl.p then .patch else .diff := by simp [modeOf, ht]
  unfold program
  simp only [hv, hp, hg, ht, Bool.false_eq_true, if_false, bne_self_eq_false, Bool.and_false,
    guardMsg_false]
  cases hi : inputsOf fl with
  | error e => exact .inl ⟨e, rfl⟩
  | ok srcs =>
    right
    simp only [inputSteps, inputsOf_length_two ht hi, ge_iff_le, Nat.le_refl, if_true, hmode,
      List.cons_append, List.nil_append]
    cases fl.p <;> rfl

/-- the C13 CLI clause in PATCH mode (`jd -p [-f …] [-yaml] DIFF FILE`): the input cannot be read,
    the diff / patch / merge patch is malformed, the document is malformed, or the patch does not
    apply — the marshalling call `Json()` / `Yaml()` is never reached -/
theorem patch_mode_error_shielded (b : Binary) (fl : Flags) (r : LibResults)
    (hv : fl.version = false) (hp : fl.port = 0) (hg : fl.gitDiffDriver = false)
    (hpp : fl.p = true) (ht : fl.t = "")
    (herr : (∃ e, r.file1 = .error e) ∨ (∃ e, r.file2 = .error e) ∨ (∃ e, r.readDiff = .error e) ∨
      (∃ e, r.parse2 = .error e) ∨ (∃ e, r.patch = .error e)) :
    renderShielded r (program b fl) = true := by
  rcases program_plain (b := b) hv hp hg ht with ⟨e, h⟩ | h <;> rw [h]
  · exact renderShielded_of_failing (s := .flag (.error e)) rfl rfl [] [_, _] rfl
  rw [hpp]
  rcases herr with ⟨e, h⟩ | ⟨e, h⟩ | ⟨e, h⟩ | ⟨e, h⟩ | ⟨e, h⟩
  · exact renderShielded_of_failing (s := .call .file1) (congrArg chk h) rfl _ [_, _] rfl
  · exact renderShielded_of_failing (s := .call .file2) (congrArg chk h) rfl _ [_, _, _] rfl
  · exact renderShielded_of_failing (s := .call .readDiff) (congrArg chk h) rfl _ [_, _, _, _, _] rfl
  · exact renderShielded_of_failing (s := .call .parse2) (congrArg chk h) rfl _
      [_, _, _, _, _, _] rfl
  · exact renderShielded_of_failing (s := .call .patch) (congrArg chk h) rfl _
      [_, _, _, _, _, _, _] rfl

/-- the same in DIFF mode: an input cannot be read or is not a document — `Diff` / `Render` are
    never reached -/
theorem diff_mode_error_shielded (b : Binary) (fl : Flags) (r : LibResults)
    (hv : fl.version = false) (hp : fl.port = 0) (hg : fl.gitDiffDriver = false)
    (hpp : fl.p = false) (ht : fl.t = "")
    (herr : (∃ e, r.file1 = .error e) ∨ (∃ e, r.file2 = .error e) ∨ (∃ e, r.parse1 = .error e) ∨
      (∃ e, r.parse2 = .error e)) :
    renderShielded r (program b fl) = true := by
  rcases program_plain (b := b) hv hp hg ht with ⟨e, h⟩ | h <;> rw [h]
  · exact renderShielded_of_failing (s := .flag (.error e)) rfl rfl [] [_, _] rfl
  rw [hpp]
  rcases herr with ⟨e, h⟩ | ⟨e, h⟩ | ⟨e, h⟩ | ⟨e, h⟩
  · exact renderShielded_of_failing (s := .call .file1) (congrArg chk h) rfl _ [_, _] rfl
  · exact renderShielded_of_failing (s := .call .file2) (congrArg chk h) rfl _ [_, _, _] rfl
  · exact renderShielded_of_failing (s := .call .parse1) (congrArg chk h) rfl _ [_, _, _, _] rfl
  · exact renderShielded_of_failing (s := .call .parse2) (congrArg chk h) rfl _
      [_, _, _, _, _] rfl

/-- **MAIN 7 — "a ONE-LINE message"**: on a message exit the record on stderr is a single line
    provided (i) every error message the LIBRARY / the OS returned for a call of the program is one
    line (the bytes of those messages are NOT modelled: `LibResults` carries them as data) and
    (ii) no piece of `-setkeys` that is refused contains an interior newline.  All other messages are
    composed by `main` itself and are one line (`own_messages_oneLine`). -/
theorem exit_two_oneLine (b : Binary) (fl : Flags) (r : LibResults)
    (h : (cliM b fl r).exit = 2) (hu : usageExit b fl = false)
    (hlib : ∀ c m, Step.call c ∈ program b fl → c.result r = .error (.msg m) → oneLineMsg m = true)
    (hkeys : ∀ k ∈ fl.setkeys.splitOn ",", oneLineMsg ("invalid set key: " ++ k) = true) :
    (cliM b fl r).stderrClass = .oneLine := by
  rcases error_exit_contract b fl r h with ⟨_, m, _, ⟨pre, s, post, hprog, _, hs⟩, hcl⟩ | ⟨hu', _⟩
  · rw [hcl]
    have hmem : s ∈ program b fl := by rw [hprog]; simp
    cases s with
    | call c => exact hlib c m hmem hs
    | flag v =>
      simp only [Step.verdict] at hs
      subst hs
      rcases own_messages_oneLine hmem with h1 | ⟨k, hk, rfl⟩
      · exact h1
      · exact hkeys k hk
  · rw [hu] at hu'; cases hu'

/-! ### witnesses: where the clause "exit 2 with a one-line message" FAILS on the model -/

/-- COUNTER-WITNESS 1 (`jd` with no argument; likewise 3 or more arguments, or 2 with `-t`): exit
    status 2, NOTHING on stderr, the multi-line usage text on STDOUT.  This is `printUsageAndExit`
    of main.go (`fmt.Println` + `os.Exit(2)`) -/
theorem usage_witness :
    usageExit .v2jd {} = true ∧
    ∀ r : LibResults, cliM .v2jd {} r = ⟨2, usageText .v2jd, none, "", .usage⟩ := by
  have h : usageExit .v2jd {} = true := by decide
  exact ⟨h, fun r => outcome_of_usage ((usage_iff _ _ r).2 h)⟩

/-- COUNTER-WITNESS 2 (library / OS message with an interior newline; whether a real message has one
    is outside the model): ONE record, two lines -/
theorem multiLine_library_message_witness :
    cliM .v2jd { nargs := 2 } { file1 := .error "open x: no such file\nsecond line" } =
      ⟨2, "", none, "open x: no such file\nsecond line\n", .multiLine⟩ := by decide +kernel

/-- COUNTER-WITNESS 3 (a message `main` composes itself): `jd -setkeys $'a,\n\n' x y` is refused
    with the piece shown verbatim — ONE record, two lines (the second one empty) -/
theorem multiLine_setkeys_witness (r : LibResults) :
    cliM .v2jd { setkeys := "a,\n\n", nargs := 2 } r =
      ⟨2, "", none, "invalid set key: \n\n", .multiLine⟩ := by
  have hs : splitKeys "a,\n\n" = .error "invalid set key: \n\n" := by
    unfold splitKeys
    rw [splitOn_comma]
    have : List.splitOnP (· == ',') "a,\n\n".toList = [['a'], ['\n','\n']] := by decide
    rw [this]
    have h1 : goTrimSpace (String.ofList ['a']) = "a" := by decide
    have h2 : goTrimSpace (String.ofList ['\n', '\n']) = "" := by decide
    simp [List.mapM_cons, h1, h2, bind, Except.bind]
  have hp : parsedOptions .v2jd { setkeys := "a,\n\n", nargs := 2 } =
      .error "invalid set key: \n\n" := by
    simp only [parsedOptions, optionsOf, hs]
    rfl
  have hr : run .v2jd { setkeys := "a,\n\n", nargs := 2 } r =
      .error (.msg "invalid set key: \n\n") := by
    simp [run, hp, step]
  unfold cliM
  rw [hr]
  decide

/-! ### non-vacuity of the main theorems of §3 -/

/-- MAIN 1 / MAIN 2: `jd -p d.jd a.json` where the diff is malformed -/
theorem program_patch_example : program .v2jd { p := true, nargs := 2 } =
    [.flag (.ok ()), .flag (.ok ()), .call .file1, .call .file2, .flag (.ok ()), .call .readDiff,
     .call .parse2, .call .patch, .call .renderDoc] := by rfl

example : ∃ m, cliM .v2jd { p := true, nargs := 2 }
      { file1 := .ok (), file2 := .ok (), readDiff := .error "invalid diff at line 2" } =
      ⟨2, "", none, logRecord m, classOfRecord (logRecord m)⟩ ∧
      firstErr (verdicts .v2jd { p := true, nargs := 2 }
        { file1 := .ok (), file2 := .ok (), readDiff := .error "invalid diff at line 2" }) =
        some (.msg m) :=
  failing_call_contract (c := .readDiff) (e := .msg "invalid diff at line 2")
    (by rw [program_patch_example]; simp) rfl

example : cliM .v2jd { p := true, nargs := 2 }
      { file1 := .ok (), file2 := .ok (), readDiff := .error "invalid diff at line 2" } =
      ⟨2, "", none, "invalid diff at line 2\n", .oneLine⟩ := by decide +kernel

/-- a patch that does not apply, with `-o`: no file is written -/
example : cliM .top { p := true, nargs := 1, o := "out.json", yaml := true }
      { file1 := .ok (), file2 := .ok (), readDiff := .ok (), parse2 := .ok (),
        patch := .error "wanted 1. found 2" } =
      ⟨2, "", none, "wanted 1. found 2\n", .oneLine⟩ := by decide +kernel

/-- MAIN 3 / MAIN 6: the same run, with the (justified) account that nothing panics -/
example : cliP .v2jd { p := true, nargs := 2 }
      { file1 := .ok (), file2 := .ok (), readDiff := .error "invalid diff at line 2" } (fun _ => false)
      = .exited ⟨2, "", none, "invalid diff at line 2\n", .oneLine⟩ := by decide +kernel

example : renderShielded
      { file1 := .ok (), file2 := .ok (), readDiff := .error "invalid diff at line 2" }
      (program .v2jd { p := true, nargs := 2 }) = true := by decide

/-- `cliP` does distinguish: a `Patch` call that does not return is a stack trace -/
example : cliP .v2jd { p := true, nargs := 2 }
      { file1 := .ok (), file2 := .ok (), readDiff := .ok (), parse2 := .ok () }
      (fun c => c == .patch) = .goPanic := by decide

/-- … but not if it is not reached (the diff was rejected before) -/
example : cliP .v2jd { p := true, nargs := 2 }
      { file1 := .ok (), file2 := .ok (), readDiff := .error "bad", parse2 := .ok () }
      (fun c => c == .patch) = .exited ⟨2, "", none, "bad\n", .oneLine⟩ := by decide +kernel

/-- MAIN 5 is applicable: the constantly-false account is justified by any model -/
example (nc : NumCodec) (Ym : Prop) (b : Binary) (fl : Flags) (r : LibResults)
    (hr : ¬ RenderPanics nc Ym) :
    cliP b fl r (fun _ => false) = .exited (cliM b fl r) :=
  cli_never_stack_trace nc hostileDec hostileDec_values Ym hr b fl r _ (fun _ h => by cases h)

/-- the program of a plain diff run -/
example : program .v2jd { nargs := 2 } =
    [.flag (.ok ()), .flag (.ok ()), .call .file1, .call .file2, .call .parse1, .call .parse2,
     .call .diff, .call .renderJd] := by rfl

end CliPart

end Jd.RobustYC

#print axioms Jd.RobustYC.newJsonNodeM_classified
#print axioms Jd.RobustYC.newJsonNodeM_nilElem_iff
#print axioms Jd.RobustYC.newJsonNodeM_panic_iff
#print axioms Jd.RobustYC.newJsonNodeM_ne_nilElem
#print axioms Jd.RobustYC.newJsonNodeM_ne_panic
#print axioms Jd.RobustYC.newJsonNodeM_decoder_value
#print axioms Jd.RobustYC.jsonRoundTripM_total
#print axioms Jd.RobustYC.yamlRoundTripM_total
#print axioms Jd.RobustYC.readYamlM_ne_panic
#print axioms Jd.RobustYC.readYamlM_cases
#print axioms Jd.RobustYC.read_yaml_then_patch_ne_panic
#print axioms Jd.RobustYC.cli_patch_pipeline_ne_panic
#print axioms Jd.RobustYC.yaml_round_trip_then_patch_ne_panic
#print axioms Jd.RobustYC.nilSlot_witness
#print axioms Jd.RobustYC.program_sound
#print axioms Jd.RobustYC.exit_two_iff
#print axioms Jd.RobustYC.usage_iff
#print axioms Jd.RobustYC.error_exit_contract
#print axioms Jd.RobustYC.failing_call_contract
#print axioms Jd.RobustYC.class_oneLine_iff
#print axioms Jd.RobustYC.own_messages_oneLine
#print axioms Jd.RobustYC.exit_two_oneLine
#print axioms Jd.RobustYC.cliP_goPanic_iff
#print axioms Jd.RobustYC.cliP_of_no_crash
#print axioms Jd.RobustYC.callsMade_of_no_plan
#print axioms Jd.RobustYC.modelPanics_only_render
#print axioms Jd.RobustYC.model_readOrApply_never_panics
#print axioms Jd.RobustYC.cli_stack_trace_only_from_marshal
#print axioms Jd.RobustYC.cli_never_stack_trace
#print axioms Jd.RobustYC.shielded_never_stack_trace
#print axioms Jd.RobustYC.patch_mode_error_shielded
#print axioms Jd.RobustYC.diff_mode_error_shielded
#print axioms Jd.RobustYC.usage_witness
#print axioms Jd.RobustYC.multiLine_library_message_witness
#print axioms Jd.RobustYC.multiLine_setkeys_witness
