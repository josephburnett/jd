/-
  JdProofs.RfcTextLevel (namespace `Jd.RTL`) — properties C09, C10, C11, C12 of the v2 library at the
  level of the JSON TEXT: the strings `Diff.RenderPatch()` / `Diff.RenderMerge()` return and
  `ReadPatchString` / `ReadMergeString` parse. The document-level theorems (JdProps/C09 … C12) are
  composed with the print / parse round trip of the model's JSON codec
  (JdProofs/JsonTextRoundTrip.lean, `Jd.JText`), as JdProofs/V1JsonText.lean does for the v1 library.
  Independent specifications: `Spec.opsOfJson` (decoder of a parsed RFC 6902 document) + `Spec.eval`
  (JdSpec/Rfc6902.lean), `Spec.mergePatch` (JdSpec/Rfc7386.lean), `specEq` / `equivB`.

  §0  `parseJson_shape`: whatever `parseJson` returns is `rawDoc`, `wf` and `Yaml.voidFree` (any codec,
      any text) — this turns the document-level hypotheses into theorems about the TEXT.
  §1  C12 (JSON Merge Patch): `jsonM_text` (the text of a document of the codec domain and what the
      parser makes of it; C11 at the text level is in JdProofs.MergeTextSetModes),
      `readMergeM_of_parseJson`, `merge_text_invalid`; C12 SHARP for EVERY JSON text (no hypothesis
      on the parsed document left) is read off them and `parseJson_shape` in JdProps/C09Text.
  §2  C09 (JSON Patch output; list reading, strict strategy): `patch_text_rfc_of_paths` (the closed
      form, all keys expressible, and the refusal are read off in JdProps/C09Text).
  §3  C10 (JSON Patch input): `patch_text_readback_of_paths` (the last
      sentence of C10 at the text level); `patch_text_rfc6902`: the FULL statement for EVERY text `s`
      that is read and applied — no hypothesis on the independent decoder, none on the spelling of
      pointers; `opsOfJson_of_lib`: the only gap (D31)
      between the two decoders is a `replace` without `value`, which the element loop refuses;
      `Witness.*`: regressions for D31 (every codec).

  Hypotheses
   `LT nc x` (§2, §3): `x.listDoc`, `x.wf`, `Yaml.voidFree x` (no void node, root included),
      `JText.NumOK nc x` (every number of `x` is printed by the codec to ONE JSON number token that the
      codec reads back to the same bits; `strconv` is a parameter of the model; a theorem for integers
      below 10^15, `JText.numOK_int`). On the INPUT documents only: the values written are sub-terms of
      `a` / `b` (`E2E.diffM_payloads`). All other hypotheses are those of the document-level theorems.
   §1: `Yaml.voidFree b`, `JText.NumOK nc b` on `b` only (the merge document is made of parts of `b`).
   `patch_text_rfc6902`: the array-index tokens of the parsed text's `path` members are below 2^53
      (`docIdxOK`), and `i + |Remove| < 2^53`.

  Not proved here: `a` or `b` void at the root in §2 / §3 (the document-level theorems cover `{…}` →
  void); a necessity witness for `NumOK` in §2 / §3 (§1 has `MergeWitness.numOK_needed_merge`; the v1
  ones are `V1T.Witness.numOK_needed_*`).
-/
import JdModel
import JdSpec
import JdProofs.JsonTextRoundTrip
import JdProofs.V1JsonText
import JdProofs.CliRoundTripModesPatch
import JdProofs.CliExitCodes
import JdProofs.PatchNeverMorePermissive
import JdProofs.PatchRenderClosed
import JdProofs.MergeProofs

set_option linter.deprecated false
set_option linter.unusedVariables false
set_option autoImplicit false

namespace Jd.RTL
open Jd Jd.Spec

/-! ## 0. what `parseJson` (= `json.Unmarshal` into a document) returns -/

/-- **what the JSON parser returns** (any codec, any text): every array a plain `jsonArray`, object
    keys sorted and unique (the last duplicate wins), no void marker anywhere -/
theorem parseJson_shape {nc : NumCodec} {s : String} {v : Json} (h : parseJson nc s = some v) :
    v.rawDoc = true ∧ v.wf = true ∧ Yaml.voidFree v = true := by
  unfold parseJson at h
  simp only at h
  split at h
  · rename_i v0 r hv
    split at h
    · cases h
      have := (CliExit.parse_shape nc _).1 _ _ _ hv
      exact ⟨this.raw, this.wf, voidFree_of_vfree _ this.nv this.vf⟩
    · cases h
  · cases h

theorem dropWhile_nil_all (p : Char → Bool) : ∀ l : List Char, l.dropWhile p = [] → l.all p = true
  | [], _ => rfl
  | c :: r, h => by
    cases hc : p c with
    | true =>
      simp only [List.dropWhile, hc] at h
      simp [hc, dropWhile_nil_all p r h]
    | false => simp [List.dropWhile, hc] at h

/-- a text that the JSON parser accepts is not blank: a blank text is white space only, which the
    parser skips without finding a value -/
theorem parseJson_not_blank {nc : NumCodec} {s : String} {v : Json} (h : parseJson nc s = some v) :
    (trimGoSpace s).isEmpty = false := by
  cases hb : (trimGoSpace s).isEmpty with
  | false => rfl
  | true =>
    exfalso
    have hall : s.toList.all isJsonWs = true := by
      rw [trimGoSpace, String.isEmpty_iff] at hb
      have h1 : ((s.toList.dropWhile isJsonWs).reverse.dropWhile isJsonWs).reverse = [] := by
        simpa using congrArg String.toList hb
      have h2 := dropWhile_nil_all _ _ (List.reverse_eq_nil_iff.1 h1)
      cases hd : s.toList.dropWhile isJsonWs with
      | nil => exact dropWhile_nil_all _ _ hd
      | cons c r =>
        have hc := List.head_dropWhile_not isJsonWs (l := s.toList) (by simp [hd])
        simp only [hd, List.head_cons] at hc
        simp [hd, hc] at h2
    unfold parseJson at h
    simp only at h
    have : parseValue nc (s.toList.length + 2) s.toList = none := by
      simp [parseValue, JText.skipWs_all_ws _ hall]
    rw [this] at h
    cases h

/-- `ReadJsonString` on a JSON text is the parser -/
theorem readJsonM_of_parseJson {nc : NumCodec} {s : String} {v : Json} (h : parseJson nc s = some v) :
    readJsonM nc s = .ok v := by
  simp [readJsonM, parseJson_not_blank h, h]

/-! ## 1. JSON Merge Patch (RFC 7386): C12 at the text level -/

section Merge
open Jd.Merge

/-- `Json()` of a document of the codec domain: the text, what the parser and what `ReadJsonString`
    make of it -/
theorem jsonM_text (nc : NumCodec) (n : Json) (hp : JText.preOK nc n = true) :
    ∃ s, jsonM nc n = some s ∧ parseJson nc s = some (rawNorm n) ∧
      readJsonM nc s = .ok (rawNorm n) := by
  obtain ⟨s, h1, h2⟩ := JText.jsonM_parse_ws nc n hp [] [] rfl rfl
  have h2' : parseJson nc s = some (rawNorm n) := by simpa [String.ofList_toList] using h2
  exact ⟨s, h1, h2', readJsonM_of_parseJson h2'⟩

/-! ### C12: every JSON text, read by `ReadMergeString` and applied -/

/-- `ReadMergeString` on a JSON text is `readMergeDoc` of the parsed document -/
theorem readMergeM_of_parseJson {nc : NumCodec} {s : String} {p : Json} (h : parseJson nc s = some p) :
    readMergeM nc s = .ok (readMergeDoc p) := by
  simp only [readMergeM, readJsonM_of_parseJson h]

/-- the text is not JSON: `ReadMergeString` rejects it — unless it is blank -/
theorem merge_text_invalid (nc : NumCodec) (s : String) (hs : parseJson nc s = none)
    (hb : (trimGoSpace s).isEmpty = false) : readMergeM nc s = .err := by
  simp [readMergeM, readJsonM, hb, hs]

end Merge


/-! ### the codec hypothesis cannot be dropped -/

namespace MergeWitness
open Jd.Merge
open Jd.NativeRT (exCodec)

def big : Json := .num 0x430C6BF526340000
theorem merge_doc_big : renderMergeDoc (diffM [.merge] .null big) = .ok big := by
  rw [renderMergeDoc_diffM [.merge] rfl rfl .null big rfl rfl rfl]
  have h : dl [.merge] .null big = [([], big)] := by
    simp [dl, equals, Json.isNull, big]
  simp only [rl, h]
  simp [nulE, mapply, mset, Json.isVoid, big]
/-- **`NumOK nc b` is necessary for the text-level C11** (a remark on the MODEL, not on Go): `null →
    10^15` with the codec that knows no token: every other hypothesis of `MTS.merge_text_rfc_precision` holds, the
    text `1000000000000000` is produced (the model prints integers below 2^53 itself), and neither the
    parser nor `ReadMergeString` of the model reads it (its own integer parser stops at 15 digits; in
    the harness — and in Go — the token is in the graph of the codec) -/
theorem numOK_needed_merge :
    big.wf = true ∧ big.rawDoc = true ∧ big.nullFree = true ∧ big.finiteNums = true ∧
    Yaml.voidFree big = true ∧ equals [.merge] .null big = false ∧
    JText.NumOK exCodec big = false ∧
    renderMergeM exCodec (diffM [.merge] .null big) = .ok (some "1000000000000000") ∧
    parseJson exCodec "1000000000000000" = none ∧
    readMergeM exCodec "1000000000000000" = .err := by
  have hp : parseJson exCodec "1000000000000000" = none :=
    (V1T.Witness.parseJson_ofList exCodec (by with_reducible rfl)).trans (by decide +kernel)
  refine ⟨by decide, by decide, by decide, by decide +kernel, by decide, ?_,
    JText.numOK_1e15_emptyCodec, ?_, hp, merge_text_invalid exCodec _ hp (by decide +kernel)⟩
  · simp [equals, big, Json.isNull]
  · simp only [renderMergeM, merge_doc_big]
    exact congrArg Outcome.ok (by decide +kernel)
end MergeWitness

/-! ## 2. JSON Patch (RFC 6902), output: C09 at the text level -/

section PatchOut
open Jd.Robust Jd.DPL

/-- the text domain of a list document: sorted unique keys, no void node, codec-correct numbers,
    no set / multiset typed array -/
def LT (nc : NumCodec) (v : Json) : Prop :=
  v.listDoc = true ∧ v.wf = true ∧ Yaml.voidFree v = true ∧ JText.NumOK nc v = true

theorem hered_LT (nc : NumCodec) : Hered (LT nc) :=
  hered_listDoc.and (hered_wf.and (V1T.hered_tok nc))

theorem LT.member (nc : NumCodec) {kvs : List (String × Json)} {k : String} {v : Json}
    (h : LT nc (.obj kvs)) (hx : (k, v) ∈ kvs) : LT nc v :=
  (hered_LT nc).member h hx

theorem LT.subterms (nc : NumCodec) {x : Json} (h : LT nc x) : ∀ z ∈ Jd.subterms x, LT nc z :=
  (hered_LT nc).subterms x h

theorem LT.preOK {nc : NumCodec} {v : Json} (h : LT nc v) : JText.preOK nc v = true := by
  rw [JText.preOK_iff, h.2.1, h.2.2.1, h.2.2.2]; rfl

theorem LT.mSetFree {nc : NumCodec} {v : Json} (h : LT nc v) : JText.mSetFree v = true :=
  JText.mSetFree_of_setFree _ (JText.setFree_of_listDoc _ h.1)

theorem e2eVoidFree_of_LT {nc : NumCodec} {x : Json} (h : LT nc x) : E2E.voidFree x = true := by
  unfold E2E.voidFree
  rw [E2ES.subterms_eq, List.all_eq_true]
  exact fun z hz => CliRTM.kidsNonVoid_of_voidFree (h.subterms nc z hz).2.2.1

theorem isVoid_map_untag {l : List Json} {b : Bool} (h : ∀ x ∈ l, x.isVoid = b) :
    ∀ x ∈ l.map untag, x.isVoid = b := by
  intro x hx
  obtain ⟨y, hy, rfl⟩ := List.mem_map.1 hx
  rw [untag_isVoid]; exact h y hy

theorem hunkOK_untagHunk {h : Hunk} (hk : HunkOK h) : HunkOK (untagHunk h) where
  remNoVoid := isVoid_map_untag hk.remNoVoid
  addNoVoid := isVoid_map_untag hk.addNoVoid
  wfBefore := by
    simp only [untagHunk, ← untagList_eq_map, untagList_wf]; exact hk.wfBefore
  wfAfter := by
    simp only [untagHunk, ← untagList_eq_map, untagList_wf]; exact hk.wfAfter
  wfAdd := by
    simp only [untagHunk, ← untagList_eq_map, untagList_wf]; exact hk.wfAdd
  append := by
    intro hl
    obtain ⟨h1, h2, h3⟩ := hk.append hl
    exact ⟨by simpa [untagHunk] using h1, isVoid_map_untag h2, isVoid_map_untag h3⟩

theorem hunkRange_untagHunk {h : Hunk} (hk : HunkRange h) : HunkRange (untagHunk h) where
  path := hk.path
  ctx := by
    intro i hi
    have := hk.ctx i hi
    simpa [untagHunk] using this

/-- the INDEPENDENT decoder of a JSON Patch document (`Spec.opsOfJson`, JdSpec/Rfc6902.lean: an
    array of objects with string members `op`, `path` and a `value` member where the operation needs
    one) on the document the printed text parses to -/
theorem opsOfJson_opDocs (ops : List PatchOp) :
    Spec.opsOfJson (.arr .raw (ops.map JText.opDoc)) =
      some ((ops.map JText.normOp).map PatchOp.toSpec) := by
  rw [JText.map_opDoc]; exact JText.opsOfJson_opJsons _

/-- the printed JSON Patch text and what it parses to: the array of the operation objects
    `{"op":…,"path":…,"value":…}` -/
theorem renderPatchM_parse (nc : NumCodec) (d : Diff) (ops : List PatchOp)
    (hops : renderPatchOps d = .ok ops) (hok : ∀ p ∈ ops, JText.mOK nc p.value = true) :
    ∃ text, renderPatchM nc d = .ok (some text) ∧
      parseJson nc text = some (.arr .raw (ops.map JText.opDoc)) := by
  obtain ⟨text, h1, h2⟩ := JText.parse_opJsons nc (ops.map JText.normOp) fun p hp => by
    obtain ⟨q, hq, rfl⟩ := List.mem_map.1 hp
    exact ⟨JText.preOK_mnorm nc _ (hok q hq), JText.rawDoc_mnorm _⟩
  rw [← JText.map_opDoc] at h1 h2
  exact ⟨text, by rw [JText.renderPatchM_eq, hops]; simp only [h1], h2⟩

/-- what the C09 / C10 text-level theorems share (list reading, strict strategy; `a`, `b` in the C01
    list domain and in the text domain `LT`; the paths of the diff expressible): the operations, the
    text, the document it parses to, the operations with untagged values (= what the text carries =
    the operations of the diff with untagged payloads), the effect of both diffs on `a` -/
theorem patch_text_core (L : FloatLaws) (nc : NumCodec) (o : Opts)
    (ho : dispatchTag o = .list) (hm : isMerge o = false) (a b : Json)
    (ha : LT nc a) (ha3 : a.finiteNums = true) (hb : LT nc b) (hb3 : b.finiteNums = true)
    {Na Nb : Nat} (la : PRC.lenLe Na a = true) (lb : PRC.lenLe Nb b = true) (hN : Na + Nb < 2 ^ 53)
    (H : HashOK o a b) (Z : ZeroOK a b)
    (hp : ∀ h ∈ diffM o a b, PRC.PE h.path) :
    ∃ ops text m m2,
      renderPatchOps (diffM o a b) = .ok ops ∧
      renderPatchM nc (diffM o a b) = .ok (some text) ∧
      parseJson nc text = some (.arr .raw (ops.map JText.opDoc)) ∧
      ops.map JText.normOp = ops.map JText.untagOp ∧
      renderPatchOps ((diffM o a b).map untagHunk) = .ok (ops.map JText.untagOp) ∧
      applyStrictAll a (diffM o a b) = some m ∧
      applyStrictAll a ((diffM o a b).map untagHunk) = some m2 ∧ untag m2 = untag m ∧
      specEq m b = true ∧ specEq b m = true ∧
      (∀ h ∈ (diffM o a b).map untagHunk, HunkOK h ∧ HunkRange h) := by
  obtain ⟨ha1, ha2, hav, haN⟩ := ha
  obtain ⟨hb1, hb2, hbv, hbN⟩ := hb
  have ha4 := PRC.vfree_of_voidFree a hav
  have hb4 := PRC.vfree_of_voidFree b hbv
  have hv : (a.isObj && b.isVoid) = false := by
    rw [Yaml.voidFree_notVoid hbv]; simp
  obtain ⟨ops, er⟩ := (PRC.render_diffM_ok_iff o ho hm a b ha1 ha2 ha4 hb1 hb2 hb4).2 hp
  have hd := PRC.diffM_hunks_ok o ho hm a b ha1 ha2 ha4 hb1 hb2 hb4 la lb hN hv
  obtain ⟨m, hm1, hm2, hm3, _⟩ := DPL.diffM_list_correct L o ho hm a b ha1 ha2 ha3
    (PRC.memOK_of_vfree a ha4) hb1 hb2 hb3 (PRC.memOK_of_vfree b hb4) H Z
  -- the values written are sub-terms of the two documents (up to the tag of an array)
  have hsub : ∀ z ∈ DPL.subterms a ++ DPL.subterms b, LT nc z := by
    intro z hz
    rw [E2ES.subterms_eq, E2ES.subterms_eq] at hz
    rcases List.mem_append.1 hz with hz | hz
    · exact LT.subterms nc ⟨ha1, ha2, hav, haN⟩ z hz
    · exact LT.subterms nc ⟨hb1, hb2, hbv, hbN⟩ z hz
  have hpay := E2E.diffM_payloads o ho hm a b ha1 hb1
    (e2eVoidFree_of_LT (nc := nc) ⟨ha1, ha2, hav, haN⟩)
    (e2eVoidFree_of_LT (nc := nc) ⟨hb1, hb2, hbv, hbN⟩)
    (CliRTM.shortArrays_of_lenLe (N := Nb) (by omega) lb)
    (LT nc)
    (fun t xs h => by
      obtain ⟨h1, h2, h3, h4⟩ := h
      refine ⟨?_, by simpa only [Json.wf] using h2, by simpa only [Yaml.voidFree] using h3,
        by simpa only [JText.NumOK] using h4⟩
      simp only [Json.listDoc, Bool.and_eq_true] at h1 ⊢
      exact ⟨by simp, h1.2⟩) hsub
  have hvals : ∀ h ∈ diffM o a b, JText.HunkVals (LT nc) h := by
    intro h hh
    have hk := (hd h hh).1
    have inpay : ∀ v, v ∈ h.before ++ h.remove ++ h.add ++ h.after → v.isVoid = false → LT nc v := by
      intro v hv hnv
      exact hpay h hh v (List.mem_filter.2 ⟨hv, by simp [hnv]⟩)
    exact ⟨fun v hv hnv => inpay v (by simp [hv]) hnv, fun v hv hnv => inpay v (by simp [hv]) hnv,
      .inl fun v hv => inpay v (by simp [hv]) (hk.remNoVoid v hv),
      .inl fun v hv => inpay v (by simp [hv]) (hk.addNoVoid v hv)⟩
  have hok := JText.renderPatchOps_values er hvals
  obtain ⟨text, t1, t2⟩ := renderPatchM_parse nc _ ops er
    (fun p hp => JText.mOK_of_preOK nc _ (hok p hp).preOK)
  have hnorm : ops.map JText.normOp = ops.map JText.untagOp :=
    JText.map_normOp_untag ops (fun p hp => ⟨(hok p hp).2.2.1, (hok p hp).mSetFree⟩)
  have er2 := CliRTM.renderPatchOps_map_untagHunk er
  obtain ⟨m2, hab2, hum⟩ : ∃ m2, applyStrictAll a ((diffM o a b).map untagHunk) = some m2 ∧
      untag m2 = untag m := by
    have := CliRTM.applyStrictAll_map_untagHunk (diffM o a b) (n := a) (n' := a) rfl
    rw [hm1] at this
    exact Option.map_eq_some_iff.1 this
  refine ⟨ops, text, m, m2, er, t1, t2, hnorm, er2, hm1, hab2, hum, hm2, hm3, ?_⟩
  intro h hh
  obtain ⟨h0, hh0, rfl⟩ := List.mem_map.1 hh
  exact ⟨hunkOK_untagHunk (hd h0 hh0).1, hunkRange_untagHunk (hd h0 hh0).2⟩

/-- **C09 at the TEXT level, sharp form** (the PATHS of the diff are expressible — exactly the
    condition under which `RenderPatch` succeeds). The text `Diff.RenderPatch()` returns is produced,
    it parses (`parseJson` = `json.Unmarshal`) to a document that the INDEPENDENT decoder
    `Spec.opsOfJson` reads as a list of RFC 6902 operations, each a `test`, `remove` or `add`, and the
    independent evaluator `Spec.eval` turns `a` into a document structurally equal to `b`. -/
theorem patch_text_rfc_of_paths (L : FloatLaws) (nc : NumCodec) (o : Opts)
    (ho : dispatchTag o = .list) (hm : isMerge o = false) (a b : Json)
    (ha : LT nc a) (ha3 : a.finiteNums = true) (hb : LT nc b) (hb3 : b.finiteNums = true)
    {Na Nb : Nat} (la : PRC.lenLe Na a = true) (lb : PRC.lenLe Nb b = true) (hN : Na + Nb < 2 ^ 53)
    (H : HashOK o a b) (Z : ZeroOK a b)
    (hp : ∀ h ∈ diffM o a b, PRC.PE h.path) :
    ∃ text doc sops r,
      renderPatchM nc (diffM o a b) = .ok (some text) ∧
      parseJson nc text = some doc ∧ Spec.opsOfJson doc = some sops ∧
      (∀ op ∈ sops, op.op = "test" ∨ op.op = "remove" ∨ op.op = "add") ∧
      eval a sops = some r ∧ specEq r b = true ∧ specEq b r = true := by
  obtain ⟨ops, text, m, m2, er, t1, t2, hnorm, er2, hm1, hab2, hum, s1, s2, hd2⟩ :=
    patch_text_core L nc o ho hm a b ha ha3 hb hb3 la lb hN H Z hp
  obtain ⟨r, hev, hur⟩ := renderPatchOps_correct L ha.2.1 hd2 hab2 er2
  refine ⟨text, _, _, r, t1, t2, opsOfJson_opDocs ops, ?_, by rw [hnorm]; exact hev, ?_, ?_⟩
  · intro op hop
    rw [hnorm] at hop
    obtain ⟨o', ho', rfl⟩ := List.mem_map.1 hop
    exact renderPatchOps_wfOps er2 o' ho'
  · exact (specEq_left_of_untag_eq (hur.trans hum)).trans s1
  · exact (specEq_right_of_untag_eq (hur.trans hum)).trans s2

end PatchOut

/-! ## 3. JSON Patch (RFC 6902), input: C10 at the text level -/

section PatchIn
open Jd.Robust Jd.DPL Jd.PB

/-! ### 3.1 last sentence: own output, read back from the TEXT and applied -/

/-- `ReadPatchString` on a JSON text is `readPatchDoc` of the parsed document -/
theorem readPatchM_of_parseJson {nc : NumCodec} {s : String} {doc : Json}
    (h : parseJson nc s = some doc) : readPatchM nc s = readPatchDoc doc := by
  rw [readPatchM, h]

/-- **C10, last sentence, at the TEXT level** (sharp form: the paths of the diff are expressible):
    `Diff.RenderPatch()` returns a text, `ReadPatchString` reads it, `a.Patch` of the diff read
    succeeds with a list document structurally equal to `b` -/
theorem patch_text_readback_of_paths (L : FloatLaws) (F : FloatEq0) (nc : NumCodec) (o : Opts)
    (ho : dispatchTag o = .list) (hm : isMerge o = false) (a b : Json)
    (ha : LT nc a) (ha3 : a.finiteNums = true) (ha5 : Own.elemsRaw a = true)
    (hb : LT nc b) (hb3 : b.finiteNums = true)
    {Na Nb : Nat} (la : PRC.lenLe Na a = true) (lb : PRC.lenLe Nb b = true) (hN : Na + Nb < 2 ^ 53)
    (H : HashOK o a b) (Z : ZeroOK a b)
    (hp : ∀ h ∈ diffM o a b, PRC.PE h.path) :
    ∃ text d' r, renderPatchM nc (diffM o a b) = .ok (some text) ∧
      readPatchM nc text = .ok d' ∧ patchM a d' = .ok r ∧
      specEq r b = true ∧ specEq b r = true ∧ r.listDoc = true ∧
      (PrecMono o → equivB o r b = true ∧ equals o r b = true) := by
  obtain ⟨ops, text, m, m2, er, t1, t2, hnorm, er2, hm1, hab2, hum, s1, s2, _⟩ :=
    patch_text_core L nc o ho hm a b ha ha3 hb hb3 la lb hN H Z hp
  obtain ⟨ha1, ha2, hav, haN⟩ := ha
  obtain ⟨hb1, hb2, hbv, hbN⟩ := hb
  have ha4 := PRC.vfree_of_voidFree a hav
  have hb4 := PRC.vfree_of_voidFree b hbv
  have hv : (a.isObj && b.isVoid) = false := by
    rw [Yaml.voidFree_notVoid hbv]; simp
  obtain ⟨g1, g2, g3⟩ := Own.diffM_in_grammar_of_paths o ho hm a b ha1 ha2 ha3 ha4 ha5 hb1 hb2 hb4 F
    la lb hN hv hp
  obtain ⟨m', hm1', _, _, _, hm5⟩ := DPL.diffM_list_correct L o ho hm a b ha1 ha2 ha3
    (PRC.memOK_of_vfree a ha4) hb1 hb2 hb3 (PRC.memOK_of_vfree b hb4) H Z
  have hmm : m' = m := by rw [hm1] at hm1'; injection hm1' with e; exact e.symm
  subst hmm
  obtain ⟨hread, r, hP, hu, hrl⟩ := Own.parse_back_of_grammar L F (CliRTM.PBwf_map_untagHunk g1)
    (CliRTM.all_jdShaped_map_untagHunk g2) (CliRTM.all_hunkListDoc_map_untagHunk _) er2 ha1 hab2
  rw [hum] at hu
  have hrd : readPatchM nc text = readPatchOps (ops.map JText.untagOp) := by
    simp only [readPatchM_of_parseJson t2, readPatchDoc, patchOpsOfJson,
      JText.map_opDoc, JText.patchOpsOfJson_go_opJsons, hnorm]
  refine ⟨text, _, r, t1, hrd.trans hread, hP, ?_, ?_, hrl, fun hpm => ?_⟩
  · exact (specEq_left_of_untag_eq hu).trans s1
  · exact (specEq_right_of_untag_eq hu).trans s2
  · have e : equivB o r b = true := by
      exact (equivB_left_of_untag_eq o ho hu).trans (hm5 hpm).1
    exact ⟨e, by rw [equals_eq_equivB_list o ho r b hrl hb1]; exact e⟩

/-! ### 3.2 the two decoders of a parsed patch document -/

/-- an operation of the independent decoder and one of the library's decoder carry the same `op`,
    `path` and `value` (the independent one also has the `from` member of `move` / `copy`) -/
def OpRel (s : Spec.Op) (p : PatchOp) : Prop := s.op = p.op ∧ s.path = p.path ∧ s.value = p.value

/-- the element decoder of `Spec.opsOfJson` -/
def specElem (e : Json) : Option Spec.Op :=
  match e with
  | .obj kvs =>
    match alookup "op" kvs, alookup "path" kvs with
    | some (.str op), some (.str path) =>
      let from_ := match alookup "from" kvs with | some (.str f) => f | _ => ""
      let needsValue := op == "add" || op == "replace" || op == "test"
      match alookup "value" kvs with
      | some v => some { op, path, from_, value := v }
      | none => if needsValue then none else some { op, path, from_ }
    | _, _ => none
  | _ => none

theorem opsOfJson_arr (t : Tag) (xs : List Json) : Spec.opsOfJson (.arr t xs) = xs.mapM specElem := rfl

theorem strField_inv {kvs : List (String × Json)} {k s : String}
    (h : patchOpsOfJson.strField kvs k = .ok s) : alookup k kvs = some (.str s) := by
  unfold patchOpsOfJson.strField at h
  split at h
  · rename_i s' h0; cases h; exact h0
  · cases h

/-- what the library's decoder accepts, element by element (D31): an object with
    string `op` and `path` members; the value is the `value` member, or `null` when there is none and
    the operation is neither `add` nor `test` -/
theorem go_cons_inv {e : Json} {r : List Json} {ops : List PatchOp}
    (h : patchOpsOfJson.go (e :: r) = .ok ops) :
    ∃ rest kvs op path value, patchOpsOfJson.go r = .ok rest ∧ e = .obj kvs ∧
      alookup "op" kvs = some (.str op) ∧ alookup "path" kvs = some (.str path) ∧
      (alookup "value" kvs = some value ∨
        (alookup "value" kvs = none ∧ value = .null ∧ (op == "add" || op == "test") = false)) ∧
      ops = { op := op, path := path, value := value } :: rest := by
  cases e with
  | obj kvs =>
    simp only [patchOpsOfJson.go] at h
    obtain ⟨op, ha, h⟩ := Outcome.bind_eq_ok.1 h
    obtain ⟨path, hb, h⟩ := Outcome.bind_eq_ok.1 h
    obtain ⟨value, hv, h⟩ := Outcome.bind_eq_ok.1 h
    obtain ⟨rest, hr, h⟩ := Outcome.bind_eq_ok.1 h
    cases h
    refine ⟨rest, kvs, op, path, value, hr, rfl, strField_inv ha, strField_inv hb, ?_, rfl⟩
    unfold patchOpsOfJson.valueField at hv
    split at hv
    · rename_i v hk; cases hv; exact .inl hk
    · rename_i hk
      split at hv
      · cases hv
      · rename_i hn; cases hv; exact .inr ⟨hk, rfl, by simpa using hn⟩
  | _ => simp [patchOpsOfJson.go] at h

/-- **the library's decoder accepts nothing RFC 6902 rejects, element by element** — except a
    `replace` without `value` (which the element loop of `ReadPatchString` then refuses, like every
    `replace`). On an object that the library's decoder accepts (`go_cons_inv`) the independent element
    decoder, where it accepts, reads the same `op`, `path`, `value`; it accepts unless the operation is
    a `replace` -/
theorem specElem_obj {kvs : List (String × Json)} {op path : String} {value : Json}
    (hop : alookup "op" kvs = some (.str op)) (hpa : alookup "path" kvs = some (.str path))
    (hva : alookup "value" kvs = some value ∨
      (alookup "value" kvs = none ∧ value = .null ∧ (op == "add" || op == "test") = false)) :
    (∀ s, specElem (.obj kvs) = some s → OpRel s { op := op, path := path, value := value }) ∧
    (op ≠ "replace" → ∃ s, specElem (.obj kvs) = some s) := by
  rcases hva with hva | ⟨hva, rfl, hn⟩
  · simp only [specElem, hop, hpa, hva, Option.some.injEq]
    exact ⟨fun s hs => hs ▸ ⟨rfl, rfl, rfl⟩, fun _ => ⟨_, rfl⟩⟩
  · simp only [specElem, hop, hpa, hva]
    refine ⟨fun s hs => ?_, fun hne => ?_⟩
    · split at hs
      · cases hs
      · exact Option.some.inj hs ▸ ⟨rfl, rfl, rfl⟩
    · have hnv : (op == "add" || op == "replace" || op == "test") = false := by
        simp only [Bool.or_eq_false_iff, beq_eq_false_iff_ne, ne_eq] at hn ⊢
        exact ⟨⟨hn.1, hne⟩, hn.2⟩
      exact ⟨_, by rw [hnv]; rfl⟩

/-- the same for the element list: where the independent decoder accepts, its operations carry the
    `op`, `path`, `value` of the library's; it accepts unless some operation is a `replace` -/
theorem mapM_specElem_go : ∀ {xs : List Json} {ops : List PatchOp}, patchOpsOfJson.go xs = .ok ops →
    (∀ sops, xs.mapM specElem = some sops → List.Forall₂ OpRel sops ops) ∧
    ((∀ o ∈ ops, o.op ≠ "replace") → ∃ sops, xs.mapM specElem = some sops)
  | [], ops, h1 => by
    simp only [patchOpsOfJson.go, Outcome.ok.injEq] at h1
    subst h1
    exact ⟨fun sops h2 => by cases h2; exact .nil, fun _ => ⟨[], rfl⟩⟩
  | e :: r, ops, h1 => by
    obtain ⟨rest, kvs, op, path, value, hr, rfl, hop, hpa, hva, rfl⟩ := go_cons_inv h1
    obtain ⟨e1, e2⟩ := specElem_obj hop hpa hva
    obtain ⟨r1, r2⟩ := mapM_specElem_go hr
    refine ⟨fun sops h2 => ?_, fun hne => ?_⟩
    · rw [List.mapM_cons] at h2
      simp only [Option.bind_eq_bind, Option.bind_eq_some_iff, Option.pure_def,
        Option.some.injEq] at h2
      obtain ⟨s, hs, srest, hm, rfl⟩ := h2
      exact .cons (e1 s hs) (r1 srest hm)
    · obtain ⟨s, hs⟩ := e2 (hne _ List.mem_cons_self)
      obtain ⟨srest, hm⟩ := r2 (fun q hq => hne q (List.mem_cons_of_mem _ hq))
      exact ⟨s :: srest, by rw [List.mapM_cons, hs, hm]; rfl⟩

/-- **the two decoders agree where both accept**: the operations of the independent decoder carry
    the `op`, `path` and `value` of the library's -/
theorem opsOfJson_lib {doc : Json} {ops : List PatchOp} {sops : List Spec.Op}
    (h1 : patchOpsOfJson doc = .ok ops) (h2 : Spec.opsOfJson doc = some sops) :
    List.Forall₂ OpRel sops ops := by
  cases doc with
  | arr t xs =>
    exact (mapM_specElem_go (by simpa [patchOpsOfJson] using h1)).1 sops
      ((opsOfJson_arr t xs).symm.trans h2)
  | _ => simp [Spec.opsOfJson] at h2

/-! ### 3.3 never more permissive, from the TEXT -/

/-- RFC 6902 evaluation of a `test` / `remove` / `add` does not look at the `from` member -/
theorem evalOp_rel {s : Spec.Op} {p : PatchOp} (h : OpRel s p) (hw : p.wfOp) (n : Json) :
    evalOp n s = evalOp n p.toSpec := by
  obtain ⟨h1, h2, h3⟩ := h
  have e : s = { p.toSpec with from_ := s.from_ } := by
    cases s; simp_all [PatchOp.toSpec]
  rw [e]
  unfold evalOp
  rcases hw with hw | hw | hw <;> simp [PatchOp.toSpec, hw]

theorem eval_rel : ∀ {sops : List Spec.Op} {ops : List PatchOp}, List.Forall₂ OpRel sops ops →
    (∀ p ∈ ops, p.wfOp) → ∀ n : Json, eval n sops = eval n (ops.map PatchOp.toSpec)
  | _, _, .nil, _, n => rfl
  | _, _, .cons (a := s) (b := p) hab hr, hw, n => by
    simp only [List.map_cons, eval, evalOp_rel hab (hw p (by simp))]
    cases evalOp n p.toSpec with
    | none => rfl
    | some n' => exact eval_rel hr (fun q hq => hw q (List.mem_cons_of_mem _ hq)) n'

theorem rerenderHunk_wfOps {h : Hunk} {ops : List PatchOp} (e : NMP.rerenderHunk h = .ok ops) :
    ∀ o ∈ ops, o.wfOp := by
  unfold NMP.rerenderHunk at e
  split at e
  · split at e
    · cases e
      intro o ho
      obtain ⟨v, _, rfl⟩ := List.mem_map.1 ho
      exact .inr (.inr rfl)
    · cases e
    · cases e
  · exact renderPatchHunkW_wfOps e

theorem rerender_wfOps : ∀ {d : Diff} {ops : List PatchOp}, NMP.rerender d = .ok ops →
    ∀ o ∈ ops, o.wfOp :=
  wfOps_of_hunks NMP.rerender_nil NMP.rerender_ok_cons rerenderHunk_wfOps

/-- related lists satisfy related properties together -/
theorem forall₂_transfer {α β} {R : α → β → Prop} {P : α → Prop} {Q : β → Prop}
    (h : ∀ a b, R a b → (P a ↔ Q b)) :
    ∀ {l : List α} {l' : List β}, List.Forall₂ R l l' → ((∀ a ∈ l, P a) ↔ ∀ b ∈ l', Q b)
  | _, _, .nil => by simp
  | _, _, .cons hab hr => by simp only [List.forall_mem_cons, h _ _ hab, forall₂_transfer h hr]

/-- every operation of a list that `ReadPatchString` accepts and whose diff applies somewhere is a
    `test`, a `remove` or an `add` (index tokens below 2^53; no hypothesis on the spelling of the
    pointers: the reader is injective on pointer texts, D30) -/
theorem accepted_ops_wfOps (F : FloatEq0) {ops : List PatchOp} {d : Diff} {t r : Json}
    (hl : t.listDoc = true) (hv : ∀ o ∈ ops, NMP.valueOK o.value = true)
    (hc : ∀ o ∈ ops, NMP.idxTokensOK o.path = true) (hread : readPatchOps ops = .ok d)
    (hp : patchM t d = .ok r) : ∀ o ∈ ops, o.wfOp := by
  have hloop := NMP.readPatchOps_loop hread
  obtain ⟨m, hm, _⟩ := strictAll_result true t d (NMP.readPatchLoop_strictOK hloop hv) hl r hp
  obtain ⟨ops', h1, h2⟩ := NMP.readPatchOps_faithful_all_pointers F
    (fun o ho => NMP.valueOK_not_void (hv o ho)) hc hread (NMP.applyStrictAll_append_remove d hm)
  exact (forall₂_transfer (fun a b hab => by unfold PatchOp.wfOp; rw [hab.1]) h2).1 (rerender_wfOps h1)

theorem wfOp_ne_replace {o : PatchOp} (h : o.wfOp) : o.op ≠ "replace" := by
  unfold PatchOp.wfOp at h
  rcases h with h | h | h <;> rw [h] <;> decide

/-- **the library's decoder against the independent one, whole document**: whatever the library's
    decoder accepts as operations none of which is a `replace`, the independent RFC 6902 decoder
    accepts too, with the same `op`, `path`, `value` for every operation. (A `replace` WITHOUT `value`
    passes the library's decoder — it asks for `value` on `add` and `test` only — and not the
    independent one; the element loop refuses every `replace`: `accepted_ops_wfOps`.) -/
theorem opsOfJson_of_lib {doc : Json} {ops : List PatchOp}
    (h1 : patchOpsOfJson doc = .ok ops) (hne : ∀ o ∈ ops, o.op ≠ "replace") :
    ∃ sops, Spec.opsOfJson doc = some sops ∧ List.Forall₂ OpRel sops ops := by
  cases doc with
  | arr t xs =>
    obtain ⟨g1, g2⟩ := mapM_specElem_go (xs := xs) (by simpa [patchOpsOfJson] using h1)
    obtain ⟨sops, h2⟩ := g2 hne
    exact ⟨sops, (opsOfJson_arr t xs).trans h2, g1 sops h2⟩
  | _ => simp [patchOpsOfJson] at h1

/-- the index tokens of the `path` members of a parsed patch document are below 2^53 (the range in
    which the model's `int → float64` conversion of an index is exact); a predicate on the parsed
    TEXT, no decoder involved -/
def elemIdxOK (e : Json) : Bool :=
  match e with
  | .obj kvs =>
    (match alookup "path" kvs with
     | some (.str p) => NMP.idxTokensOK p
     | _ => true)
  | _ => true

def docIdxOK : Json → Bool
  | .arr _ xs => xs.all elemIdxOK
  | _ => true

theorem go_idxOK : ∀ {xs : List Json} {ops : List PatchOp}, patchOpsOfJson.go xs = .ok ops →
    xs.all elemIdxOK = true → ∀ o ∈ ops, NMP.idxTokensOK o.path = true
  | [], ops, h, _ => by
    simp only [patchOpsOfJson.go, Outcome.ok.injEq] at h
    subst h; intro o ho; cases ho
  | e :: r, ops, h, hx => by
    obtain ⟨rest, kvs, op, path, value, hr, rfl, _, hpa, _, rfl⟩ := go_cons_inv h
    simp only [List.all_cons, Bool.and_eq_true] at hx
    intro o ho
    rcases List.mem_cons.1 ho with rfl | ho
    · have := hx.1
      simp only [elemIdxOK, hpa] at this
      exact this
    · exact go_idxOK hr hx.2 o ho

theorem patchOpsOfJson_idxOK {doc : Json} {ops : List PatchOp} (h : patchOpsOfJson doc = .ok ops)
    (hx : docIdxOK doc = true) : ∀ o ∈ ops, NMP.idxTokensOK o.path = true := by
  cases doc with
  | arr t xs => exact go_idxOK (by simpa [patchOpsOfJson] using h) (by simpa [docIdxOK] using hx)
  | _ => simp [patchOpsOfJson] at h

/-- `ReadPatchString` accepted the text and the diff read applies to a list document: the text is
    JSON, the library's decoder (`patchOpsOfJson`, the model of `json.Unmarshal` into `[]patchElement`)
    accepts the parsed document, the element loop with the context check reads the operations, their
    values are documents, and (index tokens below 2^53) each is a `test`, a `remove` or an `add` -/
theorem accepted_text (F : FloatEq0) {nc : NumCodec} {s : String} {d : Diff} {t r : Json}
    (hl : t.listDoc = true) (hread : readPatchM nc s = .ok d) (hp : patchM t d = .ok r) :
    ∃ doc ops, parseJson nc s = some doc ∧ patchOpsOfJson doc = .ok ops ∧ readPatchOps ops = .ok d ∧
      (∀ o ∈ ops, NMP.valueOK o.value = true) ∧
      ((∀ o ∈ ops, NMP.idxTokensOK o.path = true) → ∀ o ∈ ops, o.wfOp) := by
  unfold readPatchM at hread
  cases hdoc : parseJson nc s with
  | none => rw [hdoc] at hread; cases hread
  | some doc =>
    rw [hdoc] at hread
    obtain ⟨ops, ho, hro⟩ := NMP.readPatchDoc_ok hread
    obtain ⟨hraw, hdw, hdv⟩ := parseJson_shape hdoc
    have hv := NMP.patchOpsOfJson_values ho hdw (rawDoc_listDoc _ hraw) hdv
    exact ⟨doc, ops, rfl, ho, hro, hv, fun hc => accepted_ops_wfOps F hl hv hc hro hp⟩

/-- **C10 at the TEXT level, FULL statement: never more permissive than RFC 6902, never different.**
    For EVERY text `s` that `ReadPatchString` accepts (reading the diff `d`) and every list document
    `t` with unique sorted keys: if `t.Patch(d)` succeeds with `r`, then the text is a JSON text, the
    INDEPENDENT decoder reads the parsed text as RFC 6902 operations `sops` (an array of objects with
    string `op`, `path` and a `value` where the operation needs one), and the independent evaluator
    applies `sops` to `t` with the same result (up to the Go type of array nodes). NO hypothesis on
    the independent decoder and none on the spelling of the pointers; `hidx`, `hafter`: the array
    indices involved are below 2^53. -/
theorem patch_text_rfc6902 (L : FloatLaws) (F : FloatEq0) {nc : NumCodec} {s : String}
    {d : Diff} {t r : Json} (hw : t.wf = true) (hl : t.listDoc = true)
    (hread : readPatchM nc s = .ok d) (hp : patchM t d = .ok r)
    (hidx : ∀ doc, parseJson nc s = some doc → docIdxOK doc = true)
    (hafter : ∀ h ∈ d, ∀ i, lastIdx? h.path = some i → i + (h.remove.length : Int) < 2 ^ 53) :
    ∃ doc sops r', parseJson nc s = some doc ∧ Spec.opsOfJson doc = some sops ∧
      eval t sops = some r' ∧ untag r' = untag r := by
  obtain ⟨doc, ops, hdoc, ho, hro, hv, hwf⟩ := accepted_text F hl hread hp
  have hc := patchOpsOfJson_idxOK ho (hidx doc hdoc)
  replace hwf := hwf hc
  obtain ⟨sops, hs, hrel⟩ := opsOfJson_of_lib ho (fun o ho => wfOp_ne_replace (hwf o ho))
  obtain ⟨r', h1, h2⟩ := NMP.readPatchOps_never_more_permissive_all_pointers_min L F hw hl hv hc hro
    hafter hp
  exact ⟨doc, sops, r', hdoc, hs, by rw [eval_rel hrel hwf]; exact h1, h2⟩

/-- the accepted operations themselves: every operation of a text that is accepted and applied is a
    `test`, a `remove` or an `add`, for the independent decoder too -/
theorem patch_text_ops_shape (F : FloatEq0) {nc : NumCodec} {s : String}
    {d : Diff} {t r : Json} (hl : t.listDoc = true)
    (hread : readPatchM nc s = .ok d) (hp : patchM t d = .ok r)
    (hidx : ∀ doc, parseJson nc s = some doc → docIdxOK doc = true) :
    ∃ doc sops, parseJson nc s = some doc ∧ Spec.opsOfJson doc = some sops ∧
      ∀ o ∈ sops, o.op = "test" ∨ o.op = "remove" ∨ o.op = "add" := by
  obtain ⟨doc, ops, hdoc, ho, hro, hv, hwf⟩ := accepted_text F hl hread hp
  have hc := patchOpsOfJson_idxOK ho (hidx doc hdoc)
  replace hwf := hwf hc
  obtain ⟨sops, hs, hrel⟩ := opsOfJson_of_lib ho (fun o ho => wfOp_ne_replace (hwf o ho))
  exact ⟨doc, sops, hdoc, hs,
    (forall₂_transfer (fun a b hab => by unfold PatchOp.wfOp; rw [hab.1]) hrel).2 hwf⟩

/-- the form with the independent decoding GIVEN (the hypothesis on the index tokens then speaks of
    the independent decoder's operations) -/
theorem patch_text_never_more_permissive (L : FloatLaws) (F : FloatEq0) {nc : NumCodec} {s : String}
    {d : Diff} {t r doc : Json} {sops : List Spec.Op} (hw : t.wf = true) (hl : t.listDoc = true)
    (hread : readPatchM nc s = .ok d) (hp : patchM t d = .ok r)
    (hdoc : parseJson nc s = some doc) (hs : Spec.opsOfJson doc = some sops)
    (hc : ∀ o ∈ sops, NMP.idxTokensOK o.path = true)
    (hafter : ∀ h ∈ d, ∀ i, lastIdx? h.path = some i → i + (h.remove.length : Int) < 2 ^ 53) :
    ∃ r', eval t sops = some r' ∧ untag r' = untag r := by
  obtain ⟨doc', ops, hd', ho, hro, hv, hwf⟩ := accepted_text F hl hread hp
  rw [hdoc] at hd'; cases hd'
  have hrel := opsOfJson_lib ho hs
  have hc' : ∀ o ∈ ops, NMP.idxTokensOK o.path = true :=
    (forall₂_transfer (fun a b hab => by rw [hab.2.1]) hrel).1 hc
  replace hwf := hwf hc'
  obtain ⟨r', h1, h2⟩ := NMP.readPatchOps_never_more_permissive_all_pointers_min L F hw hl hv hc' hro
    hafter hp
  exact ⟨r', by rw [eval_rel hrel hwf]; exact h1, h2⟩

/-! ### 3.4 REGRESSIONS for D31: malformed patch documents that decoding into `[]patchElement` with
encoding/json's struct rules accepts; RFC 6902 rejects them, and so does the decoder -/

namespace Witness
open Jd.NMP

theorem parse_null (nc : NumCodec) : parseJson nc "null" = some .null :=
  (V1T.Witness.parseJson_ofList nc (by with_reducible rfl)).trans rfl

/-- W1 (D31): the text `null` is NOT a patch document (RFC 6902 §3: a JSON Patch document is an
    array); struct decoding reads it as the empty patch. Every codec. -/
theorem null_text_rejected (nc : NumCodec) :
    readPatchM nc "null" = .err ∧ parseJson nc "null" = some .null ∧ Spec.opsOfJson .null = none :=
  ⟨readPatchM_of_parseJson (parse_null nc), parse_null nc, rfl⟩

def text2 : String := "[{\"op\":\"add\",\"path\":\"/k\"}]"
def doc2 : Json := .arr .raw [.obj [("op", .str "add"), ("path", .str "/k")]]

theorem parse2 (nc : NumCodec) : parseJson nc text2 = some doc2 :=
  (V1T.Witness.parseJson_ofList nc (by unfold text2; with_reducible rfl)).trans rfl

/-- W2 (D31): `[{"op":"add","path":"/k"}]` — an `add` WITHOUT a `value` member (RFC 6902 §4.1: the
    operation object MUST contain a "value" member) is rejected; struct decoding reads it as
    `add /k null`. Every codec. -/
theorem add_without_value_rejected (nc : NumCodec) :
    readPatchM nc text2 = .err ∧ parseJson nc text2 = some doc2 ∧ Spec.opsOfJson doc2 = none :=
  ⟨(readPatchM_of_parseJson (parse2 nc)).trans rfl, parse2 nc, rfl⟩

def text2n : String := "[{\"op\":\"add\",\"path\":\"/k\",\"value\":null}]"
def doc2n : Json := .arr .raw [.obj [("op", .str "add"), ("path", .str "/k"), ("value", .null)]]
def diff2 : Diff := [{ path := [.key "k"], add := [.null] }]

theorem parse2n (nc : NumCodec) : parseJson nc text2n = some doc2n :=
  (V1T.Witness.parseJson_ofList nc (by unfold text2n; with_reducible rfl)).trans rfl
theorem ops2n : patchOpsOfJson doc2n = .ok [adp "/k" .null] := rfl
theorem read2 : readPatchOps [adp "/k" .null] = .ok diff2 := by
  simp [readPatchOps, diff2, readPatchLoop, readPatchHunk, rp_k, lastIdx?, adp, readPatchCtxLoop, ctxOf,
    checkPatchCtxs, checkPatchCtx]
theorem patch2 : ∃ r, patchM (.obj []) diff2 = .ok r ∧ untag r = .obj [("k", .null)] := by
  have : applyStrictAll (.obj []) diff2 = some (.obj [("k", .null)]) := by
    simp [applyStrictAll, applyStrict, diff2, alookup, specEq, equivB, single, Json.singleValue,
      Json.isVoid, ainsert]
  obtain ⟨r, h1, h2⟩ := patchM_of_ref (by decide) (by decide) this
  exact ⟨r, h1, by rw [h2]; simp [untag, untagKvs]⟩

/-- a `value` member holding `null` IS a value: `[{"op":"add","path":"/k","value":null}]` is still
    accepted, by both decoders, and applied to `{}` gives `{"k":null}` -/
theorem add_null_value_accepted (nc : NumCodec) :
    readPatchM nc text2n = .ok diff2 ∧
    (∃ r, patchM (.obj []) diff2 = .ok r ∧ untag r = .obj [("k", .null)]) ∧
    parseJson nc text2n = some doc2n ∧
    Spec.opsOfJson doc2n = some [{ op := "add", path := "/k", value := .null }] := by
  refine ⟨?_, patch2, parse2n nc, rfl⟩
  rw [readPatchM_of_parseJson (parse2n nc), readPatchDoc, ops2n]
  exact read2

def text3 : String := "[{\"op\":\"add\",\"value\":\"x\"}]"
def doc3 : Json := .arr .raw [.obj [("op", .str "add"), ("value", .str "x")]]

theorem parse3 (nc : NumCodec) : parseJson nc text3 = some doc3 :=
  (V1T.Witness.parseJson_ofList nc (by unfold text3; with_reducible rfl)).trans rfl

/-- W3 (D31): `[{"op":"add","value":"x"}]` — an operation WITHOUT a `path` member (RFC 6902 §4:
    MUST have exactly one "path" member) is rejected; struct decoding reads it as an `add` at
    the root pointer "". Every codec. -/
theorem op_without_path_rejected (nc : NumCodec) :
    readPatchM nc text3 = .err ∧ parseJson nc text3 = some doc3 ∧ Spec.opsOfJson doc3 = none :=
  ⟨(readPatchM_of_parseJson (parse3 nc)).trans rfl, parse3 nc, rfl⟩

/-- member names are matched EXACTLY (not with encoding/json's case-insensitive struct decoding, D31):
    the parsed document of `[{"OP":"add","Path":"/a","VALUE":null}]` is rejected by both decoders -/
theorem other_case_names_rejected :
    patchOpsOfJson (.arr .raw [.obj [("OP", .str "add"), ("Path", .str "/a"), ("VALUE", .null)]]) = .err ∧
    Spec.opsOfJson (.arr .raw [.obj [("OP", .str "add"), ("Path", .str "/a"), ("VALUE", .null)]]) = none :=
  ⟨rfl, rfl⟩

/-- a `Value` member next to the exact `value` is ignored by both decoders -/
theorem other_case_member_ignored :
    patchOpsOfJson (.arr .raw [.obj [("Value", .str "B"), ("op", .str "add"), ("path", .str "/k"),
      ("value", .str "a")]]) = .ok [adp "/k" (.str "a")] ∧
    Spec.opsOfJson (.arr .raw [.obj [("Value", .str "B"), ("op", .str "add"), ("path", .str "/k"),
      ("value", .str "a")]]) = some [{ op := "add", path := "/k", value := .str "a" }] :=
  ⟨rfl, rfl⟩

/-- the one shape the library's decoder lets through and the independent decoder does not: a
    `replace` without `value` (then refused by the element loop, like every `replace`) -/
theorem replace_without_value :
    patchOpsOfJson (.arr .raw [.obj [("op", .str "replace"), ("path", .str "/k")]]) =
      .ok [{ op := "replace", path := "/k", value := .null }] ∧
    Spec.opsOfJson (.arr .raw [.obj [("op", .str "replace"), ("path", .str "/k")]]) = none ∧
    readPatchOps [{ op := "replace", path := "/k", value := .null }] = .err :=
  ⟨rfl, rfl, rfl⟩

end Witness

end PatchIn

end Jd.RTL
