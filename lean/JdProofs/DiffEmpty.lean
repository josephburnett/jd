/-
  JdProofs.DiffEmpty — property C05 in LIST mode (strict strategy and MERGE strategy):
  `a.Diff(b)` is empty if and only if `a.Equals(b)` under the same options.

  Domain: options whose array reading is "list" (`dispatchTag o = .list`), no Precision
  (`precOf o = 0`); documents as produced by the readers on the left (`rawDoc`), list documents on
  the right, unique keys (`wf`), finite numbers, no negative zero.
  Trusted / assumed facts, always explicit hypotheses:
    `FloatEq0`  (JdProofs.Common; IEEE-754: two finite doubles other than `-0` at distance ≤ +0 have
                 the same bits),
    `DE.HashOK` (no FNV collision between non-equal subterms) — only for "empty diff ⇒ equal", strict.
  The unfolding equations of `diffNode` / `diffKvs` for either strategy (namespace `Jd.DE`; `m` is
  `strategy == mergePatchStrategy`), the rendering of the alignment that the strict list diff is, and
  the induction over two list documents are in JdProofs/ListScript.lean.
-/
import JdModel
import JdSpec
import JdProofs.DiffPatchList
import JdProofs.Common

namespace Jd
open Jd.Spec

/-! ## 0. the domain -/

/-- the documents of the theorems -/
structure Dom (x : Json) : Prop where
  listDoc : x.listDoc = true
  wf : x.wf = true
  fin : x.finiteNums = true
  nnz : x.noNegZero = true

structure DomL (xs : List Json) : Prop where
  listDoc : listDocList xs = true
  wf : wfList xs = true
  fin : finiteNumsList xs = true
  nnz : noNegZeroList xs = true

structure DomK (kvs : List (String × Json)) : Prop where
  listDoc : listDocKvs kvs = true
  wf : wfKvs kvs = true
  fin : finiteNumsKvs kvs = true
  nnz : noNegZeroKvs kvs = true

/-- `DomL` is `Dom` of every element -/
theorem domL_iff {xs : List Json} : DomL xs ↔ ∀ x ∈ xs, Dom x := by
  constructor
  · rintro ⟨h1, h2, h3, h4⟩ x hx
    rw [listDocList_eq_all, List.all_eq_true] at h1
    rw [wfList_eq_all, List.all_eq_true] at h2
    rw [finiteNumsList_eq_all, List.all_eq_true] at h3
    rw [noNegZeroList_eq_all, List.all_eq_true] at h4
    exact ⟨h1 x hx, h2 x hx, h3 x hx, h4 x hx⟩
  · intro h
    refine ⟨?_, ?_, ?_, ?_⟩
    · rw [listDocList_eq_all, List.all_eq_true]; exact fun x hx => (h x hx).listDoc
    · rw [wfList_eq_all, List.all_eq_true]; exact fun x hx => (h x hx).wf
    · rw [finiteNumsList_eq_all, List.all_eq_true]; exact fun x hx => (h x hx).fin
    · rw [noNegZeroList_eq_all, List.all_eq_true]; exact fun x hx => (h x hx).nnz

theorem domL_cons {x : Json} {r : List Json} : DomL (x :: r) ↔ Dom x ∧ DomL r := by
  simp only [domL_iff, List.forall_mem_cons]

theorem dom_arr {t : Tag} {xs : List Json} :
    Dom (.arr t xs) ↔ (t == .raw || t == .list) = true ∧ DomL xs := by
  constructor
  · rintro ⟨h1, h2, h3, h4⟩
    simp only [Json.listDoc, Bool.and_eq_true] at h1
    simp only [Json.wf] at h2
    simp only [Json.finiteNums] at h3
    simp only [Json.noNegZero] at h4
    exact ⟨h1.1, ⟨h1.2, h2, h3, h4⟩⟩
  · rintro ⟨ht, ⟨g1, g2, g3, g4⟩⟩
    exact ⟨by simp only [Json.listDoc, Bool.and_eq_true]; exact ⟨ht, g1⟩, by simpa [Json.wf] using g2,
      by simpa [Json.finiteNums] using g3, by simpa [Json.noNegZero] using g4⟩

theorem dom_obj {kvs : List (String × Json)} :
    Dom (.obj kvs) ↔ keysSorted kvs = true ∧ DomK kvs := by
  constructor
  · rintro ⟨h1, h2, h3, h4⟩
    simp only [Json.listDoc] at h1
    simp only [Json.wf, Bool.and_eq_true] at h2
    simp only [Json.finiteNums] at h3
    simp only [Json.noNegZero] at h4
    exact ⟨h2.1, ⟨h1, h2.2, h3, h4⟩⟩
  · rintro ⟨hs, ⟨g1, g2, g3, g4⟩⟩
    exact ⟨by simpa [Json.listDoc] using g1, by simp [Json.wf, hs, g2],
      by simpa [Json.finiteNums] using g3, by simpa [Json.noNegZero] using g4⟩

theorem domK_cons {k : String} {v : Json} {r : List (String × Json)} :
    DomK ((k, v) :: r) ↔ Dom v ∧ DomK r := by
  constructor
  · rintro ⟨h1, h2, h3, h4⟩
    simp only [listDocKvs, wfKvs, finiteNumsKvs, noNegZeroKvs, Bool.and_eq_true] at h1 h2 h3 h4
    exact ⟨⟨h1.1, h2.1, h3.1, h4.1⟩, ⟨h1.2, h2.2, h3.2, h4.2⟩⟩
  · rintro ⟨⟨h1, h2, h3, h4⟩, ⟨g1, g2, g3, g4⟩⟩
    exact ⟨by simp [listDocKvs, h1, g1], by simp [wfKvs, h2, g2], by simp [finiteNumsKvs, h3, g3],
      by simp [noNegZeroKvs, h4, g4]⟩

theorem DomK.lookup {kvs : List (String × Json)} (h : DomK kvs) {k : String} {v : Json}
    (hl : alookup k kvs = some v) : Dom v := by
  induction kvs with
  | nil => simp [alookup] at hl
  | cons kv r ih =>
    obtain ⟨k', v'⟩ := kv
    rw [domK_cons] at h
    simp only [alookup] at hl
    split at hl
    · cases hl; exact h.1
    · exact ih h.2 hl

/-! ## 1. objects with unique sorted keys -/

/-- `Equals` on two objects with unique keys: every member of the first has an equal member in the
    second, and the second has no other key -/
theorem equals_obj_iff (o : Opts) {kvs kvs' : List (String × Json)} (hs : keysSorted kvs = true)
    (hs' : keysSorted kvs' = true) :
    equals o (.obj kvs) (.obj kvs') = true ↔
      AllLook (equals o) kvs kvs' ∧ ∀ k' v', (k', v') ∈ kvs' → (alookup k' kvs).isSome = true :=
  (equals_obj_optRel o hs hs').trans (DPL.optRel_iff_allLook hs hs')

/-- same keys at the same positions, related values -/
def KvsPW (R : Json → Json → Bool) : List (String × Json) → List (String × Json) → Prop
  | [], [] => True
  | (k, v) :: r, (k', v') :: r' => k = k' ∧ R v v' = true ∧ KvsPW R r r'
  | _, _ => False

/-! ## 2. equal documents have the same hash code -/

theorem hered_dom : Hered Dom :=
  ⟨fun h hx => domL_iff.1 (dom_arr.1 h).2 _ hx,
    fun h hm => (dom_obj.1 h).2.lookup (alookup_of_mem (dom_obj.1 h).1 hm)⟩

/-- `Equals` implies equal hash codes on the domain (list mode, no precision): `DPL.hash_of_equals`,
    the numbers being finite and not `-0` -/
theorem hashCode_eq_of_equals (F : FloatEq0) (o : Opts) (ho : dispatchTag o = .list)
    (hp : precOf o = 0) :
    ∀ (a b : Json), Dom a → Dom b → equals o a b = true → hashCode o a = hashCode o b :=
  fun a b ha hb h => DPL.hash_of_equals ho ho hered_dom hered_dom
    (fun u v hu hv hw => by
      have nu := hu.nnz; have nv := hv.nnz
      simp only [Json.noNegZero, bne_iff_ne, ne_eq] at nu nv
      rw [F.eq_of_within0 u v hu.fin hv.fin nu nv (hp ▸ hw)])
    a b ha.listDoc hb.listDoc ha.wf hb.wf ha hb h

theorem hashKvs_eq_of_kvsPW (F : FloatEq0) (o : Opts) (ho : dispatchTag o = .list)
    (hp : precOf o = 0) :
    ∀ (kvs kvs' : List (String × Json)), DomK kvs → DomK kvs' → KvsPW (equals o) kvs kvs' →
      hashKvs o kvs = hashKvs o kvs'
  | [], [], _, _, _ => rfl
  | [], _ :: _, _, _, h => by simp [KvsPW] at h
  | _ :: _, [], _, _, h => by simp [KvsPW] at h
  | (k, v) :: r, (k', v') :: r', ha, hb, h => by
    rw [domK_cons] at ha hb
    simp only [KvsPW] at h
    obtain ⟨rfl, hv, hr⟩ := h
    simp only [hashKvs]
    rw [hashCode_eq_of_equals F o ho hp v v' ha.1 hb.1 hv,
      hashKvs_eq_of_kvsPW F o ho hp r r' ha.2 hb.2 hr]

/-! ## 3. a list is its own longest common subsequence -/

theorem lcsValues_self {α} [BEq α] [LawfulBEq α] (h : List α) : lcsValues h h = h :=
  (lcsValues_sublist_left h h).eq_of_length_le
    (lcs_optimal h h h (List.Sublist.refl _) (List.Sublist.refl _))

/-! ## 4. a list against a non-list, an object against a non-object: never an empty diff
  (the unfolding equations `DE.diffNode_arr_arr` … `DE.diffNode_arr_other` are in JdProofs/ListScript.lean) -/

namespace DE

/-- "the cursor element is the next element of the common sequence" (`atCommonA` / `atCommonB`) -/
def atC (o : Opts) (x : Json) (c : List UInt64) : Bool :=
  match c with | [] => false | z :: _ => hashCode o x == z

theorem atC_split (o : Opts) (x : Json) (c : List UInt64) :
    (match c with | [] => false | z :: _ => hashCode o x == z) = atC o x c := rfl

/-- a list against a non-array, or a typed `jsonList` against a plain `jsonArray`: one hunk
    replacing the whole value -/
theorem diffNode_arr_other_ne {o : Opts} (ho : dispatchTag o = .list) {t : Tag} (xs : List Json)
    (b : Json) (ht : (t == .raw || t == .list) = true)
    (hb : (∀ t' ys, b ≠ .arr t' ys) ∨ (t = .list ∧ ∃ ys, b = .arr .raw ys)) (m : Bool) (p : Path) :
    diffNode o m (.arr t xs) b p ≠ [] := by
  rw [diffNode_arr_other ho xs b ht hb m p]
  cases m <;> simp

theorem diffNode_obj_other_ne (o : Opts) (m : Bool) (kvs : List (String × Json)) (b : Json)
    (hb : ∀ kvs', b ≠ .obj kvs') (p : Path) : diffNode o m (.obj kvs) b p ≠ [] := by
  rw [diffNode_obj_other_m o m kvs b hb p]
  cases m <;> simp

end DE

/-! ## 5. scalars -/

/-- without precision, `Equals` on a scalar receiver does not depend on the options
    (`diff_common.go` calls `a.Equals(b)` without options) -/
theorem equals_scalar_noopts {o : Opts} (hp : precOf o = 0) (a b : Json)
    (ha : ∀ t xs, a ≠ .arr t xs) (ha' : ∀ kvs, a ≠ .obj kvs) : equals [] a b = equals o a b := by
  cases a with
  | arr t xs => exact absurd rfl (ha t xs)
  | obj kvs => exact absurd rfl (ha' kvs)
  | _ => cases b <;> simp [equals, precOf, hp]

theorem diffNode_scalar_nil_iff {o : Opts} (hp : precOf o = 0) (m : Bool) (a b : Json)
    (ha : ∀ t xs, a ≠ .arr t xs) (ha' : ∀ kvs, a ≠ .obj kvs) (p : Path) :
    diffNode o m a b p = [] ↔ equals o a b = true := by
  rw [DE.diffNode_scalar o m a b ha ha' p, diffCommon_nil_iff, equals_scalar_noopts hp a b ha ha']

/-! ## 6. (⇐) equal documents have an empty diff -/

/-- two lists with the same hash codes, walked along that common sequence: every pair is kept,
    nothing is emitted -/
theorem diffRest_nil_of_hashList_eq (o : Opts) (p : Path) (xs ys : List Json)
    (h : hashList o xs = hashList o ys) (k : Nat) (prev : Json) :
    diffRest o p k k prev xs ys (hashList o xs) [] [] = [] := by
  rw [show diffRest o p k k prev xs ys (hashList o xs) [] [] = _ from
    Align.diffRest_render o p xs ys _ [] [] k prev]
  generalize true = n
  induction xs generalizing ys k prev n with
  | nil =>
    cases ys with
    | nil => rw [Align.walk_nilA]; rfl
    | cons _ _ => simp [hashList] at h
  | cons x xs ih =>
    cases ys with
    | nil => simp [hashList] at h
    | cons y ys =>
      simp only [hashList, List.cons.injEq] at h
      have hx : DPL.atC o x (hashCode o x :: hashList o xs) = true := by simp [DPL.atC]
      have hy : DPL.atC o y (hashCode o x :: hashList o xs) = true := by simp [DPL.atC, h.1]
      rw [hashList, Align.walk_cons]
      simp only [hx, hy, Bool.and_self, if_true, List.tail_cons]
      exact ih ys h.2 (k + 1) y true

theorem filter_added_nil {kvs kvs' : List (String × Json)}
    (h : ∀ k' v', (k', v') ∈ kvs' → (alookup k' kvs).isSome = true) :
    kvs'.filter (fun kv => (alookup kv.1 kvs).isNone) = [] := by
  rw [List.filter_eq_nil_iff]
  rintro ⟨k', v'⟩ hm
  have := h k' v' hm
  cases hl : alookup k' kvs <;> simp_all

mutual
/-- (⇐) for every node kind, list mode, either strategy -/
theorem diffNode_nil_of_equals (F : FloatEq0) (o : Opts) (ho : dispatchTag o = .list)
    (hp : precOf o = 0) (m : Bool) :
    ∀ (a b : Json), a.rawDoc = true → Dom a → Dom b → equals o a b = true →
      ∀ p, diffNode o m a b p = []
  | .void, b, _, _, _, h, p =>
    (diffNode_scalar_nil_iff hp m _ b (fun _ _ e => by cases e) (fun _ e => by cases e) p).2 h
  | .null, b, _, _, _, h, p =>
    (diffNode_scalar_nil_iff hp m _ b (fun _ _ e => by cases e) (fun _ e => by cases e) p).2 h
  | .bool _, b, _, _, _, h, p =>
    (diffNode_scalar_nil_iff hp m _ b (fun _ _ e => by cases e) (fun _ e => by cases e) p).2 h
  | .num _, b, _, _, _, h, p =>
    (diffNode_scalar_nil_iff hp m _ b (fun _ _ e => by cases e) (fun _ e => by cases e) p).2 h
  | .str _, b, _, _, _, h, p =>
    (diffNode_scalar_nil_iff hp m _ b (fun _ _ e => by cases e) (fun _ e => by cases e) p).2 h
  | .arr t xs, b, hr, ha, hb, h, p => by
    have ha' := dom_arr.1 ha
    simp only [Json.rawDoc, Bool.and_eq_true, beq_iff_eq] at hr
    obtain ⟨rfl, _⟩ := hr
    cases b with
    | arr t' ys =>
      have hb' := dom_arr.1 hb
      rw [DE.diffNode_arr_arr ho xs ys ha'.1 hb'.1 (.inl rfl)]
      have he : equalsList o xs ys = true := by rwa [equals_arr_list ho xs ys ha'.1 hb'.1] at h
      cases m with
      | true => simp [equals_arr_list ho xs ys (t := .list) (t' := .list) rfl rfl, he]
      | false =>
        have hh := DPL.hashList_of_equalsList (o := o) (fun x hx y hy =>
          hashCode_eq_of_equals F o ho hp x y (domL_iff.1 ha'.2 x hx) (domL_iff.1 hb'.2 y hy)) he
        simp only [Bool.false_eq_true, if_false]
        rw [← hh, lcsValues_self]
        exact diffRest_nil_of_hashList_eq o p xs ys hh 0 .void
    | _ => simp [equals, Json.dispatch, effTag_list ho ha'.1] at h
  | .obj kvs, b, hr, ha, hb, h, p => by
    cases b with
    | obj kvs' =>
      have ha' := dom_obj.1 ha
      have hb' := dom_obj.1 hb
      simp only [Json.rawDoc] at hr
      have h2 := ((equals_obj_iff o ha'.1 hb'.1).1 h).2
      have hk : equalsKvs o kvs kvs' = true := by
        simp only [equals, Bool.and_eq_true] at h
        exact h.2
      rw [DE.diffNode_obj_obj, diffKvs_nil_of_equalsKvs F o ho hp m kvs kvs' hr ha'.2 hb'.2 hk p,
        filter_added_nil h2]
      rfl
    | _ => simp [equals] at h
theorem diffKvs_nil_of_equalsKvs (F : FloatEq0) (o : Opts) (ho : dispatchTag o = .list)
    (hp : precOf o = 0) (m : Bool) :
    ∀ (r kvs' : List (String × Json)), rawDocKvs r = true → DomK r → DomK kvs' →
      equalsKvs o r kvs' = true → ∀ p, diffKvs o m p kvs' r = []
  | [], kvs', _, _, _, _, p => DE.diffKvs_nil o m p kvs'
  | (k, v) :: r, kvs', hr, ha, hb, h, p => by
    rw [domK_cons] at ha
    simp only [rawDocKvs, Bool.and_eq_true] at hr
    simp only [equalsKvs, Bool.and_eq_true] at h
    rw [DE.diffKvs_cons, diffKvs_nil_of_equalsKvs F o ho hp m r kvs' hr.2 ha.2 hb h.2 p]
    cases hl : alookup k kvs' with
    | none => simp [hl] at h
    | some v' =>
      simp only [hl] at h
      simp only [List.append_nil]
      exact diffNode_nil_of_equals F o ho hp m v v' hr.1 ha.1 (hb.lookup hl) h.1 _
end

/-! ## 7. (⇒) an empty diff means equal -/

mutual
/-- all nodes occurring in a document, the document included -/
def DE.subterms : Json → List Json
  | .void => [.void]
  | .null => [.null]
  | .bool b => [.bool b]
  | .num x => [.num x]
  | .str s => [.str s]
  | .arr t xs => .arr t xs :: DE.subtermsList xs
  | .obj kvs => .obj kvs :: DE.subtermsKvs kvs
def DE.subtermsList : List Json → List Json
  | [] => []
  | x :: r => (DE.subterms x) ++ DE.subtermsList r
def DE.subtermsKvs : List (String × Json) → List Json
  | [] => []
  | (_, v) :: r => (DE.subterms v) ++ DE.subtermsKvs r
end

theorem subterms_self (a : Json) : a ∈ (DE.subterms a) := by
  cases a <;> simp [DE.subterms]

theorem subterms_lookup {k : String} {v : Json} : ∀ {kvs : List (String × Json)},
    alookup k kvs = some v → ∀ x, x ∈ (DE.subterms v) → x ∈ DE.subtermsKvs kvs
  | [], h, _, _ => by simp [alookup] at h
  | (k', v') :: r, h, x, hx => by
    simp only [alookup] at h
    simp only [DE.subtermsKvs, List.mem_append]
    split at h
    · cases h; exact .inl hx
    · exact .inr (subterms_lookup h x hx)

/-- no hash collision between non-equal nodes taken from the two collections -/
def DE.HOK (o : Opts) (SA SB : List Json) : Prop :=
  ∀ x, x ∈ SA → ∀ y, y ∈ SB → hashCode o x = hashCode o y → equals o x y = true

theorem DE.HOK.mono {o : Opts} {SA SB SA' SB' : List Json} (h : DE.HOK o SA SB)
    (hA : ∀ x, x ∈ SA' → x ∈ SA) (hB : ∀ y, y ∈ SB' → y ∈ SB) : DE.HOK o SA' SB' :=
  fun x hx y hy => h x (hA x hx) y (hB y hy)

/-- `HashOK o a b`: nodes of `a` and nodes of `b` with the same hash code are `Equals`
    (FNV-1a collisions between different values are excluded; not a theorem) -/
def DE.HashOK (o : Opts) (a b : Json) : Prop := DE.HOK o (DE.subterms a) (DE.subterms b)

theorem diffKvs_cons_nil {o : Opts} {m : Bool} {p : Path} {kvs' : List (String × Json)} {k : String}
    {v : Json} {r : List (String × Json)} (hd : diffKvs o m p kvs' ((k, v) :: r) = []) :
    (∃ v', alookup k kvs' = some v' ∧ diffNode o m v v' (p ++ [.key k]) = []) ∧
      diffKvs o m p kvs' r = [] := by
  rw [DE.diffKvs_cons, List.append_eq_nil_iff] at hd
  refine ⟨?_, hd.2⟩
  cases hl : alookup k kvs' with
  | none => cases m <;> simp [hl] at hd
  | some v' => exact ⟨v', rfl, by simpa [hl] using hd.1⟩

/-- object against object: from an empty diff, `Equals`, given the members -/
theorem equals_obj_of_diff_nil {o : Opts} {m : Bool} {kvs kvs' : List (String × Json)} {p : Path}
    (hs : keysSorted kvs = true) (hs' : keysSorted kvs' = true)
    (hd : diffNode o m (.obj kvs) (.obj kvs') p = [])
    (hk : diffKvs o m p kvs' kvs = [] → AllLook (equals o) kvs kvs') :
    equals o (.obj kvs) (.obj kvs') = true := by
  rw [DE.diffNode_obj_obj, List.append_eq_nil_iff, List.map_eq_nil_iff, List.filter_eq_nil_iff] at hd
  refine (equals_obj_iff o hs hs').2 ⟨hk hd.1, ?_⟩
  intro k' v' hm
  have := hd.2 (k', v') hm
  cases hl : alookup k' kvs <;> simp_all

theorem equalsList_of_all₂ {o : Opts} : ∀ {xs ys : List Json},
    Align.All₂ (fun x y => equals o x y = true) xs ys → equalsList o xs ys = true
  | _, _, .nil => by simp [equalsList]
  | _, _, .cons h r => by simp [equalsList, h, equalsList_of_all₂ r]

theorem wf_of_mem {x : Json} {xs : List Json} (h : wfList xs = true) (hx : x ∈ xs) : x.wf = true :=
  List.all_eq_true.1 (wfList_eq_all xs ▸ h) x hx

theorem DE.subterms_of_mem {x : Json} : ∀ {xs : List Json}, x ∈ xs →
    ∀ z ∈ DE.subterms x, z ∈ DE.subtermsList xs
  | [], h => by cases h
  | y :: r, h => by
    intro z hz
    simp only [DE.subtermsList, List.mem_append]
    rcases List.mem_cons.1 h with rfl | h
    · exact .inl hz
    · exact .inr (DE.subterms_of_mem h z hz)

/-- (⇒), either strategy: `m = false` needs `DE.HOK`, `m = true` nothing -/
theorem equals_of_diff_nil (o : Opts) (ho : dispatchTag o = .list) (hp : precOf o = 0) (m : Bool) :
    (∀ a b, a.listDoc = true → b.listDoc = true → a.wf = true → b.wf = true →
      (m = false → DE.HOK o (DE.subterms a) (DE.subterms b)) →
      ∀ p, diffNode o m a b p = [] → equals o a b = true) ∧
    (∀ kvs' kvs, listDocKvs kvs' = true → listDocKvs kvs = true → wfKvs kvs' = true →
      wfKvs kvs = true → (m = false → DE.HOK o (DE.subtermsKvs kvs) (DE.subtermsKvs kvs')) →
      ∀ p, diffKvs o m p kvs' kvs = [] → AllLook (equals o) kvs kvs') := by
  apply DPL.listDoc_induct
  · intro t t' xs ys ht ht' htt _ hly ih hw hw' H p hd
    rw [equals_arr_list ho xs ys ht ht']
    cases m with
    | true =>
      -- MERGE: the diff is empty only if `Equals` said so
      rw [DE.diffNode_arr_arr ho xs ys ht ht' htt] at hd
      cases he : equalsList o xs ys with
      | true => rfl
      | false => simp [equals_arr_list ho xs ys (t := .list) (t' := .list) rfl rfl, he] at hd
    | false =>
      -- strict: no `edit` step; kept pairs by `HOK`, recursed pairs by induction
      have H := H rfl
      rw [Align.diffNode_alignment ho xs ys ht ht' htt] at hd
      simp only [Json.wf] at hw hw'
      have Hel : ∀ x ∈ xs, ∀ y ∈ ys, DE.HOK o (DE.subterms x) (DE.subterms y) := fun x hx y hy =>
        H.mono (fun z hz => by simp [DE.subterms, DE.subterms_of_mem hx z hz])
          (fun z hz => by simp [DE.subterms, DE.subterms_of_mem hy z hz])
      have := Align.forall₂_of_render_nil (P := fun x y => equals o x y = true) _ _ _ _ hd
        (fun x y hm => by
          have hx := (Align.mem_of_mem_alignment hm).1 x (by simp [RealL.Step.src])
          have hy := (Align.mem_of_mem_alignment hm).2 y (by simp [RealL.Step.tgt])
          exact Hel x hx y hy x (subterms_self x) y (subterms_self y) (Align.alignment_ok o xs ys _ hm))
        (fun x y hm q hq => by
          have hx := (Align.mem_of_mem_alignment hm).1 x (by simp [RealL.Step.src])
          have hy := (Align.mem_of_mem_alignment hm).2 y (by simp [RealL.Step.tgt])
          exact ih x hx y (DPL.listDoc_of_mem hly hy) (wf_of_mem hw hx) (wf_of_mem hw' hy)
            (fun _ => Hel x hx y hy) q hq)
      rw [Align.alignment_src, Align.alignment_tgt] at this
      exact equalsList_of_all₂ this
  · intro t xs b ht _ _ hb _ _ _ p hd
    exact absurd hd (DE.diffNode_arr_other_ne ho xs b ht hb m p)
  · intro kvs kvs' _ _ ih hw hw' H p hd
    simp only [Json.wf, Bool.and_eq_true] at hw hw'
    exact equals_obj_of_diff_nil hw.1 hw'.1 hd (ih hw'.2 hw.2 (fun e =>
      (H e).mono (fun x hx => by simp [DE.subterms, hx]) (fun y hy => by simp [DE.subterms, hy])) p)
  · intro kvs b _ _ hb _ _ _ p hd
    exact absurd hd (DE.diffNode_obj_other_ne o m kvs b hb p)
  · intro a b h1 h2 _ _ _ _ p hd
    exact (diffNode_scalar_nil_iff hp m a b h1 h2 p).1 hd
  · intro kvs' _ _ _ p _ k v hm
    cases hm
  · intro kvs' k v r hl' _ _ ihN ihK hw' hw H p hd
    simp only [wfKvs, Bool.and_eq_true] at hw
    obtain ⟨⟨v', hl, hdv⟩, hdr⟩ := diffKvs_cons_nil hd
    have hr := ihK hw' hw.2 (fun e =>
      (H e).mono (fun x hx => by simp [DE.subtermsKvs, hx]) (fun y hy => hy)) p hdr
    have hv := ihN v' (alookup_listDoc hl hl') hw.1 (alookup_wf hl hw') (fun e =>
      (H e).mono (fun x hx => by simp [DE.subtermsKvs, hx]) (fun y hy => subterms_lookup hl y hy)) _ hdv
    intro k0 v0 hm
    rcases List.mem_cons.1 hm with e | hm
    · cases e; exact ⟨v', hl, hv⟩
    · exact hr k0 v0 hm

/-- (⇒), strict strategy -/
theorem strict_equals_of_diff_nil (o : Opts) (ho : dispatchTag o = .list) (hp : precOf o = 0) :
    (∀ a b, a.listDoc = true → b.listDoc = true → a.wf = true → b.wf = true →
      DE.HOK o (DE.subterms a) (DE.subterms b) → ∀ p, diffNode o false a b p = [] → equals o a b = true) ∧
    (∀ kvs' kvs, listDocKvs kvs' = true → listDocKvs kvs = true → wfKvs kvs' = true →
      wfKvs kvs = true → DE.HOK o (DE.subtermsKvs kvs) (DE.subtermsKvs kvs') →
      ∀ p, diffKvs o false p kvs' kvs = [] → AllLook (equals o) kvs kvs') :=
  ⟨fun a b h1 h2 h3 h4 H => (equals_of_diff_nil o ho hp false).1 a b h1 h2 h3 h4 fun _ => H,
   fun kvs' kvs h1 h2 h3 h4 H => (equals_of_diff_nil o ho hp false).2 kvs' kvs h1 h2 h3 h4 fun _ => H⟩

/-- (⇒), MERGE strategy: lists are compared by `Equals` itself, objects member-wise; no hash
    hypothesis -/
theorem merge_equals_of_diff_nil (o : Opts) (ho : dispatchTag o = .list) (hp : precOf o = 0) :
    ∀ (a b : Json), a.listDoc = true → b.listDoc = true → a.wf = true → b.wf = true →
      ∀ p, diffNode o true a b p = [] → equals o a b = true :=
  fun a b h1 h2 h3 h4 => (equals_of_diff_nil o ho hp true).1 a b h1 h2 h3 h4 nofun

theorem merge_allLook_of_diffKvs_nil (o : Opts) (ho : dispatchTag o = .list) (hp : precOf o = 0) :
    ∀ (r kvs' : List (String × Json)), listDocKvs r = true → listDocKvs kvs' = true →
      wfKvs r = true → wfKvs kvs' = true →
      ∀ p, diffKvs o true p kvs' r = [] → AllLook (equals o) r kvs' :=
  fun r kvs' h1 h2 h3 h4 => (equals_of_diff_nil o ho hp true).2 kvs' r h2 h1 h4 h3 nofun

/-! ## 8. C05, list mode -/

/-- **C05 (⇐), list mode, strict or MERGE strategy, no Precision.** Equal documents have an empty
    diff. `a` is a document as read from JSON / YAML (`rawDoc`; see `diff_list_vs_array_nonempty`
    below for why `listDoc` is not enough on the left). -/
theorem diffM_nil_of_equals (F : FloatEq0) (o : Opts) (ho : dispatchTag o = .list)
    (hp : precOf o = 0) (a b : Json) (hr : a.rawDoc = true) (ha : Dom a) (hb : Dom b)
    (h : equals o a b = true) : diffM o a b = [] :=
  diffNode_nil_of_equals F o ho hp (isMerge o) a b hr ha hb h []

/-- **C05 (⇒), list mode, strict strategy, no Precision.** An empty diff means `Equals`, provided
    no two non-equal nodes of the two documents collide under the hash (`HashOK`). -/
theorem equals_of_diffM_nil_strict (o : Opts) (ho : dispatchTag o = .list) (hp : precOf o = 0)
    (hm : isMerge o = false) (a b : Json) (hl : a.listDoc = true) (hl' : b.listDoc = true)
    (hw : a.wf = true) (hw' : b.wf = true) (H : DE.HashOK o a b) (hd : diffM o a b = []) :
    equals o a b = true := by
  unfold diffM at hd
  rw [hm] at hd
  exact (strict_equals_of_diff_nil o ho hp).1 a b hl hl' hw hw' H [] hd

/-- **C05 (⇒), list mode, MERGE strategy, no Precision.** An empty diff means `Equals`
    (no hash hypothesis: merge diffs compare lists with `Equals`). -/
theorem equals_of_diffM_nil_merge (o : Opts) (ho : dispatchTag o = .list) (hp : precOf o = 0)
    (hm : isMerge o = true) (a b : Json) (hl : a.listDoc = true) (hl' : b.listDoc = true)
    (hw : a.wf = true) (hw' : b.wf = true) (hd : diffM o a b = []) : equals o a b = true := by
  unfold diffM at hd
  rw [hm] at hd
  exact merge_equals_of_diff_nil o ho hp a b hl hl' hw hw' [] hd

/-- (⇒) for either strategy -/
theorem equals_of_diffM_nil (o : Opts) (ho : dispatchTag o = .list) (hp : precOf o = 0)
    (a b : Json) (hl : a.listDoc = true) (hl' : b.listDoc = true)
    (hw : a.wf = true) (hw' : b.wf = true) (H : DE.HashOK o a b) (hd : diffM o a b = []) :
    equals o a b = true := by
  cases hm : isMerge o with
  | false => exact equals_of_diffM_nil_strict o ho hp hm a b hl hl' hw hw' H hd
  | true => exact equals_of_diffM_nil_merge o ho hp hm a b hl hl' hw hw' hd

/-- **C05, list mode, strict or MERGE strategy, no Precision:**
    `a.Diff(b)` is empty if and only if `a.Equals(b)` under the same options. -/
theorem diffM_nil_iff_equals (F : FloatEq0) (o : Opts) (ho : dispatchTag o = .list)
    (hp : precOf o = 0) (a b : Json) (hr : a.rawDoc = true) (ha : Dom a) (hb : Dom b)
    (H : DE.HashOK o a b) : diffM o a b = [] ↔ equals o a b = true :=
  ⟨equals_of_diffM_nil o ho hp a b ha.listDoc hb.listDoc ha.wf hb.wf H,
   diffM_nil_of_equals F o ho hp a b hr ha hb⟩

/-- MERGE strategy: the equivalence needs no hash hypothesis -/
theorem diffM_nil_iff_equals_merge (F : FloatEq0) (o : Opts) (ho : dispatchTag o = .list)
    (hp : precOf o = 0) (hm : isMerge o = true) (a b : Json) (hr : a.rawDoc = true) (ha : Dom a)
    (hb : Dom b) : diffM o a b = [] ↔ equals o a b = true :=
  ⟨equals_of_diffM_nil_merge o ho hp hm a b ha.listDoc hb.listDoc ha.wf hb.wf,
   diffM_nil_of_equals F o ho hp a b hr ha hb⟩

/-! ## 9. why the hypotheses are there: counter-witnesses -/

/-- A typed `jsonList` on the left against a plain `jsonArray` on the right: `Equals` dispatches its
    argument, `jsonList.diff` does not (`n.(jsonList)` fails → `diffDifferentTypes`). Hence
    `listDoc` alone is not enough for (⇐) on the left document. Not reachable through the public
    API of the Go library (a `jsonList` only exists as the result of `dispatch`). -/
theorem diff_list_vs_array_nonempty (m : Bool) :
    equals [] (.arr .list []) (.arr .raw []) = true ∧
      diffNode [] m (.arr .list []) (.arr .raw []) [] ≠ [] :=
  ⟨by simp [equals, effTag, Json.dispatch, dispatchTag, equalsList],
   DE.diffNode_arr_other_ne (o := []) rfl [] _ rfl (.inr ⟨rfl, [], rfl⟩) m []⟩

/-- Negative zero (regression for D5b: `0` and `-0` hash alike).
    Relative to the IEEE fact `|0 - (-0)| ≤ +0`, which the kernel cannot evaluate (`numWithin` is an
    opaque `Float` computation; see the `#eval` below), `[0]` and `[-0]` are `Equals`; their elements
    have the same hash code, so the diff IS empty: this pair is not a counter-witness. (The
    theorems above have the hypothesis `noNegZero`, which is stronger than necessary, because
    `FloatEq0` says nothing about the bit pattern of `-0`.) -/
theorem negZero_after_fix (hz : numWithin 0 0 negZeroBits = true) :
    equals [] (.arr .raw [.num 0]) (.arr .raw [.num negZeroBits]) = true ∧
      hashCode [] (.num 0) = hashCode [] (.num negZeroBits) ∧
      diffM [] (.arr .raw [.num 0]) (.arr .raw [.num negZeroBits]) = [] := by
  have hh : hashCode [] (.num 0) = hashCode [] (.num negZeroBits) := by decide
  refine ⟨by simp [equals, effTag, Json.dispatch, dispatchTag, equalsList, precOf, hz], hh, ?_⟩
  have hl : hashList [] [Json.num 0] = hashList [] [Json.num negZeroBits] := by
    simp only [hashList, hh]
  unfold diffM
  rw [show isMerge [] = false from rfl,
    DE.diffNode_arr_arr (o := []) rfl _ _ rfl rfl (.inl rfl) false []]
  simp only [Bool.false_eq_true, if_false]
  rw [← hl, lcsValues_self]
  exact diffRest_nil_of_hashList_eq [] [] _ _ hl 0 .void

/-- Precision (known finding KF-C05-precision), relative to two IEEE facts the kernel cannot evaluate: whenever
    two numbers are within `eps` of each other but not within `+0` (e.g. `eps = 0.5`, `x = 1`,
    `y = 1 + 2⁻⁵²`; see the `#eval` below), they are `Equals` under `Precision(eps)` but the diff is not
    empty, because `diff_common.go` calls `Equals` without the options. -/
theorem precision_counterwitness (eps x y : UInt64) (h1 : numWithin eps x y = true)
    (h0 : numWithin 0 x y = false) :
    equals [.prec eps] (.num x) (.num y) = true ∧ diffM [.prec eps] (.num x) (.num y) ≠ [] := by
  refine ⟨by simp [equals, precOf, h1], ?_⟩
  unfold diffM
  rw [DE.diffNode_scalar _ _ _ _ (fun _ _ e => by cases e) (fun _ e => by cases e)]
  intro hd
  rw [diffCommon_nil_iff] at hd
  simp [equals, precOf, h0] at hd

/-! The two counter-witnesses and the pair with a negative zero, evaluated by the runtime (which
    does evaluate `Float`):
    each line prints `(Equals, number of hunks of the diff)`. -/

-- Precision (known finding KF-C05-precision): 1 and 1 + 2⁻⁵² are equal within 0.5, the diff ignores Precision
#eval (equals [.prec 0x3FE0000000000000] (.num 0x3FF0000000000000) (.num 0x3FF0000000000001),
  (diffM [.prec 0x3FE0000000000000] (.num 0x3FF0000000000000) (.num 0x3FF0000000000001)).length)
-- negative zero (D5b: the diff is empty)
#eval (equals [] (.arr .raw [.num 0]) (.arr .raw [.num negZeroBits]),
  (diffM [] (.arr .raw [.num 0]) (.arr .raw [.num negZeroBits])).length)
-- typed list against plain array (model only)
#eval (equals [] (.arr .list []) (.arr .raw []), (diffM [] (.arr .list []) (.arr .raw [])).length)

/-! ## axioms -/

#print axioms hashCode_eq_of_equals
#print axioms lcsValues_self
#print axioms diffNode_nil_of_equals
#print axioms strict_equals_of_diff_nil
#print axioms merge_equals_of_diff_nil
#print axioms diffM_nil_of_equals
#print axioms equals_of_diffM_nil_strict
#print axioms equals_of_diffM_nil_merge
#print axioms equals_of_diffM_nil
#print axioms diffM_nil_iff_equals
#print axioms diffM_nil_iff_equals_merge
#print axioms diff_list_vs_array_nonempty
#print axioms negZero_after_fix
#print axioms precision_counterwitness

end Jd
