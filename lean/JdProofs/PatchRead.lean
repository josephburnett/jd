/-
  JdProofs.PatchRead — the reader of JSON Patch operations (`ReadPatchString`: the element loop
  `readPatchLoop` / `readPatchHunk` / `setPatchCtx`, its second run `readPatchCtxLoop` that remembers
  the context operations `ctxOf`, and `checkPatchCtx`), characterised once in both directions. The
  other modules of C10 reason on `Shape` and on `foldl pushStep` and do not unfold the reader.

  `Jd.PB`: the vocabulary — the coalescing step `pushElem` and the second half of one element
  `finishHunk` as definitions, with the two `…_cons` equations; the operations `tst` / `rmv` / `adp`,
  `remPairs`, `addRun`; `sep` (what keeps an element from being coalesced).
  `Jd.NMP`: `setPatchCtx_case` / `finishHunk_case` give `readPatchHunk_shape` (one element is read in
  one of nine shapes, `Shape`; `shape_split`: context operations, then an `add` or a `test` / `remove`
  pair) and `loops_steps` (what the two runs of the element loop return is the fold of the coalescing
  step `pushStep` over such shapes); hence `readPatchLoop_props` (`ReadHunk`: every hunk read has a
  key / index path and carries operation values). Conversely `shape_reads` (operations in a shape are
  read as the shape says) and `steps_loops` (on a parse into such steps both loops ARE the fold), and
  the fold as a computation on what jd writes (`fold_adds`, `fold_rems`). `readPatchOps_ok` splits
  `readPatchOps` into the two runs and the check, `checkPatchCtx_eq` the check into `checkOne` twice;
  `patchOpsOfJson_values`: the operations of a parsed patch document carry `valueOK` values.
  The reader functions are unfolded in `setPatchCtx_case`, `finishHunk_case`, `shape_reads` (with
  `finishHunk_rem` / `_add`, `reads_of_ctx`) and the `…_cons` equations only.
-/
import JdProofs.PointerRead
import JdProofs.NoPanic

namespace Jd.PB
open Jd Jd.Spec

/-! ## the vocabulary: the coalescing step and the second half of one element, as definitions -/

/-- the coalescing step of `readPatchLoop` -/
def pushElem (acc : Diff) (e : Hunk) : Diff :=
  match acc.getLast? with
  | none => [e]
  | some last =>
    if equals [] (pathToJson last.path) (pathToJson e.path) && !(hasContext e) &&
       !(!e.remove.isEmpty && !last.add.isEmpty) then
      acc.dropLast ++ [{ last with remove := last.remove ++ e.remove,
                                   add := if lastIdx? e.path == some (-1) then last.add ++ e.add else e.add ++ last.add }]
    else acc ++ [e]

theorem readPatchLoop_cons (fuel : Nat) (o : PatchOp) (patch : List PatchOp) (acc : Diff) :
    readPatchLoop (fuel + 1) (o :: patch) acc =
      match readPatchHunk (o :: patch) with
      | .err => .err
      | .panic => .panic
      | .ok (e, rest) => readPatchLoop fuel rest (pushElem acc e) := rfl

/-- the part of `readPatchDiffElement` after the context has been inferred -/
def finishHunk (c : CtxRes) : Outcome (Hunk × List PatchOp) :=
  match c.rest with
  | [] => .err
  | q :: rest =>
    let before := c.before.getD []
    let after := c.after.getD []
    if q.op == "test" then
      match readPointer q.path with
      | .ok path =>
        (match rest with
         | [] => .err
         | r1 :: rest2 =>
           if r1.op != "remove" then .err
           else if r1.path != q.path then .err
           else if !(equals [] q.value r1.value) then .err
           else .ok ({ path := path, before := before, after := after, remove := [q.value] }, rest2))
      | .err => .err
      | .panic => .panic
    else if q.op == "add" then
      match readPointer q.path with
      | .ok path =>
        if lastIdx? path == some (-1) && (before.any (fun n => !n.isVoid) || after.any (fun n => !n.isVoid)) then .err
        else .ok ({ path := path, before := before, after := after, add := [q.value] }, rest)
      | .err => .err
      | .panic => .panic
    else .err

theorem readPatchHunk_cons (p : PatchOp) (tl : List PatchOp) :
    readPatchHunk (p :: tl) =
      match (if p.op == "test" then setPatchCtx (p :: tl)
             else .ok { before := none, after := none, rest := p :: tl }) with
      | .err => .err
      | .panic => .panic
      | .ok c => finishHunk c := rfl

def tst (s : String) (v : Json) : PatchOp := { op := "test", path := s, value := v }
def rmv (s : String) (v : Json) : PatchOp := { op := "remove", path := s, value := v }
def adp (s : String) (v : Json) : PatchOp := { op := "add", path := s, value := v }

theorem lastIdxOfPointer_of {s : String} {p : Path} (h : readPointer s = .ok p) :
    lastIdxOfPointer s = .ok (lastIdx? p) := by
  simp [lastIdxOfPointer, h]

theorem isEmpty_of_lastIdx {p : Path} {i : Int} (h : lastIdx? p = some i) : p.isEmpty = false := by
  cases p with
  | nil => simp [lastIdx?] at h
  | cons _ _ => rfl

def remPairs (s : String) (ys : List Json) : List PatchOp := ys.flatMap (fun e => [tst s e, rmv s e])
def addRun (s : String) (bs : List Json) : List PatchOp := bs.map (adp s)

/-- what must hold between the accumulator and the next element for it not to be coalesced -/
def sep (acc : Diff) (p : Path) (ctx : Bool) : Bool :=
  match acc.getLast? with
  | none => true
  | some last => !(pathEq last.path p) || ctx

end Jd.PB

namespace Jd.NMP
open Jd Jd.Spec Jd.PB

/-! ## what the reader puts into the hunks -/


/-- a value an operation may carry: a real, well-formed list-mode document (what `json.Unmarshal`
    gives; a missing `value` member is `null`) -/
def valueOK (v : Json) : Bool := !v.isVoid && v.listDoc && v.wf

theorem valueOK_not_void {v : Json} (h : valueOK v = true) : v.isVoid = false := by
  simp only [valueOK, Bool.and_eq_true, Bool.not_eq_true'] at h
  exact h.1.1

/-- an append (`-`) must not carry a real context line -/
def appendCtxOK (path : Path) (before after : List Json) : Prop :=
  (lastIdx? path == some (-1) && (before.any (fun n => !n.isVoid) || after.any (fun n => !n.isVoid))) = false

theorem lastIdxOfPointer_ok {s : String} {o : Option Int} (h : lastIdxOfPointer s = .ok o) :
    ∃ p, readPointer s = .ok p ∧ lastIdx? p = o := by
  unfold lastIdxOfPointer at h
  split at h
  · rename_i p hp; injection h with h; exact ⟨p, hp, h⟩
  · cases h
  · cases h

/-- the outcomes of the context inference on a patch that starts with a `test` and has at least two
    operations -/
inductive CtxCase (p0 p1 : PatchOp) (tail : List PatchOp) : CtxRes → Prop
  | untouched :
      (lastIdxOfPointer p0.path = .ok none ∨ ¬ (p1.op = "remove" ∧ p1.path = p0.path)) →
      CtxCase p0 p1 tail { before := none, after := none, rest := p0 :: p1 :: tail }
  | boundary {f : Int} :
      lastIdxOfPointer p0.path = .ok (some f) →
      CtxCase p0 p1 tail { before := some [.void], after := some [.void], rest := p0 :: p1 :: tail }
  | afterAdd {f : Int} :
      lastIdxOfPointer p0.path = .ok (some f) → lastIdxOfPointer p1.path = .ok (some f) →
      p1.op = "add" →
      CtxCase p0 p1 tail { before := some [.void], after := some [p0.value], rest := p1 :: tail }
  | beforeAdd {f s : Int} :
      lastIdxOfPointer p0.path = .ok (some f) → lastIdxOfPointer p1.path = .ok (some s) →
      f = s - 1 → p1.op = "add" →
      CtxCase p0 p1 tail { before := some [p0.value], after := some [.void], rest := p1 :: tail }
  | both {f s t : Int} {p2 : PatchOp} {t2 : List PatchOp} {path2 : Path} :
      tail = p2 :: t2 →
      lastIdxOfPointer p0.path = .ok (some f) → lastIdxOfPointer p1.path = .ok (some s) →
      readPointer p2.path = .ok path2 → lastIdx? path2 = some t → t ≤ s →
      (p2.op = "test" ∨ p2.op = "add") →
      CtxCase p0 p1 tail { before := some [p0.value], after := some [p1.value], rest := tail }
  | afterRem {f s : Int} {p2 : PatchOp} {t2 : List PatchOp} :
      tail = p2 :: t2 →
      lastIdxOfPointer p0.path = .ok (some f) → lastIdxOfPointer p1.path = .ok (some s) →
      s < f → p1.op = "test" → (p2.op = "replace" ∨ p2.op = "remove") →
      CtxCase p0 p1 tail { before := some [.void], after := some [p0.value], rest := p1 :: tail }
  | beforeRem {f s : Int} {p2 : PatchOp} {t2 : List PatchOp} :
      tail = p2 :: t2 →
      lastIdxOfPointer p0.path = .ok (some f) → lastIdxOfPointer p1.path = .ok (some s) →
      f < s → p1.op = "test" → (p2.op = "replace" ∨ p2.op = "remove") →
      CtxCase p0 p1 tail { before := some [p0.value], after := some [.void], rest := p1 :: tail }

theorem setPatchCtx_case {p0 p1 : PatchOp} {tail : List PatchOp} {c : CtxRes}
    (ht : p0.op = "test") (h : setPatchCtx (p0 :: p1 :: tail) = .ok c) : CtxCase p0 p1 tail c := by
  unfold setPatchCtx at h
  simp only [ht, bne_self_eq_false, Bool.false_eq_true, if_false] at h
  cases h0 : lastIdxOfPointer p0.path with
  | err => rw [h0] at h; cases h
  | panic => rw [h0] at h; cases h
  | ok o0 =>
    rw [h0] at h
    cases o0 with
    | none => simp only at h; injection h with h; subst h; exact .untouched (Or.inl h0)
    | some f =>
      simp only at h
      cases h1 : lastIdxOfPointer p1.path with
      | err => rw [h1] at h; cases h
      | panic => rw [h1] at h; cases h
      | ok o1 =>
        rw [h1] at h
        cases o1 with
        | none =>
          simp only at h; injection h with h; subst h
          refine .untouched (Or.inr ?_)
          rintro ⟨_, hp⟩
          rw [hp, h0] at h1; cases h1
        | some s =>
          simp only at h
          have hU : ¬ (f = s ∧ (p1.op = "replace" ∨ p1.op = "remove")) →
              ¬ (p1.op = "remove" ∧ p1.path = p0.path) := by
            rintro hn ⟨hr, hp⟩
            rw [hp, h0] at h1
            injection h1 with h1; injection h1 with h1
            exact hn ⟨h1, Or.inr hr⟩
          by_cases hc1 : (f == s && (p1.op == "replace" || p1.op == "remove")) = true
          · rw [if_pos hc1] at h
            injection h with h; subst h
            exact .boundary h0
          rw [if_neg hc1] at h
          have hc1' : ¬ (f = s ∧ (p1.op = "replace" ∨ p1.op = "remove")) := by
            simpa using hc1
          by_cases hc2 : (f == s && p1.op == "add") = true
          · rw [if_pos hc2] at h
            simp only [Bool.and_eq_true, beq_iff_eq] at hc2
            injection h with h; subst h
            obtain ⟨rfl, ha⟩ := hc2
            exact .afterAdd h0 h1 ha
          rw [if_neg hc2] at h
          by_cases hc3 : (f == s - 1 && p1.op == "add") = true
          · rw [if_pos hc3] at h
            simp only [Bool.and_eq_true, beq_iff_eq] at hc3
            injection h with h; subst h
            exact .beforeAdd h0 h1 hc3.1 hc3.2
          rw [if_neg hc3] at h
          cases tail with
          | nil =>
            injection h with h; subst h
            exact .untouched (Or.inr (hU hc1'))
          | cons p2 t2 =>
            simp only at h
            cases hp2 : readPointer p2.path with
            | err => rw [hp2] at h; cases h
            | panic => rw [hp2] at h; cases h
            | ok path2 =>
              rw [hp2] at h
              simp only at h
              by_cases he : path2.isEmpty = true
              · rw [if_pos he] at h; cases h
              rw [if_neg he] at h
              cases ht3 : lastIdx? path2 with
              | none => rw [ht3] at h; cases h
              | some t =>
                rw [ht3] at h
                simp only at h
                by_cases hc4 : ((p2.op == "test" || p2.op == "add") && decide (t ≤ s)) = true
                · rw [if_pos hc4] at h
                  simp only [Bool.and_eq_true, Bool.or_eq_true, beq_iff_eq, decide_eq_true_eq] at hc4
                  injection h with h; subst h
                  exact .both rfl h0 h1 hp2 ht3 hc4.2 hc4.1
                rw [if_neg hc4] at h
                by_cases hc5 : (p1.op == "test" && (p2.op == "replace" || p2.op == "remove") &&
                    decide (f > s)) = true
                · rw [if_pos hc5] at h
                  simp only [Bool.and_eq_true, Bool.or_eq_true, beq_iff_eq, decide_eq_true_eq] at hc5
                  injection h with h; subst h
                  exact .afterRem rfl h0 h1 hc5.2 hc5.1.1 hc5.1.2
                rw [if_neg hc5] at h
                by_cases hc6 : (p1.op == "test" && (p2.op == "replace" || p2.op == "remove") &&
                    decide (f < s)) = true
                · rw [if_pos hc6] at h
                  simp only [Bool.and_eq_true, Bool.or_eq_true, beq_iff_eq, decide_eq_true_eq] at hc6
                  injection h with h; subst h
                  exact .beforeRem rfl h0 h1 hc6.2 hc6.1.1 hc6.1.2
                rw [if_neg hc6] at h
                injection h with h; subst h
                exact .untouched (Or.inr (hU hc1'))

/-- the two ways `readPatchDiffElement` finishes an element once the context is known -/
theorem finishHunk_case {c : CtxRes} {e : Hunk} {rest : List PatchOp}
    (h : finishHunk c = .ok (e, rest)) :
    (∃ q r path, c.rest = q :: r :: rest ∧ q.op = "test" ∧ r.op = "remove" ∧ r.path = q.path ∧
      equals [] q.value r.value = true ∧ readPointer q.path = .ok path ∧
      e = { path := path, before := c.before.getD [], after := c.after.getD [], remove := [q.value] }) ∨
    (∃ q path, c.rest = q :: rest ∧ q.op ≠ "test" ∧ q.op = "add" ∧ readPointer q.path = .ok path ∧
      appendCtxOK path (c.before.getD []) (c.after.getD []) ∧
      e = { path := path, before := c.before.getD [], after := c.after.getD [], add := [q.value] }) := by
  unfold finishHunk at h
  cases hc : c.rest with
  | nil => rw [hc] at h; cases h
  | cons q rest' =>
    rw [hc] at h
    simp only at h
    by_cases hq : (q.op == "test") = true
    · rw [if_pos hq] at h
      cases hp : readPointer q.path with
      | err => rw [hp] at h; cases h
      | panic => rw [hp] at h; cases h
      | ok path =>
        rw [hp] at h
        cases rest' with
        | nil => cases h
        | cons r1 rest2 =>
          simp only at h
          by_cases h1 : (r1.op != "remove") = true
          · rw [if_pos h1] at h; cases h
          rw [if_neg h1] at h
          by_cases h2 : (r1.path != q.path) = true
          · rw [if_pos h2] at h; cases h
          rw [if_neg h2] at h
          by_cases h3 : (!equals [] q.value r1.value) = true
          · rw [if_pos h3] at h; cases h
          rw [if_neg h3] at h
          injection h with h; injection h with he hr
          subst he; subst hr
          exact .inl ⟨q, r1, path, rfl, by simpa using hq, by simpa using h1, by simpa using h2,
            by simpa using h3, hp, rfl⟩
    · rw [if_neg hq] at h
      by_cases ha : (q.op == "add") = true
      · rw [if_pos ha] at h
        cases hp : readPointer q.path with
        | err => rw [hp] at h; cases h
        | panic => rw [hp] at h; cases h
        | ok path =>
          rw [hp] at h
          simp only at h
          split at h
          · cases h
          · rename_i hap
            injection h with h; injection h with he hr
            subst he; subst hr
            exact .inr ⟨q, path, rfl, by simpa using hq, by simpa using ha, hp,
              by simpa [appendCtxOK] using hap, rfl⟩
      · rw [if_neg ha] at h; cases h

/-- an element whose first edit operation is a `test`: the `remove` follows -/
theorem finishHunk_test {b a : Option (List Json)} {q : PatchOp} {tl rest : List PatchOp} {e : Hunk}
    (hq : q.op = "test") (h : finishHunk { before := b, after := a, rest := q :: tl } = .ok (e, rest)) :
    ∃ r path, tl = r :: rest ∧ r.op = "remove" ∧ r.path = q.path ∧
      equals [] q.value r.value = true ∧ readPointer q.path = .ok path ∧
      e = { path := path, before := b.getD [], after := a.getD [], remove := [q.value] } := by
  rcases finishHunk_case h with ⟨q', r, path, hr, _, h1, h2, h3, hp, he⟩ | ⟨q', path, hr, hn, _⟩
  · cases hr; exact ⟨r, path, rfl, h1, h2, h3, hp, he⟩
  · cases hr; exact absurd hq hn

/-- an element whose first edit operation is an `add` -/
theorem finishHunk_adp {b a : Option (List Json)} {q : PatchOp} {tl rest : List PatchOp} {e : Hunk}
    (hq : q.op = "add") (h : finishHunk { before := b, after := a, rest := q :: tl } = .ok (e, rest)) :
    ∃ path, rest = tl ∧ readPointer q.path = .ok path ∧ appendCtxOK path (b.getD []) (a.getD []) ∧
      e = { path := path, before := b.getD [], after := a.getD [], add := [q.value] } := by
  rcases finishHunk_case h with ⟨q', r, path, hr, ht, _⟩ | ⟨q', path, hr, _, _, hp, hap, he⟩
  · cases hr; rw [hq] at ht; exact absurd ht (by decide)
  · cases hr; exact ⟨path, rfl, hp, hap, he⟩

theorem lastIdx_of_read {s : String} {p : Path} {o : Option Int} (hp : readPointer s = .ok p)
    (h : lastIdxOfPointer s = .ok o) : lastIdx? p = o := by
  obtain ⟨p', hp', hl⟩ := lastIdxOfPointer_ok h
  cases hp.symm.trans hp'
  exact hl


/-- what every hunk the reader builds satisfies when the operations carry real values -/
structure ReadHunk (h : Hunk) : Prop where
  merge : h.merge = false
  strict : strictPath h.path = true
  vals : ∀ v ∈ h.remove ++ h.add, valueOK v = true
  ctx : ∀ v ∈ h.before ++ h.after, v.listDoc = true ∧ v.wf = true

/-! ### every way the reader forms one element: which operations are context, which are edits -/


/-- **every way the reader forms one diff element** from the head of the operation list: the
    operations consumed (`g`), the element built, and the operations remembered as its context
    (`patchContext` of the Go code, `ctxOf` of the model). `c`, `c0`, `c1` are the operations consumed
    as CONTEXT, `q` (and `r`) the edit. The element loop compares only the LAST index of each
    pointer and does not look at the `op` of `c1`: that is what `checkPatchCtx` makes up for. -/
inductive Shape : List PatchOp → Hunk → PatchCtx → Prop
  | add {q : PatchOp} {path : Path} :
      q.op = "add" → readPointer q.path = .ok path →
      Shape [q] { path := path, add := [q.value] } {}
  | remKey {q r : PatchOp} {path : Path} :
      q.op = "test" → r.op = "remove" → r.path = q.path → equals [] q.value r.value = true →
      readPointer q.path = .ok path → lastIdx? path = none →
      Shape [q, r] { path := path, remove := [q.value] } {}
  | remIdx {q r : PatchOp} {path : Path} {i : Int} :
      q.op = "test" → r.op = "remove" → r.path = q.path → equals [] q.value r.value = true →
      readPointer q.path = .ok path → lastIdx? path = some i →
      Shape [q, r] { path := path, before := [.void], after := [.void], remove := [q.value] } {}
  | afterAdd {c q : PatchOp} {pc path : Path} {i : Int} :
      c.op = "test" → q.op = "add" → readPointer c.path = .ok pc → readPointer q.path = .ok path →
      lastIdx? pc = some i → lastIdx? path = some i → appendCtxOK path [.void] [c.value] →
      Shape [c, q] { path := path, before := [.void], after := [c.value], add := [q.value] }
        { after := some c }
  | beforeAdd {c q : PatchOp} {pc path : Path} {i : Int} :
      c.op = "test" → q.op = "add" → readPointer c.path = .ok pc → readPointer q.path = .ok path →
      lastIdx? pc = some (i - 1) → lastIdx? path = some i → appendCtxOK path [c.value] [.void] →
      Shape [c, q] { path := path, before := [c.value], after := [.void], add := [q.value] }
        { before := some c }
  | bothAdd {c0 c1 q : PatchOp} {p0 p1 path : Path} {f s t : Int} :
      c0.op = "test" → q.op = "add" →
      readPointer c0.path = .ok p0 → readPointer c1.path = .ok p1 → readPointer q.path = .ok path →
      lastIdx? p0 = some f → lastIdx? p1 = some s → lastIdx? path = some t → t ≤ s →
      appendCtxOK path [c0.value] [c1.value] →
      Shape [c0, c1, q] { path := path, before := [c0.value], after := [c1.value], add := [q.value] }
        { before := some c0, after := some c1 }
  | bothRem {c0 c1 q r : PatchOp} {p0 p1 path : Path} {f s t : Int} :
      c0.op = "test" → q.op = "test" → r.op = "remove" → r.path = q.path →
      equals [] q.value r.value = true →
      readPointer c0.path = .ok p0 → readPointer c1.path = .ok p1 → readPointer q.path = .ok path →
      lastIdx? p0 = some f → lastIdx? p1 = some s → lastIdx? path = some t → t ≤ s →
      Shape [c0, c1, q, r] { path := path, before := [c0.value], after := [c1.value], remove := [q.value] }
        { before := some c0, after := some c1 }
  | afterRem {c q r : PatchOp} {pc path : Path} {f s : Int} :
      c.op = "test" → q.op = "test" → r.op = "remove" → r.path = q.path →
      equals [] q.value r.value = true →
      readPointer c.path = .ok pc → readPointer q.path = .ok path →
      lastIdx? pc = some f → lastIdx? path = some s → s < f →
      Shape [c, q, r] { path := path, before := [.void], after := [c.value], remove := [q.value] }
        { after := some c }
  | beforeRem {c q r : PatchOp} {pc path : Path} {f s : Int} :
      c.op = "test" → q.op = "test" → r.op = "remove" → r.path = q.path →
      equals [] q.value r.value = true →
      readPointer c.path = .ok pc → readPointer q.path = .ok path →
      lastIdx? pc = some f → lastIdx? path = some s → f < s →
      Shape [c, q, r] { path := path, before := [c.value], after := [.void], remove := [q.value] }
        { before := some c }

/-! which operations `readPatchDiffElement` remembers as the context of the element (`ctxOf`) -/

theorem used0 {α} (l : List α) : l.take (l.length - l.length) = [] := by simp

theorem used1 {α} (a : α) (l : List α) : (a :: l).take ((a :: l).length - l.length) = [a] := by
  have : (a :: l).length - l.length = 1 := by simp
  rw [this]; rfl

theorem used2 {α} (a b : α) (l : List α) :
    (a :: b :: l).take ((a :: b :: l).length - l.length) = [a, b] := by
  have : (a :: b :: l).length - l.length = 2 := by simp only [List.length_cons]; omega
  rw [this]; rfl

theorem ctxOf_of_test {p : PatchOp} {tl : List PatchOp} {c : CtxRes} (ht : p.op = "test")
    (hc : setPatchCtx (p :: tl) = .ok c) :
    ctxOf (p :: tl) =
      (match (p :: tl).take ((p :: tl).length - c.rest.length) with
       | [u0, u1] => { before := some u0, after := some u1 }
       | [u0] =>
         (match c.before with
          | some [b] => if !b.isVoid then { before := some u0 } else { after := some u0 }
          | _ => { after := some u0 })
       | _ => {}) := by
  simp only [ctxOf, ht, beq_self_eq_true, if_true, hc]
  rfl

theorem ctxOf_not_test {p : PatchOp} {tl : List PatchOp} (ht : ¬ p.op = "test") :
    ctxOf (p :: tl) = {} := by
  have : (p.op == "test") = false := by simpa using ht
  simp only [ctxOf, this, Bool.false_eq_true, if_false]

/-- **what the reader consumes, and as what**: whenever `readPatchDiffElement`
    succeeds, the operations it consumed, the element it built and the operations it remembers as
    context (`ctxOf`) are in one of the nine shapes. (The values are not the void marker — true of
    everything `json.Unmarshal` produces; the Go code tells a before-context from an after-context
    by `!isVoid(d.Before[0])`.) -/
theorem readPatchHunk_shape {patch : List PatchOp} {e : Hunk} {rest : List PatchOp}
    (h : readPatchHunk patch = .ok (e, rest)) (hnv : ∀ o ∈ patch, o.value.isVoid = false) :
    ∃ g, patch = g ++ rest ∧ Shape g e (ctxOf patch) := by
  cases patch with
  | nil => simp [readPatchHunk] at h
  | cons p tl =>
    rw [readPatchHunk_cons] at h
    by_cases ht : p.op = "test"
    · -- a patch that starts with a test
      simp only [ht, beq_self_eq_true, if_true] at h
      cases hc : setPatchCtx (p :: tl) with
      | err => rw [hc] at h; cases h
      | panic => rw [hc] at h; cases h
      | ok c =>
        rw [hc] at h
        simp only at h
        have hctx := ctxOf_of_test ht hc
        cases tl with
        | nil =>
          simp only [setPatchCtx] at hc
          injection hc with hc; subst hc
          obtain ⟨r, _, hr, _⟩ := finishHunk_test ht h
          cases hr
        | cons p1 tail =>
          have hp0v : p.value.isVoid = false := hnv p (by simp)
          cases setPatchCtx_case ht hc with
          | untouched hU =>
            simp only [used0] at hctx
            rw [hctx]
            obtain ⟨r, path, hr, hrr, hrp, heq, hp, rfl⟩ := finishHunk_test ht h
            cases hr
            rcases hU with hU | hU
            · exact ⟨[p, p1], rfl, .remKey ht hrr hrp heq hp (lastIdx_of_read hp hU)⟩
            · exact absurd ⟨hrr, hrp⟩ hU
          | boundary h0 =>
            simp only [used0] at hctx
            rw [hctx]
            obtain ⟨r, path, hr, hrr, hrp, heq, hp, rfl⟩ := finishHunk_test ht h
            cases hr
            exact ⟨[p, p1], rfl, .remIdx ht hrr hrp heq hp (lastIdx_of_read hp h0)⟩
          | afterAdd h0 h1 ha =>
            simp only [used1, Json.isVoid, Bool.not_true, Bool.false_eq_true, if_false] at hctx
            rw [hctx]
            obtain ⟨path, rfl, hp, hap, rfl⟩ := finishHunk_adp ha h
            obtain ⟨pc, hpc, hlc⟩ := lastIdxOfPointer_ok h0
            exact ⟨[p, p1], rfl, .afterAdd ht ha hpc hp hlc (lastIdx_of_read hp h1) hap⟩
          | beforeAdd h0 h1 hfs ha =>
            simp only [used1, hp0v, Bool.not_false, if_true] at hctx
            rw [hctx]
            obtain ⟨path, rfl, hp, hap, rfl⟩ := finishHunk_adp ha h
            obtain ⟨pc, hpc, hlc⟩ := lastIdxOfPointer_ok h0
            subst hfs
            exact ⟨[p, p1], rfl, .beforeAdd ht ha hpc hp hlc (lastIdx_of_read hp h1) hap⟩
          | both htl h0 h1 hp2 hl2 hts hop =>
            subst htl
            simp only [used2] at hctx
            rw [hctx]
            obtain ⟨pc0, hpc0, hlc0⟩ := lastIdxOfPointer_ok h0
            obtain ⟨pc1, hpc1, hlc1⟩ := lastIdxOfPointer_ok h1
            rcases hop with hq | hq
            · obtain ⟨r, path, rfl, hrr, hrp, heq, hp, rfl⟩ := finishHunk_test hq h
              cases hp.symm.trans hp2
              exact ⟨[p, p1, _, _], rfl, .bothRem ht hq hrr hrp heq hpc0 hpc1 hp hlc0 hlc1 hl2 hts⟩
            · obtain ⟨path, rfl, hp, hap, rfl⟩ := finishHunk_adp hq h
              cases hp.symm.trans hp2
              exact ⟨[p, p1, _], rfl, .bothAdd ht hq hpc0 hpc1 hp hlc0 hlc1 hl2 hts hap⟩
          | afterRem htl h0 h1 hsf h1t hop =>
            subst htl
            simp only [used1, Json.isVoid, Bool.not_true, Bool.false_eq_true, if_false] at hctx
            rw [hctx]
            obtain ⟨pc0, hpc0, hlc0⟩ := lastIdxOfPointer_ok h0
            obtain ⟨r, path, hr, hrr, hrp, heq, hp, rfl⟩ := finishHunk_test h1t h
            cases hr
            exact ⟨[p, p1, _], rfl,
              .afterRem ht h1t hrr hrp heq hpc0 hp hlc0 (lastIdx_of_read hp h1) hsf⟩
          | beforeRem htl h0 h1 hsf h1t hop =>
            subst htl
            simp only [used1, hp0v, Bool.not_false, if_true] at hctx
            rw [hctx]
            obtain ⟨pc0, hpc0, hlc0⟩ := lastIdxOfPointer_ok h0
            obtain ⟨r, path, hr, hrr, hrp, heq, hp, rfl⟩ := finishHunk_test h1t h
            cases hr
            exact ⟨[p, p1, _], rfl,
              .beforeRem ht h1t hrr hrp heq hpc0 hp hlc0 (lastIdx_of_read hp h1) hsf⟩
    · -- a patch that starts with something else: no context
      rw [ctxOf_not_test ht]
      have ht' : (p.op == "test") = false := by simpa using ht
      simp only [ht', Bool.false_eq_true, if_false] at h
      rcases finishHunk_case h with ⟨q, r, path, hr, hq, _⟩ | ⟨q, path, hr, hq, hqa, hp, hap, rfl⟩
      · cases hr; exact absurd hq ht
      · cases hr; exact ⟨[p], rfl, .add hqa hp⟩

def ctxList (c : PatchCtx) : List PatchOp := c.before.toList ++ c.after.toList

/-- a context line list of an element and the operation remembered for it -/
def Side (t : Option PatchOp) (l : List Json) : Prop :=
  match t with
  | none => l = [] ∨ l = [.void]
  | some t => l = [t.value]

/-- **the nine shapes, factored**: the remembered context operations, then one `add` `q` or one
    `test`/`remove` pair `q`, `r`; the context lines are those of the remembered operations -/
theorem shape_split {g : List PatchOp} {e : Hunk} {c : PatchCtx} (hs : Shape g e c) :
    ∃ q path b a, readPointer q.path = .ok path ∧ Side c.before b ∧ Side c.after a ∧
      ((q.op = "add" ∧ g = ctxList c ++ [q] ∧ appendCtxOK path b a ∧
          e = { path := path, before := b, after := a, add := [q.value] }) ∨
       (∃ r, q.op = "test" ∧ r.op = "remove" ∧ r.path = q.path ∧ g = ctxList c ++ [q, r] ∧
          e = { path := path, before := b, after := a, remove := [q.value] })) := by
  cases hs with
  | @add q path hq hp =>
    exact ⟨q, path, [], [], hp, .inl rfl, .inl rfl, .inl ⟨hq, rfl, by simp [appendCtxOK], rfl⟩⟩
  | @remKey q r path hq hr hrp _ hp _ =>
    exact ⟨q, path, [], [], hp, .inl rfl, .inl rfl, .inr ⟨r, hq, hr, hrp, rfl, rfl⟩⟩
  | @remIdx q r path i hq hr hrp _ hp _ =>
    exact ⟨q, path, [.void], [.void], hp, .inr rfl, .inr rfl, .inr ⟨r, hq, hr, hrp, rfl, rfl⟩⟩
  | @afterAdd c q pc path i _ hq _ hp _ _ hap =>
    exact ⟨q, path, [.void], [c.value], hp, .inr rfl, rfl, .inl ⟨hq, rfl, hap, rfl⟩⟩
  | @beforeAdd c q pc path i _ hq _ hp _ _ hap =>
    exact ⟨q, path, [c.value], [.void], hp, rfl, .inr rfl, .inl ⟨hq, rfl, hap, rfl⟩⟩
  | @bothAdd c0 c1 q p0 p1 path f s t _ hq _ _ hp _ _ _ _ hap =>
    exact ⟨q, path, [c0.value], [c1.value], hp, rfl, rfl, .inl ⟨hq, rfl, hap, rfl⟩⟩
  | @bothRem c0 c1 q r p0 p1 path f s t _ hq hr hrp _ _ _ hp _ _ _ _ =>
    exact ⟨q, path, [c0.value], [c1.value], hp, rfl, rfl, .inr ⟨r, hq, hr, hrp, rfl, rfl⟩⟩
  | @afterRem c q r pc path f s _ hq hr hrp _ _ hp _ _ _ =>
    exact ⟨q, path, [.void], [c.value], hp, .inr rfl, rfl, .inr ⟨r, hq, hr, hrp, rfl, rfl⟩⟩
  | @beforeRem c q r pc path f s _ hq hr hrp _ _ hp _ _ _ =>
    exact ⟨q, path, [c.value], [.void], hp, rfl, .inr rfl, .inr ⟨r, hq, hr, hrp, rfl, rfl⟩⟩

/-- a context line is the boundary marker or the value of the remembered operation -/
theorem Side.mem {t : Option PatchOp} {l : List Json} (h : Side t l) {v : Json} (hv : v ∈ l) :
    v = .void ∨ ∃ o ∈ t.toList, o.value = v := by
  cases t with
  | none => rcases h with rfl | rfl <;> simp at hv; exact .inl hv
  | some t => cases h; exact .inr ⟨t, by simp, (List.mem_singleton.1 hv).symm⟩

/-- the removed and added values are values of consumed operations, the context lines are such
    values or the boundary marker, the path is read from a pointer -/
theorem shape_vals {g : List PatchOp} {e : Hunk} {c : PatchCtx} (hs : Shape g e c) :
    e.merge = false ∧ (∃ s, readPointer s = .ok e.path) ∧
    (∀ v ∈ e.remove ++ e.add, ∃ o ∈ g, o.value = v) ∧
    (∀ v ∈ e.before ++ e.after, v = .void ∨ ∃ o ∈ g, o.value = v) := by
  obtain ⟨q, path, b, a, hp, hb, ha, ⟨_, rfl, _, rfl⟩ | ⟨r, _, _, _, rfl, rfl⟩⟩ := shape_split hs <;>
  · refine ⟨rfl, ⟨_, hp⟩, fun v hv => ⟨q, by simp, by simpa [eq_comm] using hv⟩, fun v hv => ?_⟩
    rcases List.mem_append.1 hv with hv | hv
    · exact (hb.mem hv).imp_right fun ⟨o, ho, h⟩ =>
        ⟨o, List.mem_append_left _ (List.mem_append_left _ ho), h⟩
    · exact (ha.mem hv).imp_right fun ⟨o, ho, h⟩ =>
        ⟨o, List.mem_append_left _ (List.mem_append_right _ ho), h⟩

theorem shape_readHunk {g : List PatchOp} {e : Hunk} {c : PatchCtx} (hs : Shape g e c)
    (hg : ∀ o ∈ g, valueOK o.value = true) : ReadHunk e := by
  obtain ⟨hm, ⟨s, hp⟩, hvals, hctx⟩ := shape_vals hs
  refine ⟨hm, readPointer_strict hp, fun v hm => ?_, fun v hm => ?_⟩
  · obtain ⟨o, ho, rfl⟩ := hvals v hm; exact hg o ho
  · rcases hctx v hm with rfl | ⟨o, ho, rfl⟩
    · exact ⟨rfl, rfl⟩
    · have := hg o ho
      simp only [valueOK, Bool.and_eq_true] at this
      exact ⟨this.1.2, this.2⟩

/-! ### the two runs of the element loop: a fold of the coalescing step over shapes -/


/-- the coalescing step of `readPatchCtxLoop` on the list of contexts -/
def pushCtx (acc : Diff) (e : Hunk) (cs : List PatchCtx) (c : PatchCtx) : List PatchCtx :=
  match acc.getLast? with
  | none => cs ++ [c]
  | some last =>
    if equals [] (pathToJson last.path) (pathToJson e.path) && !(hasContext e) &&
       !(!e.remove.isEmpty && !last.add.isEmpty) then cs
    else cs ++ [c]

theorem readPatchCtxLoop_cons (fuel : Nat) (o : PatchOp) (patch : List PatchOp) (acc : Diff)
    (cs : List PatchCtx) :
    readPatchCtxLoop (fuel + 1) (o :: patch) acc cs =
      match readPatchHunk (o :: patch) with
      | .err => .err
      | .panic => .panic
      | .ok (e, rest) =>
        readPatchCtxLoop fuel rest (pushElem acc e) (pushCtx acc e cs (ctxOf (o :: patch))) := by
  rw [readPatchCtxLoop]
  cases readPatchHunk (o :: patch) with
  | err => rfl
  | panic => rfl
  | ok x =>
    obtain ⟨e, rest⟩ := x
    simp only [pushElem, pushCtx]
    cases acc.getLast? with
    | none => rfl
    | some last =>
      simp only
      split <;> rfl
  · intro h; cases h

/-- operations consumed, element built, context operations remembered -/
structure Step where
  ops : List PatchOp
  elem : Hunk
  ctx : PatchCtx

/-- the coalescing step of both loops -/
def pushStep (a : Diff × List PatchCtx) (x : Step) : Diff × List PatchCtx :=
  (pushElem a.1 x.elem, pushCtx a.1 x.elem a.2 x.ctx)

/-- the coalescing step on an empty accumulator … -/
theorem pushStep_nil (cs : List PatchCtx) (x : Step) :
    pushStep ([], cs) x = ([x.elem], cs ++ [x.ctx]) := rfl

/-- … and on a non-empty one: the element is coalesced into the last one and gets no context entry of
    its own, or it is appended. `pushElem` and `pushCtx` are unfolded here and nowhere else. -/
theorem pushStep_snoc (pre : Diff) (last : Hunk) (cs : List PatchCtx) (x : Step) :
    pushStep (pre ++ [last], cs) x =
      if (equals [] (pathToJson last.path) (pathToJson x.elem.path) && !(hasContext x.elem) &&
          !(!x.elem.remove.isEmpty && !last.add.isEmpty)) = true then
        (pre ++ [{ last with remove := last.remove ++ x.elem.remove,
                             add := if lastIdx? x.elem.path == some (-1) then last.add ++ x.elem.add
                                    else x.elem.add ++ last.add }], cs)
      else (pre ++ [last] ++ [x.elem], cs ++ [x.ctx]) := by
  simp only [pushStep, pushElem, pushCtx, List.getLast?_append, List.getLast?_singleton,
    Option.some_or, List.dropLast_concat]
  split <;> rfl


/-- the added values of a coalesced element are those of its two parts, in either order -/
theorem mem_mergedAdd {c : Prop} [Decidable c] {a b : List Json} {v : Json}
    (h : v ∈ (if c then a ++ b else b ++ a)) : v ∈ a ∨ v ∈ b := by
  split at h <;> simp only [List.mem_append] at h
  · exact h
  · exact h.symm

/-- the elements built so far stay elements the reader builds -/
theorem pushStep_props {a : Diff × List PatchCtx} {x : Step} (ha : ∀ h ∈ a.1, ReadHunk h)
    (he : ReadHunk x.elem) : ∀ h ∈ (pushStep a x).1, ReadHunk h := by
  obtain ⟨acc, cs⟩ := a
  rcases eq_nil_or_snoc acc with rfl | ⟨pre, last, rfl⟩
  · intro h hm
    rw [pushStep_nil, List.mem_singleton] at hm
    exact hm ▸ he
  · have hlast := ha last (by simp)
    rw [pushStep_snoc]
    split
    · intro h hm
      simp only [List.mem_append, List.mem_singleton] at hm
      rcases hm with hm | rfl
      · exact ha h (by simp [hm])
      · refine ⟨hlast.merge, hlast.strict, ?_, hlast.ctx⟩
        intro v hv
        simp only [List.mem_append] at hv
        have h1 := hlast.vals
        have h2 := he.vals
        simp only [List.mem_append] at h1 h2
        rcases hv with (hv | hv) | hv
        · exact h1 v (Or.inl hv)
        · exact h2 v (Or.inl hv)
        · rcases mem_mergedAdd hv with hv | hv
          · exact h1 v (Or.inr hv)
          · exact h2 v (Or.inr hv)
    · intro h hm
      simp only [List.mem_append, List.mem_singleton] at hm
      rcases hm with hm | rfl
      · exact ha h (by simpa using hm)
      · exact he

/-- **the reader loops**: a successful run of the element loop consumed the operations shape by
    shape; its result, and the result of the second loop on the same input, are the fold of the
    coalescing step over these shapes. Every other fact about what the loops return is a fact about
    that fold (`foldl_pushStep`). -/
theorem loops_steps : ∀ (fuel : Nat) (patch : List PatchOp) (acc d : Diff) (cs : List PatchCtx),
    readPatchLoop fuel patch acc = .ok d → (∀ o ∈ patch, o.value.isVoid = false) →
    ∃ steps : List Step, patch = steps.flatMap (·.ops) ∧ (∀ x ∈ steps, Shape x.ops x.elem x.ctx) ∧
      d = (steps.foldl pushStep (acc, cs)).1 ∧
      readPatchCtxLoop fuel patch acc cs = .ok (steps.foldl pushStep (acc, cs)).2
  | 0, _, _, _, _, h, _ => by simp [readPatchLoop] at h
  | fuel + 1, [], acc, d, cs, h, _ => by
    simp only [readPatchLoop] at h
    refine ⟨[], rfl, List.forall_mem_nil _, (Outcome.ok.inj h).symm, ?_⟩
    simp only [readPatchCtxLoop, List.foldl_nil]
  | fuel + 1, o :: patch, acc, d, cs, h, hv => by
    rw [readPatchLoop_cons] at h
    rw [readPatchCtxLoop_cons]
    cases hr : readPatchHunk (o :: patch) with
    | err => rw [hr] at h; cases h
    | panic => rw [hr] at h; cases h
    | ok x =>
      obtain ⟨e, rest⟩ := x
      rw [hr] at h
      obtain ⟨g, hg, hsh⟩ := readPatchHunk_shape hr hv
      obtain ⟨steps, h1, h2, h3, h4⟩ := loops_steps fuel rest _ d
        (pushCtx acc e cs (ctxOf (o :: patch))) h
        (fun o' ho' => hv o' (by rw [hg]; exact List.mem_append_right _ ho'))
      exact ⟨⟨g, e, ctxOf (o :: patch)⟩ :: steps, by rw [hg, h1]; rfl,
        List.forall_mem_cons.2 ⟨hsh, h2⟩, h3, h4⟩

/-- an invariant of the coalescing step holds of the fold -/
theorem foldl_pushStep {I : Diff × List PatchCtx → List PatchOp → Prop} {P : Step → Prop}
    (step : ∀ a pre x, I a pre → P x → I (pushStep a x) (pre ++ x.ops)) :
    ∀ (steps : List Step) (a : Diff × List PatchCtx) (pre : List PatchOp), I a pre →
      (∀ x ∈ steps, P x) → I (steps.foldl pushStep a) (pre ++ steps.flatMap (·.ops))
  | [], a, pre, h, _ => by simpa using h
  | x :: steps, a, pre, h, hP => by
    have := foldl_pushStep step steps (pushStep a x) (pre ++ x.ops)
      (step a pre x h (hP x List.mem_cons_self)) (fun y hy => hP y (List.mem_cons_of_mem _ hy))
    simpa [List.append_assoc] using this

theorem readPatchLoop_props : ∀ (fuel : Nat) (patch : List PatchOp) (acc d : Diff),
    readPatchLoop fuel patch acc = .ok d → (∀ o ∈ patch, valueOK o.value = true) →
    (∀ h ∈ acc, ReadHunk h) → ∀ h ∈ d, ReadHunk h := by
  intro fuel patch acc d h hv ha
  obtain ⟨steps, rfl, hsh, rfl, _⟩ := loops_steps fuel patch acc d [] h
    (fun o ho => valueOK_not_void (hv o ho))
  exact foldl_pushStep (I := fun a _ => ∀ h ∈ a.1, ReadHunk h)
    (P := fun x => Shape x.ops x.elem x.ctx ∧ ∀ o ∈ x.ops, valueOK o.value = true)
    (fun _ _ _ hI hx => pushStep_props hI (shape_readHunk hx.1 hx.2)) steps (acc, []) [] ha
    (fun x hx => ⟨hsh x hx, fun o ho => hv o (List.mem_flatMap.2 ⟨x, hx, ho⟩)⟩)

/-! ### the converse: operations in a shape are read as the shape says -/

theorem finishHunk_rem {c : CtxRes} {q r : PatchOp} {tl : List PatchOp} {p : Path}
    (hc : c.rest = q :: r :: tl) (hq : q.op = "test") (hr : r.op = "remove") (hrp : r.path = q.path)
    (heq : equals [] q.value r.value = true) (hp : readPointer q.path = .ok p) :
    finishHunk c = .ok ({ path := p, before := c.before.getD [], after := c.after.getD [],
                          remove := [q.value] }, tl) := by
  simp [finishHunk, hc, hq, hr, hrp, heq, hp]

theorem finishHunk_add {c : CtxRes} {q : PatchOp} {tl : List PatchOp} {p : Path}
    (hc : c.rest = q :: tl) (hq : q.op = "add") (hp : readPointer q.path = .ok p)
    (hap : appendCtxOK p (c.before.getD []) (c.after.getD [])) :
    finishHunk c = .ok ({ path := p, before := c.before.getD [], after := c.after.getD [],
                          add := [q.value] }, tl) := by
  unfold appendCtxOK at hap
  simp [finishHunk, hc, hq, hp, hap]

/-- an element that starts with a `test`: element and remembered context from the inferred context -/
theorem reads_of_ctx {p : PatchOp} {tl : List PatchOp} {c : CtxRes} (ht : p.op = "test")
    (hc : setPatchCtx (p :: tl) = .ok c) :
    readPatchHunk (p :: tl) = finishHunk c ∧
    ctxOf (p :: tl) =
      (match (p :: tl).take ((p :: tl).length - c.rest.length) with
       | [u0, u1] => { before := some u0, after := some u1 }
       | [u0] =>
         (match c.before with
          | some [b] => if !b.isVoid then { before := some u0 } else { after := some u0 }
          | _ => { after := some u0 })
       | _ => {}) := by
  refine ⟨?_, ctxOf_of_test ht hc⟩
  rw [readPatchHunk_cons]
  simp only [ht, beq_self_eq_true, if_true, hc]


/-- **the converse of `readPatchHunk_shape`**: operations in one of the nine shapes are read as that
    shape says, whatever follows them, and remembered as context as it says. The side condition `hT`
    is what makes the two `both…` shapes exact: the reader does not look at the `op` of the second
    context operation (D28), and were it an `add` / `remove` at a matching index, one of the earlier
    branches of `setPatchDiffElementContext` would have taken the patch. -/
theorem shape_reads {g : List PatchOp} {e : Hunk} {c : PatchCtx} (hs : Shape g e c)
    (hnv : ∀ t, c.before = some t → t.value.isVoid = false)
    (hT : ∀ t, c.after = some t → t.op = "test") (rest : List PatchOp) :
    readPatchHunk (g ++ rest) = .ok (e, rest) ∧ ctxOf (g ++ rest) = c := by
  cases hs with
  | @add q path hq hp =>
    have ht : ¬ q.op = "test" := by rw [hq]; decide
    refine ⟨?_, ctxOf_not_test ht⟩
    rw [List.singleton_append, readPatchHunk_cons, if_neg (by simpa using ht)]
    exact finishHunk_add (c := { before := none, after := none, rest := q :: rest }) rfl hq hp
      (by simp [appendCtxOK])
  | @remKey q r path hq hr hrp heq hp hl =>
    have hc : setPatchCtx (q :: r :: rest) = .ok { before := none, after := none, rest := q :: r :: rest } := by
      simp [setPatchCtx, hq, lastIdxOfPointer_of hp, hl]
    obtain ⟨h1, h2⟩ := reads_of_ctx hq hc
    exact ⟨h1.trans (finishHunk_rem rfl hq hr hrp heq hp), h2.trans (by simp only [used0])⟩
  | @remIdx q r path i hq hr hrp heq hp hl =>
    have hc : setPatchCtx (q :: r :: rest) =
        .ok { before := some [.void], after := some [.void], rest := q :: r :: rest } := by
      simp [setPatchCtx, hq, hr, hrp, lastIdxOfPointer_of hp, hl]
    obtain ⟨h1, h2⟩ := reads_of_ctx hq hc
    exact ⟨h1.trans (finishHunk_rem rfl hq hr hrp heq hp), h2.trans (by simp only [used0])⟩
  | @afterAdd c q pc path i hc' hq hpc hp hlc hl hap =>
    have hc : setPatchCtx (c :: q :: rest) =
        .ok { before := some [.void], after := some [c.value], rest := q :: rest } := by
      simp [setPatchCtx, hc', hq, lastIdxOfPointer_of hp, lastIdxOfPointer_of hpc, hlc, hl]
    obtain ⟨h1, h2⟩ := reads_of_ctx hc' hc
    exact ⟨h1.trans (finishHunk_add rfl hq hp hap), h2.trans (by simp [Json.isVoid])⟩
  | @beforeAdd c q pc path i hc' hq hpc hp hlc hl hap =>
    have hv := hnv c rfl
    have hc : setPatchCtx (c :: q :: rest) =
        .ok { before := some [c.value], after := some [.void], rest := q :: rest } := by
      have : (i - 1 == i) = false := by simp; omega
      simp [setPatchCtx, hc', hq, lastIdxOfPointer_of hp, lastIdxOfPointer_of hpc, hlc, hl, this]
    obtain ⟨h1, h2⟩ := reads_of_ctx hc' hc
    exact ⟨h1.trans (finishHunk_add rfl hq hp hap), h2.trans (by simp [hv])⟩
  | @bothAdd c0 c1 q p0 p1 path f s t hc0 hq hp0 hp1 hp hl0 hl1 hl hts hap =>
    have h1t := hT c1 rfl
    have hc : setPatchCtx (c0 :: c1 :: q :: rest) =
        .ok { before := some [c0.value], after := some [c1.value], rest := q :: rest } := by
      simp [setPatchCtx, hc0, h1t, hq, lastIdxOfPointer_of hp0, lastIdxOfPointer_of hp1, hl0, hl1, hp,
        isEmpty_of_lastIdx hl, hl, hts]
    obtain ⟨h1, h2⟩ := reads_of_ctx hc0 hc
    exact ⟨h1.trans (finishHunk_add rfl hq hp hap), h2.trans (by simp only [used2])⟩
  | @bothRem c0 c1 q r p0 p1 path f s t hc0 hq hr hrp heq hp0 hp1 hp hl0 hl1 hl hts =>
    have h1t := hT c1 rfl
    have hc : setPatchCtx (c0 :: c1 :: q :: r :: rest) =
        .ok { before := some [c0.value], after := some [c1.value], rest := q :: r :: rest } := by
      simp [setPatchCtx, hc0, h1t, hq, lastIdxOfPointer_of hp0, lastIdxOfPointer_of hp1, hl0, hl1, hp,
        isEmpty_of_lastIdx hl, hl, hts]
    obtain ⟨h1, h2⟩ := reads_of_ctx hc0 hc
    exact ⟨h1.trans (finishHunk_rem rfl hq hr hrp heq hp), h2.trans (by simp only [used2])⟩
  | @afterRem c q r pc path f s hc' hq hr hrp heq hpc hp hlc hl hsf =>
    have hc : setPatchCtx (c :: q :: r :: rest) =
        .ok { before := some [.void], after := some [c.value], rest := q :: r :: rest } := by
      simp [setPatchCtx, hc', hq, hr, hrp, lastIdxOfPointer_of hp, lastIdxOfPointer_of hpc, hlc, hl, hp,
        isEmpty_of_lastIdx hl, hsf]
    obtain ⟨h1, h2⟩ := reads_of_ctx hc' hc
    exact ⟨h1.trans (finishHunk_rem rfl hq hr hrp heq hp), h2.trans (by simp [Json.isVoid])⟩
  | @beforeRem c q r pc path f s hc' hq hr hrp heq hpc hp hlc hl hsf =>
    have hv := hnv c rfl
    have hc : setPatchCtx (c :: q :: r :: rest) =
        .ok { before := some [c.value], after := some [.void], rest := q :: r :: rest } := by
      simp [setPatchCtx, hc', hq, hr, hrp, lastIdxOfPointer_of hp, lastIdxOfPointer_of hpc, hlc, hl, hp,
        isEmpty_of_lastIdx hl, hsf]
      omega
    obtain ⟨h1, h2⟩ := reads_of_ctx hc' hc
    exact ⟨h1.trans (finishHunk_rem rfl hq hr hrp heq hp), h2.trans (by simp [hv])⟩


/-! ### the converse for the loops: a parse into steps the reader reads ⇒ both loops return the fold -/

/-- the reader reads the operations of the step as its element and context, whatever follows -/
def Reads (x : Step) : Prop :=
  x.ops ≠ [] ∧ ∀ rest, readPatchHunk (x.ops ++ rest) = .ok (x.elem, rest) ∧ ctxOf (x.ops ++ rest) = x.ctx

theorem Shape.ne_nil {g : List PatchOp} {e : Hunk} {c : PatchCtx} (hs : Shape g e c) : g ≠ [] := by
  obtain ⟨q, _, _, _, _, _, _, ⟨_, rfl, _⟩ | ⟨r, _, _, _, rfl, _⟩⟩ := shape_split hs <;> simp

theorem Shape.reads {g : List PatchOp} {e : Hunk} {c : PatchCtx} (hs : Shape g e c)
    (hnv : ∀ t, c.before = some t → t.value.isVoid = false)
    (hT : ∀ t, c.after = some t → t.op = "test") : Reads ⟨g, e, c⟩ :=
  ⟨hs.ne_nil, shape_reads hs hnv hT⟩

/-- **the converse of `loops_steps`**: operations that are steps the reader reads, one after the
    other and followed by `tl`, are consumed by both loops, which go on from the fold of the coalescing
    step. The fuel appears here and nowhere else in the forward direction. -/
theorem steps_loops : ∀ (steps : List Step), (∀ x ∈ steps, Reads x) →
    ∀ (n : Nat) (tl : List PatchOp) (acc : Diff) (cs : List PatchCtx),
    readPatchLoop (n + steps.length) (steps.flatMap (·.ops) ++ tl) acc =
      readPatchLoop n tl (steps.foldl pushStep (acc, cs)).1 ∧
    readPatchCtxLoop (n + steps.length) (steps.flatMap (·.ops) ++ tl) acc cs =
      readPatchCtxLoop n tl (steps.foldl pushStep (acc, cs)).1 (steps.foldl pushStep (acc, cs)).2
  | [], _, n, tl, acc, cs => ⟨rfl, rfl⟩
  | ⟨g, e, c⟩ :: steps, h, n, tl, acc, cs => by
    obtain ⟨hne, hr⟩ := h ⟨g, e, c⟩ List.mem_cons_self
    obtain ⟨o, g', rfl⟩ := List.exists_cons_of_ne_nil hne
    obtain ⟨h1, h2⟩ := hr (steps.flatMap (·.ops) ++ tl)
    obtain ⟨i1, i2⟩ := steps_loops steps (fun x hx => h x (List.mem_cons_of_mem _ hx)) n tl
      (pushElem acc e) (pushCtx acc e cs c)
    simp only [List.flatMap_cons, List.append_assoc, List.length_cons, ← Nat.add_assoc,
      List.foldl_cons, pushStep] at h1 h2 ⊢
    simp only [List.cons_append] at h1 h2 ⊢
    rw [readPatchLoop_cons, readPatchCtxLoop_cons, h1, h2]
    exact ⟨i1, i2⟩

/-- the whole input: both loops return the fold -/
theorem steps_read {steps : List Step} (h : ∀ x ∈ steps, Reads x) {fuel : Nat}
    (hf : steps.length < fuel) (acc : Diff) (cs : List PatchCtx) :
    readPatchLoop fuel (steps.flatMap (·.ops)) acc = .ok (steps.foldl pushStep (acc, cs)).1 ∧
    readPatchCtxLoop fuel (steps.flatMap (·.ops)) acc cs = .ok (steps.foldl pushStep (acc, cs)).2 := by
  obtain ⟨h1, h2⟩ := steps_loops steps h (fuel - steps.length) [] acc cs
  rw [show fuel - steps.length + steps.length = fuel by omega, List.append_nil] at h1 h2
  obtain ⟨m, hm⟩ : ∃ m, fuel - steps.length = m + 1 := ⟨fuel - steps.length - 1, by omega⟩
  rw [h1, h2, hm]
  exact ⟨rfl, rfl⟩


/-! ### the fold on what jd writes: coalescing as a computation on steps (no reader, no fuel) -/

/-- the step read from one more `test`/`remove` pair at an index path, resp. one more `add` -/
def remStep (s : String) (p : Path) (y : Json) : Step :=
  ⟨[tst s y, rmv s y], { path := p, before := [.void], after := [.void], remove := [y] }, {}⟩
def addStep (s : String) (p : Path) (b : Json) : Step := ⟨[adp s b], { path := p, add := [b] }, {}⟩

theorem remStep_reads {s : String} {p : Path} {i : Int} {y : Json} (hp : readPointer s = .ok p)
    (hl : lastIdx? p = some i) (hy : equals [] y y = true) : Reads (remStep s p y) :=
  Shape.reads (.remIdx (q := tst s y) (r := rmv s y) rfl rfl rfl hy hp hl) (fun _ h => nomatch h)
    (fun _ h => nomatch h)

theorem addStep_reads {s : String} {p : Path} {b : Json} (hp : readPointer s = .ok p) :
    Reads (addStep s p b) :=
  Shape.reads (.add (q := adp s b) rfl hp) (fun _ h => nomatch h) (fun _ h => nomatch h)

/-- the element is told apart from the last one: both lists grow -/
theorem pushStep_sep {acc : Diff} {cs : List PatchCtx} {g : List PatchOp} {e : Hunk} {c : PatchCtx}
    (h : sep acc e.path (hasContext e) = true) : pushStep (acc, cs) ⟨g, e, c⟩ = (acc ++ [e], cs ++ [c]) := by
  rcases eq_nil_or_snoc acc with rfl | ⟨pre, last, rfl⟩
  · rfl
  · simp only [sep, List.getLast?_append, List.getLast?_singleton, Option.some_or, pathEq,
      Bool.or_eq_true, Bool.not_eq_true'] at h
    rw [pushStep_snoc, if_neg]
    rcases h with h | h <;> simp [h]

/-- the element is coalesced into the last one: no new context entry -/
theorem pushStep_merge {pre : Diff} {cur e : Hunk} {cs : List PatchCtx} {g : List PatchOp} {c : PatchCtx}
    (hpath : e.path = cur.path) (heq : pathEq cur.path cur.path = true)
    (hc : hasContext e = false) (hra : e.remove = [] ∨ cur.add = []) :
    pushStep (pre ++ [cur], cs) ⟨g, e, c⟩ =
      (pre ++ [{ cur with remove := cur.remove ++ e.remove,
                          add := if lastIdx? cur.path == some (-1) then cur.add ++ e.add else e.add ++ cur.add }],
       cs) := by
  have hra' : (!e.remove.isEmpty && !cur.add.isEmpty) = false := by
    rcases hra with h | h <;> simp [h]
  unfold pathEq at heq
  rw [pushStep_snoc, if_pos (by simp only [hpath, heq, hc, hra']; rfl), hpath]

theorem fold_adds {s : String} {p : Path} (heq : pathEq p p = true) : ∀ (bs : List Json) (pre : Diff)
    (m : Bool) (bf af R A : List Json) (cs : List PatchCtx),
    (bs.map (addStep s p)).foldl pushStep
        (pre ++ [{ merge := m, path := p, before := bf, after := af, remove := R, add := A }], cs) =
      (pre ++ [{ merge := m, path := p, before := bf, after := af, remove := R,
                 add := if lastIdx? p == some (-1) then A ++ bs else bs.reverse ++ A }], cs)
  | [], pre, m, bf, af, R, A, cs => by simp
  | b :: bs, pre, m, bf, af, R, A, cs => by
    rw [List.map_cons, List.foldl_cons, addStep,
      pushStep_merge (cur := { merge := m, path := p, before := bf, after := af, remove := R, add := A })
        (e := { path := p, add := [b] }) rfl heq rfl (.inl rfl)]
    refine (fold_adds heq bs pre m bf af _ _ cs).trans ?_
    split <;> simp

theorem fold_rems {s : String} {p : Path} (heq : pathEq p p = true) (hl : lastIdx? p ≠ some (-1)) :
    ∀ (ys : List Json) (pre : Diff) (m : Bool) (bf af R : List Json) (cs : List PatchCtx),
    (ys.map (remStep s p)).foldl pushStep
        (pre ++ [{ merge := m, path := p, before := bf, after := af, remove := R }], cs) =
      (pre ++ [{ merge := m, path := p, before := bf, after := af, remove := R ++ ys }], cs)
  | [], pre, m, bf, af, R, cs => by simp
  | y :: ys, pre, m, bf, af, R, cs => by
    have hl' : (lastIdx? p == some (-1)) = false := by simpa using hl
    rw [List.map_cons, List.foldl_cons, remStep,
      pushStep_merge (cur := { merge := m, path := p, before := bf, after := af, remove := R })
        (e := { path := p, before := [.void], after := [.void], remove := [y] }) rfl heq rfl
        (.inr rfl)]
    simp only [hl', Bool.false_eq_true, if_false, List.append_nil]
    refine (fold_rems heq hl ys pre m bf af _ cs).trans ?_
    simp


theorem flatMap_remSteps (s : String) (p : Path) (ys : List Json) :
    (ys.map (remStep s p)).flatMap (·.ops) = remPairs s ys := by
  simp [remPairs, remStep, List.flatMap_map]

theorem flatMap_addSteps (s : String) (p : Path) (bs : List Json) :
    (bs.map (addStep s p)).flatMap (·.ops) = addRun s bs := by
  induction bs with
  | nil => rfl
  | cons b bs ih => simpa [addRun, addStep] using ih


/-! ### the values of a parsed patch document -/


theorem go_values : ∀ (xs : List Json) (ops : List PatchOp), patchOpsOfJson.go xs = .ok ops →
    wfList xs = true → listDocList xs = true → Yaml.voidFreeList xs = true →
    ∀ o ∈ ops, valueOK o.value = true
  | [], ops, h, _, _, _ => by
    simp only [patchOpsOfJson.go] at h
    injection h with h; subst h; simp
  | x :: r, ops, h, hw, hl, hv => by
    cases x with
    | obj kvs =>
      simp only [wfList, listDocList, Yaml.voidFreeList, Json.wf, Json.listDoc, Yaml.voidFree,
        Bool.and_eq_true] at hw hl hv
      simp only [patchOpsOfJson.go] at h
      obtain ⟨op, _, h⟩ := Outcome.bind_eq_ok.1 h
      obtain ⟨path, _, h⟩ := Outcome.bind_eq_ok.1 h
      obtain ⟨value, h4, h⟩ := Outcome.bind_eq_ok.1 h
      obtain ⟨rest, h3, h⟩ := Outcome.bind_eq_ok.1 h
      cases h
      intro o ho
      rcases List.mem_cons.1 ho with rfl | ho
      · unfold patchOpsOfJson.valueField at h4
        cases hk : alookup "value" kvs with
        | none =>
          rw [hk] at h4
          simp only at h4
          split at h4
          · cases h4
          · cases h4; rfl
        | some v =>
          rw [hk] at h4
          cases h4
          simp only [valueOK, Bool.and_eq_true, Bool.not_eq_true']
          exact ⟨⟨Yaml.voidFree_notVoid (all_alookup (p := fun kv => Yaml.voidFree kv.2)
            (Yaml.voidFreeKvs_eq_all kvs ▸ hv.1) hk), alookup_listDoc hk hl.1⟩,
            alookup_wf hk hw.1.2⟩
      · exact go_values r rest h3 hw.2 hl.2 hv.2 o ho
    | _ => simp [patchOpsOfJson.go] at h

/-- the operations of a parsed patch document carry real values: `json.Unmarshal` never produces the
    void marker, objects have unique keys, arrays are plain arrays -/
theorem patchOpsOfJson_values {doc : Json} {ops : List PatchOp} (h : patchOpsOfJson doc = .ok ops)
    (hw : doc.wf = true) (hl : doc.listDoc = true) (hv : Yaml.voidFree doc = true) :
    ∀ o ∈ ops, valueOK o.value = true := by
  cases doc with
  | arr t xs =>
    simp only [patchOpsOfJson] at h
    simp only [Json.wf] at hw
    simp only [Json.listDoc, Bool.and_eq_true] at hl
    simp only [Yaml.voidFree] at hv
    exact go_values xs ops h hw hl.2 hv
  | _ => cases h


/-! ## the entry points: both runs of the loop, then the check -/

/-- **the reader** (`ReadPatchString` = element loop, then `checkPatchContext` (D28) on every
    element): whatever `readPatchOps` accepts, the element loop alone reads to the same diff, the
    second run of the loop yields the context operations of the elements, and all of them pass the
    check -/
theorem readPatchOps_ok {ops : List PatchOp} {d : Diff} (h : readPatchOps ops = .ok d) :
    readPatchLoop (ops.length + 1) ops [] = .ok d ∧
    ∃ cs, readPatchCtxLoop (ops.length + 1) ops [] [] = .ok cs ∧ checkPatchCtxs d cs = .ok () := by
  unfold readPatchOps at h
  cases h1 : readPatchLoop (ops.length + 1) ops [] with
  | err => rw [h1] at h; cases h
  | panic => rw [h1] at h; cases h
  | ok d' =>
    rw [h1] at h
    simp only at h
    cases h2 : readPatchCtxLoop (ops.length + 1) ops [] [] with
    | err => rw [h2] at h; cases h
    | panic => rw [h2] at h; cases h
    | ok cs =>
      rw [h2] at h
      simp only at h
      cases h3 : checkPatchCtxs d' cs with
      | err => rw [h3] at h; cases h
      | panic => rw [h3] at h; cases h
      | ok u =>
        rw [h3] at h
        injection h with h
        subst h
        exact ⟨rfl, cs, rfl, h3⟩

/-- `ReadPatchString` reads what the element loop alone reads, or rejects -/
theorem readPatchOps_loop {ops : List PatchOp} {d : Diff} (h : readPatchOps ops = .ok d) :
    readPatchLoop (ops.length + 1) ops [] = .ok d := (readPatchOps_ok h).1

theorem readPatchDoc_ok {doc : Json} {d : Diff} (h : readPatchDoc doc = .ok d) :
    ∃ ops, patchOpsOfJson doc = .ok ops ∧ readPatchOps ops = .ok d := by
  unfold readPatchDoc at h
  cases h1 : patchOpsOfJson doc with
  | err => rw [h1] at h; cases h
  | panic => rw [h1] at h; cases h
  | ok ops => rw [h1] at h; exact ⟨ops, rfl, h⟩

/-- the same from the parsed JSON document of the patch text -/
theorem readPatchDoc_of_ops {doc : Json} {ops : List PatchOp} (h : patchOpsOfJson doc = .ok ops) :
    readPatchDoc doc = readPatchOps ops := by
  simp only [readPatchDoc, h]

/-- `check(test, offset)` of `checkPatchContext` on an optional context operation -/
def checkOne (h : Hunk) (t : Option PatchOp) (offset : Int) : Outcome Unit :=
  match t with
  | none => .ok ()
  | some t =>
    match ctxTestOK h t offset with
    | .ok true => .ok ()
    | .ok false => .err
    | .err => .err
    | .panic => .panic

theorem checkPatchCtx_eq (h : Hunk) (c : PatchCtx) :
    checkPatchCtx h c =
      (match checkOne h c.before (-1) with
       | .ok () => checkOne h c.after h.remove.length
       | e => e) := rfl

theorem checkPatchCtx_ok {h : Hunk} {c : PatchCtx} (hk : checkPatchCtx h c = .ok ()) :
    checkOne h c.before (-1) = .ok () ∧ checkOne h c.after h.remove.length = .ok () := by
  rw [checkPatchCtx_eq] at hk
  cases h1 : checkOne h c.before (-1) with
  | ok u => rw [h1] at hk; exact ⟨rfl, hk⟩
  | err => rw [h1] at hk; cases hk
  | panic => rw [h1] at hk; cases hk

theorem checkPatchCtxs_cons {h : Hunk} {d : Diff} {c : PatchCtx} {cs : List PatchCtx}
    (hk : checkPatchCtxs (h :: d) (c :: cs) = .ok ()) :
    checkPatchCtx h c = .ok () ∧ checkPatchCtxs d cs = .ok () := by
  simp only [checkPatchCtxs] at hk
  cases h1 : checkPatchCtx h c with
  | ok u => rw [h1] at hk; exact ⟨rfl, hk⟩
  | err => rw [h1] at hk; cases hk
  | panic => rw [h1] at hk; cases hk

#print axioms readPatchHunk_shape
#print axioms shape_reads
#print axioms steps_loops
#print axioms readPatchLoop_props
#print axioms patchOpsOfJson_values

end Jd.NMP
