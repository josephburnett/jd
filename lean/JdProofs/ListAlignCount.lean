/-
  JdProofs.ListAlignCount — property C06 (v2 library, LIST reading, STRICT strategy): what can be
  counted and located on the alignment `Align.walk` (JdProofs/ListScript.lean) that
  `jsonList.diffRest` follows. Namespace `Jd.Align`.

  B. EXACT COUNTS (only `listDocList`): `keeps`, `subs`, `removedOf`, `addedOf` of a script,
     `walk_keeps` (the kept pairs are exactly the common sequence handed to the walk),
     `src_length_eq` / `tgt_length_eq` are in JdProofs/ListScript.lean, `top_diffRest` (what the array-level hunks remove / add IS what the
     `edit` steps of the walk remove / add, as lists) in JdProofs/ListRecursion.lean; here
     `diffM_counts_exact`.
  C. STATIC CRITERION for recursion: `locate` (gap number and offset of a position with respect to
     the leftmost embedding of the common sequence), `walk_sub_of_locate`, `diffM_recurses_static`;
     `locate_of_walk_sub`, `alignment_sub_iff`: the criterion is EXACT (if and only if).
  D. the criterion without computing the common sequence: single gap (`pairedAt_of_apart`),
     `Diagonal` arrays (`locate_diag`, `pairedAt_of_diagonal`).
  E. context lines in index form (`LocatedAt`, `locatedAt_of_located`).
  F. non-vacuity and witnesses (`Example`).
-/
import JdProofs.RealDiffList
import JdProofs.Eval

set_option autoImplicit false

namespace Jd.Align
open Jd Jd.Spec Jd.DPL Jd.Rec Jd.RealL

/-! ## B. exact counts: what the array-level hunks remove and add -/

/-- the kept pairs of the alignment are a LONGEST common subsequence of the hash lists -/
theorem alignment_keeps (o : Opts) (xs ys : List Json) :
    keeps (alignment o xs ys) = lcsLenSpec (hashList o xs) (hashList o ys) := by
  rw [alignment, walk_keeps o _ _ _ _ _ (lcsValues_sublist_left _ _) (lcsValues_sublist_right _ _),
    lcsValues_length_spec]

/-- what the array-level hunks of `a.Diff(b)` remove and add, as lists, in hunk order -/
theorem diffM_top_eq {o : Opts} (ho : dispatchTag o = .list) (hm : isMerge o = false)
    {t t' : Tag} (xs ys : List Json)
    (ht : (t == .raw || t == .list) = true) (ht' : (t' == .raw || t' == .list) = true)
    (htt : t = .raw ∨ t' = .list)
    (hla : listDocList xs = true) (hlb : listDocList ys = true) :
    removedTop [] (diffM o (.arr t xs) (.arr t' ys)) = removedOf (alignment o xs ys) ∧
    addedTop [] (diffM o (.arr t xs) (.arr t' ys)) = addedOf (alignment o xs ys) := by
  rw [diffM, hm, diffNode_arr_arr ho xs ys ht ht' htt []]
  exact top_diffRest ho [] xs ys _ hla hlb

/-- **EXACT COUNT with containers.** Every element of the first array is kept (`LCS` of them),
    recursed into (`subs`) or removed by an array-level hunk; every element of the second is kept,
    recursed into or added. As equalities between natural numbers without subtraction. -/
theorem diffM_counts_exact {o : Opts} (ho : dispatchTag o = .list) (hm : isMerge o = false)
    {t t' : Tag} (xs ys : List Json)
    (ht : (t == .raw || t == .list) = true) (ht' : (t' == .raw || t' == .list) = true)
    (htt : t = .raw ∨ t' = .list)
    (hla : listDocList xs = true) (hlb : listDocList ys = true) :
    (removedTop [] (diffM o (.arr t xs) (.arr t' ys))).length +
        lcsLenSpec (hashList o xs) (hashList o ys) + subs (alignment o xs ys) = xs.length ∧
    (addedTop [] (diffM o (.arr t xs) (.arr t' ys))).length +
        lcsLenSpec (hashList o xs) (hashList o ys) + subs (alignment o xs ys) = ys.length := by
  obtain ⟨e1, e2⟩ := diffM_top_eq ho hm xs ys ht ht' htt hla hlb
  have s1 := src_length_eq (alignment o xs ys)
  have s2 := tgt_length_eq (alignment o xs ys)
  rw [alignment_src, alignment_keeps] at s1
  rw [alignment_tgt, alignment_keeps] at s2
  rw [e1, e2]
  omega

/-! ## C. a static criterion for recursion -/

/-- **where a position stands with respect to the common sequence.** The walk stops each cursor at
    the FIRST remaining element whose hash code is the next common element: the common sequence `c`
    is embedded leftmost in each array; the embedded elements are the ANCHORS, the runs between
    them the GAPS. `locate o a c i g off`: `a` the (remaining) array, `c` the (remaining) common
    sequence, `g` the number of the gap `a` starts in and `off` the offset in that gap of its first
    element. Result: `none` when `a[i]` is an anchor (or `i` is out of range), else `some (gap,
    offset)` of `a[i]`. Depends on ONE array and the common sequence only. -/
def locate (o : Opts) : List Json → List UInt64 → Nat → Nat → Nat → Option (Nat × Nat)
  | [], _, _, _, _ => none
  | x :: a, c, i, g, off =>
    if atC o x c then
      (match i with
       | 0 => none
       | i' + 1 => locate o a c.tail i' (g + 1) 0)
    else
      (match i with
       | 0 => some (g, off)
       | i' + 1 => locate o a c i' g (off + 1))

/-- gap numbers only grow, and inside the starting gap offsets only grow -/
theorem locate_ge (o : Opts) : ∀ (a : List Json) (c : List UInt64) (i g off : Nat) (r : Nat × Nat),
    locate o a c i g off = some r → g ≤ r.1 ∧ (r.1 = g → off ≤ r.2)
  | [], _, _, _, _, _, h => by simp [locate] at h
  | x :: a, c, i, g, off, r, h => by
    simp only [locate] at h
    split at h
    · cases i with
      | zero => simp at h
      | succ i' =>
        have := locate_ge o a c.tail i' (g + 1) 0 r h
        exact ⟨by omega, fun e => by omega⟩
    · cases i with
      | zero =>
        simp only [Option.some.injEq] at h
        subst h
        exact ⟨Nat.le_refl _, fun _ => Nat.le_refl _⟩
      | succ i' =>
        have := locate_ge o a c i' g (off + 1) r h
        exact ⟨this.1, fun e => by have := this.2 e; omega⟩

theorem length_src_flush (R A : List Json) (st : Step) (S : Script) :
    (src (editIf R A ++ st :: S)).length = R.length + (st.src.length + (src S).length) := by
  simp [src_append, src_editIf]

theorem length_tgt_flush (R A : List Json) (st : Step) (S : Script) :
    (tgt (editIf R A ++ st :: S)).length = A.length + (st.tgt.length + (tgt S).length) := by
  simp [tgt_append, tgt_editIf]

/-- **the criterion implies recursion, along the walk.** State `(a, b, c)` of the walk (reached from
    `(a0, b0, c0)`), gap number `g`, offsets `offA`, `offB` of the two cursors in that gap — equal,
    unless one cursor waits at its anchor while the other side is being added / removed. If `a[i]`
    and `b[j]` stand in the SAME gap at the SAME offset (`locate` gives the same answer) and are
    same-kind containers, then the alignment has the step `sub a[i] b[j]` at that place, and the
    walk reaches the position with both cursor elements off the common sequence. -/
theorem walk_sub_of_locate (o : Opts) (a0 b0 : List Json) (c0 : List UInt64) :
    ∀ (a b : List Json) (c : List UInt64) (R A : List Json), Reach o a0 b0 c0 a b c →
      ∀ (i j g offA offB : Nat) (r : Nat × Nat) (x y : Json),
        locate o a c i g offA = some r → locate o b c j g offB = some r →
        (offA < offB → ∃ x0 a', a = x0 :: a' ∧ atC o x0 c = true) →
        (offB < offA → ∃ y0 b', b = y0 :: b' ∧ atC o y0 c = true) →
        a[i]? = some x → b[j]? = some y → sameContainerType o x y = true →
        (∃ S1 S2, walk o a b c R A = S1 ++ .sub x y :: S2 ∧
          (src S1).length = R.length + i ∧ (tgt S1).length = A.length + j) ∧
        (∃ c', Reach o a0 b0 c0 (x :: a.drop (i + 1)) (y :: b.drop (j + 1)) c' ∧
          atC o x c' = false ∧ atC o y c' = false) := by
  intro a b c R A
  fun_induction walk o a b c R A with
  | case1 b c R A => intro _ i j g offA offB r x y _ _ _ _ hx; simp at hx
  | case2 x0 a' c R A => intro _ i j g offA offB r x y _ _ _ _ _ hy; simp at hy
  | case3 x0 a' y0 b' c R A h ih =>
    intro hr i j g offA offB r x y hlA hlB _ _ hx hy hs
    simp only [Bool.and_eq_true] at h
    simp only [locate, h.1, h.2, if_true] at hlA hlB
    cases i with
    | zero => simp at hlA
    | succ i' =>
      cases j with
      | zero => simp at hlB
      | succ j' =>
        simp only [List.getElem?_cons_succ] at hx hy
        obtain ⟨⟨S1, S2, e, e1, e2⟩, c', hr', hc'⟩ :=
          ih (Reach.both hr h.1 h.2) i' j' (g + 1) 0 0 r x y hlA hlB (by simp) (by simp) hx hy hs
        refine ⟨⟨editIf R A ++ .keep x0 y0 :: S1, S2, by simp [e], ?_, ?_⟩, c', ?_, hc'⟩
        · simp only [length_src_flush, e1, Step.src, List.length_singleton, List.length_nil]; omega
        · simp only [length_tgt_flush, e2, Step.tgt, List.length_singleton, List.length_nil]; omega
        · simpa using hr'
  | case4 x0 a' y0 b' c R A h1 h2 ih =>
    intro hr i j g offA offB r x y hlA hlB hpA hpB hx hy hs
    have hB : atC o y0 c = false := by simpa [h2] using h1
    have hle : offA ≤ offB := le_of_phase hpB (fun _ _ e => by cases e; exact hB)
    cases j with
    | zero =>
      exfalso
      simp only [locate, hB, Bool.false_eq_true, if_false, Option.some.injEq] at hlB
      subst hlB
      simp only [locate, h2, if_true] at hlA
      cases i with
      | zero => simp at hlA
      | succ i' =>
        have := (locate_ge o a' c.tail i' (g + 1) 0 _ hlA).1
        omega
    | succ j' =>
      simp only [locate, hB, Bool.false_eq_true, if_false] at hlB
      simp only [List.getElem?_cons_succ] at hy
      obtain ⟨⟨S1, S2, e, e1, e2⟩, c', hr', hc'⟩ :=
        ih (Reach.addB hr h2 hB) i j' g offA (offB + 1) r x y hlA hlB
          (fun _ => ⟨x0, a', rfl, h2⟩) (fun hlt => by omega) hx hy hs
      refine ⟨⟨S1, S2, e, e1, ?_⟩, c', ?_, hc'⟩
      · simp only [List.length_append, List.length_cons, List.length_nil] at e2
        omega
      · simpa using hr'
  | case5 x0 a' y0 b' c R A h1 h2 h3 ih =>
    intro hr i j g offA offB r x y hlA hlB hpA hpB hx hy hs
    have hA : atC o x0 c = false := by simpa using h2
    have hle : offB ≤ offA := le_of_phase hpA (fun _ _ e => by cases e; exact hA)
    cases i with
    | zero =>
      exfalso
      simp only [locate, hA, Bool.false_eq_true, if_false, Option.some.injEq] at hlA
      subst hlA
      simp only [locate, h3, if_true] at hlB
      cases j with
      | zero => simp at hlB
      | succ j' =>
        have := (locate_ge o b' c.tail j' (g + 1) 0 _ hlB).1
        omega
    | succ i' =>
      simp only [locate, hA, Bool.false_eq_true, if_false] at hlA
      simp only [List.getElem?_cons_succ] at hx
      obtain ⟨⟨S1, S2, e, e1, e2⟩, c', hr', hc'⟩ :=
        ih (Reach.remA hr hA h3) i' j g (offA + 1) offB r x y hlA hlB
          (fun hlt => by omega) (fun _ => ⟨y0, b', rfl, h3⟩) hx hy hs
      refine ⟨⟨S1, S2, e, ?_, e2⟩, c', ?_, hc'⟩
      · simp only [List.length_append, List.length_cons, List.length_nil] at e1
        omega
      · simpa using hr'
  | case6 x0 a' y0 b' c R A h1 h2 h3 h4 ih =>
    intro hr i j g offA offB r x y hlA hlB hpA hpB hx hy hs
    have hA : atC o x0 c = false := by simpa using h2
    have hB : atC o y0 c = false := by simpa using h3
    have hoff : offA = offB :=
      Nat.le_antisymm (le_of_phase hpB (fun _ _ e => by cases e; exact hB))
        (le_of_phase hpA (fun _ _ e => by cases e; exact hA))
    subst hoff
    simp only [locate, hA, hB, Bool.false_eq_true, if_false] at hlA hlB
    cases i with
    | zero =>
      simp only [Option.some.injEq] at hlA
      subst hlA
      cases j with
      | zero =>
        simp only [List.getElem?_cons_zero, Option.some.injEq] at hx hy
        subst hx; subst hy
        exact ⟨⟨editIf R A, walk o a' b' c [] [], rfl, by simp [src_editIf], by simp [tgt_editIf]⟩,
          c, by simpa using hr, hA, hB⟩
      | succ j' =>
        exfalso
        have := (locate_ge o b' c j' g (offA + 1) _ hlB).2 rfl
        omega
    | succ i' =>
      cases j with
      | zero =>
        exfalso
        simp only [Option.some.injEq] at hlB
        subst hlB
        have := (locate_ge o a' c i' g (offA + 1) _ hlA).2 rfl
        omega
      | succ j' =>
        simp only [List.getElem?_cons_succ] at hx hy
        obtain ⟨⟨S1, S2, e, e1, e2⟩, c', hr', hc'⟩ :=
          ih (Reach.sub hr hA hB h4) i' j' g (offA + 1) (offA + 1) r x y hlA hlB
            (fun hlt => by omega) (fun hlt => by omega) hx hy hs
        refine ⟨⟨editIf R A ++ .sub x0 y0 :: S1, S2, by simp [e], ?_, ?_⟩, c', ?_, hc'⟩
        · simp only [length_src_flush, e1, Step.src, List.length_singleton, List.length_nil]; omega
        · simp only [length_tgt_flush, e2, Step.tgt, List.length_singleton, List.length_nil]; omega
        · simpa using hr'
  | case7 x0 a' y0 b' c R A h1 h2 h3 h4 ih =>
    intro hr i j g offA offB r x y hlA hlB hpA hpB hx hy hs
    have hA : atC o x0 c = false := by simpa using h2
    have hB : atC o y0 c = false := by simpa using h3
    have hoff : offA = offB :=
      Nat.le_antisymm (le_of_phase hpB (fun _ _ e => by cases e; exact hB))
        (le_of_phase hpA (fun _ _ e => by cases e; exact hA))
    subst hoff
    simp only [locate, hA, hB, Bool.false_eq_true, if_false] at hlA hlB
    cases i with
    | zero =>
      simp only [Option.some.injEq] at hlA
      subst hlA
      cases j with
      | zero =>
        exfalso
        simp only [List.getElem?_cons_zero, Option.some.injEq] at hx hy
        subst hx; subst hy
        exact h4 hs
      | succ j' =>
        exfalso
        have := (locate_ge o b' c j' g (offA + 1) _ hlB).2 rfl
        omega
    | succ i' =>
      cases j with
      | zero =>
        exfalso
        simp only [Option.some.injEq] at hlB
        subst hlB
        have := (locate_ge o a' c i' g (offA + 1) _ hlA).2 rfl
        omega
      | succ j' =>
        simp only [List.getElem?_cons_succ] at hx hy
        have h4' : sameContainerType o x0 y0 = false := by simpa using h4
        obtain ⟨⟨S1, S2, e, e1, e2⟩, c', hr', hc'⟩ :=
          ih (Reach.repl hr hA hB h4') i' j' g (offA + 1) (offA + 1) r x y hlA hlB
            (fun hlt => by omega) (fun hlt => by omega) hx hy hs
        refine ⟨⟨S1, S2, e, ?_, ?_⟩, c', ?_, hc'⟩
        · simp only [List.length_append, List.length_cons, List.length_nil] at e1
          omega
        · simp only [List.length_append, List.length_cons, List.length_nil] at e2
          omega
        · simpa using hr'

/-- **the static criterion**: position `i` of `xs` and position `j` of `ys` are not anchors and stand
    in the same gap at the same offset, with respect to the common sequence golcs returns for the
    two hash lists. Decidable; computed from the hash lists alone, without running the diff. -/
def pairedAt (o : Opts) (xs ys : List Json) (i j : Nat) : Bool :=
  match locate o xs (lcsValues (hashList o xs) (hashList o ys)) i 0 0,
        locate o ys (lcsValues (hashList o xs) (hashList o ys)) j 0 0 with
  | some r, some r' => r.1 == r'.1 && r.2 == r'.2
  | _, _ => false

theorem pairedAt_iff {o : Opts} {xs ys : List Json} {i j : Nat} :
    pairedAt o xs ys i j = true ↔
      ∃ r, locate o xs (lcsValues (hashList o xs) (hashList o ys)) i 0 0 = some r ∧
        locate o ys (lcsValues (hashList o xs) (hashList o ys)) j 0 0 = some r := by
  unfold pairedAt
  constructor
  · intro h
    split at h
    · next r r' e1 e2 =>
      simp only [Bool.and_eq_true, beq_iff_eq] at h
      refine ⟨r, e1, ?_⟩
      rw [e2]
      congr 1
      exact (Prod.ext h.1 h.2).symm
    · cases h
  · rintro ⟨r, e1, e2⟩
    rw [e1, e2]
    simp

theorem prefix_eq_take {xs pre post : List Json} {x : Json} {i : Nat}
    (e : xs = pre ++ x :: post) (hp : post = xs.drop (i + 1)) (hi : i < xs.length) :
    pre = xs.take i ∧ pre.length = i := by
  have hl := congrArg List.length e
  rw [hp] at hl
  simp only [List.length_append, List.length_cons, List.length_drop] at hl
  have hlen : pre.length = i := by omega
  refine ⟨?_, hlen⟩
  conv => rhs; rw [e]
  rw [List.take_left' hlen]

theorem alignment_sub_of_paired {o : Opts} {xs ys : List Json} {i j : Nat} {x y : Json}
    (hp : pairedAt o xs ys i j = true) (hx : xs[i]? = some x) (hy : ys[j]? = some y)
    (hs : sameContainerType o x y = true) :
    ∃ S1 S2, alignment o xs ys = S1 ++ .sub x y :: S2 ∧ (src S1).length = i ∧
      (tgt S1).length = j := by
  obtain ⟨r, e1, e2⟩ := pairedAt_iff.1 hp
  obtain ⟨⟨S1, S2, e, h1, h2⟩, _⟩ := walk_sub_of_locate o xs ys _ xs ys _ [] [] Reach.start
    i j 0 0 0 r x y e1 e2 (by simp) (by simp) hx hy hs
  exact ⟨S1, S2, e, by simpa using h1, by simpa using h2⟩

/-- **static criterion ⇒ recursion, not replacement** (list documents; the pair not a typed list
    against a plain array). If `xs[i] = x` and `ys[j] = y` are same-kind containers standing in the
    same gap at the same offset (`pairedAt`), then `a.Diff(b) = D1 ++ (sub-diff of x, y at [j]) ++ D2`;
    no hunk of the sub-diff is an array-level hunk; the array-level hunks of `D1` remove only
    elements of `xs` standing before `i` and add only elements of `ys` standing before `j`, those
    of `D2` only elements standing after: no array-level hunk removes `x` or adds `y`. -/
theorem diffM_recurses_static {o : Opts} (ho : dispatchTag o = .list) (hm : isMerge o = false)
    {t t' : Tag} (xs ys : List Json)
    (ht : (t == .raw || t == .list) = true) (ht' : (t' == .raw || t' == .list) = true)
    (htt : t = .raw ∨ t' = .list)
    (hla : listDocList xs = true) (hlb : listDocList ys = true)
    {i j : Nat} {x y : Json}
    (hp : pairedAt o xs ys i j = true) (hx : xs[i]? = some x) (hy : ys[j]? = some y)
    (hs : sameContainerType o x y = true) (hnm : mixedPair x y = false) :
    ∃ (D1 D2 : Diff),
      diffM o (.arr t xs) (.arr t' ys) = D1 ++ diffNode o false x y [.idx (j : Int)] ++ D2 ∧
      (∀ h ∈ diffNode o false x y [.idx (j : Int)], isTop [] h = false) ∧
      (removedTop [] D1).Sublist (xs.take i) ∧ (addedTop [] D1).Sublist (ys.take j) ∧
      (removedTop [] D2).Sublist (xs.drop (i + 1)) ∧ (addedTop [] D2).Sublist (ys.drop (j + 1)) := by
  obtain ⟨r, e1, e2⟩ := pairedAt_iff.1 hp
  obtain ⟨_, c', hr, hA, hB⟩ := walk_sub_of_locate o xs ys _ xs ys _ [] [] Reach.start
    i j 0 0 0 r x y e1 e2 (by simp) (by simp) hx hy hs
  obtain ⟨D1, D2, preA, preB, ea, eb, e, hf, h1, h2, h3, h4⟩ :=
    diffM_recurses_at ho hm xs ys ht ht' htt hla hlb hr hA hB hs hnm
  have hi : i < xs.length := (List.getElem?_eq_some_iff.1 hx).1
  have hj : j < ys.length := (List.getElem?_eq_some_iff.1 hy).1
  obtain ⟨pa, pal⟩ := prefix_eq_take ea rfl hi
  obtain ⟨pb, pbl⟩ := prefix_eq_take eb rfl hj
  rw [pbl] at e hf
  rw [pa] at h1
  rw [pb] at h2
  exact ⟨D1, D2, e, hf, h1, h2, h3, h4⟩

/-! ### the converse: a pair that is recursed into satisfies the criterion -/

theorem editIf_ne_sub {R A : List Json} {S1 S2 : Script} {x y : Json} :
    editIf R A ≠ S1 ++ .sub x y :: S2 :=
  fun e => not_sub_mem_editIf (e ▸ List.mem_append_right _ List.mem_cons_self)

/-- a `sub` step of a flushed pending hunk followed by `st :: W` is `st` itself or a step of `W` -/
theorem editIf_split {R A : List Json} {st : Step} {W S1 S2 : Script} {x y : Json}
    (e : editIf R A ++ st :: W = S1 ++ .sub x y :: S2) :
    (st = .sub x y ∧ S1 = editIf R A ∧ S2 = W) ∨
    (∃ S1', S1 = editIf R A ++ st :: S1' ∧ W = S1' ++ .sub x y :: S2) := by
  rcases Real.split_append e with ⟨x1, x2, h, _, _⟩ | ⟨y1, y2, h, rfl, rfl⟩
  · exact absurd h editIf_ne_sub
  · cases y1 with
    | nil =>
      simp only [List.nil_append, List.cons.injEq] at h
      exact .inl ⟨h.1, by simp, h.2.symm⟩
    | cons s y1' =>
      simp only [List.cons_append, List.cons.injEq] at h
      exact .inr ⟨y1', by rw [h.1], h.2⟩

/-- **recursion implies the criterion, along the walk**: a `sub x y` step of the walk stands at
    positions `i`, `j` (counted in the remaining arrays) that `locate` puts in the same gap at the
    same offset (that `x`, `y` are same-kind containers is `walk_sub_kind`) -/
theorem locate_of_walk_sub (o : Opts) :
    ∀ (a b : List Json) (c : List UInt64) (R A : List Json) (g offA offB : Nat)
      (S1 S2 : Script) (x y : Json),
      walk o a b c R A = S1 ++ .sub x y :: S2 →
      (offA < offB → ∃ x0 a', a = x0 :: a' ∧ atC o x0 c = true) →
      (offB < offA → ∃ y0 b', b = y0 :: b' ∧ atC o y0 c = true) →
      ∃ (i j : Nat) (r : Nat × Nat), (src S1).length = R.length + i ∧
        (tgt S1).length = A.length + j ∧
        locate o a c i g offA = some r ∧ locate o b c j g offB = some r := by
  intro a b c R A
  fun_induction walk o a b c R A with
  | case1 b c R A => intro g offA offB S1 S2 x y e; exact absurd e editIf_ne_sub
  | case2 x0 a' c R A => intro g offA offB S1 S2 x y e; exact absurd e editIf_ne_sub
  | case3 x0 a' y0 b' c R A h ih =>
    intro g offA offB S1 S2 x y e _ _
    simp only [Bool.and_eq_true] at h
    rcases editIf_split e with ⟨h1, _, _⟩ | ⟨S1', e1, eW⟩
    · cases h1
    · obtain ⟨i', j', r, l1, l2, l3, l4⟩ := ih (g + 1) 0 0 S1' S2 x y eW (by simp) (by simp)
      refine ⟨i' + 1, j' + 1, r, ?_, ?_, ?_, ?_⟩
      · simp only [e1, length_src_flush, l1, Step.src, List.length_singleton, List.length_nil]; omega
      · simp only [e1, length_tgt_flush, l2, Step.tgt, List.length_singleton, List.length_nil]; omega
      · simp only [locate, h.1, if_true]; exact l3
      · simp only [locate, h.2, if_true]; exact l4
  | case4 x0 a' y0 b' c R A h1 h2 ih =>
    intro g offA offB S1 S2 x y e hpA hpB
    have hB : atC o y0 c = false := by simpa [h2] using h1
    have hle : offA ≤ offB := le_of_phase hpB (fun _ _ e => by cases e; exact hB)
    obtain ⟨i, j', r, l1, l2, l3, l4⟩ := ih g offA (offB + 1) S1 S2 x y e
      (fun _ => ⟨x0, a', rfl, h2⟩) (fun hlt => by omega)
    refine ⟨i, j' + 1, r, l1, ?_, l3, ?_⟩
    · simp only [List.length_append, List.length_cons, List.length_nil] at l2
      omega
    · simp only [locate, hB, Bool.false_eq_true, if_false]; exact l4
  | case5 x0 a' y0 b' c R A h1 h2 h3 ih =>
    intro g offA offB S1 S2 x y e hpA hpB
    have hA : atC o x0 c = false := by simpa using h2
    have hle : offB ≤ offA := le_of_phase hpA (fun _ _ e => by cases e; exact hA)
    obtain ⟨i', j, r, l1, l2, l3, l4⟩ := ih g (offA + 1) offB S1 S2 x y e
      (fun hlt => by omega) (fun _ => ⟨y0, b', rfl, h3⟩)
    refine ⟨i' + 1, j, r, ?_, l2, ?_, l4⟩
    · simp only [List.length_append, List.length_cons, List.length_nil] at l1
      omega
    · simp only [locate, hA, Bool.false_eq_true, if_false]; exact l3
  | case6 x0 a' y0 b' c R A h1 h2 h3 h4 ih =>
    intro g offA offB S1 S2 x y e hpA hpB
    have hA : atC o x0 c = false := by simpa using h2
    have hB : atC o y0 c = false := by simpa using h3
    have hoff : offA = offB :=
      Nat.le_antisymm (le_of_phase hpB (fun _ _ e => by cases e; exact hB))
        (le_of_phase hpA (fun _ _ e => by cases e; exact hA))
    subst hoff
    rcases editIf_split e with ⟨h1', e1, _⟩ | ⟨S1', e1, eW⟩
    · cases h1'
      refine ⟨0, 0, (g, offA), ?_, ?_, ?_, ?_⟩
      · rw [e1]; simp [src_editIf]
      · rw [e1]; simp [tgt_editIf]
      · simp [locate, hA]
      · simp [locate, hB]
    · obtain ⟨i', j', r, l1, l2, l3, l4⟩ := ih g (offA + 1) (offA + 1) S1' S2 x y eW
        (fun hlt => by omega) (fun hlt => by omega)
      refine ⟨i' + 1, j' + 1, r, ?_, ?_, ?_, ?_⟩
      · simp only [e1, length_src_flush, l1, Step.src, List.length_singleton, List.length_nil]; omega
      · simp only [e1, length_tgt_flush, l2, Step.tgt, List.length_singleton, List.length_nil]; omega
      · simp only [locate, hA, Bool.false_eq_true, if_false]; exact l3
      · simp only [locate, hB, Bool.false_eq_true, if_false]; exact l4
  | case7 x0 a' y0 b' c R A h1 h2 h3 h4 ih =>
    intro g offA offB S1 S2 x y e hpA hpB
    have hA : atC o x0 c = false := by simpa using h2
    have hB : atC o y0 c = false := by simpa using h3
    have hoff : offA = offB :=
      Nat.le_antisymm (le_of_phase hpB (fun _ _ e => by cases e; exact hB))
        (le_of_phase hpA (fun _ _ e => by cases e; exact hA))
    subst hoff
    obtain ⟨i', j', r, l1, l2, l3, l4⟩ := ih g (offA + 1) (offA + 1) S1 S2 x y e
      (fun hlt => by omega) (fun hlt => by omega)
    refine ⟨i' + 1, j' + 1, r, ?_, ?_, ?_, ?_⟩
    · simp only [List.length_append, List.length_cons, List.length_nil] at l1
      omega
    · simp only [List.length_append, List.length_cons, List.length_nil] at l2
      omega
    · simp only [locate, hA, Bool.false_eq_true, if_false]; exact l3
    · simp only [locate, hB, Bool.false_eq_true, if_false]; exact l4

/-- **the criterion is exact**: the alignment recurses into the pair (`xs[i]`, `ys[j]`) if and only
    if the two are same-kind containers standing in the same gap at the same offset -/
theorem alignment_sub_iff {o : Opts} {xs ys : List Json} {i j : Nat} {x y : Json} :
    (∃ S1 S2, alignment o xs ys = S1 ++ .sub x y :: S2 ∧ (src S1).length = i ∧
      (tgt S1).length = j) ↔
    (pairedAt o xs ys i j = true ∧ xs[i]? = some x ∧ ys[j]? = some y ∧
      sameContainerType o x y = true) := by
  constructor
  · rintro ⟨S1, S2, e, h1, h2⟩
    obtain ⟨i', j', r, l1, l2, l3, l4⟩ :=
      locate_of_walk_sub o xs ys _ [] [] 0 0 0 S1 S2 x y e (by simp) (by simp)
    have hs := walk_sub_kind o xs ys _ [] [] (e ▸ List.mem_append_right S1 List.mem_cons_self)
    simp only [List.length_nil, Nat.zero_add] at l1 l2
    have hi : i' = i := by omega
    have hj : j' = j := by omega
    subst hi; subst hj
    refine ⟨pairedAt_iff.2 ⟨r, l3, l4⟩, ?_, ?_, hs⟩
    · have := alignment_src o xs ys
      rw [e] at this
      rw [← this, ← h1]
      simp [src_append, Step.src]
    · have := alignment_tgt o xs ys
      rw [e] at this
      rw [← this, ← h2]
      simp [tgt_append, Step.tgt]
  · rintro ⟨hp, hx, hy, hs⟩
    exact alignment_sub_of_paired hp hx hy hs

/-! ## D. the criterion without computing the common sequence: two special cases -/

/-- no anchor at all: every position stands in the starting gap, at its own index -/
theorem locate_nil (o : Opts) : ∀ (a : List Json) (i g off : Nat), i < a.length →
    locate o a [] i g off = some (g, off + i)
  | [], _, _, _, h => by simp at h
  | x :: a, 0, g, off, _ => by simp [locate, atC]
  | x :: a, i' + 1, g, off, h => by
    simp only [locate, atC, Bool.false_eq_true, if_false]
    rw [locate_nil o a i' g (off + 1) (by simpa using h)]
    congr 2
    omega

/-- **single gap**: when no element of `xs` has the hash code of an element of `ys` (the common
    sequence is empty), the same index on both sides satisfies the criterion -/
theorem pairedAt_of_apart {o : Opts} {xs ys : List Json}
    (apart : ∀ x ∈ xs, ∀ y ∈ ys, hashCode o x ≠ hashCode o y) {i : Nat}
    (hi : i < xs.length) (hj : i < ys.length) : pairedAt o xs ys i i = true := by
  rw [pairedAt_iff, lcsValues_nil_of_apart o xs ys apart]
  exact ⟨(0, 0 + i), locate_nil o xs i 0 0 hi, locate_nil o ys i 0 0 hj⟩

theorem not_pairedAt_of_apart {o : Opts} {xs ys : List Json}
    (apart : ∀ x ∈ xs, ∀ y ∈ ys, hashCode o x ≠ hashCode o y) {i j : Nat}
    (hi : i < xs.length) (hj : j < ys.length) (hne : i ≠ j) : pairedAt o xs ys i j = false := by
  cases h : pairedAt o xs ys i j with
  | false => rfl
  | true =>
    exfalso
    rw [pairedAt_iff, lcsValues_nil_of_apart o xs ys apart] at h
    obtain ⟨r, h1, h2⟩ := h
    rw [locate_nil o xs i 0 0 hi] at h1
    rw [locate_nil o ys j 0 0 hj] at h2
    cases h1
    simp only [Option.some.injEq, Prod.mk.injEq, true_and] at h2
    omega

theorem mem_hashList {o : Opts} {h : UInt64} : ∀ {l : List Json}, h ∈ hashList o l →
    ∃ (j : Nat) (y : Json), l[j]? = some y ∧ hashCode o y = h
  | [], hm => by simp [hashList] at hm
  | x :: l, hm => by
    rw [hashList_cons] at hm
    rcases List.mem_cons.1 hm with e | hm
    · exact ⟨0, x, rfl, e.symm⟩
    · obtain ⟨j, y, hy, e⟩ := mem_hashList hm
      exact ⟨j + 1, y, by simpa using hy, e⟩

/-- equal hash codes only at equal indices: no element of `a` has the hash code of an element of
    `b` standing at ANOTHER index -/
def Diagonal (o : Opts) (a b : List Json) : Prop :=
  ∀ (i j : Nat) (x y : Json), a[i]? = some x → b[j]? = some y → hashCode o x = hashCode o y → i = j

theorem Diagonal.tail {o : Opts} {x y : Json} {a b : List Json} (h : Diagonal o (x :: a) (y :: b)) :
    Diagonal o a b := by
  intro i j x' y' hx hy e
  have := h (i + 1) (j + 1) x' y' (by simpa using hx) (by simpa using hy) e
  omega

/-- on diagonal arrays the anchors are exactly the positions with equal hash codes, on both sides:
    a position with different hash codes is located alike in the two arrays -/
theorem locate_diag (o : Opts) : ∀ (a b : List Json) (c : List UInt64) (i g off : Nat) (x y : Json),
    Diagonal o a b → LOpt c (hashList o a) (hashList o b) →
    a[i]? = some x → b[i]? = some y → hashCode o x ≠ hashCode o y →
    ∃ r, locate o a c i g off = some r ∧ locate o b c i g off = some r
  | [], _, _, _, _, _, _, _, _, _, hx, _, _ => by simp at hx
  | _ :: _, [], _, _, _, _, _, _, _, _, _, hy, _ => by simp at hy
  | x0 :: a', y0 :: b', c, i, g, off, x, y, hD, hL, hx, hy, hne => by
    rw [hashList_cons, hashList_cons] at hL
    by_cases e : hashCode o x0 = hashCode o y0
    · have hA : atC o x0 c = true := by
        cases hA : atC o x0 c with
        | true => rfl
        | false =>
          exfalso
          rw [← e] at hL
          exact hL.heads_ne (atC_false hA)
      have hB : atC o y0 c = true := by
        rw [atC_true hA]
        simp [atC, e]
      cases i with
      | zero =>
        simp only [List.getElem?_cons_zero, Option.some.injEq] at hx hy
        subst hx; subst hy
        exact absurd e hne
      | succ i' =>
        simp only [List.getElem?_cons_succ] at hx hy
        have hL' : LOpt c.tail (hashList o a') (hashList o b') := by
          have hc := atC_true hA
          rw [hc, ← e] at hL
          exact hL.both
        simp only [locate, hA, hB, if_true]
        exact locate_diag o a' b' c.tail i' (g + 1) 0 x y hD.tail hL' hx hy hne
    · have hA : atC o x0 c = false := by
        cases hA : atC o x0 c with
        | false => rfl
        | true =>
          exfalso
          have hc := atC_true hA
          have hsub := sublist_of_head_ne hL.2.1 (by
            rw [hc]
            simp only [List.head?_cons, ne_eq, Option.some.injEq]
            exact e)
          have hmem : hashCode o x0 ∈ hashList o b' := hsub.subset (by rw [hc]; simp)
          obtain ⟨j, y', hy', e'⟩ := mem_hashList hmem
          have := hD 0 (j + 1) x0 y' rfl (by simpa using hy') e'.symm
          omega
      have hB : atC o y0 c = false := by
        cases hB : atC o y0 c with
        | false => rfl
        | true =>
          exfalso
          have hc := atC_true hB
          have hsub := sublist_of_head_ne hL.1 (by
            rw [hc]
            simp only [List.head?_cons, ne_eq, Option.some.injEq]
            exact fun e' => e e'.symm)
          have hmem : hashCode o y0 ∈ hashList o a' := hsub.subset (by rw [hc]; simp)
          obtain ⟨j, x', hx', e'⟩ := mem_hashList hmem
          have := hD (j + 1) 0 x' y0 (by simpa using hx') rfl e'
          omega
      cases i with
      | zero => exact ⟨(g, off), by simp [locate, hA], by simp [locate, hB]⟩
      | succ i' =>
        simp only [List.getElem?_cons_succ] at hx hy
        simp only [locate, hA, hB, Bool.false_eq_true, if_false]
        exact locate_diag o a' b' c i' g (off + 1) x y hD.tail
          ((hL.skipA (atC_false hA)).skipB (atC_false hB)) hx hy hne

/-- **position-wise arrays**: when equal hash codes only occur at equal indices, every index whose
    two elements have different hash codes satisfies the criterion with itself -/
theorem pairedAt_of_diagonal {o : Opts} {xs ys : List Json} (hD : Diagonal o xs ys) {i : Nat}
    {x y : Json} (hx : xs[i]? = some x) (hy : ys[i]? = some y)
    (hne : hashCode o x ≠ hashCode o y) : pairedAt o xs ys i i = true := by
  rw [pairedAt_iff]
  exact locate_diag o xs ys _ i 0 0 x y hD (LOpt.lcs _ _) hx hy hne

/-! ## E. the context lines, statically, at every depth, in index form -/

/-- `Real.Located` read with indices: `h` is addressed to index `n` of `Y`; it removes the run of `X`
    standing at some index `m` and adds the run of `Y` standing at `n`; its before-context is the
    boundary marker when `n = 0` and otherwise LITERALLY `Y[n-1]`; its after-context is LITERALLY
    the element of `X` following the removed run, or the boundary marker when the run ends `X` -/
structure LocatedAt (p : Path) (X Y : List Json) (h : Hunk) (n m : Nat) : Prop where
  path_eq : h.path = p ++ [PathElem.idx (n : Int)]
  remove_eq : h.remove = (X.drop m).take h.remove.length
  add_eq : h.add = (Y.drop n).take h.add.length
  remove_fits : m + h.remove.length ≤ X.length
  add_fits : n + h.add.length ≤ Y.length
  ctx : ∃ prev next, h.before = [prev] ∧ h.after = [next] ∧
    (n = 0 → prev = .void) ∧ (∀ k, n = k + 1 → Y[k]? = some prev) ∧
    (match X[m + h.remove.length]? with
     | some z => next = z
     | none => next = .void)

theorem locatedAt_of_located {p : Path} {X Y : List Json} {h : Hunk} (L : Real.Located p X Y h) :
    ∃ n m, LocatedAt p X Y h n m := by
  obtain ⟨i, preA, postA, preB, postB, hp, eX, eY, hl, hb, ha⟩ := L
  refine ⟨i, preA.length, hp, ?_, ?_, ?_, ?_, preB.getLast?.getD .void, postA.headD .void, hb, ha,
    ?_, ?_, ?_⟩
  · rw [eX]; simp
  · rw [eY, ← hl]; simp
  · rw [eX]; simp only [List.length_append]; omega
  · rw [eY]; simp only [List.length_append]; omega
  · intro h0
    rw [h0] at hl
    have : preB = [] := List.eq_nil_of_length_eq_zero hl
    simp [this]
  · intro k hk
    have hne : preB ≠ [] := by
      intro e; rw [e] at hl; simp at hl; omega
    have hk' : k < preB.length := by omega
    rw [eY, List.append_assoc, List.getElem?_append_left hk']
    rw [List.getLast?_eq_getElem?]
    have : preB.length - 1 = k := by omega
    rw [this, List.getElem?_eq_getElem hk']
    simp
  · have e : X[preA.length + h.remove.length]? = postA[0]? := by
      rw [eX, ← List.length_append, List.getElem?_append_right (Nat.le_refl _)]
      simp
    rw [e]
    cases postA <;> simp

def diagonalB (o : Opts) (a b : List Json) : Bool :=
  a.zipIdx.all fun xi => b.zipIdx.all fun yj => hashCode o xi.1 != hashCode o yj.1 || xi.2 == yj.2

theorem diagonal_of_diagonalB {o : Opts} {a b : List Json} (h : diagonalB o a b = true) :
    Diagonal o a b := by
  intro i j x y hx hy e
  simp only [diagonalB, List.all_eq_true] at h
  have := h (x, i) (List.mem_zipIdx_iff_getElem?.2 hx) (y, j) (List.mem_zipIdx_iff_getElem?.2 hy)
  simpa [e] using this

/-! ## F. non-vacuity and witnesses -/

namespace Example

def oA : Json := .obj [("a", .str "u")]
def oB : Json := .obj [("a", .str "v")]
def oC : Json := .obj [("a", .str "w")]

/-- `["k", {"a":"u"}, "s", ["p"]]` against `["k", {"a":"v"}, "t", ["p","q"]]`: one kept pair, two pairs
    recursed into, one scalar replaced -/
def xsM : List Json := [.str "k", oA, .str "s", .arr .raw [.str "p"]]
def ysM : List Json := [.str "k", oB, .str "t", .arr .raw [.str "p", .str "q"]]

theorem diagM : Diagonal [] xsM ysM := diagonal_of_diagonalB (by decide +kernel)

theorem listDocM : listDocList xsM = true ∧ listDocList ysM = true := by decide +kernel

theorem paired1 : pairedAt [] xsM ysM 1 1 = true :=
  pairedAt_of_diagonal diagM (x := oA) (y := oB) rfl rfl (by decide +kernel)

theorem paired3 : pairedAt [] xsM ysM 3 3 = true :=
  pairedAt_of_diagonal diagM (x := .arr .raw [.str "p"]) (y := .arr .raw [.str "p", .str "q"]) rfl rfl
    (by decide +kernel)

/-- **WITNESS, same gap, different offsets: replaced, not recursed.** `[{"a":"u"}]` against
    `["s", {"a":"v"}]`: the two objects stand in the same (only) gap at offsets 0 and 1; the code
    pairs `{"a":"u"}` with `"s"` and the diff is ONE array-level hunk replacing the object -/
theorem different_offsets_not_paired : pairedAt [] [oA] [.str "s", oB] 0 1 = false :=
  not_pairedAt_of_apart (by decide +kernel) (by simp) (by simp) (by omega)

theorem different_offsets_replaced :
    diffM [] (.arr .raw [oA]) (.arr .raw [.str "s", oB]) =
      [{ path := [.idx 0], before := [.void], remove := [oA], add := [.str "s", oB],
         after := [.void] }] := diffM_of_eqb (by decide +kernel)

/-- the same pair at the same offset IS recursed into -/
theorem same_offset_paired : pairedAt [] [oA] [oB, .str "s"] 0 0 = true :=
  pairedAt_of_apart (by decide +kernel) (by simp) (by simp)

/-- **WITNESS: "same kind position by position" is not enough.** `[A, B]` against `[C, A]` (three
    objects with different hash codes): at both positions the elements are same-kind containers
    (`Rec.sameKinds`), but `A` is the common sequence; `C` is added before it and `B` removed after
    it: nothing is recursed into. The arrays are not `Diagonal` (`A` occurs at index 0 and 1). -/
theorem lcs_shifted : lcsValues (hashList [] [oA, oB]) (hashList [] [oC, oA]) = [hashCode [] oA] := by
  have h1 : hashCode [] oA ≠ hashCode [] oB := by decide +kernel
  have h2 : hashCode [] oA ≠ hashCode [] oC := by decide +kernel
  have h3 : hashCode [] oB ≠ hashCode [] oC := by decide +kernel
  show lcsValues [hashCode [] oA, hashCode [] oB] [hashCode [] oC, hashCode [] oA] = _
  generalize hashCode [] oA = a at *
  generalize hashCode [] oB = b at *
  generalize hashCode [] oC = c at *
  simp [lcsValues, lcsRows, lcsRow, lcsRowGo, lcsBack, h2, h3]

theorem shifted_alignment : sameKinds [] [oA, oB] [oC, oA] = true ∧
    alignment [] [oA, oB] [oC, oA] = [.edit [] [oC], .keep oA oA, .edit [oB] []] := by
  refine ⟨by decide +kernel, ?_⟩
  have a1 : atC [] oA [hashCode [] oA] = true := by simp [atC]
  have a2 : atC [] oC [hashCode [] oA] = false := by decide +kernel
  rw [alignment, lcs_shifted, walk_cons]
  simp only [a1, a2, Bool.and_false, Bool.false_eq_true, if_false, if_true, List.nil_append]
  rw [walk_cons]
  simp only [a1, Bool.and_self, if_true, List.tail_cons]
  rw [walk_nilB _ _ _ _ _ (by simp)]
  simp [editIf]

theorem shifted_nothing_recursed : subs (alignment [] [oA, oB] [oC, oA]) = 0 := by
  rw [shifted_alignment.2]; rfl

theorem goodXM : GoodL xsM := ⟨by decide +kernel, by decide +kernel, by decide +kernel, by decide +kernel⟩
theorem goodYM : GoodL ysM := ⟨by decide +kernel, by decide +kernel, by decide +kernel, by decide +kernel⟩
theorem numM : NumHashOK [] (subtermsList xsM) (subtermsList ysM) := by
  intro u v hu
  simp [xsM, oA, subtermsList, subterms, subtermsKvs] at hu
theorem nomixM : ∀ x ∈ xsM, ∀ y ∈ ysM, mixedPair x y = false := by decide +kernel
theorem rawM : (Json.arr .raw xsM).rawDoc = true := by decide +kernel
theorem goodAM : Good (.arr .raw xsM) :=
  ⟨by decide +kernel, by decide +kernel, by decide +kernel, by decide +kernel⟩
theorem goodBM : Good (.arr .raw ysM) :=
  ⟨by decide +kernel, by decide +kernel, by decide +kernel, by decide +kernel⟩
theorem numM' : NumHashOK [] (subterms (.arr .raw xsM)) (subterms (.arr .raw ysM)) := by
  intro u v hu
  simp [xsM, oA, subtermsList, subterms, subtermsKvs] at hu

end Example

end Jd.Align
