/-
  JdProofs.CliRoundTripV1 (namespace `Jd.CliV1`) — property C14, last sentence ("feeding the output of
  `jd [flags] a b` to `jd -p [flags]` on a reproduces b"), for the V1 LIBRARY: binary B (/repo/main.go)
  started with `-v2=false` calls package `lib` (`printDiff`, `printPatch`, `parseMetadata`).
  JdProofs.CliRoundTrip / CliRoundTripModes prove the round trip for the v2 library
  (`Ls false = nativeLib nc Y`); here the `CliRT.Lib` instance `v1Lib` of the v1 model is built
  (`metasOf`: the `[]jd.Metadata` of `parseMetadata` as `V1.Metas`) and the same statements are proved
  for `libIsV1 b fl = true`, from `CliRT.Session.twoRuns` (the two-process step, at `v1Lib`):
    `v1_native_cli_round_trip`   native format, list reading (ANY `-setkeys`: in v1 `Setkeys` alone
                                 leaves arrays lists), hypotheses on the two input documents only; the
                                 codec on float64 list indices is the named hypothesis `IdxNumOK nc N`
                                 (`Float` is opaque to the kernel)
    `v1_merge_cli_round_trip`    `-f merge` (any `-color`, any `-setkeys`)
    `-f patch`, no key `-`: JdProps.C14V1.v1_patch_cli_round_trip, on `V1T.v1_patch_text_readback_noDash`
    `v1_setmodes_cli_round_trip` `-set` / `-mset` (SET wins), codec contract on the diff as hypothesis
    `v1_native_cli_round_trip_precision`  `-precision eps`, `eps ≥ 0` finite: `Equals` under the metadata
    `Example.ex_v1_cli_end_to_end`, `Example.ex_v1_merge_cli`  concrete files.
  v1 `jsonArray.Json` dispatches the ROOT array on the metadata (array.go), so `jd -v2=false -set -p`
  prints a root array deduplicated and in hash order — replayed on the real binary: `[3,1,2,1]` with
  an empty diff prints `[3,2,1]`; `v1Lib.renderDoc` is `V1.jsonM nc (V1.dispatch m r)`.

  NOT PROVED: `-color` (fails as for v2: `Render(COLOR)` output is rejected by `ReadDiffString`;
  evaluated on the model and on the real binary, exit 2); `-set` / `-mset` with `-setkeys`, with
  `-f merge` / `-f patch`, or with a precision; `-f merge` / `-f patch` with a precision; the codec
  contract of the `-set` / `-mset` theorem from the input documents (needs the analogue of `V1L.diff_parts` /
  `V1L.diff_idx` for the set readings); for `-precision` it is discharged by `CliExitV1.lr_contract`
  (JdProofs.CliExitCodesV1; JdProps.C05V1.v1_native_round_trip_precision_docs).
-/
import JdModel
import JdSpec
import JdProofs.CliProofs
import JdProofs.CliRoundTrip
import JdProofs.CliRoundTripModes
import JdProofs.JsonTextRoundTrip
import JdProofs.V1ListDiffPatch
import JdProofs.V1SetDiffPatch
import JdProofs.V1PatchRender
import JdProofs.V1MergeRender
import JdProofs.V1JsonText
import JdProofs.V1Precision

set_option linter.unusedVariables false
set_option autoImplicit false

namespace Jd.CliV1
open Jd Jd.Spec Jd.Cli Jd.CliRT Jd.CliRTM

/-! ## the metadata `main` hands to the v1 library -/

/-- a v1 `Metadata` value of the CLI model as a metadata value of the v1 library model.  COLOR is a
    `RenderOption` that also implements `Metadata`; `checkMetadata`, `getPrecision`,
    `getSetkeysMetadata` and `dispatch` ignore it, and the library model has no constructor for it. -/
def v1MetaOf : Cli.Meta → Option V1.Meta
  | .MERGE => some .merge
  | .SET => some .set
  | .MULTISET => some .mset
  | .COLOR => none
  | .SetPrecision e => some (.prec e)
  | .Setkeys ks => some (.setkeys ks)

/-- the metadata list of the v1 library for the option list of a plan (`Plan.opts` is in v2 naming:
    for the v1 library it is the image under `ofV1` of what `parseMetadata` built; `toV1` undoes it) -/
def metasOf (o : List Opt) : V1.Metas := (o.map toV1).filterMap v1MetaOf

/-- **the metadata are those of `parseMetadata`**: when binary B runs the v1 library, the option
    list of the plan is the image of the `[]jd.Metadata` that `parseMetadata` of /repo/main.go built,
    and `metasOf` gives that list back, constructor by constructor -/
theorem metasOf_parsedOptions {b : Binary} {fl : Flags} {opts : List Opt}
    (hv1 : libIsV1 b fl = true) (ho : parsedOptions b fl = .ok opts) :
    ∃ ms, metadataOfTopV1 fl = .ok ms ∧ opts = ms.map ofV1 ∧ metasOf opts = ms.filterMap v1MetaOf := by
  have hb : b ≠ .v2jd := by intro e; subst e; simp [libIsV1] at hv1
  have : parsedOptions b fl = (metadataOfTopV1 fl).map (List.map ofV1) := by
    cases b <;> simp_all [parsedOptions]
  rw [this] at ho
  cases hm : metadataOfTopV1 fl with
  | error e => rw [hm] at ho; cases ho
  | ok ms =>
    rw [hm] at ho
    have e : opts = ms.map ofV1 := by cases ho; rfl
    refine ⟨ms, rfl, e, ?_⟩
    subst e
    simp only [metasOf, List.map_map]
    congr 1
    conv => rhs; rw [← List.map_id ms]
    apply List.map_congr_left
    intro x _
    exact toV1_ofV1 x

/-- what the v1 library reads off the metadata list, in terms of the flags -/
theorem metas_facts {b : Binary} {fl : Flags} {opts : List Opt}
    (ho : parsedOptions b fl = .ok opts) :
    V1.hasSet (metasOf opts) = fl.set ∧ V1.hasMset (metasOf opts) = fl.mset ∧
    V1.hasMerge (metasOf opts) = (fl.f == "merge") ∧ V1.precOf (metasOf opts) = fl.precision := by
  obtain ⟨ks, _, rfl⟩ := optionsOf_ok ((parsedOptions_same b fl).symm.trans ho)
  cases fl.set <;> cases fl.mset <;> cases (fl.f == "merge") <;> cases ks <;>
    simp [metasOf, toV1, v1MetaOf, V1.hasSet, V1.hasMset, V1.hasMerge, V1.precOf]

/-! ## the v1 library of the model as a `Lib` -/

/-- `Render` has no error result in Go: a text the codec cannot print (`.ok none`), and the panic of
    `raw()` on a nil metadata entry, which `cliM` does not represent, are mapped to the empty text -/
def textOrEmpty : Jd.Outcome (Option String) → String
  | .ok (some s) => s
  | _ => ""

def liftOutcome : Jd.Outcome V1.VDiff → Jd.Outcome V1.PDiff
  | .ok d => .ok (V1.liftDiff d)
  | .err => .err
  | .panic => .panic

/-- **the v1 library functions of the model, in the shape `printDiff` / `printPatch` of /repo/main.go
    call them** (`-v2=false`).  Documents: `Json`; diffs: `V1.PDiff` (what `ReadPatchString` returns
    may hold `jsonStringOrInteger` tokens; `Diff` and the other two readers give node-only paths,
    lifted with `liftDiff`).
      readDoc   `jd.ReadJsonString` (the same `unmarshal` as v2: `readJsonM`) / `jd.ReadYamlString`
      diff      `aNode.Diff(bNode, metadata...)` with `metadata = metasOf opts`
      renderJd  `diff.Render()` / `diff.Render(jd.COLOR)`
      renderPatch / renderMerge   `diff.RenderPatch()` / `diff.RenderMerge()`
      readDiff  `jd.ReadDiffString` / `jd.ReadPatchString` / `jd.ReadMergeString`
      patch     `aNode.Patch(diff)`
      renderDoc `bNode.Json(metadata...)` / `bNode.Yaml(metadata...)`: in v1 `jsonArray.Json`
                dispatches the ROOT array on the metadata before printing (array.go), every other
                node kind ignores them: `V1.jsonM nc (V1.dispatch m n)`. -/
def v1Lib (nc : NumCodec) (Y : YamlCarrier) : Lib Json V1.PDiff where
  readDoc yaml s := if yaml then Y.read s else ofOutcome (readJsonM nc s)
  diff o a b := V1.liftDiff (V1.diffM (metasOf o) a b)
  diffLen d := d.length
  renderJd color d := textOrEmpty (V1.renderM nc color d)
  renderPatch d := ofOutcomeText (V1.renderPatchM nc d)
  renderMerge d := ofOutcomeText (V1.renderMergeM nc d)
  readDiff fmt s := ofOutcome (match fmt with
    | .jd => liftOutcome (V1.readDiffM nc s)
    | .patch => V1.readPatchM nc s
    | .merge => liftOutcome (V1.readMergeM nc s))
  patch a d := ofOutcome (V1.patchP a d)
  renderDoc yaml o n :=
    if yaml then Y.render o n else (V1.jsonM nc (V1.dispatch (metasOf o) n)).getD ""

theorem v1Lib_diff (nc : NumCodec) (Y : YamlCarrier) (o : List Opt) (a b : Json) :
    (v1Lib nc Y).diff o a b = V1.liftDiff (V1.diffM (metasOf o) a b) := rfl
theorem v1Lib_renderJd_plain (nc : NumCodec) (Y : YamlCarrier) (d : V1.PDiff) :
    (v1Lib nc Y).renderJd false d = textOrEmpty (V1.renderM nc false d) := rfl
/- The field equations keep the `match` / `if` of the field's body on the right-hand side, so that `rfl`
   only unfolds the record (with the branch already decided it evaluates the reader on the symbolic text). -/
theorem v1Lib_readDiff (nc : NumCodec) (Y : YamlCarrier) (fmt : Format) (s : String) :
    (v1Lib nc Y).readDiff fmt s = ofOutcome (match fmt with
      | .jd => liftOutcome (V1.readDiffM nc s)
      | .patch => V1.readPatchM nc s
      | .merge => liftOutcome (V1.readMergeM nc s)) := rfl
theorem v1Lib_readDoc (nc : NumCodec) (Y : YamlCarrier) (yaml : Bool) (s : String) :
    (v1Lib nc Y).readDoc yaml s = if yaml then Y.read s else ofOutcome (readJsonM nc s) := rfl
theorem v1Lib_readDoc_json (nc : NumCodec) (Y : YamlCarrier) (s : String) :
    (v1Lib nc Y).readDoc false s = ofOutcome (readJsonM nc s) :=
  (v1Lib_readDoc nc Y false s).trans (if_neg Bool.false_ne_true)
theorem v1Lib_renderDoc_json (nc : NumCodec) (Y : YamlCarrier) (o : List Opt) (n : Json) :
    (v1Lib nc Y).renderDoc false o n = (V1.jsonM nc (V1.dispatch (metasOf o) n)).getD "" := rfl
theorem v1Lib_diffLen (nc : NumCodec) (Y : YamlCarrier) (d : V1.VDiff) :
    (v1Lib nc Y).diffLen (V1.liftDiff d) = d.length := by
  simp [v1Lib, V1.liftDiff]

/-- **the three library calls of the round trip, from the v1 model**: what `Render` / `RenderPatch` /
    `RenderMerge` returns for the diff, what the reader of the format makes of the text (the native and
    the merge reader give node-only paths, lifted), what `Patch` returns — as calls of `v1Lib` -/
theorem v1Lib_calls (nc : NumCodec) (Y : YamlCarrier) {fmt : Format} {color : Bool}
    {opts : List Opt} {d' : V1.PDiff} {T : String} {a b r : Json}
    (hren : (match fmt with
      | .jd => V1.renderM nc color (V1.liftDiff (V1.diffM (metasOf opts) a b))
      | .patch => V1.renderPatchM nc (V1.liftDiff (V1.diffM (metasOf opts) a b))
      | .merge => V1.renderMergeM nc (V1.liftDiff (V1.diffM (metasOf opts) a b))) = .ok (some T))
    (hrd : (match fmt with
      | .jd => liftOutcome (V1.readDiffM nc T)
      | .patch => V1.readPatchM nc T
      | .merge => liftOutcome (V1.readMergeM nc T)) = .ok d')
    (hpa : V1.patchP a d' = .ok r) :
    Calls (v1Lib nc Y) fmt color opts a b T d' r := by
  refine ⟨?_, ?_, congrArg ofOutcome hpa⟩
  · cases fmt
    · exact congrArg (fun x => Except.ok (textOrEmpty x)) hren
    · exact congrArg ofOutcomeText hren
    · exact congrArg ofOutcomeText hren
  · cases fmt <;> exact (v1Lib_readDiff nc Y _ T).trans (congrArg ofOutcome hrd)

/-! ## LIBRARY LEVEL, native format, list reading: the codec contract and render success from
      hypotheses on the INPUT documents -/

section ListLib
open Jd.V1P (plain HOK ListMode IdxLaws lenLe vfree)

/-- the number codec on list indices: v1 writes a list index into a diff path as the float64
    `jsonNumber(i)` and the append index as `jsonNumber(-1)`; `Float` is opaque to the kernel, so that
    the codec prints these numbers and reads them back (`JText.numOK`; true of `strconv` for every
    `i < 2^53`) is a named hypothesis, needed for the indices below `N` only -/
structure IdxNumOK (nc : NumCodec) (N : Nat) : Prop where
  nat : ∀ i : Nat, i < N → JText.numOK nc (Float.ofNat i).toBits = true
  neg1 : JText.numOK nc (Float.ofInt (-1)).toBits = true

/-- the part of the text domain inherited by the parts of a document -/
def WTOK (nc : NumCodec) (v : Json) : Prop :=
  v.wf = true ∧ Yaml.voidFree v = true ∧ JText.NumOK nc v = true

theorem hered_wtok (nc : NumCodec) : Hered (WTOK nc) := hered_wf.and (V1T.hered_tok nc)

theorem WTOK.closed (nc : NumCodec) : V1T.Closed (WTOK nc) where
  elem := (hered_wtok nc).elem
  member := (hered_wtok nc).member
  retag := by
    intro t xs t' h
    exact ⟨by simpa [Json.wf] using h.1, (V1T.TOK.closed nc).retag t' ⟨h.2.1, h.2.2⟩⟩

/-- a value of the text domain that is a list document is printed by `json.Marshal(node)`, the text
    has no newline, and `ReadJsonString` of the payload gives the value back up to array tags -/
theorem valOK_of_wtok (nc : NumCodec) {v : Json} (hl : v.listDoc = true) (h : WTOK nc v) :
    (V1.marshalNode nc v).isSome = true ∧ V1S.ValOK nc v := by
  have hp : JText.preOK nc v = true := by rw [JText.preOK_iff, h.1, h.2.1, h.2.2]; rfl
  obtain ⟨s, hs, hnl, hrd⟩ :=
    JText.V1T.readJsonM_marshalNode nc v (JText.mOK_of_preOK nc v hp) [' '] [] (by decide) rfl
  refine ⟨by rw [hs]; rfl, ?_⟩
  intro t ht
  rw [hs] at ht
  cases ht
  refine ⟨hnl, ?_⟩
  rw [V1T.mnorm_listDoc v hl h.2.1] at hrd
  have e : " " ++ s = String.ofList ([' '] ++ s.toList ++ []) := by
    rw [← String.toList_inj]; simp [String.toList_append]
  rw [e]; exact hrd

/-- a plain path whose index elements are `jsonNumber(-1)` or `jsonNumber(k)`, `k < N` -/
theorem preOKList_path (nc : NumCodec) {N : Nat} (J : IdxNumOK nc N) :
    ∀ p : List Json, plain p = true → V1L.idxP N p →
      JText.preOKList nc p = true ∧ rawDocList p = true
  | [], _, _ => ⟨rfl, rfl⟩
  | x :: r, hp, hi => by
    have ih : plain r = true → JText.preOKList nc r = true ∧ rawDocList r = true := fun h =>
      preOKList_path nc J r h (fun e he => hi e (List.mem_cons_of_mem _ he))
    cases x with
    | str s =>
      obtain ⟨i1, i2⟩ := ih (by simpa [plain] using hp)
      simp [JText.preOKList, JText.preOK, rawDocList, Json.rawDoc, i1, i2]
    | num bts =>
      obtain ⟨i1, i2⟩ := ih (by simpa [plain] using hp)
      have hn : JText.numOK nc bts = true := by
        rcases hi (.num bts) List.mem_cons_self bts rfl with e | ⟨k, hk, e⟩
        · have : bts = (Float.ofInt (-1)).toBits := by simpa [V1.numNeg1] using e
          rw [this]; exact J.neg1
        · have : bts = (Float.ofNat k).toBits := by simpa [V1.numOfNat] using e
          rw [this]; exact J.nat k hk
      simp [JText.preOKList, JText.preOK, rawDocList, Json.rawDoc, i1, i2, hn]
    | _ => simp [plain] at hp

/-- … such a path is printed, and the codec contract `V1S.PathOK` holds of it -/
theorem pathOK_of_idx (nc : NumCodec) {N : Nat} (J : IdxNumOK nc N) (p : List Json)
    (hp : plain p = true) (hi : V1L.idxP N p) :
    (jsonText nc (.arr .raw (V1.rawNormList p))).isSome = true ∧ V1S.PathOK nc p := by
  obtain ⟨h1, h2⟩ := preOKList_path nc J p hp hi
  have hpre : JText.preOK nc (.arr .raw p) = true := by simpa [JText.preOK] using h1
  have hraw : (Json.arr .raw p).rawDoc = true := by simpa [Json.rawDoc] using h2
  rw [V1S.rawNormList_plain p hp]
  obtain ⟨s, hs⟩ := JText.jsonText_some nc _ hpre
  refine ⟨by rw [hs]; rfl, ?_⟩
  unfold V1S.PathOK
  rw [V1S.rawNormList_plain p hp]
  intro t ht
  rw [hs] at ht
  cases ht
  refine ⟨JText.jsonText_noNL nc _ s hpre hs, ?_⟩
  have := JText.readJsonM_text nc _ s hpre hraw hs [' '] [] (by decide) rfl
  have e : " " ++ s = String.ofList ([' '] ++ s.toList ++ []) := by
    rw [← String.toList_inj]; simp [String.toList_append]
  rw [e]; exact this

/-- `Render` succeeds on a diff whose paths can be written and printed and whose non-void values
    can be printed -/
theorem render_ok (nc : NumCodec) (d : V1.VDiff) (hm : ∀ h ∈ d, V1S.metaOK h.path = true)
    (hp : ∀ h ∈ d, (jsonText nc (.arr .raw (V1.rawNormList h.path))).isSome = true)
    (hv : ∀ h ∈ d, ∀ v ∈ h.old ++ h.new, v.isVoid = false → (V1.marshalNode nc v).isSome = true) :
    ∃ text, V1.renderM nc false (V1.liftDiff d) = .ok (some text) := by
  rw [V1S.renderM_lines nc d hm]
  have hall : (optAll (d.map (V1S.hunkLines nc))).isSome = true := by
    apply E2E.optAll_isSome
    intro x hx
    obtain ⟨h, hh, rfl⟩ := List.mem_map.1 hx
    obtain ⟨pt, hpt⟩ := Option.isSome_iff_exists.1 (hp h hh)
    have ho : (optAll ((V1S.oldVals h).map (V1S.remLine nc))).isSome = true := by
      apply E2E.optAll_isSome
      intro y hy
      obtain ⟨v, hv', rfl⟩ := List.mem_map.1 hy
      obtain ⟨t, ht⟩ := Option.isSome_iff_exists.1
        (hv h hh v (V1S.mem_oldVals hv').1 (V1S.mem_oldVals hv').2)
      simp [V1S.remLine, ht]
    have hn : (optAll ((V1S.newVals h).map (V1S.addLine nc))).isSome = true := by
      apply E2E.optAll_isSome
      intro y hy
      obtain ⟨v, hv', rfl⟩ := List.mem_map.1 hy
      unfold V1S.addLine
      by_cases hvv : v.isVoid = true
      · simp [hvv]
      · obtain ⟨t, ht⟩ := Option.isSome_iff_exists.1
          (hv h hh v (V1S.mem_newVals hv') (by simpa using hvv))
        simp [hvv, ht]
    obtain ⟨o, ho'⟩ := Option.isSome_iff_exists.1 ho
    obtain ⟨n, hn'⟩ := Option.isSome_iff_exists.1 hn
    simp [V1S.hunkLines, hpt, ho', hn']
  obtain ⟨ls, hls⟩ := Option.isSome_iff_exists.1 hall
  exact ⟨NativeRT.unlines ls.flatten, by simp [V1S.diffLines, hls]⟩

/-! ### the hunks of a v1 diff in the LIST reading (`V1Pr.ListReading`: no SET / MULTISET / MERGE;
      ANY `Setkeys`, ANY precision) -/

section ListReadingHunks
open Jd.V1Pr (ListReading)

/-- what is known of every hunk of a list-reading v1 diff of two documents of the text domain -/
theorem lr_diff_facts (nc : NumCodec) {N : Nat} (m : V1.Metas) (hm : ListReading m) (a b : Json)
    (ha1 : a.listDoc = true) (ha2 : a.wf = true) (ha4 : Yaml.voidFree a = true)
    (ha5 : lenLe N a = true) (ha6 : JText.NumOK nc a = true)
    (hb1 : b.listDoc = true) (hb2 : b.wf = true) (hb4 : Yaml.voidFree b = true)
    (hb6 : JText.NumOK nc b = true) :
    ∀ h ∈ V1.diffM m a b, plain h.path = true ∧ V1L.idxP N h.path ∧
      ∀ v ∈ h.old ++ h.new, v.listDoc = true ∧ WTOK nc v := by
  have hd : V1.diffM m a b = V1.diffNode m false a b [] := by
    unfold V1.diffM; rw [hm.noMerge]
  have va := V1T.vfree_of_voidFree a ha4
  have vb := V1T.vfree_of_voidFree b hb4
  have hbv := Yaml.voidFree_notVoid hb4
  intro h hh
  rw [hd] at hh
  have k1 := (V1Pr.diff_hunks m hm a b ha1 hb1 h hh).1
  have k2 := V1S.diff_vals m hm.tag ha1 hb1 va vb hbv h hh
  have k3 := V1L.diff_idx N m hm.tag a b ha1 hb1 ha5 h hh
  have C := WTOK.closed nc
  have k4 := (V1L.diff_parts (WTOK nc) (fun _ => True) C.elem
    (fun h hm' => ⟨trivial, C.member h hm'⟩) (C.retag _) m hm.tag) a b ha1 hb1
    (fun _ => ⟨ha2, ha4, ha6⟩) ⟨hb2, hb4, hb6⟩ h hh
  refine ⟨k1.plain, k3, ?_⟩
  intro v hv
  rcases List.mem_append.1 hv with hv | hv
  · exact ⟨V1S.listDocList_mem k2.old hv, k4.old v hv⟩
  · exact ⟨V1S.listDocList_mem k2.new hv, k4.new v hv⟩

end ListReadingHunks

/-- **LIBRARY LEVEL (v1), native format, list reading, hypotheses on the two documents only**:
    `a.Diff(b, m...)` is rendered by `Render()`, `ReadDiffString` reads the text back, and `a.Patch`
    of the diff read yields a document that `Equals` `b` (and is structurally equal to it).
    The codec contract `V1S.CodecOK` and render success of `V1S.v1_text_roundtrip_list` are
    discharged from `Yaml.voidFree`, `JText.NumOK` on `a`, `b` and `IdxNumOK nc N`. -/
theorem v1_list_lib_round_trip (L : FloatLaws) {N : Nat} (I : IdxLaws N) (nc : NumCodec)
    (J : IdxNumOK nc N) (m : V1.Metas) (hm : ListMode m) (a b : Json)
    (ha1 : a.listDoc = true) (ha2 : a.wf = true) (ha3 : a.finiteNums = true)
    (ha4 : Yaml.voidFree a = true) (ha5 : lenLe N a = true) (ha6 : JText.NumOK nc a = true)
    (hb1 : b.listDoc = true) (hb2 : b.wf = true) (hb3 : b.finiteNums = true)
    (hb4 : Yaml.voidFree b = true) (hb6 : JText.NumOK nc b = true) :
    ∃ text d' r, V1.renderM nc false (V1.liftDiff (V1.diffM m a b)) = .ok (some text) ∧
      V1.readDiffM nc text = .ok d' ∧ V1.patchM a d' = .ok r ∧ V1.equals m r b = true ∧
      specEq r b = true := by
  have F := lr_diff_facts nc (N := N) m (V1Pr.PrecMode.of_listMode hm).lr a b ha1 ha2 ha4 ha5 ha6
    hb1 hb2 hb4 hb6
  have hc : V1S.CodecOK nc (V1.diffM m a b) := by
    intro h hh
    obtain ⟨f1, f2, f3⟩ := F h hh
    exact ⟨(pathOK_of_idx nc J h.path f1 f2).2,
      fun v hv _ => (valOK_of_wtok nc (f3 v hv).1 (f3 v hv).2).2⟩
  obtain ⟨text, hr⟩ := render_ok nc (V1.diffM m a b)
    (fun h hh => V1S.metaOK_plain h.path (F h hh).1)
    (fun h hh => (pathOK_of_idx nc J h.path (F h hh).1 (F h hh).2.1).1)
    (fun h hh v hv _ => (valOK_of_wtok nc ((F h hh).2.2 v hv).1 ((F h hh).2.2 v hv).2).1)
  obtain ⟨d', r, g1, g2, g3, g4⟩ :=
    V1S.v1_text_roundtrip_list L I nc m hm a b ha1 ha2 ha3 (V1T.vfree_of_voidFree a ha4) ha5
      hb1 hb2 hb3 (V1T.vfree_of_voidFree b hb4) (Yaml.voidFree_notVoid hb4) hc text hr
  exact ⟨text, d', r, hr, g1, g2, g3, g4⟩

end ListLib

/-! ## END TO END, native format, list reading, v1 library -/

section NativeCli
open Jd.V1P (ListMode IdxLaws lenLe)

/-- list reading on the command line (`-set`, `-mset` absent, native format, `-precision` 0 or
    absent; ANY `-setkeys`: in v1 `Setkeys` alone leaves arrays lists): the metadata are `ListMode` -/
theorem listMode_of_flags {b : Binary} {fl : Flags} {opts : List Opt}
    (ho : parsedOptions b fl = .ok opts) (hset : fl.set = false) (hmset : fl.mset = false)
    (hnm : (fl.f == "merge") = false) (hprec : fl.precision = 0) : ListMode (metasOf opts) := by
  obtain ⟨m1, m2, m3, m4⟩ := metas_facts ho
  exact ⟨by rw [m1, hset], by rw [m2, hmset], by rw [m3, hnm], by rw [m4, hprec]⟩

/-- **END TO END, native format, list reading, v1 library** (`v1_native_cli_round_trip`): the
    analogue of `CliRT.native_cli_round_trip` for binary B started with `-v2=false`.
    `jd -v2=false [-setkeys ks] [-yaml] [-o F] a b` followed by
    `jd -v2=false -p [same flags] [-o G] T a`: the first process exits 0 or 1 (1 exactly when the
    text is not empty) and emits the text `T` of `a.Diff(b, metadata...)`; `ReadDiffString` reads
    `T` back, `a.Patch` of it gives `r`; `r` `Equals` `b` under the metadata and is structurally
    equal to it; the second process exits 0 and emits `r.Json(metadata...)` / `r.Yaml(metadata...)`.
    No library hypothesis and no hypothesis about the diff: only the two parsed documents, the flags
    and the two float / codec laws on list indices (`IdxLaws N`, `IdxNumOK nc N`). -/
theorem v1_native_cli_round_trip (FL : FloatLaws) {N : Nat} (I : IdxLaws N) {nc : NumCodec}
    {Y : YamlCarrier} {Ls : Bool → LibPack} {b : Binary} {fl fl2 : Flags} {e1 e2 : Env} {a b' : Json}
    (S : Session (v1Lib nc Y) Ls b fl fl2 e1 e2 a b')
    (J : IdxNumOK nc N) {opts : List Opt} (ho : parsedOptions b fl = .ok opts)
    (hset : fl.set = false) (hmset : fl.mset = false) (hprec : fl.precision = 0)
    (hfmt : formatOf fl.f = some .jd) (hcolor : fl.color = false)
    (ha1 : a.listDoc = true) (ha2 : a.wf = true) (ha3 : a.finiteNums = true)
    (ha4 : Yaml.voidFree a = true) (ha5 : lenLe N a = true) (ha6 : JText.NumOK nc a = true)
    (hb1 : b'.listDoc = true) (hb2 : b'.wf = true) (hb3 : b'.finiteNums = true)
    (hb4 : Yaml.voidFree b' = true) (hb6 : JText.NumOK nc b' = true) :
    ∃ T d' r,
      V1.renderM nc false (V1.liftDiff (V1.diffM (metasOf opts) a b')) = .ok (some T) ∧
      V1.readDiffM nc T = .ok d' ∧ V1.patchM a d' = .ok r ∧
      V1.equals (metasOf opts) r b' = true ∧ specEq r b' = true ∧
      TwoRuns (proc Ls b fl e1) (proc Ls b fl2 e2) fl fl2 T (if T = "" then 0 else 1)
        ((v1Lib nc Y).renderDoc fl.yaml opts r) := by
  have hM := listMode_of_flags ho hset hmset (not_merge_of_jd hfmt) hprec
  obtain ⟨T, d', r, g1, g2, g3, g4, g5⟩ :=
    v1_list_lib_round_trip FL I nc J (metasOf opts) hM a b' ha1 ha2 ha3 ha4 ha5 ha6
      hb1 hb2 hb3 hb4 hb6
  refine ⟨T, d', r, g1, g2, g3, g4, g5, ?_⟩
  have := S.twoRuns ho hfmt (v1Lib_calls nc Y (by rw [hcolor]; exact g1) (congrArg liftOutcome g2) g3)
  simpa [firstExit] using this

end NativeCli

/-! ## `-f merge` (RFC 7386 text), v1 library -/

section MergeCli
open Jd.Merge Jd.V1M

/-- **LIBRARY LEVEL (v1), `RenderMerge` / `ReadMergeString` / `Patch`**, equal documents included:
    composition of `V1T.v1_merge_text_readback` (the documents differ) with the empty diff (the text
    `{}` is read back as the empty diff, `Patch` returns `a`, which `Equals` `b`). -/
theorem v1_merge_lib_round_trip (L : FloatLaws) (nc : NumCodec) {m : V1.Metas} (hm : MergeMode m)
    (a b : Json) (haw : a.wf = true) (har : a.rawDoc = true)
    (hbw : b.wf = true) (hbr : b.rawDoc = true) (hbn : b.nullFree = true)
    (hbf : b.finiteNums = true) (hbv : Yaml.voidFree b = true) (hbN : JText.NumOK nc b = true)
    (hab : mergeRTDom a b = true) :
    ∃ text d' r, V1.renderMergeM nc (V1.liftDiff (V1.diffM m a b)) = .ok (some text) ∧
      V1.readMergeM nc text = .ok d' ∧ V1.patchM a d' = .ok r ∧ V1.equals m r b = true ∧
      specEq r b = true ∧ r.listDoc = true := by
  have hov := V1T.objVoidFree_of_voidFree b hbv
  by_cases heq : V1.equals m a b = true
  · have hd := (V1S.v1_merge_diff_empty_iff_equals L hm a b haw har hbw hbr hov hbf).2 heq
    obtain ⟨r, p1, p2, p3, p4⟩ := V1S.v1_merge_diff_patch L hm a b haw har hbw hbr hov hbf
    rw [hd] at p1
    have hr : r = a := by
      have : V1.patchM a [] = .ok a := rfl
      rw [this] at p1; cases p1; rfl
    subst hr
    refine ⟨"{}", [], r, ?_, (V1T.empty_object_text nc).2, rfl, p2, p3, p4⟩
    rw [hd]; rfl
  · obtain ⟨text, p, d, r, g1, _, g3, g4, _, g6, g7, g8⟩ :=
      V1T.v1_merge_text_readback L nc hm a b haw har hbw hbr hbn hbf hbv hbN
        (by simpa using heq) ((mergeRTDom_iff a b).1 hab)
    exact ⟨text, d, r, g1, g3, g4, g6, g7, g8⟩

/-- `-f merge`, no `-set` / `-mset`, `-precision` 0 or absent (any `-setkeys`): `MergeMode` -/
theorem mergeMode_of_flags {b : Binary} {fl : Flags} {opts : List Opt}
    (ho : parsedOptions b fl = .ok opts) (hset : fl.set = false) (hmset : fl.mset = false)
    (hf : fl.f = "merge") (hprec : fl.precision = 0) : MergeMode (metasOf opts) := by
  obtain ⟨m1, m2, m3, m4⟩ := metas_facts ho
  exact ⟨by rw [m3, hf]; rfl, by rw [m1, hset], by rw [m2, hmset], by rw [m4, hprec]⟩

/-- **END TO END, `-f merge` (RFC 7386), list reading, v1 library**:
    `jd -v2=false -f merge [-yaml] [-color] [-o F] a b` followed by
    `jd -v2=false -p -f merge [same flags] [-o G] T a`. -/
theorem v1_merge_cli_round_trip (L : FloatLaws) {nc : NumCodec}
    {Y : YamlCarrier} {Ls : Bool → LibPack} {b : Binary} {fl fl2 : Flags} {e1 e2 : Env} {a b' : Json}
    (S : Session (v1Lib nc Y) Ls b fl fl2 e1 e2 a b')
    {opts : List Opt} (ho : parsedOptions b fl = .ok opts)
    (hf : fl.f = "merge") (hset : fl.set = false) (hmset : fl.mset = false)
    (hprec : fl.precision = 0)
    (haw : a.wf = true) (har : a.rawDoc = true)
    (hbw : b'.wf = true) (hbr : b'.rawDoc = true) (hbn : b'.nullFree = true)
    (hbf : b'.finiteNums = true) (hbv : Yaml.voidFree b' = true) (hbN : JText.NumOK nc b' = true)
    (hab : mergeRTDom a b' = true) :
    ∃ T d' r,
      V1.renderMergeM nc (V1.liftDiff (V1.diffM (metasOf opts) a b')) = .ok (some T) ∧
      V1.readMergeM nc T = .ok d' ∧ V1.patchM a d' = .ok r ∧
      V1.equals (metasOf opts) r b' = true ∧ specEq r b' = true ∧ r.listDoc = true ∧
      TwoRuns (proc Ls b fl e1) (proc Ls b fl2 e2) fl fl2 T
        (if (V1.diffM (metasOf opts) a b').length > 0 then 1 else 0)
        ((v1Lib nc Y).renderDoc fl.yaml opts r) := by
  have hM := mergeMode_of_flags ho hset hmset hf hprec
  have hfmt : formatOf fl.f = some .merge := by rw [hf]; rfl
  obtain ⟨T, d', r, g1, g2, g3, g4, g5, g6⟩ :=
    v1_merge_lib_round_trip L nc hM a b' haw har hbw hbr hbn hbf hbv hbN hab
  refine ⟨T, d', r, g1, g2, g3, g4, g5, g6, ?_⟩
  have := S.twoRuns ho hfmt (v1Lib_calls nc Y g1 (congrArg liftOutcome g2) g3)
  simpa [firstExit, v1Lib_diff, v1Lib_diffLen] using this

end MergeCli

/-! ## native format with `-set` / `-mset`, v1 library (codec contract on the diff) -/

section SetCli
open Jd.V1P (vfree)

/-- the reading the v1 library gives `-set` / `-mset` / both: SET wins (`dispatch`, metadata.go) -/
def setReading (fl : Flags) : Opts := if fl.set then [Opt.set] else [Opt.mset]

/-- the metadata `parseMetadata` builds for `jd -v2=false -set` / `-mset` (no `-setkeys`, native
    format, precision 0) select the SET resp. MULTISET reading of `V1S.Mode` -/
theorem mode_of_flags {fl : Flags} (hsm : fl.set = true ∨ fl.mset = true)
    (hprec : fl.precision = 0) : V1S.Mode (metasOf (modeOpts fl)) (setReading fl) := by
  unfold modeOpts setReading
  rw [hprec]
  cases hs : fl.set <;> cases hms : fl.mset
  · simp [hs, hms] at hsm
  · exact (show V1S.MsetMode [.mset, .prec 0] from ⟨rfl, rfl, rfl, rfl, rfl⟩).mode
  · exact (show V1S.SetMode [.set, .prec 0] from ⟨rfl, rfl, rfl, rfl⟩).mode
  · exact (show V1S.SetMode [.set, .mset, .prec 0] from ⟨rfl, rfl, rfl, rfl⟩).mode

/-- **END TO END, native format, `-set` / `-mset`, v1 library**: the diff read back from the text IS
    the diff.  The codec contract is a hypothesis on the paths and values of the diff at hand (`hp`,
    `hv`: each is printed, the text has no newline and reads back), as `hp` of
    `CliRT.native_cli_round_trip`; the hash hypothesis is `V1S.HashFaithful` (v1 hashes). -/
theorem v1_setmodes_cli_round_trip (F : FloatEq0) (FL : FloatLaws) {nc : NumCodec}
    {Y : YamlCarrier} {Ls : Bool → LibPack} {b : Binary} {fl fl2 : Flags} {e1 e2 : Env} {a b' : Json}
    (S : Session (v1Lib nc Y) Ls b fl fl2 e1 e2 a b')
    (hsm : fl.set = true ∨ fl.mset = true) (hkeys : fl.setkeys = "") (hprec : fl.precision = 0)
    (hfmt : formatOf fl.f = some .jd) (hcolor : fl.color = false)
    (ha : a.setDoc = true) (hb : b'.setDoc = true)
    (hva : Yaml.voidFree a = true) (hvb : Yaml.voidFree b' = true)
    (HF : V1S.HashFaithful (metasOf (modeOpts fl)) (setReading fl) (subterms a ++ subterms b'))
    (hp : ∀ h ∈ V1.diffM (metasOf (modeOpts fl)) a b',
      (jsonText nc (.arr .raw (V1.rawNormList h.path))).isSome = true ∧ V1S.PathOK nc h.path)
    (hv : ∀ h ∈ V1.diffM (metasOf (modeOpts fl)) a b', ∀ v ∈ h.old ++ h.new,
      (V1.marshalNode nc v).isSome = true ∧ V1S.ValOK nc v) :
    ∃ T r,
      parsedOptions b fl = .ok (modeOpts fl) ∧
      V1.renderM nc false (V1.liftDiff (V1.diffM (metasOf (modeOpts fl)) a b')) = .ok (some T) ∧
      V1.readDiffM nc T = .ok (V1.diffM (metasOf (modeOpts fl)) a b') ∧
      V1.patchM a (V1.diffM (metasOf (modeOpts fl)) a b') = .ok r ∧
      V1.equals (metasOf (modeOpts fl)) r b' = true ∧ equivB (setReading fl) r b' = true ∧
      TwoRuns (proc Ls b fl e1) (proc Ls b fl2 e2) fl fl2 T (if T = "" then 0 else 1)
        ((v1Lib nc Y).renderDoc fl.yaml (modeOpts fl) r) := by
  have ho := parsedOptions_setmodes b hkeys hprec hfmt
  have M := mode_of_flags hsm hprec
  have va := V1T.vfree_of_voidFree a hva
  have vb := V1T.vfree_of_voidFree b' hvb
  have ma := V1P.memOK_of_vfree a va
  have mb := V1P.memOK_of_vfree b' vb
  have hbv := Yaml.voidFree_notVoid hvb
  -- the hunks are `GH` hunks: their paths can be written
  have hmeta : ∀ h ∈ V1.diffM (metasOf (modeOpts fl)) a b', V1S.metaOK h.path = true := by
    obtain ⟨D, e, g⟩ := V1S.shape_node F M HF a b' ⟨ha, ma⟩ ⟨hb, mb⟩ va vb hbv
      (fun z hz => List.mem_append.2 (Or.inl hz)) (fun z hz => List.mem_append.2 (Or.inr hz)) []
    rw [V1S.shift_nil_map] at e
    have hd : V1.diffM (metasOf (modeOpts fl)) a b' = D := by
      unfold V1.diffM; rw [M.noMerge, e]
    rw [hd]
    exact fun h hh => (g h hh).mOK
  have hc : V1S.CodecOK nc (V1.diffM (metasOf (modeOpts fl)) a b') :=
    fun h hh => ⟨(hp h hh).2, fun v hv' _ => (hv h hh v hv').2⟩
  obtain ⟨T, hr⟩ := render_ok nc _ hmeta (fun h hh => (hp h hh).1)
    (fun h hh v hv' _ => (hv h hh v hv').1)
  obtain ⟨g2, r, g3, g4, g5⟩ :=
    V1S.v1_text_roundtrip_setmodes F FL nc M a b' ha hb ma mb va vb hbv HF hc T hr
  refine ⟨T, r, ho, hr, g2, g3, g4, g5, ?_⟩
  have := S.twoRuns ho hfmt (v1Lib_calls nc Y (by rw [hcolor]; exact hr) (congrArg liftOutcome g2) g3)
  simpa [firstExit] using this

end SetCli

/-! ## native format, list reading, `-precision eps` (eps ≥ 0), v1 library -/

section PrecCli
open Jd.V1P (IdxLaws lenLe vfree)

/-- **END TO END, native format, list reading with `-precision eps`, `eps` finite and non-negative,
    v1 library**: v1 `Diff` honours the precision, so the patched document `Equals` `b` UNDER THE
    METADATA (it keeps the numbers of `a` that were within `eps`), not structurally.  The codec
    contract is a hypothesis on the paths and values of the diff at hand (`hp`, `hv`). -/
theorem v1_native_cli_round_trip_precision (FL : FloatLaws) {N : Nat} (I : IdxLaws N)
    {nc : NumCodec}
    {Y : YamlCarrier} {Ls : Bool → LibPack} {b : Binary} {fl fl2 : Flags} {e1 e2 : Env} {a b' : Json}
    (S : Session (v1Lib nc Y) Ls b fl fl2 e1 e2 a b')
    {opts : List Opt} (ho : parsedOptions b fl = .ok opts)
    (hset : fl.set = false) (hmset : fl.mset = false) (hprec : nonnegBits fl.precision = true)
    (hfmt : formatOf fl.f = some .jd) (hcolor : fl.color = false)
    (ha1 : a.listDoc = true) (ha2 : a.wf = true) (ha3 : a.finiteNums = true)
    (ha4 : Yaml.voidFree a = true) (ha5 : lenLe N a = true)
    (hb1 : b'.listDoc = true) (hb2 : b'.wf = true) (hb3 : b'.finiteNums = true)
    (hb4 : Yaml.voidFree b' = true)
    (hp : ∀ h ∈ V1.diffM (metasOf opts) a b',
      (jsonText nc (.arr .raw (V1.rawNormList h.path))).isSome = true ∧ V1S.PathOK nc h.path)
    (hv : ∀ h ∈ V1.diffM (metasOf opts) a b', ∀ v ∈ h.old ++ h.new,
      (V1.marshalNode nc v).isSome = true ∧ V1S.ValOK nc v) :
    ∃ T d' r,
      V1.renderM nc false (V1.liftDiff (V1.diffM (metasOf opts) a b')) = .ok (some T) ∧
      V1.readDiffM nc T = .ok d' ∧ V1.patchM a d' = .ok r ∧
      V1.equals (metasOf opts) r b' = true ∧ equivB [Opt.prec fl.precision] r b' = true ∧
      TwoRuns (proc Ls b fl e1) (proc Ls b fl2 e2) fl fl2 T (if T = "" then 0 else 1)
        ((v1Lib nc Y).renderDoc fl.yaml opts r) := by
  obtain ⟨m1, m2, m3, m4⟩ := metas_facts ho
  have hM : V1Pr.PrecMode (metasOf opts) :=
    ⟨by rw [m1, hset], by rw [m2, hmset], by rw [m3, not_merge_of_jd hfmt], by rw [m4]; exact hprec⟩
  have va := V1T.vfree_of_voidFree a ha4
  have vb := V1T.vfree_of_voidFree b' hb4
  have hd : V1.diffM (metasOf opts) a b' = V1.diffNode (metasOf opts) false a b' [] := by
    unfold V1.diffM; rw [hM.noMerge]
  have hmeta : ∀ h ∈ V1.diffM (metasOf opts) a b', V1S.metaOK h.path = true := by
    intro h hh
    rw [hd] at hh
    exact V1S.metaOK_plain h.path (V1Pr.diff_hunks _ hM.lr a b' ha1 hb1 h hh).1.plain
  have hc : V1S.CodecOK nc (V1.diffM (metasOf opts) a b') :=
    fun h hh => ⟨(hp h hh).2, fun v hv' _ => (hv h hh v hv').2⟩
  obtain ⟨T, hr⟩ := render_ok nc _ hmeta (fun h hh => (hp h hh).1)
    (fun h hh v hv' _ => (hv h hh v hv').1)
  obtain ⟨d', r, g2, g3, g4, g5⟩ :=
    V1Pr.v1_text_roundtrip_list_precision FL I nc (metasOf opts) hM a b' ha1 ha2 ha3 va ha5
      hb1 hb2 hb3 vb (Yaml.voidFree_notVoid hb4) hc T hr
  have hopt : V1Pr.optsOf (metasOf opts) = [Opt.prec fl.precision] := by
    simp [V1Pr.optsOf, m4]
  rw [hopt] at g5
  refine ⟨T, d', r, hr, g2, g3, g4, g5, ?_⟩
  have := S.twoRuns ho hfmt (v1Lib_calls nc Y (by rw [hcolor]; exact hr) (congrArg liftOutcome g2) g3)
  simpa [firstExit] using this

end PrecCli

/-! ## non-vacuity: the hypotheses hold on concrete files -/

namespace Example
open Jd.NativeRT (exCodec)
open Jd.E2E.Example (exA exB)
open Jd.CliRT.NativeExample (taE tbE read_a read_b noYaml)

/-- binary B, v1 library for `Plan.v1 = true` -/
def Ls : Bool → LibPack := fun _ => ⟨Json, V1.PDiff, v1Lib exCodec noYaml⟩
/-- `jd -v2=false a.json b.json` -/
def fl1 : Flags := { nargs := 2, v2 := false }
/-- `jd -v2=false -p -o out.json T a.json` -/
def fl2 : Flags := { fl1 with p := true, o := "out.json" }
def e1 : Env := { in1 := .ok taE, in2 := .ok tbE }
def e2 : Env := { in1 := .ok (emitted (proc Ls .top fl1 e1)), in2 := .ok taE }

theorem docs_ok :
    exA.listDoc = true ∧ exA.wf = true ∧ exA.finiteNums = true ∧ Yaml.voidFree exA = true ∧
    V1P.lenLe 3 exA = true ∧ JText.NumOK exCodec exA = true ∧
    exB.listDoc = true ∧ exB.wf = true ∧ exB.finiteNums = true ∧ Yaml.voidFree exB = true ∧
    JText.NumOK exCodec exB = true := by
  refine ⟨by decide, by decide, by decide, by decide, by decide, by decide, by decide, by decide,
    by decide, by decide, by decide⟩

/-- **`v1_native_cli_round_trip` on two concrete JSON files**
    (`{"k":[true,null,["x"]]}` → `{"k":[false,null,["x","y"]],"n":null}`), binary B with
    `-v2=false`: every hypothesis is discharged except the IEEE laws and the two laws on list
    indices (`Float` is opaque to the kernel).  `jd -v2=false a.json b.json` prints the text `T` of
    the v1 diff and exits 1 or 0 according to `T`; `jd -v2=false -p -o out.json T a.json` exits 0,
    prints nothing and writes to `out.json` the JSON text of a document that `Equals` `b.json`. -/
theorem ex_v1_cli_end_to_end (L : FloatLaws) (I : V1P.IdxLaws 3) (J : IdxNumOK exCodec 3) :
    ∃ T r, (proc Ls .top fl1 e1).stdout = T ∧ (proc Ls .top fl1 e1).exit = (if T = "" then 0 else 1) ∧
      specEq r exB = true ∧ V1.equals [.prec 0] r exB = true ∧
      (proc Ls .top fl2 e2).exit = 0 ∧ (proc Ls .top fl2 e2).stdout = "" ∧
      (proc Ls .top fl2 e2).outfile = some ((V1.jsonM exCodec (V1.dispatch [.prec 0] r)).getD "") := by
  obtain ⟨a1, a2, a3, a4, a5, a6, b1, b2, b3, b4, b6⟩ := docs_ok
  have hdm : isDiffMode fl1 := ⟨rfl, rfl, rfl, rfl, rfl⟩
  obtain ⟨T, d', r, c1, c2, c3, c4, c5, c6⟩ :=
    v1_native_cli_round_trip L I (Ls := Ls) (b := .top) (fl := fl1) (fl2 := fl2) (e1 := e1) (e2 := e2)
      ⟨⟨rfl, hdm, .inr rfl,
        ⟨taE, rfl, by rw [show fl1.yaml = false from rfl, v1Lib_readDoc_json, read_a]; rfl⟩,
        ⟨tbE, rfl, by rw [show fl1.yaml = false from rfl, v1Lib_readDoc_json, read_b]; rfl⟩, .inl rfl⟩,
        patchTwin_with hdm "out.json" 2 (.inr rfl), rfl, rfl, .inr rfl⟩ J (opts := [Opt.prec 0]) rfl
      rfl rfl rfl rfl rfl a1 a2 a3 a4 a5 a6 b1 b2 b3 b4 b6
  refine ⟨T, r, (c6.std1 rfl).1, c6.exit1, c5, c4, c6.exit2, (c6.file2 (by decide)).1, ?_⟩
  rw [(c6.file2 (by decide)).2]; rfl

/-- `jd -v2=false -f merge a.json b.json` with `{"a":"x","b":[true]}` → `{"a":"y","c":[true,"z"]}` -/
def tmA : String := "{\"a\":\"x\",\"b\":[true]}"
def tmB : String := "{\"a\":\"y\",\"c\":[true,\"z\"]}"
def mA : Json := .obj [("a", .str "x"), ("b", .arr .raw [.bool true])]
def mB : Json := .obj [("a", .str "y"), ("c", .arr .raw [.bool true, .str "z"])]

/-- the two texts are what the model prints for `mA`, `mB`: `JText.readJsonM_text` reads them back -/
theorem read_mA : readJsonM exCodec tmA = .ok mA := by
  simpa using JText.readJsonM_text exCodec mA tmA (by decide +kernel) (by decide +kernel)
    (by decide +kernel) [] [] rfl rfl

theorem read_mB : readJsonM exCodec tmB = .ok mB := by
  simpa using JText.readJsonM_text exCodec mB tmB (by decide +kernel) (by decide +kernel)
    (by decide +kernel) [] [] rfl rfl

def flm : Flags := { nargs := 2, v2 := false, f := "merge", color := true }
def flm2 : Flags := { flm with p := true, nargs := 1 }
def em1 : Env := { in1 := .ok tmA, in2 := .ok tmB }
/-- the second run reads `a.json` from stdin -/
def em2 : Env := { in1 := .ok (emitted (proc Ls .top flm em1)), in2 := .ok tmA }

/-- **`v1_merge_cli_round_trip` on two concrete JSON files**, `-f merge -color`, the second run
    reading the document from stdin: only `FloatLaws` remains a hypothesis. -/
theorem ex_v1_merge_cli (L : FloatLaws) :
    ∃ T r, (proc Ls .top flm em1).stdout = T ∧ specEq r mB = true ∧
      (proc Ls .top flm2 em2).exit = 0 ∧
      (proc Ls .top flm2 em2).stdout =
        (V1.jsonM exCodec (V1.dispatch [.merge, .prec 0] r)).getD "" := by
  have hdm : isDiffMode flm := ⟨rfl, rfl, rfl, rfl, rfl⟩
  obtain ⟨T, d', r, c1, c2, c3, c4, c5, c6, c7⟩ :=
    v1_merge_cli_round_trip L (Ls := Ls) (b := .top) (fl := flm) (fl2 := flm2) (e1 := em1)
      (e2 := em2)
      ⟨⟨rfl, hdm, .inr rfl,
        ⟨tmA, rfl, by rw [show flm.yaml = false from rfl, v1Lib_readDoc_json, read_mA]; rfl⟩,
        ⟨tmB, rfl, by rw [show flm.yaml = false from rfl, v1Lib_readDoc_json, read_mB]; rfl⟩, .inl rfl⟩,
        patchTwin_with hdm "" 1 (.inl rfl), rfl, rfl, .inl rfl⟩ (opts := [Opt.merge, Opt.prec 0]) rfl
      rfl rfl rfl rfl
      (by decide) (by decide) (by decide) (by decide) (by decide) (by decide) (by decide)
      (by decide) (by decide)
  exact ⟨T, r, (c7.std1 rfl).1, c5, c7.exit2, (c7.std2 rfl).1⟩

end Example

end Jd.CliV1
