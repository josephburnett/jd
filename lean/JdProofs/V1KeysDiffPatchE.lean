/-
  JdProofs.V1KeysDiffPatchE — property C17 (v1 API `lib/`), MULTISET + setkeys (strict strategy): the
  set keys only matter together with SET. Namespace `Jd.V1K`.

  `XMsMode m`: MULTISET present, SET absent, no MERGE, precision 0 or absent; a setkeys metadata MAY be
  present (`XMsMode.withKeys ks : XMsMode [.mset, .setkeys ks]`); without one this is `V1S.MsetMode`.
  With MULTISET the diff compares members by hash code (`surplusBy`), never by identity; the set keys
  only add the string `"setkeys=…"` to the metadata array of the multiset hunk, which the patch code
  ignores (`V1S.pm_spec`, `V1S.patchNode_mset_leaf`).

  THEOREMS (hypotheses exactly those of `V1S.v1_diff_patch_mset`: `a b : setDoc`, `memOK`,
  `V1S.HashFaithful m [.mset] (subterms a ++ subterms b)`, `FloatEq0`, `FloatLaws`)
    `v1_diff_patch_mset_setkeys` :
        ∃ r, V1.patchM a (V1.diffM m a b) = .ok r ∧ V1.equals m r b = true ∧ equivB [.mset] r b = true.
    `v1_diff_empty_iff_equals_mset_setkeys` : `V1.diffM m a b = [] ↔ V1.equals m a b = true`.
    `v1_text_roundtrip_mset_setkeys` : + `vfree a`, `vfree b`, `b` not void, `CodecOK`, render success:
        V1.readDiffM nc text = .ok (V1.diffM m a b) ∧ ∃ r, …
    METHOD: `node_stepX` / `mset_stepX`: the induction with the metadata array of the keyed reading;
        `mset_stepR` and `mset_result` of JdProofs/V1SetDiffPatch are reused through `x_hash`,
        `x_equals` (hash codes and `Equals` do not see the set keys).
  Nothing was found false. Non-vacuity: the pair of V1SetDiffPatch under `[MULTISET, Setkeys("id")]`.
-/
import JdProofs.V1KeysDiffPatchA

namespace Jd.V1K
open Jd Jd.Spec
open Jd.SetDP (Ok Within)
open Jd.V1P (shift ap vfree vfreeList vfreeKvs)
open Jd.V1S (metaItems pm NM GH Shape Step)

/-! # Part 4. MULTISET + setkeys: the set keys do not matter -/

/-- MULTISET without SET, with or without set keys, no MERGE, precision 0 or absent -/
structure XMsMode (m : V1.Metas) : Prop where
  noSet : V1.hasSet m = false
  mset : V1.hasMset m = true
  noMerge : V1.hasMerge m = false
  prec0 : V1.precOf m = 0

theorem XMsMode.withKeys (ks : List String) : XMsMode [.mset, .setkeys ks] := ⟨rfl, rfl, rfl, rfl⟩

section XMs
variable {m : V1.Metas}

theorem XMsMode.tag (X : XMsMode m) : V1.dispatchTag m = .mset := by
  simp [V1.dispatchTag, X.noSet, X.mset]

theorem x_hash (X : XMsMode m) : V1.hashCode m = V1.hashCode [.mset] := by
  funext x; exact V1S.hashCode_congr (by rw [X.tag]; rfl) x

theorem x_equals (X : XMsMode m) : V1.equals m = V1.equals [.mset] := by
  funext x y; exact V1S.equals_congr (by rw [X.tag]; rfl) (by rw [X.prec0]; rfl) x y

theorem MX : V1S.Mode [.mset] [.mset] := V1S.MsetMode.single.mode

theorem x_hf (X : XMsMode m) {S : List Json} (HF : V1S.HashFaithful m [.mset] S) :
    V1S.HashFaithful [.mset] [.mset] S :=
  V1S.hashFaithful_of_tag (by rw [X.tag]; rfl) HF

theorem mset_stepX (F : FloatEq0) (X : XMsMode m) {S : List Json}
    (HF : V1S.HashFaithful m [.mset] S)
    (xs ys : List Json) (ha : Ok (.arr .raw xs)) (hb : Ok (.arr .raw ys))
    (wa : Within S (.arr .raw xs)) (wb : Within S (.arr .raw ys)) (p : List Json) :
    Step m [.mset] (.arr .raw xs) (.arr .raw ys) p :=
  V1S.mset_stepR X.tag xs ys p fun _ _ ht hsub hcnt => by
    rw [x_equals X]
    exact V1S.mset_result MX rfl (V1S.faithful_members F MX (x_hf X HF) ha hb wa wb) ht
      (fun z hz => List.mem_append.2 (hsub z hz)) (fun _ h => List.mem_append.2 (Or.inr h))
      fun c => by rw [← x_hash X]; exact hcnt c

theorem refl_bothX (F : FloatEq0) (L : FloatLaws) (X : XMsMode m) {S : List Json}
    (HF : V1S.HashFaithful m [.mset] S) {b : Json} (hb : Ok b) (wb : Within S b) :
    equivB [.mset] b b = true ∧ V1.equals m b b = true := by
  rw [x_equals X]
  exact V1S.refl_both F L MX (x_hf X HF) hb wb

theorem node_stepX (F : FloatEq0) (L : FloatLaws) (X : XMsMode m) {S : List Json}
    (HF : V1S.HashFaithful m [.mset] S) :
    ∀ a b, Ok a → Ok b → Within S a → Within S b → ∀ p, Step m [.mset] a b p :=
  V1S.node_stepR L (R := fun r b => equivB [.mset] r b = true ∧ V1.equals m r b = true)
    { isVoid := fun h => SetDP.equivB_isVoid h.1
      refl := fun hb wb => refl_bothX F L X HF hb wb
      scalar := fun h1 h2 he =>
        ⟨by rw [V1S.equivB_scalar_equals (m := m) (o := [.mset]) rfl X.prec0 h1 h2]; exact he, he⟩
      obj := fun hs hs' h => V1S.obj_result hs hs' h }
    (Or.inr X.tag) (fun xs ys ha hb wa wb p => mset_stepX F X HF xs ys ha hb wa wb p)

/-- **C17, MULTISET + setkeys (strict strategy, precision 0), in memory**: `Setkeys` without SET
    changes nothing but the metadata strings in the paths (which the patch code ignores): for
    documents as read from JSON text, when among the sub-terms of `a` and `b` equal V1 hash codes
    occur only for equivalent nodes, `a.Patch(a.Diff(b, m...))` succeeds and the result `Equals` `b`
    and is equivalent to it as a bag. (`XMsMode m` also covers MULTISET without set keys.) -/
theorem v1_diff_patch_mset_setkeys (F : FloatEq0) (L : FloatLaws) (X : XMsMode m) (a b : Json)
    (ha : a.setDoc = true) (hb : b.setDoc = true)
    (ha' : DPL.memOK a = true) (hb' : DPL.memOK b = true)
    (HF : V1S.HashFaithful m [.mset] (subterms a ++ subterms b)) :
    ∃ r, V1.patchM a (V1.diffM m a b) = .ok r ∧ V1.equals m r b = true ∧
      equivB [.mset] r b = true := by
  obtain ⟨D, r, e, _, h, h1, h2⟩ := node_stepX F L X HF a b ⟨ha, ha'⟩ ⟨hb, hb'⟩
    (fun z hz => List.mem_append.2 (Or.inl hz)) (fun z hz => List.mem_append.2 (Or.inr hz)) []
  exact ⟨r, V1S.root_call X.noMerge e h, h2, h1⟩

/-- equivalent documents have an EMPTY diff under MULTISET (+ setkeys) -/
theorem diffNode_nil_of_equivB_X (F : FloatEq0) (X : XMsMode m) :
    ∀ a b, DocOk a → DocOk b → equivB [.mset] a b = true →
      ∀ p, V1.diffNode m false a b p = [] := by
  intro a b ha hb
  refine V1S.nil_of_equivB (S := subterms a ++ subterms b) (SB := subterms b)
    (fun a b h1 h2 _ _ h p => ?_) (fun xs ys ha hb _ _ _ h _ p => ?_) a b ha hb
    (fun _ hz => List.mem_append.2 (Or.inl hz)) (fun _ hz => List.mem_append.2 (Or.inr hz))
    (fun _ hz => hz)
  · rw [V1P.diffNode_scalar m a b h1 h2 p, V1S.diffCommon_nil_iff,
      ← V1S.equivB_scalar_equals (m := m) (o := [.mset]) rfl X.prec0 h1 h2]
    exact h
  have hhash : ∀ x ∈ xs, ∀ y ∈ ys, equivB [.mset] x y = true →
      V1.hashCode m x = V1.hashCode m y := by
    intro x hx y hy e
    rw [x_hash X]
    exact V1S.equivB_hash_core F MX x y (ha.elem hx) (hb.elem hy) e
  simp only [equivB, dispatchTag, Bool.and_eq_true, beq_iff_eq] at h
  have hperm := bagSub_key_perm (V1.hashCode m) [.mset] xs ys h.1 h.2 hhash
  rw [V1S.diffNode_mset_mset X.tag,
    surplusBy_nil _ (fun c => Nat.le_of_eq (hperm.count_eq c)),
    surplusBy_nil _ (fun c => Nat.le_of_eq (hperm.count_eq c).symm)]
  rfl

/-- MULTISET + setkeys: the diff is empty exactly when `Equals` holds -/
theorem v1_diff_empty_iff_equals_mset_setkeys (F : FloatEq0) (L : FloatLaws) (X : XMsMode m)
    (a b : Json) (ha : a.setDoc = true) (hb : b.setDoc = true)
    (ha' : DPL.memOK a = true) (hb' : DPL.memOK b = true)
    (HF : V1S.HashFaithful m [.mset] (subterms a ++ subterms b)) :
    V1.diffM m a b = [] ↔ V1.equals m a b = true := by
  constructor
  · exact fun hd =>
      (V1S.patchM_nil_diff (v1_diff_patch_mset_setkeys F L X a b ha hb ha' hb' HF) hd).1
  · intro he
    have wa : Within (subterms a ++ subterms b) a := fun z hz => List.mem_append.2 (Or.inl hz)
    have wb : Within (subterms a ++ subterms b) b := fun z hz => List.mem_append.2 (Or.inr hz)
    rw [x_equals X, V1S.equals_eq_equivB_of F MX (x_hf X HF) (docOk_of_setDoc ha)
      (docOk_of_setDoc hb) wa wb] at he
    unfold V1.diffM
    rw [X.noMerge]
    exact diffNode_nil_of_equivB_X F X a b (docOk_of_setDoc ha) (docOk_of_setDoc hb) he []


/-! ## through the text -/

/-- the hunks of a MULTISET (+ setkeys) diff are `GH` hunks; no hash hypothesis -/
theorem shape_nodeX (X : XMsMode m) (a b : Json) (ha : Ok a) (hb : Ok b) (va : vfree a = true)
    (vb : vfree b = true) (hbv : b.isVoid = false) : Shape m a b := by
  refine V1S.shape_node_of (S := subterms a ++ subterms b) (Or.inr X.tag)
    (fun xs ys ha hb vxs vys _ _ _ p => ?_) a b ha hb va vb hbv
    (fun _ hz => List.mem_append.2 (Or.inl hz)) (fun _ hz => List.mem_append.2 (Or.inr hz))
  have hxs : ∀ v ∈ xs, v.rawDoc = true ∧ v.isVoid = false :=
    fun v hv => ⟨(ha.elem hv).rawDoc, (V1S.vfreeList_mem vxs hv).1⟩
  have hys : ∀ v ∈ ys, v.rawDoc = true ∧ v.isVoid = false :=
    fun v hv => ⟨(hb.elem hv).rawDoc, (V1S.vfreeList_mem vys hv).1⟩
  obtain ⟨a1, _⟩ := surplusBy_spec (V1.hashCode m) xs ys
  obtain ⟨b1, _⟩ := surplusBy_spec (V1.hashCode m) ys xs
  rw [V1S.diffNode_mset_mset X.tag]
  exact V1S.shape_meta (Or.inr X.tag) p (fun v hv => hxs v (a1 v hv)) (fun v hv => hys v (b1 v hv))

/-- **C17, MULTISET + setkeys, through the text**: the diff read back from its rendered text IS the
    diff, hence patching `a` with it yields a document that `Equals` `b` -/
theorem v1_text_roundtrip_mset_setkeys (F : FloatEq0) (L : FloatLaws) (nc : NumCodec)
    (X : XMsMode m) (a b : Json) (ha : a.setDoc = true) (hb : b.setDoc = true)
    (ha' : DPL.memOK a = true) (hb' : DPL.memOK b = true)
    (va : vfree a = true) (vb : vfree b = true) (hbv : b.isVoid = false)
    (HF : V1S.HashFaithful m [.mset] (subterms a ++ subterms b))
    (hc : V1S.CodecOK nc (V1.diffM m a b)) (text : String)
    (hr : V1.renderM nc false (V1.liftDiff (V1.diffM m a b)) = .ok (some text)) :
    V1.readDiffM nc text = .ok (V1.diffM m a b) ∧
    ∃ r, V1.patchM a (V1.diffM m a b) = .ok r ∧ V1.equals m r b = true ∧
      equivB [.mset] r b = true := by
  refine ⟨?_, v1_diff_patch_mset_setkeys F L X a b ha hb ha' hb' HF⟩
  obtain ⟨D, e, g⟩ := shape_nodeX X a b ⟨ha, ha'⟩ ⟨hb, hb'⟩ va vb hbv []
  rw [V1S.shift_nil_map] at e
  have hd : V1.diffM m a b = D := by unfold V1.diffM; rw [X.noMerge, e]
  rw [hd] at hc hr ⊢
  exact V1S.v1_read_render_raw nc D text g hc hr

/-- non-vacuity: the pair of JdProofs/V1SetDiffPatch under `[MULTISET, Setkeys("id")]` -/
example (F : FloatEq0) (L : FloatLaws) :
    ∃ r, V1.patchM V1S.Example.exA
        (V1.diffM [.mset, .setkeys ["id"]] V1S.Example.exA V1S.Example.exB) = .ok r ∧
      V1.equals [.mset, .setkeys ["id"]] r V1S.Example.exB = true ∧
      equivB [.mset] r V1S.Example.exB = true :=
  v1_diff_patch_mset_setkeys F L (XMsMode.withKeys ["id"]) _ _ V1S.Example.ex_docs.1
    V1S.Example.ex_docs.2.1 V1S.Example.ex_docs.2.2.1 V1S.Example.ex_docs.2.2.2
    (V1S.hashFaithful_of_tag (m := [.mset]) rfl V1S.Example.ex_hashFaithful_mset)

end XMs
end Jd.V1K
