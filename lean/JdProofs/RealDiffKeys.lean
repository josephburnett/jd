/-
  JdProofs.RealDiffKeys — property C07 ("a diff reports only real differences: no no-op, no redundant
  hunk") in the SetKeys reading of the v2 library: strict strategy, `dispatchTag o = .set`,
  `keysOf o = some ks`, `isMerge o = false`, `precOf o = 0` (e.g. `o = [.setKeys ks]`).  Namespace
  `Jd.RealK`.  `RealS.SetHunkReal`, `RealS.hunk_cases`, `RealS.RootReal`, `Real.below_key`,
  `RealS.below_member` of JdProofs.RealDiffSet are reused: they do not depend on `keysOf o`.
  All theorems are about the library functions of the model (`diffM` / `diffNode`, `patchAll sw`,
  `equals`, `identOf`, `newPathSetKeys`) and the hash-free specification `equivB`, at full depth.

  LOCATIONS.  `Loc o a b q u v`: following `q` in `a` and `b` AT ONCE leads to `u` in `a` and `v` in `b`.
  Navigation has to be joint: the partner in `b` of a keyed member is found by the identity of the
  member of `a`, which the path object does not determine when a set key is missing (see the witness).

  (1) `hunk_real` / `diffM_hunk_real`: every hunk is `HunkReal`.  Hypotheses `rawDoc`, `wf` only;
      `keysOf o` arbitrary.  `HunkReal.not_equals` (`FloatEq0`, `DocOk`), `HunkReal.nonempty`
      (`DPL.memOK`).
  (2) `equal_subdoc_not_mentioned`, `diffM_equal_subdoc_not_mentioned`, `equal_member_not_mentioned`.
      Hypotheses: `DocOk a`, `DocOk b`; on the nodes of the two EQUAL values only, the hypotheses of
      `DES.diffNode_nil_of_equals_keys` (`DiffFaithful`, `KindSepH`, `IdentInj`); and `PathInj o
      (subterms a)`: in every array of `a`, object members addressed by the same path element have
      the same identity.  `PathInj` is implied by the decidable `DPK.PathFaithful`
      (`pathInj_of_pathFaithful`), and it is NEEDED: `Witness.equal_member_mentioned_nullkey`.
  (3) `no_proper_sublist`: for EVERY sub-list `D'` of the diff other than the diff itself, if the
      library's patch code applies `D'` to `a`, the result is not equivalent to `b`;
      `no_redundant_hunk`, `no_redundant_hunk_eraseIdx` are instances.  Both variants `sw` of the keyed
      branch of `jsonSet.patch` (`sw = true` is the Go code, which swallows the failure of a nested
      patch: the sub-list form is what makes the induction go through — a swallowed hunk is a hunk
      left out).
      Hypotheses: `a.setDoc`, `b.setDoc`, `DPL.memOK a`, `DPL.memOK b`, `DPK.KeysHyp o ks a b` (the
      decidable hypotheses of the C01 theorem `DPK.diff_then_patch_setkeys`), `FloatEq0`, `FloatLaws`.
      CONCLUSION WITH `equivB`, not with `equals`: below a keyed member the result `r` contains HYBRID
      nodes (an array of `a` some of whose members were patched) that are nodes neither of `a` nor of
      `b`, and `Equals` compares arrays by their hash codes; a negative statement about `equals o r b`
      therefore needs a no-collision hypothesis on `r` itself (`no_redundant_hunk_equals`).
      Proof: `nr_node`, induction on `a`, in the form `NR.NoProper` of JdProofs.NoSub.  Objects:
      `NR.NoProper.obj_diff` (the hunks act key by key; a proper sub-list misses a hunk below some
      key).  Arrays (`arr_nr`): the hunks below keyed members are read back from the
      array to the member (`keyed_frame_rev`, `subs_apply_sub`); a member that keeps the set-key values
      of `x` and is `equivB` to a member `y` of `b` has the identity of `y` (`ident_of_equivB_kept`,
      via `equivB_hash_core`: no hash hypothesis); so the partner of the member with a missing hunk
      can only be that member (`KeyedDistinct`), which the induction hypothesis excludes; and a
      missing set hunk `{}` leaves a removed identity in, or an added identity out.
  NOT FOUND FALSE: (3) was not found false inside the SetKeys precondition.  Which parts of `KeysHyp`
  are NECESSARY for (3) in the `equivB` form was not decided (`KeyFree` — the hunks below a keyed
  member do not touch the set keys — is taken from `DPK.node_stepK`, which needs all of them).  For
  the `equals` form `RealS.Witness.redundant_hunk_alias` shows that a hash hypothesis is needed.

  FINDING (witness, proved on the model): `Witness.equal_member_mentioned_nullkey` — (2) is FALSE
  without `PathInj`, INSIDE the SetKeys precondition (identities pairwise distinct within each array):
  `SetKeys("id","k")`, `[{"id":"1"},{"id":"1","k":null}]` → `[{"id":"1","v":"y"},{"id":"1","k":null}]`.
  The only hunk, `@ [{"id":"1","k":null},"v"] + "y"`, is addressed through the path element of the
  unchanged member: the path object written for `{"id":"1"}` (which lacks `k`) is
  `{"id":"1","k":null}` too.  Same class as `DPK.Witness.null_completion_breaks` (finding 3 of
  JdProofs.DiffPatchKeys, replayed there on the Go library); not replayed again.

  NON-VACUITY: `Example` (the pair of `DPK.ExampleB`): (1), `nonempty`, `not_equals`, (3) are
  instantiated, `ex_pathInj` is the hypothesis of (2), and the `#eval` shows that each leave-one-out
  sub-diff does apply.  `Example2`: (2) on a pair with an unchanged keyed member next to a changed one.
-/
import JdProofs.RealDiffSet
import JdProofs.NoSub
import JdProofs.DiffPatchKeys

namespace Jd.RealK
open Jd Jd.Spec Jd.SetDP

/-- `Loc o a b q u v`: following the path `q` (object keys and `PathSetKeys` elements) in `a` and in
    `b` at once leads to `u` in `a` and to `v` in `b` (`none`: the last key is missing on that side).
    A `PathSetKeys` element, on two arrays, designates a member `.obj kvs` of the first array — the
    last bearer of its identity there, i.e. THE member with that identity when identities are
    distinct —, addressed by its path object `newPathSetKeys o kvs`, and, in the second array, the
    (last) member `.obj kvs'` with the same identity. -/
inductive Loc (o : Opts) : Json → Json → Path → Option Json → Option Json → Prop
  | here (a b : Json) : Loc o a b [] (some a) (some b)
  | key {kvs kvs' : List (String × Json)} {k : String} {x y : Json} {r : Path} {u v : Option Json}
      (hx : alookup k kvs = some x) (hy : alookup k kvs' = some y) (h : Loc o x y r u v) :
      Loc o (.obj kvs) (.obj kvs') (.key k :: r) u v
  | onlyA {kvs kvs' : List (String × Json)} {k : String} {x : Json}
      (hx : alookup k kvs = some x) (hy : alookup k kvs' = none) :
      Loc o (.obj kvs) (.obj kvs') [.key k] (some x) none
  | onlyB {kvs kvs' : List (String × Json)} {k : String} {y : Json}
      (hx : alookup k kvs = none) (hy : alookup k kvs' = some y) :
      Loc o (.obj kvs) (.obj kvs') [.key k] none (some y)
  | member {t t' : Tag} {xs ys : List Json} {kvs kvs' : List (String × Json)} {e : PathElem}
      {r : Path} {u v : Option Json}
      (hx : identLookup o (identOf o (.obj kvs)) xs = some (.obj kvs))
      (hy : identLookup o (identOf o (.obj kvs)) ys = some (.obj kvs'))
      (he : newPathSetKeys o kvs = e) (h : Loc o (.obj kvs) (.obj kvs') r u v) :
      Loc o (.arr t xs) (.arr t' ys) (e :: r) u v

theorem Loc.sub {o : Opts} {a b : Json} {q : Path} {ou ov : Option Json} (L : Loc o a b q ou ov) :
    (∀ u, ou = some u → u ∈ subterms a) ∧ (∀ v, ov = some v → v ∈ subterms b) := by
  induction L with
  | here a b =>
    exact ⟨fun u e => Option.some.inj e ▸ mem_subterms_self _,
      fun v e => Option.some.inj e ▸ mem_subterms_self _⟩
  | key hx hy _ ih =>
    exact ⟨fun u e => subterms_val_sub (mem_of_alookup hx) (ih.1 u e),
      fun v e => subterms_val_sub (mem_of_alookup hy) (ih.2 v e)⟩
  | onlyA hx _ =>
    exact ⟨fun u e => Option.some.inj e ▸ subterms_val_sub (mem_of_alookup hx) (mem_subterms_self _),
      fun _ => nofun⟩
  | onlyB _ hy =>
    exact ⟨fun _ => nofun,
      fun v e => Option.some.inj e ▸ subterms_val_sub (mem_of_alookup hy) (mem_subterms_self _)⟩
  | member hx hy _ _ ih =>
    exact ⟨fun u e => subterms_elem_sub (identLookup_some hx).1 (ih.1 u e),
      fun v e => subterms_elem_sub (identLookup_some hy).1 (ih.2 v e)⟩

/-- on key paths a location is the navigation of JdProofs.RealDiff -/
theorem Loc.getAt {o : Opts} {a b : Json} {q : Path} {ou ov : Option Json}
    (L : Loc o a b q ou ov) (hq : Real.keysOnly q = true) :
    Real.getAt a q = ou ∧ Real.getAt b q = ov := by
  induction L with
  | here a b => exact ⟨RealS.getAt_nil a, RealS.getAt_nil b⟩
  | key hx hy _ ih =>
    simp only [Real.keysOnly] at hq
    simp only [Real.getAt, hx, hy]
    exact ih hq
  | onlyA hx hy => simp [Real.getAt, hx, hy]
  | onlyB hx hy => simp [Real.getAt, hx, hy]
  | member _ _ he _ _ =>
    subst he
    unfold newPathSetKeys at hq
    split at hq <;> simp [Real.keysOnly] at hq

/-- the hunk `h` of `diffNode o false a b p` describes a real difference between `a` and `b`:
    * `value`: it is addressed to the location `q` below `p`, where `a` holds `u` and `b` holds `v`,
      and replaces `u` by `v` (`Real.RealOpt`: at most one value each way, the removed value is what
      `a` holds, the added value is what `b` holds, nothing is removed / added only if nothing (or
      void) is held, and the two are not `Equals`); `lit`: the removed value is LITERALLY what `a`
      holds;
    * `set`: it is addressed to the arrays `xs`, `ys` both documents hold at `q`, read as sets of
      members identified by the set keys, and is a real set hunk of these two arrays
      (`RealS.SetHunkReal`: removed values are members of `xs`, added values members of `ys`; the
      identities of the removed values are exactly those present in `xs` and absent from `ys`, each
      once, symmetrically for the added values; not empty). -/
inductive HunkReal (o : Opts) (a b : Json) (p : Path) (h : Hunk) : Prop
  | value (q : Path) (u v : Option Json) (loc : Loc o a b q u v) (hpath : h.path = p ++ q)
      (hm : h.merge = false) (hb : h.before = []) (ha : h.after = [])
      (pres : u.isSome = true ∨ v.isSome = true)
      (ne : ¬ (u = some .void ∧ v = some .void))
      (lit : ∀ w, h.remove = [w] → u = some w)
      (real : Real.RealOpt o u v h)
  | set (q : Path) (xs ys : List Json)
      (loc : Loc o a b q (some (.arr .raw xs)) (some (.arr .raw ys)))
      (hpath : h.path = p ++ q ++ [.set]) (real : RealS.SetHunkReal o xs ys h)

theorem HunkReal.root {o : Opts} {a b : Json} {p : Path} {h : Hunk} (R : RealS.RootReal o a b p h) :
    HunkReal o a b p h :=
  .value [] (some a) (some b) (.here a b) (by simp [R.hpath]) R.hm R.hb R.ha (.inl rfl)
    (by simpa using R.ne) (by simpa using R.lit) R.real

/-- a hunk that is real below the path element `e`, through which locations of `a'`, `b'` are
    locations of `a`, `b`, is real for `a`, `b` -/
theorem HunkReal.lift {o : Opts} {a b a' b' : Json} {e : PathElem} {p : Path} {h : Hunk}
    (step : ∀ {q u v}, Loc o a' b' q u v → Loc o a b (e :: q) u v)
    (H : HunkReal o a' b' (p ++ [e]) h) : HunkReal o a b p h := by
  cases H with
  | value q u v loc hpath hm hb ha pres ne lit real =>
    exact .value (e :: q) u v (step loc) (by simpa using hpath) hm hb ha pres ne lit real
  | set q xs ys loc hpath real =>
    exact .set (e :: q) xs ys (step loc) (by simpa using hpath) real

theorem HunkReal.lift_key {o : Opts} {kvs kvs' : List (String × Json)} {k : String} {x y : Json}
    {p : Path} {h : Hunk} (hl : alookup k kvs = some x) (hl' : alookup k kvs' = some y)
    (H : HunkReal o x y (p ++ [.key k]) h) : HunkReal o (.obj kvs) (.obj kvs') p h :=
  H.lift (.key hl hl')

theorem HunkReal.lift_member {o : Opts} {t t' : Tag} {xs ys : List Json}
    {kvs kvs' : List (String × Json)} {p : Path} {h : Hunk}
    (hx : identLookup o (identOf o (.obj kvs)) xs = some (.obj kvs))
    (hy : identLookup o (identOf o (.obj kvs)) ys = some (.obj kvs'))
    (H : HunkReal o (.obj kvs) (.obj kvs') (p ++ [newPathSetKeys o kvs]) h) :
    HunkReal o (.arr t xs) (.arr t' ys) p h :=
  H.lift (.member hx hy rfl)

/-- **C07 (1), SetKeys reading (and the plain SET reading), any depth**: every hunk of
    `diffNode o false a b p` describes a real difference (`HunkReal`).  No hash hypothesis, no float
    hypothesis, no hypothesis on the identities. -/
theorem hunk_real {o : Opts} (hd : dispatchTag o = .set) (hp : precOf o = 0) :
    ∀ a : Json, a.rawDoc = true → a.wf = true → ∀ b : Json, b.rawDoc = true → b.wf = true →
      ∀ p, ∀ h ∈ diffNode o false a b p, HunkReal o a b p h := by
  refine RealS.hunk_cases (.inl hd) hp .root .lift_key ?_ ?_ (fun _ hx hy H => .lift_member hx hy H)
    (fun e real => .set [] _ _ (.here _ _) (by simpa using e) real)
    (fun hd' => by rw [hd] at hd'; cases hd')
  · intro kvs kvs' k v p hl hn
    exact .value [.key k] (some v) none (.onlyA hl hn) rfl rfl rfl rfl (.inl rfl)
      (by rintro ⟨_, e⟩; cases e) (fun v0 hv0 => by rw [RealS.nodeList_single hv0])
      (Real.realOpt_removeOnly rfl rfl)
  · intro kvs kvs' k v' p hn hl'
    exact .value [.key k] none (some v') (.onlyB hn hl') rfl rfl rfl rfl (.inr rfl)
      (by rintro ⟨e, _⟩; cases e) (fun v hv => by cases hv) (Real.realOpt_addOnly rfl rfl)

/-- **C07 (1) for `a.Diff(b)`**, SetKeys reading, strict strategy -/
theorem diffM_hunk_real {o : Opts} (hd : dispatchTag o = .set) (hp : precOf o = 0)
    (hmg : isMerge o = false) {a b : Json} (hr : a.rawDoc = true) (hw : a.wf = true)
    (hrb : b.rawDoc = true) (hwb : b.wf = true) : ∀ h ∈ diffM o a b, HunkReal o a b [] h := by
  rw [diffM, hmg]
  exact hunk_real hd hp a hr hw b hrb hwb []

/-- within every array node among `S`, object members addressed by the same path element have the
    same identity (the path object written by `newPathSetKeys` holds `null` for a set key the member
    lacks, so a member lacking a key and a member holding `null` for it are addressed alike) -/
def PathInj (o : Opts) (S : List Json) : Prop :=
  ∀ t xs, Json.arr t xs ∈ S → ∀ kx kz, Json.obj kx ∈ xs → Json.obj kz ∈ xs →
    newPathSetKeys o kx = newPathSetKeys o kz → identOf o (.obj kx) = identOf o (.obj kz)

theorem PathInj.mono {o : Opts} {S T : List Json} (h : PathInj o T) (hs : ∀ x ∈ S, x ∈ T) :
    PathInj o S := fun t xs hn => h t xs (hs _ hn)

/-- the decidable hypothesis `DPK.PathFaithful` (the keyed lookup of `jsonSet.patch` for the path
    object of a member hits only members with that member's identity) implies `PathInj` -/
theorem pathInj_of_pathFaithful {o : Opts} {ks : List String} (hk : keysOf o = some ks) {a : Json}
    (da : DocOk a) (PF : DPK.PathFaithful o ks (subterms a)) : PathInj o (subterms a) := by
  intro t xs hn kx kz hx hz e
  rw [DPK.newPathSetKeys_some hk, DPK.newPathSetKeys_some hk] at e
  have e' : DPK.pathObjOf ks kx = DPK.pathObjOf ks kz := PathElem.setKeys.inj e
  have hzs : keysSorted kz = true := by
    have hmem : Json.obj kz ∈ subterms a :=
      DES.subterms_trans (subterms_elem_sub hz (mem_subterms_self _)) a hn
    simpa [nodeOk] using da _ hmem
  exact (DPK.nodePathFaithful_arr (PF _ hn) hx hz true
    (by rw [e']; exact DPK.matchT_true_self ks hzs)).symm

/-- **C07 (2), SetKeys reading**: if the location `q` (keys and keyed members) leads to `u` in `a` and
    to `v` in `b`, and `u`, `v` are `Equals`, no hunk of the diff lies at or below `p ++ q`.
    Hypotheses: `DocOk` documents (as read from text); `PathInj` on `a` (path elements tell the members
    of an array of `a` apart: `Witness.equal_member_mentioned_nullkey` shows it is needed); and, on the
    nodes of the two equal values only, the hypotheses of `DES.diffNode_nil_of_equals_keys`
    (`DiffFaithful`: no harmful FNV collision / alias; `KindSepH`; `IdentInj` on `v`). -/
theorem equal_subdoc_not_mentioned (F : FloatEq0) {o : Opts} (hd : dispatchTag o = .set)
    (hp : precOf o = 0) {a b : Json} {q : Path} {ou ov : Option Json} (L : Loc o a b q ou ov) :
    ∀ u v, ou = some u → ov = some v → DocOk a → DocOk b → PathInj o (subterms a) →
      equals o u v = true → DES.DiffFaithful o (subterms u) (subterms v) →
      DES.KindSepH o (subterms u) (subterms v) → DES.IdentInj o (subterms v) →
      ∀ p, ∀ h ∈ diffNode o false a b p, ¬ (p ++ q) <+: h.path := by
  induction L with
  | here a b =>
    intro u v eu ev da db _ he FH KH IB p h hh
    cases eu; cases ev
    rw [DES.diffNode_nil_of_equals_keys F hd hp false FH KH IB a da (DES.within_subterms a) b db
      (DES.within_subterms b) he p] at hh
    cases hh
  | onlyA _ _ => intro u v _ ev; cases ev
  | onlyB _ _ => intro u v eu; cases eu
  | @key kvs kvs' k x y r ou ov hx hy L ih =>
    intro u v eu ev da db PI he FH KH IB p h hh hpre
    have hmx := mem_of_alookup hx
    exact ih u v eu ev (da.val hmx) (db.val (mem_of_alookup hy))
      (PI.mono (fun z hz => subterms_val_sub hmx hz)) he FH KH IB _ h
      (Real.below_key da.sorted hx hy hh (Real.prefix_snoc_of_prefix_cons hpre))
      (by simpa using hpre)
  | @member t t' xs ys kvs kvs' e r ou ov hx hy hne L ih =>
    intro u v eu ev da db PI he FH KH IB p h hh hpre
    have ht := da.raw
    have ht' := db.raw
    subst ht ht'
    have hxm := (identLookup_some hx).1
    obtain ⟨kvs1, kvs1', hee, hx1, hy1, hin⟩ := RealS.below_member hd hh
      (Real.prefix_snoc_of_prefix_cons hpre) (by
        rw [← hne]; unfold newPathSetKeys; split <;> nofun)
    have hid : identOf o (.obj kvs1) = identOf o (.obj kvs) :=
      PI _ xs (mem_subterms_self _) kvs1 kvs (identLookup_some hx1).1 hxm (hee.trans hne.symm)
    rw [hid, hx] at hx1
    rw [hid, hy] at hy1
    cases hx1; cases hy1
    exact ih u v eu ev (da.elem hxm) (db.elem (identLookup_some hy).1)
      (PI.mono (fun z hz => subterms_elem_sub hxm hz)) he FH KH IB _ h hin (by simpa using hpre)

theorem diffM_equal_subdoc_not_mentioned (F : FloatEq0) {o : Opts} (hd : dispatchTag o = .set)
    (hp : precOf o = 0) (hmg : isMerge o = false) {a b : Json} (da : DocOk a) (db : DocOk b)
    (PI : PathInj o (subterms a)) {q : Path} {u v : Json} (L : Loc o a b q (some u) (some v))
    (he : equals o u v = true) (FH : DES.DiffFaithful o (subterms u) (subterms v))
    (KH : DES.KindSepH o (subterms u) (subterms v)) (IB : DES.IdentInj o (subterms v)) :
    ∀ h ∈ diffM o a b, ¬ q <+: h.path := by
  rw [diffM, hmg]
  simpa using equal_subdoc_not_mentioned F hd hp L u v rfl rfl da db PI he FH KH IB []

/-- the one-level form of the task: a member `.obj kvs` of the array `xs` (the last bearer of its
    identity) whose partner `.obj kvs'` in `ys` (same identity) is `Equals` to it is not mentioned:
    no hunk of the diff of the two arrays has a path through the path element of that member -/
theorem equal_member_not_mentioned (F : FloatEq0) {o : Opts} (hd : dispatchTag o = .set)
    (hp : precOf o = 0) {xs ys : List Json} (da : DocOk (.arr .raw xs)) (db : DocOk (.arr .raw ys))
    (PI : PathInj o (subterms (.arr .raw xs))) {kvs kvs' : List (String × Json)}
    (hx : identLookup o (identOf o (.obj kvs)) xs = some (.obj kvs))
    (hy : identLookup o (identOf o (.obj kvs)) ys = some (.obj kvs'))
    (he : equals o (.obj kvs) (.obj kvs') = true)
    (FH : DES.DiffFaithful o (subterms (.obj kvs)) (subterms (.obj kvs')))
    (KH : DES.KindSepH o (subterms (.obj kvs)) (subterms (.obj kvs')))
    (IB : DES.IdentInj o (subterms (.obj kvs'))) (p : Path) :
    ∀ h ∈ diffNode o false (.arr .raw xs) (.arr .raw ys) p,
      ¬ (p ++ [newPathSetKeys o kvs]) <+: h.path :=
  equal_subdoc_not_mentioned F hd hp (.member hx hy rfl (.here _ _)) _ _ rfl rfl da db PI he FH KH
    IB p

theorem patchAll_append_inv (sw : Bool) (d1 d2 : Diff) (n r : Json)
    (h : patchAll sw n (d1 ++ d2) = .ok r) :
    ∃ n', patchAll sw n d1 = .ok n' ∧ patchAll sw n' d2 = .ok r :=
  Outcome.bind_eq_ok.1 (patchAll_append_bind sw d1 d2 n ▸ h)

/-- **keyed frame, from the array to the member**: strict hunks `T` that do not touch the set keys,
    addressed through the keyed path element to an array in which the member `.obj kvs` is the one the
    keyed lookup finds: if they apply to the array, the result is the array with the member replaced by
    what a sub-list `E` of `T` makes of the member (`E = T` unless the code swallowed the failure of a
    nested patch, `sw = true`), and the member keeps its values under the set keys -/
theorem keyed_frame_rev (sw : Bool) (ks : List String) (po : List (String × Json))
    (hpos : keysSorted po = true) (hpok : ∀ k, (alookup k po).isSome = true → k ∈ ks)
    (pre post : List Json) (tol : Bool) (hpre : ∀ z ∈ pre, DPK.matchT tol po z = false) :
    ∀ (T : Diff), DPK.KeyFree ks T → ∀ (t : Tag), (t = .raw ∨ t = .set) →
      ∀ (kvs : List (String × Json)), keysSorted kvs = true →
      keyedTol po (pre ++ .obj kvs :: post) = tol → DPK.matchT tol po (.obj kvs) = true →
      ∀ R, patchAll sw (.arr t (pre ++ .obj kvs :: post)) (T.map (DPL.shiftHunk [.setKeys po]))
          = .ok R →
      ∃ E kvr t', E.Sublist T ∧ patchAll sw (.obj kvs) E = .ok (.obj kvr) ∧
        keysSorted kvr = true ∧ (∀ k ∈ ks, alookup k kvr = alookup k kvs) ∧
        (t' = .raw ∨ t' = .set) ∧ R = .arr t' (pre ++ .obj kvr :: post)
  | [], _, t, ht, kvs, hs, _, _, R, hR => by
    simp only [List.map_nil, patchAll, Outcome.ok.injEq] at hR
    exact ⟨[], kvs, t, List.Sublist.refl _, rfl, hs, fun _ _ => rfl, ht, hR.symm⟩
  | h :: T, hD, t, ht, kvs, hs, htol, hm, R, hR => by
    obtain ⟨hmg, k, rest, hpath, hkn⟩ := hD h List.mem_cons_self
    have hD' : DPK.KeyFree ks T := fun h' hh' => hD h' (List.mem_cons_of_mem _ hh')
    simp only [List.map_cons, patchAll, DPL.shiftHunk, hmg, hpath, List.cons_append,
      List.nil_append] at hR
    rw [DPK.patchNode_keyed sw t ht po (.key k) rest _ _ _ _ pre kvs post tol htol hpre hm,
      patchNode_key_obj] at hR
    cases hv : patchNode sw false ((alookup k kvs).getD .void) rest h.before h.remove h.add
        h.after with
    | panic => rw [hv] at hR; cases hR
    | err =>
      rw [hv] at hR
      cases sw with
      | false => cases hR
      | true =>
        simp only [if_true] at hR
        obtain ⟨E, kvr, t', e1, e2, e3, e4, e5, e6⟩ := keyed_frame_rev true ks po hpos hpok pre post
          tol hpre T hD' .set (Or.inr rfl) kvs hs htol hm R hR
        exact ⟨E, kvr, t', List.Sublist.cons h e1, e2, e3, e4, e5, e6⟩
    | ok v =>
      rw [hv] at hR
      simp only [Outcome.bind_ok] at hR
      obtain ⟨hs1, hl1, hm1, htol1⟩ := DPK.member_putKvs hpos hpok hs hkn v
      obtain ⟨E, kvr, t', e1, e2, e3, e4, e5, e6⟩ := keyed_frame_rev sw ks po hpos hpok pre post tol
        hpre T hD' .set (Or.inr rfl) (Merge.putKvs k v kvs) hs1 ((htol1 pre post).trans htol)
        ((hm1 tol).trans hm) R hR
      refine ⟨h :: E, kvr, t', List.Sublist.cons_cons h e1, ?_, e3,
        fun j hj => by rw [e4 j hj, hl1 j hj], e5, e6⟩
      simp only [patchAll, hmg, hpath]
      rw [patchNode_key_obj, hv]
      exact e2

/-- the local hypotheses on the two arrays (derived in `nr_node` from `DPK.KeysHyp`) -/
structure KH (o : Opts) (ks : List String) (xs ys : List Json) : Prop where
  sortedA : ∀ kvs, Json.obj kvs ∈ xs → keysSorted kvs = true
  kd : ((xs.filter Json.isObj).map (identOf o)).Nodup
  pf : ∀ kvs kz, Json.obj kvs ∈ xs → Json.obj kz ∈ xs → ∀ tol,
    DPK.matchT tol (DPK.pathObjOf ks kvs) (.obj kz) = true →
      identOf o (.obj kz) = identOf o (.obj kvs)
  free : ∀ kvs kvs', Json.obj kvs ∈ xs → Json.obj kvs' ∈ ys →
    identOf o (.obj kvs') = identOf o (.obj kvs) →
      DPK.KeyFree ks (diffNode o false (.obj kvs) (.obj kvs') [])

/-- the state of the array while hunks below its keyed members are applied: `G` maps every member of
    the first array to what stands in its place — itself, or, for an object, an object with the same
    values under the set keys; members whose identity is not in `done` are untouched -/
def GI (o : Opts) (ks : List String) (xs : List Json) (G : Json → Json) (done : List UInt64) : Prop :=
  ∀ x ∈ xs, (x.isObj = false ∧ G x = x) ∨
    (∃ kvs kvr, x = .obj kvs ∧ G x = .obj kvr ∧ keysSorted kvr = true ∧
      (∀ k ∈ ks, alookup k kvr = alookup k kvs) ∧ (identOf o x ∉ done → kvr = kvs))

theorem GI.mono {o : Opts} {ks : List String} {xs : List Json} {G : Json → Json}
    {done done' : List UInt64} (h : GI o ks xs G done) (hs : ∀ c ∈ done, c ∈ done') :
    GI o ks xs G done' := by
  intro x hx
  rcases h x hx with h1 | ⟨kvs, kvr, e1, e2, e3, e4, e5⟩
  · exact .inl h1
  · exact .inr ⟨kvs, kvr, e1, e2, e3, e4, fun hn => e5 (fun hc => hn (hs _ hc))⟩

/-- some member stands as what a PROPER sub-list of its sub-diff makes of it -/
def Missed (sw : Bool) (o : Opts) (xs ys : List Json) (G : Json → Json) : Prop :=
  ∃ kvs kvs' E, Json.obj kvs ∈ xs ∧ Json.obj kvs' ∈ ys ∧
    identOf o (.obj kvs') = identOf o (.obj kvs) ∧
    E.Sublist (diffNode o false (.obj kvs) (.obj kvs') []) ∧
    E ≠ diffNode o false (.obj kvs) (.obj kvs') [] ∧
    patchAll sw (.obj kvs) E = .ok (G (.obj kvs))

/-- one member's step of `subs_apply_sub`: strict hunks `T` that do not touch the set keys, addressed
    through the keyed path element of the member `.obj kvs`, which the state `G` has left untouched,
    are applied to the array in state `G`; the new state differs from `G` at that member only -/
theorem sub_apply_member (sw : Bool) {o : Opts} {ks : List String} {xs ys : List Json}
    (Hy : KH o ks xs ys) {G : Json → Json} {done : List UInt64} {t : Tag} (ht : t = .raw ∨ t = .set)
    (hG : GI o ks xs G done) {kvs : List (String × Json)} (hx : Json.obj kvs ∈ xs)
    (hcd : identOf o (.obj kvs) ∉ done) {T : Diff} (hfreeT : DPK.KeyFree ks T) {R1 : Json}
    (hR1 : patchAll sw (.arr t (xs.map G))
      (T.map (DPL.shiftHunk [.setKeys (DPK.pathObjOf ks kvs)])) = .ok R1) :
    ∃ E kvr G1 t1, E.Sublist T ∧ patchAll sw (.obj kvs) E = .ok (.obj kvr) ∧
      (t1 = .raw ∨ t1 = .set) ∧ R1 = .arr t1 (xs.map G1) ∧ G1 (.obj kvs) = .obj kvr ∧
      GI o ks xs G1 (done ++ [identOf o (.obj kvs)]) ∧
      (∀ z ∈ xs, z.isObj = true → identOf o z ∈ done → G1 z = G z) := by
  -- the member has not been touched yet
  have hGx : G (.obj kvs) = .obj kvs := by
    rcases hG _ hx with h | ⟨k1, k2, e1, e2, _, _, e5⟩
    · simp [Json.isObj] at h
    · cases e1
      rw [e2, e5 hcd]
  obtain ⟨pre0, post0, hsplit⟩ := List.append_of_mem hx
  have hsx := Hy.sortedA kvs hx
  have hkd := Hy.kd
  rw [hsplit] at hkd
  have hother := kd_splitG hkd (x := .obj kvs) rfl
  have hmem0 : ∀ z ∈ pre0 ++ post0, z ∈ xs := by
    intro z hz
    rw [hsplit]
    rcases List.mem_append.1 hz with h | h
    · exact List.mem_append.2 (Or.inl h)
    · exact List.mem_append.2 (Or.inr (List.mem_cons_of_mem _ h))
  have hpo_s := DPK.pathObjOf_sorted ks kvs
  have hpok := DPK.pathObjOf_keys ks kvs
  have hnomatch : ∀ tl, ∀ z0 ∈ pre0 ++ post0,
      DPK.matchT tl (DPK.pathObjOf ks kvs) (G z0) = false := by
    intro tl z0 hz0
    have hz0x : z0 ∈ xs := hmem0 z0 hz0
    cases hmz : DPK.matchT tl (DPK.pathObjOf ks kvs) (G z0) with
    | false => rfl
    | true =>
      exfalso
      rcases hG z0 hz0x with h | ⟨kz, kvr, rfl, h2, h3, h4, _⟩
      · rw [h.2] at hmz
        cases z0 <;> simp [DPK.matchT, Json.isObj] at hmz h
      · rw [h2, DPK.matchT_congr hpo_s (Hy.sortedA kz hz0x) h3
          (fun k hk' => h4 k (hpok k hk'))] at hmz
        exact hother _ hz0 rfl (Hy.pf kvs kz hx hz0x tl hmz)
  have hno : ∀ tl, ∀ z ∈ pre0.map G ++ post0.map G,
      DPK.matchT tl (DPK.pathObjOf ks kvs) z = false := by
    intro tl z hz
    rw [← List.map_append] at hz
    obtain ⟨z0, hz0, rfl⟩ := List.mem_map.1 hz
    exact hnomatch tl z0 hz0
  have htolm := DPK.keyedTol_pass _ _ _ kvs hno (by simp [DPK.matchT_true_self ks hsx])
  have hpre : ∀ z ∈ pre0.map G,
      DPK.matchT (keyedTol (DPK.pathObjOf ks kvs) (pre0.map G ++ .obj kvs :: post0.map G))
        (DPK.pathObjOf ks kvs) z = false :=
    fun z hz => hno _ z (List.mem_append.2 (Or.inl hz))
  have hmapG : xs.map G = pre0.map G ++ .obj kvs :: post0.map G := by
    rw [hsplit, List.map_append, List.map_cons, hGx]
  rw [hmapG] at hR1
  obtain ⟨E, kvr, t1, f1, f2, f3, f4, f5, f6⟩ := keyed_frame_rev sw ks (DPK.pathObjOf ks kvs)
    hpo_s hpok (pre0.map G) (post0.map G) _ hpre T hfreeT t ht kvs hsx rfl htolm R1 hR1
  -- the new state: the member now stands as `.obj kvr`
  obtain ⟨G1, hG1x, hG1n⟩ : ∃ G1 : Json → Json, G1 (.obj kvs) = .obj kvr ∧
      ∀ z, ¬ (z.isObj = true ∧ identOf o z = identOf o (.obj kvs)) → G1 z = G z :=
    ⟨fun z => if z.isObj && identOf o z == identOf o (.obj kvs) then .obj kvr else G z,
      if_pos (by simp [Json.isObj]), fun z hz => if_neg (by simpa using hz)⟩
  have hG1o : ∀ z ∈ pre0 ++ post0, G1 z = G z := fun z hz =>
    hG1n z (fun hcond => hother z hz hcond.1 hcond.2)
  have hmapG1 : xs.map G1 = pre0.map G ++ .obj kvr :: post0.map G := by
    rw [hsplit, List.map_append, List.map_cons, hG1x,
      List.map_congr_left (l := pre0) (fun z hz => hG1o z (List.mem_append.2 (Or.inl hz))),
      List.map_congr_left (l := post0) (fun z hz => hG1o z (List.mem_append.2 (Or.inr hz)))]
  have hG1stay : ∀ z ∈ xs, z.isObj = true → identOf o z ∈ done → G1 z = G z :=
    fun z _ _ hzd => hG1n z (fun hcond => hcd (hcond.2 ▸ hzd))
  have hGI1 : GI o ks xs G1 (done ++ [identOf o (.obj kvs)]) := by
    intro z hz
    by_cases hcond : z.isObj = true ∧ identOf o z = identOf o (.obj kvs)
    · have hzx : z = .obj kvs :=
        Jd.nodup_map_inj Hy.kd (List.mem_filter.2 ⟨hz, hcond.1⟩) (List.mem_filter.2 ⟨hx, rfl⟩)
          hcond.2
      subst hzx
      refine .inr ⟨kvs, kvr, rfl, hG1x, f3, f4, fun hn => ?_⟩
      exact absurd (List.mem_append.2 (.inr (by simp))) hn
    · rw [hG1n z hcond]
      rcases hG z hz with h | ⟨kz, kzr, h1, h2, h3, h4, h5⟩
      · exact .inl h
      · exact .inr ⟨kz, kzr, h1, h2, h3, h4,
          fun hn => h5 (fun hm => hn (List.mem_append.2 (.inl hm)))⟩
  exact ⟨E, kvr, G1, t1, f1, f2, f5, f6.trans (by rw [hmapG1]), hG1x, hGI1, hG1stay⟩

theorem subs_apply_sub (sw : Bool) (o : Opts) (ks : List String) (hd : dispatchTag o = .set)
    (hk : keysOf o = some ks) (xs ys : List Json) (Hy : KH o ks xs ys) :
    ∀ (ps : List (UInt64 × SetPart)), (∀ kp ∈ ps, kp ∈ diffSetElems o false [] ys xs) →
      (ps.map (·.1)).Nodup →
      ∀ (S' : Diff), S'.Sublist (ps.flatMap subOf) →
      ∀ (G : Json → Json) (done : List UInt64) (t : Tag), (t = .raw ∨ t = .set) →
      GI o ks xs G done → (∀ kp ∈ ps, kp.1 ∉ done) →
      ∀ R, patchAll sw (.arr t (xs.map G)) S' = .ok R →
      ∃ G' t', (t' = .raw ∨ t' = .set) ∧ R = .arr t' (xs.map G') ∧
        GI o ks xs G' (done ++ ps.map (·.1)) ∧
        (∀ x ∈ xs, x.isObj = true → identOf o x ∈ done → G' x = G x) ∧
        (S' ≠ ps.flatMap subOf → Missed sw o xs ys G')
  | [], _, _, S', hS, G, done, t, ht, hG, _, R, hR => by
    simp only [List.flatMap_nil, List.sublist_nil] at hS
    subst hS
    simp only [patchAll, Outcome.ok.injEq] at hR
    exact ⟨G, t, ht, hR.symm, by simpa using hG, fun _ _ _ _ => rfl, fun h => absurd rfl h⟩
  | (c, .removed z) :: ps, hps, hnd, S', hS, G, done, t, ht, hG, hdone, R, hR => by
    simp only [List.map_cons, List.nodup_cons] at hnd
    have hf : List.flatMap subOf ((c, SetPart.removed z) :: ps) = List.flatMap subOf ps := by
      simp [List.flatMap_cons, subOf]
    rw [hf] at hS ⊢
    obtain ⟨G', t', e1, e2, e3, e4, e5⟩ := subs_apply_sub sw o ks hd hk xs ys Hy ps
      (fun kp h => hps kp (List.mem_cons_of_mem _ h)) hnd.2 S' hS G done t ht hG
      (fun kp h => hdone kp (List.mem_cons_of_mem _ h)) R hR
    refine ⟨G', t', e1, e2, e3.mono (fun c' hc' => ?_), e4, e5⟩
    rcases List.mem_append.1 hc' with h | h
    · exact List.mem_append.2 (.inl h)
    · exact List.mem_append.2 (.inr (List.mem_cons_of_mem _ h))
  | (c, .sub d) :: ps, hps, hnd, S', hS, G, done, t, ht, hG, hdone, R, hR => by
    simp only [List.map_cons, List.nodup_cons] at hnd
    obtain ⟨kvs, kvs', hc, hid, _, _, hx, hy, hdd⟩ := sub_origin (hps _ List.mem_cons_self)
    have hcd : c ∉ done := hdone _ List.mem_cons_self
    -- the sub-diff is the diff of the two members, moved below the keyed element
    have hdd' : d = (diffNode o false (.obj kvs) (.obj kvs') []).map
        (DPL.shiftHunk [.setKeys (DPK.pathObjOf ks kvs)]) := by
      rw [hdd, DPL.diffNode_shift, DPK.newPathSetKeys_some hk]
      rfl
    have hfl : List.flatMap subOf ((c, SetPart.sub d) :: ps) = d ++ List.flatMap subOf ps := by
      simp [List.flatMap_cons, subOf]
    rw [hfl] at hS
    obtain ⟨T1, S'', rfl, hT1, hS''⟩ := List.sublist_append_iff.1 hS
    rw [hdd'] at hT1
    obtain ⟨T, hT, rfl⟩ := List.sublist_map_iff.1 hT1
    obtain ⟨R1, hR1, hR2⟩ := patchAll_append_inv sw _ _ _ _ hR
    have hfree := Hy.free kvs kvs' hx hy hid
    obtain ⟨E, kvr, G1, t1, f1, f2, f5, rfl, hG1x, hGI1, hG1stay⟩ := sub_apply_member sw Hy ht hG hx
      (hc ▸ hcd) (fun h hh => hfree h (hT.subset hh)) hR1
    rw [← hc] at hGI1
    obtain ⟨G'', t', e1, e2, e3, e4, e5⟩ := subs_apply_sub sw o ks hd hk xs ys Hy ps
      (fun kp h => hps kp (List.mem_cons_of_mem _ h)) hnd.2 S'' hS'' G1 (done ++ [c]) t1 f5 hGI1
      (fun kp h hm => by
        rcases List.mem_append.1 hm with hm | hm
        · exact hdone kp (List.mem_cons_of_mem _ h) hm
        · simp only [List.mem_singleton] at hm
          exact hnd.1 (hm ▸ List.mem_map_of_mem (f := (·.1)) h)) R hR2
    refine ⟨G'', t', e1, e2, by simpa [List.append_assoc] using e3, ?_, ?_⟩
    · intro z hz hzo hzd
      rw [e4 z hz hzo (List.mem_append.2 (.inl hzd)), hG1stay z hz hzo hzd]
    · intro hne
      by_cases hT' : T = diffNode o false (.obj kvs) (.obj kvs') []
      · -- the missing hunk is further on
        have hne' : S'' ≠ List.flatMap subOf ps := by
          intro e
          apply hne
          rw [hfl, hdd', e, hT']
        exact e5 hne'
      · -- a hunk of this member is missing
        have hE : E ≠ diffNode o false (.obj kvs) (.obj kvs') [] := by
          intro e
          apply hT'
          rw [e] at f1
          exact hT.eq_of_length_le f1.length_le
        refine ⟨kvs, kvs', E, hx, hy, hid, f1.trans hT, hE, ?_⟩
        rw [e4 _ hx rfl (List.mem_append.2 (.inr (by simp [hc]))), hG1x]
        exact f2

theorem identKeyHashes_congr (o : Opts) (kvs kvs' : List (String × Json)) : ∀ ks : List String,
    (∀ k ∈ ks, (alookup k kvs).map (hashCode o) = (alookup k kvs').map (hashCode o)) →
    identKeyHashes o kvs ks = identKeyHashes o kvs' ks
  | [], _ => rfl
  | k :: r, h => by
    have ih := identKeyHashes_congr o kvs kvs' r (fun k hk => h k (List.mem_cons_of_mem _ hk))
    have hk := h k List.mem_cons_self
    simp only [identKeyHashes]
    cases h1 : alookup k kvs <;> cases h2 : alookup k kvs' <;> simp [h1, h2] at hk ⊢
    · exact ih
    · exact ⟨hk, ih⟩

/-- an object `kxr` that carries the set-key values of the member `kx` of the first document and is
    equivalent (`equivB`, no hashes) to the member `ky` of the second: `kx` and `ky` have the same
    identity -/
theorem ident_of_equivB_kept (F : FloatEq0) {o : Opts} {ks : List String}
    (hd : dispatchTag o = .set) (hk : keysOf o = some ks) (hp : precOf o = 0)
    {kx kxr ky : List (String × Json)} (dx : DocOk (.obj kx)) (dy : DocOk (.obj ky))
    (hsr : keysSorted kxr = true) (hkeep : ∀ k ∈ ks, alookup k kxr = alookup k kx)
    (he : equivB o (.obj kxr) (.obj ky) = true) : identOf o (.obj kx) = identOf o (.obj ky) := by
  have hsy := dy.sorted
  rw [equivB] at he
  simp only [Bool.and_eq_true, beq_iff_eq] at he
  obtain ⟨hlen, hk'⟩ := he
  rw [equivKvs_eq_lookAll, lookAll_iff] at hk'
  have hflip := AllLook.flip hsr hsy hlen hk'
  simp only [identOf, identObj, hk]
  congr 2
  apply identKeyHashes_congr
  intro k hkk
  cases hl : alookup k kx with
  | none =>
    cases hl' : alookup k ky with
    | none => rfl
    | some v' =>
      obtain ⟨v, hv, _⟩ := hflip k v' (mem_of_alookup hl')
      rw [hkeep k hkk, hl] at hv
      cases hv
  | some v =>
    have hr : alookup k kxr = some v := by rw [hkeep k hkk, hl]
    obtain ⟨v', hv', e⟩ := hk' k v (mem_of_alookup hr)
    rw [hv']
    simp only [Option.map_some]
    congr 1
    exact equivB_hash_core F o (.inl hd) hp v v' (dx.val (mem_of_alookup hl))
      (dy.val (mem_of_alookup hv')) e

theorem ident_of_equivB_docs (F : FloatEq0) {o : Opts} {ks : List String}
    (hd : dispatchTag o = .set) (hk : keysOf o = some ks) (hp : precOf o = 0)
    {x y : Json} (dx : DocOk x) (dy : DocOk y) (he : equivB o x y = true) :
    identOf o x = identOf o y := by
  have hkind := DPK.equivB_isObj he
  cases x with
  | obj kx =>
    cases y with
    | obj ky => exact ident_of_equivB_kept F hd hk hp dx dy dx.sorted (fun _ _ => rfl) he
    | _ => simp [Json.isObj] at hkind
  | _ =>
    have hy : y.isObj = false := by rw [← hkind]; rfl
    rw [DES.identOf_nonobj o rfl, DES.identOf_nonobj o hy]
    exact equivB_hash_core F o (.inl hd) hp _ _ dx dy he

theorem arr_nr (F : FloatEq0) (sw : Bool) {o : Opts} {ks : List String} (hd : dispatchTag o = .set)
    (hk : keysOf o = some ks) (hp : precOf o = 0) (xs ys : List Json) (Hy : KH o ks xs ys)
    (da : DocOk (.arr .raw xs)) (db : DocOk (.arr .raw ys))
    (ih : ∀ kvs kvs', Json.obj kvs ∈ xs → Json.obj kvs' ∈ ys →
      identOf o (.obj kvs') = identOf o (.obj kvs) →
      NR.NoProper sw (fun x y => equivB o x y = true) (.obj kvs) (.obj kvs')
        (diffNode o false (.obj kvs) (.obj kvs') [])) :
    NR.NoProper sw (fun x y => equivB o x y = true) (.arr .raw xs) (.arr .raw ys)
      (diffNode o false (.arr .raw xs) (.arr .raw ys) []) := by
  intro D' ⟨hS, hne⟩ r hr he
  rw [diffNode_set_set hd] at hS hne
  obtain ⟨S', H', rfl, hS', hH'⟩ := List.sublist_append_iff.1 hS
  obtain ⟨R1, hR1, hR2⟩ := patchAll_append_inv sw _ _ _ _ hr
  have hGI0 : GI o ks xs id [] := by
    intro x hx
    cases x with
    | obj kvs => exact .inr ⟨kvs, kvs, rfl, rfl, Hy.sortedA kvs hx, fun _ _ => rfl, fun _ => rfl⟩
    | _ => exact .inl ⟨rfl, rfl⟩
  have hnd : ((ksort (diffSetElems o false [] ys xs)).map (·.1)).Nodup :=
    (((ksort_perm _).map (·.1)).nodup_iff).2 (SetDP.parts_keys o false [] ys xs).2
  have hR1' : patchAll sw (.arr .raw (xs.map id)) S' = .ok R1 := by rw [List.map_id]; exact hR1
  obtain ⟨G', t', ht', rfl, hGI, _, hmiss⟩ := subs_apply_sub sw o ks hd hk xs ys Hy
    (ksort (diffSetElems o false [] ys xs)) (fun kp h => (ksort_perm _).mem_iff.1 h) hnd S' hS'
    id [] .raw (.inl rfl) hGI0 (fun _ _ h => by cases h) R1 hR1'
  -- a member standing for `x` that is equivalent to a member `y` of the second array
  have H1 : ∀ x ∈ xs, ∀ y ∈ ys, equivB o (G' x) y = true → identOf o x = identOf o y ∧
      x.isObj = y.isObj := by
    intro x hx y hy he
    rcases hGI x hx with ⟨h1, h2⟩ | ⟨kx, kxr, rfl, h2, h3, h4, _⟩
    · rw [h2] at he
      exact ⟨ident_of_equivB_docs F hd hk hp (da.elem hx) (db.elem hy) he, DPK.equivB_isObj he⟩
    · rw [h2] at he
      have hkind := DPK.equivB_isObj he
      cases y with
      | obj ky =>
        exact ⟨ident_of_equivB_kept F hd hk hp (da.elem hx) (db.elem hy) h3 h4 he, rfl⟩
      | _ => simp [Json.isObj] at hkind
  obtain ⟨r1, _, r3, a1, _, a2⟩ := setDelta o false [] xs ys
  -- the argument when a hunk below a member is missing
  have M : Missed sw o xs ys G' → ∀ zs : List Json,
      (∀ z ∈ zs, z ∈ xs.map G' ∨ z ∈ setAdd o xs ys) →
      (∀ y ∈ ys, ∃ z ∈ zs, equivB o z y = true) → False := by
    rintro ⟨kvs, kvs', E, hx, hy, hid, hE1, hE2, hE3⟩ zs hzs hcov
    have hno := ih kvs kvs' hx hy hid E ⟨hE1, hE2⟩ _ hE3
    obtain ⟨z, hz, hez⟩ := hcov _ hy
    rcases hzs z hz with hz | hz
    · obtain ⟨x, hx', rfl⟩ := List.mem_map.1 hz
      obtain ⟨e1, e2⟩ := H1 x hx' _ hy hez
      have hxo : x.isObj = true := by rw [e2]; rfl
      have : x = .obj kvs :=
        Jd.nodup_map_inj Hy.kd (List.mem_filter.2 ⟨hx', hxo⟩) (List.mem_filter.2 ⟨hx, rfl⟩)
          (e1.trans hid)
      subst this
      exact hno hez
    · have e := ident_of_equivB_docs F hd hk hp (db.elem (a1 z hz)) (db.elem hy) hez
      have h1 := ((a2 _).1 (List.mem_map_of_mem (f := identOf o) hz)).2
      exact h1 (by rw [e, hid]; exact List.mem_map_of_mem hx)
  split at hH' <;> rename_i hcond
  · -- no set hunk
    have : H' = [] := by simpa using hH'
    subst this
    simp only [patchAll, Outcome.ok.injEq] at hR2
    subst hR2
    simp only [equivB, hd, Bool.and_eq_true, allIn_iff, allCovered_iff] at he
    rw [if_pos hcond] at hne
    exact M (hmiss (fun e => hne (by rw [e]))) _ (fun z hz => .inl hz) he.2
  · rw [if_neg hcond] at hne
    by_cases hH : H' = []
    · -- the set hunk is missing
      subst hH
      simp only [patchAll, Outcome.ok.injEq] at hR2
      subst hR2
      simp only [equivB, hd, Bool.and_eq_true, allIn_iff, allCovered_iff] at he
      simp only [Bool.and_eq_true, List.isEmpty_iff, not_and] at hcond
      by_cases hrem : (ksort (diffSetElems o false [] ys xs)).filterMap remOf = []
      · have hadd := hcond hrem
        obtain ⟨w, hw⟩ := List.exists_mem_of_ne_nil _ hadd
        obtain ⟨z, hz, hez⟩ := he.2 w (a1 w hw)
        obtain ⟨x, hx', rfl⟩ := List.mem_map.1 hz
        have e := (H1 x hx' w (a1 w hw) hez).1
        exact ((a2 _).1 (List.mem_map_of_mem (f := identOf o) hw)).2
          (e ▸ List.mem_map_of_mem hx')
      · obtain ⟨z, hz⟩ := List.exists_mem_of_ne_nil _ hrem
        obtain ⟨y, hy, hey⟩ := he.1 (G' z) (List.mem_map_of_mem (r1 z hz))
        have e := (H1 z (r1 z hz) y hy hey).1
        exact ((r3 _).1 (List.mem_map_of_mem (f := identOf o) hz)).2
          (e ▸ List.mem_map_of_mem hy)
    · -- the set hunk is there: a hunk below a member is missing
      have hH2 := hH'.eq_of_length_le (by
        cases H' with
        | nil => exact absurd rfl hH
        | cons _ _ => simp)
      subst hH2
      have hmis := hmiss (fun e => hne (by rw [e]))
      simp only [patchAll, List.nil_append] at hR2
      rw [patchNode_set_leaf sw t' ht'] at hR2
      cases hleaf : patchSetLeaf [.set] (xs.map G')
          ((ksort (diffSetElems o false [] ys xs)).filterMap remOf) (setAdd o xs ys) with
      | err => rw [hleaf] at hR2; cases hR2
      | panic => rw [hleaf] at hR2; cases hR2
      | ok r' =>
        rw [hleaf] at hR2
        simp only [Outcome.ok.injEq] at hR2
        subst hR2
        obtain ⟨zs, rfl, hmem⟩ := setLeaf_ok ((patchSetLeaf_eq _ _ _ _).symm.trans hleaf)
        simp only [equivB, hd, Bool.and_eq_true, allIn_iff, allCovered_iff] at he
        exact M hmis zs hmem he.2

/-- a diff of one hunk between values that are not equivalent: the proper sub-list is empty -/
theorem nr_single (sw : Bool) {o : Opts} {a b : Json} {h0 : Hunk}
    (e : diffNode o false a b [] = [h0]) (he : equivB o a b = false) :
    NR.NoProper sw (fun x y => equivB o x y = true) a b (diffNode o false a b []) :=
  .of_le_one (by rw [e]; exact Nat.le_refl 1) fun _ => by simp [he]

theorem nr_scalar (sw : Bool) {o : Opts} (hp : precOf o = 0) {a : Json} (b : Json)
    (h1 : ∀ t xs, a ≠ .arr t xs) (h2 : ∀ kvs, a ≠ .obj kvs) :
    NR.NoProper sw (fun x y => equivB o x y = true) a b (diffNode o false a b []) := by
  by_cases heq : equals [] a b = true
  · rw [DPL.diffNode_scalar o a b h1 h2, diffCommon, if_pos heq]
    exact .of_le_one (Nat.zero_le 1) fun h => absurd rfl h
  · refine nr_single sw (h0 := { path := [], remove := a.nodeList, add := b.nodeList }) ?_ ?_
    · rw [DPL.diffNode_scalar o a b h1 h2, diffCommon, if_neg heq]
      rfl
    · rw [SetDP.equivB_scalar_equals_nil hp h1 h2]
      simpa using heq

/-- **no proper sub-list of the diff yields the target** (SetKeys reading, strict strategy, the node
    `a` of the first document against the node `b` of the second): if `D'` is a sub-list of
    `diffNode o false a b []` other than the whole diff and the library's patch code applies it to
    `a`, the result is not equivalent (`equivB`, the advertised equivalence, no hashes) to `b`. -/
theorem nr_node (F : FloatEq0) (L : FloatLaws) (sw : Bool) {o : Opts} {ks : List String}
    (hd : dispatchTag o = .set) (hk : keysOf o = some ks) (hp : precOf o = 0)
    {a0 b0 : Json} (da0 : DocOk a0) (db0 : DocOk b0) (K : DPK.KeysHyp o ks a0 b0) :
    ∀ a b, Ok a → Ok b → Within (subterms a0) a → Within (subterms b0) b →
      NR.NoProper sw (fun x y => equivB o x y = true) a b (diffNode o false a b []) := by
  intro a
  induction a using jsonInd with
  | arr t xs ih =>
    intro b ha hb wa wb
    have ht := ha.raw
    subst ht
    by_cases hbb : ∃ t' ys, b = .arr t' ys
    · obtain ⟨t', ys, rfl⟩ := hbb
      have ht' := hb.raw
      subst ht'
      have Hy : KH o ks xs ys := {
        sortedA := fun kvs hx => (ha.elem hx).sorted
        kd := by
          have := K.kd _ wa.self
          simpa [DPK.nodeKeyedDistinct] using this
        pf := fun kvs kz hx hz tol e => DPK.nodePathFaithful_arr (K.pf _ wa.self) hx hz tol e
        free := by
          intro kvs kvs' hx hy hid
          obtain ⟨D, r, h1, _, _, _, h5⟩ := DPK.node_stepK F L sw hd hk hp da0 db0 K _ _
            (ha.elem hx) (hb.elem hy) (wa.elem hx) (wb.elem hy) []
          rw [h1, map_shiftHunk_nil]
          exact h5 kvs kvs' rfl rfl
            (DPK.keyTupleOK_obj (K.kt _ (wa.elem hx).self _ (wb.elem hy).self) hid.symm) }
      exact arr_nr F sw hd hk hp xs ys Hy ha.docOk hb.docOk
        (fun kvs kvs' hx hy _ => ih _ hx _ (ha.elem hx) (hb.elem hy) (wa.elem hx) (wb.elem hy))
    · have hb' : ∀ t' ys, b ≠ .arr t' ys := fun t' ys e => hbb ⟨t', ys, e⟩
      exact nr_single sw (diffNode_arr_other (.inl hd) xs b hb' [])
        (equivB_kind_ne o _ _ (RealS.kind_ne_arr hb'))
  | obj kvs ih =>
    intro b ha hb wa wb
    by_cases hbb : ∃ kvs', b = .obj kvs'
    · obtain ⟨kvs', rfl⟩ := hbb
      refine NR.NoProper.obj_diff (E := fun x y => equivB o x y = true)
        (.inl hd) hp ha.rawDoc ha.wf hb.rawDoc hb.wf
        (fun kvr hsr he => (equivB_obj_optRel o hsr hb.sorted).1 he) (fun k v v' h1 h2 => ?_)
      have hm := mem_of_alookup h1
      have hm' := mem_of_alookup h2
      exact ih k v hm v' (ha.val hm).1 (hb.val hm').1 (wa.val hm) (wb.val hm')
    · have hb' : ∀ kvs', b ≠ .obj kvs' := fun kvs' e => hbb ⟨kvs', e⟩
      exact nr_single sw (DPL.diffNode_obj_other o kvs b hb' [])
        (equivB_kind_ne o _ _ (RealS.kind_ne_obj hb'))
  | _ => intro b _ _ _ _; exact nr_scalar sw hp b (by nofun) (by nofun)

/-- **C07 (3), SetKeys reading, general form: no proper sub-list of the diff yields the target.**
    `D'` any sub-list of `a.Diff(b)` other than the whole diff (one or several hunks left out): if the
    library's patch code (either variant `sw` of the keyed branch) applies `D'` to `a`, the result is
    not equivalent to `b` (`equivB`: the advertised equivalence, arrays as sets, no hashes). -/
theorem no_proper_sublist (F : FloatEq0) (L : FloatLaws) (sw : Bool) (o : Opts) (ks : List String)
    (hd : dispatchTag o = .set) (hk : keysOf o = some ks) (hmg : isMerge o = false)
    (hp : precOf o = 0) (a b : Json) (ha : a.setDoc = true) (hb : b.setDoc = true)
    (ha' : DPL.memOK a = true) (hb' : DPL.memOK b = true) (K : DPK.KeysHyp o ks a b)
    (D' : Diff) (hS : D'.Sublist (diffM o a b)) (hne : D' ≠ diffM o a b) (r : Json)
    (hr : patchAll sw a D' = .ok r) : equivB o r b = false := by
  rw [diffM, hmg] at hS hne
  exact Bool.eq_false_iff.2 (nr_node F L sw hd hk hp (docOk_of_setDoc ha) (docOk_of_setDoc hb) K
    a b ⟨ha, ha'⟩ ⟨hb, hb'⟩ (fun _ hz => hz) (fun _ hz => hz) D' ⟨hS, hne⟩ r hr)

/-- **C07 (3), SetKeys reading: no hunk is redundant.**  Leave any single hunk `h` out of
    `a.Diff(b)`: whatever the remaining hunks make of `a` (if they apply at all) is not equivalent to
    `b`. -/
theorem no_redundant_hunk (F : FloatEq0) (L : FloatLaws) (sw : Bool) (o : Opts) (ks : List String)
    (hd : dispatchTag o = .set) (hk : keysOf o = some ks) (hmg : isMerge o = false)
    (hp : precOf o = 0) (a b : Json) (ha : a.setDoc = true) (hb : b.setDoc = true)
    (ha' : DPL.memOK a = true) (hb' : DPL.memOK b = true) (K : DPK.KeysHyp o ks a b)
    (d1 d2 : Diff) (h : Hunk) (hdf : diffM o a b = d1 ++ h :: d2) (r : Json)
    (hres : patchAll sw a (d1 ++ d2) = .ok r) : equivB o r b = false := by
  rw [diffM, hmg] at hdf
  exact Bool.eq_false_iff.2 ((nr_node F L sw hd hk hp (docOk_of_setDoc ha) (docOk_of_setDoc hb) K
    a b ⟨ha, ha'⟩ ⟨hb, hb'⟩ (fun _ hz => hz) (fun _ hz => hz)).drop_one hdf hres)

/-- the same with the hunk designated by its index: `d.eraseIdx i` -/
theorem no_redundant_hunk_eraseIdx (F : FloatEq0) (L : FloatLaws) (sw : Bool) (o : Opts)
    (ks : List String) (hd : dispatchTag o = .set) (hk : keysOf o = some ks)
    (hmg : isMerge o = false) (hp : precOf o = 0) (a b : Json) (ha : a.setDoc = true)
    (hb : b.setDoc = true) (ha' : DPL.memOK a = true) (hb' : DPL.memOK b = true)
    (K : DPK.KeysHyp o ks a b) (i : Nat) (hi : i < (diffM o a b).length) (r : Json)
    (hres : patchAll sw a ((diffM o a b).eraseIdx i) = .ok r) : equivB o r b = false := by
  refine no_proper_sublist F L sw o ks hd hk hmg hp a b ha hb ha' hb' K _
    (List.eraseIdx_sublist _ _) ?_ r hres
  intro e
  have := congrArg List.length e
  rw [List.length_eraseIdx, if_pos hi] at this
  omega

/-- the `Equals` form: if moreover the result `r` is a document on whose nodes, together with those
    of `b`, hash codes are faithful (a hypothesis on the OUTPUT: `r` contains hybrid nodes that are
    neither nodes of `a` nor of `b`), `r` is not `Equals` to `b` -/
theorem no_redundant_hunk_equals (F : FloatEq0) (L : FloatLaws) (sw : Bool) (o : Opts)
    (ks : List String) (hd : dispatchTag o = .set) (hk : keysOf o = some ks)
    (hmg : isMerge o = false) (hp : precOf o = 0) (a b : Json) (ha : a.setDoc = true)
    (hb : b.setDoc = true) (ha' : DPL.memOK a = true) (hb' : DPL.memOK b = true)
    (K : DPK.KeysHyp o ks a b) (d1 d2 : Diff) (h : Hunk) (hdf : diffM o a b = d1 ++ h :: d2)
    (r : Json) (hres : patchAll sw a (d1 ++ d2) = .ok r) (dr : DocOk r)
    (HF : HashFaithful o (subterms r ++ subterms b)) : equals o r b = false := by
  rw [SetDP.equals_eq_equivB_of F (.inl hd) hp HF dr (docOk_of_setDoc hb)
    (fun z hz => List.mem_append.2 (.inl hz)) (fun z hz => List.mem_append.2 (.inr hz))]
  exact no_redundant_hunk F L sw o ks hd hk hmg hp a b ha hb ha' hb' K d1 d2 h hdf r hres

/-- no removed value is `Equals` to an added value of the same hunk (`FloatEq0`, `DocOk` documents) -/
theorem HunkReal.not_equals (F : FloatEq0) {o : Opts} (hd : dispatchTag o = .set)
    (hp : precOf o = 0) {a b : Json} {p : Path} {h : Hunk} (da : DocOk a) (db : DocOk b)
    (H : HunkReal o a b p h) : ∀ r ∈ h.remove, ∀ w ∈ h.add, equals o r w = false := by
  cases H with
  | value q u v loc hpath hmg hbf haf pres ne lit real => exact RealS.realOpt_not_equals real
  | set q xs ys loc hpath real =>
    exact real.not_equals F (.inl hd) hp (fun _ => (RealS.docOk_subterm da (loc.sub.1 _ rfl)).elem)
      (fun _ => (RealS.docOk_subterm db (loc.sub.2 _ rfl)).elem)

/-- without void object members, a location reaches void only at a void root -/
theorem Loc.void {o : Opts} {a b : Json} {q : Path} {ou ov : Option Json} (L : Loc o a b q ou ov) :
    (DPL.memOK a = true → ou = some .void → q = [] ∧ a = .void) ∧
    (DPL.memOK b = true → ov = some .void → q = [] ∧ b = .void) := by
  induction L with
  | here a b =>
    exact ⟨fun _ e => by cases e; exact ⟨rfl, rfl⟩, fun _ e => by cases e; exact ⟨rfl, rfl⟩⟩
  | key hx hy _ ih =>
    exact ⟨fun hm e => absurd (ih.1 (RealS.memOK_alookup hm hx).2 e).2 (RealS.memOK_alookup hm hx).1,
      fun hm e => absurd (ih.2 (RealS.memOK_alookup hm hy).2 e).2 (RealS.memOK_alookup hm hy).1⟩
  | onlyA hx _ =>
    exact ⟨fun hm e => absurd (Option.some.inj e) (RealS.memOK_alookup hm hx).1, fun _ => nofun⟩
  | onlyB _ hy =>
    exact ⟨fun _ => nofun, fun hm e => absurd (Option.some.inj e) (RealS.memOK_alookup hm hy).1⟩
  | member hx hy _ _ ih =>
    exact ⟨fun hm e => Json.noConfusion (ih.1 (RealS.memOK_elem hm (identLookup_some hx).1) e).2,
      fun hm e => Json.noConfusion (ih.2 (RealS.memOK_elem hm (identLookup_some hy).1) e).2⟩

/-- **no hunk is empty** (documents without void object members) -/
theorem HunkReal.nonempty {o : Opts} {a b : Json} {p : Path} {h : Hunk}
    (ha : DPL.memOK a = true) (hb : DPL.memOK b = true) (H : HunkReal o a b p h) :
    h.remove ≠ [] ∨ h.add ≠ [] := by
  cases H with
  | set q xs ys loc hpath real => exact real.nonempty
  | value q u v loc hpath hm hbf haf pres ne lit real =>
    obtain ⟨_, _, _, _, r5, r6, _⟩ := real
    apply Classical.byContradiction
    intro hcon
    have h1 : h.remove = [] := Classical.byContradiction fun e => hcon (.inl e)
    have h2 : h.add = [] := Classical.byContradiction fun e => hcon (.inr e)
    rcases pres with hs | hs
    · obtain ⟨u0, rfl⟩ := Option.isSome_iff_exists.1 hs
      have := r5 h1 u0 rfl
      subst this
      obtain ⟨rfl, rfl⟩ := loc.void.1 ha rfl
      cases loc
      exact ne ⟨rfl, by rw [r6 h2 b rfl]⟩
    · obtain ⟨v0, rfl⟩ := Option.isSome_iff_exists.1 hs
      have := r6 h2 v0 rfl
      subst this
      obtain ⟨rfl, rfl⟩ := loc.void.2 hb rfl
      cases loc
      exact ne ⟨by rw [r5 h1 a rfl], rfl⟩

namespace Witness
open DPK.Witness

/-- **(2) is FALSE without `PathInj`** (class of the finding `DPK.Witness.null_completion_breaks`; the
    identities are pairwise distinct within each array, so this is INSIDE the SetKeys precondition):
    under `SetKeys("id","k")`, in `[{"id":"1"},{"id":"1","k":null}]` →
    `[{"id":"1","v":"y"},{"id":"1","k":null}]` the member `{"id":"1","k":null}` has a partner with the
    same identity that is `Equals` to it — it is even the same value — and yet the one hunk of the
    diff, `@ [{"id":"1","k":null},"v"]`, has a path through the path element of that member: the path
    object written for the member `{"id":"1"}`, which lacks `k`, is `{"id":"1","k":null}` as well. -/
theorem equal_member_mentioned_nullkey :
    Loc o2 na nb [PathElem.setKeys npo] (some n2) (some n2) ∧ equals o2 n2 n2 = true ∧
    ∃ h ∈ diffM o2 na nb, [PathElem.setKeys npo] <+: h.path := by
  refine ⟨?_, by decide +kernel, ?_⟩
  · have hp2 : newPathSetKeys o2 [("id", .str "1"), ("k", .null)] = .setKeys npo := by
      rw [DPK.newPathSetKeys_some (ks := ["id", "k"]) rfl]
      simp [DPK.pathObjOf, DPK.keyVal, alookup, ainsert]
    refine Loc.member (kvs := [("id", .str "1"), ("k", .null)])
      (kvs' := [("id", .str "1"), ("k", .null)]) ?_ ?_ hp2 (.here _ _)
    · simp [identLookup]
    · simp [identLookup]
  · rw [n_diff]
    exact ⟨_, List.mem_singleton.2 rfl, ⟨[.key "v"], rfl⟩⟩

end Witness

namespace Example
open DPK.ExampleB

#eval diffM o2 exA exB

/-- (1) on the pair of `DPK.ExampleB` (two set keys; a member changed inside a nested array, one
    removed, two added, a scalar member replaced) -/
example (F : FloatEq0) : ∀ h ∈ diffM o2 exA exB,
    HunkReal o2 exA exB [] h ∧ (h.remove ≠ [] ∨ h.add ≠ []) ∧
      ∀ r ∈ h.remove, ∀ w ∈ h.add, equals o2 r w = false := fun h hh =>
  have sa := ex_docs.1
  have sb := ex_docs.2.1
  have H := diffM_hunk_real (o := o2) rfl rfl rfl (SetDP.Ok.rawDoc ⟨sa, ex_docs.2.2.1⟩)
    (SetDP.Ok.wf ⟨sa, ex_docs.2.2.1⟩) (SetDP.Ok.rawDoc ⟨sb, ex_docs.2.2.2⟩)
    (SetDP.Ok.wf ⟨sb, ex_docs.2.2.2⟩) h hh
  ⟨H, H.nonempty ex_docs.2.2.1 ex_docs.2.2.2,
    H.not_equals F rfl rfl (docOk_of_setDoc sa) (docOk_of_setDoc sb)⟩

theorem ex_pathInj : PathInj o2 (subterms exA) :=
  pathInj_of_pathFaithful (ks := ["id", "k"]) rfl (docOk_of_setDoc ex_docs.1) ex_keysHyp.pf

/-- (3) on the pair: whatever hunk is left out, both variants of the patch code -/
example (F : FloatEq0) (L : FloatLaws) (sw : Bool) (d1 d2 : Diff) (h : Hunk)
    (hdf : diffM o2 exA exB = d1 ++ h :: d2) (r : Json)
    (hres : patchAll sw exA (d1 ++ d2) = .ok r) : equivB o2 r exB = false :=
  no_redundant_hunk F L sw o2 ["id", "k"] rfl rfl rfl rfl exA exB ex_docs.1 ex_docs.2.1
    ex_docs.2.2.1 ex_docs.2.2.2 ex_keysHyp d1 d2 h hdf r hres

-- the remaining hunks do apply on the example: the statement is not vacuous
#eval (List.range (diffM o2 exA exB).length).map
  (fun i => (patchAll true exA ((diffM o2 exA exB).eraseIdx i)).isOk)

end Example

namespace Example2

def o1 : Opts := [.setKeys ["id"]]
abbrev m1 : List (String × Json) := [("id", .str "1"), ("v", .str "x")]
abbrev m2 : List (String × Json) := [("id", .str "2"), ("v", .str "p")]
abbrev m2' : List (String × Json) := [("id", .str "2"), ("v", .str "q")]
/-- `[{"id":"1","v":"x"},{"id":"2","v":"p"}]` -/
def eA : Json := .arr .raw [.obj m1, .obj m2]
/-- `[{"id":"2","v":"q"},{"id":"1","v":"x"}]`: the member `1` is unchanged, the member `2` changed -/
def eB : Json := .arr .raw [.obj m2', .obj m1]

theorem e_ne : (identOf o1 (.obj m2) == identOf o1 (.obj m1)) = false := by decide +kernel

theorem e_loc : Loc o1 eA eB [newPathSetKeys o1 m1] (some (.obj m1)) (some (.obj m1)) :=
  .member (by simp [identLookup, e_ne]) (by simp [identLookup]) rfl (.here _ _)

theorem e_docs : eA.setDoc = true ∧ eB.setDoc = true := by decide

theorem e_pathInj : PathInj o1 (subterms eA) :=
  pathInj_of_pathFaithful (ks := ["id"]) rfl (docOk_of_setDoc e_docs.1)
    (DPK.pathFaithful_of_check (by decide +kernel))

#eval diffM o1 eA eB

/-- (2) on the pair: the unchanged member `{"id":"1","v":"x"}` is not mentioned (the diff is not empty:
    it has the hunk below the member `2`, see the `#eval`) -/
example (F : FloatEq0) : ∀ h ∈ diffM o1 eA eB, ¬ [newPathSetKeys o1 m1] <+: h.path :=
  diffM_equal_subdoc_not_mentioned F (o := o1) rfl rfl rfl (docOk_of_setDoc e_docs.1)
    (docOk_of_setDoc e_docs.2) e_pathInj e_loc (by decide +kernel)
    (DES.diffFaithful_of_check (by decide +kernel))
    (DES.Example.kindSepH_of_check (by decide +kernel))
    (DES.Example.identInj_of_check (by decide +kernel))

end Example2

#print axioms hunk_real
#print axioms diffM_hunk_real
#print axioms HunkReal.not_equals
#print axioms HunkReal.nonempty
#print axioms Loc.getAt
#print axioms pathInj_of_pathFaithful
#print axioms equal_subdoc_not_mentioned
#print axioms diffM_equal_subdoc_not_mentioned
#print axioms equal_member_not_mentioned
#print axioms Jd.DPL.diffNode_shift
#print axioms patchAll_obj_proj
#print axioms keyed_frame_rev
#print axioms subs_apply_sub
#print axioms arr_nr
#print axioms nr_node
#print axioms no_proper_sublist
#print axioms no_redundant_hunk
#print axioms no_redundant_hunk_eraseIdx
#print axioms no_redundant_hunk_equals
#print axioms Witness.equal_member_mentioned_nullkey
#print axioms Example.ex_pathInj

end Jd.RealK
