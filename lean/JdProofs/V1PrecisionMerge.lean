/-
  JdProofs.V1PrecisionMerge — C17 for the v1 library, MERGE metadata COMBINED WITH a precision
  (`SetPrecision(eps)`, any finite non-negative `eps`), list reading of arrays (no SET, no MULTISET).

  The development of JdProofs.V1MergeRender and of the merge part of JdProofs.V1SetDiffPatch (both at
  precision 0) with "structurally equal" replaced by "`Equal` under the metadata". `Merge.dl`
  compares with the v2 `equals`; the v1 diff compares with `V1.equals m` (precision included), so the
  pure diff here is the one with that comparison, `dlp m` (defined in JdProofs.V1MergeRender, where
  `diffNode_eq_dlp` is proved for the list reading at any precision). What needs only the list
  reading of arrays comes from `Jd.V1L`.

  MAIN THEOREMS (`PMergeMode m`: MERGE, no SET, no MULTISET, `nonnegBits (precOf m)`)
    * `v1_merge_diff_patch_precision` (FloatLaws): a, b as read from text, b void-free with finite
      numbers ⟹ `patchM a (diffM m a b) = .ok r`, `V1.equals m r b`, `r.listDoc`.
    * `v1_merge_diff_empty_iff_equals_precision` (no float law, no finiteness):
      `diffM m a b = [] ↔ V1.equals m a b`; general form `..._anyprec` for ANY precision value.
    * `v1_text_roundtrip_merge_precision`: the same through `Render` / `ReadDiffString`.
    * `diffM_eq_dlp`: the v1 merge diff is `dlp m a b` mapped through `vh`.
  WITNESSES (relative to the float facts, `#eval`ed in `Example`)
    * `Witness.precNN_needed_merge`: `precNN` cannot be dropped (eps = -1).
    * `Witness.merge_result_not_structural`: the result is NOT `specEq` to `b` (1, 1.05, eps 0.1).
    * `Example.mA`, `Example.mB`: a pair satisfying every hypothesis where members of `a` survive.
-/
import JdProofs.V1SetDiffPatch
import JdProofs.V1Precision

namespace Jd.V1PM
open Jd Jd.Spec Jd.Merge Jd.V1M

/-! ## 0. the metadata -/

/-- MERGE, no SET, no MULTISET, and the precision (first precision metadata, +0 when there is none)
    is a finite non-negative float64; a `setkeys` metadata is allowed -/
structure PMergeMode (m : V1.Metas) : Prop where
  merge : V1.hasMerge m = true
  noSet : V1.hasSet m = false
  noMset : V1.hasMset m = false
  precNN : nonnegBits (V1.precOf m) = true

/-- the same as a Bool -/
def pMergeModeB (m : V1.Metas) : Bool :=
  V1.hasMerge m && !V1.hasSet m && !V1.hasMset m && nonnegBits (V1.precOf m)

theorem pMergeMode_iff (m : V1.Metas) : PMergeMode m ↔ pMergeModeB m = true := by
  simp only [pMergeModeB, Bool.and_eq_true, Bool.not_eq_true']
  exact ⟨fun h => ⟨⟨⟨h.merge, h.noSet⟩, h.noMset⟩, h.precNN⟩,
    fun h => ⟨h.1.1.1, h.1.1.2, h.1.2, h.2⟩⟩

instance (m : V1.Metas) : Decidable (PMergeMode m) := decidable_of_iff _ (pMergeMode_iff m).symm

/-- the array reading only (what the unfolding lemmas need): no SET, no MULTISET -/
structure LR (m : V1.Metas) : Prop where
  noSet : V1.hasSet m = false
  noMset : V1.hasMset m = false

theorem PMergeMode.lr {m : V1.Metas} (hm : PMergeMode m) : LR m := ⟨hm.noSet, hm.noMset⟩

theorem LR.tag {m : V1.Metas} (hm : LR m) : V1.dispatchTag m = .list :=
  V1P.tag_list hm.noSet hm.noMset

theorem PMergeMode.tag {m : V1.Metas} (hm : PMergeMode m) : V1.dispatchTag m = .list := hm.lr.tag

/-- `MergeMode` (precision 0) is a special case -/
theorem PMergeMode.of_mergeMode {m : V1.Metas} (hm : MergeMode m) : PMergeMode m :=
  ⟨hm.merge, hm.noSet, hm.noMset, by rw [hm.prec0]; exact DPL.nonnegBits_zero⟩

theorem PMergeMode.mk' (eps : UInt64) (h : nonnegBits eps = true) : PMergeMode [.merge, .prec eps] :=
  ⟨rfl, rfl, rfl, h⟩

/-! ## 1. `Equals` under the metadata, list reading -/

/-- reflexivity of `Equals` under a merge + precision metadata -/
theorem equals_refl (L : FloatLaws) {m : V1.Metas} (hm : PMergeMode m) (a : Json)
    (h1 : a.listDoc = true) (h2 : a.wf = true) (h3 : a.finiteNums = true) :
    V1.equals m a a = true :=
  V1L.equals_refl L hm.tag hm.precNN a h1 h2 h3

/-! ### equal documents have an empty merge diff (whatever the path) -/

theorem empty_kvs {m : V1.Metas} (hm : LR m) :
    ∀ (kvs kvs' : List (String × Json)) (p : List Json), rawDocKvs kvs = true → wfKvs kvs = true →
      listDocKvs kvs' = true → wfKvs kvs' = true → V1.equalsKvs m kvs kvs' = true →
      V1.diffKvs m true p kvs' kvs = [] :=
  V1L.empty_kvs hm.tag

theorem empty_elems {m : V1.Metas} (hm : LR m) :
    ∀ (xs ys : List Json) (p : List Json) (i : Nat), rawDocList xs = true → wfList xs = true →
      listDocList ys = true → wfList ys = true → V1.equalsList m xs ys = true →
      ∀ d ∈ V1.diffElems m true p i ys xs, d = [] :=
  V1L.empty_elems hm.tag


/-! ## 3. the v1 merge diff with a precision, purely -/

theorem diffKvs_eq_dlpKvs {m : V1.Metas} (hm : LR m) (kvs' : List (String × Json))
    (hb : listDocKvs kvs' = true) (hbw : wfKvs kvs' = true) (hv : objVoidFreeKvs kvs' = true) :
    ∀ (kvs : List (String × Json)) (q : List String), rawDocKvs kvs = true → wfKvs kvs = true →
      V1.diffKvs m true (q.map Json.str) kvs' kvs
        = (dlpKvs m kvs' kvs).map (fun e => vh (q ++ e.1) e.2) :=
  diffKvs_eq_dlp hm.tag kvs' hb hbw hv

/-- the v1 merge diff under a merge + precision metadata is `dlp m`, hunk by hunk -/
theorem diffM_eq_dlp {m : V1.Metas} (hm : PMergeMode m) (a b : Json) (ha : a.rawDoc = true)
    (haw : a.wf = true) (hb : b.listDoc = true) (hbw : b.wf = true) (hv : objVoidFree b = true) :
    V1.diffM m a b = (dlp m a b).map (fun e => vh e.1 e.2) := by
  have hd := diffNode_eq_dlp hm.tag a b [] ha haw hb hbw hv
  simp only [List.map_nil, List.nil_append] at hd
  rw [V1.diffM, hm.merge, hd]

/-! ### an empty pure diff means `Equal` (no float law needed) -/

theorem dlp_scalar_nil (m : V1.Metas) {a b : Json} (h1 : a.isObj = false) (h2 : isArr a = false)
    (hd : dlp m a b = []) : V1.equals m a b = true := by
  rw [dlp_scalar m h1 h2] at hd
  cases h : V1.equals m a b with
  | true => rfl
  | false => rw [h] at hd; simp at hd

mutual
theorem dlp_nil {m : V1.Metas} (hm : LR m) :
    ∀ (a b : Json), a.rawDoc = true → a.wf = true → b.listDoc = true → b.wf = true →
      dlp m a b = [] → V1.equals m a b = true
  | .obj kvs, b, hr, hw, hl, hwb, hd => by
    cases b with
    | obj kvs' =>
      simp only [Json.rawDoc] at hr
      simp only [Json.listDoc] at hl
      simp only [Json.wf, Bool.and_eq_true] at hw hwb
      rw [dlp_obj_obj, List.append_eq_nil_iff, List.map_eq_nil_iff,
        V1P.filter_isNone_eq_nil_iff] at hd
      have hk := dlpKvs_nil hm kvs' hl hwb.2 kvs hr hw.2 hd.1
      have h1 := List.Nodup.length_le_of_subset (keysSorted_nodup hw.1)
        (V1P.v1_equalsKvs_keys m kvs' kvs hk)
      have h2 := List.Nodup.length_le_of_subset (keysSorted_nodup hwb.1) hd.2
      simp only [List.length_map] at h1 h2
      simp only [V1.equals, Bool.and_eq_true, beq_iff_eq]
      exact ⟨by omega, hk⟩
    | _ => rw [dlp_obj_other m kvs rfl] at hd; cases hd
  | .arr t xs, b, hr, hw, hl, hwb, hd => by
    simp only [Json.rawDoc, Bool.and_eq_true, beq_iff_eq] at hr
    obtain ⟨rfl, _⟩ := hr
    cases b with
    | arr t' ys =>
      simp only [Json.listDoc, Bool.and_eq_true] at hl
      rw [dlp_arr_arr] at hd
      have he : V1.equalsList m xs ys = true := by
        cases h : V1.equalsList m xs ys with
        | true => rfl
        | false => rw [h] at hd; simp at hd
      rw [V1L.equals_arr hm.tag (t := .raw) rfl]
      cases t' <;> simp_all
    | _ => rw [dlp_arr_other m _ xs rfl] at hd; cases hd
  | .void, b, _, _, _, _, hd => dlp_scalar_nil m rfl rfl hd
  | .null, b, _, _, _, _, hd => dlp_scalar_nil m rfl rfl hd
  | .bool _, b, _, _, _, _, hd => dlp_scalar_nil m rfl rfl hd
  | .num _, b, _, _, _, _, hd => dlp_scalar_nil m rfl rfl hd
  | .str _, b, _, _, _, _, hd => dlp_scalar_nil m rfl rfl hd
theorem dlpKvs_nil {m : V1.Metas} (hm : LR m) (kvs' : List (String × Json))
    (hl : listDocKvs kvs' = true) (hwb : wfKvs kvs' = true) :
    ∀ (kvs : List (String × Json)), rawDocKvs kvs = true → wfKvs kvs = true →
      dlpKvs m kvs' kvs = [] → V1.equalsKvs m kvs kvs' = true
  | [], _, _, _ => by simp [V1.equalsKvs]
  | (k, v) :: r, hr, hw, hd => by
    simp only [rawDocKvs, wfKvs, Bool.and_eq_true] at hr hw
    rw [dlpKvs, List.append_eq_nil_iff] at hd
    rw [V1.equalsKvs, Bool.and_eq_true]
    refine ⟨?_, dlpKvs_nil hm kvs' hl hwb r hr.2 hw.2 hd.2⟩
    cases hlk : alookup k kvs' with
    | none => rw [hlk] at hd; simp at hd
    | some v' =>
      rw [hlk] at hd
      exact dlp_nil hm v v' hr.1 hw.1 (alookup_listDoc hlk hl) (alookup_wf hlk hwb)
        (List.map_eq_nil_iff.1 hd.1)
end

/-! ## 4. applying the hunks of `dlp m a b` to `a` gives a document `Equal` to `b` -/

open Jd.V1S in
/-- reflexivity on the domain of the second document -/
theorem goodC_refl (L : FloatLaws) {m : V1.Metas} (hm : PMergeMode m) {b : Json} (G : V1S.GoodC b) :
    V1.equals m b b = true :=
  equals_refl L hm b G.listDoc G.wf G.fin

/-- what is proved of a pair of documents: the hunks of the pure merge diff, applied to the first
    document in sequence, give a list document `Equal` to the second UNDER THE METADATA -/
def Direct (m : V1.Metas) (a b : Json) : Prop :=
  V1.equals m (mapply (dlp m a b) a) b = true ∧ (mapply (dlp m a b) a).listDoc = true

/-- "`Equal` to the second under the metadata, and a list document": objects inherit it from their
    members -/
theorem objRel_direct (m : V1.Metas) :
    DPK.ObjRel (fun x y => V1.equals m x y = true ∧ x.listDoc = true) where
  obj := fun {X _} hs hs' h =>
    ⟨(V1P.v1_equals_obj_optRel m hs hs').2 fun j => (h j).imp And.left,
      listDocKvs_of_mem fun k v hm' => by
        have hk := h k
        rw [alookup_of_mem hs hm'] at hk
        obtain ⟨_, _, hr⟩ := hk.left
        exact hr.2⟩
  notVoid := fun h hy => (V1P.v1_equals_isVoid m h.1).trans hy

theorem direct (L : FloatLaws) {m : V1.Metas} (hm : PMergeMode m) :
    ∀ (a : Json), a.wf = true → a.rawDoc = true → ∀ b : Json, V1S.GoodC b → Direct m a b := by
  have raw : ∀ {t ys}, (Json.arr t ys).rawDoc = true → t = .raw := fun h => by
    simp only [Json.rawDoc, Bool.and_eq_true, beq_iff_eq] at h; exact h.1
  intro a haw har b G
  exact DPK.memSound_relC (objRel_direct m) (pDiffC_dlp m) members_wf_rawDoc
    ⟨fun G hl => G.member hl, fun G => members_wf.sorted G.wf⟩
    (fun G hl => (G.member hl).notVoid) (fun G => ⟨goodC_refl L hm G, G.listDoc⟩)
    (fun {t xs t' ys} h G he => by
      cases raw h.2; cases raw G.raw
      exact ⟨by simpa [V1L.equals_arr hm.tag (t := .raw) rfl] using he, rawDoc_listDoc _ h.2⟩)
    (fun {t ys} G => by
      cases raw G.raw
      have := goodC_refl L hm G
      rw [V1L.equals_arr hm.tag (t := .raw) rfl] at this
      have hys := G.listDoc
      simp only [Json.listDoc, Bool.and_eq_true] at hys
      exact ⟨by simpa [V1L.equals_arr hm.tag (t := .list) rfl] using this,
        by simp [Json.listDoc, hys.2]⟩)
    (fun {a _} h1 h2 _ _ he =>
      ⟨he, by cases a <;> simp_all [Json.listDoc, Json.isObj, isArr]⟩)
    a ⟨haw, har⟩ b G

theorem directKvs (L : FloatLaws) {m : V1.Metas} (hm : PMergeMode m) :
    ∀ (kvs : List (String × Json)), wfKvs kvs = true → rawDocKvs kvs = true →
    ∀ k v, alookup k kvs = some v → ∀ b : Json, V1S.GoodC b → Direct m v b :=
  fun _ hw hr _ v h => direct L hm v (alookup_wf h hw) (alookup_rawDoc h hr)

/-! ## 5. the theorems -/

/-- **C17, MERGE + precision, in memory.** For documents as read from JSON text (`rawDoc`, `wf`), the
    second one with finite numbers and no void member, and metadata `PMergeMode m` (MERGE, no SET, no
    MULTISET, a finite non-negative precision): `a.Patch(a.Diff(b, m...))` succeeds and the result
    `Equals` `b` UNDER THE METADATA, and is a list document. (It need not be structurally equal to
    `b`: see `Witness.merge_result_not_structural`.) `b` MAY contain nulls. -/
theorem v1_merge_diff_patch_precision (L : FloatLaws) {m : V1.Metas} (hm : PMergeMode m)
    (a b : Json) (haw : a.wf = true) (har : a.rawDoc = true)
    (hbw : b.wf = true) (hbr : b.rawDoc = true) (hbv : objVoidFree b = true)
    (hbf : b.finiteNums = true) :
    ∃ r, V1.patchM a (V1.diffM m a b) = .ok r ∧ V1.equals m r b = true ∧ r.listDoc = true := by
  have G : V1S.GoodC b := ⟨hbw, hbr, hbv, hbf⟩
  obtain ⟨h1, h2⟩ := direct L hm a haw har b G
  refine ⟨mapply (dlp m a b) a, ?_, h1, h2⟩
  rw [diffM_eq_dlp hm a b har haw G.listDoc hbw hbv, patchM_vh]

/-- the diff is empty exactly when the documents are `Equal` under the metadata — for ANY precision
    metadata (negative, NaN, infinite included): only MERGE and the list reading are used -/
theorem v1_merge_diff_empty_iff_equals_anyprec {m : V1.Metas} (hmg : V1.hasMerge m = true)
    (hm : LR m) (a b : Json) (haw : a.wf = true) (har : a.rawDoc = true)
    (hbw : b.wf = true) (hbr : b.rawDoc = true) (hbv : objVoidFree b = true) :
    V1.diffM m a b = [] ↔ V1.equals m a b = true := by
  constructor
  · intro h
    have hd := diffNode_eq_dlp hm.tag a b [] har haw (rawDoc_listDoc b hbr) hbw hbv
    simp only [List.map_nil, List.nil_append] at hd
    rw [V1.diffM, hmg, hd, List.map_eq_nil_iff] at h
    exact dlp_nil hm a b har haw (rawDoc_listDoc b hbr) hbw h
  · intro h
    rw [V1.diffM, hmg]
    exact V1L.empty_node hm.tag a b [] har haw (rawDoc_listDoc b hbr) hbw h

/-- **C17, MERGE + precision: the diff is empty exactly when the documents are `Equal` under the
    metadata.** (No float law and no finiteness hypothesis is needed for this half.) -/
theorem v1_merge_diff_empty_iff_equals_precision {m : V1.Metas} (hm : PMergeMode m)
    (a b : Json) (haw : a.wf = true) (har : a.rawDoc = true)
    (hbw : b.wf = true) (hbr : b.rawDoc = true) (hbv : objVoidFree b = true) :
    V1.diffM m a b = [] ↔ V1.equals m a b = true :=
  v1_merge_diff_empty_iff_equals_anyprec hm.merge hm.lr a b haw har hbw hbr hbv

/-! ## 6. witnesses (relative to the float facts they need: `numWithin` is opaque to the kernel) -/

namespace Witness

/-- **`precNN` cannot be dropped** from `v1_merge_diff_patch_precision`: with a precision `eps` such
    that `|x - x| ≤ eps` is false (any negative `eps`, e.g. -1.0 = 0xBFF0000000000000, or NaN),
    metadata `[MERGE, SetPrecision(eps)]`, the merge diff of `x` and `x` is the one hunk
    `@ [["MERGE"]] + x`, the patch applies and returns `x`, which is not `Equal` to `x` under the
    metadata. -/
theorem precNN_needed_merge (eps x : UInt64) (hneg : numWithin eps x x = false) :
    V1.diffM [.merge, .prec eps] (.num x) (.num x) = [vh [] (.num x)] ∧
    V1.patchM (.num x) (V1.diffM [.merge, .prec eps] (.num x) (.num x)) = .ok (.num x) ∧
    V1.equals [.merge, .prec eps] (.num x) (.num x) = false := by
  have he : V1.equals [.merge, .prec eps] (.num x) (.num x) = false := by
    simpa [V1.equals, V1.precOf] using hneg
  have hd : V1.diffM [.merge, .prec eps] (.num x) (.num x) = [vh [] (.num x)] := by
    simp only [V1.diffM, V1.hasMerge]
    rw [diffNode_scalar _ _ _ (fun _ _ h => by cases h) (fun _ h => by cases h), he]
    simpa using whole_keys [] (.num x)
  refine ⟨hd, ?_, he⟩
  rw [hd]
  exact patchM_vh [([], .num x)] (.num x)

/-- **the patched document is `Equal` to the target under the metadata, NOT structurally equal**:
    two numbers within `eps` of each other that are not equal (`1`, `1.05`, `eps = 0.1`) as the
    member `k` of two objects: the merge diff is EMPTY, the patch returns `a`; `a` `Equals` `b` with
    the metadata, and `specEq a b` is false. -/
theorem merge_result_not_structural (eps x y : UInt64) (h1 : numWithin eps x y = true)
    (h0 : numWithin 0 x y = false) :
    V1.diffM [.merge, .prec eps] (.obj [("k", .num x)]) (.obj [("k", .num y)]) = [] ∧
    V1.patchM (.obj [("k", .num x)])
      (V1.diffM [.merge, .prec eps] (.obj [("k", .num x)]) (.obj [("k", .num y)]))
        = .ok (.obj [("k", .num x)]) ∧
    V1.equals [.merge, .prec eps] (.obj [("k", .num x)]) (.obj [("k", .num y)]) = true ∧
    specEq (.obj [("k", .num x)]) (.obj [("k", .num y)]) = false := by
  have he : V1.equals [.merge, .prec eps] (.obj [("k", .num x)]) (.obj [("k", .num y)]) = true := by
    simp [V1.equals, V1.equalsKvs, alookup, V1.precOf, h1]
  have hd : V1.diffM [.merge, .prec eps] (.obj [("k", .num x)]) (.obj [("k", .num y)]) = [] :=
    (v1_merge_diff_empty_iff_equals_anyprec (m := [.merge, .prec eps]) rfl ⟨rfl, rfl⟩ _ _
      (by simp [Json.wf, wfKvs, keysSorted]) (by simp [Json.rawDoc, rawDocKvs])
      (by simp [Json.wf, wfKvs, keysSorted]) (by simp [Json.rawDoc, rawDocKvs])
      (by simp [objVoidFree, objVoidFreeKvs])).2 he
  refine ⟨hd, ?_, he, ?_⟩
  · rw [hd]; rfl
  · simp [specEq, equivB, equivKvs, alookup, precOf, h0]

end Witness

/-! ## 7. a pair satisfying every hypothesis, on which the precision matters -/

namespace Example

/-- `0.1` -/
def eps : UInt64 := 0x3FB999999999999A
/-- `-1.0` -/
def epsNeg : UInt64 := 0xBFF0000000000000
def one : Json := .num 0x3FF0000000000000
/-- `1.05` -/
def x105 : Json := .num 0x3FF0CCCCCCCCCCCD
def two : Json := .num 0x4000000000000000

/-- `{"a":1,"b":[1,2],"c":{"d":1,"e":null,"g":1},"l":[1,{"p":1}],"z":"s"}` -/
def mA : Json := .obj [("a", one), ("b", .arr .raw [one, two]),
  ("c", .obj [("d", one), ("e", .null), ("g", one)]),
  ("l", .arr .raw [one, .obj [("p", one)]]), ("z", .str "s")]
/-- `{"a":1.05,"b":[1.05,2],"c":{"d":2,"f":[1],"g":1.05},"l":[1.05,{"p":2}],"y":null}` -/
def mB : Json := .obj [("a", x105), ("b", .arr .raw [x105, two]),
  ("c", .obj [("d", two), ("f", .arr .raw [one]), ("g", x105)]),
  ("l", .arr .raw [x105, .obj [("p", two)]]), ("y", .null)]

-- the model on `mA` → `mB` with `[MERGE, SetPrecision(0.1)]`: six hunks (c.d := 2, c.e deleted,
-- c.f := [1], l := [1.05,{"p":2}] wholesale, z deleted, y := null); "a", "b" and "c.g" of the source
-- are within 0.1 of the target and STAY: the result is
-- `{"a":1,"b":[1,2],"c":{"d":2,"f":[1],"g":1},"l":[1.05,{"p":2}],"y":null}`,
-- `Equal` to `mB` under the metadata, not under `[MERGE]` alone, not `specEq`: (true, false, false)
#eval (V1.diffM [.merge, .prec eps] mA mB).map (fun h => (h.path, h.old, h.new))
#eval V1.patchM mA (V1.diffM [.merge, .prec eps] mA mB)
#eval match V1.patchM mA (V1.diffM [.merge, .prec eps] mA mB) with
  | .ok r => some (V1.equals [.merge, .prec eps] r mB, V1.equals [.merge] r mB, specEq r mB)
  | _ => none
-- the float facts of the witnesses: |1 - 1.05| ≤ 0.1, not ≤ 0; |1 - 1| ≤ -1 is false
#eval (numWithin eps 0x3FF0000000000000 0x3FF0CCCCCCCCCCCD,
       numWithin 0 0x3FF0000000000000 0x3FF0CCCCCCCCCCCD,
       numWithin epsNeg 0x3FF0000000000000 0x3FF0000000000000)

theorem eps_ok : PMergeMode [.merge, .prec eps] := PMergeMode.mk' eps (by decide)
theorem eps_ok' : PMergeMode [.prec eps, .setkeys ["id"], .merge] := by decide
theorem epsNeg_not_ok : ¬ PMergeMode [.merge, .prec epsNeg] := by decide

theorem hyps :
    mA.wf = true ∧ mA.rawDoc = true ∧ mB.wf = true ∧ mB.rawDoc = true ∧
    objVoidFree mB = true ∧ mB.finiteNums = true := by
  decide +kernel

/-- non-vacuity of `v1_merge_diff_patch_precision` -/
example (L : FloatLaws) :
    ∃ r, V1.patchM mA (V1.diffM [.merge, .prec eps] mA mB) = .ok r ∧
      V1.equals [.merge, .prec eps] r mB = true ∧ r.listDoc = true :=
  v1_merge_diff_patch_precision L eps_ok mA mB hyps.1 hyps.2.1 hyps.2.2.1 hyps.2.2.2.1
    hyps.2.2.2.2.1 hyps.2.2.2.2.2

/-- non-vacuity of `v1_merge_diff_empty_iff_equals_precision` -/
example : V1.diffM [.merge, .prec eps] mA mB = [] ↔ V1.equals [.merge, .prec eps] mA mB = true :=
  v1_merge_diff_empty_iff_equals_precision eps_ok mA mB hyps.1 hyps.2.1 hyps.2.2.1 hyps.2.2.2.1
    hyps.2.2.2.2.1

/-- … and of the general form, at the NEGATIVE precision -/
example :
    V1.diffM [.merge, .prec epsNeg] mA mB = [] ↔ V1.equals [.merge, .prec epsNeg] mA mB = true :=
  v1_merge_diff_empty_iff_equals_anyprec rfl ⟨rfl, rfl⟩ mA mB hyps.1 hyps.2.1 hyps.2.2.1
    hyps.2.2.2.1 hyps.2.2.2.2.1

end Example

/-! ## 8. through the text (`Render`, then `ReadDiffString`) -/

section Text
open Jd.V1S

/-- under the list reading `Equals` does not see the Go dynamic type of the array nodes of its
    first argument -/
theorem equals_untag_left {m : V1.Metas} (hm : LR m) {r r' b : Json} (hr : r.listDoc = true)
    (hr' : r'.listDoc = true) (hb : b.listDoc = true) (hu : untag r = untag r') :
    V1.equals m r b = V1.equals m r' b := by
  rw [V1L.equals_eq_equivB hm.tag [.prec (V1.precOf m)] rfl rfl hr hb,
    V1L.equals_eq_equivB hm.tag [.prec (V1.precOf m)] rfl rfl hr' hb,
    ← equivB_untag_left _ rfl r, hu, equivB_untag_left _ rfl]

/-- **C17, MERGE + precision, through the text**: the rendered v1 merge diff is read back as the
    diff with its values untagged (a replaced array comes back as a plain `jsonArray`), and patching
    `a` with the diff read back yields a list document that `Equals` `b` under the metadata.
    Relative to the codec contract `CodecOK` on the paths and values of the diff. -/
theorem v1_text_roundtrip_merge_precision (L : FloatLaws) (nc : NumCodec) {m : V1.Metas}
    (hm : PMergeMode m) (a b : Json) (haw : a.wf = true) (har : a.rawDoc = true)
    (hbw : b.wf = true) (hbr : b.rawDoc = true) (hbv : objVoidFree b = true)
    (hbf : b.finiteNums = true)
    (hc : CodecOK nc (V1.diffM m a b)) (text : String)
    (hr : V1.renderM nc false (V1.liftDiff (V1.diffM m a b)) = .ok (some text)) :
    ∃ d' r, V1.readDiffM nc text = .ok d' ∧ V1.patchM a d' = .ok r ∧ V1.equals m r b = true ∧
      r.listDoc = true := by
  have G : GoodC b := ⟨hbw, hbr, hbv, hbf⟩
  obtain ⟨h1, h2⟩ := direct L hm a haw har b G
  obtain ⟨d', hrd, hp, hu, hl⟩ := merge_text_transport nc
    (diffM_eq_dlp hm a b har haw G.listDoc hbw hbv) har hc text hr
  exact ⟨d', _, hrd, hp, by rw [equals_untag_left hm.lr hl h2 G.listDoc hu]; exact h1, hl⟩

/-- the document hypotheses of the text round trip hold for the pair of `Example` (the codec
    contract and the rendered text stay hypotheses: they depend on the number codec) -/
example (L : FloatLaws) (nc : NumCodec) (text : String)
    (hc : CodecOK nc (V1.diffM [.merge, .prec Example.eps] Example.mA Example.mB))
    (hr : V1.renderM nc false
      (V1.liftDiff (V1.diffM [.merge, .prec Example.eps] Example.mA Example.mB)) = .ok (some text)) :
    ∃ d' r, V1.readDiffM nc text = .ok d' ∧ V1.patchM Example.mA d' = .ok r ∧
      V1.equals [.merge, .prec Example.eps] r Example.mB = true ∧ r.listDoc = true :=
  v1_text_roundtrip_merge_precision L nc Example.eps_ok _ _ Example.hyps.1 Example.hyps.2.1
    Example.hyps.2.2.1 Example.hyps.2.2.2.1 Example.hyps.2.2.2.2.1 Example.hyps.2.2.2.2.2 hc text hr

end Text

end Jd.V1PM
