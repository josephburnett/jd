/-
  JdProofs.RealDiffMerge — property C07 ("a diff reports only real differences: no no-op, no
  redundant hunk") under the MERGE strategy (list reading of arrays, and SET+MERGE /
  MULTISET+MERGE): all clauses (namespace `Jd.RealM`; the strict list reading is in
  JdProofs.RealDiffListStrict).
  The theorems are about the library functions of the model: `diffM` (`a.Diff(b, options...)`),
  `patchAll sw` / `patchM` (`a.Patch(d)`; `sw = true` is the code), `equals`.

  `Real.getAt a q`: what `a` holds at the key path `q`; `asList v`: `v` with
  the Go dynamic type of its top array node forgotten (a replaced array is reported as the typed node
  it was dispatched to).
  For every reading at once — a `PureDiff` `P` and `hD`: the library's diff of the pair is `D`, hunk by
  hunk (`Merge.diffM_eq_dl` at `pureDiff_dl`, `diffM_eq_ds` at `pureDiff_ds`; the statements per
  reading are in JdProps/C07):
    * `PureDiff.hunk_real`: every hunk of `a.Diff(b, MERGE)` is `MergeHunkReal o a b h`.
    * `PureDiff.equal_subdoc_not_mentioned`: `Equals` values at a key path `q` (any depth): no hunk
      at or below `q`. No hash, no float hypothesis (merge decides by `Equals`).
    * `PureDiff.no_redundant_hunk`: `diffM o a b = d1 ++ h :: d2 →
      ∃ r, patchAll sw a (d1 ++ d2) = .ok r ∧ equals o r b = false` (a merge hunk cannot fail).
  Hypotheses: `wf` (unique sorted keys: a Go map); `rawDoc` (as read from JSON / YAML text);
    `objVoidFree` (no void root, no void object member: void is the library's "absent", no reader
    produces it; for `a` it is needed for clause `one`, model only: `C07.merge_void_member_witness`).
    NOT `b.nullFree`: in memory a merge hunk `add = [null]` stores `null` (only the RENDERED patch reads
    null as "delete", C11). Set readings only: `setDoc`, `HashFaithful o (subterms a ++ subterms b)`,
    `FloatEq0` — the hypotheses under which the merge diff in the set readings IS a list of merge
    hunks (`MSet.diffNode_eq_ds`).
  Method: the merge diff is the pure function `Merge.dl` / `MSet.ds` and `patchAll` applies such hunks
    as `Merge.mapply`; `PureDiff` (`Merge.PDiff` plus what `Equals` says at a wholesale replacement)
    abstracts the two, and `noRed_generic`, `entryReal_generic`,
    `D_nil_of_equals` (one induction on pairs of documents, `rawPair_induct`) and `mem_below` are
    proved once. "No redundant hunk": the hunks of two objects fall into groups under pairwise
    different keys (`Merge.PDiff.obj_groups`), which act independently (`Merge.mapply_flatG`);
    dropping a hunk drops an entry
    of ONE group (`flatMap_split`); by induction that member is not `Equals` to the target's, and
    `Equals` on objects with sorted keys is member-wise.

  Non-vacuity: `Example.mA` / `mB` (merge), `MSet.Example.exA` / `exB` (set readings).
-/
import JdProofs.MergeProofs
import JdProofs.MergeSetModes
import JdProofs.DiffPatchKeys
import JdProofs.DiffEmpty
import JdProofs.RealDiff
import JdProofs.DiffPatchList
import JdProofs.ListRecursion
import JdProofs.HashCheck
import JdProofs.RealDiffListStrict

set_option autoImplicit false

namespace Jd.RealM
open Jd Jd.Spec Jd.Merge

variable {T : Tag}

/-! ## A. the pure merge diff, generically

  `D` is the pure merge diff on documents (`Merge.dl o` in the list reading, `MSet.ds o` in the set
  readings), `DK` its companion on member lists. `PureDiff` collects what the two have in common. -/

/-- forget the Go dynamic type of the top array node (`Real.asList`) -/
abbrev asList := Real.asList

/-- `D a b` keeps the value (nothing emitted) or replaces it wholesale: one entry at the root holding
    `b` (an array as the typed node it was dispatched to), and then `a` is not `Equals` to it -/
def Wholesale (o : Opts) (D : Json → Json → List (List String × Json)) (a b : Json) : Prop :=
  D a b = [] ∨ ∃ v, D a b = [([], v)] ∧ asList v = asList b ∧ equals o a b = false ∧
    equals o a v = false

/-- a pure merge diff (`Merge.PDiff`) that decides by `Equals o`: what it replaces wholesale is not
    `Equals` to the first value -/
structure PureDiff (o : Opts) (T : Tag) (D : Json → Json → List (List String × Json))
    (DK : List (String × Json) → List (String × Json) → List (List String × Json)) : Prop
    extends PDiff T D DK where
  differs : ∀ a b v, a.rawDoc = true → b.rawDoc = true → (a.isObj && b.isObj) = false →
    D a b = [([], v)] → equals o a b = false ∧ equals o a v = false

theorem PureDiff.wholesale {o : Opts} {D : Json → Json → List (List String × Json)}
    {DK : List (String × Json) → List (String × Json) → List (List String × Json)}
    (P : PureDiff o T D DK) (a b : Json) (ha : a.rawDoc = true) (hb : b.rawDoc = true)
    (hn : (a.isObj && b.isObj) = false) : Wholesale o D a b := by
  rcases P.leaf a b hn with h | h | ⟨t, xs, rfl, h⟩
  · exact .inl h
  · exact .inr ⟨b, h, rfl, P.differs a b b ha hb hn h⟩
  · exact .inr ⟨_, h, rfl, P.differs _ _ _ ha hb hn h⟩

theorem flatMap_split {α β} (f : α → List β) : ∀ (L : List α) (l1 : List β) (e : β) (l2 : List β),
    L.flatMap f = l1 ++ e :: l2 →
    ∃ L1 x L2 m1 m2, L = L1 ++ x :: L2 ∧ f x = m1 ++ e :: m2 ∧ l1 = L1.flatMap f ++ m1 ∧
      l2 = m2 ++ L2.flatMap f
  | [], l1, e, l2, h => by simp at h
  | x :: L, l1, e, l2, h => by
    rw [List.flatMap_cons] at h
    have later : ∀ y1, l1 = f x ++ y1 → L.flatMap f = y1 ++ e :: l2 →
        ∃ L1 x' L2 m1 m2, x :: L = L1 ++ x' :: L2 ∧ f x' = m1 ++ e :: m2 ∧
          l1 = L1.flatMap f ++ m1 ∧ l2 = m2 ++ L2.flatMap f := fun y1 e1 hy => by
      obtain ⟨L1, y, L2, m1, m2, rfl, e2, rfl, rfl⟩ := flatMap_split f L y1 e l2 hy
      exact ⟨x :: L1, y, L2, m1, m2, rfl, e2, by rw [e1, List.flatMap_cons, List.append_assoc], rfl⟩
    rcases List.append_eq_append_iff.1 h with ⟨y1, e1, hy⟩ | ⟨bs, hx, hb⟩
    · exact later y1 e1 hy
    · rcases List.cons_eq_append_iff.1 hb with ⟨rfl, hy⟩ | ⟨m2, rfl, rfl⟩
      · exact later [] (by simpa using hx.symm) hy
      · exact ⟨[], x, L, l1, m2, rfl, hx, rfl, rfl⟩

/-- "dropping any single entry of `l`, the rest applied in memory to `a` is not `Equals` to `b`" -/
def NoRedAt (o : Opts) (l : List (List String × Json)) (a b : Json) : Prop :=
  ∀ l1 e l2, l = l1 ++ e :: l2 → equals o (mapply (l1 ++ l2) a) b = false

theorem noRedAt_nil (o : Opts) (a b : Json) : NoRedAt o [] a b := by
  intro l1 e l2 h
  simp at h

theorem noRedAt_single (o : Opts) {a b : Json} (x : List String × Json)
    (h : equals o a b = false) : NoRedAt o [x] a b := by
  intro l1 e l2 hl
  rcases List.singleton_eq_append_iff.1 hl with ⟨rfl, h2⟩ | ⟨_, h2⟩
  · cases h2; simpa [mapply] using h
  · cases h2

theorem equals_obj_false (o : Opts) {R Y : List (String × Json)} (hs : keysSorted R = true)
    (hs' : keysSorted Y = true) (k : String)
    (h : ¬ DPK.OptRel (fun x y => equals o x y = true) (alookup k R) (alookup k Y)) :
    equals o (.obj R) (.obj Y) = false :=
  Bool.eq_false_iff.2 fun he => h ((equals_obj_optRel o hs hs').1 he k)

theorem alookup_mid {β} (k : String) (x : β) (G1 G2 : List (String × β))
    (h : k ∉ G1.map Prod.fst) : alookup k (G1 ++ (k, x) :: G2) = some x := by
  have : alookup k G1 = none := by
    cases hl : alookup k G1 with
    | none => rfl
    | some y => exact absurd (List.mem_map.2 ⟨(k, y), mem_of_alookup hl, rfl⟩) h
  simp [alookup_append, this, alookup]

/-- induction on a pair of documents as read from text, the way the pure merge diff walks them: two
    objects member by member at the keys both hold, every other pair at once -/
theorem rawPair_induct {motive : Json → Json → Prop}
    (leaf : ∀ a b : Json, a.rawDoc = true → b.rawDoc = true → (a.isObj && b.isObj) = false →
      motive a b)
    (obj : ∀ kvs kvs', keysSorted kvs = true → keysSorted kvs' = true →
      (∀ k v v', alookup k kvs = some v → alookup k kvs' = some v' → motive v v') →
      motive (.obj kvs) (.obj kvs')) :
    ∀ a : Json, a.wf = true → a.rawDoc = true → ∀ b : Json, b.wf = true → b.rawDoc = true →
      motive a b := fun a hw hr b hbw hbr =>
  pairInd (Q := fun a b => (a.wf = true ∧ a.rawDoc = true) ∧ (b.wf = true ∧ b.rawDoc = true))
    (members_wf_rawDoc.pair members_wf_rawDoc) (fun a b h => leaf a b h.1.2 h.2.2)
    (fun kvs kvs' h ih => obj kvs kvs' (members_wf.sorted h.1.1) (members_wf.sorted h.2.1)
      fun k v v' hja hjb => ih k v v' (mem_of_alookup hja) hjb)
    a b ⟨⟨hw, hr⟩, ⟨hbw, hbr⟩⟩

/-- **object step of "no redundant hunk"**, generic in the pure diff: the entries of two objects
    fall into groups under pairwise different keys (`mapply_flatG`); the dropped entry belongs to
    one group, and the member under its key tells the result from the second object -/
theorem obj_noRed (o : Opts) (D : Json → Json → List (List String × Json))
    (DK : List (String × Json) → List (String × Json) → List (List String × Json))
    (P : PureDiff o T D DK) (kvs kvs' : List (String × Json))
    (hs : keysSorted kvs = true) (hs' : keysSorted kvs' = true)
    (hboth : ∀ j v v', alookup j kvs = some v → alookup j kvs' = some v' →
      NoRedAt o (D v v') v v') :
    NoRedAt o (D (.obj kvs) (.obj kvs')) (.obj kvs) (.obj kvs') := by
  intro l1 e l2 hl
  rw [P.obj_groups] at hl
  obtain ⟨G1, ⟨k, g⟩, G2, m1, m2, hG, hg, rfl, rfl⟩ := flatMap_split _ _ l1 e l2 hl
  simp only at hg
  obtain ⟨g1, gr, rfl, rfl, hr⟩ := List.map_eq_append_iff.1 hg
  obtain ⟨e', g2, rfl, rfl, rfl⟩ := List.map_eq_cons_iff.1 hr
  have hflat : (List.flatMap (fun kg => List.map (consE kg.1) kg.2) G1 ++ List.map (consE k) g1) ++
      (List.map (consE k) g2 ++ List.flatMap (fun kg => List.map (consE kg.1) kg.2) G2)
      = flatG (G1 ++ (k, g1 ++ g2) :: G2) := by
    simp [flatG]
  rw [hflat]
  have hnd := groupsD_nodup .void D hs hs'
  rw [hG] at hnd
  have hnd' : ((G1 ++ (k, g1 ++ g2) :: G2).map Prod.fst).Nodup := by
    simpa using hnd
  obtain ⟨acc', hacc, hsa, hlk⟩ := mapply_flatG (G1 ++ (k, g1 ++ g2) :: G2) kvs hnd' hs
  rw [hacc]
  have hk1 : k ∉ G1.map Prod.fst := by
    intro hm
    rw [List.map_append, List.map_cons] at hnd
    have := (List.nodup_append.1 hnd).2.2 k hm k (by simp)
    exact this rfl
  have hgk : alookup k (groupsD .void D kvs' kvs ++ groupsB kvs kvs') = some (g1 ++ e' :: g2) := by
    rw [hG]; exact alookup_mid k _ G1 G2 hk1
  rw [groupsD_lookup] at hgk
  have hrk := hlk k
  rw [alookup_mid k _ G1 G2 hk1] at hrk
  simp only at hrk
  refine equals_obj_false o hsa hs' k ?_
  rw [hrk]
  cases hja : alookup k kvs with
  | some v =>
    rw [hja] at hgk
    simp only [Option.some.injEq, grpD] at hgk
    simp only [getK, hja, Option.getD_some]
    cases hjb : alookup k kvs' with
    | some v' =>
      rw [hjb] at hgk
      simp only at hgk
      have hN := hboth k v v' hja hjb g1 e' g2 hgk
      cases hemp : (g1 ++ g2).isEmpty with
      | true =>
        rw [List.isEmpty_iff.1 hemp] at hN
        simpa [DPK.OptRel, mapply] using hN
      | false =>
        simp only [Bool.false_eq_true, if_false]
        unfold toOpt
        split
        · exact id
        · exact Bool.eq_false_iff.1 hN
    | none =>
      rw [hjb] at hgk
      simp only at hgk
      rcases List.singleton_eq_append_iff.1 hgk with ⟨rfl, h2⟩ | ⟨_, h2⟩
      · cases h2; simp [DPK.OptRel]
      · cases h2
  | none =>
    rw [hja] at hgk
    simp only at hgk
    cases hjb : alookup k kvs' with
    | none => rw [hjb] at hgk; simp at hgk
    | some v' =>
      rw [hjb] at hgk
      simp only [Option.map_some, Option.some.injEq] at hgk
      rcases List.singleton_eq_append_iff.1 hgk with ⟨rfl, h2⟩ | ⟨_, h2⟩
      · cases h2; simp [DPK.OptRel]
      · cases h2

/-- **no redundant entry**, every pair of documents as read from text -/
theorem noRed_generic (o : Opts) (D : Json → Json → List (List String × Json))
    (DK : List (String × Json) → List (String × Json) → List (List String × Json))
    (P : PureDiff o T D DK) :
    ∀ a : Json, a.wf = true → a.rawDoc = true → ∀ b : Json, b.wf = true → b.rawDoc = true →
      NoRedAt o (D a b) a b := by
  apply rawPair_induct
  · intro a b ha hb hn
    rcases P.wholesale a b ha hb hn with h | ⟨v, h, _, he, _⟩
    · rw [h]; exact noRedAt_nil o a b
    · rw [h]; exact noRedAt_single o _ he
  · intro kvs kvs' hs hs' ih
    exact obj_noRed o D DK P kvs kvs' hs hs' ih

/-! ## B. the two instances: `Merge.dl` (list reading) and `MSet.ds` (set / multiset reading) -/

theorem equals_obj_other (o : Opts) (kvs : List (String × Json)) {b : Json} (hb : b.isObj = false) :
    equals o (.obj kvs) b = false := by
  cases b <;> simp_all [equals, Json.isObj]

theorem equals_arr_other (o : Opts) (t : Tag) (xs : List Json) {b : Json}
    (hb : Merge.isArr b = false) : equals o (.arr t xs) b = false := by
  refine equals_kind_ne o _ _ ?_
  cases b <;> simp_all [Json.kind, Merge.isArr]

/-- the clause `differs` from the equations of the pure diff outside pairs of objects; only what two
    plain arrays give differs between the readings -/
theorem differs_of_eqs {o : Opts} (hp : precOf o = 0) {cA : List Json → List Json → Bool}
    {D : Json → Json → List (List String × Json)}
    {DK : List (String × Json) → List (String × Json) → List (List String × Json)}
    (P : PDiffC cA (equals []) T D DK)
    (hA : ∀ xs ys, cA xs ys = false →
      equals o (.arr .raw xs) (.arr .raw ys) = false ∧ equals o (.arr .raw xs) (.arr T ys) = false) :
    ∀ a b v : Json, a.rawDoc = true → b.rawDoc = true → (a.isObj && b.isObj) = false →
      D a b = [([], v)] → equals o a b = false ∧ equals o a v = false := by
  have whole : ∀ {a b v : Json}, [(([] : List String), b)] = [([], v)] → equals o a b = false →
      equals o a b = false ∧ equals o a v = false := by
    intro a b v h he
    cases h
    exact ⟨he, he⟩
  have scal : ∀ a b v : Json, a.isObj = false → Merge.isArr a = false → D a b = [([], v)] →
      equals o a b = false ∧ equals o a v = false := by
    intro a b v h1 h2 h
    rw [P.scalar h1 h2] at h
    have e := equals_scalar_noopts hp a b
      (fun t xs e => by subst e; simp [Merge.isArr] at h2)
      (fun kvs e => by subst e; simp [Json.isObj] at h1)
    cases he : equals [] a b with
    | true => rw [he] at h; cases h
    | false => rw [he] at h; exact whole h (by rw [← e, he])
  intro a b v ha hb hn h
  cases a with
  | obj kvs =>
    have hb' : b.isObj = false := by simpa [Json.isObj] using hn
    rw [P.objOther kvs hb'] at h
    exact whole h (equals_obj_other o kvs hb')
  | arr t xs =>
    simp only [Json.rawDoc, Bool.and_eq_true, beq_iff_eq] at ha
    obtain ⟨rfl, _⟩ := ha
    cases b with
    | arr t' ys =>
      simp only [Json.rawDoc, Bool.and_eq_true, beq_iff_eq] at hb
      obtain ⟨rfl, _⟩ := hb
      rw [P.arrArr] at h
      cases he : cA xs ys with
      | true => rw [he] at h; cases h
      | false => rw [he] at h; cases h; exact hA xs ys he
    | _ =>
      rw [P.arrOther _ xs rfl] at h
      exact whole h (equals_arr_other o _ xs rfl)
  | _ => exact scal _ b v rfl rfl h

theorem pureDiff_dl {o : Opts} (ho : dispatchTag o = .list) (hp : precOf o = 0) :
    PureDiff o .list (dl o) (dlKvs o) where
  toPDiff := pDiff_dl o
  differs := differs_of_eqs hp (pDiffC_dl o) fun xs ys he => by
    rw [equals_arr_list ho xs ys rfl rfl] at he
    exact ⟨(equals_arr_list ho xs ys rfl rfl).trans he, (equals_arr_list ho xs ys rfl rfl).trans he⟩

theorem equals_raw_typed {o : Opts} (hm : dispatchTag o = .set ∨ dispatchTag o = .mset)
    (xs ys : List Json) :
    equals o (.arr .raw xs) (.arr (dispatchTag o) ys) = equals o (.arr .raw xs) (.arr .raw ys) := by
  rcases hm with hd | hd <;> simp [equals, effTag, Json.dispatch, hd]

theorem pureDiff_ds {o : Opts} (hm : dispatchTag o = .set ∨ dispatchTag o = .mset)
    (hp : precOf o = 0) : PureDiff o (dispatchTag o) (MSet.ds o) (MSet.dsKvs o) where
  toPDiff := MSet.pDiff_ds o
  differs := differs_of_eqs hp (MSet.pDiffC_ds o) fun xs ys he =>
    ⟨he, by rw [equals_raw_typed hm]; exact he⟩

/-! ## C. the library's merge diff in the set readings -/

/-- the library's merge diff in the set readings, as a list of merge hunks -/
theorem diffM_eq_ds (F : FloatEq0) (o : Opts) (hmg : isMerge o = true)
    (hm : dispatchTag o = .set ∨ dispatchTag o = .mset) (hk : keysOf o = none) (hp : precOf o = 0)
    (a b : Json) (ha : a.setDoc = true) (hb : b.setDoc = true) (hbv : objVoidFree b = true)
    (HF : HashFaithful o (subterms a ++ subterms b)) :
    diffM o a b = (MSet.ds o a b).map (fun e => mh e.1 e.2) :=
  diffM_eq_of hmg (MSet.diffNode_eq_ds_setDoc F hm hk hp ha hb hbv HF)

theorem setDoc_wf_raw {a : Json} (h : a.setDoc = true) : a.wf = true ∧ a.rawDoc = true := by
  simp only [Json.setDoc, Bool.and_eq_true] at h
  exact ⟨h.1.1.2, h.1.1.1⟩

/-! ## D. every merge hunk describes a real difference -/

/-- a key path as a `Path` -/
abbrev kp (ks : List String) : Path := ks.map PathElem.key

/-- the entry `(ks, v)` of a pure merge diff of `a` and `b` describes a real difference:
    `value`: `v` is what `b` holds at `ks` (up to the dynamic type of a top array node: a replaced array
      is reported as the typed node it was dispatched to);
    `deletion`: when `b` holds nothing there, `v` is void and `a` does hold something there;
    `differs`: what `a` holds there (if anything) is not `Equals` to `v`;
    `wholesale`: the two documents do not both hold an object there (objects are recursed into);
    `parents`: the parent location holds an object on both sides. -/
structure EntryReal (o : Opts) (a b : Json) (ks : List String) (v : Json) : Prop where
  value : ∀ w, Real.getAt b (kp ks) = some w → asList v = asList w
  deletion : Real.getAt b (kp ks) = none → v = .void ∧ ∃ u, Real.getAt a (kp ks) = some u
  differs : ∀ u, Real.getAt a (kp ks) = some u → equals o u v = false
  wholesale : ¬ ∃ kvs kvs', Real.getAt a (kp ks) = some (.obj kvs) ∧
    Real.getAt b (kp ks) = some (.obj kvs')
  parents : ∀ q k, ks = q ++ [k] → ∃ kvs kvs', Real.getAt a (kp q) = some (.obj kvs) ∧
    Real.getAt b (kp q) = some (.obj kvs')

theorem getAt_obj_key {kvs : List (String × Json)} {k : String} {v : Json}
    (h : alookup k kvs = some v) (r : Path) :
    Real.getAt (.obj kvs) (PathElem.key k :: r) = Real.getAt v r := by
  simp [Real.getAt, h]

theorem getAt_obj_key_none {kvs : List (String × Json)} {k : String}
    (h : alookup k kvs = none) (r : Path) :
    Real.getAt (.obj kvs) (PathElem.key k :: r) = none := by
  simp [Real.getAt, h]

/-- the clauses of `EntryReal` about what the two documents hold at the path (`ua`, `ub`) -/
structure EntryAt (o : Opts) (ua ub : Option Json) (v : Json) : Prop where
  value : ∀ w, ub = some w → asList v = asList w
  deletion : ub = none → v = .void ∧ ∃ u, ua = some u
  differs : ∀ u, ua = some u → equals o u v = false
  wholesale : ¬ ∃ kvs kvs', ua = some (.obj kvs) ∧ ub = some (.obj kvs')

theorem EntryReal.of_at {o : Opts} {a b : Json} {ks : List String} {v : Json}
    (A : EntryAt o (Real.getAt a (kp ks)) (Real.getAt b (kp ks)) v)
    (P : ∀ q k, ks = q ++ [k] → ∃ kvs kvs', Real.getAt a (kp q) = some (.obj kvs) ∧
      Real.getAt b (kp q) = some (.obj kvs')) : EntryReal o a b ks v :=
  ⟨A.value, A.deletion, A.differs, A.wholesale, P⟩

theorem parents_single (kvs kvs' : List (String × Json)) (k : String) :
    ∀ q k0, [k] = q ++ [k0] → ∃ c c', Real.getAt (.obj kvs) (kp q) = some (.obj c) ∧
      Real.getAt (.obj kvs') (kp q) = some (.obj c') := by
  intro q k0 hq
  cases q with
  | nil => exact ⟨kvs, kvs', Real.getAt_nil _, Real.getAt_nil _⟩
  | cons k1 q' =>
    have := congrArg List.length hq
    simp at this

theorem EntryReal.lift {o : Opts} {v v' : Json} {ks : List String} {x : Json}
    (E : EntryReal o v v' ks x) {kvs kvs' : List (String × Json)} {k : String}
    (h : alookup k kvs = some v) (h' : alookup k kvs' = some v') :
    EntryReal o (.obj kvs) (.obj kvs') (k :: ks) x := by
  refine .of_at ?_ ?_
  · rw [kp, List.map_cons, getAt_obj_key h, getAt_obj_key h']
    exact ⟨E.value, E.deletion, E.differs, E.wholesale⟩
  · intro q k0 hq
    cases q with
    | nil => exact ⟨kvs, kvs', Real.getAt_nil _, Real.getAt_nil _⟩
    | cons k1 q' =>
      simp only [List.cons_append, List.cons.injEq] at hq
      obtain ⟨rfl, hq⟩ := hq
      rw [kp, List.map_cons, getAt_obj_key h, getAt_obj_key h']
      exact E.parents q' k0 hq

theorem equals_void_right (o : Opts) {v : Json} (h : objVoidFree v = true) :
    equals o v .void = false := by
  refine equals_kind_ne o _ _ ?_
  cases v <;> simp_all [Json.kind, objVoidFree]

/-- **every entry of the pure merge diff is real**, generic -/
theorem entryReal_generic (o : Opts) (D : Json → Json → List (List String × Json))
    (DK : List (String × Json) → List (String × Json) → List (List String × Json))
    (P : PureDiff o T D DK) :
    ∀ a : Json, a.wf = true → a.rawDoc = true → ∀ b : Json, b.wf = true → b.rawDoc = true →
      objVoidFree a = true → ∀ e ∈ D a b, EntryReal o a b e.1 e.2 := by
  apply rawPair_induct
  · intro a b ha hb hn _ e he
    rcases P.wholesale a b ha hb hn with h | ⟨v, h, hv, _, hne⟩
    · rw [h] at he; cases he
    · rw [h] at he
      simp only [List.mem_singleton] at he
      subst he
      refine .of_at ?_ (fun q k hq => by simp at hq)
      rw [kp, List.map_nil, Real.getAt_nil, Real.getAt_nil]
      refine ⟨fun w hw => by cases hw; exact hv, nofun, fun u hu => by cases hu; exact hne, ?_⟩
      rintro ⟨c, c', h1, h2⟩
      cases h1; cases h2
      simp [Json.isObj] at hn
  · intro kvs kvs' hs hs' ih hv e he
    simp only [objVoidFree] at hv
    rw [P.obj_obj] at he
    rcases List.mem_append.1 he with he | he
    · rw [P.dk] at he
      obtain ⟨k, v, hm, hh⟩ := mem_groupsD.1 he
      have hja := alookup_of_mem hs hm
      rcases hh with ⟨v', e', hjb, he', rfl⟩ | ⟨hjb, rfl⟩
      · exact (ih k v v' hja hjb (alookup_objVoidFree hja hv) e' he').lift hja hjb
      · refine .of_at ?_ (parents_single kvs kvs' k)
        rw [kp, List.map_cons, getAt_obj_key hja, getAt_obj_key_none hjb, List.map_nil, Real.getAt_nil]
        exact ⟨nofun, fun _ => ⟨rfl, v, rfl⟩,
          fun u hu => by cases hu; exact equals_void_right o (alookup_objVoidFree hja hv),
          by rintro ⟨_, _, _, h2⟩; cases h2⟩
    · simp only [List.mem_map, List.mem_filter] at he
      obtain ⟨⟨k, v'⟩, ⟨hm', hnone⟩, rfl⟩ := he
      simp only [Option.isNone_iff_eq_none] at hnone
      have hjb := alookup_of_mem hs' hm'
      refine .of_at ?_ (parents_single kvs kvs' k)
      rw [kp, List.map_cons, getAt_obj_key_none hnone, getAt_obj_key hjb, List.map_nil, Real.getAt_nil]
      exact ⟨fun w hw' => by cases hw'; rfl, nofun, nofun, by rintro ⟨_, _, h1, _⟩; cases h1⟩

/-! ## E. equal sub-documents are never mentioned -/

/-- `Equals` documents have an empty pure merge diff (no hash, no float hypothesis: the merge
    strategy decides by `Equals` itself) -/
theorem D_nil_of_equals (o : Opts) (D : Json → Json → List (List String × Json))
    (DK : List (String × Json) → List (String × Json) → List (List String × Json))
    (P : PureDiff o T D DK) :
    ∀ a : Json, a.wf = true → a.rawDoc = true → ∀ b : Json, b.wf = true → b.rawDoc = true →
      equals o a b = true → D a b = [] := by
  apply rawPair_induct
  · intro a b ha hb hn he
    rcases P.wholesale a b ha hb hn with h | ⟨v, _, _, hne, _⟩
    · exact h
    · rw [he] at hne; cases hne
  · intro kvs kvs' hs hs' ih he
    obtain ⟨h1, h2⟩ := (equals_obj_iff o hs hs').1 he
    rw [P.obj_obj, filter_added_nil h2, List.map_nil, List.append_nil, P.dk]
    refine List.eq_nil_iff_forall_not_mem.2 fun e he => ?_
    obtain ⟨k, v, hm, hh⟩ := mem_groupsD.1 he
    obtain ⟨v', hl, hq⟩ := h1 k v hm
    rcases hh with ⟨w, e', hw, he', _⟩ | ⟨hn, _⟩
    · cases hl.symm.trans hw
      rw [ih k v v' (alookup_of_mem hs hm) hl hq] at he'
      cases he'
    · cases hl.symm.trans hn

theorem getAt_key_some {n : Json} {k : String} {r : Path} {u : Json}
    (h : Real.getAt n (PathElem.key k :: r) = some u) :
    ∃ kvs v, n = .obj kvs ∧ alookup k kvs = some v ∧ Real.getAt v r = some u := by
  cases n with
  | obj kvs =>
    cases hl : alookup k kvs with
    | none => rw [getAt_obj_key_none hl] at h; cases h
    | some v => rw [getAt_obj_key hl] at h; exact ⟨kvs, v, rfl, hl, h⟩
  | _ => simp [Real.getAt] at h

/-- the entries at or below a key path are entries of the pure diff of what the documents hold there -/
theorem mem_below {o : Opts} {D : Json → Json → List (List String × Json)}
    {DK : List (String × Json) → List (String × Json) → List (List String × Json)}
    (P : PureDiff o T D DK) :
    ∀ (q : List String) (a b : Json), a.wf = true → a.rawDoc = true → b.wf = true →
      b.rawDoc = true → ∀ (ks : List String) (v : Json), (ks, v) ∈ D a b → q <+: ks →
      ∀ u u', Real.getAt a (kp q) = some u → Real.getAt b (kp q) = some u' →
        ∃ ks', ks = q ++ ks' ∧ (ks', v) ∈ D u u' ∧ u.wf = true ∧ u.rawDoc = true ∧
          u'.wf = true ∧ u'.rawDoc = true
  | [], a, b, haw, har, hbw, hbr, ks, v, hm, _, u, u', hu, hu' => by
    rw [kp, List.map_nil, Real.getAt_nil] at hu hu'
    cases hu; cases hu'
    exact ⟨ks, rfl, hm, haw, har, hbw, hbr⟩
  | k :: q', a, b, haw, har, hbw, hbr, ks, v, hm, hpre, u, u', hu, hu' => by
    rw [kp, List.map_cons] at hu hu'
    obtain ⟨kvs, v1, rfl, hja, hu⟩ := getAt_key_some hu
    obtain ⟨kvs', v1', rfl, hjb, hu'⟩ := getAt_key_some hu'
    simp only [Json.wf, Bool.and_eq_true] at haw hbw
    simp only [Json.rawDoc] at har hbr
    obtain ⟨ks1, rfl⟩ : ∃ ks1, ks = k :: ks1 := by
      obtain ⟨t, ht⟩ := hpre
      exact ⟨q' ++ t, by rw [← ht]; rfl⟩
    have hpre' : q' <+: ks1 := (List.cons_prefix_cons.1 hpre).2
    rw [P.obj_obj] at hm
    rcases List.mem_append.1 hm with hm | hm
    · rw [P.dk] at hm
      obtain ⟨k0, v0, hm0, hh⟩ := mem_groupsD.1 hm
      rcases hh with ⟨v', e', hl', he', heq⟩ | ⟨hl', heq⟩
      · simp only [consE, Prod.mk.injEq, List.cons.injEq] at heq
        obtain ⟨⟨rfl, rfl⟩, rfl⟩ := heq
        have h0 := alookup_of_mem haw.1 hm0
        rw [hja] at h0; cases h0
        rw [hjb] at hl'; cases hl'
        obtain ⟨ks', e1, e2, e3⟩ := mem_below P q' v1 v1' (alookup_wf hja haw.2)
          (alookup_rawDoc hja har) (alookup_wf hjb hbw.2) (alookup_rawDoc hjb hbr) e'.1 e'.2 he' hpre'
          u u' hu hu'
        exact ⟨ks', by rw [e1]; rfl, e2, e3⟩
      · simp only [Prod.mk.injEq, List.cons.injEq] at heq
        obtain ⟨⟨rfl, _⟩, _⟩ := heq
        rw [hjb] at hl'; cases hl'
    · simp only [List.mem_map, List.mem_filter] at hm
      obtain ⟨⟨k0, v0⟩, ⟨_, hnone⟩, heq⟩ := hm
      simp only [Prod.mk.injEq, List.cons.injEq] at heq
      obtain ⟨⟨rfl, _⟩, _⟩ := heq
      simp only [Option.isNone_iff_eq_none] at hnone
      rw [hja] at hnone; cases hnone

theorem keysOnly_eq_kp : ∀ (q : Path), Real.keysOnly q = true → ∃ qs : List String, q = kp qs
  | [], _ => ⟨[], rfl⟩
  | .key k :: r, h => by
    simp only [Real.keysOnly] at h
    obtain ⟨qs, rfl⟩ := keysOnly_eq_kp r h
    exact ⟨k :: qs, rfl⟩
  | .idx _ :: _, h => by simp [Real.keysOnly] at h
  | .set :: _, h => by simp [Real.keysOnly] at h
  | .mset :: _, h => by simp [Real.keysOnly] at h
  | .setKeys _ :: _, h => by simp [Real.keysOnly] at h
  | .msetKeys _ :: _, h => by simp [Real.keysOnly] at h

theorem keysOnly_kp : ∀ ks : List String, Real.keysOnly (kp ks) = true
  | [] => rfl
  | k :: r => by simpa [kp, Real.keysOnly] using keysOnly_kp r

theorem kp_prefix : ∀ {qs ks : List String}, kp qs <+: kp ks → qs <+: ks
  | [], _, _ => List.nil_prefix
  | q :: qs, [], h => by
    obtain ⟨t, ht⟩ := h
    simp [kp] at ht
  | q :: qs, k :: ks, h => by
    simp only [kp, List.map_cons] at h
    obtain ⟨e, h'⟩ := List.cons_prefix_cons.1 h
    cases e
    exact List.cons_prefix_cons.2 ⟨rfl, kp_prefix h'⟩

/-- generic form of "equal sub-documents are never mentioned" -/
theorem not_mentioned_generic {o : Opts} {D : Json → Json → List (List String × Json)}
    {DK : List (String × Json) → List (String × Json) → List (List String × Json)}
    (P : PureDiff o T D DK) {a b : Json} (haw : a.wf = true) (har : a.rawDoc = true)
    (hbw : b.wf = true) (hbr : b.rawDoc = true) {q : Path} (hq : Real.keysOnly q = true)
    {v v' : Json} (hv : Real.getAt a q = some v) (hv' : Real.getAt b q = some v')
    (he : equals o v v' = true) :
    ∀ e ∈ D a b, ¬ q <+: kp e.1 := by
  intro e hm hpre
  obtain ⟨qs, rfl⟩ := keysOnly_eq_kp q hq
  obtain ⟨ks', _, hmem, h1, h2, h3, h4⟩ := mem_below P qs a b haw har hbw hbr e.1 e.2 hm
    (kp_prefix hpre) v v' hv hv'
  rw [D_nil_of_equals o D DK P v h1 h2 v' h3 h4 he] at hmem
  cases hmem

/-! ## F. the statements about the library's `Diff` in the MERGE strategy -/

/-- what is said of every hunk `h` of a merge diff of `a` and `b`: it is a merge hunk at a key path,
    removes nothing and has no context; `one`: `h.add = [v]`; if `b` holds `w` at the path, `v` is `w`
    (up to `asList`); if `b` holds nothing there, `v` is void (a deletion) and `a` does hold something
    there; what `a` holds there (if anything) is not `Equals` to `v`; `wholesale`: `a` and `b` do not
    both hold an object there (objects are recursed into); `parents`: the parent location holds an
    object on both sides -/
structure MergeHunkReal (o : Opts) (a b : Json) (h : Hunk) : Prop where
  merge : h.merge = true
  keys : Real.keysOnly h.path = true
  noRemove : h.remove = []
  noContext : h.before = [] ∧ h.after = []
  one : ∃ v, h.add = [v] ∧
    (∀ w, Real.getAt b h.path = some w → asList v = asList w) ∧
    (Real.getAt b h.path = none → v = .void ∧ ∃ u, Real.getAt a h.path = some u) ∧
    (∀ u, Real.getAt a h.path = some u → equals o u v = false)
  wholesale : ¬ ∃ kvs kvs', Real.getAt a h.path = some (.obj kvs) ∧
    Real.getAt b h.path = some (.obj kvs')
  parents : ∀ q e, h.path = q ++ [e] → ∃ kvs kvs', Real.getAt a q = some (.obj kvs) ∧
    Real.getAt b q = some (.obj kvs')

theorem mergeHunkReal_of_entry {o : Opts} {a b : Json} {ks : List String} {v : Json}
    (E : EntryReal o a b ks v) : MergeHunkReal o a b (mh ks v) where
  merge := rfl
  keys := keysOnly_kp ks
  noRemove := rfl
  noContext := ⟨rfl, rfl⟩
  one := ⟨v, rfl, E.value, E.deletion, E.differs⟩
  wholesale := E.wholesale
  parents := by
    intro q e hq
    simp only [mh] at hq
    obtain ⟨qs, r, hks, rfl, hr⟩ := List.map_eq_append_iff.1 hq
    obtain ⟨k, r', rfl, rfl, hr'⟩ := List.map_eq_cons_iff.1 hr
    simp only [List.map_eq_nil_iff] at hr'
    subst hr'
    exact E.parents qs k hks

section library
variable {o : Opts} {D : Json → Json → List (List String × Json)}
  {DK : List (String × Json) → List (String × Json) → List (List String × Json)}
  (P : PureDiff o T D DK) {a b : Json} (haw : a.wf = true) (har : a.rawDoc = true)
  (hbw : b.wf = true) (hbr : b.rawDoc = true)
  (hD : diffM o a b = (D a b).map (fun e => mh e.1 e.2))
include P haw har hbw hbr hD

/-- **every hunk describes a real difference** (`objVoidFree a`: a deletion deletes something) -/
theorem PureDiff.hunk_real (hav : objVoidFree a = true) : ∀ h ∈ diffM o a b, MergeHunkReal o a b h := by
  intro h hh
  rw [hD] at hh
  obtain ⟨e, he, rfl⟩ := List.mem_map.1 hh
  exact mergeHunkReal_of_entry (entryReal_generic o D DK P a haw har b hbw hbr hav e he)

/-- **equal sub-documents are never mentioned**: `Equals` values at a key path `q` (any depth), no
    hunk at or below `q` -/
theorem PureDiff.equal_subdoc_not_mentioned {q : Path} (hq : Real.keysOnly q = true) {v v' : Json}
    (hv : Real.getAt a q = some v) (hv' : Real.getAt b q = some v') (he : equals o v v' = true) :
    ∀ h ∈ diffM o a b, ¬ q <+: h.path := by
  intro h hh
  rw [hD] at hh
  obtain ⟨e, hm', rfl⟩ := List.mem_map.1 hh
  exact not_mentioned_generic P haw har hbw hbr hq hv hv' he e hm'

/-- **no hunk is redundant**: leave any single hunk out; what the library's `Patch` makes of `a`
    with the remaining hunks (a merge hunk cannot fail) is not `Equals` to `b` -/
theorem PureDiff.no_redundant_hunk (sw : Bool) (d1 d2 : Diff) (h : Hunk)
    (hd : diffM o a b = d1 ++ h :: d2) :
    ∃ r, patchAll sw a (d1 ++ d2) = .ok r ∧ equals o r b = false := by
  rw [hD] at hd
  obtain ⟨l1, lr, hl, rfl, hr⟩ := List.map_eq_append_iff.1 hd
  obtain ⟨e, l2, rfl, _, rfl⟩ := List.map_eq_cons_iff.1 hr
  exact ⟨mapply (l1 ++ l2) a, by rw [← List.map_append, patchAll_mh],
    noRed_generic o D DK P a haw har b hbw hbr l1 e l2 hl⟩

end library

/-! ## N. non-vacuity -/

namespace Example

/-- `{"a":{"x":"1","y":"2"},"k":["p"],"r":"gone","t":"u"}` -/
def mA : Json :=
  .obj [("a", .obj [("x", .str "1"), ("y", .str "2")]), ("k", .arr .raw [.str "p"]),
    ("r", .str "gone"), ("t", .str "u")]
/-- `{"a":{"x":"1","y":"3"},"k":["q"],"n":"new","t":"u"}` -/
def mB : Json :=
  .obj [("a", .obj [("x", .str "1"), ("y", .str "3")]), ("k", .arr .raw [.str "q"]),
    ("n", .str "new"), ("t", .str "u")]

theorem m_docs : mA.wf = true ∧ mA.rawDoc = true ∧ objVoidFree mA = true ∧
    mB.wf = true ∧ mB.rawDoc = true ∧ objVoidFree mB = true := by decide

/-- the merge diff of the pair: a member two keys deep replaced, an array replaced wholesale (as a
    typed list), a member deleted, a member added; the equal member `t` is not mentioned -/
theorem m_diff : diffM [.merge] mA mB =
    [mh ["a", "y"] (.str "3"), mh ["k"] (.arr .list [.str "q"]), mh ["r"] .void,
      mh ["n"] (.str "new")] := by
  rw [diffM_eq_dl [.merge] rfl rfl mA mB m_docs.2.1 m_docs.2.2.2.2.1 m_docs.2.2.2.2.2]
  simp [mA, mB, dl, dlKvs, alookup, consE, equals, equalsList, effTag, Json.dispatch]

/-- every hunk of the example diff is real (`PureDiff.hunk_real`) -/
example : ∀ h ∈ diffM [.merge] mA mB, MergeHunkReal [.merge] mA mB h :=
  (pureDiff_dl rfl rfl).hunk_real m_docs.1 m_docs.2.1 m_docs.2.2.2.1 m_docs.2.2.2.2.1
    (diffM_eq_dl [.merge] rfl rfl mA mB m_docs.2.1 m_docs.2.2.2.2.1 m_docs.2.2.2.2.2) m_docs.2.2.1

/-- the equal member `t` is not mentioned (`PureDiff.equal_subdoc_not_mentioned`) -/
example : ∀ h ∈ diffM [.merge] mA mB, ¬ [PathElem.key "t"] <+: h.path :=
  (pureDiff_dl rfl rfl).equal_subdoc_not_mentioned m_docs.1 m_docs.2.1 m_docs.2.2.2.1
    m_docs.2.2.2.2.1 (diffM_eq_dl [.merge] rfl rfl mA mB m_docs.2.1 m_docs.2.2.2.2.1 m_docs.2.2.2.2.2)
    (q := [.key "t"]) rfl (v := .str "u")
    (v' := .str "u") (by simp [Real.getAt, mA, alookup]) (by simp [Real.getAt, mB, alookup])
    (by simp [equals])

/-- whatever hunk is left out, the library's `Patch` with the rest does not give the target -/
example (d1 d2 : Diff) (h : Hunk) (hd : diffM [.merge] mA mB = d1 ++ h :: d2) :
    ∃ r, patchM mA (d1 ++ d2) = .ok r ∧ equals [.merge] r mB = false :=
  (pureDiff_dl rfl rfl).no_redundant_hunk m_docs.1 m_docs.2.1 m_docs.2.2.2.1 m_docs.2.2.2.2.1
    (diffM_eq_dl [.merge] rfl rfl mA mB m_docs.2.1 m_docs.2.2.2.2.1 m_docs.2.2.2.2.2) true d1 d2 h hd

/-- SET+MERGE and MULTISET+MERGE: the pair of JdProofs.MergeSetModes
    (`{"s":["x","y"],"u":"x","v":["x"]}` → `{"s":["y","x"],"t":[true],"v":["x","z"]}`) satisfies
    every hypothesis of the three theorems (given `FloatEq0`) -/
example (F : FloatEq0) (d1 d2 : Diff) (h : Hunk)
    (hd : diffM [.set, .merge] MSet.Example.exA MSet.Example.exB = d1 ++ h :: d2) :
    (∀ h ∈ diffM [.set, .merge] MSet.Example.exA MSet.Example.exB,
      MergeHunkReal [.set, .merge] MSet.Example.exA MSet.Example.exB h) ∧
    ∃ r, patchM MSet.Example.exA (d1 ++ d2) = .ok r ∧
      equals [.set, .merge] r MSet.Example.exB = false :=
  have P := pureDiff_ds (o := [.set, .merge]) (.inl rfl) rfl
  have hD := diffM_eq_ds F [.set, .merge] rfl (.inl rfl) rfl rfl _ _ MSet.Example.ex_docs.1
    MSet.Example.ex_docs.2.1 MSet.Example.ex_docs.2.2.2 MSet.Example.ex_hashFaithful_set
  ⟨P.hunk_real (by decide) (by decide) (by decide) (by decide) hD (by decide),
    P.no_redundant_hunk (by decide) (by decide) (by decide) (by decide) hD true d1 d2 h hd⟩

example (F : FloatEq0) (d1 d2 : Diff) (h : Hunk)
    (hd : diffM [.mset, .merge] MSet.Example.exA MSet.Example.exB = d1 ++ h :: d2) :
    ∃ r, patchM MSet.Example.exA (d1 ++ d2) = .ok r ∧
      equals [.mset, .merge] r MSet.Example.exB = false :=
  (pureDiff_ds (o := [.mset, .merge]) (.inr rfl) rfl).no_redundant_hunk (by decide) (by decide)
    (by decide) (by decide)
    (diffM_eq_ds F [.mset, .merge] rfl (.inr rfl) rfl rfl _ _ MSet.Example.ex_docs.1
      MSet.Example.ex_docs.2.1 MSet.Example.ex_docs.2.2.2 MSet.Example.ex_hashFaithful_mset)
    true d1 d2 h hd

end Example

end Jd.RealM

#print axioms Jd.RealM.PureDiff.hunk_real
#print axioms Jd.RealM.PureDiff.equal_subdoc_not_mentioned
#print axioms Jd.RealM.PureDiff.no_redundant_hunk
