/-
  JdProofs.V1Precision — property C17 (v1 API `lib/`), LIST reading, with the `SetPrecision(eps)`
  metadata, eps ≠ 0 allowed (the top-level binary with -v2=false always passes
  `SetPrecision(*precision)`):

    patching `a` with `a.Diff(b, m...)`, directly or after `Render` and `ReadDiffString`, yields a
    document that `Equals` `b` WITH THE METADATA, and the diff is empty exactly when `Equals` (with
    the metadata) holds.

  Namespace `Jd.V1Pr`. These are the instances, for metadata with a precision, of the general
  development `Jd.V1L` of JdProofs.V1ListDiffPatch (whose head says how v1 treats the precision).
  "Within eps" not being transitive does no harm: every comparison the diff made is between an
  element of `a` and the element of `b` at the same place, and that is also what `Equals(r, b)`
  compares.

  DOMAIN
    * metadata: `ListReading m` (no SET, no MULTISET, no MERGE; any precision value; `setkeys`
      allowed) for the diff-empty equivalence; `PrecMode m` = `ListReading m` + the precision is a
      finite non-negative float64 (`nonnegBits (V1.precOf m)`) for diff-then-patch. Both decidable.
      `ListMode m` of V1ListDiffPatch is the case precision 0 (`PrecMode.of_listMode`).
    * documents: as in V1ListDiffPatch — `listDoc`, `wf`, `finiteNums`, `vfree`, `lenLe N a` with
      `IdxLaws N` (float64 list indices), `FloatLaws` (only `refl` at precision 0 for the old-value
      checks, `refl` at precision `eps` for the values a hunk writes, `symm` for the symmetric
      reading). NO new float law, no monotonicity (`DPL.PrecMono`) is needed: nothing compared at
      precision 0 is ever re-read at precision `eps` except a value against itself.

  MAIN RESULTS
    0. `v1_equals_eq` : `ListReading m → a.listDoc → V1.equals m a b = Jd.equals (optsOf m) a b`
       with `optsOf m = [.prec (V1.precOf m)]`: the v1 `Equals` with `SetPrecision(eps)` is the v2
       `Equals` with `Precision(eps)`; `v1_equals_eq_equivB` (hence the specification
       `equivB (optsOf m)`), `v1_equals_refl` (`PrecMode`), `v1_equals_symm`.
    1. `v1_diff_patch_list_precision` (`PrecMode m`):
         ∃ r, V1.patchM a (V1.diffM m a b) = .ok r ∧ V1.equals m r b = true ∧ V1.equals m b r = true ∧
              equivB (optsOf m) r b = true ∧ r.listDoc = true ∧ r.wf = true
    2. `v1_diff_empty_iff_equals_precision` (`ListReading m`, ANY precision value, negative and NaN
       included; `a.rawDoc`, `b.listDoc`, both `wf`; no float law):
         V1.diffM m a b = [] ↔ V1.equals m a b = true
       BOTH directions hold in v1 — unlike v2 (`v1_v2_differ_on_precision`: same two numbers, the v1
       diff is empty, the v2 diff is not, both `Equals` say "equal").
    3. `v1_text_roundtrip_list_precision` (`PrecMode m`, `b` not void, `V1S.CodecOK`, render success):
         ∃ d' r, V1.readDiffM nc text = .ok d' ∧ V1.patchM a d' = .ok r ∧ V1.equals m r b = true ∧
                 equivB (optsOf m) r b = true
       from the round-trip theorem `V1S.v1_read_render` (the writer and the reader never see the
       metadata) and `V1S.patchAll_untag`.

  WITNESSES (relative to the float facts they need — `numWithin` is opaque to the kernel; the facts
  are `#eval`ed in `Example` and every run was replayed on /repo/lib)
    * `result_not_structural` : `numWithin eps x y`, not `numWithin 0 x y` (1, 1.05, eps 0.1) ⟹ the
      diff is empty, the patch returns `x`, `Equals` with metadata true, without metadata false,
      `specEq` false. So the conclusions `specEq r b` of `V1P.v1_diff_patch_list` and of
      `V1S.v1_text_roundtrip_list` are FALSE with a precision; "equal to b" in C17 can only be read as
      `Equals(b, SetPrecision(eps))`. Go: `patched=1 Equals(b,eps)=true Equals(b)=false`.
    * `precNN_needed` : `precNN` cannot be dropped from (1): when `numWithin eps x x` is false
      (eps = -1; the CLI accepts `-precision=-1`, `getPrecision` does not validate) the diff of `x`
      and `x` is `- x + x`, the patch applies and returns `x`, which is not `Equal` to `x` under the
      metadata. Go: `a=1 b=1 eps=-1: diff "@ []\n- 1\n+ 1\n" patched=1 Equals(b,eps)=false`.
      (2) still holds there (`Example`: the equivalence instantiated at -1).
    * `typed_result_diff_nonempty` / `typed_result_equals` : why (2) asks `a.rawDoc`; generalises
      `V1P.tag_witness`. OBSERVATION on the Go code: such a pair arises by chained use of the public
      API — `Patch` returns a `jsonList`, and `r.Diff(b)` of `r := a.Patch(a.Diff(b))` against the
      freshly read `b` is the one-hunk diff `- [1,3] + [1,3]` although `r.Equals(b)` (list.go:57:
      `n.(jsonList)` without `dispatch`; `jsonArray.Diff` dispatches both sides, `jsonList.Diff`
      neither).
    * `Example`: `pA = [1,2,{"a":[1,5]}]`, `pB = [1.05,3,{"a":[0.95,5.01,7]}]`, eps 0.1 satisfy all
      hypotheses (`pHyps`, `eps_ok`); model and Go code both give the two hunks
      `[2,"a",-1] + 7`, `[1] - 2 + 3` and the result `[1,3,{"a":[1,5,7]}]`.

  NOT PROVED here: precision together with SET / MULTISET (the CLI refuses it; the hash codes ignore
  the precision) or with MERGE; an infinite precision (`nonnegBits` asks a finite one; `FloatLaws.refl`
  is stated for finite `eps`); the CLI layer.
-/
import JdModel
import JdSpec
import JdProofs.EqualsList
import JdProofs.StrictPatch
import JdProofs.DiffPatchList
import JdProofs.Common
import JdProofs.PatchRender
import JdProofs.V1ListDiffPatch
import JdProofs.V1SetDiffPatch

namespace Jd.V1Pr
open Jd Jd.Spec Jd.V1P
open Jd.DPL hiding diffNode_scalar  -- the one of `Jd.V1P` is meant here

/-! ## 0. list mode with a precision -/

/-- the list reading of arrays in v1: no SET, no MULTISET, no MERGE metadata; ANY precision metadata
    (whatever its value); a `setkeys` metadata is allowed (alone it leaves arrays lists in v1) -/
structure ListReading (m : V1.Metas) : Prop where
  noSet : V1.hasSet m = false
  noMset : V1.hasMset m = false
  noMerge : V1.hasMerge m = false

/-- the same as a Bool -/
def listReadingB (m : V1.Metas) : Bool := !V1.hasSet m && !V1.hasMset m && !V1.hasMerge m

theorem listReading_iff (m : V1.Metas) : ListReading m ↔ listReadingB m = true := by
  simp only [listReadingB, Bool.and_eq_true, Bool.not_eq_true']
  exact ⟨fun h => ⟨⟨h.noSet, h.noMset⟩, h.noMerge⟩, fun h => ⟨h.1.1, h.1.2, h.2⟩⟩

instance (m : V1.Metas) : Decidable (ListReading m) := decidable_of_iff _ (listReading_iff m).symm

theorem ListReading.tag {m : V1.Metas} (hm : ListReading m) : V1.dispatchTag m = .list :=
  V1P.tag_list hm.noSet hm.noMset

/-- v1 metadata of the diff-then-patch theorems: the list reading, and the precision (the first
    precision metadata, +0 when there is none) is a finite non-negative float64 (`nonnegBits`: sign
    bit clear, exponent not all ones) -/
structure PrecMode (m : V1.Metas) : Prop where
  noSet : V1.hasSet m = false
  noMset : V1.hasMset m = false
  noMerge : V1.hasMerge m = false
  precNN : nonnegBits (V1.precOf m) = true

/-- the same as a Bool -/
def precModeB (m : V1.Metas) : Bool :=
  !V1.hasSet m && !V1.hasMset m && !V1.hasMerge m && nonnegBits (V1.precOf m)

theorem precMode_iff (m : V1.Metas) : PrecMode m ↔ precModeB m = true := by
  simp only [precModeB, Bool.and_eq_true, Bool.not_eq_true']
  exact ⟨fun h => ⟨⟨⟨h.noSet, h.noMset⟩, h.noMerge⟩, h.precNN⟩,
    fun h => ⟨h.1.1.1, h.1.1.2, h.1.2, h.2⟩⟩

instance (m : V1.Metas) : Decidable (PrecMode m) := decidable_of_iff _ (precMode_iff m).symm

theorem PrecMode.lr {m : V1.Metas} (hm : PrecMode m) : ListReading m :=
  ⟨hm.noSet, hm.noMset, hm.noMerge⟩

theorem PrecMode.prec (eps : UInt64) (h : nonnegBits eps = true) : PrecMode [.prec eps] :=
  ⟨rfl, rfl, rfl, h⟩

theorem ListReading.prec (eps : UInt64) : ListReading [.prec eps] := ⟨rfl, rfl, rfl⟩

theorem PrecMode.tag {m : V1.Metas} (hm : PrecMode m) : V1.dispatchTag m = .list := hm.lr.tag

/-- `ListMode` is the special case precision 0 -/
theorem PrecMode.of_listMode {m : V1.Metas} (hm : ListMode m) : PrecMode m :=
  ⟨hm.noSet, hm.noMset, hm.noMerge, by rw [hm.prec0]; exact nonnegBits_zero⟩

/-- the v2 options under which the specification `equivB` is read: the same precision, nothing else -/
def optsOf (m : V1.Metas) : Opts := [.prec (V1.precOf m)]

theorem optsOf_tag (m : V1.Metas) : dispatchTag (optsOf m) = .list := rfl
theorem optsOf_prec (m : V1.Metas) : precOf (optsOf m) = V1.precOf m := rfl

/-! ## 1. the instances of the general development -/

/-- the v1 `Equals` in the list reading with precision `eps` is the v2 `Equals` with
    `Precision(eps)` -/
theorem v1_equals_eq {m : V1.Metas} (hm : ListReading m) :
    ∀ (a b : Json), a.listDoc = true → V1.equals m a b = equals (optsOf m) a b :=
  V1L.equals_eq hm.tag (optsOf m) rfl rfl

theorem v1_equalsList_eq {m : V1.Metas} (hm : ListReading m) :
    ∀ (xs ys : List Json), listDocList xs = true →
      V1.equalsList m xs ys = equalsList (optsOf m) xs ys :=
  V1L.equalsList_eq hm.tag (optsOf m) rfl rfl

theorem v1_equalsKvs_eq {m : V1.Metas} (hm : ListReading m) :
    ∀ (kvs kvs' : List (String × Json)), listDocKvs kvs = true →
      V1.equalsKvs m kvs kvs' = equalsKvs (optsOf m) kvs kvs' :=
  V1L.equalsKvs_eq hm.tag (optsOf m) rfl rfl

/-- the v1 `Equals` in list mode with precision `eps` decides the specification `equivB` read with
    `Precision(eps)` (ordered lists, numbers within `eps`, array tags ignored) -/
theorem v1_equals_eq_equivB {m : V1.Metas} (hm : ListReading m) {a b : Json}
    (ha : a.listDoc = true) (hb : b.listDoc = true) :
    V1.equals m a b = equivB (optsOf m) a b :=
  V1L.equals_eq_equivB hm.tag (optsOf m) rfl rfl ha hb

/-- reflexivity -/
theorem v1_equals_refl (L : FloatLaws) {m : V1.Metas} (hm : PrecMode m) (a : Json)
    (h1 : a.listDoc = true) (h2 : a.wf = true) (h3 : a.finiteNums = true) :
    V1.equals m a a = true :=
  V1L.equals_refl L hm.tag hm.precNN a h1 h2 h3

/-- symmetry -/
theorem v1_equals_symm (L : FloatLaws) {m : V1.Metas} (hm : ListReading m) (a b : Json)
    (ha : a.listDoc = true) (hb : b.listDoc = true) (hwa : a.wf = true) (hwb : b.wf = true) :
    V1.equals m a b = V1.equals m b a :=
  V1L.equals_symm L hm.tag a b ha hb hwa hwb

theorem diff_hunks (m : V1.Metas) (hm : ListReading m) :
    ∀ a b, a.listDoc = true → b.listDoc = true → ∀ h ∈ V1.diffNode m false a b [],
      HOK h ∧ (a.isVoid = false → b.isVoid = false → FOK h) :=
  V1L.diff_hunks m hm.tag

/-! ## 2. C17 with `SetPrecision(eps)`, list reading: patching `a` with the v1 diff of `a` and `b`
  yields a document `Equal` to `b` under the same metadata -/

/-- **C17 (v1 API, list reading, strict strategy, full nesting, any finite non-negative precision).**
    For list documents `a`, `b` (well-formed, finite numbers, no void inside) and metadata without
    SET / MULTISET / MERGE whose precision `eps` is a finite non-negative float64:
    `a.Patch(a.Diff(b, m...))` succeeds and its result `Equals` `b` WITH the metadata, read from
    either side; equivalently it is `equivB`-equivalent to `b` under `Precision(eps)` (same shape,
    same keys, strings and booleans, numbers within `eps`); it is a list document with sorted
    unique keys. It is in general NOT structurally equal to `b`
    (`result_not_structural`). `IdxLaws N` / `lenLe N a` as in `V1P.v1_diff_patch_list`. -/
theorem v1_diff_patch_list_precision (L : FloatLaws) {N : Nat} (I : IdxLaws N) (m : V1.Metas)
    (hm : PrecMode m) (a b : Json)
    (ha1 : a.listDoc = true) (ha2 : a.wf = true) (ha3 : a.finiteNums = true) (ha4 : vfree a = true)
    (ha5 : lenLe N a = true)
    (hb1 : b.listDoc = true) (hb2 : b.wf = true) (hb3 : b.finiteNums = true) (hb4 : vfree b = true) :
    ∃ r, V1.patchM a (V1.diffM m a b) = .ok r ∧ V1.equals m r b = true ∧
      V1.equals m b r = true ∧ equivB (optsOf m) r b = true ∧ r.listDoc = true ∧ r.wf = true := by
  obtain ⟨r, h1, h2, h3⟩ := V1L.diff_correct L I m hm.tag hm.precNN a b ha1 hb1
    (Dom.mk' ha1 ha2 ha3 ha4) (Dom.mk' hb1 hb2 hb3 hb4) ha5
  refine ⟨r, ?_, h2, ?_, ?_, h3.1, h3.2⟩
  · simp only [V1.patchM, V1.diffM, hm.noMerge]
    exact h1
  · rw [v1_equals_symm L hm.lr b r hb1 h3.1 hb2 h3.2]
    exact h2
  · rw [← v1_equals_eq_equivB hm.lr h3.1 hb1]
    exact h2

/-! ## 3. the v1 diff is empty exactly when `Equals` (with the metadata) holds -/

/-- **C17, second half (v1 API, list reading, ANY precision metadata — whatever its value).** For
    documents as the readers produce them (`a` with plain `jsonArray` nodes only, `b` a list
    document), well-formed: the diff is empty exactly when `Equals` (with the same metadata) holds.
    BOTH directions: the v1 `diff` of scalars calls `a.Equals(b, metadata...)` WITH the metadata
    (diff_common.go), unlike v2 whose `Diff` ignores the precision (KF-C05-precision). No float law,
    no hypothesis on numbers, void or lengths. -/
theorem v1_diff_empty_iff_equals_precision (m : V1.Metas) (hm : ListReading m) (a b : Json)
    (ha1 : a.rawDoc = true) (ha2 : a.wf = true) (hb1 : b.listDoc = true) (hb2 : b.wf = true) :
    V1.diffM m a b = [] ↔ V1.equals m a b = true := by
  simp only [V1.diffM, hm.noMerge]
  exact (V1L.diff_empty m hm.tag).1 a b (rawDoc_listDoc a ha1) hb1 ha1 ha2 hb2

/-! ## 4. witnesses (relative to the float facts they need: `numWithin` is opaque to the kernel; the
  facts are checked by `#eval` below and the runs were replayed on /repo/lib) -/

/-- **the patched document is `Equal` to the target under the metadata, NOT structurally equal.**
    Two numbers within `eps` of each other that are not equal (e.g. `1`, `1.05`, `eps = 0.1`): the
    v1 diff is EMPTY (`diff` of diff_common.go calls `a.Equals(b, metadata...)`), `a.Patch` of the
    empty diff is `a`; `a` `Equals` `b` with the metadata, but not without, and not `specEq`. So
    with a precision the conclusion `specEq r b` of `V1P.v1_diff_patch_list` is false, and "equal
    to b" in C17 can only mean `Equals(b, SetPrecision(eps))`. -/
theorem result_not_structural (eps x y : UInt64) (h1 : numWithin eps x y = true)
    (h0 : numWithin 0 x y = false) :
    V1.diffM [.prec eps] (.num x) (.num y) = [] ∧
    V1.patchM (.num x) (V1.diffM [.prec eps] (.num x) (.num y)) = .ok (.num x) ∧
    V1.equals [.prec eps] (.num x) (.num y) = true ∧
    V1.equals [] (.num x) (.num y) = false ∧ specEq (.num x) (.num y) = false := by
  have hd : V1.diffM [.prec eps] (.num x) (.num y) = [] := by
    simp only [V1.diffM, V1.hasMerge]
    rw [diffNode_scalar _ _ _ (fun _ _ h => by cases h) (fun _ h => by cases h)]
    simp [V1.diffCommon, V1.equals, V1.precOf, h1]
  refine ⟨hd, ?_, ?_, ?_, ?_⟩
  · rw [hd]; rfl
  · simpa [V1.equals, V1.precOf] using h1
  · simpa [V1.equals, V1.precOf] using h0
  · simpa [specEq, equivB, precOf] using h0

/-- **`precNN` (the precision is not negative) cannot be dropped** from
    `v1_diff_patch_list_precision`: with a precision `eps` such that `|x - x| ≤ eps` is false (any
    negative `eps`, or NaN; the CLI accepts `-precision=-1`), the diff of `x` and `x` is the hunk
    `- x + x`, the patch applies (it compares the old value WITHOUT the metadata) and returns `x`,
    which is not `Equal` to `x` under the metadata. -/
theorem precNN_needed (eps x : UInt64) (h0 : numWithin 0 x x = true)
    (hneg : numWithin eps x x = false) :
    V1.diffM [.prec eps] (.num x) (.num x) = [{ path := [], old := [.num x], new := [.num x] }] ∧
    V1.patchM (.num x) (V1.diffM [.prec eps] (.num x) (.num x)) = .ok (.num x) ∧
    V1.equals [.prec eps] (.num x) (.num x) = false := by
  have hd : V1.diffM [.prec eps] (.num x) (.num x) =
      [{ path := [], old := [.num x], new := [.num x] }] := by
    simp only [V1.diffM, V1.hasMerge]
    rw [diffNode_scalar _ _ _ (fun _ _ h => by cases h) (fun _ h => by cases h)]
    simp [V1.diffCommon, V1.equals, V1.precOf, hneg, Json.nodeList, Json.isVoid]
  refine ⟨hd, ?_, by simpa [V1.equals, V1.precOf] using hneg⟩
  rw [hd]
  exact patch_root (.num x) [.num x] [.num x] rfl (by simp) (by simp)
    (by simpa [V1.equals, V1.precOf, Json.singleValue] using h0)

/-- a `jsonList`-typed array (what `Patch` RETURNS for a patched array) diffed against a plain
    `jsonArray` with the same elements (what the readers produce): one wholesale replacement hunk,
    whatever the elements and the precision — `jsonList.diff` type-asserts its argument to `jsonList`
    without dispatching it (lib/list.go:57). Generalises `V1P.tag_witness`; this is why
    `v1_diff_empty_iff_equals_precision` asks `a.rawDoc`. REPLAYED on /repo/lib: for `a = [1,2]`,
    `b = [1,3]`, `r, _ := a.Patch(a.Diff(b))` is a `jd.jsonList`, `r.Equals(b)` is true and
    `r.Diff(b)` renders `@ []\n- [1,3]\n+ [1,3]\n` (`b.Diff(r)` is empty) — so the pair IS reachable
    through the public API, by chained use. -/
theorem typed_result_diff_nonempty {m : V1.Metas} (hm : ListReading m) (xs ys : List Json) :
    V1.diffM m (.arr .list xs) (.arr .raw ys) =
      [{ path := [], old := [.arr .list xs], new := [.arr .raw ys] }] := by
  simp only [V1.diffM, hm.noMerge]
  rw [V1L.diffNode_arr_other hm.tag xs _ rfl (.inr ⟨rfl, ys, rfl⟩)]
  simp [Json.nodeList, Json.isVoid]

/-- … although `Equals` holds whenever the elements are `Equal` -/
theorem typed_result_equals {m : V1.Metas} (hm : ListReading m) (xs ys : List Json)
    (h : V1.equalsList m xs ys = true) : V1.equals m (.arr .list xs) (.arr .raw ys) = true :=
  (V1L.equals_arr_arr hm.tag rfl rfl xs ys).trans h

/-- **v1 and v2 differ on precision**: for two numbers within `eps` but not equal, the v1 diff with
    `SetPrecision(eps)` is empty while the v2 diff with `Precision(eps)` is not (v2's `diff` calls
    `Equals` without the options: `Jd.precision_counterwitness` of JdProofs.DiffEmpty, KF-C05-precision); both `Equals`
    say "equal". -/
theorem v1_v2_differ_on_precision (eps x y : UInt64) (h1 : numWithin eps x y = true)
    (h0 : numWithin 0 x y = false) :
    V1.diffM [.prec eps] (.num x) (.num y) = [] ∧ Jd.diffM [.prec eps] (.num x) (.num y) ≠ [] ∧
    V1.equals [.prec eps] (.num x) (.num y) = true ∧
    Jd.equals [.prec eps] (.num x) (.num y) = true :=
  ⟨(result_not_structural eps x y h1 h0).1, (Jd.precision_counterwitness eps x y h1 h0).2,
    (result_not_structural eps x y h1 h0).2.2.1, (Jd.precision_counterwitness eps x y h1 h0).1⟩

namespace Example
open Jd.V1P.Example (exA exB one two)

/-- `0.1` -/
def eps : UInt64 := 0x3FB999999999999A
/-- `1.05` -/
def x105 : UInt64 := 0x3FF0CCCCCCCCCCCD
/-- `-1.0` -/
def epsNeg : UInt64 := 0xBFF0000000000000

-- the float facts of the witnesses: |1 - 1.05| ≤ 0.1, not ≤ 0; |1 - 1| ≤ 0, not ≤ -1
#eval (numWithin eps 0x3FF0000000000000 x105, numWithin 0 0x3FF0000000000000 x105)
#eval (numWithin 0 0x3FF0000000000000 0x3FF0000000000000,
       numWithin epsNeg 0x3FF0000000000000 0x3FF0000000000000)

theorem eps_ok : PrecMode [.prec eps] := PrecMode.prec eps (by decide)
theorem epsNeg_not_ok : ¬ PrecMode [.prec epsNeg] := by decide

/-- `[1,2,{"a":[1,5]}]` -/
def pA : Json := .arr .raw [one, two, .obj [("a", .arr .raw [one, .num 0x4014000000000000])]]
/-- `[1.05,3,{"a":[0.95,5.01,7]}]` -/
def pB : Json := .arr .raw [.num x105, .num 0x4008000000000000,
  .obj [("a", .arr .raw [.num 0x3FEE666666666666, .num 0x40140A3D70A3D70A, .num 0x401C000000000000])]]

-- the model on `pA` → `pB` with precision 0.1: two hunks (`[2,"a",-1] + 7`, `[1] - 2 + 3`), the
-- result keeps 1, 1 and 5 of the source: `[1,3,{"a":[1,5,7]}]` — the same as the Go code
-- (/repo/lib, replayed: `patched=[1,3,{"a":[1,5,7]}] Equals(b,eps)=true Equals(b)=false`)
#eval (V1.diffM [.prec eps] pA pB).map (fun h => (h.path, h.old, h.new))
#eval V1.patchM pA (V1.diffM [.prec eps] pA pB)
#eval match V1.patchM pA (V1.diffM [.prec eps] pA pB) with
  | .ok r => some (V1.equals [.prec eps] r pB, V1.equals [] r pB)
  | _ => none
-- the pair of JdProofs.V1ListDiffPatch has no two numbers within 0.1: the same 9 hunks as without precision
#eval (V1.diffM [.prec eps] exA exB).length

theorem pHyps :
    pA.listDoc = true ∧ pA.wf = true ∧ pA.finiteNums = true ∧ vfree pA = true ∧ lenLe 8 pA = true ∧
    pB.listDoc = true ∧ pB.wf = true ∧ pB.finiteNums = true ∧ vfree pB = true := by
  decide +kernel

/-- non-vacuity on a pair where the precision matters (numbers of `pA` stay in the result) -/
example (L : FloatLaws) (I : IdxLaws 8) :
    ∃ r, V1.patchM pA (V1.diffM [.prec eps] pA pB) = .ok r ∧
      V1.equals [.prec eps] r pB = true := by
  obtain ⟨h1, h2, h3, h4, h5, h6, h7, h8, h9⟩ := pHyps
  obtain ⟨r, hr, e, _⟩ :=
    v1_diff_patch_list_precision L I _ eps_ok pA pB h1 h2 h3 h4 h5 h6 h7 h8 h9
  exact ⟨r, hr, e⟩

/-- non-vacuity of `v1_diff_patch_list_precision`: the pair of JdProofs.V1ListDiffPatch (nested lists
    and objects, growing and shrinking) with the metadata `SetPrecision(0.1)` -/
example (L : FloatLaws) (I : IdxLaws 8) :
    ∃ r, V1.patchM exA (V1.diffM [.prec eps] exA exB) = .ok r ∧
      V1.equals [.prec eps] r exB = true := by
  obtain ⟨h1, h2, h3, h4, h5, h6, h7, h8, h9, _⟩ := V1P.Example.hyps
  obtain ⟨r, hr, e, _⟩ :=
    v1_diff_patch_list_precision L I _ eps_ok exA exB h1 h2 h3 h4 h5 h6 h7 h8 h9
  exact ⟨r, hr, e⟩

/-- non-vacuity of `v1_diff_empty_iff_equals_precision` (here with the NEGATIVE precision: the
    equivalence does not depend on the value) -/
example : V1.diffM [.prec epsNeg] exA exB = [] ↔ V1.equals [.prec epsNeg] exA exB = true :=
  v1_diff_empty_iff_equals_precision _ (ListReading.prec epsNeg) exA exB (by decide) (by decide)
    (by decide) (by decide)

end Example

/-! ## 5. the text round trip (`Render`, then `ReadDiffString`) of a list diff with a precision -/

section Text
open Jd.V1S (CodecOK list_text_transport)

/-- **C17 with `SetPrecision(eps)`, LIST reading, through the text** (`Render`, then
    `ReadDiffString`): the rendered v1 list diff is read back (as the diff with its values
    untagged), and patching `a` with the diff READ BACK succeeds and yields a document that `Equals`
    `b` with the metadata. Follows from `V1S.list_text_transport` (the reader / writer do not know the
    metadata, the strict patch commutes with `untag`) and `v1_diff_patch_list_precision`. Same codec contract `CodecOK` and render-success hypothesis as
    `V1S.v1_text_roundtrip_list`. -/
theorem v1_text_roundtrip_list_precision (L : FloatLaws) {N : Nat} (I : IdxLaws N) (nc : NumCodec)
    (m : V1.Metas) (hm : PrecMode m) (a b : Json)
    (ha1 : a.listDoc = true) (ha2 : a.wf = true) (ha3 : a.finiteNums = true) (ha4 : vfree a = true)
    (ha5 : lenLe N a = true)
    (hb1 : b.listDoc = true) (hb2 : b.wf = true) (hb3 : b.finiteNums = true) (hb4 : vfree b = true)
    (hbv : b.isVoid = false)
    (hc : CodecOK nc (V1.diffM m a b)) (text : String)
    (hr : V1.renderM nc false (V1.liftDiff (V1.diffM m a b)) = .ok (some text)) :
    ∃ d' r, V1.readDiffM nc text = .ok d' ∧ V1.patchM a d' = .ok r ∧ V1.equals m r b = true ∧
      equivB (optsOf m) r b = true := by
  obtain ⟨r0, p1, p2, _, _⟩ :=
    v1_diff_patch_list_precision L I m hm a b ha1 ha2 ha3 ha4 ha5 hb1 hb2 hb3 hb4
  obtain ⟨d', r', hrd, hp, hs⟩ :=
    list_text_transport nc hm.tag hm.noMerge ha1 hb1 ha4 hb4 hbv p1 hc text hr
  have he : equivB (optsOf m) r' b = true := by
    rw [← equivB_untag_left _ (optsOf_tag m), ← hs.1, equivB_untag_left _ (optsOf_tag m),
      ← v1_equals_eq_equivB hm.lr hs.2.1 hb1]
    exact p2
  exact ⟨d', r', hrd, hp, by rw [v1_equals_eq_equivB hm.lr hs.2.2 hb1]; exact he, he⟩

/-- the document hypotheses of `v1_text_roundtrip_list_precision` hold for the pair `pA`, `pB` with
    `SetPrecision(0.1)` (the codec contract and the rendered text stay hypotheses: they depend on the
    number codec) -/
example (L : FloatLaws) (I : IdxLaws 8) (nc : NumCodec) (text : String)
    (hc : CodecOK nc (V1.diffM [.prec Example.eps] Example.pA Example.pB))
    (hr : V1.renderM nc false (V1.liftDiff (V1.diffM [.prec Example.eps] Example.pA Example.pB)) =
      .ok (some text)) :
    ∃ d' r, V1.readDiffM nc text = .ok d' ∧ V1.patchM Example.pA d' = .ok r ∧
      V1.equals [.prec Example.eps] r Example.pB = true := by
  obtain ⟨h1, h2, h3, h4, h5, h6, h7, h8, h9⟩ := Example.pHyps
  obtain ⟨d', r, q1, q2, q3, _⟩ := v1_text_roundtrip_list_precision L I nc _ Example.eps_ok _ _
    h1 h2 h3 h4 h5 h6 h7 h8 h9 rfl hc text hr
  exact ⟨d', r, q1, q2, q3⟩

end Text

/-! ### axioms -/

#print axioms v1_equals_eq
#print axioms v1_equals_eq_equivB
#print axioms v1_equals_refl
#print axioms v1_equals_symm
#print axioms V1L.diff_correct
#print axioms v1_diff_patch_list_precision
#print axioms v1_diff_empty_iff_equals_precision
#print axioms v1_text_roundtrip_list_precision
#print axioms result_not_structural
#print axioms precNN_needed
#print axioms typed_result_diff_nonempty
#print axioms typed_result_equals
#print axioms v1_v2_differ_on_precision
#print axioms Example.pHyps
#print axioms Example.eps_ok
#print axioms Example.epsNeg_not_ok

end Jd.V1Pr
