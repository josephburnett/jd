/-
  JdProofs.V1KeysDiffPatchB — property C17 (v1 API `lib/`), SET + setkeys, strict strategy, in memory.
  Namespace `Jd.V1K`. Everything is about `Jd.V1.diffM`, `Jd.V1.patchM`, `Jd.V1.equals`.

  HOW THE v1 CODE TREATS SET KEYS (model `JdModel/V1`, read off /repo/lib): the metadata travel IN THE
  PATH: `Diff` writes `["set","setkeys=id,…"]` in front of a member object; `Patch` reads the metadata
  back from the path and does not know `"setkeys=…"`: the set keys are FORGOTTEN when patching
  (`V1S.pm_spec`: the metadata read back are `[SET]` (+ MULTISET)). So
    * the diff pairs members by IDENTITY (`identOf m`: `hcombine (seed :: hashes of the key values
      present)` for objects, the hash code otherwise), sub-diffs same-identity OBJECT members and
      addresses the sub-diff through the PATH OBJECT (`pathObject`: the member restricted to the set
      keys; the member ITSELF when it has none of them);
    * the patch finds the member by the keyed lookup `patchKeyed`: the FIRST object member whose
      restriction TO THE KEYS OF THE PATH OBJECT hashes like the path object (`matchP`); a failure of
      the nested patch is DISCARDED (`v.patch(…); return s, nil`), no match is an error;
    * the set hunk `[…,{}]` and `Equals` work with FULL hash codes (`patchNode_set_leafK`).

  MAIN THEOREMS
    `v1_diff_patch_setkeys` : `KMode m ks` (SET present, `keysOf m = some ks`, `ks ≠ []`, no MERGE,
        precision 0; MULTISET may be present: SET wins); `a b`: `setDoc`, `DPL.memOK`; `KeysHyp m ks a b`;
        `FloatEq0`, `FloatLaws`:
          ∃ r, V1.patchM a (V1.diffM m a b) = .ok r ∧ V1.equals m r b = true ∧
               equivB [.set] r b = true ∧ V1.hashCode m r = V1.hashCode m b.
        No nested application fails (although a failure would be discarded): the frame lemma
        `patchAll_keyed_frame` runs the nested patches with `V1.patchAll`.
    `v1_diff_empty_iff_equals_setkeys` : same hypotheses, `V1.diffM m a b = [] ↔ V1.equals m a b = true`.
    `diffNode_nil_of_equivB_K` : equivalent documents have an EMPTY keyed diff (needs `hf`, `ib` only).
    METHOD: `node_stepK` (the induction: every node, every path prefix; `StepK`; two objects by
        `V1S.ObjDom.obj_step_of`, which says below which key every hunk lies), `set_stepK` (one
        array of keyed members against one array): the instance of `keyed_set_step_parts`
        (JdProofs/SetAlg; local hypotheses `KeyedHyp`) for the v1 patch loop, whose frame property
        is `keyedPatchV1` (`patchAll_keyed_frame`); the library supplies `V1S.diffSetElems_eq`,
        `V1S.setDelta` and the leaf hunk (`patchNode_set_leafK`). `DPK.equivB_trans_right`,
        `DPK.restrictKeys_congr` and the v1 object / scalar lemmas of V1SetDiffPatch are reused.

  HYPOTHESES `KeysHyp m ks a b` (all decidable: Bool checkers in file C) and why
    `hf  : V1S.HashFaithful m [.set] (subterms a ++ subterms b)`  equal V1 hash codes only for
          equivalent nodes (FNV collisions and the v1 pre-image aliases `[]` / `{}` / `""`). NEEDED for
          the `equivB` part: `Witness.alias_breaks_equivB`.
    `kd  : KeyedDistinct m (subterms a)`  in every array of `a` the object members have pairwise
          distinct identities. NEEDED: `Witness.duplicate_member_breaks`.
    `hk  : HasKey ks (subterms a)`  every object member of an array of `a` carries at least one set
          key. NEEDED on the model: `Witness.keyless_member_breaks` (on the Go library: through the
          text, `keyless_member_breaks_text` in file D; IN MEMORY the Go path object aliases the
          member and the run succeeds: see FINDINGS 4).
    `ksep: KindSepI m (subterms a) (subterms a ++ subterms b)`  no object has the identity of a
          non-object. A pure collision class (`hcombine` of a seeded list against an FNV hash): NOT
          KNOWN to be necessary in the sense of a concrete witness (none without a 64-bit collision).
    `ib  : IdentInj m (subterms b)`  in every array of `b`, members with the same identity have the
          same hash code. NEEDED: `Witness.target_duplicate_breaks`.
    `pf  : PathFaithful m ks (subterms a)`  among the object members of one array of `a`, the keyed
          lookup for the path object of a member hits only members with that member's identity.
          NEEDED beyond collisions: `Witness.keytwin_breaks` (KF-C01-keytwin).
    `kt  : KeyTuple m ks (subterms a) (subterms b)`  two objects with the same identity have, key by
          key, values with the same hash code (and lack the same keys). NEEDED:
          `Witness.identperm_breaks` (KF-C01-identperm).
    `setDoc`, `memOK`, `FloatEq0`, `FloatLaws`: as in JdProofs/V1SetDiffPatch.
    NOT a hypothesis: "every member carries ALL the set keys"; "key values are scalars".

  FINDINGS (witnesses in file C, each satisfies every other hypothesis; replayed on /repo/lib)
    1. duplicate member in `a`: `Patch` succeeds on the FIRST bearer only, result not `Equals` (Go: same).
    2. identperm: `Patch` returns an ERROR (Go: same, "expected object with id … but found none").
    3. keytwin: the lookup hits a member with MORE keys, the nested failure is discarded, `Patch`
       succeeds and returns the document UNCHANGED, not `Equals` (Go: same).
    4. member with none of the keys: the path object is the whole member; after the first hunk it
       matches nothing: ERROR. On Go this is what happens after `Render`/`ReadDiffString`; IN MEMORY
       `pathObject` returns the member map ITSELF (an alias), `Patch` mutates it in place and the
       run succeeds: `patchM a (diffM m a b)` (the diff applied as a VALUE) is the run through the
       text; the in-memory run with the alias is `V1.diffPatchShared` (JdModel/V1/Patch.lean), about
       which nothing is proved here — outside `HasKey`.
    5. same identity twice in an array of `b`: result not `Equals` (Go: same).

  MULTISET + setkeys: file E; MERGE together with setkeys: file F; a precision: JdProofs/V1PrecisionKeys
  (false in general, proved where the precision is inert inside arrays).
-/
import JdProofs.V1KeysDiffPatchA

namespace Jd.V1K
open Jd Jd.Spec
open Jd.SetDP (Ok Within)
open Jd.V1P (shift ap)
open Jd.Merge (putKvs)
open Jd.V1S (metaItems pm NM)

/-! # Part 2. SET + setkeys, strict strategy, in memory -/

/-! ## 2.0 the metadata; what the patch code reads back from the path -/

/-- SET together with set keys (at least one key), no MERGE, precision 0 or absent; MULTISET may be
    present as well (v1 `dispatch` gives SET priority) -/
structure KMode (m : V1.Metas) (ks : List String) : Prop where
  set : V1.hasSet m = true
  keys : V1.keysOf m = some ks
  nonempty : ks.isEmpty = false
  noMerge : V1.hasMerge m = false
  prec0 : V1.precOf m = 0

theorem KMode.single (k : String) (r : List String) : KMode [.set, .setkeys (k :: r)] (k :: r) :=
  ⟨rfl, rfl, rfl, rfl, rfl⟩

section PM
variable {m : V1.Metas} {ks : List String}

theorem KMode.tag (K : KMode m ks) : V1.dispatchTag m = .set := by
  simp [V1.dispatchTag, K.set]

/-- the metadata the patch code reads back from the path of a keyed hunk: the set keys are FORGOTTEN
    (`"setkeys=…"` is not a metadata string the patch code knows) -/
theorem pm_specK (K : KMode m ks) :
    V1.hasSet (pm m) = true ∧ V1.keysOf (pm m) = none ∧ V1.precOf (pm m) = 0 ∧
      V1.dispatchTag (pm m) = .set :=
  ⟨(V1S.pm_spec m).1.trans K.set, (V1S.pm_spec m).2.2.1, (V1S.pm_spec m).2.2.2.1,
    (V1S.pm_tag m).trans K.tag⟩

theorem pm_hash (K : KMode m ks) : V1.hashCode (pm m) = V1.hashCode m := by
  funext x
  exact V1S.hashCode_congr (by rw [(pm_specK K).2.2.2, K.tag]) x

theorem pm_equals (K : KMode m ks) : V1.equals (pm m) = V1.equals m := by
  funext x y
  exact V1S.equals_congr (by rw [(pm_specK K).2.2.2, K.tag]) (by rw [(pm_specK K).2.2.1, K.prec0])
    x y

theorem pm_ident (K : KMode m ks) : V1.identOf (pm m) = V1.hashCode m := by
  funext x
  rw [V1S.identOf_eq_hashCode (pm_specK K).2.1, pm_hash K]

theorem pathNext_keyed (K : KMode m ks) (po : List (String × Json)) (rest : List Json) :
    V1.pathNext (V1.liftPath (.arr .raw (metaItems m) :: .obj po :: rest))
      = (.node (.obj po), pm m, V1.liftPath rest) := by
  have h1 := (pm_specK K).1
  simp only [V1.pathNext, V1.liftPath, List.map_cons, V1.pathNextAux, List.nil_append]
  show (V1.PElem.node (Json.obj po), (if (!V1.hasSet (pm m) && !V1.hasMset (pm m)) = true
    then pm m ++ [V1.Meta.set] else pm m), _) = _
  rw [h1]; rfl

/-- the test of the keyed lookup of `jsonSet.patch`: the member restricted to the keys of the path
    object hashes like the path object -/
def matchP (m : V1.Metas) (po : List (String × Json)) : Json → Bool
  | .obj kz => V1.hashCode m (.obj (restrictKeys kz po)) == V1.hashCode m (.obj po)
  | _ => false

theorem pathIdent_pm (K : KMode m ks) (kz po : List (String × Json)) :
    (V1.pathIdent (pm m) kz po == V1.identObj (pm m) po) = matchP m po (.obj kz) := by
  have hk := (pm_specK K).2.1
  simp only [V1.pathIdent, V1.identObj, hk, Option.getD_none, List.contains_nil, Bool.or_false,
    pm_hash K, matchP, restrictKeys]

/-- the member test of the keyed lookup, with the metadata read back from the path -/
theorem keyedTest_pm (K : KMode m ks) (po : List (String × Json)) :
    V1P.keyedTest (pm m) (V1.identObj (pm m) po) po = matchP m po := by
  funext z
  cases z with
  | obj kz => exact pathIdent_pm K kz po
  | _ => rfl

/-- a strict hunk whose path starts with a keyed element, addressed to an array: the first member
    that passes the test is patched in place (an error of the nested call is DISCARDED), no such
    member is an error -/
theorem patchNode_keyed_eq (K : KMode m ks) (t : Tag) (ht : t = .raw ∨ t = .set)
    (po : List (String × Json)) (e : Json) (rest : List Json) (old new : List Json)
    (xs : List Json) :
    V1.patchNode false (.arr t xs)
        (V1.liftPath (.arr .raw (metaItems m) :: .obj po :: e :: rest)) old new =
      Keyed.keyedLoop (V1P.keyedOut (V1.pathIsLeaf (V1.liftPath (e :: rest)))) (matchP m po)
        (fun x => V1.patchNode false x (V1.liftPath (e :: rest)) old new) [] xs := by
  have he : V1.effTag (pm m) t = .set := by
    rcases ht with rfl | rfl <;> simp [V1.effTag, (pm_specK K).2.2.2]
  rw [V1P.patchNode_arr_set (by rw [pathNext_keyed K]; exact he), pathNext_keyed K,
    ← keyedTest_pm K, ← V1P.patchKeyed_eq]
  simp [V1.liftPath, V1.pathIsLeaf]

theorem patchNode_keyed (K : KMode m ks) (t : Tag) (ht : t = .raw ∨ t = .set)
    (po : List (String × Json)) (e : Json) (rest : List Json)
    (hleaf : V1.pathIsLeaf (V1.liftPath (e :: rest)) = false) (old new : List Json)
    (pre : List Json) (kvs : List (String × Json)) (post : List Json)
    (hpre : ∀ z ∈ pre, matchP m po z = false) (hm : matchP m po (.obj kvs) = true) :
    V1.patchNode false (.arr t (pre ++ .obj kvs :: post))
        (V1.liftPath (.arr .raw (metaItems m) :: .obj po :: e :: rest)) old new =
      match V1.patchNode false (.obj kvs) (V1.liftPath (e :: rest)) old new with
      | .ok v' => .ok (.arr .set (pre ++ v' :: post))
      | .err => .ok (.arr .set (pre ++ .obj kvs :: post))
      | .panic => .panic := by
  rw [patchNode_keyed_eq K t ht, Keyed.keyedLoop_found _ _ _ post hm pre [] hpre, hleaf]
  cases V1.patchNode false (.obj kvs) (V1.liftPath (e :: rest)) old new <;> rfl

end PM

/-! ## 2.1 frame lemma: hunks below a keyed member that do not touch the set keys -/

/-- hunks whose path starts with an object key outside the set keys -/
def KeyFree (ks : List String) (D : V1.VDiff) : Prop :=
  ∀ h ∈ D, ∃ k rest, h.path = .str k :: rest ∧ k ∉ ks

theorem KeyFree.nm {ks : List String} {D : V1.VDiff} (h : KeyFree ks D) : ∀ h' ∈ D, NM h' := by
  intro h' hh
  obtain ⟨k, rest, e, _⟩ := h h' hh
  simp [NM, e, V1.liftPath, V1.pathIsMerge]

/-- the test only looks at the members under the keys of the path object -/
theorem matchP_congr {m : V1.Metas} {po kvs kvs' : List (String × Json)}
    (hs : keysSorted kvs = true) (hs' : keysSorted kvs' = true)
    (h : ∀ k, (alookup k po).isSome = true → alookup k kvs' = alookup k kvs) :
    matchP m po (.obj kvs') = matchP m po (.obj kvs) := by
  simp only [matchP, DPK.restrictKeys_congr hs hs' h]

/-- a sequence of such hunks, addressed through the keyed path element to the array, acts on the
    member alone; the member keeps its values under the set keys, hence is found again each time -/
theorem patchAll_keyed_frame {m : V1.Metas} {ks : List String} (K : KMode m ks)
    (po : List (String × Json)) (hpok : ∀ k, (alookup k po).isSome = true → k ∈ ks)
    (pre post : List Json) (hpre : ∀ z ∈ pre, matchP m po z = false) :
    ∀ (D : V1.VDiff), KeyFree ks D → ∀ (t : Tag), (t = .raw ∨ t = .set) →
      ∀ (kvs : List (String × Json)), keysSorted kvs = true → matchP m po (.obj kvs) = true →
      ∀ r, V1.patchAll (.obj kvs) D = .ok r →
      ∃ kvr t', r = .obj kvr ∧ keysSorted kvr = true ∧ (∀ k ∈ ks, alookup k kvr = alookup k kvs) ∧
        (t' = .raw ∨ t' = .set) ∧
        V1.patchAll (.arr t (pre ++ .obj kvs :: post))
            (D.map (shift [.arr .raw (metaItems m), .obj po]))
          = .ok (.arr t' (pre ++ r :: post))
  | [], _, t, ht, kvs, hs, _, r, hr => by
    simp only [V1P.patchAll_nil, Outcome.ok.injEq] at hr
    subst hr
    exact ⟨kvs, t, rfl, hs, fun _ _ => rfl, ht, by simp [V1P.patchAll_nil]⟩
  | h :: D, hD, t, ht, kvs, hs, hm, r, hr => by
    obtain ⟨k, rest, hpath, hkn⟩ := hD h List.mem_cons_self
    have hnm : NM h := hD.nm h List.mem_cons_self
    obtain ⟨hp0, ho0, hn0⟩ := h
    simp only at hpath
    subst hpath
    have hsh : ({ path := .str k :: rest, old := ho0, new := hn0 } : V1.Hunk)
        = shift [.str k] { path := rest, old := ho0, new := hn0 } := rfl
    rw [V1S.patchAll_cons _ _ _ hnm, hsh, V1P.ap_key] at hr
    cases hv : ap ((alookup k kvs).getD .void) { path := rest, old := ho0, new := hn0 } with
    | err => rw [hv] at hr; cases hr
    | panic => rw [hv] at hr; cases hr
    | ok v =>
      rw [hv] at hr
      simp only [Outcome.bind_ok] at hr
      have hs1 := Merge.keysSorted_putKvs k v hs
      have hl1 : ∀ j ∈ ks, alookup j (putKvs k v kvs) = alookup j kvs := by
        intro j hj
        exact Merge.alookup_putKvs_ne v kvs (fun e : j = k => hkn (e ▸ hj))
      have hl2 : ∀ j, (alookup j po).isSome = true →
          alookup j (putKvs k v kvs) = alookup j kvs := fun j hj => hl1 j (hpok j hj)
      have hm1 : matchP m po (.obj (putKvs k v kvs)) = true := by
        rw [matchP_congr hs hs1 hl2]; exact hm
      obtain ⟨kvr, t', e1, e2, e3, e4, e5⟩ := patchAll_keyed_frame K po hpok pre post
        hpre D (fun h' hh' => hD h' (List.mem_cons_of_mem _ hh')) .set (Or.inr rfl)
        (putKvs k v kvs) hs1 hm1 r hr
      refine ⟨kvr, t', e1, e2, fun j hj => by rw [e3 j hj, hl1 j hj], e4, ?_⟩
      have hnm2 : NM (shift [.arr .raw (metaItems m), .obj po]
          { path := .str k :: rest, old := ho0, new := hn0 }) := V1S.nm_meta m _ _ _
      rw [List.map_cons, V1S.patchAll_cons _ _ _ hnm2]
      have hap : ap (.arr t (pre ++ .obj kvs :: post))
          (shift [.arr .raw (metaItems m), .obj po]
            { path := .str k :: rest, old := ho0, new := hn0 })
          = .ok (.arr .set (pre ++ .obj (putKvs k v kvs) :: post)) := by
        have hleaf : V1.pathIsLeaf (V1.liftPath (.str k :: rest)) = false := by
          simp [V1.liftPath, V1.pathIsLeaf]
        show V1.patchNode false _ (V1.liftPath (.arr .raw (metaItems m) :: .obj po :: .str k :: rest))
          ho0 hn0 = _
        rw [patchNode_keyed K t ht po (.str k) rest hleaf ho0 hn0 pre kvs post hpre hm]
        have := V1P.ap_key kvs k { path := rest, old := ho0, new := hn0 }
        rw [hv] at this
        simp only [ap, shift, List.cons_append, List.nil_append, Outcome.bind_ok] at this
        rw [this]
      rw [hap]
      simp only [Outcome.bind_ok]
      exact e5

/-! ## 2.2 what one node of the diff has to achieve; objects -/

/-- the result is the target: for the library's `Equals`, it has the target's hash code (members of
    arrays read as sets are compared by hash code), and for the advertised equivalence `equivB` -/
def QR1 (m : V1.Metas) (o : Opts) (r b : Json) : Prop :=
  V1.equals m r b = true ∧ V1.hashCode m r = V1.hashCode m b ∧ equivB o r b = true

/-- the hunks of the diff of two nodes are hunks below the path, none announces the merge
    strategy, they apply to the source in sequence (`V1.patchAll`: the library's patch loop), the
    result is the target; and for two objects that agree on the set keys (same keys present, values
    with the same hash codes) the hunks do not touch the set keys -/
def StepK (m : V1.Metas) (o : Opts) (ks : List String) (a b : Json) (p : List Json) : Prop :=
  ∃ D r, V1.diffNode m false a b p = D.map (shift p) ∧ (∀ h ∈ D, NM h) ∧
    V1.patchAll a D = .ok r ∧ QR1 m o r b ∧
    (∀ kvs kvs', a = .obj kvs → b = .obj kvs' →
      (∀ k ∈ ks, (alookup k kvs).map (V1.hashCode m) = (alookup k kvs').map (V1.hashCode m)) →
      KeyFree ks D)

theorem obj_resultK {m : V1.Metas} {o : Opts} {cur kvs' : List (String × Json)}
    (hs : keysSorted cur = true) (hs' : keysSorted kvs' = true)
    (h : ∀ k, match alookup k kvs' with
      | none => alookup k cur = none
      | some v' => ∃ z, alookup k cur = some z ∧ QR1 m o z v') :
    QR1 m o (.obj cur) (.obj kvs') := by
  obtain ⟨r1, r2⟩ := V1S.obj_result (m := m) (o := o) hs hs' (fun k => by
    have hk := h k
    cases hl : alookup k kvs' with
    | none => rw [hl] at hk; exact hk
    | some v' =>
      rw [hl] at hk
      obtain ⟨z, hz, hq⟩ := hk
      exact ⟨z, hz, hq.2.2, hq.1⟩)
  refine ⟨r2, ?_, r1⟩
  have hlen : cur.length = kvs'.length := by
    simp only [V1.equals, Bool.and_eq_true, beq_iff_eq] at r2; exact r2.1
  let R : Json → Json → Bool := fun x y => V1.hashCode m x == V1.hashCode m y
  have key : AllLook R cur kvs' := (DPK.OptRel.members hs hs' fun k =>
    (DPK.OptRel.of_lookup (h k)).imp fun hr => (by simp [R, hr.2.1] : R _ _ = true)).2
  have hflip := AllLook.flip hs hs' hlen key
  have hk : V1.hashKvs m cur = V1.hashKvs m kvs' :=
    V1S.hashKvs_congr m R cur kvs' hs hs' key hflip (fun k v v' _ _ e => by
      simpa [R] using e)
  simp only [V1.hashCode, hk]

/-! ## 2.3 the set leaf, at the level of hash codes -/

/-- the set hunk on an array: the leaf case of `jsonSet.patch`, with the metadata READ FROM THE
    PATH (no set keys: members are told apart by their full hash codes) -/
theorem patchNode_set_leafK {m : V1.Metas} {ks : List String} (K : KMode m ks) (t : Tag)
    (ht : t = .raw ∨ t = .set) (xs old new : List Json) :
    V1.patchNode false (.arr t xs) (V1.liftPath [.arr .raw (metaItems m), .obj []]) old new =
      V1.patchSetLeaf (pm m) xs old new := by
  have he : V1.effTag (pm m) t = .set := by
    rcases ht with rfl | rfl <;> simp [V1.effTag, (pm_specK K).2.2.2]
  rw [V1P.patchNode_arr_set (by rw [pathNext_keyed K]; exact he), pathNext_keyed K]
  simp [V1.liftPath, V1.pathIsLeaf]

/-! ## 2.4 what the keyed set diff computes -/

section DiffSide
variable (m : V1.Metas) (mg : Bool) (p : List Json) (ys : List Json)

/-- where a sub-diff comes from -/
theorem sub_origin (xs : List Json) (h : UInt64) (d : V1.VDiff)
    (hm : (h, V1.SetPart.sub d) ∈ V1.diffSetElems m mg p ys xs) :
    ∃ kvs kvs', Json.obj kvs ∈ xs ∧ Json.obj kvs' ∈ ys ∧ h = V1.identOf m (.obj kvs) ∧
      V1.identOf m (.obj kvs') = V1.identOf m (.obj kvs) ∧
      d = V1.diffNode m mg (.obj kvs) (.obj kvs') (V1.appendIndex p (V1.pathObject m kvs) m) := by
  rw [V1S.diffSetElems_eq, mem_setParts] at hm
  obtain ⟨x, ex, hm⟩ := hm
  cases ey : lookupBy (V1.identOf m) h ys with
  | none => simp only [ey] at hm; cases hm
  | some y =>
    simp only [ey] at hm
    obtain ⟨kvs, kvs', rfl, rfl, e⟩ := objPair_eq_some.1 hm
    obtain ⟨hx, ix⟩ := lookupBy_mem ex
    obtain ⟨hy, iy⟩ := lookupBy_mem ey
    exact ⟨kvs, kvs', hx, hy, ix.symm, iy.trans ix.symm, V1.SetPart.sub.inj e⟩

end DiffSide

theorem identOf_nonobj (m : V1.Metas) {x : Json} (h : x.isObj = false) :
    V1.identOf m x = V1.hashCode m x := by
  cases x <;> simp_all [V1.identOf, Json.isObj]

/-! ## 2.5 one array read as a set of keyed members: the diff, then the patch -/

/-- the path object of a keyed member that carries at least one set key: the member restricted to
    the set keys (`jsonObject.pathObject`) -/
def pathObjK (ks : List String) (kvs : List (String × Json)) : List (String × Json) :=
  kvs.filter (fun kv => ks.contains kv.1)

theorem pathObject_eq {m : V1.Metas} {ks : List String} (K : KMode m ks)
    (kvs : List (String × Json)) (h : (pathObjK ks kvs).isEmpty = false) :
    V1.pathObject m kvs = pathObjK ks kvs := by
  unfold pathObjK at h
  simp only [V1.pathObject, K.keys, K.nonempty, Bool.false_eq_true, if_false, h, pathObjK]

theorem pathObjK_lookup (ks : List String) (kvs : List (String × Json)) (j : String) :
    alookup j (pathObjK ks kvs) = if ks.contains j then alookup j kvs else none :=
  alookup_filter (fun k => ks.contains k) j kvs

theorem pathObjK_keys (ks : List String) (kvs : List (String × Json)) (k : String)
    (h : (alookup k (pathObjK ks kvs)).isSome = true) : k ∈ ks := by
  rw [pathObjK_lookup] at h
  by_cases hk : k ∈ ks
  · exact hk
  · simp [hk] at h

theorem matchP_self (m : V1.Metas) (ks : List String) {kvs : List (String × Json)}
    (hs : keysSorted kvs = true) : matchP m (pathObjK ks kvs) (.obj kvs) = true := by
  have e : restrictKeys kvs (pathObjK ks kvs) = pathObjK ks kvs := by
    show kvs.filter _ = kvs.filter _
    apply List.filter_congr
    intro kv hkv
    rw [pathObjK_lookup, alookup_of_mem hs hkv]
    cases ks.contains kv.1 <;> rfl
  simp [matchP, e]

/-- the v1 patch loop has the frame property below a keyed member -/
theorem keyedPatchV1 {m : V1.Metas} {ks : List String} (K : KMode m ks) :
    KeyedFrame (ks := ks) V1.patchAll (KeyFree ks)
      (fun q => shift [.arr .raw (metaItems m), .obj q]) (matchP m) (pathObjK ks) where
  pa_nil := V1P.patchAll_nil
  pa_append_ok := fun a D1 D2 r h => V1S.patchAll_append_ok a r D1 D2 h
  po_keys := pathObjK_keys ks
  match_obj := fun q z h => by cases z <;> simp_all [matchP, Json.isObj]
  match_congr := matchP_congr
  frame := fun kvs0 pre post hpp => patchAll_keyed_frame K (pathObjK ks kvs0) (pathObjK_keys ks kvs0)
    pre post (fun z hz => hpp z (List.mem_append.2 (Or.inl hz)))

/-- an array with the member hash codes of `ys` is `ys` read as a set -/
theorem qr_of_hashes {m : V1.Metas} (hd : V1.dispatchTag m = .set) {t : Tag}
    (ht : t = .raw ∨ t = .set) {zs ys : List Json}
    (h : ∀ c, c ∈ zs.map (V1.hashCode m) ↔ c ∈ ys.map (V1.hashCode m))
    (hin : ∀ z ∈ zs, ∃ y ∈ ys, equivB [.set] z y = true)
    (hcov : ∀ y ∈ ys, ∃ z ∈ zs, equivB [.set] z y = true) :
    QR1 m [.set] (.arr t zs) (.arr .raw ys) := by
  have he : V1.effTag m t = .set := by rcases ht with rfl | rfl <;> simp [V1.effTag, hd]
  have hraw : V1.effTag m .raw = .set := by simp [V1.effTag, hd]
  have key : hsort (hdedup (V1.hashList m zs)) = hsort (hdedup (V1.hashList m ys)) := by
    apply hsort_hdedup_ext
    intro c
    rw [V1S.hashList_eq_map, V1S.hashList_eq_map]
    exact h c
  refine ⟨?_, ?_, ?_⟩
  · simp only [V1.equals, he, V1.dispatch, hd, V1S.hashCode_arr_set, hcombine, key,
      beq_self_eq_true]
  · simp only [V1.hashCode, he, hraw, hcombine, key]
  · simp only [equivB, dispatchTag, Bool.and_eq_true, allIn_iff, allCovered_iff]
    exact ⟨hin, hcov⟩

/-- **one array of keyed members**: `keyed_set_step_parts` for the v1 patch loop. `Hy` are the
    local hypotheses on the two arrays, `hasKey` "every object member carries a set key" (its path
    object is then the member restricted to the set keys), `members` the step of two object members
    with one identity (`node_stepK` derives them from the hypotheses of the main theorem); the leaf
    hunk reads `[SET]` back from the path, so members are told apart by their full hash codes. -/
theorem set_stepK {m : V1.Metas} {ks : List String} (K : KMode m ks)
    (xs ys : List Json) (p : List Json)
    (Hy : KeyedHyp (V1.identOf m) (V1.hashCode m) (V1.equals m) (fun a b => equivB [.set] a b = true)
      (matchP m) (pathObjK ks) xs ys)
    (hasKey : ∀ kvs, Json.obj kvs ∈ xs → (pathObjK ks kvs).isEmpty = false)
    (members : ∀ kvs kvs', Json.obj kvs ∈ xs → Json.obj kvs' ∈ ys →
      V1.identOf m (.obj kvs') = V1.identOf m (.obj kvs) → ∀ q, ∃ D r,
        V1.diffNode m false (.obj kvs) (.obj kvs') q = D.map (shift q) ∧ KeyFree ks D ∧
        V1.patchAll (.obj kvs) D = .ok r ∧ QR1 m [.set] r (.obj kvs')) :
    ∃ D r, V1.diffNode m false (.arr .raw xs) (.arr .raw ys) p = D.map (shift p) ∧
      (∀ h ∈ D, NM h) ∧ V1.patchAll (.arr .raw xs) D = .ok r ∧
      QR1 m [.set] r (.arr .raw ys) := by
  have hnm : ∀ r old new, NM { path := [.arr .raw (metaItems m), .obj r], old := old, new := new } :=
    fun r old new => V1S.nm_meta m [.obj r] old new
  obtain ⟨D, t, zs, e, hD, ht, hpa, k1, k2, k3⟩ := keyed_set_step_parts (keyedPatchV1 K) Hy
    (Q := QR1 m [.set]) (sp := shift p) (isSub := fun kp => (V1S.remOf kp).isNone)
    (subOf := V1S.subOf) (remC := V1.SetPart.removed)
    (sub := fun kvs y => .sub (V1.diffNode m false (.obj kvs) y
      (V1.appendIndex p (V1.pathObject m kvs) m)))
    (identOf_nonobj m) (fun h => h.2.1) (fun h => h.2.2)
    (fun _ _ => ⟨rfl, rfl⟩) (fun _ _ _ => rfl)
    (fun kvs kvs' hx hy hid => by
      obtain ⟨D0, r, q1, q2, q3, q4⟩ := members kvs kvs' hx hy hid
        (p ++ [.arr .raw (metaItems m), .obj (pathObjK ks kvs)])
      refine ⟨D0, r, q2, q3, q4, fun c => ?_⟩
      show V1.diffNode m false _ _ _ = _
      rw [pathObject_eq K kvs (hasKey kvs hx), V1S.appendIndex_eq, q1, List.map_map]
      exact List.map_congr_left fun h _ => by simp [V1P.shift_shift])
    (V1S.diffSetElems_eq m false p ys xs ▸ V1S.setDelta m false p xs ys)
    NM
    (fun q D0 _ h hh => by
      obtain ⟨h0, _, rfl⟩ := List.mem_map.1 hh
      exact V1S.nm_meta m _ _ _)
    { path := [.arr .raw (metaItems m), .obj []], old := _, new := addBy (V1.identOf m) xs ys }
    (hnm _ _ _)
    (fun t zs0 r ht h => V1S.patchAll_single _ _ (hnm _ _ _) (by
      show V1.patchNode false (.arr t zs0) (V1.liftPath [.arr .raw (metaItems m), .obj []]) _ _ = _
      rw [patchNode_set_leafK K t ht, V1S.patchSetLeaf_eq, pm_ident K, pm_equals K, h]))
  refine ⟨D, _, ?_, hD, hpa, qr_of_hashes K.tag ht k1 k2 k3⟩
  rw [V1S.diffNode_set_set K.tag, V1S.diffSetElems_eq, ← e, V1S.appendIndex_eq]
  simp [shift]

/-! ## 2.6 the hypotheses of the theorem (decidable), and the main induction -/

/-- the object members of the array node have pairwise distinct identities -/
def nodeKeyedDistinct (m : V1.Metas) : Json → Bool
  | .arr _ xs => decide (((xs.filter Json.isObj).map (V1.identOf m)).Nodup)
  | _ => true

/-- in every array node among `S` the object members have pairwise distinct identities: the array
    is a set of entities identified by their keys, none listed twice -/
def KeyedDistinct (m : V1.Metas) (S : List Json) : Prop := ∀ n ∈ S, nodeKeyedDistinct m n = true

/-- every object member of the array node carries at least one of the set keys -/
def nodeHasKey (ks : List String) : Json → Bool
  | .arr _ xs => xs.all fun x =>
    match x with
    | .obj kvs => !(pathObjK ks kvs).isEmpty
    | _ => true
  | _ => true

def HasKey (ks : List String) (S : List Json) : Prop := ∀ n ∈ S, nodeHasKey ks n = true

/-- among the object members of the array node, the keyed lookup of `jsonSet.patch` for the path
    object of a member hits only members with the identity of that member -/
def nodePathFaithful (m : V1.Metas) (ks : List String) : Json → Bool
  | .arr _ xs => xs.all fun x => xs.all fun z =>
    match x, z with
    | .obj kvs, .obj _ =>
      !(matchP m (pathObjK ks kvs) z) || V1.identOf m z == V1.identOf m x
    | _, _ => true
  | _ => true

def PathFaithful (m : V1.Metas) (ks : List String) (S : List Json) : Prop :=
  ∀ n ∈ S, nodePathFaithful m ks n = true

/-- two objects with the same identity have, key by key, values with the same hash code (and lack the
    same keys): the negation is the class of KF-C01-identperm (and of plain collisions of the identity) -/
def keyTupleOK (m : V1.Metas) (ks : List String) (x y : Json) : Bool :=
  match x, y with
  | .obj kvs, .obj kvs' =>
    V1.identOf m x != V1.identOf m y ||
      ks.all fun k => (alookup k kvs).map (V1.hashCode m) == (alookup k kvs').map (V1.hashCode m)
  | _, _ => true

def KeyTuple (m : V1.Metas) (ks : List String) (SA SB : List Json) : Prop :=
  ∀ x ∈ SA, ∀ y ∈ SB, keyTupleOK m ks x y = true

/-- no object has the identity of a non-object (a collision class) -/
def KindSepI (m : V1.Metas) (SA S : List Json) : Prop :=
  ∀ x ∈ SA, ∀ y ∈ S, V1.identOf m x = V1.identOf m y → x.isObj = y.isObj

/-- the members of one array node are told apart by their identities: two members with the same
    identity (the same values under the set keys) have the same hash code -/
def nodeIdentInj (m : V1.Metas) : Json → Bool
  | .arr _ xs =>
    xs.all fun x => xs.all fun x' =>
      V1.identOf m x != V1.identOf m x' || V1.hashCode m x == V1.hashCode m x'
  | _ => true

def IdentInj (m : V1.Metas) (S : List Json) : Prop := ∀ n ∈ S, nodeIdentInj m n = true

section Main
variable {m : V1.Metas} {ks : List String}

theorem k_hash (K : KMode m ks) : V1.hashCode m = V1.hashCode [.set] := by
  funext x; exact V1S.hashCode_congr (by rw [K.tag]; rfl) x

theorem k_equals (K : KMode m ks) : V1.equals m = V1.equals [.set] := by
  funext x y; exact V1S.equals_congr (by rw [K.tag]; rfl) (by rw [K.prec0]; rfl) x y

theorem M0 : V1S.Mode [.set] [.set] := V1S.SetMode.single.mode

theorem k_hf (K : KMode m ks) {S : List Json} (HF : V1S.HashFaithful m [.set] S) :
    V1S.HashFaithful [.set] [.set] S :=
  V1S.hashFaithful_of_tag (by rw [K.tag]; rfl) HF

/-- equivalent objects have the same identity under the set keys -/
theorem ident_eq_of_equivB (F : FloatEq0) (K : KMode m ks) {kvs kvs' : List (String × Json)}
    (ha : DocOk (.obj kvs)) (hb : DocOk (.obj kvs'))
    (h : equivB [.set] (.obj kvs) (.obj kvs') = true) :
    V1.identOf m (.obj kvs) = V1.identOf m (.obj kvs') := by
  have hs := ha.sorted
  have hs' := hb.sorted
  simp only [equivB, Bool.and_eq_true, beq_iff_eq, equivKvs_eq_lookAll, lookAll_iff] at h
  have hflip := AllLook.flip hs hs' h.1 h.2
  have key : ∀ l : List String, V1.identKeyHashes m kvs l = V1.identKeyHashes m kvs' l := by
    intro l
    induction l with
    | nil => rfl
    | cons k r ihr =>
      simp only [V1.identKeyHashes, ihr]
      cases e : alookup k kvs with
      | some v =>
        obtain ⟨v', hl, he⟩ := h.2 k v (mem_of_alookup e)
        rw [hl]
        simp only [k_hash K, V1S.equivB_hash_core F M0 v v' (ha.val (mem_of_alookup e))
          (hb.val (mem_of_alookup hl)) he]
      | none =>
        cases e' : alookup k kvs' with
        | none => rfl
        | some v' =>
          obtain ⟨v, hl, _⟩ := hflip k v' (mem_of_alookup e')
          rw [e] at hl
          cases hl
  simp only [V1.identOf, V1.identObj, K.keys, K.nonempty, key, Bool.false_eq_true, if_false]

/-- equal hash codes: `Equals`, equivalence, and the same identity -/
theorem hash_facts (F : FloatEq0) (K : KMode m ks) {S : List Json}
    (HF : V1S.HashFaithful m [.set] S) {x y : Json} (dx : DocOk x) (dy : DocOk y)
    (wx : Within S x) (wy : Within S y) (e : V1.hashCode m x = V1.hashCode m y) :
    V1.equals m x y = true ∧ V1.identOf m x = V1.identOf m y := by
  have heqv : equivB [.set] x y = true := HF x wx.self y wy.self e
  have heq : V1.equals m x y = true := by
    rw [k_equals K, V1S.equals_eq_equivB_of F M0 (k_hf K HF) dx dy wx wy]
    exact heqv
  refine ⟨heq, ?_⟩
  have hkind := DPK.equivB_isObj heqv
  cases x with
  | obj kvs =>
    cases y with
    | obj kvs' => exact ident_eq_of_equivB F K dx dy heqv
    | _ => simp [Json.isObj] at hkind
  | _ =>
    have hy : y.isObj = false := by rw [← hkind]; rfl
    rw [identOf_nonobj m rfl, identOf_nonobj m hy, e]

/-- members with the same identity in one array node of `SB` have the same hash code -/
theorem IdentInj.apply {SB : List Json} (h : IdentInj m SB) {t : Tag} {xs : List Json}
    (hn : Json.arr t xs ∈ SB) {x x' : Json} (hx : x ∈ xs) (hx' : x' ∈ xs)
    (e : V1.identOf m x = V1.identOf m x') : V1.hashCode m x = V1.hashCode m x' := by
  have := h _ hn
  simp only [nodeIdentInj, List.all_eq_true, Bool.or_eq_true, bne_iff_ne, ne_eq,
    beq_iff_eq] at this
  rcases this x hx x' hx' with h | h
  · exact absurd e h
  · exact h

/-- what `nodeHasKey` says of an object member of the array -/
theorem nodeHasKey_arr {t : Tag} {xs : List Json} (h : nodeHasKey ks (.arr t xs) = true)
    {kvs : List (String × Json)} (hx : Json.obj kvs ∈ xs) : (pathObjK ks kvs).isEmpty = false := by
  simp only [nodeHasKey, List.all_eq_true] at h
  simpa using h _ hx

/-- what `nodePathFaithful` says of two object members of the array -/
theorem nodePathFaithful_arr {t : Tag} {xs : List Json}
    (h : nodePathFaithful m ks (.arr t xs) = true) {kvs kz : List (String × Json)}
    (hx : Json.obj kvs ∈ xs) (hz : Json.obj kz ∈ xs)
    (e : matchP m (pathObjK ks kvs) (.obj kz) = true) :
    V1.identOf m (.obj kz) = V1.identOf m (.obj kvs) := by
  simp only [nodePathFaithful, List.all_eq_true] at h
  have h2 := h _ hx _ hz
  simp only [Bool.or_eq_true, Bool.not_eq_true', beq_iff_eq] at h2
  rcases h2 with h2 | h2
  · rw [h2] at e; cases e
  · exact h2

/-- what `keyTupleOK` says of two objects with the same identity -/
theorem keyTupleOK_obj {kvs kvs' : List (String × Json)}
    (h : keyTupleOK m ks (.obj kvs) (.obj kvs') = true)
    (hid : V1.identOf m (.obj kvs) = V1.identOf m (.obj kvs')) :
    ∀ k ∈ ks, (alookup k kvs).map (V1.hashCode m) = (alookup k kvs').map (V1.hashCode m) := by
  simp only [keyTupleOK, Bool.or_eq_true, bne_iff_ne, ne_eq, List.all_eq_true, beq_iff_eq] at h
  exact h.resolve_left (fun hn => hn hid)

/-- equivalent members of two arrays have the same identity -/
theorem ident_of_equivB (F : FloatEq0) (K : KMode m ks) {S : List Json}
    (HF : V1S.HashFaithful m [.set] S) {x y : Json} (dx : DocOk x) (dy : DocOk y)
    (wx : Within S x) (wy : Within S y) (e : equivB [.set] x y = true) :
    V1.identOf m x = V1.identOf m y :=
  (hash_facts F K HF dx dy wx wy (by
    rw [k_hash K]; exact V1S.equivB_hash_core F M0 x y dx dy e)).2

/-- in two equivalent arrays, an object member of the first with the identity of an object member
    `kvs'` of the second is equivalent to it: it is equivalent to some `y` of the second, which then
    has that identity too, hence (`IB`) the hash code of `kvs'`, hence (`HF`) is equivalent to it -/
theorem keyed_pair_equivB (F : FloatEq0) (K : KMode m ks) {S SB : List Json}
    (HF : V1S.HashFaithful m [.set] S) (IB : IdentInj m SB) {xs ys : List Json}
    (ha : DocOk (.arr .raw xs)) (hb : DocOk (.arr .raw ys)) (wa : Within S (.arr .raw xs))
    (wb : Within S (.arr .raw ys)) (wb' : Within SB (.arr .raw ys))
    (h : equivB [.set] (.arr .raw xs) (.arr .raw ys) = true) {kvs kvs' : List (String × Json)}
    (hx : Json.obj kvs ∈ xs) (hy' : Json.obj kvs' ∈ ys)
    (hid : V1.identOf m (.obj kvs) = V1.identOf m (.obj kvs')) :
    equivB [.set] (.obj kvs) (.obj kvs') = true := by
  simp only [equivB, dispatchTag, Bool.and_eq_true, allIn_iff, allCovered_iff] at h
  obtain ⟨y, hy, e⟩ := h.1 _ hx
  have hiy : V1.identOf m y = V1.identOf m (.obj kvs') :=
    (ident_of_equivB F K HF (ha.elem hx) (hb.elem hy) (wa.elem hx) (wb.elem hy) e).symm.trans hid
  have e2 : equivB [.set] y (.obj kvs') = true :=
    HF y (wb.elem hy).self _ (wb.elem hy').self (IB.apply wb'.self hy hy' hiy)
  exact DPK.equivB_trans_right F (o := [.set]) rfl rfl _ _ _ (hb.elem hy) (hb.elem hy') e e2

/-- **equivalent documents have an EMPTY keyed diff** (SET + setkeys, strict strategy): among the
    nodes `S` equal hash codes only for equivalent nodes, in the arrays of the second document
    members with the same identity have the same hash code -/
theorem diffNode_nil_of_equivB_K (F : FloatEq0) (K : KMode m ks) {S SB : List Json}
    (HF : V1S.HashFaithful m [.set] S) (IB : IdentInj m SB) :
    ∀ a b, DocOk a → DocOk b → Within S a → Within S b → Within SB b →
      equivB [.set] a b = true → ∀ p, V1.diffNode m false a b p = [] := by
  refine V1S.nil_of_equivB (fun a b h1 h2 _ _ h p => ?_) (fun xs ys ha hb wa wb wb' h0 ih p => ?_)
  · rw [V1P.diffNode_scalar m a b h1 h2 p, V1S.diffCommon_nil_iff,
      ← V1S.equivB_scalar_equals (m := m) (o := [.set]) rfl K.prec0 h1 h2]
    exact h
  have h := h0
  simp only [equivB, dispatchTag, Bool.and_eq_true, allIn_iff, allCovered_iff] at h
  have hident : ∀ x ∈ xs, ∀ y ∈ ys, equivB [.set] x y = true →
      V1.identOf m x = V1.identOf m y := fun x hx y hy e =>
    ident_of_equivB F K HF (ha.elem hx) (hb.elem hy) (wa.elem hx) (wb.elem hy) e
  have hperm := ksort_perm (V1.diffSetElems m false p ys xs)
  have hsubs : (ksort (V1.diffSetElems m false p ys xs)).flatMap V1S.subOf = [] := by
    rw [List.flatMap_eq_nil_iff]
    intro kp hkp
    have hkp' := hperm.mem_iff.1 hkp
    obtain ⟨c, part⟩ := kp
    cases part with
    | removed z => rfl
    | sub d =>
      obtain ⟨kvs, kvs', hx, hy', _, hid, hdd⟩ := sub_origin m false p ys xs c d hkp'
      simp only [V1S.subOf, hdd]
      exact ih _ hx _ hy' (keyed_pair_equivB F K HF IB ha hb wa wb wb' h0 hx hy' hid.symm) _
  obtain ⟨hrem, hadd⟩ := (V1S.setDelta m false p xs ys).nil_of_keys (fun c => by
    constructor
    · intro hc
      obtain ⟨x, hx, rfl⟩ := List.mem_map.1 hc
      obtain ⟨y, hy, e⟩ := h.1 x hx
      exact hident x hx y hy e ▸ List.mem_map_of_mem hy
    · intro hc
      obtain ⟨y, hy, rfl⟩ := List.mem_map.1 hc
      obtain ⟨x, hx, e⟩ := h.2 y hy
      exact hident x hx y hy e ▸ List.mem_map_of_mem hx)
  rw [V1S.diffNode_set_set K.tag, hsubs, hrem, hadd]
  rfl

theorem qr_refl (F : FloatEq0) (L : FloatLaws) (K : KMode m ks) {S : List Json}
    (HF : V1S.HashFaithful m [.set] S) {b : Json} (hb : Ok b) (wb : Within S b) :
    QR1 m [.set] b b := by
  obtain ⟨e1, e2⟩ := V1S.refl_both F L M0 (k_hf K HF) hb wb
  exact ⟨by rw [k_equals K]; exact e2, rfl, e1⟩

theorem replace_stepK (F : FloatEq0) (L : FloatLaws) (K : KMode m ks) {S : List Json}
    (HF : V1S.HashFaithful m [.set] S)
    {a b : Json} (ha : Ok a) (hb : Ok b) (wb : Within S b)
    (hno : a.isObj = false ∨ b.isObj = false) (p : List Json) (addl : List Json)
    (hl : addl.length ≤ 1) (hs : Json.singleValue addl = b)
    (hdiff : V1.diffNode m false a b p = [{ path := p, old := a.nodeList, new := addl }]) :
    StepK m [.set] ks a b p := by
  obtain ⟨D, r, h1, h2, h3, h4⟩ := (V1S.objDom_ok L).replace_step (R := QR1 m [.set]) ha
    (qr_refl F L K HF hb wb) p addl hl hs hdiff
  refine ⟨D, r, h1, h2, h3, h4, ?_⟩
  intro kvs kvs' e1 e2
  subst e1 e2
  simp [Json.isObj] at hno

theorem scalar_stepK (F : FloatEq0) (L : FloatLaws) (K : KMode m ks) {S : List Json}
    (HF : V1S.HashFaithful m [.set] S)
    {a b : Json} (h1 : ∀ t xs, a ≠ .arr t xs)
    (h2 : ∀ kvs, a ≠ .obj kvs) (ha : Ok a) (hb : Ok b) (wb : Within S b) (p : List Json) :
    StepK m [.set] ks a b p := by
  obtain ⟨D, r, d1, d2, d3, d4⟩ := (V1S.objDom_ok L).scalar_step (R := QR1 m [.set]) (m := m) h1 h2
    ha (fun he => by
      have heqv : equivB [.set] a b = true := by
        rw [V1S.equivB_scalar_equals (m := m) (o := [.set]) rfl K.prec0 h1 h2]; exact he
      exact ⟨he, by rw [k_hash K]; exact V1S.equivB_hash_core F M0 a b ha.docOk hb.docOk heqv,
        heqv⟩) (qr_refl F L K HF hb wb) p
  exact ⟨D, r, d1, d2, d3, d4, fun kvs _ e => absurd e (h2 kvs)⟩

/-- the hypotheses on the two documents (all decidable; see the header) -/
structure KeysHyp (m : V1.Metas) (ks : List String) (a0 b0 : Json) : Prop where
  hf : V1S.HashFaithful m [.set] (subterms a0 ++ subterms b0)
  kd : KeyedDistinct m (subterms a0)
  hk : HasKey ks (subterms a0)
  ksep : KindSepI m (subterms a0) (subterms a0 ++ subterms b0)
  ib : IdentInj m (subterms b0)
  pf : PathFaithful m ks (subterms a0)
  kt : KeyTuple m ks (subterms a0) (subterms b0)

theorem node_stepK (F : FloatEq0) (L : FloatLaws) (K : KMode m ks)
    {a0 b0 : Json} (H : KeysHyp m ks a0 b0) :
    ∀ a b, Ok a → Ok b → Within (subterms a0) a → Within (subterms b0) b →
      ∀ p, StepK m [.set] ks a b p := by
  have WA : ∀ {x : Json}, Within (subterms a0) x → Within (subterms a0 ++ subterms b0) x :=
    fun w z hz => List.mem_append.2 (Or.inl (w z hz))
  have WB : ∀ {x : Json}, Within (subterms b0) x → Within (subterms a0 ++ subterms b0) x :=
    fun w z hz => List.mem_append.2 (Or.inr (w z hz))
  intro a
  induction a using jsonIndScalar with
  | scalar a h1 h2 => intro b ha hb _ wb p; exact scalar_stepK F L K H.hf h1 h2 ha hb (WB wb) p
  | arr t xs ih =>
    intro b ha hb wa wb p
    have ht := ha.raw
    subst ht
    cases b with
    | arr t' ys =>
      have ht' := hb.raw
      subst ht'
      obtain ⟨D, r, h1, h2, h3, h4⟩ := set_stepK K xs ys p
        { sortedA := fun kvs hx => (ha.elem hx).sorted
          kd := by
            have := H.kd _ wa.self
            simpa [nodeKeyedDistinct] using this
          ksA := fun x hx x' hx' e =>
            H.ksep x (wa.elem hx).self x' (List.mem_append.2 (Or.inl (wa.elem hx').self)) e
          ksAB := fun x hx y hy e =>
            H.ksep x (wa.elem hx).self y (List.mem_append.2 (Or.inr (wb.elem hy).self)) e
          ib := fun y hy y' hy' e => H.ib.apply wb.self hy hy' e
          pf := fun kvs kz hx hz e => nodePathFaithful_arr (H.pf _ wa.self) hx hz e
          hself := fun kvs hx => matchP_self m ks (ha.elem hx).sorted
          hAA := fun x hx x' hx' e => hash_facts F K H.hf (ha.elem hx).docOk (ha.elem hx').docOk
            (WA (wa.elem hx)) (WA (wa.elem hx')) e
          hAB := fun x hx y hy e => (hash_facts F K H.hf (ha.elem hx).docOk (hb.elem hy).docOk
            (WA (wa.elem hx)) (WB (wb.elem hy)) e).2
          eqAB := fun x hx y hy e => H.hf x (WA (wa.elem hx)).self y (WB (wb.elem hy)).self e
          eqBB := fun y hy y' hy' e => H.hf y (WB (wb.elem hy)).self y' (WB (wb.elem hy')).self e
          trans := fun hy' hy e1 e2 => DPK.equivB_trans_right F (o := [.set]) rfl rfl _ _ _
            (hb.elem hy').docOk (hb.elem hy).docOk e1 e2 }
        (fun kvs hx => nodeHasKey_arr (H.hk _ wa.self) hx)
        (fun kvs kvs' hx hy hid q => by
          obtain ⟨D, r, h1, h2, h3, h4, h5⟩ := ih _ hx _ (ha.elem hx) (hb.elem hy) (wa.elem hx)
            (wb.elem hy) q
          exact ⟨D, r, h1, h5 kvs kvs' rfl rfl (keyTupleOK_obj
            (H.kt _ (wa.elem hx).self _ (wb.elem hy).self) hid.symm), h3, h4⟩)
      exact ⟨D, r, h1, h2, h3, h4, fun _ _ e => by cases e⟩
    | _ =>
      refine replace_stepK F L K H.hf ha hb (WB wb) (Or.inl rfl) p _
        (nodeList_length_le _) (V1S.singleValue_nodeList _) ?_
      rw [V1S.diffNode_arr_other (Or.inl K.tag) xs _ (fun _ _ e => by cases e) p]
      rfl
  | obj kvs ih =>
    intro b ha hb wa wb p
    cases b with
    | obj kvs' =>
      obtain ⟨D, cur, e, hD, hpa, hs, hfin⟩ := (V1S.objDom_ok L).obj_step_of (R := QR1 m [.set])
        (fun h => SetDP.equivB_isVoid h.2.2) ha hb.sorted (fun _ _ hm => (hb.val hm).2)
        (fun k v hm v' hl q => by
          obtain ⟨D0, r0, d1, d2, d3, d4, _⟩ := ih k v hm v' (ha.val hm).1 (hb.lookup hl).1
            (wa.val hm) (wb.val (mem_of_alookup hl)) q
          exact ⟨D0, r0, d1, d2, d3, d4⟩)
        (fun _ _ hm' => qr_refl F L K H.hf (hb.val hm').1 (WB (wb.val hm'))) p
      refine ⟨D, .obj cur, e, fun h hh => ?_, hpa, obj_resultK hs hb.sorted hfin, ?_⟩
      · obtain ⟨k, rest, e', _⟩ := hD h hh
        simp [NM, e', V1.liftPath, V1.pathIsMerge]
      -- the hunks do not touch the set keys: under a key of `ks` the two members have the same
      -- hash code, hence an empty diff, or both objects lack the key
      rintro _ _ ⟨⟩ ⟨⟩ prem h' hh'
      obtain ⟨k, rest, hpath, hcase⟩ := hD h' hh'
      refine ⟨k, rest, hpath, fun hkk => ?_⟩
      have hpr := prem k hkk
      rcases hcase with ⟨v, hkv, hne⟩ | ⟨hn, hs'⟩
      · rw [alookup_of_mem ha.sorted hkv] at hpr
        cases hl' : alookup k kvs' with
        | none => rw [hl'] at hpr; cases hpr
        | some v' =>
          rw [hl'] at hpr
          have hv := (ha.val hkv).1
          have hv' := (hb.lookup hl').1
          have wv := wa.val hkv
          have wv' := wb.val (mem_of_alookup hl')
          exact hne v' hl' (diffNode_nil_of_equivB_K F K H.hf H.ib v v' hv.docOk hv'.docOk (WA wv)
            (WB wv') wv' (H.hf v (WA wv).self v' (WB wv').self (Option.some.inj hpr)) _)
      · rw [hn] at hpr
        cases hl' : alookup k kvs' with
        | none => rw [hl'] at hs'; cases hs'
        | some v' => rw [hl'] at hpr; cases hpr
    | _ =>
      refine replace_stepK F L K H.hf ha hb (WB wb) (Or.inr rfl) p [_] (by simp) rfl ?_
      rw [V1P.diffNode_obj_other m kvs _ (fun _ e => by cases e) p]
      rfl

/-- **C17, SET + setkeys, strict strategy, in memory.** For documents as read from JSON text
    (`setDoc`, `memOK`), metadata `KMode m ks` (SET, at least one set key, no MERGE, precision 0),
    under the hypotheses `KeysHyp` (see the header): the hunks of `a.Diff(b, m...)` apply to `a` in
    sequence with the library's own patch code — no nested application fails, although the keyed
    branch of `jsonSet.patch` would discard such a failure —, and the result `Equals` `b` with the
    same metadata, is equivalent to `b` for the advertised equivalence (arrays as sets), and has
    the hash code of `b`. -/
theorem v1_diff_patch_setkeys (F : FloatEq0) (L : FloatLaws) (K : KMode m ks) (a b : Json)
    (ha : a.setDoc = true) (hb : b.setDoc = true)
    (ha' : DPL.memOK a = true) (hb' : DPL.memOK b = true) (H : KeysHyp m ks a b) :
    ∃ r, V1.patchM a (V1.diffM m a b) = .ok r ∧ V1.equals m r b = true ∧
      equivB [.set] r b = true ∧ V1.hashCode m r = V1.hashCode m b := by
  obtain ⟨D, r, e, _, h, h1, _⟩ := node_stepK F L K H a b ⟨ha, ha'⟩ ⟨hb, hb'⟩
    (fun _ hz => hz) (fun _ hz => hz) []
  exact ⟨r, V1S.root_call K.noMerge e h, h1.1, h1.2.2, h1.2.1⟩

/-- **C17, second half, SET + setkeys: the diff is empty exactly when `Equals` holds** (same
    hypotheses; the direction `Equals → empty` only uses `hf` and `ib`) -/
theorem v1_diff_empty_iff_equals_setkeys (F : FloatEq0) (L : FloatLaws) (K : KMode m ks)
    (a b : Json) (ha : a.setDoc = true) (hb : b.setDoc = true)
    (ha' : DPL.memOK a = true) (hb' : DPL.memOK b = true) (H : KeysHyp m ks a b) :
    V1.diffM m a b = [] ↔ V1.equals m a b = true := by
  constructor
  · exact fun hd => (V1S.patchM_nil_diff (v1_diff_patch_setkeys F L K a b ha hb ha' hb' H) hd).1
  · intro he
    have wa : Within (subterms a ++ subterms b) a := fun z hz => List.mem_append.2 (Or.inl hz)
    have wb : Within (subterms a ++ subterms b) b := fun z hz => List.mem_append.2 (Or.inr hz)
    rw [k_equals K, V1S.equals_eq_equivB_of F M0 (k_hf K H.hf) (docOk_of_setDoc ha)
      (docOk_of_setDoc hb) wa wb] at he
    unfold V1.diffM
    rw [K.noMerge]
    exact diffNode_nil_of_equivB_K F K H.hf H.ib a b (docOk_of_setDoc ha) (docOk_of_setDoc hb)
      wa wb (fun _ hz => hz) he []

end Main

end Jd.V1K
