/-
  JdProofs.PathSitesV1 — the aliasing discipline on the sites of lib/ (the v1 library) only: the v1 property rests on
  this module, so that a changed site of v2/ does not break it (see JdProofs/PathSites.lean for the discipline).
-/
import JdProofs.PathSitesDefs
import JdProofs.TableEval

namespace Jd.PathSites
open Jd Jd.PathHeap

/-- v1 (lib/): every stored path is a copy, every path expression of the diff-building code is safe -/
theorem v1_diff_paths_ok : (Gen.pathSites.filter (fun s => isV1 s && !isWrite s)).all ok = true := by
  rw [all_filter_test_first]
  decide +kernel

end Jd.PathSites
