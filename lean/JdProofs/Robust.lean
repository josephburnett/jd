/-
  JdProofs.Robust (namespace `Jd.Robust`) — property C02: the diff read back has the identical
  effect on every document.  (The no-panic theorems of C13 are in JdProofs.RobustReaders.)

  `NativeRT.read_render` says the reader returns `normDiff d`. What `normHunk` changes, and when
  it is harmless:
   (a) payload values and path key objects are `untag`ged. For tag-free hunks (`rawHunk`: what all
       text readers produce) this is the identity. With tags, the STRICT strategy is invariant only on
       list-mode documents / key-index paths / `jsonList` tags (`patch_normHunk_list`), and it is
       false otherwise (`ceTag_facts`); the MERGE strategy never compares values, so it is
       invariant up to the tags of the result on EVERY document and path (`patchNode_merge_untag`).
       Both merge statements, the exact one of (b) and this one, are `patchNode_merge_blind` at a map
       `g` of documents the strategy cannot see through (`Blind`): `g = id` and `g = untag`.
   (b) void entries of `remove` (and of a strict `add`) are dropped. `[void]` is treated like `[]`
       exactly where the values are used through `len > 1` and `singleValue` only:
       `patchNode_strict_VE` (strict, `valuePath`), `patchNode_merge_VE` (merge, every path).
       It is NOT so for: an append `-1` (`ceAppend_facts`), a list leaf (`ceAddVoid_facts`),
       a set / multiset leaf (`ceSetVoid_facts`), a void entry next to another entry
       (`ceLen_facts`, `ceLenMerge_facts`). All counterexamples satisfy `wfHunk`. → hypothesis `voidOK`.
   (c) `.setKeys []` ↦ `.set`: different in the strict strategy (`ceKeys_facts`,
       `noEmptySetKeys_needed`), irrelevant in the merge strategy. → hypothesis `setKeysOK`
       (implied by `noEmptySetKeys d`).
  NOT covered: strict hunks with set / multiset typed payload nodes or on set / multiset paths when the
  payload carries tags (false in general, see (a)).
-/
import JdModel
import JdSpec
import JdProofs.EqualsList
import JdProofs.NoPanic
import JdProofs.StrictPatch
import JdProofs.SetPatch
import JdProofs.Common
import JdProofs.PatchRender
import JdProofs.NativeRoundTrip
import JdProofs.PatchParseBack
import JdProofs.RobustReaders

set_option linter.unusedVariables false

namespace Jd.Robust
open Jd Jd.Spec Jd.NativeRT

/-! ### 2.0 definitions -/

/-- no path element `.setKeys []` (it is written `{}` and read back as `.set`) -/
def noEmptySetKeysP (p : Path) : Bool :=
  p.all (fun e => match e with | .setKeys o => !o.isEmpty | _ => true)

def noEmptySetKeys (d : Diff) : Bool := d.all (fun h => noEmptySetKeysP h.path)

/-- the key objects of the path are documents as read from text -/
def rawDocPath (p : Path) : Bool :=
  p.all (fun e => match e with | .setKeys o => rawDocKvs o | .msetKeys o => rawDocKvs o | _ => true)

/-- payload values and path key objects carry no Go type tags (what every text reader produces) -/
def rawHunk (h : Hunk) : Bool :=
  rawDocList h.before && rawDocList h.remove && rawDocList h.add && rawDocList h.after &&
    rawDocPath h.path

def noVoid (l : List Json) : Bool := l.all (fun v => !v.isVoid)

/-- a void entry, if any, is the only entry of the list -/
def voidAlone (l : List Json) : Bool := noVoid l || decide (l.length ≤ 1)

/-- paths along which removed / added values are used only through `len > 1` and `singleValue`
    in the strict strategy: no set / multiset element, and the last element is not a list index -/
def valuePath : Path → Bool
  | [] => true
  | .key _ :: r => valuePath r
  | .idx _ :: r => !r.isEmpty && valuePath r
  | .setKeys _ :: r => valuePath r
  | .msetKeys _ :: r => valuePath r
  | .set :: _ => false
  | .mset :: _ => false

/-- the void entries that `normHunk` drops are harmless -/
def voidOK (h : Hunk) : Bool :=
  if h.merge then voidAlone h.remove
  else (noVoid h.remove && noVoid h.add) ||
       (valuePath h.path && voidAlone h.remove && voidAlone h.add)

/-- two lists of removed (added) values that the value-replacing code paths cannot tell apart -/
def VE (l l' : List Json) : Prop :=
  (decide (l.length > 1) = decide (l'.length > 1)) ∧ Json.singleValue l = Json.singleValue l'

theorem VE.refl (l : List Json) : VE l l := ⟨rfl, rfl⟩

theorem filter_noVoid {l : List Json} (h : noVoid l = true) : l.filter (fun v => !v.isVoid) = l := by
  unfold noVoid at h
  exact List.filter_eq_self.2 (by simpa using h)

theorem VE_filter {l : List Json} (h : voidAlone l = true) : VE (l.filter (fun v => !v.isVoid)) l := by
  unfold voidAlone at h
  rcases (by simpa using h : noVoid l = true ∨ l.length ≤ 1) with h | h
  · rw [filter_noVoid h]; exact VE.refl l
  · match l, h with
    | [], _ => exact VE.refl _
    | [x], _ =>
      cases hx : x.isVoid
      · simp [hx, VE]
      · cases x <;> simp [Json.isVoid] at hx
        simp [VE, Json.isVoid, Json.singleValue]


theorem rawDocList_filter {l : List Json} (p : Json → Bool) (h : rawDocList l = true) :
    rawDocList (l.filter p) = true := by
  rw [rawDocList_eq_all, List.all_eq_true] at h ⊢
  exact fun x hx => h x (List.mem_filter.1 hx).1

/-- on tag-free paths without `{}`-keyed elements the reader's path normalisation is the identity -/
theorem normPath_raw (p : Path) (h1 : rawDocPath p = true) (h2 : noEmptySetKeysP p = true) :
    normPath p = p := by
  simp only [rawDocPath, noEmptySetKeysP, List.all_eq_true] at h1 h2
  refine (List.map_congr_left fun e he => ?_).trans (List.map_id p)
  have r := h1 e he
  have k := h2 e he
  cases e with
  | setKeys o => cases o with
    | nil => simp at k
    | cons kv o => simp [normElem, untagKvs_rawDoc _ r]
  | msetKeys o => simp [normElem, untagKvs_rawDoc _ r]
  | _ => rfl

/-- (b) strict strategy, ANY document: along a value path `patchNode` sees the removed / added
    values only through `len > 1` and `singleValue`, and does not look at the context lines -/
theorem patchNode_strict_VE (sw : Bool) (b r a af b' r' a' af' : List Json)
    (hr : VE r r') (ha : VE a a') :
    ∀ (pa : Path) (n : Json), valuePath pa = true →
      patchNode sw false n pa b r a af = patchNode sw false n pa b' r' a' af' := by
  intro pa n hv
  rw [patchNode_strict, patchNode_strict]
  induction pa generalizing n with
  | nil => simp only [patchS, replaceS, hr.1, hr.2, ha.1, ha.2]
  | cons e rest ih =>
    cases e with
    | key k => cases n <;> simp only [patchS, valuePath] at hv ⊢; rw [ih _ hv]
    | idx i =>
      simp only [valuePath, Bool.and_eq_true, Bool.not_eq_true'] at hv
      cases n <;> simp only [patchS, hv.1, Bool.false_eq_true, if_false, ih _ hv.2]
    | setKeys po =>
      cases n <;> simp only [patchS, valuePath] at hv ⊢
      simp only [funext fun x => ih x hv]
    | msetKeys po => cases n <;> simp only [patchS]
    | set => cases hv
    | mset => cases hv


/-! ### 2.3 the merge strategy -/

theorem normPath_cons (e : PathElem) (r : Path) : normPath (e :: r) = normElem e :: normPath r := rfl

theorem normPath_isEmpty (p : Path) : (normPath p).isEmpty = p.isEmpty := by
  cases p <;> rfl

theorem normElem_setKeys_cases (o : List (String × Json)) :
    (o = [] ∧ normElem (.setKeys o) = .set) ∨ normElem (.setKeys o) = .setKeys (untagKvs o) := by
  cases o
  · left; exact ⟨rfl, rfl⟩
  · right; rfl

theorem isLeaf_normPath (p : Path) : (normPath p).isLeaf = p.isLeaf := by
  match p with
  | [] => rfl
  | [e] =>
    cases e <;> try rfl
    rename_i o; cases o <;> rfl
  | e :: e' :: r =>
    cases e <;> try rfl
    rename_i o; cases o <;> rfl

/-! `patchFresh` in the merge strategy, case by case: a leaf path, a key, anything else -/

theorem patchFresh_merge_leaf {pa : Path} (hl : pa.isLeaf = true) (n : Json)
    (b r a af : List Json) :
    patchFresh true n pa b r a af =
      if r.length > 1 || a.length > 1 then .err
      else if (Json.singleValue r).isVoid then .ok (Json.singleValue a) else .err := by
  rw [patchFresh.eq_def]; simp [hl]

theorem patchFresh_merge_key (k : String) (rest : Path) (n : Json) (b r a af : List Json) :
    patchFresh true n (.key k :: rest) b r a af =
      patchFresh true n rest b r a af >>= fun v =>
        if !v.isVoid || !rest.isEmpty then .ok (.obj [(k, v)]) else .ok (.obj []) := by
  rw [patchFresh.eq_def]
  simp only [Path.isLeaf, Bool.false_eq_true, if_false, Bool.not_true]
  generalize patchFresh true n rest b r a af = P
  cases P <;> rfl

theorem patchFresh_merge_err {e : PathElem} {rest : Path} (hl : Path.isLeaf (e :: rest) = false)
    (he : ∀ k, e ≠ .key k) (n : Json) (b r a af : List Json) :
    patchFresh true n (e :: rest) b r a af = .err := by
  rw [patchFresh.eq_def]
  cases e <;> simp_all

/-- … and the reader's path normalisation keeps the case -/
theorem patchFresh_merge_err_norm {e : PathElem} {rest : Path}
    (hl : ¬ Path.isLeaf (e :: rest) = true) (he : ∀ k, e ≠ .key k) (n n' : Json)
    (b r a af b' r' a' af' : List Json) :
    patchFresh true n (normPath (e :: rest)) b r a af = .err ∧
      patchFresh true n' (e :: rest) b' r' a' af' = .err := by
  have hl' := (isLeaf_normPath _).trans (Bool.eq_false_iff.2 hl)
  have he' : ∀ k, normElem e ≠ .key k := by
    cases e <;> simp_all [normElem]
    split <;> simp
  exact ⟨patchFresh_merge_err hl' he' .., patchFresh_merge_err (Bool.eq_false_iff.2 hl) he ..⟩

theorem untag_eq_obj {n : Json} {kvs : List (String × Json)} (h : untag n = untag (.obj kvs)) :
    ∃ kvs', n = .obj kvs' := by
  cases n <;> simp [untag] at h ⊢

/-- What the merge strategy asks of a map `g` of documents so as not to see through it: void is
    recognised through `g`, only an object looks like an object, and looking up, writing and deleting
    a member respect it. `g = id` gives exact equality of outcomes, `g = untag` equality up to tags. -/
structure Blind (g : Json → Json) : Prop where
  isVoid : ∀ v, (g v).isVoid = v.isVoid
  obj : ∀ {n kvs}, g n = g (.obj kvs) → ∃ kvs', n = .obj kvs'
  lookup : ∀ k {kvs kvs'}, g (.obj kvs) = g (.obj kvs') →
    (alookup k kvs).map g = (alookup k kvs').map g
  insert : ∀ k {kvs kvs' v v'}, g (.obj kvs) = g (.obj kvs') → g v = g v' →
    g (.obj (ainsert k v kvs)) = g (.obj (ainsert k v' kvs'))
  erase : ∀ k {kvs kvs'}, g (.obj kvs) = g (.obj kvs') →
    g (.obj (aerase k kvs)) = g (.obj (aerase k kvs'))

theorem blind_id : Blind id where
  isVoid _ := rfl
  obj h := ⟨_, h⟩
  lookup := by intro k kvs kvs' h; cases Json.obj.inj h; rfl
  insert := by intro k kvs kvs' v v' h hv; cases Json.obj.inj h; cases (hv : v = v'); rfl
  erase := by intro k kvs kvs' h; cases Json.obj.inj h; rfl

theorem blind_untag : Blind untag where
  isVoid := untag_isVoid
  obj := untag_eq_obj
  lookup := by
    intro k kvs kvs' h
    simp only [untag, Json.obj.injEq] at h
    rw [← alookup_untagKvs, ← alookup_untagKvs, h]
  insert := by
    intro k kvs kvs' v v' h hv
    simp only [untag, untagKvs_ainsert, Json.obj.injEq] at h ⊢
    rw [h, hv]
  erase := by
    intro k kvs kvs' h
    simp only [untag, untagKvs_aerase, Json.obj.injEq] at h ⊢
    rw [h]

/-- two lists of removed (added) values that the value-replacing code paths cannot tell apart
    through `g` (`VE` is `VEg id`) -/
def VEg (g : Json → Json) (l l' : List Json) : Prop :=
  (decide (l.length > 1) = decide (l'.length > 1)) ∧
    g (Json.singleValue l) = g (Json.singleValue l')

/-- two outcomes equal through `g` are of the same kind -/
theorem mapO_eq {g : Json → Json} {P P' : Outcome Json}
    (h : Outcome.mapO g P = Outcome.mapO g P') :
    (∃ v v', P = .ok v ∧ P' = .ok v' ∧ g v = g v') ∨ (P = .err ∧ P' = .err) ∨
      (P = .panic ∧ P' = .panic) := by
  cases P <;> cases P' <;> simp_all [Outcome.mapO]

theorem mapO_id {α} (P : Outcome α) : Outcome.mapO id P = P := by cases P <;> rfl

/-- the member written (or deleted, when the value is void) into two objects alike through `g` -/
theorem objUpdate_blind {g : Json → Json} (G : Blind g) (k : String) {kvs kvs' : List (String × Json)}
    (he : g (.obj kvs) = g (.obj kvs')) {P P' : Outcome Json}
    (hP : Outcome.mapO g P = Outcome.mapO g P') :
    Outcome.mapO g (P >>= putKey k kvs) = Outcome.mapO g (P' >>= putKey k kvs') := by
  rcases mapO_eq hP with ⟨v, v', rfl, rfl, hv⟩ | ⟨rfl, rfl⟩ | ⟨rfl, rfl⟩
  · refine congrArg Outcome.ok ?_
    rw [obj_putKvs, obj_putKvs, ← G.isVoid v, hv, G.isVoid]
    split
    · exact G.erase k he
    · exact G.insert k he hv
  · rfl
  · rfl

section blind
variable {g : Json → Json} (G : Blind g) (b r a af b' r' a' af' : List Json)
  (hr : VEg g r r') (ha : VEg g a a')
include G hr ha

/-- in the merge strategy `patchFresh` ignores the node, the context, and sees the path only through
    its keys and `isLeaf` -/
theorem patchFresh_merge_blind : ∀ (pa : Path) (n n' : Json),
    Outcome.mapO g (patchFresh true n (normPath pa) b r a af)
      = Outcome.mapO g (patchFresh true n' pa b' r' a' af')
  | pa, n, n' => by
    by_cases hl : pa.isLeaf = true
    · rw [patchFresh_merge_leaf (by rwa [isLeaf_normPath]), patchFresh_merge_leaf hl, hr.1, ha.1,
        ← G.isVoid (Json.singleValue r), hr.2, G.isVoid]
      split
      · rfl
      · split
        · exact congrArg Outcome.ok ha.2
        · rfl
    · match pa with
      | [] => exact absurd rfl hl
      | .key k :: rest =>
        have ih := patchFresh_merge_blind rest n n'
        rw [normPath_cons, show normElem (.key k) = .key k from rfl, patchFresh_merge_key,
          patchFresh_merge_key, normPath_isEmpty]
        rcases mapO_eq ih with ⟨v, v', hP, hP', hv⟩ | ⟨hP, hP'⟩ | ⟨hP, hP'⟩ <;> rw [hP, hP']
        rw [Outcome.bind_ok, Outcome.bind_ok, ← G.isVoid v, hv, G.isVoid]
        split
        · exact congrArg Outcome.ok (G.insert k (kvs := []) (kvs' := []) rfl hv)
        · rfl
      | .idx _ :: rest | .set :: rest | .mset :: rest | .setKeys _ :: rest | .msetKeys _ :: rest =>
        obtain ⟨h1, h2⟩ := patchFresh_merge_err_norm hl (by simp) n n' b r a af b' r' a' af'
        rw [h1, h2]

theorem patchNew_merge_blind : ∀ (pa : Path) (isObj : Bool),
    Outcome.mapO g (patchNew true isObj (normPath pa) b r a af)
      = Outcome.mapO g (patchNew true isObj pa b' r' a' af')
  | pa, false => by
    simp only [patchNew]; exact patchFresh_merge_blind G b r a af b' r' a' af' hr ha pa _ _
  | [], true => by
    simp only [normPath, List.map_nil, patchNew, hr.1, ha.1, if_true]
    split
    · rfl
    · exact congrArg Outcome.ok ha.2
  | e :: rest, true => by
    have ih := patchNew_merge_blind rest (true && !rest.isEmpty)
    cases e with
    | key k =>
      simp only [normPath_cons, normElem, patchNew, normPath_isEmpty]
      rcases mapO_eq ih with ⟨v, v', hP, hP', hv⟩ | ⟨hP, hP'⟩ | ⟨hP, hP'⟩ <;>
        simp only [hP, hP']
      rw [← G.isVoid v, hv, G.isVoid]
      split
      · rfl
      · exact congrArg Outcome.ok (G.insert k (kvs := []) (kvs' := []) rfl hv)
    | setKeys o =>
      rcases normElem_setKeys_cases o with ⟨_, h⟩ | h <;> simp only [normPath_cons, h, patchNew]
    | _ => simp only [normPath_cons, normElem, patchNew]

/-- merge strategy, ANY two documents alike through `g`, ANY path: the removed / added values are
    used only through `len > 1` and `singleValue`; the context and the kind of the non-key path
    elements (`{}` read as a set element, key objects untagged) are not looked at -/
theorem patchNode_merge_blind (sw : Bool) (pa : Path) (n n' : Json) (he : g n = g n') :
    Outcome.mapO g (patchNode sw true n (normPath pa) b r a af)
      = Outcome.mapO g (patchNode sw true n' pa b' r' a' af') := by
  rw [patchNode_merge_eq, patchNode_merge_eq]
  -- anything but an object is handed to `patchFresh`; `g` tells objects from the rest
  have other : ∀ (pa : Path) (n n' : Json), g n = g n' → (∀ kvs, n ≠ .obj kvs) →
      Outcome.mapO g (patchMg b r a af (normPath pa) n)
        = Outcome.mapO g (patchMg b' r' a' af' pa n') := fun pa n n' he hn => by
    have hn' : ∀ kvs, n' ≠ .obj kvs := fun kvs h =>
      (G.obj (h ▸ he)).elim fun kvs' h' => hn kvs' h'
    rw [patchMg_notObj hn, patchMg_notObj hn']
    exact patchFresh_merge_blind G b r a af b' r' a' af' hr ha pa _ _
  have isObj : ∀ n : Json, (¬ ∀ kvs, n ≠ .obj kvs) → ∃ kvs, n = .obj kvs := fun n hn => by
    cases n <;> first | exact ⟨_, rfl⟩ | exact absurd (fun _ => nofun) hn
  induction pa generalizing n n' with
  | nil =>
    by_cases hn : ∀ kvs, n ≠ .obj kvs
    · exact other [] n n' he hn
    · obtain ⟨kvs, rfl⟩ := isObj n hn
      obtain ⟨kvs', rfl⟩ := G.obj he.symm
      simp only [normPath, List.map_nil, patchMg, hr.1, ha.1]
      split
      · rfl
      · exact congrArg Outcome.ok ha.2
  | cons e rest ih =>
    by_cases hn : ∀ kvs, n ≠ .obj kvs
    · exact other (e :: rest) n n' he hn
    · obtain ⟨kvs, rfl⟩ := isObj n hn
      obtain ⟨kvs', rfl⟩ := G.obj he.symm
      cases e with
      | key k =>
        simp only [normPath_cons, normElem, patchMg, normPath_isEmpty]
        refine objUpdate_blind G k he ?_
        have hlk := G.lookup k he
        cases hl : alookup k kvs with
        | some v =>
          cases hl' : alookup k kvs' with
          | some v' => rw [hl, hl'] at hlk; exact ih v v' (Option.some.inj hlk)
          | none => rw [hl, hl'] at hlk; simp at hlk
        | none =>
          cases hl' : alookup k kvs' with
          | some v' => rw [hl, hl'] at hlk; simp at hlk
          | none => exact patchNew_merge_blind G b r a af b' r' a' af' hr ha rest _
      | setKeys o =>
        rcases normElem_setKeys_cases o with ⟨_, h⟩ | h <;> simp only [normPath_cons, h, patchMg]
      | _ => simp only [normPath_cons, normElem, patchMg]

end blind

/-- merge strategy, exact equality: the instance `g = id` -/
theorem patchNode_merge_VE (sw : Bool) (b r a af b' r' a' af' : List Json)
    (hr : VE r r') (ha : VE a a') (pa : Path) (n : Json) :
    patchNode sw true n (normPath pa) b r a af = patchNode sw true n pa b' r' a' af' := by
  have := patchNode_merge_blind blind_id b r a af b' r' a' af' hr ha sw pa n n rfl
  rwa [mapO_id, mapO_id] at this


/-! ### 2.4 one hunk, tag-free payloads: EXACT equality on EVERY document -/

/-- `.setKeys []` matters only in the strict strategy -/
def setKeysOK (h : Hunk) : Bool := h.merge || noEmptySetKeysP h.path

theorem setKeysOK_of_noEmptySetKeys {d : Diff} (hd : noEmptySetKeys d = true) :
    d.all setKeysOK = true := by
  simp only [noEmptySetKeys, List.all_eq_true] at hd ⊢
  intro h hh; simp [setKeysOK, hd h hh]

/-- C02, one hunk. Payload values and path key objects without Go type tags (`rawHunk`: what the text
    readers and `Diff` on documents read from text produce); no `{}`-keyed path element in a strict
    hunk; void entries harmless (`voidOK`). Then the hunk the native reader gives back has exactly
    the same effect on EVERY document (any array tags, any strategy of the caller). -/
theorem patch_normHunk_raw (sw : Bool) (c : Json) (h : Hunk)
    (hraw : rawHunk h = true) (hk : setKeysOK h = true) (hv : voidOK h = true) :
    patchNode sw (normHunk h).merge c (normHunk h).path (normHunk h).before (normHunk h).remove
        (normHunk h).add (normHunk h).after
      = patchNode sw h.merge c h.path h.before h.remove h.add h.after := by
  simp only [rawHunk, Bool.and_eq_true] at hraw
  obtain ⟨⟨⟨⟨hb, hr⟩, ha⟩, haf⟩, hp⟩ := hraw
  have hrl : rawDocList (remLines h) = true := rawDocList_filter _ hr
  have hal : rawDocList (addLines h) = true := by
    unfold addLines; split
    · exact ha
    · exact rawDocList_filter _ ha
  simp only [normHunk, map_untag_rawDoc hb, map_untag_rawDoc haf, map_untag_rawDoc hrl,
    map_untag_rawDoc hal]
  cases hm : h.merge with
  | true =>
    simp only [voidOK, hm, if_true] at hv
    simp only [addLines, hm, if_true, remLines]
    exact patchNode_merge_VE sw _ _ _ _ _ _ _ _ (VE_filter hv) (VE.refl _) h.path c
  | false =>
    simp only [setKeysOK, hm, Bool.false_or] at hk
    simp only [voidOK, hm, Bool.false_eq_true, if_false, Bool.or_eq_true, Bool.and_eq_true] at hv
    simp only [addLines, hm, Bool.false_eq_true, if_false, remLines, normPath_raw h.path hp hk]
    rcases hv with ⟨h1, h2⟩ | ⟨⟨h0, h1⟩, h2⟩
    · rw [filter_noVoid h1, filter_noVoid h2]
    · exact patchNode_strict_VE sw _ _ _ _ _ _ _ _ (VE_filter h1) (VE_filter h2) h.path c h0

/-- under the same hypotheses with no void entry to drop, reading back gives the very same hunk -/
theorem normHunk_eq_self (h : Hunk) (hraw : rawHunk h = true)
    (hk : noEmptySetKeysP h.path = true) (h1 : noVoid h.remove = true)
    (h2 : (h.merge || noVoid h.add) = true) : normHunk h = h := by
  simp only [rawHunk, Bool.and_eq_true] at hraw
  obtain ⟨⟨⟨⟨hb, hr⟩, ha⟩, haf⟩, hp⟩ := hraw
  have hal : addLines h = h.add := by
    unfold addLines; split
    · rfl
    · rename_i hm; simp only [hm, Bool.false_or] at h2; exact filter_noVoid h2
  simp only [normHunk, remLines, filter_noVoid h1, hal, map_untag_rawDoc hb, map_untag_rawDoc hr,
    map_untag_rawDoc ha, map_untag_rawDoc haf, normPath_raw h.path hp hk]

/-! ### 2.5 sequences -/

/-- C02, the diff: EXACT equality of the outcome on EVERY document -/
theorem patchAll_normDiff_raw (sw : Bool) (d : Diff)
    (hd : d.all (fun h => rawHunk h && setKeysOK h && voidOK h) = true) :
    ∀ c : Json, patchAll sw c (normDiff d) = patchAll sw c d := by
  induction d with
  | nil => intro c; rfl
  | cons h d ih =>
    intro c
    simp only [List.all_cons, Bool.and_eq_true] at hd
    obtain ⟨⟨⟨h1, h2⟩, h3⟩, hd⟩ := hd
    simp only [normDiff, List.map_cons, patchAll]
    rw [patch_normHunk_raw sw c h h1 h2 h3]
    split
    · exact ih hd _
    · rfl
    · rfl


/-! ### 2.6 payloads WITH tags: list-mode documents, strict hunks on key / index paths -/

theorem mapO_optToOutcome {α β} (f : α → β) (S : Option α) :
    Outcome.mapO f (optToOutcome S) = optToOutcome (S.map f) := by
  cases S <;> rfl

theorem listDocList_map_untag (l : List Json) : listDocList (l.map untag) = true := by
  rw [← untagList_eq_map]; exact untagList_listDoc l

theorem hunkListDoc_untagHunk (h : Hunk) : hunkListDoc (untagHunk h) = true := by
  simp [hunkListDoc, untagHunk, listDocList_map_untag]

theorem normPath_strict : ∀ p : Path, strictPath p = true → normPath p = p
  | [], _ => rfl
  | e :: r, h => by
    cases e <;> simp only [strictPath] at h <;> try cases h
    all_goals simp only [normPath_cons, normElem, normPath_strict r h]

theorem VE_map_untag {l l' : List Json} (h : VE l l') : VE (l.map untag) (l'.map untag) := by
  obtain ⟨h1, h2⟩ := h
  refine ⟨by simpa using h1, ?_⟩
  have := single_map_untag l
  have := single_map_untag l'
  simp only [single] at *
  simp [*]

/-- a strict hunk on a key / index path, list-mode document, payloads with `jsonList` tags allowed:
    its payload-untagged form (with the harmless void entries dropped) has the same effect up to
    the tags of the result -/
theorem patch_normHunk_list (sw : Bool) (c : Json) (h : Hunk)
    (hc : c.listDoc = true) (hm : h.merge = false) (hp : strictPath h.path = true)
    (hh : hunkListDoc h = true) (hv : voidOK h = true) :
    Outcome.mapO untag (patchNode sw (normHunk h).merge c (normHunk h).path (normHunk h).before
        (normHunk h).remove (normHunk h).add (normHunk h).after)
      = Outcome.mapO untag (patchNode sw h.merge c h.path h.before h.remove h.add h.after) := by
  have e1 : patchNode sw (normHunk h).merge c (normHunk h).path (normHunk h).before
        (normHunk h).remove (normHunk h).add (normHunk h).after
      = patchNode sw false c h.path (untagHunk h).before (untagHunk h).remove (untagHunk h).add
          (untagHunk h).after := by
    simp only [voidOK, hm, Bool.false_eq_true, if_false, Bool.or_eq_true, Bool.and_eq_true] at hv
    simp only [normHunk, untagHunk, addLines, hm, Bool.false_eq_true, if_false, remLines,
      normPath_strict h.path hp]
    rcases hv with ⟨h1, h2⟩ | ⟨⟨h0, h1⟩, h2⟩
    · rw [filter_noVoid h1, filter_noVoid h2]
    · exact patchNode_strict_VE sw _ _ _ _ _ _ _ _ (VE_map_untag (VE_filter h1))
        (VE_map_untag (VE_filter h2)) h.path c h0
  rw [e1, hm, patchNode_strict_eq_ref sw c (untagHunk h) h.path hp hc (hunkListDoc_untagHunk h),
    patchNode_strict_eq_ref sw c h h.path hp hc hh]
  rw [mapO_optToOutcome, mapO_optToOutcome, applyStrict_untagHunk h.path h c]


theorem hunkListDoc_normHunk (h : Hunk) : hunkListDoc (normHunk h) = true := by
  simp [hunkListDoc, normHunk, listDocList_map_untag]

/-- the strict strategy on list-mode documents does not look at the tags of the document -/
theorem patchNode_strict_untag_congr (sw : Bool) {n n' : Json} (e : untag n = untag n')
    (hn : n.listDoc = true) (hn' : n'.listDoc = true) (h : Hunk)
    (hp : strictPath h.path = true) (hh : hunkListDoc h = true) :
    Outcome.mapO untag (patchNode sw false n h.path h.before h.remove h.add h.after)
      = Outcome.mapO untag (patchNode sw false n' h.path h.before h.remove h.add h.after) := by
  rw [patchNode_strict_eq_ref sw n h h.path hp hn hh, patchNode_strict_eq_ref sw n' h h.path hp hn' hh]
  rw [mapO_optToOutcome, mapO_optToOutcome, applyStrict_untag_congr e h.path h]

/-! ### 2.7 the merge strategy with tagged payloads: EVERY document, EVERY path, up to tags -/

theorem VEg_untag_of_VE_map {l l' : List Json} (h : VE l l') : VEg untag (l.map untag) l' := by
  obtain ⟨h1, h2⟩ := h
  refine ⟨by simpa using h1, ?_⟩
  have := single_map_untag l
  simp only [single] at this
  rw [this, untag_idem, h2]

/-- merge strategy, tagged payloads: EVERY document (two documents equal up to tags), EVERY path:
    the instance `g = untag` -/
theorem patchNode_merge_untag (sw : Bool) (b r a af b' r' a' af' : List Json)
    (hr : VEg untag r r') (ha : VEg untag a a') (pa : Path) (n n' : Json) (he : untag n = untag n') :
    Outcome.mapO untag (patchNode sw true n (normPath pa) b r a af)
      = Outcome.mapO untag (patchNode sw true n' pa b' r' a' af') :=
  patchNode_merge_blind blind_untag b r a af b' r' a' af' hr ha sw pa n n' he

/-- C02, one MERGE hunk, tagged payloads, EVERY document (two documents equal up to tags), EVERY
    path (`{}`-keyed elements included): same effect up to the tags of the result. The only
    hypothesis: a void entry of `remove` is alone in the list. -/
theorem patch_normHunk_merge (sw : Bool) (c c' : Json) (h : Hunk) (e : untag c = untag c')
    (hm : h.merge = true) (hv : voidOK h = true) :
    Outcome.mapO untag (patchNode sw (normHunk h).merge c (normHunk h).path (normHunk h).before
        (normHunk h).remove (normHunk h).add (normHunk h).after)
      = Outcome.mapO untag (patchNode sw h.merge c' h.path h.before h.remove h.add h.after) := by
  simp only [voidOK, hm, if_true] at hv
  simp only [normHunk, addLines, hm, if_true, remLines]
  exact patchNode_merge_untag sw _ _ _ _ _ _ _ _ (VEg_untag_of_VE_map (VE_filter hv))
    (VEg_untag_of_VE_map (VE.refl _)) h.path c c' e

/-- C02, a diff of merge hunks, tagged payloads, EVERY document -/
theorem patchAll_normDiff_merge_gen (sw : Bool) (d : Diff)
    (hd : d.all (fun h => h.merge && voidOK h) = true) :
    ∀ n n' : Json, untag n = untag n' →
      Outcome.mapO untag (patchAll sw n (normDiff d)) = Outcome.mapO untag (patchAll sw n' d) := by
  induction d with
  | nil => intro n n' e; simp [normDiff, patchAll, Outcome.mapO, e]
  | cons h d ih =>
    intro n n' e
    simp only [List.all_cons, Bool.and_eq_true] at hd
    obtain ⟨⟨hm, hv⟩, hd⟩ := hd
    simp only [normDiff, List.map_cons, patchAll]
    rcases mapO_eq (patch_normHunk_merge sw n n' h e hm hv) with
      ⟨v, v', hP, hP', hv⟩ | ⟨hP, hP'⟩ | ⟨hP, hP'⟩ <;> rw [hP, hP']
    exact ih hd _ _ hv

theorem patchAll_normDiff_merge (sw : Bool) (c : Json) (d : Diff)
    (hd : d.all (fun h => h.merge && voidOK h) = true) :
    Outcome.mapO untag (patchAll sw c (normDiff d)) = Outcome.mapO untag (patchAll sw c d) :=
  patchAll_normDiff_merge_gen sw d hd c c rfl

/-! ### 2.8 the hypotheses are needed: counterexamples (all inside `wfHunk`, the domain of
    `NativeRT.read_render`) -/

/-- (c) `{}` as a keyed element vs as the set element -/
def ceKeys : Hunk := { path := [.setKeys [], .key "x"], add := [.null] }

theorem ceKeys_facts (sw : Bool) :
    wfHunk ceKeys = true ∧ rawHunk ceKeys = true ∧ voidOK ceKeys = true ∧
    noEmptySetKeysP ceKeys.path = false ∧
    patchNode sw false (.arr .raw []) ceKeys.path ceKeys.before ceKeys.remove ceKeys.add ceKeys.after
      = .err ∧
    patchNode sw false (.arr .raw []) (normHunk ceKeys).path (normHunk ceKeys).before
      (normHunk ceKeys).remove (normHunk ceKeys).add (normHunk ceKeys).after
      = .ok (.arr .set [.null]) := by
  refine ⟨by decide, by decide, by decide, by decide, ?_, ?_⟩ <;> rw [patchNode_strict] <;> rfl


theorem wfHunk_of_idx {h : Hunk} (hi : ∀ i, PathElem.idx i ∈ h.path → i.natAbs < 2 ^ 53)
    (hrest : ((h.before.drop 1).all (fun v => !v.isVoid)
      && (!(remLines h).isEmpty || !(addLines h).isEmpty)
      && ((decide ((addLines h).length ≤ 1) && decide ((remLines h).length ≤ 1)) || multiLast h.path))
      = true) : wfHunk h = true := by
  unfold wfHunk
  rw [idxOK_of_bound h.path hi]
  simpa using hrest

/-- (b) an append (`-1`) refuses any `remove` entry, the void one included -/
def ceAppend : Hunk := { path := [.idx (-1)], remove := [.void], add := [.null] }

/-- (b) `len(remove) > 1` counts the void entry: strict root replacement -/
def ceLen : Hunk := { path := [], remove := [.void, .obj []] }

/-- (b) the same in the merge strategy (an object at the root is replaced without looking at
    `remove`, but its length is checked) -/
def ceLenMerge : Hunk := { merge := true, path := [], remove := [.void, .null], add := [.null] }

/-- (b) a strict list hunk stores a void `add` entry in the array -/
def ceAddVoid : Hunk := { path := [.idx 0], add := [.void, .null] }

/-- (b) a set hunk looks the void `remove` entry up in the set -/
def ceSetVoid : Hunk := { path := [.set], remove := [.void], add := [.null] }

theorem ceSetVoid_facts (sw : Bool) :
    wfHunk ceSetVoid = true ∧ rawHunk ceSetVoid = true ∧ voidAlone ceSetVoid.remove = true ∧
    patchNode sw false (.arr .raw []) ceSetVoid.path ceSetVoid.before ceSetVoid.remove ceSetVoid.add
      ceSetVoid.after = .err ∧
    patchNode sw false (.arr .raw []) (normHunk ceSetVoid).path (normHunk ceSetVoid).before
      (normHunk ceSetVoid).remove (normHunk ceSetVoid).add (normHunk ceSetVoid).after
      = .ok (.arr .set [.null]) := by
  refine ⟨by decide, by decide, by decide, ?_, ?_⟩ <;> rw [patchNode_strict] <;> rfl

/-- (a) the tags of payload values matter to the strict strategy outside list-mode: a `jsonSet`
    typed `remove` value never equals the `jsonArray` it is compared with under no options -/
def ceTag : Hunk := { path := [], remove := [.arr .set []] }


/-! ### 2.9 corollaries in the requested shapes -/

theorem VE_void_nil : VE [Json.void] [] := ⟨by decide, rfl⟩

/-- where `[void]` is treated like `[]`: the strict strategy along a value path … -/
theorem patchNode_strict_void_nil (sw : Bool) (n : Json) (pa : Path) (b a af : List Json)
    (hv : valuePath pa = true) :
    patchNode sw false n pa b [.void] a af = patchNode sw false n pa b [] a af ∧
    patchNode sw false n pa b a [.void] af = patchNode sw false n pa b a [] af :=
  ⟨patchNode_strict_VE sw _ _ _ _ _ _ _ _ VE_void_nil (VE.refl _) pa n hv,
   patchNode_strict_VE sw _ _ _ _ _ _ _ _ (VE.refl _) VE_void_nil pa n hv⟩

/-- … and the merge strategy along every path (there a void `add` is a deletion and is kept by the
    renderer; only `remove` is concerned) -/
theorem patchNode_merge_void_nil (sw : Bool) (n : Json) (pa : Path) (b a af : List Json) :
    patchNode sw true n (normPath pa) b [.void] a af = patchNode sw true n pa b [] a af :=
  patchNode_merge_VE sw _ _ _ _ _ _ _ _ VE_void_nil (VE.refl _) pa n

/-- the statement with `noEmptySetKeys d` -/
theorem patchAll_normDiff_of_noEmptySetKeys (sw : Bool) (d : Diff)
    (h1 : d.all rawHunk = true) (h2 : noEmptySetKeys d = true) (h3 : d.all voidOK = true) (c : Json) :
    patchAll sw c (normDiff d) = patchAll sw c d := by
  refine patchAll_normDiff_raw sw d ?_ c
  have h2' := setKeysOK_of_noEmptySetKeys h2
  simp only [List.all_eq_true, Bool.and_eq_true] at h1 h2' h3 ⊢
  exact fun h hh => ⟨⟨h1 h hh, h2' h hh⟩, h3 h hh⟩

/-- the hypothesis `noEmptySetKeys` cannot be dropped from it -/
theorem noEmptySetKeys_needed (sw : Bool) :
    ∃ (d : Diff) (c : Json), wfDiff d = true ∧ d.all rawHunk = true ∧ d.all voidOK = true ∧
      patchAll sw c (normDiff d) ≠ patchAll sw c d := by
  refine ⟨[ceKeys], .arr .raw [], by decide, by decide, by decide, ?_⟩
  obtain ⟨_, _, _, _, h5, h6⟩ := ceKeys_facts sw
  have hm : (normHunk ceKeys).merge = false := rfl
  have hm' : ceKeys.merge = false := rfl
  simp only [normDiff, List.map_cons, List.map_nil, patchAll, hm, hm', h5, h6]
  simp

/-- … nor can `voidOK` -/
theorem voidOK_needed (sw : Bool) :
    ∃ (d : Diff) (c : Json), wfDiff d = true ∧ d.all rawHunk = true ∧ noEmptySetKeys d = true ∧
      patchAll sw c (normDiff d) ≠ patchAll sw c d := by
  refine ⟨[ceSetVoid], .arr .raw [], by decide, by decide, by decide, ?_⟩
  obtain ⟨_, _, _, h5, h6⟩ := ceSetVoid_facts sw
  have hm : (normHunk ceSetVoid).merge = false := rfl
  have hm' : ceSetVoid.merge = false := rfl
  simp only [normDiff, List.map_cons, List.map_nil, patchAll, hm, hm', h5, h6]
  simp


/-! ### 2.10 list-mode documents, tagged payloads, strict hunks followed by merge hunks
    (the order `wfDiff` imposes: `mergeMono`) -/

theorem all_merge_of_mergeMono : ∀ d : Diff, mergeMono true d = true → d.all (·.merge) = true
  | [], _ => rfl
  | h :: d, hm => by
    simp only [mergeMono, Bool.not_true, Bool.false_or, Bool.and_eq_true] at hm
    have := all_merge_of_mergeMono d (by have h2 := hm.2; rw [hm.1] at h2; exact h2)
    simp [hm.1, this]

/-- per hunk: void entries harmless, and a strict hunk is on a key / index path with list-mode
    payloads; nothing more is asked of a merge hunk -/
def listHunkOK (h : Hunk) : Bool :=
  voidOK h && (h.merge || (strictPath h.path && hunkListDoc h))

theorem patchAll_normDiff_listMixed_gen (sw : Bool) (d : Diff)
    (hmono : mergeMono false d = true) (hd : d.all listHunkOK = true) :
    ∀ n n' : Json, untag n = untag n' → n.listDoc = true → n'.listDoc = true →
      Outcome.mapO untag (patchAll sw n (normDiff d)) = Outcome.mapO untag (patchAll sw n' d) := by
  induction d with
  | nil => intro n n' e _ _; simp [normDiff, patchAll, Outcome.mapO, e]
  | cons h d ih =>
    intro n n' e hn hn'
    cases hm : h.merge with
    | true =>
      -- from here on every hunk is a merge hunk
      have hall : (h :: d).all (·.merge) = true := by
        simp only [mergeMono, Bool.and_eq_true] at hmono
        have := all_merge_of_mergeMono d (by have h2 := hmono.2; rw [hm] at h2; exact h2)
        simp [hm, this]
      refine patchAll_normDiff_merge_gen sw (h :: d) ?_ n n' e
      simp only [List.all_eq_true, Bool.and_eq_true, listHunkOK] at hd hall ⊢
      exact fun x hx => ⟨hall x hx, (hd x hx).1⟩
    | false =>
      simp only [List.all_cons, Bool.and_eq_true] at hd
      obtain ⟨hh0, hd⟩ := hd
      simp only [listHunkOK, hm, Bool.false_or, Bool.and_eq_true] at hh0
      obtain ⟨hv, hp, hh⟩ := hh0
      simp only [mergeMono, hm, Bool.and_eq_true] at hmono
      have s1 := patch_normHunk_list sw n h hn hm hp hh hv
      have s2 := patchNode_strict_untag_congr sw e hn hn' h hp hh
      have hp' : strictPath (normHunk h).path = true := by
        show strictPath (normPath h.path) = true
        rw [normPath_strict h.path hp]; exact hp
      have l1 := patchNode_strict_listDoc sw n (normHunk h) (normHunk h).path hp' hn
        (hunkListDoc_normHunk h)
      have l2 := patchNode_strict_listDoc sw n' h h.path hp hn' hh
      have hm' : (normHunk h).merge = false := hm
      rw [hm'] at s1
      rw [hm] at s1
      simp only [normDiff, List.map_cons, patchAll, hm, hm']
      rcases mapO_eq (s1.trans s2) with ⟨v, v', hP, hP', hv⟩ | ⟨hP, hP'⟩ | ⟨hP, hP'⟩ <;>
        rw [hP, hP']
      exact ih hmono.2 hd _ _ hv (l1 _ hP) (l2 _ hP')

theorem mergeMono_of_all_strict : ∀ d : Diff, d.all (fun h => !h.merge) = true →
    mergeMono false d = true
  | [], _ => rfl
  | h :: d, hd => by
    simp only [List.all_cons, Bool.and_eq_true, Bool.not_eq_true'] at hd
    simp [mergeMono, hd.1, mergeMono_of_all_strict d hd.2]

/-- C02, sequences of strict key / index hunks with tagged payloads, on list-mode documents -/
theorem patchAll_normDiff_list (sw : Bool) (c : Json) (d : Diff) (hc : c.listDoc = true)
    (hd : d.all (fun h => !h.merge && strictPath h.path && hunkListDoc h && voidOK h) = true) :
    Outcome.mapO untag (patchAll sw c (normDiff d)) = Outcome.mapO untag (patchAll sw c d) := by
  simp only [List.all_eq_true, Bool.and_eq_true] at hd
  refine patchAll_normDiff_listMixed_gen sw d (mergeMono_of_all_strict d ?_) ?_ c c rfl hc hc
  · exact List.all_eq_true.2 fun h hh => (hd h hh).1.1.1
  · exact List.all_eq_true.2 fun h hh => by
      simp [listHunkOK, (hd h hh).2, (hd h hh).1.1.2, (hd h hh).1.2]

end Jd.Robust

/-! ### axioms -/

#print axioms Jd.Robust.readJsonM_ne_panic
#print axioms Jd.Robust.newPathM_ne_panic
#print axioms Jd.Robust.readDiffM_ne_panic
#print axioms Jd.Robust.readPointer_ne_panic
#print axioms Jd.Robust.readPatchM_ne_panic
#print axioms Jd.Robust.readMergeM_ne_panic
#print axioms Jd.Robust.renderPatchOps_ne_panic
#print axioms Jd.Robust.renderPatchM_ne_panic
#print axioms Jd.Robust.renderMergeDoc_ne_panic
#print axioms Jd.Robust.renderMergeM_ne_panic
#print axioms Jd.Robust.patchNode_strict_VE
#print axioms Jd.Robust.patchNode_merge_VE
#print axioms Jd.Robust.patchNode_merge_untag
#print axioms Jd.Robust.patch_normHunk_raw
#print axioms Jd.Robust.patchAll_normDiff_raw
#print axioms Jd.Robust.patchAll_normDiff_of_noEmptySetKeys
#print axioms Jd.Robust.patch_normHunk_merge
#print axioms Jd.Robust.patchAll_normDiff_merge
#print axioms Jd.Robust.patch_normHunk_list
#print axioms Jd.Robust.patchAll_normDiff_list
#print axioms Jd.Robust.patchAll_normDiff_listMixed_gen
#print axioms Jd.Robust.noEmptySetKeys_needed
#print axioms Jd.Robust.voidOK_needed
#print axioms Jd.Robust.ceKeys_facts
#print axioms Jd.Robust.ceSetVoid_facts
