/-
  JdProofs.MapOrder — property C15, map-iteration half: the results of the model do not depend on the
  order in which the members of a Go map are visited.

  A Go `map[string]JsonNode` has unique keys and no iteration order. The model represents it by an
  association list that the driver keeps sorted by key (`sortKvs`, `keysSorted`). Some Go functions sort
  the keys before iterating (hashCode, diff, encoding/json, readMergeInto); the following ones RANGE OVER
  THE MAP DIRECTLY. For each of them the model function is shown to return the same result for every
  permutation (`List.Perm`) of the association list it iterates over; where the argument is used as a
  finite map (looked up by key) the hypothesis is that the keys are pairwise distinct
  (`(kvs.map Prod.fst).Nodup`), which is what a Go map guarantees.

    Go                                                          model
    jsonObject.Equals (range o1, o2[k])                         equalsKvs / equals
    readMetadata (range o)                                      readMetadataM
    jsonObject.pathIdent (range path object, build a new map,   restrictKeys / pathIdent
      hash it)
    newPathSetKeys (range the option slice, assign into a map)  newPathSetKeys
    NewJsonNode(map) / jsonObject.raw (build a map member by    sortKvs (driver)
      member)
    readMergeInto (sorts the keys, then iterates)               readMergeDoc

  `sortKvs` here is literally the definition of `Jd.Wire.sortKvs` (Driver/Wire.lean; the driver library is
  not imported by the proof library): `kvs.foldl (fun acc kv => ainsert kv.1 kv.2 acc) []`.

  The permutation theorems are instantiated at `sortKvs`: running the model on the sorted
  representatives gives the result of visiting the members in ANY order.

  Scope: the permutation is of the members of the object the function ranges over (one level); nested
  objects are values and are not permuted (in the model they are already canonical).
  `readMetadataM` models the error CLASS and the Merge flag only, not the error text (the Go text
  "unknown metadata <k>" names the first offending member visited, so with two or more offending members
  the TEXT of the error does depend on the iteration order; the model does not cover it).
-/
import JdModel
import JdSpec
import JdProofs.EqualsList
import JdProofs.StrictPatch
import JdProofs.MergeProofs
import JdProofs.NativeRoundTrip

namespace Jd.MapOrder
open Jd

/-! ### 0. lookups in permuted association lists -/

abbrev keys {β} (kvs : List (String × β)) : List String := kvs.map Prod.fst

theorem keys_perm {β} {l₁ l₂ : List (String × β)} (p : l₁.Perm l₂) : (keys l₁).Perm (keys l₂) :=
  p.map Prod.fst

theorem nodup_keys_perm {β} {l₁ l₂ : List (String × β)} (p : l₁.Perm l₂) :
    (keys l₁).Nodup ↔ (keys l₂).Nodup :=
  (keys_perm p).nodup_iff

/-- **`alookup` depends only on the key → value function**: permuting an association list with
    distinct keys does not change any lookup -/
theorem alookup_perm {β} {l₁ l₂ : List (String × β)} (p : l₁.Perm l₂) (hn : (keys l₁).Nodup)
    (k : String) : alookup k l₁ = alookup k l₂ := by
  have hn₂ : (keys l₂).Nodup := (nodup_keys_perm p).1 hn
  cases h : alookup k l₁ with
  | none =>
    have h1 := (alookup_none_iff k l₁).1 h
    have h2 : k ∉ keys l₂ := fun hm => h1 ((keys_perm p).mem_iff.2 hm)
    exact ((alookup_none_iff k l₂).2 h2).symm
  | some v =>
    exact (alookup_of_mem_nodup hn₂ (p.mem_iff.1 (mem_of_alookup h))).symm

/-- presence of a key does not even need distinct keys -/
theorem alookup_isSome_perm {β} {l₁ l₂ : List (String × β)} (p : l₁.Perm l₂) (k : String) :
    (alookup k l₁).isSome = (alookup k l₂).isSome := by
  rw [Bool.eq_iff_iff, alookup_isSome_iff, alookup_isSome_iff]
  exact (keys_perm p).mem_iff

/-! ### 1. `jsonObject.Equals` : `for key1, val1 := range o1 { val2, ok := o2[key1] … }` -/

/-- the test made for one member of the receiver: `val2, ok := o2[key1]; ok && val1.Equals(val2)` -/
def memberEq (o : Opts) (v : Json) : Option Json → Bool
  | some v' => equals o v v'
  | none => false

/-- `equalsKvs` is the conjunction of the member tests -/
theorem equalsKvs_eq_all (o : Opts) (kvs' : List (String × Json)) :
    ∀ kvs : List (String × Json),
      equalsKvs o kvs kvs' = kvs.all (fun kv => memberEq o kv.2 (alookup kv.1 kvs'))
  | [] => by rw [equalsKvs_nil]; rfl
  | (k, v) :: r => by rw [equalsKvs_cons, equalsKvs_eq_all o kvs' r]; rfl

/-- the order in which the members of the receiver are visited is irrelevant
    (no hypothesis: the result is a conjunction over the members) -/
theorem equalsKvs_perm (o : Opts) {kvs₁ kvs₂ : List (String × Json)} (p : kvs₁.Perm kvs₂)
    (kvs' : List (String × Json)) : equalsKvs o kvs₁ kvs' = equalsKvs o kvs₂ kvs' := by
  rw [equalsKvs_eq_all, equalsKvs_eq_all, p.all_eq]

/-- the argument is used through its lookups only -/
theorem equalsKvs_congr_lookup (o : Opts) {kvs'₁ kvs'₂ : List (String × Json)}
    (h : ∀ k, alookup k kvs'₁ = alookup k kvs'₂) :
    ∀ kvs : List (String × Json), equalsKvs o kvs kvs'₁ = equalsKvs o kvs kvs'₂
  | [] => by rw [equalsKvs_nil, equalsKvs_nil]
  | (k, v) :: r => by
    rw [equalsKvs_cons, equalsKvs_cons, h k, equalsKvs_congr_lookup o h r]

/-- the internal order of the map that is looked up is irrelevant -/
theorem equalsKvs_perm_right (o : Opts) (kvs : List (String × Json))
    {kvs'₁ kvs'₂ : List (String × Json)} (p : kvs'₁.Perm kvs'₂) (hn : (keys kvs'₁).Nodup) :
    equalsKvs o kvs kvs'₁ = equalsKvs o kvs kvs'₂ :=
  equalsKvs_congr_lookup o (alookup_perm p hn) kvs

theorem equalsKvs_perm_both (o : Opts) {kvs₁ kvs₂ kvs'₁ kvs'₂ : List (String × Json)}
    (p : kvs₁.Perm kvs₂) (p' : kvs'₁.Perm kvs'₂) (hn' : (keys kvs'₁).Nodup) :
    equalsKvs o kvs₁ kvs'₁ = equalsKvs o kvs₂ kvs'₂ :=
  (equalsKvs_perm o p kvs'₁).trans (equalsKvs_perm_right o kvs₂ p' hn')

/-- **`jsonObject.Equals` does not depend on the iteration order of either map.**
    Only the looked-up map needs distinct keys. -/
theorem equals_obj_perm (o : Opts) {kvs₁ kvs₂ kvs'₁ kvs'₂ : List (String × Json)}
    (p : kvs₁.Perm kvs₂) (p' : kvs'₁.Perm kvs'₂) (hn' : (keys kvs'₁).Nodup) :
    equals o (.obj kvs₁) (.obj kvs'₁) = equals o (.obj kvs₂) (.obj kvs'₂) := by
  simp only [equals]
  rw [equalsKvs_perm_both o p p' hn', p.length_eq, p'.length_eq]

/-- against a non-object the receiver's members are not visited at all -/
theorem equals_obj_perm_left (o : Opts) {kvs₁ kvs₂ : List (String × Json)} (p : kvs₁.Perm kvs₂)
    (b : Json) (hb : ∀ kvs', b = .obj kvs' → (keys kvs').Nodup) :
    equals o (.obj kvs₁) b = equals o (.obj kvs₂) b := by
  cases b with
  | obj kvs' => exact equals_obj_perm o p (List.Perm.refl _) (hb kvs' rfl)
  | _ => simp [equals]

/-! ### 2. `readMetadata` : `for k, v := range o { switch k { case "Merge": … default: error } }` -/

/-- both the error class and the Merge flag are independent of the order of the members
    (`all` / `any` over the members; no hypothesis on the keys) -/
theorem readMetadataM_perm {kvs₁ kvs₂ : List (String × Json)} (p : kvs₁.Perm kvs₂) :
    readMetadataM (.obj kvs₁) = readMetadataM (.obj kvs₂) := by
  simp only [readMetadataM]
  rw [p.all_eq, p.any_eq]

/-! ### 3. `jsonObject.pathIdent` : `for k := range pathObject { keys = append(keys, k) }` -/

/-- the path object is used as a key SET only (no hypothesis on its keys) -/
theorem restrictKeys_congr_keys (kvs : List (String × Json)) {po₁ po₂ : List (String × Json)}
    (h : ∀ k, k ∈ keys po₁ ↔ k ∈ keys po₂) : restrictKeys kvs po₁ = restrictKeys kvs po₂ := by
  unfold restrictKeys
  apply List.filter_congr
  intro kv _
  rw [Bool.eq_iff_iff, alookup_isSome_iff, alookup_isSome_iff]
  exact h kv.1

theorem restrictKeys_perm (kvs : List (String × Json)) {po₁ po₂ : List (String × Json)}
    (p : po₁.Perm po₂) : restrictKeys kvs po₁ = restrictKeys kvs po₂ :=
  restrictKeys_congr_keys kvs (fun _ => (keys_perm p).mem_iff)

/-- **`pathIdent` does not depend on the iteration order of the path object** -/
theorem pathIdent_perm (o : Opts) (kvs : List (String × Json)) {po₁ po₂ : List (String × Json)}
    (p : po₁.Perm po₂) : pathIdent o kvs po₁ = pathIdent o kvs po₂ := by
  unfold pathIdent
  rw [restrictKeys_perm kvs p]

/-- the stated form (distinct keys are not needed) -/
theorem pathIdent_perm_nodup (o : Opts) (kvs : List (String × Json)) {po₁ po₂ : List (String × Json)}
    (p : po₁.Perm po₂) (_hn : (keys po₁).Nodup) : pathIdent o kvs po₁ = pathIdent o kvs po₂ :=
  pathIdent_perm o kvs p

/-- the restriction commutes with permuting the receiver (the new map `id` has the same members) -/
theorem restrictKeys_perm_left {kvs₁ kvs₂ : List (String × Json)} (p : kvs₁.Perm kvs₂)
    (po : List (String × Json)) : (restrictKeys kvs₁ po).Perm (restrictKeys kvs₂ po) :=
  p.filter _

/-! ### 4. `newPathSetKeys` : `for _, k := range *setKeys { key[k] = … }` -/

/-- insertions under different keys commute (no sortedness hypothesis) -/
theorem ainsert_comm {β} {k k' : String} (v v' : β) (hne : k ≠ k') (l : List (String × β)) :
    ainsert k v (ainsert k' v' l) = ainsert k' v' (ainsert k v l) := by
  induction l with
  | nil => grind [ainsert]
  | cons kv r ih => grind [ainsert]

/-- inserting the same member twice is inserting it once -/
theorem ainsert_idem {β} (k : String) (v : β) (l : List (String × β)) :
    ainsert k v (ainsert k v l) = ainsert k v l :=
  ainsert_ainsert k v v l

/-- when the value is a function of the key, any two insertions commute -/
theorem ainsert_fn_comm {β} (g : String → β) (k k' : String) (l : List (String × β)) :
    ainsert k (g k) (ainsert k' (g k') l) = ainsert k' (g k') (ainsert k (g k) l) := by
  by_cases h : k = k'
  · subst h; rfl
  · exact ainsert_comm _ _ h l

/-- **`foldl ainsert` with key-determined values is order independent** (duplicates allowed) -/
theorem foldl_ainsert_fn_perm {β} (g : String → β) {ks₁ ks₂ : List String} (p : ks₁.Perm ks₂)
    (init : List (String × β)) :
    ks₁.foldl (fun acc k => ainsert k (g k) acc) init =
      ks₂.foldl (fun acc k => ainsert k (g k) acc) init :=
  p.foldl_eq' (fun x _ y _ z => ainsert_fn_comm g y x z) init

/-- a duplicated key in the option list changes nothing -/
theorem foldl_ainsert_fn_dup {β} (g : String → β) (k : String) (ks : List String)
    (init : List (String × β)) :
    (k :: k :: ks).foldl (fun acc k => ainsert k (g k) acc) init =
      (k :: ks).foldl (fun acc k => ainsert k (g k) acc) init := by
  simp only [List.foldl_cons, ainsert_idem]

/-- the value stored under a key of the SetKeys option: `o[k]`, or `jsonNull{}` when absent -/
def keyVal (kvs : List (String × Json)) (k : String) : Json :=
  match alookup k kvs with
  | some v => v
  | none => .null

/-- the key object of `newPathSetKeys` -/
def setKeysObj (ks : List String) (kvs : List (String × Json)) : List (String × Json) :=
  ks.foldl (fun acc k => ainsert k (keyVal kvs k) acc) []

theorem setKeysObj_perm {ks₁ ks₂ : List String} (p : ks₁.Perm ks₂) (kvs : List (String × Json)) :
    setKeysObj ks₁ kvs = setKeysObj ks₂ kvs :=
  foldl_ainsert_fn_perm (keyVal kvs) p []

theorem newPathSetKeys_of_keysOf {o : Opts} {ks : List String} (h : keysOf o = some ks)
    (kvs : List (String × Json)) : newPathSetKeys o kvs = .setKeys (setKeysObj ks kvs) := by
  simp only [newPathSetKeys, h]
  rfl

/-- **`newPathSetKeys` does not depend on the order (or multiplicity pattern) in which the keys of the
    SetKeys option are inserted into the key object**: for any option lists, only the key list found
    by `getOption[setKeysOption]` matters -/
theorem newPathSetKeys_perm_opts {o₁ o₂ : Opts} {ks₁ ks₂ : List String}
    (h₁ : keysOf o₁ = some ks₁) (h₂ : keysOf o₂ = some ks₂) (p : ks₁.Perm ks₂)
    (kvs : List (String × Json)) : newPathSetKeys o₁ kvs = newPathSetKeys o₂ kvs := by
  rw [newPathSetKeys_of_keysOf h₁, newPathSetKeys_of_keysOf h₂, setKeysObj_perm p]

/-- the receiver is only looked up (with a SetKeys option; without one the receiver itself is the key
    object and is kept as it is) -/
theorem newPathSetKeys_perm_obj (o : Opts) {ks : List String} (h : keysOf o = some ks)
    {kvs₁ kvs₂ : List (String × Json)} (p : kvs₁.Perm kvs₂) (hn : (keys kvs₁).Nodup) :
    newPathSetKeys o kvs₁ = newPathSetKeys o kvs₂ := by
  rw [newPathSetKeys_of_keysOf h, newPathSetKeys_of_keysOf h]
  have : keyVal kvs₁ = keyVal kvs₂ := by
    funext k; simp only [keyVal, alookup_perm p hn k]
  simp only [setKeysObj, this]

/-- the key object is in canonical form -/
theorem keysSorted_setKeysObj (ks : List String) (kvs : List (String × Json)) :
    keysSorted (setKeysObj ks kvs) = true :=
  keysSorted_foldl_ainsert (fun k => k) _ ks rfl

/-! ### 5. canonical form: building a map member by member (`NewJsonNode`, `jsonObject.raw`, driver) -/

/-- the definition of `Jd.Wire.sortKvs` (Driver/Wire.lean) -/
def sortKvs (kvs : List (String × Json)) : List (String × Json) :=
  kvs.foldl (fun acc kv => ainsert kv.1 kv.2 acc) []

/-- **the canonical form is the same for all permutations of a list with distinct keys** -/
theorem sortKvs_perm {kvs₁ kvs₂ : List (String × Json)} (p : kvs₁.Perm kvs₂)
    (hn : (keys kvs₁).Nodup) : sortKvs kvs₁ = sortKvs kvs₂ := by
  unfold sortKvs
  refine p.foldl_eq' ?_ []
  intro x hx y hy z
  by_cases h : x.1 = y.1
  · have hxy : x = y := by
      have h1 := alookup_of_mem_nodup (k := x.1) (v := x.2) hn hx
      have h2 := alookup_of_mem_nodup (k := y.1) (v := y.2) hn hy
      rw [h] at h1
      have : x.2 = y.2 := Option.some.inj (h1.symm.trans h2)
      exact Prod.ext h this
    subst hxy; rfl
  · exact ainsert_comm _ _ (Ne.symm h) z

/-- **the canonical form has strictly increasing keys** (no hypothesis) -/
theorem keysSorted_sortKvs (kvs : List (String × Json)) : keysSorted (sortKvs kvs) = true :=
  keysSorted_foldl_ainsert Prod.fst Prod.snd kvs rfl

/-- **the canonical form has the same lookups as the input** (distinct keys) -/
theorem alookup_sortKvs {kvs : List (String × Json)} (hn : (keys kvs).Nodup) (j : String) :
    alookup j (sortKvs kvs) = alookup j kvs := by
  unfold sortKvs
  rw [alookup_foldl_ainsert Prod.fst Prod.snd (fun k => (alookup k kvs).getD .null) j kvs []
    fun x hx => by rw [alookup_of_mem_nodup hn hx]; rfl]
  cases h : alookup j kvs with
  | none => rw [if_neg ((alookup_none_iff j kvs).1 h)]; rfl
  | some v => rw [if_pos ((alookup_isSome_iff j kvs).1 (by rw [h]; rfl))]; rfl

/-- a sorted list is its own canonical form -/
theorem sortKvs_of_sorted {kvs : List (String × Json)} (h : keysSorted kvs = true) :
    sortKvs kvs = kvs :=
  kvs_ext (keysSorted_sortKvs kvs) h (alookup_sortKvs (keysSorted_nodup h))

/-- **a Go map is represented by exactly one sorted association list**: every enumeration of the members
    of the map whose sorted list is `s` is canonicalised to `s` -/
theorem sortKvs_eq_of_perm_sorted {kvs s : List (String × Json)} (p : kvs.Perm s)
    (hs : keysSorted s = true) : sortKvs kvs = s := by
  have hn : (keys kvs).Nodup := (nodup_keys_perm p).2 (keysSorted_nodup hs)
  rw [sortKvs_perm p hn, sortKvs_of_sorted hs]

/-- two sorted lists with the same members are equal -/
theorem sorted_perm_eq {s₁ s₂ : List (String × Json)} (p : s₁.Perm s₂) (h₁ : keysSorted s₁ = true)
    (h₂ : keysSorted s₂ = true) : s₁ = s₂ := by
  rw [← sortKvs_of_sorted h₁, sortKvs_eq_of_perm_sorted p h₂]

theorem perm_ainsert_of_not_mem {β} {k : String} (v : β) :
    ∀ {l : List (String × β)}, k ∉ keys l → (ainsert k v l).Perm ((k, v) :: l)
  | [], _ => by simp [ainsert]
  | (k0, v0) :: r, h => by
    simp only [keys, List.map_cons, List.mem_cons, not_or] at h
    simp only [ainsert]
    split
    · exact List.Perm.refl _
    · split
      · exact absurd ‹k = k0› h.1
      · exact ((perm_ainsert_of_not_mem v h.2).cons (k0, v0)).trans (List.Perm.swap _ _ _)

theorem perm_foldl_ainsert :
    ∀ (l init : List (String × Json)), (keys (l ++ init)).Nodup →
      (l.foldl (fun acc kv => ainsert kv.1 kv.2 acc) init).Perm (l ++ init)
  | [], _, _ => List.Perm.refl _
  | (k, v) :: r, init, hn => by
    simp only [keys, List.cons_append, List.map_cons, List.nodup_cons, List.map_append,
      List.mem_append, not_or] at hn
    obtain ⟨⟨hkr, hki⟩, hn'⟩ := hn
    have hp : (ainsert k v init).Perm ((k, v) :: init) := perm_ainsert_of_not_mem v hki
    have hn2 : (keys (r ++ ainsert k v init)).Nodup := by
      have : (r ++ ainsert k v init).Perm (r ++ (k, v) :: init) := List.Perm.append_left r hp
      rw [nodup_keys_perm this]
      have : (r ++ (k, v) :: init).Perm ((k, v) :: (r ++ init)) := List.perm_middle
      rw [nodup_keys_perm this]
      simp only [keys, List.map_cons, List.nodup_cons, List.map_append, List.mem_append, not_or]
      exact ⟨⟨hkr, hki⟩, hn'⟩
    simp only [List.foldl_cons, List.cons_append]
    exact (perm_foldl_ainsert r _ hn2).trans
      ((List.Perm.append_left r hp).trans List.perm_middle)

/-- the canonical form has the same members as the input (distinct keys) -/
theorem perm_sortKvs {kvs : List (String × Json)} (hn : (keys kvs).Nodup) :
    (sortKvs kvs).Perm kvs := by
  have := perm_foldl_ainsert kvs [] (by simpa using hn)
  simpa [sortKvs] using this

/-- merge reader: the hunks read from a merge patch object do not depend on the order in which the
    members of the patch object were produced (the keys are sorted before iterating) -/
theorem readMergeInto_sortKvs_perm {kvs₁ kvs₂ : List (String × Json)} (p : kvs₁.Perm kvs₂)
    (hn : (keys kvs₁).Nodup) (path : Path) :
    readMergeInto path (.obj (sortKvs kvs₁)) = readMergeInto path (.obj (sortKvs kvs₂)) := by
  rw [sortKvs_perm p hn]

/-- in terms of the sorted representative: whatever enumeration of the map is canonicalised, the reader
    sees the sorted list -/
theorem readMergeDoc_of_perm_sorted {kvs s : List (String × Json)} (p : kvs.Perm s)
    (hs : keysSorted s = true) : readMergeDoc (.obj (sortKvs kvs)) = readMergeDoc (.obj s) := by
  rw [sortKvs_eq_of_perm_sorted p hs]

/-! ### 6. the model on sorted representatives = any visiting order -/

/-- `Equals` computed on the sorted representatives is `Equals` computed by visiting the members in the
    given (arbitrary) order -/
theorem equals_obj_sortKvs (o : Opts) {kvs kvs' : List (String × Json)} (hn : (keys kvs).Nodup)
    (hn' : (keys kvs').Nodup) :
    equals o (.obj (sortKvs kvs)) (.obj (sortKvs kvs')) = equals o (.obj kvs) (.obj kvs') :=
  equals_obj_perm o (perm_sortKvs hn) (perm_sortKvs hn')
    (keysSorted_nodup (keysSorted_sortKvs kvs'))

theorem readMetadataM_sortKvs {kvs : List (String × Json)} (hn : (keys kvs).Nodup) :
    readMetadataM (.obj (sortKvs kvs)) = readMetadataM (.obj kvs) :=
  readMetadataM_perm (perm_sortKvs hn)

theorem pathIdent_sortKvs_path (o : Opts) (kvs : List (String × Json)) {po : List (String × Json)}
    (hn : (keys po).Nodup) : pathIdent o kvs (sortKvs po) = pathIdent o kvs po :=
  pathIdent_perm o kvs (perm_sortKvs hn)

/-- hashing canonicalises: the hash of the restricted map built from any enumeration of the receiver is
    the hash of the model's restricted list -/
theorem hashCode_obj_canonical (o : Opts) {kvs s : List (String × Json)} (p : kvs.Perm s)
    (hs : keysSorted s = true) (po : List (String × Json)) :
    hashCode o (.obj (sortKvs (restrictKeys kvs po))) = pathIdent o s po := by
  unfold pathIdent
  rw [sortKvs_eq_of_perm_sorted (restrictKeys_perm_left p po) (keysSorted_restrictKeys hs po)]

end Jd.MapOrder

#print axioms Jd.MapOrder.alookup_perm
#print axioms Jd.MapOrder.equalsKvs_perm
#print axioms Jd.MapOrder.equalsKvs_perm_right
#print axioms Jd.MapOrder.equals_obj_perm
#print axioms Jd.MapOrder.readMetadataM_perm
#print axioms Jd.MapOrder.restrictKeys_perm
#print axioms Jd.MapOrder.pathIdent_perm
#print axioms Jd.MapOrder.ainsert_comm
#print axioms Jd.MapOrder.ainsert_idem
#print axioms Jd.MapOrder.foldl_ainsert_fn_perm
#print axioms Jd.MapOrder.newPathSetKeys_perm_opts
#print axioms Jd.MapOrder.newPathSetKeys_perm_obj
#print axioms Jd.MapOrder.sortKvs_perm
#print axioms Jd.MapOrder.keysSorted_sortKvs
#print axioms Jd.MapOrder.alookup_sortKvs
#print axioms Jd.MapOrder.sortKvs_of_sorted
#print axioms Jd.MapOrder.sortKvs_eq_of_perm_sorted
#print axioms Jd.MapOrder.perm_sortKvs
#print axioms Jd.MapOrder.readMergeInto_sortKvs_perm
#print axioms Jd.MapOrder.equals_obj_sortKvs
#print axioms Jd.MapOrder.hashCode_obj_canonical
