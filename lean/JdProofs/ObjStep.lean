/-
  JdProofs.ObjStep — the strict object step of diff-then-patch, once for every patch loop.

  `ObjPatch H` is what such a loop is as far as objects are concerned: `Runs x D r` (applying the
  hunks `D` to `x` in sequence yields `r`, void standing for "no value"; what it says of `[]` and of
  `D1 ++ D2`), moving a hunk below a key (`sh`), what ONE hunk below a key does (`key_step`) and two
  leaf hunks that remove / add a value as a whole. Over it: `key_frame` (the FRAME law below a key,
  the one induction on the list of hunks), `groups` (groups of hunks below pairwise different keys
  act independently), `kvs_step` (the member hunks below their keys and a removal for every member
  the second object does not have, applied to any object that holds the members), `adds_step` (an
  addition for every member only the second object has) and `obj_step` (both, with `obj_final`: the
  first object is taken key by key to the second; `hunk_origin`: where each of these hunks comes
  from). Instances: the v2 library's `patchAll sw` (`SetDP.objPatch`), the reference interpreter
  `applyStrictAll` (`DPL.objPatch`), the v1 library's `V1.patchAll` (`V1S.objPatch`). What a library
  adds is the equation that rewrites its diff of two objects into that list of hunks.
-/
import JdProofs.Doc

namespace Jd
open Jd

/-- a strict patch loop as far as objects are concerned: hunks of type `H`, `Runs x D r` = applying
    `D` to `x` in sequence yields `r` (void = no value), hunks are moved below a key by `sh`, and two
    leaf hunks remove / add a value as a whole -/
structure ObjPatch (H : Type) where
  Runs : Json → List H → Json → Prop
  /-- the hunks the laws speak about (strict strategy) -/
  Ok : H → Prop
  sh : String → H → H
  /-- the sources whose removal hunk applies -/
  Dom : Json → Prop
  remH : Json → H
  addH : Json → H
  runs_nil : ∀ {x r}, Runs x [] r ↔ r = x
  runs_append : ∀ {x z D1 D2}, Runs x (D1 ++ D2) z ↔ ∃ y, Runs x D1 y ∧ Runs y D2 z
  ok_sh : ∀ k {h}, Ok h → Ok (sh k h)
  /-- ONE hunk below a key: a hunk that takes `x` to `v`, moved below `k`, takes an object holding
      `x` under `k` (void: nothing) to the one holding `v` there -/
  key_step : ∀ (h : H) (k : String) (cur : List (String × Json)) (x v : Json), Ok h →
    alookup k cur = Merge.toOpt x → Runs x [h] v →
    Runs (.obj cur) [sh k h] (.obj (Merge.putKvs k v cur))
  ok_rem : ∀ v, Ok (remH v)
  runs_rem : ∀ {v}, Dom v → Runs v [remH v] .void
  ok_add : ∀ v, Ok (addH v)
  runs_add : ∀ v, Runs .void [addH v] v

namespace ObjPatch
variable {H : Type} (I : ObjPatch H)

/-- FRAME below a key: hunks that take `x` to `r`, moved below `k`, take an object holding `x`
    under `k` (void: nothing) to the one holding `r` there, and leave the other keys alone -/
theorem key_frame (k : String) : ∀ (D : List H) (cur : List (String × Json)) (x r : Json),
    (∀ h ∈ D, I.Ok h) → keysSorted cur = true → alookup k cur = Merge.toOpt x → I.Runs x D r →
    ∃ cur', I.Runs (.obj cur) (D.map (I.sh k)) (.obj cur') ∧ keysSorted cur' = true ∧
      (∀ k0, k0 ≠ k → alookup k0 cur' = alookup k0 cur) ∧ alookup k cur' = Merge.toOpt r
  | [], cur, x, r, _, hs, hx, hr => by
    rw [I.runs_nil.1 hr]; exact ⟨cur, I.runs_nil.2 rfl, hs, fun _ _ => rfl, hx⟩
  | h :: D, cur, x, r, hD, hs, hx, hr => by
    obtain ⟨v, hv, hr⟩ := (I.runs_append (D1 := [h])).1 hr
    obtain ⟨cur', h1, h2, h3, h4⟩ := key_frame k D (Merge.putKvs k v cur) v r
      (fun h' hh' => hD h' (List.mem_cons_of_mem _ hh')) (Merge.keysSorted_putKvs k v hs)
      (Merge.alookup_putKvs_self k v hs) hr
    exact ⟨cur', (I.runs_append (D1 := [I.sh k h])).2
      ⟨_, I.key_step h k cur x v (hD h List.mem_cons_self) hx hv, h1⟩, h2,
      fun k0 hne => by rw [h3 k0 hne, Merge.alookup_putKvs_ne _ _ hne], h4⟩

/-- the hunks below one key: the key, the member they are applied to (void: none), the hunks
    relative to the member, what they make of it -/
structure Group (H : Type) where
  k : String
  x : Json
  D : List H
  r : Json

def hunks (gs : List (Group H)) : List H := gs.flatMap fun g => g.D.map (I.sh g.k)

/-- **groups of hunks below pairwise different keys act independently** -/
theorem groups : ∀ (gs : List (Group H)) (cur : List (String × Json)),
    keysSorted cur = true → (gs.map (·.k)).Nodup →
    (∀ g ∈ gs, (∀ h ∈ g.D, I.Ok h) ∧
      alookup g.k cur = (if g.x.isVoid then none else some g.x) ∧ I.Runs g.x g.D g.r) →
    ∃ cur', I.Runs (.obj cur) (I.hunks gs) (.obj cur') ∧ keysSorted cur' = true ∧
      (∀ k0, (∀ g ∈ gs, g.k ≠ k0) → alookup k0 cur' = alookup k0 cur) ∧
      ∀ g ∈ gs, alookup g.k cur' = (if g.r.isVoid then none else some g.r)
  | [], cur, hs, _, _ => ⟨cur, I.runs_nil.2 rfl, hs, fun _ _ => rfl, nofun⟩
  | g :: gs, cur, hs, hnd, hg => by
    simp only [List.map_cons, List.nodup_cons] at hnd
    obtain ⟨hD, hx, hr⟩ := hg g List.mem_cons_self
    obtain ⟨cur1, h1, h2, h3, h4⟩ := I.key_frame g.k g.D cur g.x g.r hD hs hx hr
    have hne : ∀ g' ∈ gs, g'.k ≠ g.k := fun g' hg' e =>
      hnd.1 (e ▸ List.mem_map_of_mem (f := (·.k)) hg')
    obtain ⟨cur', e1, e2, e3, e4⟩ := groups gs cur1 h2 hnd.2 fun g' hg' =>
      ⟨(hg g' (List.mem_cons_of_mem _ hg')).1,
        by rw [h3 _ (hne g' hg')]; exact (hg g' (List.mem_cons_of_mem _ hg')).2.1,
        (hg g' (List.mem_cons_of_mem _ hg')).2.2⟩
    refine ⟨cur', ?_, e2, fun k0 hk0 => ?_, fun g' hg' => ?_⟩
    · rw [hunks, List.flatMap_cons]; exact I.runs_append.2 ⟨_, h1, e1⟩
    · rw [e3 k0 fun g' hg' => hk0 g' (List.mem_cons_of_mem _ hg'),
        h3 k0 (hk0 g List.mem_cons_self).symm]
    · rcases List.mem_cons.1 hg' with rfl | hg'
      · rw [e3 _ fun g'' hg'' => hne g'' hg'', h4]; rfl
      · exact e4 g' hg'

/-- **the members of the first object**, applied to any sorted `cur` that holds them: when every
    common member has hunks (satisfying `Q`) that take it to something `R`-related to its partner,
    the member hunks below their keys and a removal for every member the second object does not
    have leave the other keys of `cur` alone and make of every member what its hunks make of it -/
theorem kvs_step {kvs kvs' : List (String × Json)} (hsa : keysSorted kvs = true)
    (hva : ∀ k v, (k, v) ∈ kvs → I.Dom v ∧ v.isVoid = false)
    (hvb : ∀ k v', (k, v') ∈ kvs' → v'.isVoid = false)
    (R : Json → Json → Prop) (hR : ∀ z v', R z v' → z.isVoid = v'.isVoid)
    (Q : String → Json → Json → List H → Prop)
    (ih : ∀ k v v', (k, v) ∈ kvs → alookup k kvs' = some v' →
      ∃ D z, Q k v v' D ∧ (∀ h ∈ D, I.Ok h) ∧ I.Runs v D z ∧ R z v')
    (cur : List (String × Json)) (hs : keysSorted cur = true)
    (hcur : ∀ k v, (k, v) ∈ kvs → alookup k cur = some v) :
    ∃ (M : String × Json → List H) (cur' : List (String × Json)),
      (∀ k v, (k, v) ∈ kvs → match alookup k kvs' with
        | some v' => Q k v v' (M (k, v))
        | none => M (k, v) = [I.remH v]) ∧
      I.Runs (.obj cur) (kvs.flatMap fun kv => (M kv).map (I.sh kv.1)) (.obj cur') ∧
      (∀ kv ∈ kvs, ∀ h ∈ M kv, I.Ok h) ∧ keysSorted cur' = true ∧
      (∀ k0, (∀ v, (k0, v) ∉ kvs) → alookup k0 cur' = alookup k0 cur) ∧
      ∀ k v, (k, v) ∈ kvs → match alookup k kvs' with
        | none => alookup k cur' = none
        | some v' => ∃ z, alookup k cur' = some z ∧ R z v' := by
  -- the group of a member: it goes, or becomes the member of the second object
  have hex : ∀ kv : String × Json, ∃ g : Group H, kv ∈ kvs →
      g.k = kv.1 ∧ g.x = kv.2 ∧ (∀ h ∈ g.D, I.Ok h) ∧ I.Runs kv.2 g.D g.r ∧
      (match alookup kv.1 kvs' with
        | none => g.D = [I.remH kv.2] ∧ g.r = .void
        | some v' => Q kv.1 kv.2 v' g.D ∧ R g.r v') := by
    intro kv
    by_cases hm : kv ∈ kvs
    · obtain ⟨k, v⟩ := kv
      cases hl : alookup k kvs' with
      | some v' =>
        obtain ⟨D, z, d0, d2, d3, d4⟩ := ih k v v' hm hl
        exact ⟨⟨k, v, D, z⟩, fun _ => ⟨rfl, rfl, d2, d3, d0, d4⟩⟩
      | none =>
        exact ⟨⟨k, v, [I.remH v], .void⟩, fun _ => ⟨rfl, rfl,
          fun h hh => by rw [List.mem_singleton.1 hh]; exact I.ok_rem v,
          I.runs_rem (hva k v hm).1, rfl, rfl⟩⟩
    · exact ⟨⟨"", .void, [], .void⟩, fun h => absurd h hm⟩
  obtain ⟨G, hG⟩ := Classical.axiomOfChoice hex
  have hnd : ((kvs.map G).map (·.k)).Nodup := by
    have e : (kvs.map G).map (·.k) = kvs.map Prod.fst := by
      rw [List.map_map]; exact List.map_congr_left fun kv hkv => (hG kv hkv).1
    rw [e]; exact keysSorted_nodup hsa
  obtain ⟨cur', c1, c2, c3, c4⟩ := I.groups (kvs.map G) cur hs hnd fun g hg => by
    obtain ⟨kv, hkv, rfl⟩ := List.mem_map.1 hg
    obtain ⟨g1, g2, g3, g4, _⟩ := hG kv hkv
    refine ⟨g3, ?_, g2 ▸ g4⟩
    rw [g1, g2, hcur kv.1 kv.2 hkv, (hva _ _ hkv).2]
    rfl
  refine ⟨fun kv => (G kv).D, cur', fun k v hm => ?_, ?_, fun kv hkv => (hG kv hkv).2.2.1, c2,
    fun k0 hk0 => c3 k0 fun g hg e => ?_, fun k v hm => ?_⟩
  · have := (hG (k, v) hm).2.2.2.2
    cases hl : alookup k kvs' with
    | none => simp only [hl] at this ⊢; exact this.1
    | some v' => simp only [hl] at this ⊢; exact this.1
  · have e : I.hunks (kvs.map G) = kvs.flatMap fun kv => (G kv).D.map (I.sh kv.1) := by
      rw [hunks, List.flatMap_map, List.flatMap_def, List.flatMap_def]
      exact congrArg List.flatten (List.map_congr_left fun kv hkv => by rw [(hG kv hkv).1])
    rw [← e]; exact c1
  · obtain ⟨kv, hkv, rfl⟩ := List.mem_map.1 hg
    rw [(hG kv hkv).1] at e
    exact hk0 kv.2 (e ▸ hkv)
  · obtain ⟨g1, _, _, _, g6⟩ := hG (k, v) hm
    have hc := c4 (G (k, v)) (List.mem_map_of_mem hm)
    rw [g1] at hc
    cases hlk' : alookup k kvs' with
    | none =>
      simp only [hlk'] at g6 ⊢
      rw [hc, g6.2]; rfl
    | some v' =>
      simp only [hlk'] at g6 ⊢
      have hnv : (G (k, v)).r.isVoid = false := by
        rw [hR _ _ g6.2]; exact hvb _ _ (mem_of_alookup hlk')
      exact ⟨_, by rw [hc, hnv]; rfl, g6.2⟩

/-- **the members only the second object has**: one addition below each of their keys -/
theorem adds_step (kvs : List (String × Json)) {kvs' : List (String × Json)}
    (hsb : keysSorted kvs' = true) (hvb : ∀ k v', (k, v') ∈ kvs' → v'.isVoid = false)
    (cur1 : List (String × Json)) (hs1 : keysSorted cur1 = true)
    (hnone : ∀ k v', (k, v') ∈ kvs' → alookup k kvs = none → alookup k cur1 = none) :
    ∃ cur2, I.Runs (.obj cur1)
        ((kvs'.filter (fun kv => (alookup kv.1 kvs).isNone)).map fun kv => I.sh kv.1 (I.addH kv.2))
        (.obj cur2) ∧ keysSorted cur2 = true ∧
      (∀ k0, (∀ v', (k0, v') ∈ kvs' → (alookup k0 kvs).isNone = false) →
        alookup k0 cur2 = alookup k0 cur1) ∧
      ∀ k v', (k, v') ∈ kvs' → (alookup k kvs).isNone = true → alookup k cur2 = some v' := by
  let addG : String × Json → Group H := fun kv => ⟨kv.1, .void, [I.addH kv.2], kv.2⟩
  have hA : ∀ kv, kv ∈ kvs'.filter (fun kv => (alookup kv.1 kvs).isNone) ↔
      kv ∈ kvs' ∧ alookup kv.1 kvs = none := fun kv => by
    rw [List.mem_filter, Option.isNone_iff_eq_none]
  generalize hAdef : kvs'.filter (fun kv => (alookup kv.1 kvs).isNone) = A at hA
  have hnd : ((A.map addG).map (·.k)).Nodup := by
    rw [List.map_map, ← hAdef]
    exact (List.filter_sublist.map _).nodup (keysSorted_nodup hsb)
  obtain ⟨cur2, c1, c2, c3, c4⟩ := I.groups (A.map addG) cur1 hs1 hnd fun g hg => by
    obtain ⟨kv, hkv, rfl⟩ := List.mem_map.1 hg
    exact ⟨fun h hh => by rw [List.mem_singleton.1 hh]; exact I.ok_add _,
      hnone kv.1 kv.2 ((hA kv).1 hkv).1 ((hA kv).1 hkv).2, I.runs_add kv.2⟩
  refine ⟨cur2, ?_, c2, fun k0 hk0 => c3 k0 fun g hg e => ?_, fun k v' hm hn => ?_⟩
  · have e : I.hunks (A.map addG) = A.map fun kv => I.sh kv.1 (I.addH kv.2) := by
      rw [hunks, List.flatMap_map, List.map_eq_flatMap]; rfl
    rw [← e]; exact c1
  · obtain ⟨kv, hkv, rfl⟩ := List.mem_map.1 hg
    have e' : kv.1 = k0 := e
    have := hk0 kv.2 (e' ▸ ((hA kv).1 hkv).1)
    rw [← e', ((hA kv).1 hkv).2] at this
    cases this
  · have hc := c4 (addG (k, v')) (List.mem_map_of_mem
      ((hA (k, v')).2 ⟨hm, Option.isNone_iff_eq_none.1 hn⟩))
    rw [show (addG (k, v')).k = k from rfl] at hc
    rw [hc]; simp [addG, hvb _ _ hm]

/-- the members after both parts: `cur1` is the first object `kvs` after the member hunks, `cur2`
    after the additions; key by key `cur2` holds something `R`-related to what `kvs'` holds -/
theorem obj_final {R : Json → Json → Prop} {kvs kvs' cur1 cur2 : List (String × Json)}
    (hsa : keysSorted kvs = true) (hsb : keysSorted kvs' = true)
    (hother1 : ∀ k0, (∀ v, (k0, v) ∉ kvs) → alookup k0 cur1 = alookup k0 kvs)
    (hmem1 : ∀ k v, (k, v) ∈ kvs → match alookup k kvs' with
      | none => alookup k cur1 = none
      | some v' => ∃ z, alookup k cur1 = some z ∧ R z v')
    (hother2 : ∀ k0, (∀ v', (k0, v') ∈ kvs' → (alookup k0 kvs).isNone = false) →
      alookup k0 cur2 = alookup k0 cur1)
    (hmem2 : ∀ k v', (k, v') ∈ kvs' → (alookup k kvs).isNone = true → alookup k cur2 = some v')
    (hrefl : ∀ k v', (k, v') ∈ kvs' → R v' v') :
    ∀ k, match alookup k kvs' with
      | none => alookup k cur2 = none
      | some v' => ∃ z, alookup k cur2 = some z ∧ R z v' := by
  intro k
  cases hlk' : alookup k kvs' with
  | some v' =>
    simp only []
    have hm' := mem_of_alookup hlk'
    cases hlk : alookup k kvs with
    | none => exact ⟨v', hmem2 k v' hm' (by simp [hlk]), hrefl k v' hm'⟩
    | some v =>
      have := hmem1 k v (mem_of_alookup hlk)
      rw [hlk'] at this
      obtain ⟨z, hz, hr⟩ := this
      refine ⟨z, ?_, hr⟩
      rw [hother2 k (fun _ _ => by simp [hlk]), hz]
  | none =>
    simp only []
    rw [hother2 k (fun v' hm => by rw [alookup_of_mem hsb hm] at hlk'; cases hlk')]
    cases hlk : alookup k kvs with
    | none =>
      rw [hother1 k (fun v hm => by rw [alookup_of_mem hsa hm] at hlk; cases hlk), hlk]
    | some v =>
      have := hmem1 k v (mem_of_alookup hlk)
      rw [hlk'] at this
      exact this

/-- **two objects**: the member hunks below their keys, a removal for every member only the first
    object has and an addition for every member only the second has take the first object to one
    that holds key by key something `R`-related to what the second holds -/
theorem obj_step {kvs kvs' : List (String × Json)} (hsa : keysSorted kvs = true)
    (hsb : keysSorted kvs' = true)
    (hva : ∀ k v, (k, v) ∈ kvs → I.Dom v ∧ v.isVoid = false)
    (hvb : ∀ k v', (k, v') ∈ kvs' → v'.isVoid = false)
    (R : Json → Json → Prop) (hR : ∀ z v', R z v' → z.isVoid = v'.isVoid)
    (hrefl : ∀ k v', (k, v') ∈ kvs' → R v' v')
    (Q : String → Json → Json → List H → Prop)
    (ih : ∀ k v v', (k, v) ∈ kvs → alookup k kvs' = some v' →
      ∃ D z, Q k v v' D ∧ (∀ h ∈ D, I.Ok h) ∧ I.Runs v D z ∧ R z v') :
    ∃ (M : String × Json → List H) (cur : List (String × Json)),
      (∀ k v, (k, v) ∈ kvs → match alookup k kvs' with
        | some v' => Q k v v' (M (k, v))
        | none => M (k, v) = [I.remH v]) ∧
      I.Runs (.obj kvs)
        (kvs.flatMap (fun kv => (M kv).map (I.sh kv.1)) ++
          (kvs'.filter (fun kv => (alookup kv.1 kvs).isNone)).map (fun kv => I.sh kv.1 (I.addH kv.2)))
        (.obj cur) ∧
      (∀ kv ∈ kvs, ∀ h ∈ M kv, I.Ok h) ∧ keysSorted cur = true ∧
      ∀ k, match alookup k kvs' with
        | none => alookup k cur = none
        | some v' => ∃ z, alookup k cur = some z ∧ R z v' := by
  obtain ⟨M, cur1, hM, h1, hok, hs1, hother1, hmem1⟩ := I.kvs_step hsa hva hvb R hR Q ih kvs hsa
    fun k v hm => alookup_of_mem hsa hm
  obtain ⟨cur2, h2, hs2, hother2, hmem2⟩ := I.adds_step kvs hsb hvb cur1 hs1 fun k v' _ hn => by
    have hk : ∀ v, (k, v) ∉ kvs := fun v hm => by rw [alookup_of_mem hsa hm] at hn; cases hn
    rw [hother1 k hk, hn]
  exact ⟨M, cur2, hM, I.runs_append.2 ⟨_, h1, h2⟩, hok, hs2,
    obj_final hsa hsb hother1 hmem1 hother2 hmem2 hrefl⟩

/-- where the hunks of `obj_step` come from: out of the group of a member of the first object, below
    its key, or the addition below a key only the second object has -/
theorem hunk_origin {kvs kvs' : List (String × Json)} (hsb : keysSorted kvs' = true)
    (M : String × Json → List H) {h : H}
    (hh : h ∈ kvs.flatMap (fun kv => (M kv).map (I.sh kv.1)) ++
      (kvs'.filter (fun kv => (alookup kv.1 kvs).isNone)).map (fun kv => I.sh kv.1 (I.addH kv.2))) :
    ∃ k h0, h = I.sh k h0 ∧ ((∃ v, (k, v) ∈ kvs ∧ h0 ∈ M (k, v)) ∨
      (∃ v', h0 = I.addH v' ∧ alookup k kvs = none ∧ (alookup k kvs').isSome = true)) := by
  rcases List.mem_append.1 hh with hh | hh
  · obtain ⟨kv, hkv, hh⟩ := List.mem_flatMap.1 hh
    obtain ⟨h0, hh0, rfl⟩ := List.mem_map.1 hh
    exact ⟨kv.1, h0, rfl, .inl ⟨kv.2, hkv, hh0⟩⟩
  · obtain ⟨kv, hkv, rfl⟩ := List.mem_map.1 hh
    obtain ⟨h1, h2⟩ := List.mem_filter.1 hkv
    exact ⟨kv.1, _, rfl, .inr ⟨kv.2, rfl, Option.isNone_iff_eq_none.1 h2,
      by rw [alookup_of_mem hsb h1]; rfl⟩⟩

end ObjPatch
end Jd
