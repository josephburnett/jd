/-
  JdProofs.CliRoundTripModes (namespace `Jd.CliRTM`; continued in JdProofs.CliRoundTripModesPatch,
  non-vacuity and a witness in JdProofs.CliRoundTripModesEx) — property C14, last sentence: "Feeding
  the output of `jd [flags] a b` to `jd -p [flags]` on a reproduces b, in jd, patch and merge formats,
  for JSON and YAML."

  JdProofs.CliRoundTrip proves the CLI-level theorem relative to the library round trip
  (`CliRT.LibRoundTrip`) and, end to end, the native format in the list reading.  Here the three
  library calls of the round trip (`CliRT.Calls`) are shown to succeed, for the model of the v2 library
  `CliRT.nativeLib nc Y` (about the YAML carrier `Y` nothing is assumed), for
     §2  the native format with `-set` / `-mset` (strict strategy)        — from `Jd.E2ES`,
     §3  the native format with `-setkeys k1,k2` (with or without `-set`)  — from `Jd.E2EK`,
     §4  `-f merge` (RFC 7386 text), list reading                           — `merge_lib_round_trip`,
     (CliRoundTripModesPatch)  `-f patch` (RFC 6902 text), list reading    — `patch_lib_round_trip`,
  from which both the `LibRoundTrip` instances (`libRoundTrip_*`, by `Calls.libRoundTrip`) and the
  end-to-end CLI statements (`native_cli_round_trip_setmodes`, `native_cli_round_trip_setkeys`,
  `merge_cli_round_trip`, `patch_cli_round_trip`, by `Session.twoRuns`) follow.  All are total:
  the first process is proved not to fail.  The hypotheses of `CliRT.native_cli_round_trip` on flags,
  inputs and the OS are the situation `S : CliRT.Session …`; they conclude the library facts together
  with `TwoRuns P1 P2 fl fl2 T code out`: the first process emits `T` with exit status `code`
  (`firstExit`), the second exits 0 and emits exactly `Json(options…)` / `Yaml(options…)` of `r`.

  §0  `splitKeys_ne_nil`: the key list `parseMetadata` builds from a `-setkeys` value is never empty,
      so the hypothesis `ks ≠ []` of `Jd.E2EK` (needed at library level:
      `E2EK.EmptyKeys.emptyKeys_witness`) always holds on the command line.
  §4  `merge_lib_round_trip` composes `Merge.renderMergeDoc_diffM`, `Merge.sound`, `V1M.pdoc_clean`
      (the rendered document is `Clean` for `a`: a statement about the pure functions `Merge.dl []` /
      `V1M.pdoc`, shared by both libraries), `V1T.tok_pdoc`, `JText.readMergeM_renderMergeM` (text
      layer), `Merge.merge_read_apply_partial` (C12) and `V1T.clean_untag` / `mergePatch_untag_right`
      (the text loses the `jsonList` tags).  An empty diff renders to `{}`, which reads back as the
      empty diff: covered, with no condition on `a`.  Any `-color` (not used by `RenderMerge`).
  §5  counter-witnesses for `-f merge` (every codec, with or without `-color`):
      `merge_emptyobj_no_libRoundTrip` — `mergeRTDom a b' = a.isObj || !isEmptyObj b'` is NEEDED: for
        every non-object `a` and `b = {}` the text is that of `{}`, `ReadMergeString` reads the empty
        diff, `Patch` returns `a` (known finding KF-C12-emptyobj, class (a) of `Merge.Clean`);
      `merge_null_no_libRoundTrip` — `b.nullFree` is NEEDED: `{}` → `{"k":null}` (a `null` in the
        text means "delete"; the domain of RFC 7386).
      KF-C12 rootnull does not arise: `b` is null-free and not void, so the rendered document is never
      `null` (`Merge.sound`); class (b) of `Merge.Clean` never arises from own output (`V1M.pdoc_clean`).

  HYPOTHESES
   * The document hypotheses of §2 / §3 are exactly those of the `Jd.E2ES` / `Jd.E2EK` theorems; their
     necessity is documented there (`E2ES.Witness.void_element_witness_set`, KF-C04 for
     `HashFaithful`, `E2EK.KeysHypNeeded.*`, `E2EK.VoidWitness.*`).
   * `fl.color = false` (§2, §3): NEEDED — `CliRT.ColorWitness` (list reading) and
     `Ex.ColorSet.color_no_libRoundTrip_set` (the same pair under `[SET, Precision 0]`).
   * `fl.precision = 0` (§2, §3, §4): the library theorems composed here carry `precOf o = 0`.
       §2: `main` refuses a non-zero `-precision` with `-set` / `-mset`, so the only command line
           excluded is `-precision=-0` (accepted by `precNonZero`); presumably true for it, but it
           needs a float law that `FloatLaws` does not contain — not decided.
       §3: `-setkeys` alone admits any `-precision`; whether `precOf o = 0` is necessary was not
           decided in `Jd.E2EK` either.
       §4: JdProofs.MergePrecision proves the in-memory and RFC 7386 statements for `eps ≥ 0`; the
           read-back (`Clean`-ness, proved for `Merge.dl []` only) is not lifted to a precision.
   * `Yaml.voidFree b'`, `JText.NumOK nc b'` (§4): the text layer (void is not a JSON value; the
     number codec `strconv` is a parameter of the model — `JText.numOK_int` proves it for integers).
   * `libIsV1 b fl = false`: the v1 library is JdProofs.CliRoundTripV1.

  NOT PROVED: `-f merge` / `-f patch` with `-setkeys` (with `-set` / `-mset`:
  JdProofs.CliRoundTripMergeSet); a non-zero precision outside `-f patch`; YAML beyond "whatever
  `Y.read` returns" (the document hypotheses are on what the reader returned, so they apply to YAML
  input as well).
-/
import JdModel
import JdSpec
import JdProofs.CliProofs
import JdProofs.CliRoundTrip
import JdProofs.NativeEndToEndSet
import JdProofs.NativeEndToEndKeys
import JdProofs.JsonTextRoundTrip
import JdProofs.V1JsonText
import JdProofs.PatchOwnOutput
import JdProofs.SplitOn

set_option linter.unusedVariables false
set_option autoImplicit false

namespace Jd.CliRTM
open Jd Jd.Spec Jd.Cli Jd.CliRT

/-! ## 0. `strings.Split(*setkeys, ",")`: the key list is never empty -/

theorem mapM_except_length {α β ε} (f : α → Except ε β) : ∀ (l : List α) (r : List β),
    l.mapM f = .ok r → r.length = l.length
  | [], r, h => by simp [List.mapM_nil, pure, Except.pure] at h; subst h; rfl
  | x :: l, r, h => by
    rw [List.mapM_cons] at h
    cases hx : f x with
    | error e => rw [hx] at h; cases h
    | ok y =>
      rw [hx] at h
      cases hl : l.mapM f with
      | error e => rw [hl] at h; cases h
      | ok r' =>
        rw [hl] at h
        have : r = y :: r' := by cases h; rfl
        subst this
        simp [mapM_except_length f l r' hl]

/-- the key list `parseMetadata` builds from a `-setkeys` value is never empty -/
theorem splitKeys_ne_nil {s : String} {ks : List String} (h : splitKeys s = .ok ks) : ks ≠ [] := by
  unfold splitKeys at h
  have := mapM_except_length _ _ _ h
  rw [splitOn_comma, List.length_map] at this
  intro hk
  subst hk
  have hne := List.splitOnP_ne_nil (· == ',') s.toList
  cases hs : List.splitOnP (· == ',') s.toList with
  | nil => exact hne hs
  | cons a b => rw [hs] at this; simp at this

/-! ## 2. `-set`, `-mset` (strict strategy, native format) -/

/-- the option list `parseMetadata` builds for `jd -set` / `jd -mset` / `jd -set -mset` in the
    native format: `[SET]`, `[MULTISET]` or `[SET, MULTISET]` followed by the Precision option -/
def modeOpts (fl : Flags) : List Opt :=
  (if fl.set then [Opt.set] else []) ++ (if fl.mset then [Opt.mset] else []) ++
    [Opt.prec fl.precision]

theorem parsedOptions_setmodes (b : Binary) {fl : Flags} (hkeys : fl.setkeys = "")
    (hprec : fl.precision = 0) (hfmt : formatOf fl.f = some .jd) :
    parsedOptions b fl = .ok (modeOpts fl) := by
  rw [parsedOptions_same]
  simp [optionsOf, modeOpts, hkeys, hprec, not_merge_of_jd hfmt, precNonZero]

theorem modeOpts_facts {fl : Flags} (hsm : fl.set = true ∨ fl.mset = true)
    (hprec : fl.precision = 0) :
    (dispatchTag (modeOpts fl) = .set ∨ dispatchTag (modeOpts fl) = .mset) ∧
    keysOf (modeOpts fl) = none ∧ isMerge (modeOpts fl) = false ∧ precOf (modeOpts fl) = 0 := by
  unfold modeOpts
  rw [hprec]
  cases hs : fl.set <;> cases hms : fl.mset <;> simp_all [dispatchTag, keysOf, isMerge, precOf]

/-- **`LibRoundTrip` for `-set` / `-mset`**, from `E2ES.diff_print_read_patch_set` -/
theorem libRoundTrip_setmodes (F : FloatEq0) (FL : FloatLaws) (nc : NumCodec) (Y : YamlCarrier)
    {fl : Flags} (hsm : fl.set = true ∨ fl.mset = true) (hprec : fl.precision = 0) (a b : Json)
    (ha : a.setDoc = true) (hb : b.setDoc = true)
    (hva : E2E.voidFree a = true) (hvb : E2E.voidFree b = true)
    (HF : HashFaithful (modeOpts fl) (subterms a ++ subterms b))
    (hv : ∀ z ∈ subterms a ++ subterms b, (marshalNode nc z).isSome = true ∧ NativeRT.ValOK nc z)
    (hp : ∀ h ∈ diffM (modeOpts fl) a b,
      (jsonM nc (pathToJson h.path)).isSome = true ∧ NativeRT.PathOK nc h.path) :
    LibRoundTrip (nativeLib nc Y) .jd false (modeOpts fl) a b
      (fun r => equals (modeOpts fl) r b = true ∧ equivB (modeOpts fl) r b = true) := by
  obtain ⟨m1, m2, m3, m4⟩ := modeOpts_facts hsm hprec
  obtain ⟨text, d', r, g1, g2, g3, g4, g5⟩ :=
    E2ES.diff_print_read_patch_set F FL nc (modeOpts fl) m1 m2 m3 m4 a b ha hb hva hvb HF hv hp
  exact (nativeLib_calls nc Y (fmt := .jd) (color := false) (congrArg Outcome.ok g1) g2 g3).libRoundTrip
    ⟨g5, g4⟩

/-- **END TO END, native format, `-set` / `-mset`, v2 library** (`native_cli_round_trip_setmodes`):
    the statement of `CliRT.native_cli_round_trip` for the SET / MULTISET readings; no library
    hypothesis left — the library round trip is `E2ES.diff_print_read_patch_set`. -/
theorem native_cli_round_trip_setmodes (F : FloatEq0) (FL : FloatLaws) {nc : NumCodec}
    {Y : YamlCarrier} {Ls : Bool → LibPack} {b : Binary} {fl fl2 : Flags} {e1 e2 : Env} {a b' : Json}
    (S : Session (nativeLib nc Y) Ls b fl fl2 e1 e2 a b')
    (hsm : fl.set = true ∨ fl.mset = true) (hkeys : fl.setkeys = "") (hprec : fl.precision = 0)
    (hfmt : formatOf fl.f = some .jd) (hcolor : fl.color = false)
    (ha : a.setDoc = true) (hb : b'.setDoc = true)
    (hva : E2E.voidFree a = true) (hvb : E2E.voidFree b' = true)
    (HF : HashFaithful (modeOpts fl) (subterms a ++ subterms b'))
    (hv : ∀ z ∈ subterms a ++ subterms b', (marshalNode nc z).isSome = true ∧ NativeRT.ValOK nc z)
    (hp : ∀ h ∈ diffM (modeOpts fl) a b',
      (jsonM nc (pathToJson h.path)).isSome = true ∧ NativeRT.PathOK nc h.path) :
    ∃ T d' r,
      parsedOptions b fl = .ok (modeOpts fl) ∧
      renderM nc [] (diffM (modeOpts fl) a b') = some T ∧
      readDiffM nc T = .ok d' ∧ patchM a d' = .ok r ∧
      equivB (modeOpts fl) r b' = true ∧ equals (modeOpts fl) r b' = true ∧
      TwoRuns (proc Ls b fl e1) (proc Ls b fl2 e2) fl fl2 T (if T = "" then 0 else 1)
        ((nativeLib nc Y).renderDoc fl.yaml (modeOpts fl) r) := by
  have ho := parsedOptions_setmodes b hkeys hprec hfmt
  obtain ⟨m1, m2, m3, m4⟩ := modeOpts_facts hsm hprec
  obtain ⟨text, d', r, g1, g2, g3, g4, g5⟩ :=
    E2ES.diff_print_read_patch_set F FL nc (modeOpts fl) m1 m2 m3 m4 a b' ha hb hva hvb HF hv hp
  refine ⟨text, d', r, ho, g1, g2, g3, g4, g5, ?_⟩
  exact S.twoRuns ho hfmt (nativeLib_calls nc Y (by rw [hcolor]; exact congrArg Outcome.ok g1) g2 g3)

/-! ## 3. `-setkeys k1,k2` (strict strategy, native format) -/

/-- the option list for `jd -setkeys …` (with or without `-set`) in the native format -/
def keysOpts (fl : Flags) (ks : List String) : List Opt :=
  (if fl.set then [Opt.set] else []) ++ [Opt.setKeys ks, Opt.prec fl.precision]

theorem parsedOptions_setkeys (b : Binary) {fl : Flags} {ks : List String}
    (hkeys : fl.setkeys ≠ "") (hks : splitKeys fl.setkeys = .ok ks) (hmset : fl.mset = false)
    (hprec : fl.precision = 0) (hfmt : formatOf fl.f = some .jd) :
    parsedOptions b fl = .ok (keysOpts fl ks) := by
  rw [parsedOptions_same]
  simp [optionsOf, keysOpts, hkeys, hks, hmset, hprec, not_merge_of_jd hfmt, precNonZero,
    Except.map]

theorem keysOpts_facts (fl : Flags) (ks : List String) (hprec : fl.precision = 0) :
    dispatchTag (keysOpts fl ks) = .set ∧ keysOf (keysOpts fl ks) = some ks ∧
    isMerge (keysOpts fl ks) = false ∧ precOf (keysOpts fl ks) = 0 := by
  unfold keysOpts
  rw [hprec]
  cases hs : fl.set <;> simp [dispatchTag, keysOf, isMerge, precOf]

/-- **`LibRoundTrip` for `-setkeys`**, from `E2EK.diff_print_read_patch_setkeys` -/
theorem libRoundTrip_setkeys (F : FloatEq0) (FL : FloatLaws) (nc : NumCodec) (Y : YamlCarrier)
    {fl : Flags} (ks : List String) (hks : ks ≠ []) (hprec : fl.precision = 0) (a b : Json)
    (ha : a.setDoc = true) (hb : b.setDoc = true)
    (hva : E2E.voidFree a = true) (hvb : E2E.voidFree b = true)
    (KH : DPK.KeysHyp (keysOpts fl ks) ks a b)
    (hv : ∀ z ∈ subterms a ++ subterms b, (marshalNode nc z).isSome = true ∧ NativeRT.ValOK nc z)
    (hp : ∀ h ∈ diffM (keysOpts fl ks) a b,
      (jsonM nc (pathToJson h.path)).isSome = true ∧ NativeRT.PathOK nc h.path) :
    LibRoundTrip (nativeLib nc Y) .jd false (keysOpts fl ks) a b
      (fun r => equals (keysOpts fl ks) r b = true ∧ equivB (keysOpts fl ks) r b = true) := by
  obtain ⟨m1, m2, m3, m4⟩ := keysOpts_facts fl ks hprec
  obtain ⟨text, d', r, g1, g2, g3, g4⟩ := E2EK.diff_print_read_patch_setkeys F FL nc (keysOpts fl ks)
    ks m1 m2 m3 m4 hks a b ha hb hva hvb KH hv hp
  exact (nativeLib_calls nc Y (fmt := .jd) (color := false) (congrArg Outcome.ok g1) g2 g3).libRoundTrip g4

/-- **END TO END, native format, `-setkeys`, v2 library** (`native_cli_round_trip_setkeys`) -/
theorem native_cli_round_trip_setkeys (F : FloatEq0) (FL : FloatLaws) {nc : NumCodec}
    {Y : YamlCarrier} {Ls : Bool → LibPack} {b : Binary} {fl fl2 : Flags} {e1 e2 : Env} {a b' : Json}
    (S : Session (nativeLib nc Y) Ls b fl fl2 e1 e2 a b')
    {ks : List String} (hkeys : fl.setkeys ≠ "") (hsk : splitKeys fl.setkeys = .ok ks)
    (hmset : fl.mset = false) (hprec : fl.precision = 0)
    (hfmt : formatOf fl.f = some .jd) (hcolor : fl.color = false)
    (ha : a.setDoc = true) (hb : b'.setDoc = true)
    (hva : E2E.voidFree a = true) (hvb : E2E.voidFree b' = true)
    (KH : DPK.KeysHyp (keysOpts fl ks) ks a b')
    (hv : ∀ z ∈ subterms a ++ subterms b', (marshalNode nc z).isSome = true ∧ NativeRT.ValOK nc z)
    (hp : ∀ h ∈ diffM (keysOpts fl ks) a b',
      (jsonM nc (pathToJson h.path)).isSome = true ∧ NativeRT.PathOK nc h.path) :
    ∃ T d' r,
      parsedOptions b fl = .ok (keysOpts fl ks) ∧
      renderM nc [] (diffM (keysOpts fl ks) a b') = some T ∧
      readDiffM nc T = .ok d' ∧ patchM a d' = .ok r ∧
      equivB (keysOpts fl ks) r b' = true ∧ equals (keysOpts fl ks) r b' = true ∧
      TwoRuns (proc Ls b fl e1) (proc Ls b fl2 e2) fl fl2 T (if T = "" then 0 else 1)
        ((nativeLib nc Y).renderDoc fl.yaml (keysOpts fl ks) r) := by
  have ho := parsedOptions_setkeys b hkeys hsk hmset hprec hfmt
  have hks := splitKeys_ne_nil hsk
  obtain ⟨m1, m2, m3, m4⟩ := keysOpts_facts fl ks hprec
  obtain ⟨text, d', r, g1, g2, g3, g4, g5⟩ :=
    E2EK.diff_print_read_patch_setkeys F FL nc (keysOpts fl ks) ks m1 m2 m3 m4 hks a b' ha hb hva
      hvb KH hv hp
  refine ⟨text, d', r, ho, g1, g2, g3, g5, g4, ?_⟩
  exact S.twoRuns ho hfmt (nativeLib_calls nc Y (by rw [hcolor]; exact congrArg Outcome.ok g1) g2 g3)

/-! ## 4. `-f merge` (RFC 7386 text), list reading -/

section MergeFmt
open Jd.Merge

/-- the pure merge diff depends on the options only through `Equals` on arrays: in the list reading
    without a Precision option it is the one of the empty option list -/
theorem dl_optcongr {o : Opts} (ho : dispatchTag o = .list) (hp : precOf o = 0) (a b : Json) :
    dl o a b = dl [] a b :=
  (pDiffC_dl o).ext (pDiffC_dl []) (fun _ _ => True) (fun _ _ _ => trivial)
    (fun _ => SetDP.equals_optcongr (o := o) (o' := []) (by rw [ho]; rfl) (by rw [hp]; rfl) _ _)
    (fun _ _ _ => rfl) a b trivial

theorem dlKvs_optcongr {o : Opts} (ho : dispatchTag o = .list) (hp : precOf o = 0)
    (kvs' : List (String × Json)) : ∀ kvs : List (String × Json), dlKvs o kvs' kvs = dlKvs [] kvs' kvs :=
  fun kvs => (pDiff_dl o).extK (pDiff_dl []) kvs fun _ v v' _ _ => dl_optcongr ho hp v v'

/-- the excluded pairs of the merge round trip: the FIRST document is not an object and the second
    is the empty object `{}` (known finding KF-C12-emptyobj, class (a) of `Merge.Clean`) -/
def isEmptyObj : Json → Bool
  | .obj [] => true
  | _ => false

/-- the domain of the merge round trip (Bool): `a` is an object or `b` is not `{}` -/
def mergeRTDom (a b : Json) : Bool := a.isObj || !isEmptyObj b

theorem mergeRTDom_iff (a b : Json) : mergeRTDom a b = true ↔ (a.isObj = true ∨ b ≠ .obj []) := by
  unfold mergeRTDom
  cases b with
  | obj kvs => cases kvs <;> simp [isEmptyObj]
  | _ => simp [isEmptyObj]

/-- **LIBRARY-LEVEL round trip, RFC 7386 format, list reading** (`merge_lib_round_trip`):
    `a.Diff(b, MERGE).RenderMerge()` returns a text, `ReadMergeString` reads it, `a.Patch` of the
    diff read succeeds, and the result `Equals` `b` (and is structurally equal to it). -/
theorem merge_lib_round_trip (L : FloatLaws) (nc : NumCodec) (o : Opts) (hm : isMerge o = true)
    (ho : dispatchTag o = .list) (hprec : precOf o = 0) (a b : Json)
    (haw : a.wf = true) (har : a.rawDoc = true)
    (hbw : b.wf = true) (hbr : b.rawDoc = true) (hbn : b.nullFree = true)
    (hbf : b.finiteNums = true) (hbv : Yaml.voidFree b = true) (hbN : JText.NumOK nc b = true)
    (hab : a.isObj = true ∨ b ≠ .obj []) :
    ∃ text d' r, renderMergeM nc (diffM o a b) = .ok (some text) ∧
      readMergeM nc text = .ok d' ∧ patchM a d' = .ok r ∧
      equals o r b = true ∧ equivB o r b = true ∧ specEq r b = true ∧ r.listDoc = true := by
  have hov := V1T.objVoidFree_of_voidFree b hbv
  have G : GoodB b := ⟨hbw, hbr, hbn, hov, hbf⟩
  have hdl := dl_optcongr ho hprec a b
  have hrd := renderMergeDoc_diffM o ho hm a b har hbr hov
  have hrl : rl o a b = rl [] a b := by simp only [rl, hdl]
  rw [hrl, hdl] at hrd
  have S := sound L [] rfl rfl a haw har b G
  have hbl := rawDoc_listDoc b hbr
  have fin : ∀ r : Json, r.listDoc = true → specEq r b = true →
      equals o r b = true ∧ equivB o r b = true ∧ specEq r b = true ∧ r.listDoc = true := by
    intro r hrl hs
    have e : equivB o r b = true := by
      rw [DPL.equivB_congr o [] ho rfl (by rw [hprec]; rfl)]; exact hs
    exact ⟨by rw [equals_eq_equivB_list o ho r b hrl hbl]; exact e, e, hs, hrl⟩
  by_cases hd : dl [] a b = []
  · rw [if_pos hd] at hrd
    obtain ⟨s, h1, h2⟩ := JText.readMergeM_renderMergeM nc _ _ hrd (Or.inr rfl)
    refine ⟨s, _, a, h1, h2, ?_, fin a (rawDoc_listDoc a har) (S.1 hd)⟩
    rfl
  · rw [if_neg hd] at hrd
    have S2 := S.2 hd
    obtain ⟨c1, c2, c3, c4⟩ := V1M.pdoc_clean L a b haw har G hd hab
    have hT := V1T.tok_pdoc nc a b ⟨hbv, hbN⟩ hd
    have hp : JText.preOK nc (V1M.pdoc a b) = true := by
      rw [JText.preOK_iff, c1, hT.1, hT.2]; rfl
    obtain ⟨s, h1, h2⟩ := JText.readMergeM_renderMergeM nc _ (V1M.pdoc a b) hrd (Or.inr hp)
    rw [JText.rawNorm_eq_untag _ (JText.setFree_of_listDoc _ c3)] at h2
    have hs : specEq (mergePatch a (untag (V1M.pdoc a b))) b = true := by
      rw [V1T.mergePatch_untag_right har, specEq_untag_left]; exact S2.2.2
    have hl : (mergePatch a (untag (V1M.pdoc a b))).listDoc = true := by
      rw [V1T.mergePatch_untag_right har]; exact untag_listDoc _
    refine ⟨s, _, _, h1, h2, ?_, fin _ hl hs⟩
    exact merge_read_apply_partial a _ haw (by rw [untag_wf]; exact c1)
      (by rw [V1T.objVoidFree_untag]; exact c2) (by rw [V1T.clean_untag]; exact c4)

/-- the option list for `jd -f merge` (no `-set -mset -setkeys`) -/
def mergeOpts (fl : Flags) : List Opt := [Opt.merge, Opt.prec fl.precision]

/-- how the merge round trip is refuted: the rendered document `n` is printed, read back as
    `readMergeDoc (rawNorm n)`, and `Patch` of that returns a document that misses `Post` -/
theorem not_libRoundTrip_merge (nc : NumCodec) (Y : YamlCarrier) (color : Bool) {o : List Opt}
    {a b n r : Json} {D : Diff} {Post : Json → Prop}
    (hrd : renderMergeDoc (diffM o a b) = .ok n)
    (hp : n.isVoid = true ∨ JText.preOK nc n = true) (hD : readMergeDoc (rawNorm n) = D)
    (hpa : patchM a D = .ok r) (hpost : ¬ Post r) :
    ¬ LibRoundTrip (nativeLib nc Y) .merge color o a b Post := by
  obtain ⟨s, h1, h2⟩ := JText.readMergeM_renderMergeM nc _ _ hrd hp
  rw [hD] at h2
  intro H
  obtain ⟨c1, c2, c3⟩ := nativeLib_calls nc Y (fmt := .merge) (color := color) h1 h2 hpa
  obtain ⟨d', r', g1, g2, g3⟩ := H s c1
  rw [c2] at g1
  cases g1
  rw [c3] at g2
  cases g2
  exact hpost g3

/-- **`LibRoundTrip` for `-f merge`** (list reading), from `merge_lib_round_trip` -/
theorem libRoundTrip_merge (L : FloatLaws) (nc : NumCodec) (Y : YamlCarrier) (color : Bool)
    (o : Opts) (hm : isMerge o = true) (ho : dispatchTag o = .list) (hprec : precOf o = 0)
    (a b : Json) (haw : a.wf = true) (har : a.rawDoc = true)
    (hbw : b.wf = true) (hbr : b.rawDoc = true) (hbn : b.nullFree = true)
    (hbf : b.finiteNums = true) (hbv : Yaml.voidFree b = true) (hbN : JText.NumOK nc b = true)
    (hab : mergeRTDom a b = true) :
    LibRoundTrip (nativeLib nc Y) .merge color o a b
      (fun r => equals o r b = true ∧ equivB o r b = true ∧ specEq r b = true) := by
  obtain ⟨text, d', r, g1, g2, g3, g4, g5, g6, _⟩ := merge_lib_round_trip L nc o hm ho hprec a b haw
    har hbw hbr hbn hbf hbv hbN ((mergeRTDom_iff a b).1 hab)
  exact (nativeLib_calls nc Y (fmt := .merge) (color := color) g1 g2 g3).libRoundTrip ⟨g4, g5, g6⟩

/-- **END TO END, `-f merge` (RFC 7386), list reading, v2 library** (`merge_cli_round_trip`):
    `jd -f merge [-yaml] [-color] [-o F] a b` followed by `jd -p -f merge [same flags] [-o G] T a`. -/
theorem merge_cli_round_trip (L : FloatLaws) {nc : NumCodec}
    {Y : YamlCarrier} {Ls : Bool → LibPack} {b : Binary} {fl fl2 : Flags} {e1 e2 : Env} {a b' : Json}
    (S : Session (nativeLib nc Y) Ls b fl fl2 e1 e2 a b')
    (hf : fl.f = "merge") (hset : fl.set = false) (hmset : fl.mset = false)
    (hkeys : fl.setkeys = "") (hprec : fl.precision = 0)
    (haw : a.wf = true) (har : a.rawDoc = true)
    (hbw : b'.wf = true) (hbr : b'.rawDoc = true) (hbn : b'.nullFree = true)
    (hbf : b'.finiteNums = true) (hbv : Yaml.voidFree b' = true) (hbN : JText.NumOK nc b' = true)
    (hab : mergeRTDom a b' = true) :
    ∃ T d' r,
      parsedOptions b fl = .ok (mergeOpts fl) ∧
      renderMergeM nc (diffM (mergeOpts fl) a b') = .ok (some T) ∧
      readMergeM nc T = .ok d' ∧ patchM a d' = .ok r ∧
      equals (mergeOpts fl) r b' = true ∧ equivB (mergeOpts fl) r b' = true ∧
      specEq r b' = true ∧ r.listDoc = true ∧
      TwoRuns (proc Ls b fl e1) (proc Ls b fl2 e2) fl fl2 T
        (if (diffM (mergeOpts fl) a b').length > 0 then 1 else 0)
        ((nativeLib nc Y).renderDoc fl.yaml (mergeOpts fl) r) := by
  have ho : parsedOptions b fl = .ok (mergeOpts fl) := by
    rw [parsedOptions_listReading b hset hmset hkeys, hf]; rfl
  have hfmt : formatOf fl.f = some .merge := by rw [hf]; rfl
  obtain ⟨text, d', r, g1, g2, g3, g4, g5, g6, g7⟩ := merge_lib_round_trip L nc (mergeOpts fl) rfl rfl
    (by simp [mergeOpts, precOf, hprec]) a b' haw har hbw hbr hbn hbf hbv hbN
    ((mergeRTDom_iff a b').1 hab)
  refine ⟨text, d', r, ho, g1, g2, g3, g4, g5, g6, g7, ?_⟩
  exact S.twoRuns ho hfmt (nativeLib_calls nc Y g1 g2 g3)

end MergeFmt

/-! ## 5. COUNTER-WITNESS (`-f merge`): a non-object against `{}` (KF-C12-emptyobj) -/

section MergeWitness
open Jd.Merge

/-- **`mergeRTDom` is needed**: for EVERY first document `a` that is not an object (as read from
    text) and `b = {}`, every codec, with or without `-color`: the documents differ, `RenderMerge`
    prints a text (the text of `{}`), `ReadMergeString` reads it as the EMPTY diff, `Patch` returns
    `a` unchanged, which does not `Equals` `b`: the library round trip FAILS. -/
theorem merge_emptyobj_no_libRoundTrip (nc : NumCodec) (Y : YamlCarrier) (color : Bool) (o : Opts)
    (hm : isMerge o = true) (ho : dispatchTag o = .list) (a : Json) (har : a.rawDoc = true)
    (hobj : a.isObj = false) :
    mergeRTDom a (.obj []) = false ∧
    ¬ LibRoundTrip (nativeLib nc Y) .merge color o a (.obj [])
        (fun r => equals o r (.obj []) = true) := by
  refine ⟨by simp [mergeRTDom, hobj, isEmptyObj], ?_⟩
  have hd : dl o a (.obj []) = [([], .obj [])] := by
    cases a with
    | arr t xs => exact dl_arr_other o t xs rfl
    | obj _ => simp [Json.isObj] at hobj
    | _ => simp [dl, equals, Json.isVoid, Json.isNull]
  have hrd : renderMergeDoc (diffM o a (.obj [])) = .ok (.obj []) := by
    rw [renderMergeDoc_diffM o ho hm a _ har rfl rfl]
    simp [rl, hd, nulE, mapply, mset, Json.isVoid]
  refine not_libRoundTrip_merge nc Y color hrd (Or.inr rfl) (D := []) rfl (r := a) rfl ?_
  cases a with
  | obj _ => simp [Json.isObj] at hobj
  | arr t xs =>
    simp only [Json.rawDoc, Bool.and_eq_true, beq_iff_eq] at har
    obtain ⟨rfl, _⟩ := har
    simp [equals, Json.dispatch]
  | _ => simp [equals, Json.isVoid, Json.isNull]

/-- **`nullFree b` is needed** (the domain of JSON Merge Patch; known): `{}` → `{"k":null}`.  The
    diff renders to the text of `{"k":null}`, which `ReadMergeString` reads as "delete `k`"; `Patch`
    returns `{}`, which does not `Equals` `{"k":null}`.  Every other hypothesis of
    `merge_lib_round_trip` holds for the pair (`mergeRTDom` included). -/
theorem merge_null_no_libRoundTrip (nc : NumCodec) (Y : YamlCarrier) (color : Bool) :
    mergeRTDom (.obj []) (.obj [("k", .null)]) = true ∧
    ¬ LibRoundTrip (nativeLib nc Y) .merge color [Opt.merge, Opt.prec 0] (.obj [])
        (.obj [("k", .null)])
        (fun r => equals [Opt.merge, Opt.prec 0] r (.obj [("k", .null)]) = true) := by
  refine ⟨rfl, ?_⟩
  have hrd : renderMergeDoc (diffM [Opt.merge, Opt.prec 0] (.obj []) (.obj [("k", .null)]))
      = .ok (.obj [("k", .null)]) := by
    rw [renderMergeDoc_diffM _ rfl rfl _ _ rfl rfl rfl]
    simp [rl, dl, dlKvs, alookup, nulE, mapply, mset, nest, putKvs, ainsert, Json.isVoid]
  have h3 : readMergeDoc (rawNorm (.obj [("k", .null)])) = [mh ["k"] .void] := by
    rw [Yaml.rawNorm_of_rawDoc _ rfl, readMergeDoc_eq]
    simp [rdInto, rdKvs, consE, Json.isObj, objKvs, mh]
  have h4 : patchM (.obj []) [mh ["k"] .void] = .ok (.obj []) := by
    show patchAll true _ ([(["k"], Json.void)].map (fun e => mh e.1 e.2)) = _
    rw [patchAll_mh]
    simp [mapply, mset, putKvs, aerase, Json.isVoid]
  exact not_libRoundTrip_merge nc Y color hrd (Or.inr rfl) h3 h4 (by simp [equals, equalsKvs])

end MergeWitness

#print axioms splitKeys_ne_nil
#print axioms libRoundTrip_setmodes
#print axioms native_cli_round_trip_setmodes
#print axioms libRoundTrip_setkeys
#print axioms native_cli_round_trip_setkeys
#print axioms merge_lib_round_trip
#print axioms libRoundTrip_merge
#print axioms merge_cli_round_trip
#print axioms merge_emptyobj_no_libRoundTrip
#print axioms merge_null_no_libRoundTrip

end Jd.CliRTM
