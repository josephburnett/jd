/-
  JdProofs.EqualsList — property C04 (list mode, no hashes involved):
  `Equals` decides exactly the advertised equivalence `equivB`, different kinds are never equal,
  and on list-mode documents `Equals` is reflexive (finite numbers, non-negative precision) and
  symmetric (well-formed objects).
  Two objects key by key: `DPK.OptRel` (what they hold under one key), `lenLookAll_iff`,
  `equals_obj_optRel` (`equivB_obj_optRel`, `hashCode_obj_optRel` in JdProofs.EqualsSet).
-/
import JdModel
import JdSpec
import JdProofs.Doc

namespace Jd
open Jd.Spec

/-! ### 0. the equations of `equals` and `equivB`

One statement per case of the two comparisons and of their loops over elements and members; later
modules rewrite with these. -/

theorem equals_void (o : Opts) (b : Json) : equals o .void b = b.isVoid := by rw [equals]
theorem equals_null (o : Opts) (b : Json) : equals o .null b = b.isNull := by rw [equals]
theorem equals_bool_bool (o : Opts) (x y : Bool) : equals o (.bool x) (.bool y) = (x == y) := by
  rw [equals]
theorem equals_num_num (o : Opts) (x y : UInt64) :
    equals o (.num x) (.num y) = numWithin (precOf o) x y := by rw [equals]
theorem equals_str_str (o : Opts) (x y : String) : equals o (.str x) (.str y) = (x == y) := by
  rw [equals]
theorem equals_obj_obj (o : Opts) (kvs kvs' : List (String × Json)) :
    equals o (.obj kvs) (.obj kvs') = (kvs.length == kvs'.length && equalsKvs o kvs kvs') := by
  rw [equals]
theorem equals_arr (o : Opts) (t : Tag) (xs : List Json) (b : Json) :
    equals o (.arr t xs) b =
      match effTag o t, b.dispatch o with
      | .set, .arr .set ys => hashCode o (.arr .set xs) == hashCode o (.arr .set ys)
      | .mset, .arr .mset ys =>
        xs.length == ys.length && hashCode o (.arr .mset xs) == hashCode o (.arr .mset ys)
      | .list, .arr .list ys => equalsList o xs ys
      | .raw, .arr .list ys => equalsList o xs ys
      | _, _ => false := by
  rw [equals]; rfl

theorem equalsList_nil_nil (o : Opts) : equalsList o [] [] = true := by rw [equalsList]
theorem equalsList_cons_cons (o : Opts) (x y : Json) (xs ys : List Json) :
    equalsList o (x :: xs) (y :: ys) = (equals o x y && equalsList o xs ys) := by rw [equalsList]
theorem equalsList_nil_cons (o : Opts) (y : Json) (ys : List Json) :
    equalsList o [] (y :: ys) = false := by simp only [equalsList]
theorem equalsList_cons_nil (o : Opts) (x : Json) (xs : List Json) :
    equalsList o (x :: xs) [] = false := by simp only [equalsList]

theorem equalsKvs_nil (o : Opts) (kvs' : List (String × Json)) : equalsKvs o [] kvs' = true := by
  rw [equalsKvs]
theorem equalsKvs_cons (o : Opts) (k : String) (v : Json) (r kvs' : List (String × Json)) :
    equalsKvs o ((k, v) :: r) kvs' =
      ((match alookup k kvs' with
        | some v' => equals o v v'
        | none => false) && equalsKvs o r kvs') := by
  rw [equalsKvs]; rfl

theorem equivB_void_void (o : Opts) : equivB o .void .void = true := by rw [equivB]
theorem equivB_null_null (o : Opts) : equivB o .null .null = true := by rw [equivB]
theorem equivB_bool_bool (o : Opts) (x y : Bool) : equivB o (.bool x) (.bool y) = (x == y) := by
  rw [equivB]
theorem equivB_num_num (o : Opts) (x y : UInt64) :
    equivB o (.num x) (.num y) = numWithin (precOf o) x y := by rw [equivB]
theorem equivB_str_str (o : Opts) (x y : String) : equivB o (.str x) (.str y) = (x == y) := by
  rw [equivB]
theorem equivB_arr_arr (o : Opts) (t t' : Tag) (xs ys : List Json) :
    equivB o (.arr t xs) (.arr t' ys) =
      match dispatchTag o with
      | .set => allIn o xs ys && allCovered o xs ys
      | .mset => xs.length == ys.length && bagSub o xs ys
      | _ => equivList o xs ys := by
  rw [equivB]; rfl
theorem equivB_obj_obj (o : Opts) (kvs kvs' : List (String × Json)) :
    equivB o (.obj kvs) (.obj kvs') = (kvs.length == kvs'.length && equivKvs o kvs kvs') := by
  rw [equivB]

theorem equivList_nil_nil (o : Opts) : equivList o [] [] = true := by rw [equivList]
theorem equivList_cons_cons (o : Opts) (x y : Json) (xs ys : List Json) :
    equivList o (x :: xs) (y :: ys) = (equivB o x y && equivList o xs ys) := by rw [equivList]
theorem equivList_nil_cons (o : Opts) (y : Json) (ys : List Json) :
    equivList o [] (y :: ys) = false := by simp only [equivList]
theorem equivList_cons_nil (o : Opts) (x : Json) (xs : List Json) :
    equivList o (x :: xs) [] = false := by simp only [equivList]

theorem equivKvs_nil (o : Opts) (kvs' : List (String × Json)) : equivKvs o [] kvs' = true := by
  rw [equivKvs]
theorem equivKvs_cons (o : Opts) (k : String) (v : Json) (r kvs' : List (String × Json)) :
    equivKvs o ((k, v) :: r) kvs' =
      ((match alookup k kvs' with
        | some v' => equivB o v v'
        | none => false) && equivKvs o r kvs') := by
  rw [equivKvs]; rfl

/-! ### kinds -/

/-- the JSON kind of a node (the array tag is not part of the kind) -/
inductive Kind where
  | void | null | bool | num | str | arr | obj
deriving DecidableEq, Repr

def Json.kind : Json → Kind
  | .void => .void
  | .null => .null
  | .bool _ => .bool
  | .num _ => .num
  | .str _ => .str
  | .arr _ _ => .arr
  | .obj _ => .obj

/-- the advertised equivalence never identifies nodes of different kinds (all options). -/
theorem equivB_kind (o : Opts) (a b : Json) (h : equivB o a b = true) : a.kind = b.kind := by
  cases a <;> cases b <;> simp_all [equivB, Json.kind]

/-- a scalar against anything: `Equals` is the advertised equivalence, for all options -/
theorem equals_eq_equivB_scalar (o : Opts) (a b : Json) (h1 : ∀ t xs, a ≠ .arr t xs)
    (h2 : ∀ kvs, a ≠ .obj kvs) : equals o a b = equivB o a b := by
  cases a with
  | arr t xs => exact absurd rfl (h1 t xs)
  | obj kvs => exact absurd rfl (h2 kvs)
  | _ => cases b <;> simp [equals, equivB, Json.isVoid, Json.isNull]

/-- `Equals` never identifies nodes of different kinds: valid for ALL options and all documents. -/
theorem equals_kind (o : Opts) (a b : Json) (h : equals o a b = true) : a.kind = b.kind := by
  cases a with
  | arr t xs =>
    cases b with
    | arr t' ys => rfl
    | _ => simp [equals, Json.dispatch] at h
  | obj kvs => cases b <;> simp_all [equals, Json.kind]
  | _ =>
    refine equivB_kind o _ b ?_
    rw [← equals_eq_equivB_scalar o _ b (by intro _ _ e; cases e) (by intro _ e; cases e)]
    exact h

theorem equals_kind_ne (o : Opts) (a b : Json) (h : a.kind ≠ b.kind) : equals o a b = false := by
  cases hc : equals o a b with
  | false => rfl
  | true => exact absurd (equals_kind o a b hc) h

theorem equivB_kind_ne (o : Opts) (a b : Json) (h : a.kind ≠ b.kind) : equivB o a b = false := by
  cases hc : equivB o a b with
  | false => rfl
  | true => exact absurd (equivB_kind o a b hc) h

theorem equals_emptyStr_emptyArr (o : Opts) (t : Tag) : equals o (.str "") (.arr t []) = false :=
  equals_kind_ne o _ _ (by simp [Json.kind])

theorem equals_arr_str (o : Opts) (t : Tag) (xs : List Json) (s : String) :
    equals o (.arr t xs) (.str s) = false :=
  equals_kind_ne o _ _ (by simp [Json.kind])

theorem equals_num_str (o : Opts) (s : String) (n : UInt64) : equals o (.num n) (.str s) = false :=
  equals_kind_ne o _ _ (by simp [Json.kind])

/-! ### members found by lookup -/

theorem alookup_listDoc {k : String} {v : Json} {kvs : List (String × Json)}
    (h : alookup k kvs = some v) (hd : listDocKvs kvs = true) : v.listDoc = true :=
  all_alookup (listDocKvs_eq_all _ ▸ hd) h

theorem alookup_wf {k : String} {v : Json} {kvs : List (String × Json)}
    (h : alookup k kvs = some v) (hd : wfKvs kvs = true) : v.wf = true :=
  all_alookup (wfKvs_eq_all _ ▸ hd) h

/-! ### 1. `equals` is `equivB` in list mode -/

theorem effTag_list {o : Opts} (h : dispatchTag o = .list) {t : Tag}
    (ht : (t == .raw || t == .list) = true) : effTag o t = .list := by
  cases t <;> simp_all [effTag]

/-- array case shared by the theorems below: in list mode, on list documents, array comparison is
    pointwise comparison -/
theorem equals_arr_list {o : Opts} (h : dispatchTag o = .list) {t t' : Tag} (xs ys : List Json)
    (ht : (t == .raw || t == .list) = true) (ht' : (t' == .raw || t' == .list) = true) :
    equals o (.arr t xs) (.arr t' ys) = equalsList o xs ys := by
  cases t <;> cases t' <;> simp_all [equals, effTag, Json.dispatch]

mutual
theorem equals_eq_equivB_list (o : Opts) (h : dispatchTag o = .list) :
    ∀ (a b : Json), a.listDoc = true → b.listDoc = true → equals o a b = equivB o a b
  | .void, b, _, _ => equals_eq_equivB_scalar o _ b nofun nofun
  | .null, b, _, _ => equals_eq_equivB_scalar o _ b nofun nofun
  | .bool _, b, _, _ => equals_eq_equivB_scalar o _ b nofun nofun
  | .num _, b, _, _ => equals_eq_equivB_scalar o _ b nofun nofun
  | .str _, b, _, _ => equals_eq_equivB_scalar o _ b nofun nofun
  | .arr t xs, b, ha, hb => by
    simp only [Json.listDoc, Bool.and_eq_true] at ha
    cases b with
    | arr t' ys =>
      simp only [Json.listDoc, Bool.and_eq_true] at hb
      rw [equals_arr_list h xs ys ha.1 hb.1, equalsList_eq_equivList o h xs ys ha.2 hb.2,
        equivB_arr_arr, h]
    | _ => rw [equals_kind_ne o _ _ (by simp [Json.kind]), equivB_kind_ne o _ _ (by simp [Json.kind])]
  | .obj kvs, b, ha, hb => by
    cases b with
    | obj kvs' =>
      simp only [Json.listDoc] at ha hb
      rw [equals_obj_obj, equivB_obj_obj, equalsKvs_eq_equivKvs o h kvs kvs' ha hb]
    | _ => rw [equals_kind_ne o _ _ (by simp [Json.kind]), equivB_kind_ne o _ _ (by simp [Json.kind])]
theorem equalsList_eq_equivList (o : Opts) (h : dispatchTag o = .list) :
    ∀ (xs ys : List Json), listDocList xs = true → listDocList ys = true →
      equalsList o xs ys = equivList o xs ys
  | [], [], _, _ => by rw [equalsList_nil_nil, equivList_nil_nil]
  | [], y :: ys, _, _ => by rw [equalsList_nil_cons, equivList_nil_cons]
  | x :: xs, [], _, _ => by rw [equalsList_cons_nil, equivList_cons_nil]
  | x :: xs, y :: ys, ha, hb => by
    simp only [listDocList, Bool.and_eq_true] at ha hb
    rw [equalsList_cons_cons, equivList_cons_cons, equals_eq_equivB_list o h x y ha.1 hb.1,
      equalsList_eq_equivList o h xs ys ha.2 hb.2]
theorem equalsKvs_eq_equivKvs (o : Opts) (h : dispatchTag o = .list) :
    ∀ (kvs kvs' : List (String × Json)), listDocKvs kvs = true → listDocKvs kvs' = true →
      equalsKvs o kvs kvs' = equivKvs o kvs kvs'
  | [], kvs', _, _ => by rw [equalsKvs_nil, equivKvs_nil]
  | (k, v) :: r, kvs', ha, hb => by
    simp only [listDocKvs, Bool.and_eq_true] at ha
    rw [equalsKvs_cons, equivKvs_cons, equalsKvs_eq_equivKvs o h r kvs' ha.2 hb]
    cases hl : alookup k kvs' with
    | none => rfl
    | some v' => simp [equals_eq_equivB_list o h v v' ha.1 (alookup_listDoc hl hb)]
end

/-! ### 3. reflexivity -/

mutual
/-- every number in the document is finite (no NaN / ±Inf bit pattern) -/
def Json.finiteNums : Json → Bool
  | .num b => finiteBits b
  | .arr _ xs => finiteNumsList xs
  | .obj kvs => finiteNumsKvs kvs
  | _ => true
def finiteNumsList : List Json → Bool
  | [] => true
  | x :: r => x.finiteNums && finiteNumsList r
def finiteNumsKvs : List (String × Json) → Bool
  | [] => true
  | (_, v) :: r => v.finiteNums && finiteNumsKvs r
end

theorem finiteNumsList_eq_all (xs : List Json) : finiteNumsList xs = xs.all Json.finiteNums :=
  listP_eq_all rfl (fun _ _ => rfl) xs
theorem finiteNumsKvs_eq_all (kvs : List (String × Json)) :
    finiteNumsKvs kvs = kvs.all (·.2.finiteNums) :=
  listP_eq_all rfl (fun _ _ => rfl) kvs

mutual
theorem equals_refl_list (L : FloatLaws) (o : Opts) (h : dispatchTag o = .list)
    (hp : nonnegBits (precOf o) = true) :
    ∀ (a : Json), a.listDoc = true → a.wf = true → a.finiteNums = true → equals o a a = true
  | .void, _, _, _ => equals_void o _
  | .null, _, _, _ => equals_null o _
  | .bool x, _, _, _ => by rw [equals_bool_bool, beq_self_eq_true]
  | .num x, _, _, hf => by
    simp only [Json.finiteNums] at hf
    rw [equals_num_num, L.refl _ _ hf hp]
  | .str x, _, _, _ => by rw [equals_str_str, beq_self_eq_true]
  | .arr t xs, ha, hw, hf => by
    simp only [Json.listDoc, Bool.and_eq_true] at ha
    simp only [Json.wf] at hw
    simp only [Json.finiteNums] at hf
    rw [equals_arr_list h xs xs ha.1 ha.1]
    exact equalsList_refl_list L o h hp xs ha.2 hw hf
  | .obj kvs, ha, hw, hf => by
    simp only [Json.listDoc] at ha
    simp only [Json.wf, Bool.and_eq_true] at hw
    simp only [Json.finiteNums] at hf
    rw [equals_obj_obj, beq_self_eq_true, Bool.true_and]
    exact equalsKvs_refl_list L o h hp kvs kvs (fun k v hm => alookup_of_mem hw.1 hm) ha hw.2 hf
theorem equalsList_refl_list (L : FloatLaws) (o : Opts) (h : dispatchTag o = .list)
    (hp : nonnegBits (precOf o) = true) :
    ∀ (xs : List Json), listDocList xs = true → wfList xs = true → finiteNumsList xs = true →
      equalsList o xs xs = true
  | [], _, _, _ => equalsList_nil_nil o
  | x :: xs, ha, hw, hf => by
    simp only [listDocList, wfList, finiteNumsList, Bool.and_eq_true] at ha hw hf
    rw [equalsList_cons_cons, equals_refl_list L o h hp x ha.1 hw.1 hf.1,
      equalsList_refl_list L o h hp xs ha.2 hw.2 hf.2]; rfl
theorem equalsKvs_refl_list (L : FloatLaws) (o : Opts) (h : dispatchTag o = .list)
    (hp : nonnegBits (precOf o) = true) :
    ∀ (r kvs : List (String × Json)), (∀ k v, (k, v) ∈ r → alookup k kvs = some v) →
      listDocKvs r = true → wfKvs r = true → finiteNumsKvs r = true → equalsKvs o r kvs = true
  | [], _, _, _, _, _ => equalsKvs_nil o _
  | (k, v) :: r, kvs, hsub, ha, hw, hf => by
    simp only [listDocKvs, wfKvs, finiteNumsKvs, Bool.and_eq_true] at ha hw hf
    rw [equalsKvs_cons, hsub k v List.mem_cons_self]
    simp [equals_refl_list L o h hp v ha.1 hw.1 hf.1,
      equalsKvs_refl_list L o h hp r kvs (fun k' v' hm => hsub k' v' (List.mem_cons_of_mem _ hm))
        ha.2 hw.2 hf.2]
end

/-! ### 4. symmetry -/

/-- pigeonhole: a duplicate-free list included in a list that is not longer covers it -/
theorem subset_of_nodup_subset_length {α} [BEq α] [LawfulBEq α] :
    ∀ (l l' : List α), l.Nodup → l ⊆ l' → l'.length ≤ l.length → l' ⊆ l
  | [], l', _, _, hlen => by
    cases l' with
    | nil => exact fun _ h => h
    | cons _ _ => simp at hlen
  | a :: r, l', hnd, hsub, hlen => by
    rw [List.nodup_cons] at hnd
    have ha : a ∈ l' := hsub List.mem_cons_self
    have hsub' : r ⊆ l'.erase a := by
      intro x hx
      have hne : x ≠ a := fun e => hnd.1 (e ▸ hx)
      exact (List.mem_erase_of_ne hne).2 (hsub (List.mem_cons_of_mem _ hx))
    have hlen' : (l'.erase a).length ≤ r.length := by
      rw [List.length_erase_of_mem ha]
      simp only [List.length_cons] at hlen
      omega
    have ih := subset_of_nodup_subset_length r (l'.erase a) hnd.2 hsub' hlen'
    intro x hx
    by_cases hxa : x = a
    · exact hxa ▸ List.mem_cons_self
    · exact List.mem_cons_of_mem _ (ih ((List.mem_erase_of_ne hxa).2 hx))

/-- every binding of `kvs` has a binding in `kvs'` with a related value -/
def AllLook (R : Json → Json → Bool) (kvs kvs' : List (String × Json)) : Prop :=
  ∀ k v, (k, v) ∈ kvs → ∃ v', alookup k kvs' = some v' ∧ R v v' = true

/-- objects with unique keys and the same number of keys: inclusion one way is inclusion the
    other way -/
theorem AllLook.flip {R : Json → Json → Bool} {kvs kvs' : List (String × Json)}
    (hs : keysSorted kvs = true) (hs' : keysSorted kvs' = true) (hlen : kvs.length = kvs'.length)
    (hall : AllLook R kvs kvs') : AllLook (fun x y => R y x) kvs' kvs := by
  have hsub : kvs.map Prod.fst ⊆ kvs'.map Prod.fst := by
    intro k hk
    obtain ⟨⟨k0, v⟩, hm, he⟩ := List.mem_map.1 hk
    simp only at he
    subst he
    obtain ⟨v', hl, _⟩ := hall k0 v hm
    exact List.mem_map.2 ⟨(k0, v'), mem_of_alookup hl, rfl⟩
  have hsub' : kvs'.map Prod.fst ⊆ kvs.map Prod.fst :=
    subset_of_nodup_subset_length _ _ (keysSorted_nodup hs) hsub (by simp [hlen])
  intro k' v' hm'
  have hk' : k' ∈ kvs.map Prod.fst := hsub' (List.mem_map.2 ⟨(k', v'), hm', rfl⟩)
  obtain ⟨⟨k0, v⟩, hm, he⟩ := List.mem_map.1 hk'
  simp only at he
  subst he
  obtain ⟨v'', hl, hr⟩ := hall k0 v hm
  have : v'' = v' := by
    have := alookup_of_mem hs' hm'
    rw [hl] at this
    exact Option.some.inj this
  subst this
  exact ⟨v, alookup_of_mem hs hm, hr⟩

/-- … so the second object has no other key -/
theorem AllLook.covers {R : Json → Json → Bool} {kvs kvs' : List (String × Json)}
    (hs : keysSorted kvs = true) (hs' : keysSorted kvs' = true) (hlen : kvs.length = kvs'.length)
    (hall : AllLook R kvs kvs') (k' : String) (v' : Json) (hm' : (k', v') ∈ kvs') :
    (alookup k' kvs).isSome = true := by
  obtain ⟨w, hl, _⟩ := hall.flip hs hs' hlen k' v' hm'
  simp [hl]

/-- `equalsKvs` with the comparison of values abstracted -/
def lookAll (R : Json → Json → Bool) : List (String × Json) → List (String × Json) → Bool
  | [], _ => true
  | (k, v) :: r, kvs' =>
    (match alookup k kvs' with
     | some v' => R v v'
     | none => false) && lookAll R r kvs'

theorem lookAll_iff (R : Json → Json → Bool) (kvs' : List (String × Json)) :
    ∀ (kvs : List (String × Json)), lookAll R kvs kvs' = true ↔ AllLook R kvs kvs'
  | [] => by simp [lookAll, AllLook]
  | (k, v) :: r => by
    rw [lookAll, Bool.and_eq_true, lookAll_iff R kvs' r]
    constructor
    · rintro ⟨h1, h2⟩ k0 v0 hm
      rcases List.mem_cons.1 hm with he | hm'
      · cases he
        cases hl : alookup k kvs' with
        | none => simp [hl] at h1
        | some v' => exact ⟨v', rfl, by simpa [hl] using h1⟩
      · exact h2 k0 v0 hm'
    · intro h
      refine ⟨?_, fun k0 v0 hm => h k0 v0 (List.mem_cons_of_mem _ hm)⟩
      obtain ⟨v', hl, hr⟩ := h k v List.mem_cons_self
      simp [hl, hr]

theorem equalsKvs_eq_lookAll (o : Opts) (kvs' : List (String × Json)) :
    ∀ (kvs : List (String × Json)), equalsKvs o kvs kvs' = lookAll (equals o) kvs kvs'
  | [] => equalsKvs_nil o kvs'
  | (k, v) :: r => by rw [equalsKvs_cons, lookAll, equalsKvs_eq_lookAll o kvs' r]

namespace DPK

/-- `R` on the members two objects hold under one key: both absent, or both present and related -/
def OptRel (R : Json → Json → Prop) : Option Json → Option Json → Prop
  | some x, some y => R x y
  | none, none => True
  | _, _ => False

theorem OptRel.imp {R P : Json → Json → Prop} (hRP : ∀ {x y}, R x y → P x y) :
    ∀ {p q : Option Json}, OptRel R p q → OptRel P p q
  | some _, some _, h => hRP h
  | none, none, _ => trivial
  | some _, none, h => h.elim
  | none, some _, h => h.elim

theorem OptRel.left {R : Json → Json → Prop} {x : Json} :
    ∀ {q : Option Json}, OptRel R (some x) q → ∃ y, q = some y ∧ R x y
  | some y, h => ⟨y, rfl, h⟩
  | none, h => h.elim

theorem OptRel.isSome_eq {R : Json → Json → Prop} :
    ∀ {p q : Option Json}, OptRel R p q → p.isSome = q.isSome
  | some _, some _, _ => rfl
  | none, none, _ => rfl
  | some _, none, h => h.elim
  | none, some _, h => h.elim

/-- from the form in which the object steps state it -/
theorem OptRel.of_lookup {R : Json → Json → Prop} : ∀ {ox oy : Option Json},
    (match oy with
      | none => ox = none
      | some v' => ∃ z, ox = some z ∧ R z v') → OptRel R ox oy
  | _, none, h => by subst h; trivial
  | _, some _, ⟨_, hz, hr⟩ => by subst hz; exact hr

/-- objects with strictly increasing keys that hold related members under every key: as many
    members, and each member of the first has its partner in the second -/
theorem OptRel.members {R : Json → Json → Prop} {X Y : List (String × Json)}
    (hX : keysSorted X = true) (hY : keysSorted Y = true)
    (h : ∀ k, OptRel R (alookup k X) (alookup k Y)) :
    X.length = Y.length ∧ ∀ k z, (k, z) ∈ X → ∃ v', alookup k Y = some v' ∧ R z v' := by
  have key : ∀ {A B : List (String × Json)}, keysSorted A = true →
      (∀ k, (alookup k A).isSome = (alookup k B).isSome) → A.length ≤ B.length := by
    intro A B hA hsub
    have := (keysSorted_nodup hA).length_le_of_subset (l₂ := B.map Prod.fst) fun k hk =>
      (alookup_isSome_iff k B).1 (hsub k ▸ (alookup_isSome_iff k A).2 hk)
    simpa using this
  refine ⟨Nat.le_antisymm (key hX fun k => (h k).isSome_eq) (key hY fun k => (h k).isSome_eq.symm),
    fun k v hm => ?_⟩
  have := h k
  rw [alookup_of_mem hX hm] at this
  exact this.left

end DPK

/-- objects with strictly increasing keys: as many members, each member of the first with an
    `R`-related partner in the second ⟺ under every key both hold nothing or `R`-related values -/
theorem lenLookAll_iff (R : Json → Json → Bool) {X Y : List (String × Json)}
    (hX : keysSorted X = true) (hY : keysSorted Y = true) :
    (X.length == Y.length && lookAll R X Y) = true ↔
      ∀ k, DPK.OptRel (fun x y => R x y = true) (alookup k X) (alookup k Y) := by
  rw [Bool.and_eq_true, beq_iff_eq, lookAll_iff]
  refine ⟨?_, DPK.OptRel.members hX hY⟩
  rintro ⟨hlen, hall⟩ k
  cases hl : alookup k X with
  | some x =>
    obtain ⟨y, hy, hxy⟩ := hall k x (mem_of_alookup hl)
    rw [hy]; exact hxy
  | none =>
    cases hl' : alookup k Y with
    | none => trivial
    | some y =>
      obtain ⟨z, hz, _⟩ := AllLook.flip hX hY hlen hall k y (mem_of_alookup hl')
      rw [hl] at hz; cases hz

/-- `Equals` on two objects with unique keys, key by key -/
theorem equals_obj_optRel (o : Opts) {X Y : List (String × Json)} (hX : keysSorted X = true)
    (hY : keysSorted Y = true) :
    equals o (.obj X) (.obj Y) = true ↔
      ∀ k, DPK.OptRel (fun x y => equals o x y = true) (alookup k X) (alookup k Y) := by
  rw [equals_obj_obj, equalsKvs_eq_lookAll]; exact lenLookAll_iff _ hX hY

/-- for objects with unique keys and the same number of keys, "every key of the first is in the
    second with an equal value" can be read from either side -/
theorem lookAll_flip (R : Json → Json → Bool) {kvs kvs' : List (String × Json)}
    (hs : keysSorted kvs = true) (hs' : keysSorted kvs' = true) (hlen : kvs.length = kvs'.length) :
    lookAll (fun x y => R y x) kvs kvs' = lookAll R kvs' kvs := by
  rw [Bool.eq_iff_iff, lookAll_iff, lookAll_iff]
  exact ⟨fun h => AllLook.flip hs hs' hlen h, fun h => AllLook.flip hs' hs hlen.symm h⟩

/-- a scalar against anything: `Equals` can be read from either side, for all options -/
theorem equals_symm_scalar (L : FloatLaws) (o : Opts) (a b : Json) (h1 : ∀ t xs, a ≠ .arr t xs)
    (h2 : ∀ kvs, a ≠ .obj kvs) : equals o a b = equals o b a := by
  cases a with
  | arr t xs => exact absurd rfl (h1 t xs)
  | obj kvs => exact absurd rfl (h2 kvs)
  | _ =>
    cases b <;>
      simp [equals, Json.isVoid, Json.isNull, Json.dispatch, effTag, Bool.beq_comm, L.symm _ _]

mutual
theorem equals_symm_list (L : FloatLaws) (o : Opts) (h : dispatchTag o = .list) :
    ∀ (a b : Json), a.listDoc = true → b.listDoc = true → a.wf = true → b.wf = true →
      equals o a b = equals o b a
  | .void, b, _, _, _, _ => equals_symm_scalar L o _ b nofun nofun
  | .null, b, _, _, _, _ => equals_symm_scalar L o _ b nofun nofun
  | .bool _, b, _, _, _, _ => equals_symm_scalar L o _ b nofun nofun
  | .num _, b, _, _, _, _ => equals_symm_scalar L o _ b nofun nofun
  | .str _, b, _, _, _, _ => equals_symm_scalar L o _ b nofun nofun
  | .arr t xs, b, ha, hb, hw, hw' => by
    simp only [Json.listDoc, Bool.and_eq_true] at ha
    simp only [Json.wf] at hw
    cases b with
    | arr t' ys =>
      simp only [Json.listDoc, Bool.and_eq_true] at hb
      simp only [Json.wf] at hw'
      rw [equals_arr_list h xs ys ha.1 hb.1, equals_arr_list h ys xs hb.1 ha.1]
      exact equalsList_symm_list L o h xs ys ha.2 hb.2 hw hw'
    | _ => rw [equals_kind_ne o _ _ (by simp [Json.kind]), equals_kind_ne o _ _ (by simp [Json.kind])]
  | .obj kvs, b, ha, hb, hw, hw' => by
    cases b with
    | obj kvs' =>
      simp only [Json.listDoc] at ha hb
      simp only [Json.wf, Bool.and_eq_true] at hw hw'
      rw [equals_obj_obj, equals_obj_obj]
      by_cases hlen : kvs.length = kvs'.length
      · rw [equalsKvs_flip_list L o h kvs kvs' ha hb hw.2 hw'.2,
          lookAll_flip (equals o) hw.1 hw'.1 hlen, ← equalsKvs_eq_lookAll, hlen]
      · have hlen' : ¬ kvs'.length = kvs.length := fun e => hlen e.symm
        rw [beq_false_of_ne hlen, beq_false_of_ne hlen']; rfl
    | _ => rw [equals_kind_ne o _ _ (by simp [Json.kind]), equals_kind_ne o _ _ (by simp [Json.kind])]
theorem equalsList_symm_list (L : FloatLaws) (o : Opts) (h : dispatchTag o = .list) :
    ∀ (xs ys : List Json), listDocList xs = true → listDocList ys = true → wfList xs = true →
      wfList ys = true → equalsList o xs ys = equalsList o ys xs
  | [], [], _, _, _, _ => rfl
  | [], y :: ys, _, _, _, _ => by rw [equalsList_nil_cons, equalsList_cons_nil]
  | x :: xs, [], _, _, _, _ => by rw [equalsList_nil_cons, equalsList_cons_nil]
  | x :: xs, y :: ys, ha, hb, hw, hw' => by
    simp only [listDocList, wfList, Bool.and_eq_true] at ha hb hw hw'
    rw [equalsList_cons_cons, equalsList_cons_cons, equals_symm_list L o h x y ha.1 hb.1 hw.1 hw'.1,
      equalsList_symm_list L o h xs ys ha.2 hb.2 hw.2 hw'.2]
/-- the values can be compared the other way round -/
theorem equalsKvs_flip_list (L : FloatLaws) (o : Opts) (h : dispatchTag o = .list) :
    ∀ (r kvs' : List (String × Json)), listDocKvs r = true → listDocKvs kvs' = true →
      wfKvs r = true → wfKvs kvs' = true →
      equalsKvs o r kvs' = lookAll (fun x y => equals o y x) r kvs'
  | [], _, _, _, _, _ => equalsKvs_nil o _
  | (k, v) :: r, kvs', ha, hb, hw, hw' => by
    simp only [listDocKvs, wfKvs, Bool.and_eq_true] at ha hw
    rw [equalsKvs_cons, lookAll, equalsKvs_flip_list L o h r kvs' ha.2 hb hw.2 hw']
    cases hl : alookup k kvs' with
    | none => rfl
    | some v' =>
      show (equals o v v' && _) = (equals o v' v && _)
      rw [equals_symm_list L o h v v' ha.1 (alookup_listDoc hl hb) hw.1 (alookup_wf hl hw')]
end

/-! ### axioms -/

#print axioms equals_eq_equivB_list
#print axioms equals_kind
#print axioms equivB_kind
#print axioms equals_refl_list
#print axioms equals_symm_list

end Jd
