/-
  JdProofs.NoPanic — property C13: applying any diff to any document never panics.

  The leaves (list splice, set, multiset) guard every slice operation; the descent is read off the
  structural twins `patchS` / `patchMg` of JdProofs.PatchEqns, whose member walks are total lookups.
-/
import JdProofs.Doc
import JdProofs.PatchEqns

namespace Jd

theorem Outcome.bind_ne_panic {α β} (x : Outcome α) (f : α → Outcome β)
    (hx : x ≠ .panic) (hf : ∀ a, x = .ok a → f a ≠ .panic) : (x >>= f) ≠ .panic := by
  cases x with
  | ok a => simpa using hf a rfl
  | err => simp
  | panic => exact absurd rfl hx

theorem Outcome.bind_eq_ok {α β} {x : Outcome α} {f : α → Outcome β} {b : β} :
    (x >>= f) = .ok b ↔ ∃ a, x = .ok a ∧ f a = .ok b := by
  cases x <;> simp

/-- Meant for `refine` / `exact`, which unify at the head of the goal only; `split` rewrites the
    whole goal, and on the long `if` chains of the readers that is very slow to check. -/
theorem Outcome.ite_ne_panic {α} {c : Prop} [Decidable c] {a b : Outcome α} (ha : a ≠ .panic)
    (hb : b ≠ .panic) : (if c then a else b) ≠ .panic := by
  split <;> assumption

theorem idxP_ne_panic (l : List Json) (i : Int) (h0 : 0 ≤ i) (h1 : i < (l.length : Int)) :
    idxP l i ≠ .panic := by
  unfold idxP
  have h : i.toNat < l.length := by omega
  simp [show ¬ i < 0 by omega, List.getElem?_eq_getElem h]

theorem removeAtP_ne_panic (l : List Json) (i : Int) (h0 : 0 ≤ i) (h1 : i < (l.length : Int)) :
    removeAtP l i ≠ .panic := by
  unfold removeAtP
  have h : i.toNat < l.length := by omega
  simp [show ¬ i < 0 by omega, h]

theorem spliceP_ne_panic (l : List Json) (i : Int) (add : List Json) (h0 : 0 ≤ i)
    (h1 : i ≤ (l.length : Int)) : spliceP l i add ≠ .panic := by
  unfold spliceP
  simp [show ¬ i < 0 by omega, h1]

theorem checkBefore_ne_panic (l : List Json) (i : Int) (n : Nat) (j : Nat) (bs : List Json)
    (hi : i ≤ (l.length : Int)) (hj : j + bs.length = n) : checkBefore l i n j bs ≠ .panic := by
  induction bs generalizing j with
  | nil => simp [checkBefore]
  | cons b r ih =>
    have ih' := ih (j + 1) (by simp at hj; omega)
    simp only [checkBefore]
    split
    · split
      · exact ih'
      · simp
    · apply Outcome.bind_ne_panic
      · apply idxP_ne_panic
        · omega
        · simp at hj; omega
      · intro x _
        split
        · exact ih'
        · simp

theorem removeLoop_ne_panic (l : List Json) (i : Int) (rs : List Json) (h0 : 0 ≤ i) :
    removeLoop l i rs ≠ .panic := by
  induction rs generalizing l with
  | nil => simp [removeLoop]
  | cons r rs ih =>
    simp only [removeLoop]
    split
    · simp
    · apply Outcome.bind_ne_panic
      · apply idxP_ne_panic <;> omega
      · intro x _
        split
        · apply Outcome.bind_ne_panic
          · apply removeAtP_ne_panic <;> omega
          · intro l' _
            exact ih l'
        · simp

theorem removeLoop_length (l : List Json) (i : Int) (rs : List Json) (l' : List Json)
    (hi : i ≤ (l.length : Int)) (h0 : 0 ≤ i) (h : removeLoop l i rs = .ok l') :
    i ≤ (l'.length : Int) := by
  induction rs generalizing l with
  | nil =>
    simp [removeLoop] at h
    subst h; exact hi
  | cons r rs ih =>
    simp only [removeLoop] at h
    split at h
    · simp at h
    · rename_i hgt
      obtain ⟨x, _, h⟩ := Outcome.bind_eq_ok.1 h
      split at h
      · obtain ⟨l1, hrm, h⟩ := Outcome.bind_eq_ok.1 h
        have hlt : i.toNat < l.length := by omega
        have e : l1 = l.eraseIdx i.toNat := by
          unfold removeAtP at hrm
          simpa [show ¬ i < 0 by omega, show ¬ l.length ≤ i.toNat by omega] using hrm.symm
        apply ih _ _ h
        rw [e, List.length_eraseIdx_of_lt hlt]
        omega
      · simp at h

theorem checkAfter_ne_panic (l : List Json) (i : Int) (j : Nat) (as : List Json) (h0 : 0 ≤ i) :
    checkAfter l i j as ≠ .panic := by
  induction as generalizing j with
  | nil => simp [checkAfter]
  | cons a r ih =>
    simp only [checkAfter]
    split
    · split
      · exact ih _
      · simp
    · apply Outcome.bind_ne_panic
      · apply idxP_ne_panic <;> omega
      · intro x _
        split
        · exact ih _
        · simp

theorem patchListLeaf_ne_panic (l : List Json) (i : Int) (before remove add after : List Json) :
    patchListLeaf l i before remove add after ≠ .panic := by
  unfold patchListLeaf
  split
  · split <;> simp
  · split
    · simp
    · rename_i hne hr
      have h0 : 0 ≤ i := by simp at hr; omega
      have h1 : i ≤ (l.length : Int) := by simp at hr; omega
      apply Outcome.bind_ne_panic
      · exact checkBefore_ne_panic l i _ 0 before h1 (by simp)
      · intro _ _
        apply Outcome.bind_ne_panic
        · exact removeLoop_ne_panic l i remove h0
        · intro l' hl'
          apply Outcome.bind_ne_panic
          · exact spliceP_ne_panic l' i add h0 (removeLoop_length l i remove l' h1 h0 hl')
          · intro l2 _
            apply Outcome.bind_ne_panic
            · exact checkAfter_ne_panic l' i 0 after h0
            · intro _ _
              simp [pure]

theorem setRemoveLoop_ne_panic (m : Opts) (amap : List (UInt64 × Json)) (rs : List Json) :
    setRemoveLoop m amap rs ≠ .panic := by
  induction rs generalizing amap with
  | nil => simp [setRemoveLoop]
  | cons v r ih =>
    simp only [setRemoveLoop]
    split
    · simp
    · split
      · exact ih _
      · simp

theorem patchSetLeaf_ne_panic (m : Opts) (s remove add : List Json) :
    patchSetLeaf m s remove add ≠ .panic := by
  unfold patchSetLeaf
  apply Outcome.bind_ne_panic
  · exact setRemoveLoop_ne_panic _ _ _
  · intro _ _
    simp [pure]

theorem patchMsetLeaf_ne_panic (m : Opts) (a remove add : List Json) :
    patchMsetLeaf m a remove add ≠ .panic := by
  unfold patchMsetLeaf
  simp only
  split <;> simp

theorem patchFresh_ne_panic (merge : Bool) (n : Json) (pa : Path)
    (before remove add after : List Json) :
    patchFresh merge n pa before remove add after ≠ .panic := by
  fun_induction patchFresh merge n pa before remove add after <;> simp_all

theorem patchNew_ne_panic (merge isObj : Bool) (pa : Path)
    (before remove add after : List Json) :
    patchNew merge isObj pa before remove add after ≠ .panic := by
  fun_induction patchNew merge isObj pa before remove add after <;>
    simp_all [patchFresh_ne_panic]



theorem Keyed.keyedOut_ne_panic (sw : Bool) (l1 : List Json) (m : Json) (l2 : List Json)
    {P : Outcome Json} (h : P ≠ .panic) : Keyed.keyedOut sw l1 m l2 P ≠ .panic := by
  cases P with
  | ok v => simp [Keyed.keyedOut]
  | err => simp only [Keyed.keyedOut]; split <;> simp
  | panic => exact absurd rfl h

/-- the search loop hands on the panic of the nested patch only -/
theorem Keyed.keyedLoop_ne_panic {out : List Json → Json → List Json → Outcome Json → Outcome Json}
    (hout : ∀ l1 m l2 P, P ≠ .panic → out l1 m l2 P ≠ .panic) (test : Json → Bool)
    (f : Json → Outcome Json) (hf : ∀ x, f x ≠ .panic) :
    ∀ xs pre, Keyed.keyedLoop out test f pre xs ≠ .panic
  | [], _ => by simp [Keyed.keyedLoop]
  | x :: r, pre => by
    rw [Keyed.keyedLoop]
    exact Outcome.ite_ne_panic (hout _ _ _ _ (hf x)) (keyedLoop_ne_panic hout test f hf r _)

/-- the strict strategy: the member walks of `patchS` are total lookups, so a panic could only come
    from a leaf or from the nested patch -/
theorem patchS_ne_panic (sw : Bool) (b r a af : List Json) (pa : Path) (n : Json) :
    patchS sw b r a af pa n ≠ .panic := by
  fun_induction patchS sw b r a af pa n with
  | case1 n =>
    unfold replaceS
    repeat' split
    all_goals simp
  | case2 k rest kvs ih => exact Outcome.bind_ne_panic _ _ ih fun _ _ => nofun
  | case3 => exact patchListLeaf_ne_panic _ _ _ _ _ _
  | case5 i rest t xs _ _ _ x _ ih => exact Outcome.bind_ne_panic _ _ ih fun v _ => by simp [pure]
  | case8 => exact patchSetLeaf_ne_panic _ _ _ _
  | case10 => exact patchMsetLeaf_ne_panic _ _ _ _
  | case12 po rest t xs _ ih =>
    exact Keyed.keyedLoop_ne_panic (fun _ _ _ _ => Keyed.keyedOut_ne_panic sw _ _ _) _ _ ih _ _
  | _ => simp

/-- the merge strategy -/
theorem patchMg_ne_panic (b r a af : List Json) :
    ∀ (pa : Path) (n : Json), patchMg b r a af pa n ≠ .panic := by
  intro pa
  induction pa with
  | nil =>
    intro n
    cases n <;> simp only [patchMg] <;>
      first | exact patchFresh_ne_panic _ _ _ _ _ _ _ | (split <;> simp)
  | cons e rest ih =>
    intro n
    cases n with
    | obj kvs =>
      cases e with
      | key k =>
        simp only [patchMg]
        refine Outcome.bind_ne_panic _ _ ?_ fun _ _ => nofun
        split
        · exact ih _
        · exact patchNew_ne_panic _ _ _ _ _ _ _
      | _ => simp [patchMg]
    | _ => simp only [patchMg]; exact patchFresh_ne_panic _ _ _ _ _ _ _

/-- `n.patch(...)` never panics, for any node, path, strategy and hunk contents -/
theorem patchNode_ne_panic (sw merge : Bool) (n : Json) (pa : Path)
    (before remove add after : List Json) :
    patchNode sw merge n pa before remove add after ≠ .panic := by
  cases merge
  · rw [patchNode_strict]; exact patchS_ne_panic _ _ _ _ _ _ _
  · rw [patchNode_merge_eq]; exact patchMg_ne_panic _ _ _ _ _ _

/-- `l[i].patch(rest, …)` does not panic when the index is in range (the caller's guard) -/
theorem patchListChild_ne_panic (sw : Bool) (i : Nat) (rest : Path)
    (before remove add after : List Json) (xs : List Json) (h : i < xs.length) :
    patchListChild sw i rest before remove add after xs ≠ .panic := by
  rw [patchListChild_eq sw rest _ _ _ _ xs i _ (List.getElem?_eq_getElem h)]
  exact patchNode_ne_panic _ _ _ _ _ _ _ _

theorem patchKeyed_ne_panic (sw tol : Bool) (lf : UInt64) (po : List (String × Json)) (rest : Path)
    (before remove add after : List Json) (pre xs : List Json) :
    patchKeyed sw tol lf po rest before remove add after pre xs ≠ .panic := by
  rw [patchKeyed_eq]
  exact Keyed.keyedLoop_ne_panic (fun _ _ _ _ => Keyed.keyedOut_ne_panic sw _ _ _) _ _
    (fun x => patchNode_ne_panic _ _ _ _ _ _ _ _) _ _

/-- `o[k].patch(rest, …)` does not panic when the key is present (the caller's `alookup` guard) -/
theorem patchObjChild_ne_panic (sw merge : Bool) (kvs : List (String × Json)) (k : String)
    (rest : Path) (before remove add after : List Json) (h : (alookup k kvs).isSome) :
    patchObjChild sw merge kvs k rest before remove add after ≠ .panic := by
  obtain ⟨v, hv⟩ := Option.isSome_iff_exists.1 h
  rw [patchObjChild_eq sw merge k rest _ _ _ _ kvs v hv]
  exact patchNode_ne_panic _ _ _ _ _ _ _ _

/-- C13: applying any diff to any document never panics -/
theorem patchAll_ne_panic (sw : Bool) (n : Json) (d : Diff) : patchAll sw n d ≠ .panic := by
  induction d generalizing n with
  | nil => simp [patchAll]
  | cons h d ih =>
    simp only [patchAll]
    have hp := patchNode_ne_panic sw h.merge n h.path h.before h.remove h.add h.after
    split
    · exact ih _
    · simp
    · rename_i he; exact absurd he hp

theorem patchM_ne_panic (n : Json) (d : Diff) : patchM n d ≠ .panic :=
  patchAll_ne_panic true n d

end Jd

#print axioms Jd.patchAll_ne_panic
