/-
  JdProofs.V1NativeText — the native text format of v1 diffs (`lib/`): `ReadDiffString` inverts
  `Diff.Render`. Namespace `Jd.V1S`.

  `v1_read_render`: for every v1 diff (list, set, multiset, merge hunks) in the decidable domain
  `wfHunk`, relative to the codec contract `CodecOK` on the paths and values at hand,
  `V1.readDiffM (V1.renderM d)` is `normDiff d` — path elements as raw documents, values `untag`ged,
  void values that render as nothing dropped; a void new value of a MERGE hunk is the bare `+` line
  and is kept. The rendered text is its lines (`renderM_lines`: `hunkLines`, `diffLines`), split by
  `strings.Split` (`NativeRT.splitOn_unlines`) and read by the four-state reader, whose invariant
  between two hunks is `AtBoundary` with the hunks read so far `flushOut` (`readLines_hunk`,
  `readLines_diff`). Neither the writer nor the reader sees the metadata of the diff.

  `CodecOK`: the contract about encoding/json (the text of each path / non-void value has no newline
  and is read back as that path / `untag` of that value); it follows from the general JSON text round
  trip (`codecOK_of_check`).
-/
import JdModel
import JdSpec
import JdProofs.NativeRoundTrip
import JdProofs.JsonTextRoundTrip
import JdProofs.Eval

namespace Jd.V1S
open Jd Jd.Spec

/-! # The text round trip of v1 diffs: `Diff.Render` then `ReadDiffString` -/

section Text
open Jd.NativeRT (unlines unlines_nil unlines_cons unlines_append splitOn_unlines str_ofList_space
  optAll_cons_some optAll_map_congr optAll_join_lines optAll_join_lines_filter optAll_mem
  map_eq_cases)

/-! ## 1. definitions -/

/-- no nil entry in a metadata array of the path (`raw()` would dereference nil) -/
def metaOK : List Json → Bool
  | [] => true
  | .arr .raw items :: r => !(items.any Json.isVoid) && metaOK r
  | _ :: r => metaOK r

/-- the hunk is rendered with the merge conventions (a void new value is a bare `+` line) -/
def rendersMerge (p : List Json) : Bool := V1.pathRendersMerge (V1.liftPath p)

/-- the values that produce a `-` line -/
def oldVals (h : V1.Hunk) : List Json := h.old.filter (fun v => !v.isVoid)

/-- the values that produce a `+` line: in a merge hunk every entry (void = the bare `+` of a
    deletion), otherwise the non-void ones -/
def newVals (h : V1.Hunk) : List Json :=
  if rendersMerge h.path then h.new else h.new.filter (fun v => !v.isVoid)

/-- what reading back can at most change: path elements as raw documents, values `untag`ged, values
    that render as nothing dropped -/
def normHunk (h : V1.Hunk) : V1.Hunk :=
  { path := V1.rawNormList h.path, old := (oldVals h).map untag, new := (newVals h).map untag }

def normDiff (d : V1.VDiff) : V1.VDiff := d.map normHunk

/-- the domain (decidable): the path can be written, at least one `-` / `+` line is rendered (the
    reader rejects `@` directly after `@`), and `checkDiffElement` holds for what is rendered -/
def wfHunk (h : V1.Hunk) : Bool :=
  metaOK h.path && !((oldVals h).isEmpty && (newVals h).isEmpty) && V1.checkHunk (normHunk h)

/-- codec contract for one value: its text has no newline and reads back as the value (up to the
    Go dynamic type of array nodes) -/
def ValOK (nc : NumCodec) (v : Json) : Prop :=
  ∀ t, V1.marshalNode nc v = some t →
    '\n' ∉ t.toList ∧ readJsonM nc (" " ++ t) = .ok (untag v)

/-- codec contract for one path: the text of the array of its elements has no newline and reads
    back as that array -/
def PathOK (nc : NumCodec) (p : List Json) : Prop :=
  ∀ t, jsonText nc (.arr .raw (V1.rawNormList p)) = some t →
    '\n' ∉ t.toList ∧ readJsonM nc (" " ++ t) = .ok (.arr .raw (V1.rawNormList p))

def CodecOK (nc : NumCodec) (d : V1.VDiff) : Prop :=
  ∀ h ∈ d, PathOK nc h.path ∧ ∀ v ∈ h.old ++ h.new, v.isVoid = false → ValOK nc v

/-- `ValOK` from the general round trip of `json.Marshal(node)` (JdProofs/JsonTextRoundTrip): the
    value is in the printer's domain and what it prints is the value up to array types -/
theorem valOK_of_mOK (nc : NumCodec) (v : Json) (hp : JText.mOK nc v = true)
    (hu : JText.V1T.mnorm v = untag v) : ValOK nc v := by
  intro t ht
  obtain ⟨s, hs, hn, hr⟩ :=
    JText.V1T.readJsonM_marshalNode nc v hp [' '] [] (by decide) rfl
  rw [ht, Option.some.injEq] at hs
  subst hs
  have e : " " ++ t = String.ofList ([' '] ++ t.toList ++ []) := by
    rw [← String.toList_inj]; simp [String.toList_append]
  rw [e, hr, hu]
  exact ⟨hn, rfl⟩

/-- `PathOK` from the general round trip of `jsonText`: every path element is in the printer's
    domain -/
theorem pathOK_of_preOK (nc : NumCodec) (p : List Json) (hp : JText.preOKList nc p = true) :
    PathOK nc p := by
  intro t ht
  have hp' : JText.preOK nc (.arr .raw (V1.rawNormList p)) = true := by
    simpa [JText.preOK] using JText.V1T.preOKList_rawNormList nc p hp
  have hr : (Json.arr .raw (V1.rawNormList p)).rawDoc = true := by
    simpa [Json.rawDoc] using JText.V1T.rawDocList_rawNormList p
  have e : " " ++ t = String.ofList ([' '] ++ t.toList ++ []) := by
    rw [← String.toList_inj]; simp [String.toList_append]
  rw [e]
  exact ⟨JText.jsonText_noNL nc _ t hp' ht,
    JText.readJsonM_text nc _ t hp' hr ht [' '] [] (by decide) rfl⟩

/-- `CodecOK` of a concrete diff by one evaluation: paths and non-void values are in the printers'
    domain, and `json.Marshal` prints each value as itself up to array types -/
theorem codecOK_of_check (nc : NumCodec) (d : V1.VDiff)
    (h : (d.all fun h => JText.preOKList nc h.path && (h.old ++ h.new).all fun v =>
      v.isVoid || (JText.mOK nc v && (JText.V1T.mnorm v).eqb (untag v))) = true) :
    CodecOK nc d := by
  intro g hg
  simp only [List.all_eq_true, Bool.and_eq_true, Bool.or_eq_true] at h
  refine ⟨pathOK_of_preOK nc g.path (h g hg).1, fun v hv hnv => ?_⟩
  rcases (h g hg).2 v hv with e | e
  · rw [hnv] at e; cases e
  · exact valOK_of_mOK nc v e.1 (Json.eq_of_eqb e.2)

/-! ## 2. one line -/

theorem readLine_minus (nc : NumCodec) (acc : V1.RAcc) (t : String) (v : Json)
    (hst : acc.st = .at ∨ acc.st = .old)
    (hr : readJsonM nc (" " ++ t) = .ok v) :
    V1.readLine nc acc ("- " ++ t) =
      .ok { acc with st := .old, cur := { acc.cur with old := acc.cur.old ++ [v] } } := by
  have hl : ("- " ++ t).toList = '-' :: ' ' :: t.toList := by simp
  unfold V1.readLine
  rw [hl]
  simp only [str_ofList_space, hr]
  rcases hst with h | h <;> rw [h] <;> simp [V1.stateAllows]

theorem readLine_plus (nc : NumCodec) (acc : V1.RAcc) (t : String) (v : Json)
    (hst : acc.st = .at ∨ acc.st = .old ∨ acc.st = .new)
    (hr : readJsonM nc (" " ++ t) = .ok v) :
    V1.readLine nc acc ("+ " ++ t) =
      .ok { acc with st := .new, cur := { acc.cur with new := acc.cur.new ++ [v] } } := by
  have hl : ("+ " ++ t).toList = '+' :: ' ' :: t.toList := by simp
  unfold V1.readLine
  rw [hl]
  simp only [str_ofList_space, hr]
  rcases hst with h | h | h <;> rw [h] <;> simp [V1.stateAllows]

theorem readLine_plusBare (nc : NumCodec) (acc : V1.RAcc)
    (hst : acc.st = .at ∨ acc.st = .old ∨ acc.st = .new) :
    V1.readLine nc acc "+" =
      .ok { acc with st := .new, cur := { acc.cur with new := acc.cur.new ++ [.void] } } := by
  have hl : ("+" : String).toList = ['+'] := by simp
  have he : String.ofList [] = "" := by simp
  unfold V1.readLine
  rw [hl]
  simp only [he, NativeRT.readJsonM_empty]
  rcases hst with h | h | h <;> rw [h] <;> simp [V1.stateAllows]

theorem readLine_empty (nc : NumCodec) (acc : V1.RAcc) : V1.readLine nc acc "" = .ok acc := by
  have hl : ("" : String).toList = [] := by simp
  unfold V1.readLine
  rw [hl]

/-- the accumulator is at a hunk boundary: nothing read yet, or a complete hunk is pending that
    passes `checkDiffElement` -/
def AtBoundary (acc : V1.RAcc) : Prop :=
  acc.st = .init ∨ ((acc.st = .old ∨ acc.st = .new) ∧ V1.checkHunk acc.cur = true)

/-- the hunks read so far, the pending one included -/
def flushOut (acc : V1.RAcc) : V1.VDiff :=
  if acc.st = .init then acc.out else acc.out ++ [acc.cur]

theorem readLine_at (nc : NumCodec) (acc : V1.RAcc) (t : String) (xs : List Json)
    (hb : AtBoundary acc) (hr : readJsonM nc (" " ++ t) = .ok (.arr .raw xs)) :
    V1.readLine nc acc ("@ " ++ t) =
      .ok { st := .at, cur := { path := xs }, out := flushOut acc } := by
  have hl : ("@ " ++ t).toList = '@' :: ' ' :: t.toList := by simp
  unfold V1.readLine
  rw [hl]
  simp only [str_ofList_space, hr, flushOut]
  rcases hb with h | ⟨h | h, hc⟩
  · rw [h]; simp [V1.stateAllows]
  · rw [h]; simp [V1.stateAllows, hc]
  · rw [h]; simp [V1.stateAllows, hc]

theorem readLines_append (nc : NumCodec) : ∀ (a b : List String) (acc acc' : V1.RAcc),
    V1.readLines nc acc a = .ok acc' → V1.readLines nc acc (a ++ b) = V1.readLines nc acc' b
  | [], b, acc, acc', h => by
    simp only [V1.readLines, Outcome.ok.injEq] at h
    simp [h]
  | l :: a, b, acc, acc', h => by
    simp only [V1.readLines, List.cons_append] at h ⊢
    cases hl : V1.readLine nc acc l with
    | ok a1 => rw [hl] at h; exact readLines_append nc a b a1 acc' h
    | err => rw [hl] at h; cases h
    | panic => rw [hl] at h; cases h

/-! ## 3. runs of lines -/

def remLine (nc : NumCodec) (v : Json) : Option String :=
  (V1.marshalNode nc v).map (fun t => "- " ++ t)
def addLine (nc : NumCodec) (v : Json) : Option String :=
  if v.isVoid then some "+" else (V1.marshalNode nc v).map (fun t => "+ " ++ t)

theorem racc_eta (acc : V1.RAcc) (l : List Json) (h : l = []) :
    ({ acc with st := acc.st, cur := { acc.cur with old := acc.cur.old ++ l } } : V1.RAcc) = acc := by
  subst h; cases acc; simp

theorem racc_eta' (acc : V1.RAcc) (l : List Json) (h : l = []) :
    ({ acc with st := acc.st, cur := { acc.cur with new := acc.cur.new ++ l } } : V1.RAcc) = acc := by
  subst h; cases acc; simp

theorem readLines_old (nc : NumCodec) : ∀ (vs : List Json) (ls : List String) (acc : V1.RAcc),
    (∀ v ∈ vs, v.isVoid = false ∧ ValOK nc v) → optAll (vs.map (remLine nc)) = some ls →
    (acc.st = .at ∨ acc.st = .old) →
    V1.readLines nc acc ls =
      .ok { acc with st := if vs.isEmpty then acc.st else .old,
                     cur := { acc.cur with old := acc.cur.old ++ vs.map untag } }
  | [], ls, acc, _, hl, _ => by
    simp only [List.map_nil, optAll, Option.some.injEq] at hl
    subst hl
    simp only [V1.readLines, List.isEmpty_nil, if_true, List.map_nil]
    rw [racc_eta acc [] rfl]
  | v :: r, ls, acc, hv, hl, hst => by
    simp only [List.map_cons] at hl
    obtain ⟨l, lr, hl1, hl2, rfl⟩ := optAll_cons_some hl
    simp only [remLine, Option.map_eq_some_iff] at hl1
    obtain ⟨t, ht, rfl⟩ := hl1
    have hok := (hv v List.mem_cons_self).2 t ht
    simp only [V1.readLines]
    rw [readLine_minus nc acc t (untag v) hst hok.2]
    simp only []
    rw [readLines_old nc r lr _ (fun v' hv' => hv v' (List.mem_cons_of_mem _ hv')) hl2 (Or.inr rfl)]
    simp [List.append_assoc]

theorem readLines_new (nc : NumCodec) : ∀ (vs : List Json) (ls : List String) (acc : V1.RAcc),
    (∀ v ∈ vs, v.isVoid = false → ValOK nc v) → optAll (vs.map (addLine nc)) = some ls →
    (acc.st = .at ∨ acc.st = .old ∨ acc.st = .new) →
    V1.readLines nc acc ls =
      .ok { acc with st := if vs.isEmpty then acc.st else .new,
                     cur := { acc.cur with new := acc.cur.new ++ vs.map untag } }
  | [], ls, acc, _, hl, _ => by
    simp only [List.map_nil, optAll, Option.some.injEq] at hl
    subst hl
    simp only [V1.readLines, List.isEmpty_nil, if_true, List.map_nil]
    rw [racc_eta' acc [] rfl]
  | v :: r, ls, acc, hv, hl, hst => by
    simp only [List.map_cons] at hl
    obtain ⟨l, lr, hl1, hl2, rfl⟩ := optAll_cons_some hl
    have ih := fun acc1 h1 => readLines_new nc r lr acc1
      (fun v' hv' => hv v' (List.mem_cons_of_mem _ hv')) hl2 h1
    simp only [V1.readLines]
    unfold addLine at hl1
    by_cases hvv : v.isVoid = true
    · rw [if_pos hvv] at hl1
      simp only [Option.some.injEq] at hl1
      subst hl1
      have hvoid : untag v = .void := by cases v <;> first | rfl | simp [Json.isVoid] at hvv
      rw [readLine_plusBare nc acc hst]
      simp only []
      rw [ih _ (Or.inr (Or.inr rfl))]
      simp [List.append_assoc, hvoid]
    · rw [if_neg hvv] at hl1
      simp only [Option.map_eq_some_iff] at hl1
      obtain ⟨t, ht, rfl⟩ := hl1
      have hok := hv v List.mem_cons_self (by simpa using hvv) t ht
      rw [readLine_plus nc acc t (untag v) hst hok.2]
      simp only []
      rw [ih _ (Or.inr (Or.inr rfl))]
      simp [List.append_assoc]

/-! ## 4. one hunk, a sequence of hunks -/

/-- the lines of one rendered hunk -/
def hunkLines (nc : NumCodec) (h : V1.Hunk) : Option (List String) := do
  let pt ← jsonText nc (.arr .raw (V1.rawNormList h.path))
  let o ← optAll ((oldVals h).map (remLine nc))
  let n ← optAll ((newVals h).map (addLine nc))
  pure (("@ " ++ pt) :: (o ++ n))

theorem mem_oldVals {h : V1.Hunk} {v : Json} (hv : v ∈ oldVals h) :
    v ∈ h.old ++ h.new ∧ v.isVoid = false := by
  have := List.mem_filter.1 hv
  exact ⟨List.mem_append.2 (Or.inl this.1), by simpa using this.2⟩

theorem mem_newVals {h : V1.Hunk} {v : Json} (hv : v ∈ newVals h) : v ∈ h.old ++ h.new := by
  unfold newVals at hv
  split at hv
  · exact List.mem_append.2 (Or.inr hv)
  · exact List.mem_append.2 (Or.inr (List.mem_filter.1 hv).1)

theorem readLines_hunk (nc : NumCodec) (h : V1.Hunk) (ls : List String) (acc : V1.RAcc)
    (hb : AtBoundary acc) (hw : wfHunk h = true) (hp : PathOK nc h.path)
    (hv : ∀ v ∈ h.old ++ h.new, v.isVoid = false → ValOK nc v)
    (hl : hunkLines nc h = some ls) :
    ∃ acc', V1.readLines nc acc ls = .ok acc' ∧ AtBoundary acc' ∧
      flushOut acc' = flushOut acc ++ [normHunk h] := by
  simp only [hunkLines, Option.bind_eq_bind, Option.pure_def, Option.bind_eq_some_iff,
    Option.some.injEq] at hl
  obtain ⟨pt, hpt, o, ho, n, hn, rfl⟩ := hl
  simp only [wfHunk, Bool.and_eq_true, Bool.not_eq_true', Bool.and_eq_false_iff] at hw
  obtain ⟨⟨_, hne⟩, hck⟩ := hw
  have h1 := readLine_at nc acc pt _ hb (hp pt hpt).2
  have h2 : V1.readLines nc
      { st := .at, cur := { path := V1.rawNormList h.path }, out := flushOut acc } o =
      .ok { st := if (oldVals h).isEmpty then .at else .old,
            cur := { path := V1.rawNormList h.path, old := (oldVals h).map untag },
            out := flushOut acc } := by
    rw [readLines_old nc (oldVals h) o _
      (fun v hvm => ⟨(mem_oldVals hvm).2, hv v (mem_oldVals hvm).1 (mem_oldVals hvm).2⟩) ho
      (Or.inl rfl)]
    simp
  have h3 : V1.readLines nc
      { st := if (oldVals h).isEmpty then .at else .old,
        cur := { path := V1.rawNormList h.path, old := (oldVals h).map untag },
        out := flushOut acc } n =
      .ok { st := if (newVals h).isEmpty then (if (oldVals h).isEmpty then .at else .old) else .new,
            cur := normHunk h, out := flushOut acc } := by
    rw [readLines_new nc (newVals h) n _ (fun v hvm => hv v (mem_newVals hvm)) hn
      (by by_cases e : (oldVals h).isEmpty = true <;> simp [e])]
    simp [normHunk]
  refine ⟨{ st := if (newVals h).isEmpty then (if (oldVals h).isEmpty then .at else .old) else .new,
            cur := normHunk h, out := flushOut acc }, ?_, ?_, ?_⟩
  · simp only [V1.readLines, h1]
    rw [readLines_append nc o n _ _ h2]
    exact h3
  · right
    refine ⟨?_, hck⟩
    by_cases e1 : (newVals h).isEmpty = true
    · have e2 : (oldVals h).isEmpty = false := by
        rcases hne with e | e
        · exact e
        · rw [e1] at e; cases e
      simp [e1, e2]
    · simp [e1]
  · have hst : (if (newVals h).isEmpty = true then
        (if (oldVals h).isEmpty = true then V1.RState.at else V1.RState.old)
        else V1.RState.new) ≠ .init := by
      by_cases e1 : (newVals h).isEmpty = true <;> by_cases e2 : (oldVals h).isEmpty = true <;>
        simp [e1, e2]
    simp only [flushOut]
    rw [if_neg hst]

def diffLines (nc : NumCodec) (d : V1.VDiff) : Option (List String) :=
  (optAll (d.map (hunkLines nc))).map List.flatten

theorem readLines_diff (nc : NumCodec) : ∀ (d : V1.VDiff) (ls : List String) (acc : V1.RAcc),
    AtBoundary acc → (∀ h ∈ d, wfHunk h = true) → CodecOK nc d → diffLines nc d = some ls →
    ∃ acc', V1.readLines nc acc ls = .ok acc' ∧ AtBoundary acc' ∧
      flushOut acc' = flushOut acc ++ normDiff d
  | [], ls, acc, hb, _, _, hl => by
    simp only [diffLines, List.map_nil, optAll, Option.map_some, List.flatten_nil,
      Option.some.injEq] at hl
    subst hl
    exact ⟨acc, rfl, hb, by simp [normDiff]⟩
  | h :: r, ls, acc, hb, hw, hc, hl => by
    simp only [diffLines, List.map_cons, Option.map_eq_some_iff] at hl
    obtain ⟨lss, hlss, rfl⟩ := hl
    obtain ⟨lh, lr, hlh, hlr, rfl⟩ := optAll_cons_some hlss
    have hch := hc h List.mem_cons_self
    obtain ⟨acc1, e1, b1, f1⟩ := readLines_hunk nc h lh acc hb (hw h List.mem_cons_self)
      hch.1 hch.2 hlh
    obtain ⟨acc2, e2, b2, f2⟩ := readLines_diff nc r lr.flatten acc1 b1
      (fun x hx => hw x (List.mem_cons_of_mem _ hx))
      (fun x hx => hc x (List.mem_cons_of_mem _ hx)) (by simp [diffLines, hlr])
    refine ⟨acc2, ?_, b2, ?_⟩
    · rw [List.flatten_cons, readLines_append nc lh _ _ _ e1]; exact e2
    · rw [f2, f1]; simp [normDiff]

/-! ## 5. the rendered text, as lines -/

theorem rawNorm_isVoid : ∀ x : Json, (V1.rawNorm x).isVoid = x.isVoid
  | .obj _ => by simp [V1.rawNorm, Json.isVoid]
  | .arr t xs => by cases t <;> simp [V1.rawNorm, Json.isVoid]
  | .void | .null | .bool _ | .num _ | .str _ => rfl

theorem pathRaw_lift : ∀ p : List Json, metaOK p = true →
    V1.pathRaw (V1.liftPath p) = some (V1.rawNormList p)
  | [], _ => rfl
  | x :: r, h => by
    have hx : V1.pathElemRaw (.node x) = some (V1.rawNorm x) ∧ metaOK r = true := by
      cases x with
      | arr t items =>
        cases t <;> simp_all [metaOK, V1.pathElemRaw, V1.rawNorm]
      | _ => simp_all [metaOK, V1.pathElemRaw]
    simp only [V1.liftPath, List.map_cons, V1.pathRaw, hx.1, Option.bind_eq_bind,
      Option.bind_some, Option.pure_def]
    have := pathRaw_lift r hx.2
    simp only [V1.liftPath] at this
    rw [this]
    simp [V1.rawNormList]

theorem renderHunk_lines (nc : NumCodec) (h : V1.Hunk) (hm : metaOK h.path = true) :
    V1.renderHunk nc false h.toP = .ok ((hunkLines nc h).map unlines) := by
  have ho : (optAll (h.old.map (fun v =>
      (if v.isVoid then some "" else (V1.marshalNode nc v).map (fun t => "- " ++ t ++ "\n")).map
        (fun body => "" ++ body ++ "")))).map String.join =
      (optAll ((oldVals h).map (remLine nc))).map unlines := by
    unfold oldVals
    rw [← optAll_join_lines_filter (remLine nc) h.old]
    congr 2
    apply List.map_congr_left
    intro v _
    by_cases hv : v.isVoid = true
    · simp [hv]
    · simp only [hv, Bool.false_eq_true, if_false, remLine]
      cases V1.marshalNode nc v <;> simp [String.append_assoc]
  have hn : (optAll (h.new.map (fun v =>
      (if v.isVoid then some (if rendersMerge h.path then "+\n" else "")
       else (V1.marshalNode nc v).map (fun t => "+ " ++ t ++ "\n")).map
        (fun body => "" ++ body ++ "")))).map String.join =
      (optAll ((newVals h).map (addLine nc))).map unlines := by
    unfold newVals
    by_cases hmg : rendersMerge h.path = true
    · simp only [hmg, if_true]
      rw [← optAll_join_lines (addLine nc) h.new]
      congr 2
      apply List.map_congr_left
      intro v _
      by_cases hv : v.isVoid = true
      · simp [hv, addLine]
      · simp only [hv, Bool.false_eq_true, if_false, addLine]
        cases V1.marshalNode nc v <;> simp [String.append_assoc]
    · simp only [hmg, Bool.false_eq_true, if_false]
      rw [← optAll_join_lines_filter (addLine nc) h.new]
      congr 2
      apply List.map_congr_left
      intro v _
      by_cases hv : v.isVoid = true
      · simp [hv]
      · simp only [hv, Bool.false_eq_true, if_false, addLine]
        cases V1.marshalNode nc v <;> simp [String.append_assoc]
  unfold V1.renderHunk V1.pathText hunkLines
  simp only [V1.Hunk.toP, pathRaw_lift h.path hm, Bool.false_eq_true, if_false]
  cases hpt : jsonText nc (.arr .raw (V1.rawNormList h.path)) with
  | none => simp
  | some pt =>
    simp only [Option.bind_eq_bind, Option.bind_some, Option.pure_def]
    have hmr : V1.pathRendersMerge (V1.liftPath h.path) = rendersMerge h.path := rfl
    simp only [hmr]
    rcases map_eq_cases ho with ⟨o1, o2⟩ | ⟨oa, ob, o1, o2, o3⟩
    · rw [o1]; simp [o2]
    · rcases map_eq_cases hn with ⟨n1, n2⟩ | ⟨na, nb, n1, n2, n3⟩
      · rw [o1, n1]; simp [o2, n2]
      · rw [o1, n1]
        simp [o2, n2, unlines_cons, unlines_append, o3, n3, String.append_assoc]

theorem renderM_lines (nc : NumCodec) : ∀ (d : V1.VDiff), (∀ h ∈ d, metaOK h.path = true) →
    V1.renderM nc false (V1.liftDiff d) = .ok ((diffLines nc d).map unlines)
  | [], _ => by simp [V1.renderM, V1.liftDiff, diffLines, optAll, unlines_nil]
  | h :: r, hm => by
    have ih := renderM_lines nc r (fun x hx => hm x (List.mem_cons_of_mem _ hx))
    simp only [V1.liftDiff] at ih
    simp only [V1.liftDiff, List.map_cons, V1.renderM, renderHunk_lines nc h (hm h List.mem_cons_self),
      ih, diffLines]
    cases hh : hunkLines nc h with
    | none => simp [optAll]
    | some lh =>
      cases hr : optAll (r.map (hunkLines nc)) with
      | none => simp [optAll, hr]
      | some lr => simp [optAll, hr, unlines_append]

theorem hunkLines_noNL (nc : NumCodec) (h : V1.Hunk) (ls : List String)
    (hp : PathOK nc h.path) (hv : ∀ v ∈ h.old ++ h.new, v.isVoid = false → ValOK nc v)
    (hl : hunkLines nc h = some ls) : ∀ l ∈ ls, '\n' ∉ l.toList := by
  simp only [hunkLines, Option.bind_eq_bind, Option.pure_def, Option.bind_eq_some_iff,
    Option.some.injEq] at hl
  obtain ⟨pt, hpt, o, ho, n, hn, rfl⟩ := hl
  intro l hl
  simp only [List.mem_cons, List.mem_append] at hl
  rcases hl with rfl | hl | hl
  · have := (hp pt hpt).1
    simp [this]
  · obtain ⟨v, hvm, hg⟩ := optAll_mem ho l hl
    simp only [remLine, Option.map_eq_some_iff] at hg
    obtain ⟨t, ht, rfl⟩ := hg
    have := (hv v (mem_oldVals hvm).1 (mem_oldVals hvm).2 t ht).1
    simp [this]
  · obtain ⟨v, hvm, hg⟩ := optAll_mem hn l hl
    unfold addLine at hg
    split at hg
    · simp only [Option.some.injEq] at hg; subst hg; simp
    · rename_i hvv
      simp only [Option.map_eq_some_iff] at hg
      obtain ⟨t, ht, rfl⟩ := hg
      have := (hv v (mem_newVals hvm) (by simpa using hvv) t ht).1
      simp [this]

theorem diffLines_noNL (nc : NumCodec) : ∀ (d : V1.VDiff) (ls : List String), CodecOK nc d →
    diffLines nc d = some ls → ∀ l ∈ ls, '\n' ∉ l.toList
  | [], ls, _, hl => by
    simp only [diffLines, List.map_nil, optAll, Option.map_some, List.flatten_nil,
      Option.some.injEq] at hl
    subst hl; intro l hl; cases hl
  | h :: r, ls, hc, hl => by
    simp only [diffLines, List.map_cons, Option.map_eq_some_iff] at hl
    obtain ⟨lss, hlss, rfl⟩ := hl
    obtain ⟨lh, lr, hlh, hlr, rfl⟩ := optAll_cons_some hlss
    have hch := hc h List.mem_cons_self
    intro l hl
    rw [List.flatten_cons, List.mem_append] at hl
    rcases hl with hl | hl
    · exact hunkLines_noNL nc h lh hch.1 hch.2 hlh l hl
    · exact diffLines_noNL nc r lr.flatten (fun x hx => hc x (List.mem_cons_of_mem _ hx))
        (by simp [diffLines, hlr]) l hl

theorem wfHunk_metaOK {h : V1.Hunk} (hw : wfHunk h = true) : metaOK h.path = true := by
  simp only [wfHunk, Bool.and_eq_true] at hw
  exact hw.1.1

/-- **`ReadDiffString(d.Render())` is the normalised diff**, for every v1 diff (list, set,
    multiset, merge hunks) in the domain `wfHunk`, relative to the codec contract `CodecOK` on the
    paths and values at hand; on the TEXT (through `strings.Split`). -/
theorem v1_read_render (nc : NumCodec) (d : V1.VDiff) (text : String)
    (hw : ∀ h ∈ d, wfHunk h = true) (hc : CodecOK nc d)
    (hr : V1.renderM nc false (V1.liftDiff d) = .ok (some text)) :
    V1.readDiffM nc text = .ok (normDiff d) := by
  rw [renderM_lines nc d (fun h hh => wfHunk_metaOK (hw h hh))] at hr
  simp only [Outcome.ok.injEq, Option.map_eq_some_iff] at hr
  obtain ⟨ls, hl, rfl⟩ := hr
  obtain ⟨acc, e, hb, hfin⟩ := readLines_diff nc d ls {} (Or.inl rfl) hw hc hl
  unfold V1.readDiffM
  rw [unlines, splitOn_unlines ls (diffLines_noNL nc d ls hc hl),
    readLines_append nc ls [""] _ _ e]
  simp only [V1.readLines, readLine_empty]
  have hf0 : flushOut ({} : V1.RAcc) = [] := rfl
  rw [hf0, List.nil_append] at hfin
  rcases hb with h | ⟨h | h, hck⟩
  · simp only [flushOut, h, if_true] at hfin
    simp [h, hfin]
  · simp only [flushOut, h] at hfin
    simp [h, hck]
    exact hfin
  · simp only [flushOut, h] at hfin
    simp [h, hck]
    exact hfin

end Text

end Jd.V1S
