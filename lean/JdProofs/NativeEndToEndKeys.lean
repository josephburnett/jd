/-
  JdProofs.NativeEndToEndKeys (+ JdProofs.NativeEndToEndKeysB: non-vacuity and witnesses) — property
  C02 end to end, "a diff printed by `jd -setkeys k1,k2 a b` and applied with `jd -p` turns a into b",
  for the SetKeys reading (sets of objects identified by keys), strict strategy.  Namespace `Jd.E2EK`.
  All theorems are about the LIBRARY functions `diffM`, `renderM nc []`, `readDiffM nc`, `patchM`,
  `equals` of the model and the hash-free specification `equivB`.

  Options: `dispatchTag o = .set`, `keysOf o = some ks` (in particular `[SetKeys(ks...)]`),
  `isMerge o = false`; for the end-to-end theorem also `precOf o = 0`.

  1. The shape of the generated hunks (sections 1–4).  `Nav K ks q a`: the path `q` NAVIGATES the first
     document: object keys of `a`; keyed-member elements whose object is `DPK.pathObjOf ks kvs` for a
     member `kvs` of the array at hand (`null` for the keys it lacks — `newPathSetKeys`); possibly a
     final key from `K` (a key only `b` has) or, at an array, the final `{}` of a set hunk.
     `diffM_khunk` (from the induction `E2ES.gdiff_ok`): every hunk of `a.Diff(b)` is `KHunk` (strict, no context lines, a `Nav`
     path, no void entry except `+ void` at the root, payloads LITERALLY sub-terms of `a` or `b`).
     Unlike the SET reading (`E2ES.diffM_shunk`) the diff DOES descend below keyed members, and the
     induction needs NO hash hypothesis, no `wf`, nothing on the precision.
     `diffM_readable_setkeys`, `diffM_carried_setkeys` (`ks ≠ []`): hence the text carries the diff
     (`E2E.Readable`, `E2E.Carried`).  `Nav.textOK`: a plain document of the domain of
     the text round trip meets the path contract on all its navigation paths.
  2. `diff_text_lossless_setkeys`, `text_outcome_eq_memory`: the text is read back as a diff with the
     same text and EXACTLY the same effect on every document.  Hypotheses: `ks ≠ []`, `rawDoc`,
     `E2E.voidFree`, the codec contract.  No hash hypothesis, no `wf`, no float law.
  3. `diff_render_read_patch_setkeys`, `diff_print_read_patch_setkeys` (total form),
     `patchM_readDiffM_SetKeys` (option list `[SetKeys(ks...)]`): the end-to-end theorem; the result is
     the SAME document as the one the in-memory patch gives.

  HYPOTHESES of 3
     `ks ≠ []`: NEEDED (`EmptyKeys.emptyKeys_witness`).  With `SetKeys()` every object has the same
       identity, `Diff` addresses members through `PathSetKeys{}`, rendered `{}`, which `NewPath` reads
       as `PathSet`: `[{"a":"x"}]` → `[{"a":"y"}]` prints `@ [{},"a"] / - "x" / + "y"`, read back without
       error, and `Patch` of it returns an ERROR (replayed on the Go library v2 with `jd.SetKeys()`).
       Not reachable from the command line (`-setkeys ""` means no option).
     `a.setDoc`, `b.setDoc`: documents as read from JSON text.
     `E2E.voidFree a`, `E2E.voidFree b`: NEEDED beyond `DPL.memOK`
       (`VoidWitness.void_element_witness_setkeys`: `[void]` → `[]`, the text `@ [{}]` is rejected).
     `DPK.KeysHyp o ks a b` (decidable): the hypotheses of the in-memory theorem C01.  `KeyTuple`,
       `KeyedDistinct`, `PathFaithful` are necessary END TO END with the same outcome, because the text
       is lossless: `KeysHypNeeded.identperm_breaks_text`, `duplicate_member_breaks_text`,
       `null_completion_breaks_text`.  `HashFaithful` / `KindSepI` / `IdentInj` are the hash-collision
       class (KF-C04); not shown necessary here.
     `precOf o = 0`, `FloatEq0`, `FloatLaws`: inherited from the in-memory theorem; whether
       `precOf o = 0` is necessary was not decided.
     the codec contract on the sub-terms and on the paths of the diff, as in `Jd.E2E` / `Jd.E2ES`.

  `Example.ex_keys_end_to_end` (`SetKeys("id","k")`, a set hunk nested below a keyed member),
  `Example.ex3_keys_end_to_end` (members LACKING set keys): every hypothesis proved, only
  `FloatLaws` / `FloatEq0` remain.
  NOT PROVED here: SetKeys with MERGE; a Precision option with SetKeys (JdProofs.NativeEndToEndPrecision);
  colour output; anything under a hash collision.
-/
import JdModel
import JdSpec
import JdProofs.NativeRoundTrip
import JdProofs.Robust
import JdProofs.NativeEndToEnd
import JdProofs.NativeEndToEndSet
import JdProofs.SetDiffPatch
import JdProofs.DiffEmptySet
import JdProofs.RealDiff
import JdProofs.RealDiffSet
import JdProofs.DiffPatchKeys
import JdProofs.SetPrecision

set_option linter.unusedVariables false

namespace Jd.E2EK
open Jd Jd.Spec Jd.NativeRT Jd.Robust Jd.SetDP

/-! ## 1. paths of the SetKeys reading: navigation in the first document -/

/-- `Nav K ks q a`: the path `q` of a hunk of `a.Diff(b, SetKeys(ks...))`, read in the FIRST document
    `a`.  It descends through object keys of `a` and through keyed-member elements `{"k":v,…}` whose
    object is the path object `newPathSetKeys` builds for an object member of the array at hand
    (`DPK.pathObjOf ks kvs`: the values of the set keys the member carries, `null` for the others);
    it may end at a key the object lacks (taken from `K`: a member that only the second document has)
    or, at an array, with the `{}` of a set hunk. -/
inductive Nav (K ks : List String) : Path → Json → Prop
  | nil (a : Json) : Nav K ks [] a
  | key {k : String} {v : Json} {kvs : List (String × Json)} {r : Path} :
      (k, v) ∈ kvs → Nav K ks r v → Nav K ks (.key k :: r) (.obj kvs)
  | newKey {k : String} (kvs : List (String × Json)) : k ∈ K → Nav K ks [.key k] (.obj kvs)
  | member {t : Tag} {xs : List Json} {kvs : List (String × Json)} {r : Path} :
      Json.obj kvs ∈ xs → Nav K ks r (.obj kvs) →
      Nav K ks (.setKeys (DPK.pathObjOf ks kvs) :: r) (.arr t xs)
  | setLeaf (t : Tag) (xs : List Json) : Nav K ks [.set] (.arr t xs)

/-- what the induction establishes of every hunk of a strict diff in the SetKeys reading;
    `a` is the node of the first document the hunk belongs to, `p` the path prefix of that node, `S`
    a list of nodes containing the sub-terms of both documents -/
structure KHunk (S : List Json) (K ks : List String) (a : Json) (p : Path) (h : Hunk) : Prop where
  strict : h.merge = false
  before : h.before = []
  after : h.after = []
  path : ∃ q, Nav K ks q a ∧ h.path = p ++ q ∧
    ((h.remove.length ≤ 1 ∧ h.add.length ≤ 1) ∨ ∃ q', q = q' ++ [.set])
  remNV : ∀ v ∈ h.remove, v.isVoid = false
  addNV : (∀ v ∈ h.add, v.isVoid = false) ∨ (h.path = [] ∧ h.add.length ≤ 1)
  some : h.remove ≠ [] ∨ ∃ v ∈ h.add, v.isVoid = false
  pay : ∀ v ∈ h.remove ++ h.add, v.isVoid = true ∨ (v.rawDoc = true ∧ v ∈ S)

/-! ## 2. the induction over the strict diff in the SetKeys reading -/

theorem _root_.Jd.E2ES.GNav.nav {ks : List String} (hd : dispatchTag o = .set) (hk : keysOf o = some ks)
    {q : Path} {a : Json} (h : E2ES.GNav o K True q a) : Nav K ks q a := by
  induction h with
  | nil a => exact .nil a
  | key hm _ ih => exact .key hm ih
  | newKey kvs hk' => exact .newKey kvs hk'
  | member _ hx _ ih => rw [DPK.newPathSetKeys_some hk]; exact .member hx ih
  | leaf t xs he =>
    rcases he with ⟨_, rfl⟩ | ⟨hm, _⟩
    · exact .setLeaf t xs
    · rw [hd] at hm; cases hm

theorem _root_.Jd.E2ES.GHunk.khunk {ks : List String} (hd : dispatchTag o = .set) (hk : keysOf o = Option.some ks)
    {a : Json} {p : Path} {h : Hunk} (H : E2ES.GHunk o S K True a p h) : KHunk S K ks a p h := by
  obtain ⟨q, hq, hpath, hmul⟩ := H.path
  refine ⟨H.strict, H.before, H.after, ⟨q, hq.nav hd hk, hpath, hmul.imp id ?_⟩,
    H.remNV, H.addNV, H.some, H.pay⟩
  rintro ⟨q', e, rfl, ⟨_, rfl⟩ | ⟨hm, _⟩⟩
  · exact ⟨q', rfl⟩
  · rw [hd] at hm; cases hm



/-! ## 3. a generated hunk satisfies the premises of the round-trip theorems -/

theorem rawDocKvs_ainsert (k : String) (v : Json) (hv : v.rawDoc = true)
    (kvs : List (String × Json)) (h : rawDocKvs kvs = true) :
    rawDocKvs (ainsert k v kvs) = true := by
  rw [rawDocKvs_eq_all] at h ⊢; exact all_ainsert hv h

theorem keyVal_rawDoc {kvs : List (String × Json)} (h : rawDocKvs kvs = true) (k : String) :
    (DPK.keyVal kvs k).rawDoc = true := by
  unfold DPK.keyVal
  cases hl : alookup k kvs with
  | none => rfl
  | some v => exact DES.rawDocKvs_mem h (mem_of_alookup hl)

theorem pathFold_rawDoc {kvs : List (String × Json)} (h : rawDocKvs kvs = true) :
    ∀ (ks : List String) (acc : List (String × Json)), rawDocKvs acc = true →
      rawDocKvs (ks.foldl (fun acc k => ainsert k (DPK.keyVal kvs k) acc) acc) = true
  | [], _, ha => ha
  | k :: r, acc, ha => pathFold_rawDoc h r _ (rawDocKvs_ainsert k _ (keyVal_rawDoc h k) acc ha)

/-- the path object of a document as read from text is one -/
theorem pathObjOf_rawDoc {kvs : List (String × Json)} (h : rawDocKvs kvs = true)
    (ks : List String) : rawDocKvs (DPK.pathObjOf ks kvs) = true :=
  pathFold_rawDoc h ks [] rfl

/-- with at least one set key the path object is not `{}` (a key the member lacks is written
    with the value `null`) -/
theorem pathObjOf_nonempty {ks : List String} (hks : ks ≠ []) (kvs : List (String × Json)) :
    (DPK.pathObjOf ks kvs).isEmpty = false := by
  cases ks with
  | nil => exact absurd rfl hks
  | cons k r =>
    have := DPK.pathObjOf_lookup (k :: r) kvs k
    simp only [List.mem_cons, true_or, if_true] at this
    cases hpo : DPK.pathObjOf (k :: r) kvs with
    | nil => rw [hpo] at this; simp [alookup] at this
    | cons _ _ => rfl

/-- a navigation path has no list index -/
theorem Nav.idxOK {K ks : List String} {q : Path} {a : Json} (h : Nav K ks q a) :
    idxOK q = true := by
  induction h with
  | nil _ => rfl
  | key _ _ ih => simpa [NativeRT.idxOK] using ih
  | newKey _ _ => rfl
  | member _ _ ih => simpa [NativeRT.idxOK] using ih
  | setLeaf _ _ => rfl

/-- … its key objects are plain documents, and not `{}` when there is at least one set key -/
theorem Nav.facts {K ks : List String} (hks : ks ≠ []) {q : Path} {a : Json} (h : Nav K ks q a) :
    a.rawDoc = true →
      noEmptySetKeysP q = true ∧ rawDocPath q = true := by
  induction h with
  | nil _ => exact fun _ => ⟨rfl, rfl⟩
  | @key k v kvs r hm _ ih =>
    intro hr
    simp only [Json.rawDoc] at hr
    obtain ⟨h2, h3⟩ := ih (DES.rawDocKvs_mem hr hm)
    exact ⟨by simpa [noEmptySetKeysP] using h2, by simpa [rawDocPath] using h3⟩
  | newKey _ _ => exact fun _ => ⟨rfl, rfl⟩
  | @member t xs kvs r hm _ ih =>
    intro hr
    simp only [Json.rawDoc, Bool.and_eq_true] at hr
    have hro := DES.rawDocList_mem hr.2 hm
    obtain ⟨h2, h3⟩ := ih hro
    simp only [Json.rawDoc] at hro
    have hraw := pathObjOf_rawDoc hro ks
    have hne := pathObjOf_nonempty hks kvs
    refine ⟨?_, ?_⟩
    · simp only [noEmptySetKeysP, List.all_cons, hne, Bool.not_false, Bool.true_and] at h2 ⊢
      exact h2
    · simp only [rawDocPath, List.all_cons, hraw, Bool.true_and] at h3 ⊢
      exact h3
  | setLeaf _ _ => exact fun _ => ⟨rfl, rfl⟩

/-- the path object of a member of a document in the domain of the text round trip
    (`JText.preOK`) is in that domain: sorted keys, values of the member or `null` -/
theorem pathObjOf_preOK (nc : NumCodec) {kvs : List (String × Json)}
    (h : JText.preOK nc (.obj kvs) = true) (ks : List String) :
    JText.preOK nc (.obj (DPK.pathObjOf ks kvs)) = true := by
  have hv : ∀ k, JText.preOK nc (DPK.keyVal kvs k) = true := fun k => by
    unfold DPK.keyVal
    cases hl : alookup k kvs with
    | none => rfl
    | some v =>
      simp only [JText.preOK, Bool.and_eq_true, E2E.preOKKvs_forall] at h
      exact h.2 _ (mem_of_alookup hl)
  have fold : ∀ (ks : List String) (acc : List (String × Json)), keysSorted acc = true →
      (∀ kv ∈ acc, JText.preOK nc kv.2 = true) →
      JText.preOK nc (.obj (ks.foldl (fun acc k => ainsert k (DPK.keyVal kvs k) acc) acc)) = true := by
    intro ks
    induction ks with
    | nil =>
      intro acc h1 h2
      simp only [List.foldl_nil, JText.preOK, Bool.and_eq_true, E2E.preOKKvs_forall]
      exact ⟨h1, h2⟩
    | cons k r ih =>
      intro acc h1 h2
      refine ih _ (keysSorted_ainsert k _ h1) (fun kv hkv => ?_)
      rcases mem_ainsert hkv with rfl | hkv
      · exact hv k
      · exact h2 kv hkv
  exact fold ks [] rfl (fun _ h => by cases h)

/-- … hence so is the JSON form of every navigation path of such a document -/
theorem Nav.preOK (nc : NumCodec) {K ks : List String} {q : Path} {a : Json} (h : Nav K ks q a) :
    JText.preOK nc a = true → JText.preOK nc (pathToJson q) = true := by
  induction h with
  | nil _ => exact fun _ => rfl
  | @key k v kvs r hm _ ih =>
    intro ha
    simp only [JText.preOK, Bool.and_eq_true, E2E.preOKKvs_forall] at ha
    have := ih (ha.2 _ hm)
    simpa [pathToJson, JText.preOK, JText.preOKList] using this
  | newKey _ _ => exact fun _ => rfl
  | @member t xs kvs r hm _ ih =>
    intro ha
    simp only [JText.preOK, JText.preOKList_forall] at ha
    have hpo := pathObjOf_preOK nc (ha _ hm) ks
    have := ih (ha _ hm)
    simp only [pathToJson, List.map_cons, JText.preOK, JText.preOKList, Bool.and_eq_true] at this hpo ⊢
    exact ⟨hpo, this⟩
  | setLeaf _ _ => exact fun _ => rfl

/-- **the codec contract on the navigation paths** of a plain document of that domain: the path
    hypothesis of the theorems below (through `diffM_pathOK_of_inputs_setkeys`) needs nothing
    beyond it -/
theorem Nav.textOK (nc : NumCodec) {K ks : List String} (hks : ks ≠ []) {q : Path} {a : Json}
    (h : Nav K ks q a) (hr : a.rawDoc = true) (hp : JText.preOK nc a = true) :
    (jsonM nc (pathToJson q)).isSome = true ∧ PathOK nc q :=
  E2E.path_textOK nc q (h.preOK nc hp) (E2E.setFree_pathToJson q (E2E.listDocPath_of_rawDocPath q (h.facts hks hr).2))

section
variable {S : List Json} {K ks : List String} {a : Json} {h : Hunk}

theorem KHunk.nav (hk : KHunk S K ks a [] h) : Nav K ks h.path a := by
  obtain ⟨q, hq, hpath, _⟩ := hk.path
  rw [hpath, List.nil_append]
  exact hq

theorem KHunk.pathFacts (hks : ks ≠ []) (ha : a.rawDoc = true) (hk : KHunk S K ks a [] h) :
    noEmptySetKeysP h.path = true ∧ rawDocPath h.path = true :=
  hk.nav.facts hks ha

theorem KHunk.wfHunk (hk : KHunk S K ks a [] h) : wfHunk h = true := by
  refine E2E.wfHunk_of_strict hk.strict hk.remNV hk.nav.idxOK (by rw [hk.before]; simp) hk.some ?_
  obtain ⟨q, _, hpath, hmul⟩ := hk.path
  refine hmul.imp id (fun ⟨q', hq'⟩ => ?_)
  rw [hpath, hq', List.nil_append]
  exact E2E.multiLast_snoc _ rfl

theorem KHunk.voidOK (hk : KHunk S K ks a [] h) : voidOK h = true :=
  E2E.voidOK_of_strict hk.strict hk.remNV hk.addNV

theorem KHunk.rawHunk (hks : ks ≠ []) (ha : a.rawDoc = true) (hk : KHunk S K ks a [] h) :
    rawHunk h = true :=
  E2ES.rawHunk_of_pay hk.before hk.after hk.pay (hk.pathFacts hks ha).2

theorem KHunk.payloads (hk : KHunk S K ks a [] h) : ∀ v ∈ payloads h, v ∈ S :=
  E2ES.payloads_of_pay hk.before hk.after hk.pay

end

/-! ## 4. SetKeys reading, strict strategy: the text carries `a.Diff(b)` -/

theorem kidsNV_of_voidFree {x : Json} (hv : E2E.voidFree x = true) :
    ∀ z ∈ subterms x, E2E.KidsNV z := fun z hz => (E2ES.kidsKeys_of_voidFree hv _ (fun _ h => h) z hz).1

/-- **the generated hunks** (`KHunk`): strict; no context; a path that navigates the first document
    (`Nav`: keys, keyed-member elements `{"k":v,…}` built from a member of the array at hand, a final
    key of the second document, a final `{}` at an array); several removed / added values only with
    the final `{}`; no void entry except the `+ void` of an object replaced by the absent document
    at the root; at least one `-` / `+` line; every payload value is a plain document and a
    sub-term of `a` or `b`.  No hash hypothesis, no `wf`, nothing on the precision. -/
theorem diffM_khunk {o : Opts} {ks : List String} (hd : dispatchTag o = .set)
    (hk : keysOf o = some ks) (hmg : isMerge o = false)
    (a b : Json) (ha : a.rawDoc = true) (hb : b.rawDoc = true)
    (hva : E2E.voidFree a = true) (hvb : E2E.voidFree b = true) :
    ∀ h ∈ diffM o a b, KHunk (subterms a ++ subterms b) (E2E.docKeys b) ks a [] h := by
  intro h hh
  unfold diffM at hh
  rw [hmg] at hh
  exact (E2ES.gdiff_ok (.inl hd) (kidsNV_of_voidFree hva)
    (E2ES.kidsKeys_of_voidFree hvb _ (fun k hk => hk)) (.inl trivial)
    a ha (DES.within_subterms a) b hb (DES.within_subterms b) [] (fun _ => rfl) h hh).khunk hd hk

/-- the reader's domain needs no hypothesis on the set keys: also with `SetKeys()` (no key) the
    hunk sequence is `wfDiff`, every payload value is (literally) a sub-term of `a` or of `b`, every
    path navigates `a` — what fails then is `noEmptySetKeys` (section 7) -/
theorem diffM_readable_setkeys {o : Opts} {ks : List String} (hd : dispatchTag o = .set)
    (hk : keysOf o = some ks) (hmg : isMerge o = false)
    (a b : Json) (ha : a.rawDoc = true) (hb : b.rawDoc = true)
    (hva : E2E.voidFree a = true) (hvb : E2E.voidFree b = true) :
    E2E.Readable (· ∈ subterms a ++ subterms b) (Nav (E2E.docKeys b) ks · a) (diffM o a b) := by
  have key := diffM_khunk hd hk hmg a b ha hb hva hvb
  exact ⟨E2E.wfDiff_of_strict (fun h hh => (key h hh).wfHunk) (fun h hh => (key h hh).strict),
    fun h hh => (key h hh).payloads, fun h hh => (key h hh).nav⟩

/-- the input-level form of the path hypothesis: the contract on all paths that navigate `a`
    (finitely many: `Nav` follows the structure of `a`) -/
theorem diffM_pathOK_of_inputs_setkeys {P : Path → Prop} {o : Opts} {ks : List String}
    (hd : dispatchTag o = .set) (hk : keysOf o = some ks) (hmg : isMerge o = false)
    (a b : Json) (ha : a.rawDoc = true) (hb : b.rawDoc = true)
    (hva : E2E.voidFree a = true) (hvb : E2E.voidFree b = true)
    (hpaths : ∀ p, Nav (E2E.docKeys b) ks p a → P p) :
    ∀ h ∈ diffM o a b, P h.path :=
  fun h hh => hpaths _ ((diffM_readable_setkeys hd hk hmg a b ha hb hva hvb).path h hh)

/-- **with at least one set key the text carries `a.Diff(b)` with exactly its effect**: every hunk is
    tag-free (`rawHunk`), has no `{}`-keyed path element, harmless void entries -/
theorem diffM_carried_setkeys {o : Opts} {ks : List String} (hd : dispatchTag o = .set)
    (hk : keysOf o = some ks) (hmg : isMerge o = false) (hks : ks ≠ [])
    (a b : Json) (ha : a.rawDoc = true) (hb : b.rawDoc = true)
    (hva : E2E.voidFree a = true) (hvb : E2E.voidFree b = true) :
    E2E.Carried (· ∈ subterms a ++ subterms b) (Nav (E2E.docKeys b) ks · a) (diffM o a b) := by
  have key := diffM_khunk hd hk hmg a b ha hb hva hvb
  refine ⟨diffM_readable_setkeys hd hk hmg a b ha hb hva hvb, ?_, ?_, ?_⟩
  · rw [List.all_eq_true]; exact fun h hh => (key h hh).rawHunk hks ha
  · unfold Robust.noEmptySetKeys
    rw [List.all_eq_true]; exact fun h hh => ((key h hh).pathFacts hks ha).1
  · rw [List.all_eq_true]; exact fun h hh => (key h hh).voidOK

/-! ## 5. the text is a lossless carrier; the end-to-end theorem -/

/-- **C02 for every diff PRODUCED by `Diff` in the SetKeys reading (strict strategy, at least one
    set key): the text is a lossless carrier.** The printed text of `a.Diff(b, SetKeys(ks...))` is
    read back as a diff that renders to the IDENTICAL text and has EXACTLY the same effect as
    `a.Diff(b)` on EVERY document `c` (whatever its array tags).  The only hypotheses on the
    documents: plain arrays (`rawDoc`) and no void constituent; no hash hypothesis at all. -/
theorem diff_text_lossless_setkeys (nc : NumCodec) {o : Opts} {ks : List String}
    (hd : dispatchTag o = .set) (hk : keysOf o = some ks) (hmg : isMerge o = false)
    (hks : ks ≠ []) (a b : Json) (ha : a.rawDoc = true) (hb : b.rawDoc = true)
    (hva : E2E.voidFree a = true) (hvb : E2E.voidFree b = true)
    (hv : ∀ z ∈ subterms a ++ subterms b, ValOK nc z)
    (hpth : ∀ h ∈ diffM o a b, PathOK nc h.path)
    (text : String) (hr : renderM nc [] (diffM o a b) = some text) :
    ∃ d', readDiffM nc text = .ok d' ∧ renderM nc [] d' = some text ∧
      ∀ c : Json, patchM c d' = patchM c (diffM o a b) :=
  ⟨_, (diffM_carried_setkeys hd hk hmg hks a b ha hb hva hvb).lossless nc hv hpth text hr⟩

/-- **C02 end to end, SetKeys reading, strict strategy.** The text printed for
    `a.Diff(b, SetKeys(ks...))` is read back as a diff `d'`, and the LIBRARY's `a.Patch(d')` succeeds
    with a document that `Equals` `b` under the options of the diff, is equivalent to `b` (`equivB`)
    and has the hash code of `b`; it is the SAME document as the one the in-memory patch gives. -/
theorem diff_render_read_patch_setkeys (F : FloatEq0) (L : FloatLaws) (nc : NumCodec) (o : Opts)
    (ks : List String) (hd : dispatchTag o = .set) (hk : keysOf o = some ks)
    (hmg : isMerge o = false) (hp : precOf o = 0) (hks : ks ≠ []) (a b : Json)
    (ha : a.setDoc = true) (hb : b.setDoc = true)
    (hva : E2E.voidFree a = true) (hvb : E2E.voidFree b = true)
    (KH : DPK.KeysHyp o ks a b)
    (hv : ∀ z ∈ subterms a ++ subterms b, ValOK nc z)
    (hpth : ∀ h ∈ diffM o a b, PathOK nc h.path)
    (text : String) (hr : renderM nc [] (diffM o a b) = some text) :
    ∃ d', readDiffM nc text = .ok d' ∧ d' = normDiff (diffM o a b) ∧
      ∃ r, patchM a d' = .ok r ∧ patchM a (diffM o a b) = .ok r ∧
        equals o r b = true ∧ equivB o r b = true ∧ hashCode o r = hashCode o b := by
  have C := diffM_carried_setkeys hd hk hmg hks a b (SP.rawDoc_of_setDoc ha)
    (SP.rawDoc_of_setDoc hb) hva hvb
  obtain ⟨r, hr1, hr2, hr3, hr4⟩ := DPK.diff_then_patch_setkeys F L true o ks hd hk hmg hp a b ha hb
    (E2E.memOK_of_voidFree hva) (E2E.memOK_of_voidFree hvb) KH
  exact ⟨_, C.read nc hv hpth text hr, rfl, r, (C.effect a).trans hr1, hr1, hr2, hr3, hr4⟩

/-- **C02 end to end, SetKeys reading, total form**: the text EXISTS, is read back, and the diff
    read back patches `a` to a document equal to `b` -/
theorem diff_print_read_patch_setkeys (F : FloatEq0) (L : FloatLaws) (nc : NumCodec) (o : Opts)
    (ks : List String) (hd : dispatchTag o = .set) (hk : keysOf o = some ks)
    (hmg : isMerge o = false) (hp : precOf o = 0) (hks : ks ≠ []) (a b : Json)
    (ha : a.setDoc = true) (hb : b.setDoc = true)
    (hva : E2E.voidFree a = true) (hvb : E2E.voidFree b = true)
    (KH : DPK.KeysHyp o ks a b)
    (hv : ∀ z ∈ subterms a ++ subterms b, (marshalNode nc z).isSome = true ∧ ValOK nc z)
    (hpth : ∀ h ∈ diffM o a b, (jsonM nc (pathToJson h.path)).isSome = true ∧ PathOK nc h.path) :
    ∃ text d' r, renderM nc [] (diffM o a b) = some text ∧ readDiffM nc text = .ok d' ∧
      patchM a d' = .ok r ∧ equals o r b = true ∧ equivB o r b = true := by
  obtain ⟨text, ht⟩ := (diffM_readable_setkeys hd hk hmg a b (SP.rawDoc_of_setDoc ha)
    (SP.rawDoc_of_setDoc hb) hva hvb).renders nc (fun z hz => (hv z hz).1) (fun h hh => (hpth h hh).1)
  obtain ⟨d', h1, _, r, h2, _, h3, h4, _⟩ := diff_render_read_patch_setkeys F L nc o ks hd hk hmg hp
    hks a b ha hb hva hvb KH (fun z hz => (hv z hz).2) (fun h hh => (hpth h hh).2) text ht
  exact ⟨text, d', r, ht, h1, h2, h3, h4⟩

/-- the library call with the option list `[SetKeys(ks...)]` (what `jd -setkeys k1,k2 a b` passes;
    the command line rejects an empty key list) -/
theorem patchM_readDiffM_SetKeys (F : FloatEq0) (L : FloatLaws) (nc : NumCodec)
    (ks : List String) (hks : ks ≠ []) (a b : Json)
    (ha : a.setDoc = true) (hb : b.setDoc = true)
    (hva : E2E.voidFree a = true) (hvb : E2E.voidFree b = true)
    (KH : DPK.KeysHyp [.setKeys ks] ks a b)
    (hv : ∀ z ∈ subterms a ++ subterms b, ValOK nc z)
    (hpth : ∀ h ∈ diffM [.setKeys ks] a b, PathOK nc h.path)
    (text : String) (hr : renderM nc [] (diffM [.setKeys ks] a b) = some text) :
    ∃ d', readDiffM nc text = .ok d' ∧
      ∃ r, patchM a d' = .ok r ∧ equals [.setKeys ks] r b = true ∧
        equivB [.setKeys ks] r b = true := by
  obtain ⟨d', h1, _, r, h2, _, h3, h4, _⟩ := diff_render_read_patch_setkeys F L nc [.setKeys ks] ks
    rfl rfl rfl rfl hks a b ha hb hva hvb KH hv hpth text hr
  exact ⟨d', h1, r, h2, h3, h4⟩

/-- the text pipeline gives exactly the outcome of the in-memory patch (total form of
    `diff_text_lossless_setkeys` on the source document) -/
theorem text_outcome_eq_memory (nc : NumCodec) {o : Opts} {ks : List String}
    (hd : dispatchTag o = .set) (hk : keysOf o = some ks) (hmg : isMerge o = false)
    (hks : ks ≠ []) (a b : Json) (ha : a.rawDoc = true) (hb : b.rawDoc = true)
    (hva : E2E.voidFree a = true) (hvb : E2E.voidFree b = true)
    (hv : ∀ z ∈ subterms a ++ subterms b, (marshalNode nc z).isSome = true ∧ ValOK nc z)
    (hpth : ∀ h ∈ diffM o a b, (jsonM nc (pathToJson h.path)).isSome = true ∧ PathOK nc h.path) :
    ∃ text d', renderM nc [] (diffM o a b) = some text ∧ readDiffM nc text = .ok d' ∧
      ∀ c : Json, patchM c d' = patchM c (diffM o a b) :=
  have ⟨text, h1, h2, h3⟩ :=
    (diffM_carried_setkeys hd hk hmg hks a b ha hb hva hvb).print_read nc hv hpth
  ⟨text, _, h1, h2, h3⟩

end Jd.E2EK

/-! ### axioms -/
#print axioms Jd.E2EK.diffM_khunk
#print axioms Jd.E2EK.diffM_readable_setkeys
#print axioms Jd.E2EK.diffM_carried_setkeys
#print axioms Jd.E2EK.diffM_pathOK_of_inputs_setkeys
#print axioms Jd.E2EK.diff_text_lossless_setkeys
#print axioms Jd.E2EK.diff_render_read_patch_setkeys
#print axioms Jd.E2EK.diff_print_read_patch_setkeys
#print axioms Jd.E2EK.patchM_readDiffM_SetKeys
#print axioms Jd.E2EK.text_outcome_eq_memory
