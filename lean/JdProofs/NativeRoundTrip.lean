/-
  JdProofs.NativeRoundTrip (namespace `Jd.NativeRT`) — property C02: rendering a diff in the native
  jd format and reading it back gives a diff that renders to the identical text and has the
  identical effect.

  encoding/json (the JSON text of payload values and of the path) is external code: the theorems are
  stated relative to an explicit contract about the payloads / paths of the diff at hand (`CodecOK`;
  `JText.codecOK` discharges it from decidable hypotheses). What is proved here is jd's own text
  logic: the line structure (`strings.Split(s, "\n")` of the rendered text, through `String.splitOn`,
  computed by JdProofs/SplitOn.lean), the 7-state reader automaton with the
  generated transition / flush / open / close / non-terminal tables, the `@` and `^` headers, the
  `[` / `]` boundary markers, the bare `+` line of a merge deletion, the metadata line and its
  inheritance, `checkDiffElement`, and the path ↔ JSON mapping `Path.JsonNode` / `NewPath`.

    `normHunk` / `normDiff`  what reading back can at most change: payload values `untag`ged, the key
                             objects of `{"k":v}` / `[{"k":v}]` path elements `untag`ged, the path
                             element `.setKeys []` ↦ `.set` (both are written `{}`), entries that
                             render as nothing dropped (void in `remove`; void in `add` of a strict
                             hunk). `untag`, not `rawNorm`: for payloads with set / multiset typed
                             nodes inside objects the contract `CodecOK` cannot hold (the text is
                             sorted by `rawNorm`), so they are outside `read_render` by hypothesis,
                             and `render_norm` asks for `listDocHunk` explicitly.
    `wfHunk`                 the domain (Bool): path indices survive float64 (`idxOK`, implied by
                             |i| < 2^53: `idxOK_of_bound`); a void `before` entry only in first
                             position (`[` is accepted only right after `@`); at least one `-` / `+`
                             line is rendered; `checkDiffElement` on what is rendered. Nothing is asked
                             of `after`, of void entries in `remove` / strict `add`, nor of the `add`
                             of a merge hunk (any list, void entries are bare `+` lines).
                             (A hunk rendering only context lines is accepted by the reader as the last
                             hunk if it has no `after`; that corner is not covered.)
    `wfDiff`                 all hunks `wfHunk`, and no strict hunk after a merge hunk (`mergeMono`).
    `CodecOK nc d`           for every hunk: `PathOK` (the path text has no newline and is read back
                             as `untag (pathToJson path)`) and `ValOK` for every non-void payload value
                             (its text `t` has no newline and `ReadJsonString(" " ++ t)` is `untag v`).
                             Satisfiable: `exDiff_codecOK` (in JsonTextRoundTrip).

    `read_render_inherit`    d.all wfHunk → CodecOK nc d → renderM nc [] d = some text →
                             readDiffM nc text = .ok (inheritMerge false (normDiff d)): a `^` line
                             stays in force for the hunks that follow (`readLines_diff`, the invariant
                             of the reader over a sequence of hunks)
    `read_render`            wfDiff d → CodecOK nc d → renderM nc [] d = some text →
                             readDiffM nc text = .ok (normDiff d)
    `render_norm`            d.all listDocHunk → renderM nc [] (normDiff d) = renderM nc [] d
  The colour output (`Render(COLOR)`) is the subject of JdProofs/NativeColor.lean.
-/
import JdModel
import JdSpec
import JdProofs.StrictPatch
import JdProofs.YamlProofs
import JdProofs.SplitOn

set_option linter.deprecated false

namespace Jd.NativeRT
open Jd Jd.Spec

/-! ### 1. definitions -/

/-- what reading back does to one path element: `{}` is read as the plain set element, the key
    objects come back as plain documents -/
def normElem : PathElem → PathElem
  | .setKeys o => if o.isEmpty then .set else .setKeys (untagKvs o)
  | .msetKeys o => .msetKeys (untagKvs o)
  | e => e

def normPath (p : Path) : Path := p.map normElem

/-- the values that produce a `-` line -/
def remLines (h : Hunk) : List Json := h.remove.filter (fun v => !v.isVoid)

/-- the values that produce a `+` line: in a merge hunk every entry (void = the bare `+` of a
    deletion), in a strict hunk the non-void ones -/
def addLines (h : Hunk) : List Json := if h.merge then h.add else h.add.filter (fun v => !v.isVoid)

/-- what reading back can at most change -/
def normHunk (h : Hunk) : Hunk :=
  { merge := h.merge
    path := normPath h.path
    before := h.before.map untag
    remove := (remLines h).map untag
    add := (addLines h).map untag
    after := h.after.map untag }

def normDiff (d : Diff) : Diff := d.map normHunk

/-- path indices survive `float64 → int` -/
def idxOK : Path → Bool
  | [] => true
  | .idx i :: r => (floatTrunc (intToFloatBits i) == i) && idxOK r
  | _ :: r => idxOK r

/-- the last path element admits several removed / added values (the test of `checkDiffElement`) -/
def multiLast (p : Path) : Bool :=
  match p.getLast? with
  | none => false
  | some e => Gen.multiValueKinds.contains (pathElemKind e)

/-- the domain, per hunk -/
def wfHunk (h : Hunk) : Bool :=
  idxOK h.path
  -- `[` only right after `@`
  && (h.before.drop 1).all (fun v => !v.isVoid)
  -- at least one `-` / `+` line
  && (!(remLines h).isEmpty || !(addLines h).isEmpty)
  -- `checkDiffElement` on what is rendered
  && ((decide ((addLines h).length ≤ 1) && decide ((remLines h).length ≤ 1)) || multiLast h.path)

/-- no strict hunk after a merge hunk (starting with inherited flag `m`) -/
def mergeMono : Bool → Diff → Bool
  | _, [] => true
  | m, h :: r => (!m || h.merge) && mergeMono h.merge r

def wfDiff (d : Diff) : Bool := d.all wfHunk && mergeMono false d

/-- payload values: the non-void entries -/
def payloads (h : Hunk) : List Json :=
  (h.before ++ h.remove ++ h.add ++ h.after).filter (fun v => !v.isVoid)

/-- codec contract for one payload value -/
def ValOK (nc : NumCodec) (v : Json) : Prop :=
  ∀ t, marshalNode nc v = some t →
    '\n' ∉ t.toList ∧ readJsonM nc (" " ++ t) = .ok (untag v)

/-- codec contract for one path -/
def PathOK (nc : NumCodec) (p : Path) : Prop :=
  ∀ t, jsonM nc (pathToJson p) = some t →
    '\n' ∉ t.toList ∧ readJsonM nc (" " ++ t) = .ok (untag (pathToJson p))

def CodecOK (nc : NumCodec) (d : Diff) : Prop :=
  ∀ h ∈ d, PathOK nc h.path ∧ ∀ v ∈ payloads h, ValOK nc v

/-! ### 2. small facts -/

theorem untag_void_iff (v : Json) : (untag v).isVoid = v.isVoid := untag_isVoid v

theorem str_ofList_space (t : String) : String.ofList (' ' :: t.toList) = " " ++ t := by
  apply String.toList_inj.mp; simp

/-! ### 3. the path mapping -/

theorem pathElemKind_norm (e : PathElem) :
    Gen.multiValueKinds.contains (pathElemKind (normElem e)) =
      Gen.multiValueKinds.contains (pathElemKind e) := by
  cases e <;> simp only [normElem] <;> try rfl
  split
  · simp only [pathElemKind]; decide
  · simp only [pathElemKind]

theorem multiLast_norm (p : Path) : multiLast (normPath p) = multiLast p := by
  unfold multiLast normPath
  rw [List.getLast?_map]
  cases p.getLast? with
  | none => rfl
  | some e => simp only [Option.map_some]; exact pathElemKind_norm e

theorem newPathM_go_norm : ∀ p : Path, idxOK p = true →
    newPathM.go (untagList (p.map (fun e => match e with
      | .key k => Json.str k
      | .idx i => .num (intToFloatBits i)
      | .set => .obj []
      | .mset => .arr .raw []
      | .setKeys o => .obj o
      | .msetKeys o => .arr .raw [.obj o]))) = .ok (normPath p)
  | [], _ => by simp [untagList, newPathM.go, normPath]
  | e :: r, h => by
    have ih := newPathM_go_norm r
    cases e with
    | key k =>
      simp only [idxOK] at h
      simp [untagList, newPathM.go, untag, ih h, normPath, normElem] at *
    | idx i =>
      simp only [idxOK, Bool.and_eq_true, beq_iff_eq] at h
      simp [untagList, newPathM.go, untag, ih h.2, normPath, normElem, h.1] at *
    | set =>
      simp only [idxOK] at h
      simp [untagList, newPathM.go, untag, untagKvs, ih h, normPath, normElem] at *
    | mset =>
      simp only [idxOK] at h
      simp [untagList, newPathM.go, untag, ih h, normPath, normElem] at *
    | setKeys o =>
      simp only [idxOK] at h
      cases o with
      | nil => simp [untagList, newPathM.go, untag, untagKvs, ih h, normPath, normElem] at *
      | cons kv o =>
        obtain ⟨k, v⟩ := kv
        simp [untagList, newPathM.go, untag, untagKvs, ih h, normPath, normElem] at *
    | msetKeys o =>
      simp only [idxOK] at h
      simp [untagList, newPathM.go, untag, ih h, normPath, normElem] at *

theorem newPathM_norm (p : Path) (h : idxOK p = true) :
    newPathM (untag (pathToJson p)) = .ok (normPath p) := by
  simp only [pathToJson, untag, newPathM]
  exact newPathM_go_norm p h


/-! ### 4. the generated tables, as functions of the state -/

theorem allows_hat (st : RState) : readerAllows st (String.singleton '^') =
    (st == .init || st == .mt || st == .remove || st == .add || st == .after) := by
  cases st <;> decide
theorem allows_at (st : RState) : readerAllows st (String.singleton '@') =
    (st == .init || st == .mt || st == .remove || st == .add || st == .after) := by
  cases st <;> decide
theorem allows_open (st : RState) : readerAllows st (String.singleton '[') = (st == .at) := by
  cases st <;> decide
theorem allows_close (st : RState) : readerAllows st (String.singleton ']') =
    (st == .remove || st == .add || st == .after) := by
  cases st <;> decide
theorem allows_space (st : RState) : readerAllows st (String.singleton ' ') =
    (st == .before || st == .at || st == .remove || st == .add || st == .after) := by
  cases st <;> decide
theorem allows_minus (st : RState) : readerAllows st (String.singleton '-') =
    (st == .before || st == .at || st == .remove) := by
  cases st <;> decide
theorem allows_plus (st : RState) : readerAllows st (String.singleton '+') =
    (st == .before || st == .at || st == .remove || st == .add) := by
  cases st <;> decide
theorem flushes_hat (st : RState) : readerFlushes st (String.singleton '^') =
    (st == .remove || st == .add || st == .after) := by
  cases st <;> decide
theorem flushes_at (st : RState) : readerFlushes st (String.singleton '@') =
    (st == .remove || st == .add || st == .after) := by
  cases st <;> decide
theorem flushes_open (st : RState) : readerFlushes st (String.singleton '[') = false := by
  cases st <;> decide
theorem flushes_close (st : RState) : readerFlushes st (String.singleton ']') = false := by
  cases st <;> decide
theorem flushes_space (st : RState) : readerFlushes st (String.singleton ' ') = false := by
  cases st <;> decide
theorem flushes_minus (st : RState) : readerFlushes st (String.singleton '-') = false := by
  cases st <;> decide
theorem flushes_plus (st : RState) : readerFlushes st (String.singleton '+') = false := by
  cases st <;> decide
theorem openFrom_eq (st : RState) : Gen.readerOpenFrom.contains st.name = (st == .at) := by
  cases st <;> decide
theorem closeFrom_eq (st : RState) : Gen.readerCloseFrom.contains st.name =
    (st == .remove || st == .add || st == .after) := by
  cases st <;> decide
theorem nonTerminal_eq (st : RState) : Gen.readerNonTerminal.contains st.name =
    (st == .mt || st == .at) := by
  cases st <;> decide

/-! ### 5. one line -/

theorem readLine_rem (nc : NumCodec) (acc : RAcc) (t : String) (v : Json)
    (hst : acc.st = .at ∨ acc.st = .before ∨ acc.st = .remove)
    (hr : readJsonM nc (" " ++ t) = .ok v) :
    readLine nc acc ("- " ++ t) =
      .ok { acc with st := .remove, cur := { acc.cur with remove := acc.cur.remove ++ [v] } } := by
  have hl : ("- " ++ t).toList = '-' :: ' ' :: t.toList := by simp
  unfold readLine
  rw [hl]
  simp only [str_ofList_space, hr, allows_minus, flushes_minus]
  rcases hst with h | h | h <;> rw [h] <;> simp

theorem readLine_plus (nc : NumCodec) (acc : RAcc) (t : String) (v : Json)
    (hst : acc.st = .at ∨ acc.st = .before ∨ acc.st = .remove ∨ acc.st = .add)
    (hr : readJsonM nc (" " ++ t) = .ok v) :
    readLine nc acc ("+ " ++ t) =
      .ok { acc with st := .add, cur := { acc.cur with add := acc.cur.add ++ [v] } } := by
  have hl : ("+ " ++ t).toList = '+' :: ' ' :: t.toList := by simp
  unfold readLine
  rw [hl]
  simp only [str_ofList_space, hr, allows_plus, flushes_plus]
  rcases hst with h | h | h | h <;> rw [h] <;> simp

theorem readJsonM_empty (nc : NumCodec) : readJsonM nc "" = .ok .void := by rfl

theorem readLine_plusBare (nc : NumCodec) (acc : RAcc)
    (hst : acc.st = .at ∨ acc.st = .before ∨ acc.st = .remove ∨ acc.st = .add) :
    readLine nc acc "+" =
      .ok { acc with st := .add, cur := { acc.cur with add := acc.cur.add ++ [.void] } } := by
  have hl : ("+" : String).toList = ['+'] := by simp
  have he : String.ofList [] = "" := by simp
  unfold readLine
  rw [hl]
  simp only [he, readJsonM_empty, allows_plus, flushes_plus]
  rcases hst with h | h | h | h <;> rw [h] <;> simp

theorem readLine_ctxB (nc : NumCodec) (acc : RAcc) (t : String) (v : Json)
    (hst : acc.st = .at ∨ acc.st = .before)
    (hr : readJsonM nc (" " ++ t) = .ok v) :
    readLine nc acc ("  " ++ t) =
      .ok { acc with st := .before, cur := { acc.cur with before := acc.cur.before ++ [v] } } := by
  have hl : ("  " ++ t).toList = ' ' :: ' ' :: t.toList := by simp
  unfold readLine
  rw [hl]
  simp only [str_ofList_space, hr, allows_space, flushes_space]
  rcases hst with h | h <;> rw [h] <;> simp

theorem readLine_ctxA (nc : NumCodec) (acc : RAcc) (t : String) (v : Json)
    (hst : acc.st = .remove ∨ acc.st = .add ∨ acc.st = .after)
    (hr : readJsonM nc (" " ++ t) = .ok v) :
    readLine nc acc ("  " ++ t) =
      .ok { acc with st := .after, cur := { acc.cur with after := acc.cur.after ++ [v] } } := by
  have hl : ("  " ++ t).toList = ' ' :: ' ' :: t.toList := by simp
  unfold readLine
  rw [hl]
  simp only [str_ofList_space, hr, allows_space, flushes_space]
  rcases hst with h | h | h <;> rw [h] <;> simp

theorem readLine_open (nc : NumCodec) (acc : RAcc) (hst : acc.st = .at) :
    readLine nc acc "[" =
      .ok { acc with st := .before, cur := { acc.cur with before := acc.cur.before ++ [.void] } } := by
  have hl : ("[" : String).toList = ['['] := by simp
  unfold readLine
  rw [hl]
  simp only [allows_open, flushes_open, openFrom_eq]
  rw [hst]; simp

theorem readLine_close (nc : NumCodec) (acc : RAcc)
    (hst : acc.st = .remove ∨ acc.st = .add ∨ acc.st = .after) :
    readLine nc acc "]" =
      .ok { acc with st := .after, cur := { acc.cur with after := acc.cur.after ++ [.void] } } := by
  have hl : ("]" : String).toList = [']'] := by simp
  unfold readLine
  rw [hl]
  simp only [allows_close, flushes_close, closeFrom_eq]
  rcases hst with h | h | h <;> rw [h] <;> simp

theorem readLine_empty (nc : NumCodec) (acc : RAcc) : readLine nc acc "" = .ok acc := by
  have hl : ("" : String).toList = [] := by simp
  unfold readLine
  rw [hl]

/-- the accumulator is at a hunk boundary: nothing read yet, or a complete hunk is pending that
    passes `checkDiffElement` -/
def AtBoundary (acc : RAcc) : Prop :=
  acc.st = .init ∨ ((acc.st = .remove ∨ acc.st = .add ∨ acc.st = .after) ∧ checkHunk acc.cur = true)

/-- the hunks read so far, the pending one included -/
def flushOut (acc : RAcc) : Diff := if acc.st = .init then acc.out else acc.out ++ [acc.cur]

theorem readLine_at (nc : NumCodec) (acc : RAcc) (t : String) (n : Json) (p : Path)
    (hb : AtBoundary acc)
    (hr : readJsonM nc (" " ++ t) = .ok n) (hp : newPathM n = .ok p) :
    readLine nc acc ("@ " ++ t) =
      .ok { st := .at, cur := { merge := acc.cur.merge, path := p }, out := flushOut acc } := by
  have hl : ("@ " ++ t).toList = '@' :: ' ' :: t.toList := by simp
  unfold readLine
  rw [hl]
  simp only [str_ofList_space, hr, hp, allows_at, flushes_at, flushOut]
  rcases hb with h | ⟨h | h | h, hc⟩
  · rw [h]; simp
  all_goals (rw [h]; simp [hc])

theorem readLine_atMeta (nc : NumCodec) (acc : RAcc) (t : String) (n : Json) (p : Path)
    (hb : acc.st = .mt)
    (hr : readJsonM nc (" " ++ t) = .ok n) (hp : newPathM n = .ok p) :
    readLine nc acc ("@ " ++ t) =
      .ok { st := .at, cur := { merge := acc.cur.merge, path := p }, out := acc.out } := by
  have hl : ("@ " ++ t).toList = '@' :: ' ' :: t.toList := by simp
  unfold readLine
  rw [hl]
  simp only [str_ofList_space, hr, hp, allows_at, flushes_at]
  rw [hb]; simp

theorem readJsonM_mergeMeta (nc : NumCodec) :
    readJsonM nc " {\"Merge\":true}" = .ok (.obj [("Merge", .bool true)]) := by
  simp [readJsonM, trimGoSpace, parseJson, parseValue, skipWs, isJsonWs, parseMembers, lexString,
    ainsert]

theorem readLine_meta (nc : NumCodec) (acc : RAcc) (hb : AtBoundary acc) :
    readLine nc acc "^ {\"Merge\":true}" =
      .ok { st := .mt, cur := { acc.cur with merge := true }, out := flushOut acc } := by
  have hl : ("^ {\"Merge\":true}" : String).toList = '^' :: " {\"Merge\":true}".toList := by simp
  unfold readLine
  rw [hl]
  simp only [String.ofList_toList, readJsonM_mergeMeta, allows_hat, flushes_hat, flushOut]
  rcases hb with h | ⟨h | h | h, hc⟩
  · rw [h]; simp [readMetadataM]
  all_goals (rw [h]; simp [hc, readMetadataM])

/-! ### 6. runs of lines -/

theorem readLines_append (nc : NumCodec) : ∀ (a b : List String) (acc acc' : RAcc),
    readLines nc acc a = .ok acc' → readLines nc acc (a ++ b) = readLines nc acc' b
  | [], b, acc, acc', h => by
    simp only [readLines, Outcome.ok.injEq] at h
    simp [h]
  | l :: a, b, acc, acc', h => by
    simp only [readLines, List.cons_append] at h ⊢
    cases hl : readLine nc acc l with
    | ok a1 => rw [hl] at h; exact readLines_append nc a b a1 acc' h
    | err => rw [hl] at h; cases h
    | panic => rw [hl] at h; cases h

/-- `optAll` succeeds exactly on a list of `some`s -/
theorem optAll_eq_some {α} : ∀ {l : List (Option α)} {ys : List α},
    optAll l = some ys ↔ l = ys.map some
  | [], ys => by cases ys <;> simp [optAll]
  | none :: l, ys => by cases ys <;> simp [optAll]
  | some x :: l, [] => by simp [optAll]
  | some x :: l, y :: ys => by
    rw [optAll, Option.map_eq_some_iff, List.map_cons, List.cons.injEq, Option.some.injEq]
    constructor
    · rintro ⟨r, hr, e⟩
      obtain ⟨rfl, rfl⟩ := List.cons.inj e
      exact ⟨rfl, optAll_eq_some.1 hr⟩
    · rintro ⟨rfl, h⟩
      exact ⟨ys, optAll_eq_some.2 h, rfl⟩

theorem optAll_cons_some {α} {x : Option α} {l : List (Option α)} {ls : List α}
    (h : optAll (x :: l) = some ls) : ∃ a r, x = some a ∧ optAll l = some r ∧ ls = a :: r := by
  cases ls with
  | nil => simp [optAll_eq_some] at h
  | cons a r =>
    rw [optAll_eq_some, List.map_cons, List.cons.injEq] at h
    exact ⟨a, r, h.1, optAll_eq_some.2 h.2, rfl⟩

/-- line of a context entry -/
def ctxLine (nc : NumCodec) (mark : String) (v : Json) : Option String :=
  if v.isVoid then some mark else (marshalNode nc v).map (fun t => "  " ++ t)
def remLine (nc : NumCodec) (v : Json) : Option String :=
  (marshalNode nc v).map (fun t => "- " ++ t)
def addLine (nc : NumCodec) (v : Json) : Option String :=
  if v.isVoid then some "+" else (marshalNode nc v).map (fun t => "+ " ++ t)

theorem eq_void_of_isVoid {v : Json} (h : v.isVoid = true) : v = .void := by
  cases v <;> first | rfl | cases h

/-- a run of lines each of which appends one value to the same field (`put`) of the pending hunk and
    moves to the state `S`, from any state in `A ∋ S` -/
theorem readLines_field (nc : NumCodec) (L : Json → Option String) (S : RState) (A : RState → Prop)
    (OKv : Json → Prop) (put : Hunk → List Json → Hunk)
    (hput0 : ∀ c, put c [] = c) (hput : ∀ c x y, put (put c x) y = put c (x ++ y)) (hS : A S)
    (hline : ∀ (acc : RAcc) (v : Json) (l : String), A acc.st → OKv v → L v = some l →
      readLine nc acc l = .ok { acc with st := S, cur := put acc.cur [untag v] }) :
    ∀ (vs : List Json) (ls : List String) (acc : RAcc), (∀ v ∈ vs, OKv v) →
      optAll (vs.map L) = some ls → A acc.st →
      readLines nc acc ls =
        .ok { acc with st := if vs = [] then acc.st else S, cur := put acc.cur (vs.map untag) }
  | [], ls, acc, _, hl, _ => by
    simp only [List.map_nil, optAll, Option.some.injEq] at hl
    subst hl
    simp [readLines, hput0]
  | v :: r, ls, acc, hv, hl, hst => by
    simp only [List.map_cons] at hl
    obtain ⟨a, lr, ha, hlr, rfl⟩ := optAll_cons_some hl
    have h0 := hline acc v a hst (hv v (List.mem_cons_self ..)) ha
    have ih := readLines_field nc L S A OKv put hput0 hput hS hline r lr
      { acc with st := S, cur := put acc.cur [untag v] }
      (fun w hw => hv w (List.mem_cons_of_mem _ hw)) hlr hS
    simp only [readLines, h0, ih, hput]
    by_cases hr : r = [] <;> simp [hr]

theorem readLines_remove (nc : NumCodec) (vs : List Json) (ls : List String) (acc : RAcc)
    (hv : ∀ v ∈ vs, v.isVoid = false ∧ ValOK nc v)
    (hl : optAll (vs.map (remLine nc)) = some ls)
    (hst : acc.st = .at ∨ acc.st = .before ∨ acc.st = .remove) :
    ∃ st', readLines nc acc ls =
        .ok { acc with st := st', cur := { acc.cur with remove := acc.cur.remove ++ vs.map untag } } ∧
      ((vs = [] ∧ st' = acc.st) ∨ (vs ≠ [] ∧ st' = .remove)) := by
  refine ⟨_, readLines_field nc (remLine nc) .remove (fun s => s = .at ∨ s = .before ∨ s = .remove)
    (fun v => v.isVoid = false ∧ ValOK nc v) (fun c x => { c with remove := c.remove ++ x })
    (by simp) (by simp) (Or.inr (Or.inr rfl)) ?_ vs ls acc hv hl hst, ?_⟩
  · intro acc v l ha hv hl
    simp only [remLine, Option.map_eq_some_iff] at hl
    obtain ⟨t, ht, rfl⟩ := hl
    exact readLine_rem nc acc t _ ha (hv.2 t ht).2
  · by_cases h : vs = [] <;> simp [h]

theorem readLines_add (nc : NumCodec) (vs : List Json) (ls : List String) (acc : RAcc)
    (hv : ∀ v ∈ vs, v.isVoid = false → ValOK nc v)
    (hl : optAll (vs.map (addLine nc)) = some ls)
    (hst : acc.st = .at ∨ acc.st = .before ∨ acc.st = .remove ∨ acc.st = .add) :
    ∃ st', readLines nc acc ls =
        .ok { acc with st := st', cur := { acc.cur with add := acc.cur.add ++ vs.map untag } } ∧
      ((vs = [] ∧ st' = acc.st) ∨ (vs ≠ [] ∧ st' = .add)) := by
  refine ⟨_, readLines_field nc (addLine nc) .add
    (fun s => s = .at ∨ s = .before ∨ s = .remove ∨ s = .add)
    (fun v => v.isVoid = false → ValOK nc v) (fun c x => { c with add := c.add ++ x })
    (by simp) (by simp) (Or.inr (Or.inr (Or.inr rfl))) ?_ vs ls acc hv hl hst, ?_⟩
  · intro acc v l ha hv hl
    cases hvoid : v.isVoid with
    | true =>
      obtain rfl := eq_void_of_isVoid hvoid
      simp only [addLine, Json.isVoid, ↓reduceIte, Option.some.injEq] at hl
      subst hl
      exact readLine_plusBare nc acc ha
    | false =>
      simp only [addLine, hvoid, Bool.false_eq_true, ↓reduceIte, Option.map_eq_some_iff] at hl
      obtain ⟨t, ht, rfl⟩ := hl
      exact readLine_plus nc acc t _ ha (hv hvoid t ht).2
  · by_cases h : vs = [] <;> simp [h]

theorem readLines_after (nc : NumCodec) (vs : List Json) (ls : List String) (acc : RAcc)
    (hv : ∀ v ∈ vs, v.isVoid = false → ValOK nc v)
    (hl : optAll (vs.map (ctxLine nc "]")) = some ls)
    (hst : acc.st = .remove ∨ acc.st = .add ∨ acc.st = .after) :
    ∃ st', readLines nc acc ls =
        .ok { acc with st := st', cur := { acc.cur with after := acc.cur.after ++ vs.map untag } } ∧
      (st' = .remove ∨ st' = .add ∨ st' = .after) := by
  refine ⟨_, readLines_field nc (ctxLine nc "]") .after
    (fun s => s = .remove ∨ s = .add ∨ s = .after)
    (fun v => v.isVoid = false → ValOK nc v) (fun c x => { c with after := c.after ++ x })
    (by simp) (by simp) (Or.inr (Or.inr rfl)) ?_ vs ls acc hv hl hst, ?_⟩
  · intro acc v l ha hv hl
    cases hvoid : v.isVoid with
    | true =>
      obtain rfl := eq_void_of_isVoid hvoid
      simp only [ctxLine, Json.isVoid, ↓reduceIte, Option.some.injEq] at hl
      subst hl
      exact readLine_close nc acc ha
    | false =>
      simp only [ctxLine, hvoid, Bool.false_eq_true, ↓reduceIte, Option.map_eq_some_iff] at hl
      obtain ⟨t, ht, rfl⟩ := hl
      exact readLine_ctxA nc acc t _ ha (hv hvoid t ht).2
  · by_cases h : vs = []
    · simpa [h] using hst
    · simp [h]

theorem readLines_before (nc : NumCodec) (vs : List Json) (ls : List String) (acc : RAcc)
    (hv : ∀ v ∈ vs, v.isVoid = false → ValOK nc v)
    (hl : optAll (vs.map (ctxLine nc "[")) = some ls)
    (hst : (acc.st = .at ∧ (vs.drop 1).all (fun v => !v.isVoid) = true) ∨
      (acc.st = .before ∧ vs.all (fun v => !v.isVoid) = true)) :
    ∃ st', readLines nc acc ls =
        .ok { acc with st := st', cur := { acc.cur with before := acc.cur.before ++ vs.map untag } } ∧
      (st' = .at ∨ st' = .before) := by
  -- a run of non-void context values, from `.at` or `.before`
  have run : ∀ (ws : List Json) (ms : List String) (a : RAcc), (∀ v ∈ ws, v.isVoid = false → ValOK nc v) →
      ws.all (fun v => !v.isVoid) = true → optAll (ws.map (ctxLine nc "[")) = some ms →
      (a.st = .at ∨ a.st = .before) →
      readLines nc a ms = .ok { a with
        st := if ws = [] then a.st else .before
        cur := { a.cur with before := a.cur.before ++ ws.map untag } } := by
    intro ws ms a hw hnv hm ha
    refine readLines_field nc (ctxLine nc "[") .before (fun s => s = .at ∨ s = .before)
      (fun v => v.isVoid = false ∧ ValOK nc v) (fun c x => { c with before := c.before ++ x })
      (by simp) (by simp) (Or.inr rfl) ?_ ws ms a ?_ hm ha
    · intro acc v l ha hv hl
      simp only [ctxLine, hv.1, Bool.false_eq_true, ↓reduceIte, Option.map_eq_some_iff] at hl
      obtain ⟨t, ht, rfl⟩ := hl
      exact readLine_ctxB nc acc t _ ha (hv.2 t ht).2
    · intro v hm
      have : v.isVoid = false := by simpa using List.all_eq_true.mp hnv v hm
      exact ⟨this, hw v hm this⟩
  have fin : ∀ (ws : List Json) (s : RState), (s = .at ∨ s = .before) →
      ((if ws = [] then s else RState.before) = .at ∨ (if ws = [] then s else RState.before) = .before) := by
    intro ws s hs; by_cases h : ws = [] <;> simp [h, hs]
  rcases hst with ⟨h1, h2⟩ | ⟨h1, h2⟩
  · cases vs with
    | nil => exact ⟨_, run [] ls acc hv rfl hl (Or.inl h1), fin _ _ (Or.inl h1)⟩
    | cons v r =>
      simp only [List.drop_succ_cons, List.drop_zero] at h2
      cases hvoid : v.isVoid with
      | true =>
        obtain rfl := eq_void_of_isVoid hvoid
        simp only [List.map_cons] at hl
        obtain ⟨a, lr, ha, hlr, rfl⟩ := optAll_cons_some hl
        simp only [ctxLine, Json.isVoid, ↓reduceIte, Option.some.injEq] at ha
        subst ha
        refine ⟨_, ?_, fin r .before (Or.inr rfl)⟩
        simp only [readLines, readLine_open nc acc h1,
          run r lr { acc with st := .before, cur := { acc.cur with before := acc.cur.before ++ [.void] } }
            (fun w hw => hv w (List.mem_cons_of_mem _ hw)) h2 hlr (Or.inr rfl)]
        simp [untag]
      | false =>
        exact ⟨_, run (v :: r) ls acc hv (by simp [hvoid, h2]) hl (Or.inl h1), fin _ _ (Or.inl h1)⟩
  · exact ⟨_, run vs ls acc hv h2 hl (Or.inr h1), fin _ _ (Or.inr h1)⟩

/-! ### 7. one hunk -/

theorem mem_payloads {h : Hunk} {v : Json} (hv : v.isVoid = false)
    (hm : v ∈ h.before ∨ v ∈ h.remove ∨ v ∈ h.add ∨ v ∈ h.after) : v ∈ payloads h := by
  simp only [payloads, List.mem_filter, List.mem_append, hv, Bool.not_false, and_true]
  rcases hm with h | h | h | h <;> simp [h]

theorem mem_addLines {h : Hunk} {v : Json} (hm : v ∈ addLines h) : v ∈ h.add := by
  unfold addLines at hm
  split at hm
  · exact hm
  · exact (List.mem_filter.mp hm).1

theorem readLines_body (nc : NumCodec) (h : Hunk) (b r a f : List String) (acc : RAcc)
    (hw1 : (h.before.drop 1).all (fun v => !v.isVoid) = true)
    (hw2 : (!(remLines h).isEmpty || !(addLines h).isEmpty) = true)
    (hv : ∀ v ∈ payloads h, ValOK nc v)
    (hb : optAll (h.before.map (ctxLine nc "[")) = some b)
    (hr : optAll ((remLines h).map (remLine nc)) = some r)
    (ha : optAll ((addLines h).map (addLine nc)) = some a)
    (hf : optAll (h.after.map (ctxLine nc "]")) = some f)
    (hst : acc.st = .at) :
    ∃ st', readLines nc acc (b ++ (r ++ (a ++ f))) =
        .ok { acc with
              st := st'
              cur := { acc.cur with
                        before := acc.cur.before ++ h.before.map untag
                        remove := acc.cur.remove ++ (remLines h).map untag
                        add := acc.cur.add ++ (addLines h).map untag
                        after := acc.cur.after ++ h.after.map untag } } ∧
      (st' = .remove ∨ st' = .add ∨ st' = .after) := by
  obtain ⟨s1, e1, hs1⟩ := readLines_before nc h.before b acc
    (fun v hm hvv => hv v (mem_payloads hvv (Or.inl hm))) hb (Or.inl ⟨hst, hw1⟩)
  obtain ⟨s2, e2, hs2⟩ := readLines_remove nc (remLines h) r
    { acc with st := s1, cur := { acc.cur with before := acc.cur.before ++ h.before.map untag } }
    (fun v hm => by
      have := List.mem_filter.mp hm
      have hvv : v.isVoid = false := by simpa using this.2
      exact ⟨hvv, hv v (mem_payloads hvv (Or.inr (Or.inl this.1)))⟩) hr
    (by rcases hs1 with h | h <;> simp [h])
  obtain ⟨s3, e3, hs3⟩ := readLines_add nc (addLines h) a
    { acc with st := s2, cur := { acc.cur with
        before := acc.cur.before ++ h.before.map untag
        remove := acc.cur.remove ++ (remLines h).map untag } }
    (fun v hm hvv => hv v (mem_payloads hvv (Or.inr (Or.inr (Or.inl (mem_addLines hm)))))) ha
    (by
      rcases hs2 with ⟨_, h⟩ | ⟨_, h⟩
      · rcases hs1 with h' | h' <;> simp [h, h']
      · simp [h])
  have hs3' : s3 = .remove ∨ s3 = .add ∨ s3 = .after := by
    rcases hs3 with ⟨ha0, h3⟩ | ⟨_, h3⟩
    · rcases hs2 with ⟨hr0, _⟩ | ⟨_, h2⟩
      · simp [hr0, ha0] at hw2
      · left; rw [h3]; exact h2
    · right; left; exact h3
  obtain ⟨s4, e4, hs4⟩ := readLines_after nc h.after f
    { acc with st := s3, cur := { acc.cur with
        before := acc.cur.before ++ h.before.map untag
        remove := acc.cur.remove ++ (remLines h).map untag
        add := acc.cur.add ++ (addLines h).map untag } }
    (fun v hm hvv => hv v (mem_payloads hvv (Or.inr (Or.inr (Or.inr hm))))) hf hs3'
  refine ⟨s4, ?_, hs4⟩
  rw [readLines_append nc b _ acc _ e1, readLines_append nc r _ _ _ e2,
    readLines_append nc a _ _ _ e3, e4]

/-- the lines of one hunk (each is written followed by a newline) -/
def hunkLines (nc : NumCodec) (h : Hunk) : Option (List String) := do
  let pt ← jsonM nc (pathToJson h.path)
  let b ← optAll (h.before.map (ctxLine nc "["))
  let r ← optAll ((remLines h).map (remLine nc))
  let a ← optAll ((addLines h).map (addLine nc))
  let f ← optAll (h.after.map (ctxLine nc "]"))
  pure ((if h.merge then ["^ {\"Merge\":true}"] else []) ++ ("@ " ++ pt) :: (b ++ (r ++ (a ++ f))))

theorem checkHunk_norm (h : Hunk) (hw : wfHunk h = true) : checkHunk (normHunk h) = true := by
  simp only [wfHunk, Bool.and_eq_true] at hw
  obtain ⟨⟨_, _⟩, hc⟩ := hw
  simp only [checkHunk, normHunk, List.length_map]
  split
  · rename_i hgt
    have hm : multiLast h.path = true := by
      simp only [Bool.or_eq_true, Bool.and_eq_true, decide_eq_true_eq] at hc hgt
      rcases hc with ⟨h1, h2⟩ | h
      · omega
      · exact h
    rw [← multiLast_norm] at hm
    unfold multiLast at hm
    exact hm
  · rfl

/-- the hunk with its Merge flag set to `m` -/
def _root_.Jd.E2ES.setMerge (m : Bool) (h : Hunk) : Hunk := { h with merge := m }

/-- what the reader does with the metadata line: the Merge flag is inherited by every following
    hunk -/
def _root_.Jd.E2ES.inheritMerge : Bool → Diff → Diff
  | _, [] => []
  | m, h :: r => E2ES.setMerge (m || h.merge) h :: E2ES.inheritMerge (m || h.merge) r

/-- one hunk from any hunk boundary: the Merge flag of the accumulator stays in force -/
theorem readLines_hunk (nc : NumCodec) (h : Hunk) (ls : List String) (acc : RAcc)
    (hw : wfHunk h = true) (hp : PathOK nc h.path) (hv : ∀ v ∈ payloads h, ValOK nc v)
    (hl : hunkLines nc h = some ls) (hb : AtBoundary acc) :
    ∃ st', readLines nc acc ls =
        .ok { st := st', cur := E2ES.setMerge (acc.cur.merge || h.merge) (normHunk h),
              out := flushOut acc } ∧
      (st' = .remove ∨ st' = .add ∨ st' = .after) := by
  simp only [hunkLines, Option.bind_eq_bind, Option.pure_def, Option.bind_eq_some_iff,
    Option.some.injEq] at hl
  obtain ⟨pt, hpt, b, hbb, r, hr, a, ha, f, hf, rfl⟩ := hl
  have hw' := hw
  simp only [wfHunk, Bool.and_eq_true] at hw'
  obtain ⟨⟨⟨hidx, hw1⟩, hw2⟩, _⟩ := hw'
  have hread := (hp pt hpt).2
  have hnp := newPathM_norm h.path hidx
  have hhead : readLines nc acc ((if h.merge then ["^ {\"Merge\":true}"] else []) ++ ["@ " ++ pt]) =
      .ok { st := .at, cur := { merge := acc.cur.merge || h.merge, path := normPath h.path },
            out := flushOut acc } := by
    cases hmg : h.merge with
    | true =>
      simp only [↓reduceIte, List.cons_append, List.nil_append, readLines, readLine_meta nc acc hb]
      rw [readLine_atMeta nc _ pt _ _ rfl hread hnp]
      simp
    | false =>
      simp only [Bool.false_eq_true, ↓reduceIte, List.nil_append, readLines,
        readLine_at nc acc pt _ _ hb hread hnp, Bool.or_false]
  obtain ⟨st', hbody, hst'⟩ := readLines_body nc h b r a f
    { st := .at, cur := { merge := acc.cur.merge || h.merge, path := normPath h.path },
      out := flushOut acc }
    hw1 hw2 hv hbb hr ha hf rfl
  refine ⟨st', ?_, hst'⟩
  have : (if h.merge then ["^ {\"Merge\":true}"] else []) ++ ("@ " ++ pt) :: (b ++ (r ++ (a ++ f))) =
      ((if h.merge then ["^ {\"Merge\":true}"] else []) ++ ["@ " ++ pt]) ++ (b ++ (r ++ (a ++ f))) := by
    simp
  rw [this, readLines_append nc _ _ _ _ hhead, hbody]
  simp [normHunk, E2ES.setMerge]

/-! ### 8. a sequence of hunks -/

def diffLines (nc : NumCodec) (d : Diff) : Option (List String) :=
  (optAll (d.map (hunkLines nc))).map List.flatten

theorem inheritMerge_of_mono : ∀ (m : Bool) (d : Diff), mergeMono m d = true →
    E2ES.inheritMerge m d = d
  | _, [], _ => rfl
  | m, h :: r, hm => by
    simp only [mergeMono, Bool.and_eq_true, Bool.or_eq_true, Bool.not_eq_true'] at hm
    have e : (m || h.merge) = h.merge := by
      rcases hm.1 with h0 | h0 <;> simp [h0]
    simp only [E2ES.inheritMerge, e, E2ES.setMerge]
    rw [inheritMerge_of_mono h.merge r hm.2]

theorem mergeMono_normDiff (m : Bool) (d : Diff) : mergeMono m (normDiff d) = mergeMono m d := by
  induction d generalizing m with
  | nil => rfl
  | cons h r ih =>
    have e : (normHunk h).merge = h.merge := rfl
    simp only [normDiff, List.map_cons, mergeMono, e] at ih ⊢
    rw [ih]

/-- the invariant of the reader: from any hunk boundary, the lines of `d` flush `normDiff d` with the
    inherited Merge flags, and end at a hunk boundary -/
theorem readLines_diff (nc : NumCodec) : ∀ (d : Diff) (ls : List String) (acc : RAcc),
    d.all wfHunk = true → CodecOK nc d →
    diffLines nc d = some ls → AtBoundary acc →
    ∃ acc', readLines nc acc ls = .ok acc' ∧ AtBoundary acc' ∧
      flushOut acc' = flushOut acc ++ E2ES.inheritMerge acc.cur.merge (normDiff d)
  | [], ls, acc, _, _, hl, hb => by
    simp only [diffLines, List.map_nil, optAll, Option.map_some, List.flatten_nil,
      Option.some.injEq] at hl
    subst hl
    exact ⟨acc, by simp [readLines], hb, by simp [normDiff, E2ES.inheritMerge]⟩
  | h :: r, ls, acc, hw, hc, hl, hb => by
    simp only [diffLines, List.map_cons, Option.map_eq_some_iff] at hl
    obtain ⟨lss, hlss, rfl⟩ := hl
    obtain ⟨lh, lr, hlh, hlr, rfl⟩ := optAll_cons_some hlss
    simp only [List.all_cons, Bool.and_eq_true] at hw
    have hch := hc h (List.mem_cons_self ..)
    obtain ⟨st', e1, hst'⟩ := readLines_hunk nc h lh acc hw.1 hch.1 hch.2 hlh hb
    have hb1 : AtBoundary ⟨st', E2ES.setMerge (acc.cur.merge || h.merge) (normHunk h), flushOut acc⟩ :=
      Or.inr ⟨hst', checkHunk_norm h hw.1⟩
    obtain ⟨acc', e2, hb2, hf2⟩ := readLines_diff nc r lr.flatten
      ⟨st', E2ES.setMerge (acc.cur.merge || h.merge) (normHunk h), flushOut acc⟩ hw.2
      (fun x hx => hc x (List.mem_cons_of_mem _ hx))
      (by simp [diffLines, hlr]) hb1
    refine ⟨acc', ?_, hb2, ?_⟩
    · rw [List.flatten_cons, readLines_append nc lh _ acc _ e1, e2]
    · rw [hf2]
      have : flushOut ⟨st', E2ES.setMerge (acc.cur.merge || h.merge) (normHunk h), flushOut acc⟩ =
          flushOut acc ++ [E2ES.setMerge (acc.cur.merge || h.merge) (normHunk h)] := by
        unfold flushOut
        rcases hst' with h0 | h0 | h0 <;> simp [h0]
      rw [this]
      simp [normDiff, E2ES.inheritMerge, normHunk, E2ES.setMerge]

/-! ### 9. the rendered text, as lines -/

def unlines (ls : List String) : String := String.join (ls.map (fun l => l ++ "\n"))

theorem unlines_nil : unlines [] = "" := by simp [unlines, String.join_nil]
theorem unlines_cons (l : String) (ls : List String) : unlines (l :: ls) = l ++ "\n" ++ unlines ls := by
  simp [unlines, String.join_cons]
theorem unlines_append (a b : List String) : unlines (a ++ b) = unlines a ++ unlines b := by
  simp [unlines, String.join_append]

theorem optAll_map_congr {α β} {F G : α → Option β} (l : List α) (h : ∀ x ∈ l, F x = G x) :
    optAll (l.map F) = optAll (l.map G) := by
  rw [List.map_congr_left h]

theorem optAll_map_map {α β γ} (G : α → Option β) (f : β → γ) : ∀ l : List α,
    optAll (l.map (fun x => (G x).map f)) = (optAll (l.map G)).map (List.map f)
  | [] => rfl
  | x :: l => by
    cases hx : G x with
    | none => simp [optAll, hx]
    | some g => simp [optAll, hx, optAll_map_map G f l, Function.comp_def]

theorem optAll_join_lines {α} (G : α → Option String) : ∀ l : List α,
    (optAll (l.map (fun x => (G x).map (fun t => t ++ "\n")))).map String.join =
      (optAll (l.map G)).map unlines := fun l => by
  rw [optAll_map_map, Option.map_map]; rfl

theorem optAll_join_lines_filter (G : Json → Option String) : ∀ l : List Json,
    (optAll (l.map (fun x => if x.isVoid then some "" else (G x).map (fun t => t ++ "\n")))).map
        String.join =
      (optAll ((l.filter (fun v => !v.isVoid)).map G)).map unlines
  | [] => by simp [optAll, unlines_nil, String.join_nil]
  | x :: l => by
    have ih := optAll_join_lines_filter G l
    cases hv : x.isVoid with
    | true => simpa [optAll, hv, String.join_cons, Function.comp_def] using ih
    | false =>
      cases hx : G x with
      | none => simp [optAll, hv, hx]
      | some g =>
        simpa [optAll, hv, hx, String.join_cons, unlines_cons, String.append_assoc, Function.comp_def] using
          congrArg (Option.map (g ++ "\n" ++ ·)) ih

theorem map_eq_cases {α β γ} {x : Option α} {y : Option β} {f : α → γ} {g : β → γ}
    (h : x.map f = y.map g) :
    (x = none ∧ y = none) ∨ ∃ a b, x = some a ∧ y = some b ∧ f a = g b := by
  cases x <;> cases y <;> simp_all

/-- the `+` lines of a hunk: in a merge hunk a void entry is the bare `+`, in a strict hunk nothing -/
theorem optAll_join_addLines (nc : NumCodec) (h : Hunk) :
    (optAll (h.add.map (fun v =>
      if v.isVoid then (if h.merge then some "+\n" else some "")
      else (addLine nc v).map (fun t => t ++ "\n")))).map String.join =
      (optAll ((addLines h).map (addLine nc))).map unlines := by
  cases hmg : h.merge with
  | true =>
    simp only [addLines, hmg, ↓reduceIte]
    rw [← optAll_join_lines]
    congr 2
    apply List.map_congr_left
    intro v _
    cases hv : v.isVoid <;> simp [addLine, hv]
  | false =>
    simp only [addLines, hmg, Bool.false_eq_true, ↓reduceIte]
    exact optAll_join_lines_filter (addLine nc) h.add

theorem renderHunk_lines (nc : NumCodec) (h : Hunk) :
    renderHunk nc [] h = (hunkLines nc h).map unlines := by
  unfold renderHunk hunkLines
  simp only [isColor, isMerge, Bool.false_or, Bool.false_eq_true, ↓reduceIte]
  rw [optAll_map_congr (G := fun b => (ctxLine nc "[" b).map (fun t => t ++ "\n")) h.before (by
    intro b _
    simp only [ctxLine]
    split
    · simp
    · simp; rfl)]
  rw [optAll_map_congr (G := fun b => (ctxLine nc "]" b).map (fun t => t ++ "\n")) h.after (by
    intro b _
    simp only [ctxLine]
    split
    · simp
    · simp; rfl)]
  rw [optAll_map_congr
    (G := fun v => if v.isVoid then some "" else (remLine nc v).map (fun t => t ++ "\n")) h.remove (by
    intro v _
    simp only [remLine]
    split
    · rfl
    · split
      · simp_all
      · simp; rfl)]
  rw [optAll_map_congr (G := fun v =>
      if v.isVoid then (if h.merge then some "+\n" else some "")
      else (addLine nc v).map (fun t => t ++ "\n")) h.add (by
    intro v _
    simp only [addLine]
    split
    · rfl
    · split
      · simp_all
      · simp; rfl)]
  cases hpt : jsonM nc (pathToJson h.path) with
  | none => simp
  | some pt =>
    rcases map_eq_cases (optAll_join_lines (ctxLine nc "[") h.before) with ⟨h1, h2⟩ | ⟨tb, b, h1, h2, h3⟩
    · simp [h1, h2]
    rcases map_eq_cases (optAll_join_lines_filter (remLine nc) h.remove) with ⟨h4, h5⟩ | ⟨tr, r, h4, h5, h6⟩
    · simp [h1, h2, h4, h5, remLines]
    rcases map_eq_cases (optAll_join_addLines nc h) with ⟨h7, h8⟩ | ⟨ta, a, h7, h8, h9⟩
    · simp [h1, h2, h4, h5, h7, h8, remLines]
    rcases map_eq_cases (optAll_join_lines (ctxLine nc "]") h.after) with ⟨h10, h11⟩ | ⟨tf, f, h10, h11, h12⟩
    · simp [h1, h2, h4, h5, h7, h8, h10, h11, remLines]
    have hml : unlines (if h.merge then ["^ {\"Merge\":true}"] else []) =
        if h.merge then "^ {\"Merge\":true}\n" else "" := by
      cases h.merge <;> simp [unlines_cons, unlines_nil]
    simp [h1, h2, h4, h5, h7, h8, h10, h11, remLines, h3, h6, h9, h12, unlines_cons, unlines_append,
      String.append_assoc, hml]

/-! ### 10. `strings.Split(s, "\n")` of a text made of newline-terminated lines -/


/-- list-level splitter on newline, accumulating the current line in `m`. -/
def splitNL : List Char → List Char → List (List Char)
  | [], m => [m]
  | c :: r, m => if c = '\n' then m :: splitNL r [] else splitNL r (m ++ [c])

private theorem nl_size : Char.utf8Size '\n' = 1 := rfl

theorem splitNL_eq (r m : List Char) :
    splitNL r m = List.splitOnPPrepend (· == '\n') r m.reverse := by
  induction r generalizing m with
  | nil => simp [splitNL]
  | cons c r ih =>
    by_cases hc : c = '\n' <;> simp [splitNL, List.splitOnPPrepend_cons_eq_if, hc, ih]

/-- `strings.Split(s, "\n")` on the list of characters -/
theorem splitOn_nl (s : String) : s.splitOn "\n" = (splitNL s.toList []).map String.ofList := by
  rw [splitNL_eq]; exact splitOn_char '\n' s

theorem splitOnP_lines (c : Char) (ls : List (List Char)) (h : ∀ l ∈ ls, c ∉ l) :
    (ls.flatMap (fun l => l ++ [c])).splitOnP (· == c) = ls ++ [[]] := by
  induction ls with
  | nil => rfl
  | cons l ls ih =>
    rw [List.flatMap_cons, List.append_assoc, List.singleton_append,
      List.splitOnP_append_cons_of_forall_mem
        (fun x hx => beq_eq_false_iff_ne.2 fun e : x = c => h l List.mem_cons_self (e ▸ hx)) c
        (beq_self_eq_true c),
      ih fun x hx => h x (List.mem_cons_of_mem _ hx), List.cons_append]

theorem splitOn_unlines (ls : List String) (h : ∀ l ∈ ls, '\n' ∉ l.toList) :
    (String.join (ls.map (fun l => l ++ "\n"))).splitOn "\n" = ls ++ [""] := by
  have hj : (String.join (ls.map (fun l => l ++ "\n"))).toList =
      (ls.map String.toList).flatMap (fun l => l ++ ['\n']) := by
    rw [String.toList_join]
    induction ls with
    | nil => rfl
    | cons l ls ih => simp [List.flatMap_cons, ih fun x hx => h x (List.mem_cons_of_mem _ hx)]
  refine (splitOn_char '\n' _).trans ?_
  rw [hj, splitOnP_lines '\n' _ (by simpa using h)]
  simp [List.map_map]

/-! ### 11. reading the rendered text -/

theorem unlines_flatten (lss : List (List String)) :
    unlines lss.flatten = String.join (lss.map unlines) := by
  induction lss with
  | nil => rfl
  | cons ls lss ih => simp [unlines_append, String.join_cons, ih]

theorem renderM_lines (nc : NumCodec) (d : Diff) :
    renderM nc [] d = (diffLines nc d).map unlines := by
  unfold renderM diffLines
  rw [List.map_congr_left (fun h _ => renderHunk_lines nc h), optAll_map_map, Option.map_map,
    Option.map_map]
  exact congrArg (Option.map · _) (funext fun lss => (unlines_flatten lss).symm)

theorem optAll_mem {α β} {G : α → Option β} {l : List α} {ls : List β}
    (h : optAll (l.map G) = some ls) : ∀ y ∈ ls, ∃ x ∈ l, G x = some y := fun _ hy =>
  List.mem_map.1 (optAll_eq_some.1 h ▸ List.mem_map_of_mem hy)

theorem ctxLine_noNL (nc : NumCodec) (mark : String) (hmk : '\n' ∉ mark.toList) (v : Json) (l : String)
    (hv : v.isVoid = false → ValOK nc v) (h : ctxLine nc mark v = some l) : '\n' ∉ l.toList := by
  unfold ctxLine at h
  split at h
  · simp only [Option.some.injEq] at h; subst h; exact hmk
  · rename_i hvv
    simp only [Option.map_eq_some_iff] at h
    obtain ⟨t, ht, rfl⟩ := h
    have := (hv (by simpa using hvv) t ht).1
    simp [this]

theorem hunkLines_noNL (nc : NumCodec) (h : Hunk) (ls : List String)
    (hp : PathOK nc h.path) (hv : ∀ v ∈ payloads h, ValOK nc v)
    (hl : hunkLines nc h = some ls) : ∀ l ∈ ls, '\n' ∉ l.toList := by
  simp only [hunkLines, Option.bind_eq_bind, Option.pure_def, Option.bind_eq_some_iff,
    Option.some.injEq] at hl
  obtain ⟨pt, hpt, b, hbb, r, hr, a, ha, f, hf, rfl⟩ := hl
  intro l hl
  simp only [List.mem_append, List.mem_cons] at hl
  rcases hl with hl | rfl | hl | hl | hl | hl
  · split at hl
    · simp only [List.mem_cons, List.not_mem_nil, or_false] at hl
      subst hl; simp
    · cases hl
  · have := (hp pt hpt).1
    simp [this]
  · obtain ⟨v, hvm, hg⟩ := optAll_mem hbb l hl
    exact ctxLine_noNL nc "[" (by simp) v l (fun hvv => hv v (mem_payloads hvv (Or.inl hvm))) hg
  · obtain ⟨v, hvm, hg⟩ := optAll_mem hr l hl
    have hm := List.mem_filter.mp hvm
    have hvv : v.isVoid = false := by simpa using hm.2
    simp only [remLine, Option.map_eq_some_iff] at hg
    obtain ⟨t, ht, rfl⟩ := hg
    have := (hv v (mem_payloads hvv (Or.inr (Or.inl hm.1))) t ht).1
    simp [this]
  · obtain ⟨v, hvm, hg⟩ := optAll_mem ha l hl
    unfold addLine at hg
    split at hg
    · simp only [Option.some.injEq] at hg; subst hg; simp
    · rename_i hvv
      simp only [Option.map_eq_some_iff] at hg
      obtain ⟨t, ht, rfl⟩ := hg
      have := (hv v (mem_payloads (by simpa using hvv) (Or.inr (Or.inr (Or.inl (mem_addLines hvm))))) t ht).1
      simp [this]
  · obtain ⟨v, hvm, hg⟩ := optAll_mem hf l hl
    exact ctxLine_noNL nc "]" (by simp) v l
      (fun hvv => hv v (mem_payloads hvv (Or.inr (Or.inr (Or.inr hvm))))) hg

theorem diffLines_noNL (nc : NumCodec) (d : Diff) (ls : List String) (hc : CodecOK nc d)
    (hl : diffLines nc d = some ls) : ∀ l ∈ ls, '\n' ∉ l.toList := by
  obtain ⟨lss, hlss, rfl⟩ := Option.map_eq_some_iff.1 hl
  intro l hl
  obtain ⟨lh, hlh, hm⟩ := List.mem_flatten.1 hl
  obtain ⟨h, hh, hg⟩ := optAll_mem hlss lh hlh
  exact hunkLines_noNL nc h lh (hc h hh).1 (hc h hh).2 hg l hm

/-- what `ReadDiffString` returns for ANY rendered hunk sequence -/
theorem read_render_inherit (nc : NumCodec) (d : Diff) (text : String)
    (hw : d.all wfHunk = true) (hc : CodecOK nc d) (hr : renderM nc [] d = some text) :
    readDiffM nc text = .ok (E2ES.inheritMerge false (normDiff d)) := by
  rw [renderM_lines, Option.map_eq_some_iff] at hr
  obtain ⟨ls, hl, rfl⟩ := hr
  obtain ⟨acc, e, hb, hf⟩ := readLines_diff nc d ls {} hw hc hl (Or.inl rfl)
  have e' : readLines nc {} (ls ++ [""]) = .ok acc := by
    rw [readLines_append nc ls _ _ _ e]
    simp [readLines, readLine_empty]
  have hnt : Gen.readerNonTerminal.contains acc.st.name = false := by
    rw [nonTerminal_eq]
    rcases hb with h | ⟨h | h | h, _⟩ <;> simp [h]
  unfold readDiffM
  rw [unlines, splitOn_unlines ls (diffLines_noNL nc d ls hc hl), e']
  simp only [hnt, Bool.false_eq_true, ↓reduceIte]
  have h0 : flushOut ({} : RAcc) = [] := by simp [flushOut]
  rw [h0, List.nil_append] at hf
  have hm0 : ({} : RAcc).cur.merge = false := rfl
  rw [hm0] at hf
  rw [← hf]
  unfold flushOut
  rcases hb with h | ⟨h | h | h, hck⟩
  · simp [h]
  all_goals simp [h, hck]

/-- reading the rendered text of a well-formed diff gives the normalised diff: without a strict hunk
    after a merge hunk (`mergeMono`) no hunk inherits a flag it does not have -/
theorem read_render (nc : NumCodec) (d : Diff) (text : String)
    (hw : wfDiff d = true) (hc : CodecOK nc d) (hr : renderM nc [] d = some text) :
    readDiffM nc text = .ok (normDiff d) := by
  simp only [wfDiff, Bool.and_eq_true] at hw
  rw [read_render_inherit nc d text hw.1 hc hr, inheritMerge_of_mono]
  rw [mergeMono_normDiff]; exact hw.2


/-! ### 12. the normalised diff renders to the same text

  Erasing the tags first changes neither `raw()` nor `json.Marshal(node)` where no set-typed array is
  in the way (`setFree`, `mSetFree`): stated once for any normaliser (`IsRawNorm.eq_untag`,
  `IsRawNorm.comp_untag`, `IsMNorm.comp_untag`; `mnorm` is `json.Marshal(node)` as a document).
  Any such normaliser commutes with RFC 7386 (`IsRawNorm.mergePatch`). -/

end Jd.NativeRT

namespace Jd.JText
open Jd Jd.Spec

mutual
/-- no set-typed array node anywhere: `raw()` then keeps the stored order of every array -/
def setFree : Json → Bool
  | .arr t xs => t != .set && setFreeList xs
  | .obj kvs => setFreeKvs kvs
  | _ => true
def setFreeList : List Json → Bool
  | [] => true
  | x :: r => setFree x && setFreeList r
def setFreeKvs : List (String × Json) → Bool
  | [] => true
  | (_, v) :: r => setFree v && setFreeKvs r
end

theorem setFreeList_eq_all (xs : List Json) : setFreeList xs = xs.all setFree :=
  listP_eq_all rfl (fun _ _ => rfl) xs
theorem setFreeKvs_eq_all (kvs : List (String × Json)) : setFreeKvs kvs = kvs.all (fun kv => setFree kv.2) :=
  listP_eq_all rfl (fun _ _ => rfl) kvs

theorem setFree_of_listDoc (v : Json) : v.listDoc = true → setFree v = true := by
  induction v using jsonInd with
  | arr t xs ih =>
    simp only [Json.listDoc, setFree, listDocList_eq_all, setFreeList_eq_all, List.all_eq_true,
      Bool.and_eq_true, Bool.or_eq_true, beq_iff_eq, bne_iff_ne, ne_eq]
    exact fun h => ⟨by rcases h.1 with e | e <;> subst e <;> decide, fun x hx => ih x hx (h.2 x hx)⟩
  | obj kvs ih =>
    simp only [Json.listDoc, setFree, listDocKvs_eq_all, setFreeKvs_eq_all, List.all_eq_true]
    exact fun h kv hkv => ih kv.1 kv.2 hkv (h kv hkv)
  | _ => intro _; rfl

theorem setFreeList_of_listDoc : ∀ xs : List Json, listDocList xs = true → setFreeList xs = true := by
  intro xs h
  rw [listDocList_eq_all] at h; rw [setFreeList_eq_all]
  exact List.all_eq_true.2 fun x hx => setFree_of_listDoc x (List.all_eq_true.1 h x hx)

theorem setFreeKvs_of_listDoc : ∀ kvs : List (String × Json), listDocKvs kvs = true → setFreeKvs kvs = true := by
  intro kvs h
  rw [listDocKvs_eq_all] at h; rw [setFreeKvs_eq_all]
  exact List.all_eq_true.2 fun kv hkv => setFree_of_listDoc _ (List.all_eq_true.1 h kv hkv)

end Jd.JText

namespace Jd
open Jd.JText Jd.Spec

/-- `untag` is the normaliser that keeps every member of a set too -/
theorem isRawNorm_untag : IsRawNorm untag where
  scalar v h1 h2 := by cases v <;> first | rfl | exact absurd rfl (h1 _ _) | exact absurd rfl (h2 _)
  arr t xs := ⟨_, by rw [untag, untagList_eq_map], fun _ h => h, fun _ => rfl⟩
  obj kvs := by rw [untag, untagKvs_eq_map]

namespace IsRawNorm
variable {N : Json → Json} (hN : IsRawNorm N)
include hN

/-- without a set-typed array inside, `raw()` only erases the tags -/
theorem eq_untag : ∀ v, setFree v = true → N v = untag v := by
  refine jsonIndScalar (fun a h1 h2 _ => ?_) (fun t xs ih h => ?_) (fun kvs ih h => ?_)
  · rw [hN.scalar a h1 h2]
    cases a <;> first | rfl | exact absurd rfl (h1 _ _) | exact absurd rfl (h2 _)
  · obtain ⟨ys, e, _, hall⟩ := hN.arr t xs
    simp only [setFree, Bool.and_eq_true, bne_iff_ne, ne_eq, setFreeList_eq_all,
      List.all_eq_true] at h
    rw [e, hall h.1, untag, untagList_eq_map]
    exact congrArg _ (List.map_congr_left fun x hx => ih x hx (h.2 x hx))
  · simp only [setFree, setFreeKvs_eq_all, List.all_eq_true] at h
    rw [hN.obj, untag, untagKvs_eq_map]
    exact congrArg _ (List.map_congr_left fun kv hkv => by rw [ih kv.1 kv.2 hkv (h kv hkv)])

/-- erasing the tags first changes nothing -/
theorem comp_untag (v : Json) (h : setFree v = true) : N (untag v) = N v :=
  (hN.of_rawDoc _ (isRawNorm_untag.rawDoc v)).trans (hN.eq_untag v h).symm

/-- a normaliser keeps `null` and makes no new one -/
theorem isNull (v : Json) : (N v).isNull = v.isNull := by
  cases v with
  | arr t xs => obtain ⟨ys, e, _⟩ := hN.arr t xs; rw [e]; rfl
  | obj kvs => rw [hN.obj]; rfl
  | _ => rw [hN.scalar _ (by intro _ _ e; cases e) (by intro _ e; cases e)]

/-- the member loop of RFC 7386, given the law on the members of the patch -/
theorem mergeMembers : ∀ r : List (String × Json),
    (∀ kv ∈ r, ∀ t, N (mergePatch t kv.2) = mergePatch (N t) (N kv.2)) →
    ∀ t : List (String × Json), (Spec.mergeMembers t r).map (fun kv => (kv.1, N kv.2)) =
      Spec.mergeMembers (t.map fun kv => (kv.1, N kv.2)) (r.map fun kv => (kv.1, N kv.2))
  | [], _, t => rfl
  | (k, v) :: r, h, t => by
    simp only [List.map_cons]
    rw [Merge.mergeMembers_cons, Merge.mergeMembers_cons, hN.isNull,
      mergeMembers r (fun kv hkv => h kv (List.mem_cons_of_mem _ hkv))]
    split
    · rw [aerase_mapSnd]
    · rw [← ainsert_mapSnd, h (k, v) List.mem_cons_self, Merge.getK, Merge.getK, alookup_map]
      cases alookup k t <;> simp [hN.scalar .void nofun nofun]

/-- **a normaliser commutes with RFC 7386** (`rawNorm`, `untag`) -/
theorem mergePatch : ∀ (p t : Json), N (Spec.mergePatch t p) = Spec.mergePatch (N t) (N p) := by
  refine jsonIndScalar (fun p h1 h2 t => ?_) (fun tg xs _ t => ?_) (fun pkvs ih t => ?_)
  · have e : ∀ t, Spec.mergePatch t p = p := fun t => by
      cases p <;> first | rfl | exact absurd rfl (h2 _)
    rw [hN.scalar p h1 h2, e, e, hN.scalar p h1 h2]
  · obtain ⟨ys, e, _⟩ := hN.arr tg xs
    rw [e]; simp only [Spec.mergePatch]; exact e
  · have key := hN.mergeMembers pkvs fun (kv : String × Json) hkv t => ih kv.1 kv.2 hkv t
    have o : ∀ kvs, N (.obj (Spec.mergeMembers kvs pkvs)) =
        .obj (Spec.mergeMembers (kvs.map fun kv => (kv.1, N kv.2)) (pkvs.map fun kv => (kv.1, N kv.2))) :=
      fun kvs => by rw [hN.obj, key]
    rw [hN.obj pkvs]
    cases t with
    | obj kvs => rw [hN.obj kvs]; exact o kvs
    | arr tg xs => obtain ⟨ys, e, _⟩ := hN.arr tg xs; rw [e]; exact o []
    | _ => simp only [Spec.mergePatch]; rw [o, hN.scalar _ (by intro _ _ e; cases e) (by intro _ e; cases e)]; rfl

end IsRawNorm
end Jd

namespace Jd.JText
open Jd Jd.Spec

mutual
/-- what `json.Marshal(node)` prints, as a document: arrays element-wise in stored order whatever
    their Go type, objects through `raw()`, void as `{}` -/
def mnorm : Json → Json
  | .void => .obj []
  | .arr _ xs => .arr .raw (mnormList xs)
  | .obj kvs => rawNorm (.obj kvs)
  | n => n
def mnormList : List Json → List Json
  | [] => []
  | x :: r => mnorm x :: mnormList r
end

theorem mnormList_eq_map (xs : List Json) : mnormList xs = xs.map mnorm :=
  listF_eq_map rfl (fun _ _ => rfl) xs

mutual
theorem marshalNode_eq (nc : NumCodec) : ∀ v : Json, marshalNode nc v = jsonText nc (mnorm v)
  | .void => by simp [marshalNode, mnorm, jsonText, jsonTextKvs]
  | .null => rfl
  | .bool _ => rfl
  | .num _ => rfl
  | .str _ => rfl
  | .arr _ xs => by simp only [marshalNode, mnorm, jsonText, marshalList_eq nc xs]
  | .obj _ => by simp only [marshalNode, mnorm]
theorem marshalList_eq (nc : NumCodec) : ∀ xs : List Json, marshalList nc xs = jsonTextList nc (mnormList xs)
  | [] => rfl
  | x :: r => by simp only [marshalList, mnormList, jsonTextList, marshalNode_eq nc x, marshalList_eq nc r]
end


mutual
/-- no set-typed array inside an object (the only place where `marshalNode` reorders) -/
def mSetFree : Json → Bool
  | .arr _ xs => mSetFreeList xs
  | .obj kvs => setFreeKvs kvs
  | _ => true
def mSetFreeList : List Json → Bool
  | [] => true
  | x :: r => mSetFree x && mSetFreeList r
end

theorem mSetFreeList_eq_all (xs : List Json) : mSetFreeList xs = xs.all mSetFree :=
  listP_eq_all rfl (fun _ _ => rfl) xs


mutual
theorem mSetFree_of_setFree : ∀ v : Json, setFree v = true → mSetFree v = true
  | .void, _ => rfl
  | .null, _ => rfl
  | .bool _, _ => rfl
  | .num _, _ => rfl
  | .str _, _ => rfl
  | .arr _ xs, h => by
    simp only [setFree, Bool.and_eq_true] at h
    simp only [mSetFree]; exact mSetFreeList_of_setFreeList xs h.2
  | .obj kvs, h => by simpa [setFree, mSetFree] using h
theorem mSetFreeList_of_setFreeList : ∀ xs : List Json, setFreeList xs = true → mSetFreeList xs = true
  | [], _ => rfl
  | x :: r, h => by
    simp only [setFreeList, Bool.and_eq_true] at h
    simp [mSetFreeList, mSetFree_of_setFree x h.1, mSetFreeList_of_setFreeList r h.2]
end


/-- `M` acts as `json.Marshal(node)` over the `raw()` normaliser `N`: void is `{}`, arrays
    element-wise in stored order, objects through `N` (`mnorm` over `rawNorm`, and the same in v1) -/
def IsMNorm (N M : Json → Json) : Prop :=
  ∀ v, M v = match v with
    | .void => .obj []
    | .arr _ xs => .arr .raw (xs.map M)
    | .obj kvs => N (.obj kvs)
    | v => v

theorem isMNorm_mnorm : IsMNorm rawNorm mnorm := fun v => by
  cases v <;> first | rfl | rw [mnorm, mnormList_eq_map]

namespace IsMNorm
variable {N M : Json → Json} (hN : IsRawNorm N) (hM : IsMNorm N M)

theorem arr (hM : IsMNorm N M) (t : Tag) (xs : List Json) : M (.arr t xs) = .arr .raw (xs.map M) := hM _
theorem obj (hM : IsMNorm N M) (kvs : List (String × Json)) : M (.obj kvs) = N (.obj kvs) := hM _

include hN hM

/-- erasing the tags first changes nothing -/
theorem comp_untag : ∀ v, mSetFree v = true → M (untag v) = M v := by
  refine jsonInd ?_ ?_ ?_ ?_ ?_ (fun t xs ih hs => ?_) (fun kvs _ hs => ?_)
  iterate 5 intros; rfl
  · simp only [mSetFree, mSetFreeList_eq_all, List.all_eq_true] at hs
    rw [untag, untagList_eq_map, hM.arr, hM.arr, List.map_map]
    exact congrArg _ (List.map_congr_left fun x hx => ih x hx (hs x hx))
  · rw [hM.obj, ← hN.comp_untag (.obj kvs) hs, untag, hM.obj]

end IsMNorm

end Jd.JText

namespace Jd.NativeRT
open Jd Jd.Spec

theorem rawNorm_untag : ∀ x : Json, x.listDoc = true → rawNorm (untag x) = rawNorm x :=
  fun x h => isRawNorm_rawNorm.comp_untag x (JText.setFree_of_listDoc x h)

theorem rawNormList_untag : ∀ xs : List Json, listDocList xs = true →
    rawNormList (untagList xs) = rawNormList xs :=
  fun xs h => by
    have := rawNorm_untag (.arr .raw xs) (by simpa [Json.listDoc] using h)
    rw [untag, rawNorm, rawNorm] at this <;> first | exact (Json.arr.inj this).2 | exact nofun

theorem rawNormKvs_untag : ∀ kvs : List (String × Json), listDocKvs kvs = true →
    rawNormKvs (untagKvs kvs) = rawNormKvs kvs :=
  fun kvs h => by simpa [untag, rawNorm] using rawNorm_untag (.obj kvs) h

theorem marshalNode_untag (nc : NumCodec) : ∀ x : Json, x.listDoc = true →
    marshalNode nc (untag x) = marshalNode nc x :=
  fun x h => by
    rw [JText.marshalNode_eq, JText.marshalNode_eq, JText.isMNorm_mnorm.comp_untag isRawNorm_rawNorm x
      (JText.mSetFree_of_setFree x (JText.setFree_of_listDoc x h))]

theorem marshalList_untag (nc : NumCodec) : ∀ xs : List Json, listDocList xs = true →
    marshalList nc (untagList xs) = marshalList nc xs :=
  fun xs h => by
    have := JText.isMNorm_mnorm.comp_untag isRawNorm_rawNorm (.arr .raw xs) (by
      simpa [JText.mSetFree] using
        JText.mSetFreeList_of_setFreeList xs (JText.setFreeList_of_listDoc xs h))
    rw [untag, JText.mnorm, JText.mnorm] at this
    rw [JText.marshalList_eq, JText.marshalList_eq, (Json.arr.inj this).2]

/-- the key objects of a path are list-mode documents -/
def listDocPath : Path → Bool
  | [] => true
  | .setKeys o :: r => listDocKvs o && listDocPath r
  | .msetKeys o :: r => listDocKvs o && listDocPath r
  | _ :: r => listDocPath r

/-- no set / multiset typed array node in the payloads and in the path -/
def listDocHunk (h : Hunk) : Bool := hunkListDoc h && listDocPath h.path

theorem listDocList_mem {l : List Json} {v : Json} (h : listDocList l = true) (hm : v ∈ l) :
    v.listDoc = true :=
  List.all_eq_true.1 (listDocList_eq_all l ▸ h) v hm

theorem rawNormList_eq_map : ∀ xs : List Json, rawNormList xs = xs.map rawNorm :=
  Yaml.rawNormList_eq_map

theorem rawNorm_normPath : ∀ p : Path, listDocPath p = true →
    rawNorm (pathToJson (normPath p)) = rawNorm (pathToJson p)
  | [], _ => rfl
  | e :: r, h => by
    have ih := rawNorm_normPath r
    simp only [pathToJson, rawNorm, normPath, List.map_cons, rawNormList, Json.arr.injEq, true_and,
      List.cons.injEq] at ih ⊢
    cases e with
    | key k => simp only [listDocPath] at h; exact ⟨rfl, ih h⟩
    | idx i => simp only [listDocPath] at h; exact ⟨rfl, ih h⟩
    | set => simp only [listDocPath] at h; exact ⟨rfl, ih h⟩
    | mset => simp only [listDocPath] at h; exact ⟨rfl, ih h⟩
    | setKeys o =>
      simp only [listDocPath, Bool.and_eq_true] at h
      have hk := rawNormKvs_untag o h.1
      refine ⟨?_, ih h.2⟩
      cases o with
      | nil => simp [normElem]
      | cons kv o => simp [normElem, rawNorm, hk]
    | msetKeys o =>
      simp only [listDocPath, Bool.and_eq_true] at h
      have hk := rawNormKvs_untag o h.1
      refine ⟨?_, ih h.2⟩
      simp [normElem, rawNorm, rawNormList, hk]

theorem jsonM_normPath (nc : NumCodec) (p : Path) (h : listDocPath p = true) :
    jsonM nc (pathToJson (normPath p)) = jsonM nc (pathToJson p) := by
  have := rawNorm_normPath p h
  simp only [jsonM, pathToJson] at this ⊢
  rw [this]

theorem filter_map_untag (l : List Json) :
    (l.map untag).filter (fun v => !v.isVoid) = (l.filter (fun v => !v.isVoid)).map untag := by
  rw [List.filter_map]
  congr 1
  apply List.filter_congr
  intro x _
  simp [untag_isVoid]

theorem filter_filter_nv (l : List Json) :
    (l.filter (fun v => !v.isVoid)).filter (fun v => !v.isVoid) = l.filter (fun v => !v.isVoid) := by
  simp [List.filter_filter]

theorem hunkLines_norm (nc : NumCodec) (h : Hunk) (hd : listDocHunk h = true) :
    hunkLines nc (normHunk h) = hunkLines nc h := by
  simp only [listDocHunk, hunkListDoc, Bool.and_eq_true] at hd
  obtain ⟨⟨⟨⟨hb, hr⟩, ha⟩, hf⟩, hp⟩ := hd
  have ctx : ∀ (mark : String) (l : List Json), listDocList l = true →
      (l.map untag).map (ctxLine nc mark) = l.map (ctxLine nc mark) := by
    intro mark l hl
    rw [List.map_map]
    apply List.map_congr_left
    intro v hv
    simp [ctxLine, untag_isVoid, marshalNode_untag nc v (listDocList_mem hl hv)]
  have hrem : remLines (normHunk h) = (remLines h).map untag := by
    simp only [remLines, normHunk]
    rw [filter_map_untag, filter_filter_nv]
  have hadd : addLines (normHunk h) = (addLines h).map untag := by
    simp only [addLines, normHunk]
    split
    · rfl
    · rw [filter_map_untag, filter_filter_nv]
  have hremL : ((remLines h).map untag).map (remLine nc) = (remLines h).map (remLine nc) := by
    rw [List.map_map]
    apply List.map_congr_left
    intro v hv
    have := listDocList_mem hr (List.mem_filter.mp hv).1
    simp [remLine, marshalNode_untag nc v this]
  have haddL : ((addLines h).map untag).map (addLine nc) = (addLines h).map (addLine nc) := by
    rw [List.map_map]
    apply List.map_congr_left
    intro v hv
    have := listDocList_mem ha (mem_addLines hv)
    simp [addLine, untag_isVoid, marshalNode_untag nc v this]
  unfold hunkLines
  rw [hrem, hadd, hremL, haddL]
  simp only [normHunk, ctx "[" h.before hb, ctx "]" h.after hf, jsonM_normPath nc h.path hp]
  rfl

/-- the diff read back renders to the identical text. -/
theorem render_norm (nc : NumCodec) (d : Diff) (hd : d.all listDocHunk = true) :
    renderM nc [] (normDiff d) = renderM nc [] d := by
  rw [renderM_lines, renderM_lines]
  unfold diffLines normDiff
  rw [List.map_map]
  have : d.map (hunkLines nc ∘ normHunk) = d.map (hunkLines nc) :=
    List.map_congr_left (fun h hh => hunkLines_norm nc h (List.all_eq_true.mp hd h hh))
  rw [this]

/-! ### 13. path indices: `int(float64(i)) = i` below 2^53 -/

theorem floatTrunc_intToFloatBits (i : Int) (h : i.natAbs < 2 ^ 53) :
    floatTrunc (intToFloatBits i) = i :=
  _root_.Jd.floatTrunc_intToFloatBits h

/-- `idxOK` holds when every index of the path has magnitude below 2^53 -/
theorem idxOK_of_bound : ∀ p : Path, (∀ i, PathElem.idx i ∈ p → i.natAbs < 2 ^ 53) → idxOK p = true
  | [], _ => rfl
  | e :: r, h => by
    have ih := idxOK_of_bound r (fun i hi => h i (List.mem_cons_of_mem _ hi))
    cases e with
    | idx i =>
      simp only [idxOK, Bool.and_eq_true, beq_iff_eq]
      exact ⟨floatTrunc_intToFloatBits i (h i (List.mem_cons_self ..)), ih⟩
    | _ => simpa [idxOK] using ih

/-! ### 14. non-vacuity -/

/-- a codec that knows no number token (integers below 2^53 are handled by the model itself) -/
def exCodec : NumCodec := { fmt := fun _ => none, parse := fun _ => none }

/-- a list hunk with context followed by a merge hunk -/
def exDiff : Diff :=
  [ { path := [.key "a", .idx 1], before := [.void, .bool false], remove := [.str "x", .arr .list [.null]],
      add := [.void, .bool true], after := [.void] },
    { merge := true, path := [.key "b"], add := [.void] } ]

example : wfDiff exDiff = true := by decide
example : exDiff.all listDocHunk = true := by decide

end Jd.NativeRT

#print axioms Jd.NativeRT.read_render
#print axioms Jd.NativeRT.read_render_inherit
#print axioms Jd.NativeRT.render_norm
#print axioms Jd.NativeRT.newPathM_norm
#print axioms Jd.NativeRT.floatTrunc_intToFloatBits
#print axioms Jd.NativeRT.splitOn_unlines
