/-
  JdProofs.DiffPatchList — property C01 in LIST mode, strict strategy:
  applying `a.Diff(b)` to `a` yields a document equal to `b`.

  The hunks are interpreted by the REFERENCE semantics `Jd.Spec.applyStrictAll` (JdSpec.HunkSem:
  paths, removed values, before / after context lines all checked), not by the library's patch code.
  Namespace `Jd.DPL`. All results are for options `o` with `dispatchTag o = .list`, `isMerge o = false`.

  * `diffM_list_correct` (any nesting): `a b` list documents, well-formed (sorted unique keys), finite
    numbers, no void member, under `HashOK o a b` (no FNV collision between a sub-term of `a` and one
    of `b`) and `ZeroOK a b` (no `0` / `-0` pair between their numbers):
      ∃ r, applyStrictAll a (diffM o a b) = some r ∧ specEq r b ∧ specEq b r ∧ r.listDoc ∧
           (PrecMono o → equivB o r b ∧ equals o r b);
    `diffM_list_correct_noPrecision` for `precOf o = 0`; `diffM_list_correct_numHash` with, in place of
    `ZeroOK`, "numbers equal as floats have equal hash codes" (true of all finite doubles).
  * `diffM_list_correct_scalar_arrays`: arrays of scalars, no `ZeroOK`, with the pointwise description
    `PWL` of the result (each element is the target's, or a source element with the same hash code).
  * `Example.hyps`: a pair with a three-hunk diff (one hunk inside a nested list) meets the hypotheses.
  * `Example.cexA`, `Example.cexB`: the pair of defect D5b, `[1,{"a":0}]` → `[2,{"a":-0}]`. With a hash
    over the bits of the numbers (`0` and `-0` different) the statement is false without `ZeroOK`, for
    the model and for the Go library: the diff has a hunk with a wrong after-context and
    `a.Patch(a.Diff(b))` fails. With `0` and `-0` hashing alike (JdModel.Hash, jd since D5b) the diff of
    the pair applies (see the `#eval`s); `ZeroOK` in `diffM_list_correct` is stronger than necessary
    (`diffM_list_correct_numHash`).

  The proof. How the diff is computed is in JdProofs/ListScript.lean: the diff of two arrays is the
  rendering of their alignment (`Align.diffNode_alignment`), and induction is over the first document
  (`listDoc_induct`) and, for an array, over the alignment script (`keep` / `sub` / `edit` steps).
  `apply_render` applies a rendered script: an `edit` step is one list hunk, compared with `splice`;
  hunks below an index / a key act on that member only. An empty sub-diff means equal hash codes
  (`diff_nil_hash`), so (the golcs common sequence being a longest one, `LOpt`, `walk_ok`) the
  sub-diff of a recursed pair is never empty and the after-context of the hunk in front of it is the
  element itself. The sub-diff passes through `Jd.subAfter` (a wholesale replacement with nothing
  accumulated receives the true next element, or the array end, as after-context; the strict splice
  checks it). The main induction is `diff_correct` (a list against a list: `apply_alignment`; an
  object against an object: `obj_step_list`, the generic object step `ObjPatch.obj_step`).
  Where a hunk comes from: `mem_diffNode_arr` (two arrays), `DE.mem_diffNode_obj` (two objects, either
  strategy), and `hunk_induct`, the induction over the hunks of a diff with one case per origin.
  Namespace `Jd.Real`: every hunk sits below the path its diff was given.
-/
import JdModel
import JdSpec
import JdProofs.EqualsList
import JdProofs.LcsProofs
import JdProofs.SubAfter
import JdProofs.ListScript
import JdProofs.ObjStep

namespace Jd.DPL
open Jd Jd.Spec Jd.RealL Jd.Align

/-- **where a hunk of the diff of two arrays comes from**: it is an `edit` step of the alignment — a
    list hunk addressed to an index up to the length of the second array, removing a run of the
    first array and adding a run of the second, its context lines being elements of the arrays or
    the void marker of an array end — or it belongs to the sub-diff (as `subAfter` leaves it) of
    two same-kind containers, an element of the first array and one of the second -/
theorem mem_diffNode_arr {o : Opts} (ho : dispatchTag o = .list) {t t' : Tag} {xs ys : List Json}
    (ht : (t == .raw || t == .list) = true) (ht' : (t' == .raw || t' == .list) = true)
    (htt : t = .raw ∨ t' = .list) {p : Path} {h : Hunk}
    (hm : h ∈ diffNode o false (.arr t xs) (.arr t' ys) p) :
    (∃ (s : Nat) (prev : Json) (R A : List Json) (after : Json),
      h = { path := p ++ [.idx (s : Int)], before := [prev], remove := R, add := A,
            after := [after] } ∧ (R ≠ [] ∨ A ≠ []) ∧ s ≤ ys.length ∧
      (prev = .void ∨ prev ∈ ys) ∧ R.Sublist xs ∧ A.Sublist ys ∧ (after = .void ∨ after ∈ xs)) ∨
    (∃ (x y : Json) (j : Nat) (n : Bool) (nx : Json), x ∈ xs ∧ y ∈ ys ∧ sameContainerType o x y = true ∧ j < ys.length ∧
      (nx = .void ∨ nx ∈ xs) ∧ h ∈ subAfter p n nx (diffNode o false x y (p ++ [.idx (j : Int)]))) := by
  rw [diffNode_alignment ho xs ys ht ht' htt] at hm
  have parts : ∀ {S1 : Script} {st : Step} {S2 : Script}, alignment o xs ys = S1 ++ st :: S2 →
      st.ok o ∧ src S1 ++ st.src ++ src S2 = xs ∧ tgt S1 ++ st.tgt ++ tgt S2 = ys := fun e =>
    ⟨alignment_ok o xs ys _ (by rw [e]; simp), by rw [← alignment_src o xs ys, e]; simp [src_append],
      by rw [← alignment_tgt o xs ys, e]; simp [tgt_append]⟩
  rcases mem_render _ _ _ _ hm with ⟨S1, R, A, S2, e, rfl⟩ | ⟨S1, x, y, S2, n', e, hm'⟩
  · obtain ⟨hok, hxs, hys⟩ := parts e
    refine .inl ⟨(tgt S1).length, (tgt S1).getLast?.getD .void, R, A,
      afterOf o p (0 + (tgt S1).length + A.length) S2, by simp, hok.1, ?_, ?_, ?_, ?_, ?_⟩
    · rw [← hys]; simp only [List.length_append]; omega
    · exact (getLast?_getD_void_or_mem (tgt S1)).imp id fun h => by rw [← hys]; simp [h]
    · rw [← hxs]; simp [Step.src]
    · rw [← hys]; simp [Step.tgt]
    · exact (afterOf_mem o p _ S2).imp id fun h => by rw [← hxs]; exact List.mem_append_right _ h
  · obtain ⟨hok, hxs, hys⟩ := parts e
    exact .inr ⟨x, y, (tgt S1).length, n', _, by rw [← hxs]; simp [Step.src],
      by rw [← hys]; simp [Step.tgt], hok.1, by rw [← hys]; simp [Step.tgt],
      (headD_void_or_mem (src S2)).imp id fun h => by rw [← hxs]; exact List.mem_append_right _ h,
      by simpa using hm'⟩

/-! ## 1. the path argument is only a prefix -/

/-- prefix the path of a hunk -/
def shiftHunk (p : Path) (h : Hunk) : Hunk := { h with path := p ++ h.path }

theorem subAfter_shift (p q : Path) (n : Bool) (x : Json) (D : Diff) :
    subAfter (p ++ q) n x (D.map (shiftHunk p)) = (subAfter q n x D).map (shiftHunk p) :=
  subAfter_map_prefix p q n x D

theorem shiftHunk_shiftHunk (p q : Path) (h : Hunk) :
    shiftHunk p (shiftHunk q h) = shiftHunk (p ++ q) h := by
  simp only [shiftHunk, List.append_assoc]

theorem ite_map {α β} (f : α → β) {c : Prop} [Decidable c] {A B : List β} {A' B' : List α}
    (hA : A = A'.map f) (hB : B = B'.map f) :
    (if c then A else B) = (if c then A' else B').map f := by
  split <;> assumption

theorem diffCommon_shift (m : Bool) (p q : Path) (a b : Json) :
    diffCommon m a b (p ++ q) = (diffCommon m a b q).map (shiftHunk p) :=
  ite_map _ rfl (ite_map _ rfl rfl)

theorem afterOf_shift (o : Opts) (p q : Path) (k : Nat) {S : Script}
    (h : ∀ x y, Step.sub x y ∈ S → ∀ p q, diffNode o false x y (p ++ q) =
      (diffNode o false x y q).map (shiftHunk p)) : afterOf o (p ++ q) k S = afterOf o q k S := by
  match S with
  | [] => rfl
  | .keep _ _ :: _ => rfl
  | .edit _ _ :: _ => rfl
  | .sub x y :: r => simp only [afterOf, List.append_assoc, h x y List.mem_cons_self, List.isEmpty_map]

theorem render_shift (o : Opts) (p q : Path) : ∀ (S : Script) (n : Bool) (k : Nat) (prev : Json),
    (∀ x y, Step.sub x y ∈ S → ∀ p q, diffNode o false x y (p ++ q) =
      (diffNode o false x y q).map (shiftHunk p)) →
    render o (p ++ q) n k prev S = (render o q n k prev S).map (shiftHunk p)
  | [], _, _, _, _ => rfl
  | .keep _ y :: r, _, k, _, h => by
    simpa [render] using render_shift o p q r true (k + 1) y fun x y hm => h x y (.tail _ hm)
  | .sub x y :: r, n, k, _, h => by
    simp only [render, List.map_append, List.append_assoc, h x y List.mem_cons_self, subAfter_shift,
      render_shift o p q r true (k + 1) y fun x y hm => h x y (.tail _ hm)]
  | .edit R A :: r, _, k, prev, h => by
    simp only [render, List.map_cons, afterOf_shift o p q _ fun x y hm => h x y (.tail _ hm),
      render_shift o p q r false (k + A.length) _ fun x y hm => h x y (.tail _ hm)]
    simp [shiftHunk]

/-! ### the parts of a set diff -/

def _root_.Jd.SetDP.subOf (kp : UInt64 × SetPart) : Diff :=
  match kp.2 with | .sub d => d | .removed _ => []

def _root_.Jd.SetDP.remOf (kp : UInt64 × SetPart) : Option Json :=
  match kp.2 with | .removed x => some x | .sub _ => none

open Jd.SetDP (subOf remOf)

/-- the part of a set diff, moved below the path `p` -/
def shiftSP (p : Path) : SetPart → SetPart
  | .sub d => .sub (d.map (shiftHunk p))
  | .removed z => .removed z

def shiftPart (p : Path) (kp : UInt64 × SetPart) : UInt64 × SetPart := (kp.1, shiftSP p kp.2)

theorem ksort_shiftPart (p : Path) (l : List (UInt64 × SetPart)) :
    ksort (l.map (shiftPart p)) = (ksort l).map (shiftPart p) :=
  ksort_map (shiftSP p) l

theorem subOf_shiftPart (p : Path) (kp : UInt64 × SetPart) :
    subOf (shiftPart p kp) = (subOf kp).map (shiftHunk p) := by
  obtain ⟨c, part⟩ := kp
  cases part <;> rfl

theorem remOf_shiftPart (p : Path) (kp : UInt64 × SetPart) : remOf (shiftPart p kp) = remOf kp := by
  obtain ⟨c, part⟩ := kp
  cases part <;> rfl

theorem flatMap_subOf_shift (p : Path) : ∀ l : List (UInt64 × SetPart),
    (l.map (shiftPart p)).flatMap subOf = (l.flatMap subOf).map (shiftHunk p)
  | [] => rfl
  | kp :: r => by
    simp only [List.map_cons, List.flatMap_cons, List.map_append, subOf_shiftPart,
      flatMap_subOf_shift p r]

theorem filterMap_remOf_shift (p : Path) : ∀ l : List (UInt64 × SetPart),
    (l.map (shiftPart p)).filterMap remOf = l.filterMap remOf
  | [] => rfl
  | kp :: r => by
    simp only [List.map_cons, List.filterMap_cons, remOf_shiftPart, filterMap_remOf_shift p r]

theorem _root_.Jd.DE.diffSetElems_nil_m (o : Opts) (m : Bool) (p : Path) (ys : List Json) :
    diffSetElems o m p ys [] = [] := by
  rw [diffSetElems.eq_def]

theorem _root_.Jd.DE.diffSetElems_cons_m (o : Opts) (m : Bool) (p : Path) (ys : List Json)
    (x : Json) (r : List Json) :
    diffSetElems o m p ys (x :: r) =
      if (r.map (identOf o)).contains (identOf o x) then diffSetElems o m p ys r
      else match identLookup o (identOf o x) ys with
        | none => (identOf o x, .removed x) :: diffSetElems o m p ys r
        | some y =>
          match x, y with
          | .obj kvs, .obj _ =>
            (identOf o x, .sub (diffNode o m (.obj kvs) y (p ++ [newPathSetKeys o kvs]))) ::
              diffSetElems o m p ys r
          | _, _ => diffSetElems o m p ys r := by
  rw [diffSetElems.eq_def]
  rfl

/-! ### every option set, both strategies, all documents -/

/-- the leaf hunk of a set diff -/
theorem leafHunk_shift (p q : Path) (e : PathElem) {A A' : List Json} (B : List Json) (hA : A' = A) :
    (if A'.isEmpty && B.isEmpty then []
      else [({ path := p ++ q ++ [e], remove := A', add := B } : Hunk)]) =
      (if A.isEmpty && B.isEmpty then []
        else [({ path := q ++ [e], remove := A, add := B } : Hunk)]).map (shiftHunk p) := by
  subst hA; exact ite_map _ rfl (by rw [List.append_assoc]; rfl)

/-- what is proved of a first document -/
def Shifts (o : Opts) (a : Json) : Prop :=
  ∀ (m : Bool) (b : Json) (p q : Path),
    diffNode o m a b (p ++ q) = (diffNode o m a b q).map (shiftHunk p)

/-- the parts of a set diff -/
theorem diffSetElems_shiftG (o : Opts) (m : Bool) (p q : Path) (ys : List Json) :
    ∀ xs : List Json, (∀ x ∈ xs, Shifts o x) →
      diffSetElems o m (p ++ q) ys xs = (diffSetElems o m q ys xs).map (shiftPart p)
  | [], _ => by rw [DE.diffSetElems_nil_m, DE.diffSetElems_nil_m]; rfl
  | x :: r, h => by
    have ih := diffSetElems_shiftG o m p q ys r fun z hz => h z (List.mem_cons_of_mem _ hz)
    rw [DE.diffSetElems_cons_m, DE.diffSetElems_cons_m, ih]
    split
    · rfl
    · split
      · rfl
      · split
        · simp only [List.map_cons, shiftPart, shiftSP, List.append_assoc,
            h _ List.mem_cons_self m _ p (q ++ [_])]
        · rfl

/-- the object loop -/
theorem diffKvs_shiftG (o : Opts) (m : Bool) (p q : Path) (kvs' : List (String × Json))
    (kvs : List (String × Json)) (h : ∀ k v, (k, v) ∈ kvs → Shifts o v) :
    diffKvs o m (p ++ q) kvs' kvs = (diffKvs o m q kvs' kvs).map (shiftHunk p) := by
  rw [DE.diffKvs_eq_flatMap, DE.diffKvs_eq_flatMap, List.map_flatMap]
  refine flatMap_congr_left fun kv hkv => ?_
  unfold DE.keyDiff
  split
  · rw [List.append_assoc]; exact h kv.1 kv.2 hkv m _ p _
  · rw [List.append_assoc]; exact ite_map _ rfl rfl

/-- **the diff at the path `p ++ q` is the diff at `q`, moved below `p`**: every option set, both
    strategies, all documents -/
theorem diffNode_shiftG (o : Opts) : ∀ a : Json, Shifts o a := by
  intro a
  induction a using jsonIndScalar with
  | scalar a h1 h2 =>
    intro m b p q
    rw [DE.diffNode_scalar o m a b h1 h2, DE.diffNode_scalar o m a b h1 h2, diffCommon_shift]
  | arr t xs ih =>
    intro m b p q
    rw [diffNode.eq_def, diffNode.eq_def o m _ b q]
    dsimp only
    generalize (if (t == Tag.raw) = true then b.dispatch o else b) = b'
    cases effTag o t with
    | set =>
      cases b' with
      | arr t' ys =>
        cases t' with
        | set =>
          refine ite_map _ rfl ?_
          rw [diffSetElems_shiftG o m p q _ xs ih]
          simp only [ksort_shiftPart, List.map_append]
          congr 1
          · exact flatMap_subOf_shift p _
          · exact leafHunk_shift p q _ _ (filterMap_remOf_shift p _)
        | _ => exact ite_map _ rfl rfl
      | _ => exact ite_map _ rfl rfl
    | mset =>
      cases b' with
      | arr t' ys =>
        cases t' with
        | mset => exact ite_map _ rfl (ite_map _ rfl (by rw [List.append_assoc]; rfl))
        | _ => exact ite_map _ rfl rfl
      | _ => exact ite_map _ rfl rfl
    | _ =>
      cases b' with
      | arr t' ys =>
        cases t' with
        | list =>
          refine ite_map _ (ite_map _ rfl rfl) ?_
          rw [diffRest_alignment, diffRest_alignment]
          exact render_shift o p q _ _ _ _ fun x y hm pp qq =>
            ih x ((mem_of_mem_alignment hm).1 x (by simp [Step.src])) false y pp qq
        | _ => exact ite_map _ rfl rfl
      | _ => exact ite_map _ rfl rfl
  | obj kvs ih =>
    intro m b p q
    by_cases hb : ∃ kvs', b = .obj kvs'
    · obtain ⟨kvs', rfl⟩ := hb
      rw [DE.diffNode_obj_obj, DE.diffNode_obj_obj, diffKvs_shiftG o m p q kvs' kvs ih,
        List.map_append, List.map_map]
      congr 1
      exact List.map_congr_left fun kv _ => by
        simp only [Function.comp, shiftHunk, List.append_assoc]
    · rw [DE.diffNode_obj_other_m o m kvs b (fun kvs' e => hb ⟨kvs', e⟩),
        DE.diffNode_obj_other_m o m kvs b (fun kvs' e => hb ⟨kvs', e⟩)]
      exact ite_map _ rfl rfl

/-- the diff at the path `p` is the diff at the empty path, moved below `p` -/
theorem diffNode_shift (o : Opts) (m : Bool) (a b : Json) (p : Path) :
    diffNode o m a b p = (diffNode o m a b []).map (shiftHunk p) := by
  simpa using diffNode_shiftG o a m b p []

/-! ## 2. the domain: list documents, well-formed, finite numbers, no void object member -/

mutual
/-- no object member is void (void stands for "absent" and never occurs inside a document) -/
def memOK : Json → Bool
  | .arr _ xs => memOKList xs
  | .obj kvs => memOKKvs kvs
  | _ => true
def memOKList : List Json → Bool
  | [] => true
  | x :: r => (memOK x) && memOKList r
def memOKKvs : List (String × Json) → Bool
  | [] => true
  | (_, v) :: r => !v.isVoid && (memOK v) && memOKKvs r
end

theorem memOKList_eq_all (xs : List Json) : memOKList xs = xs.all memOK :=
  listP_eq_all rfl (fun _ _ => rfl) xs

theorem memOKKvs_eq_all (kvs : List (String × Json)) :
    memOKKvs kvs = kvs.all fun kv => !kv.2.isVoid && memOK kv.2 :=
  listP_eq_all rfl (fun _ _ => rfl) kvs

/-- no void marker strictly inside a document (`PRC.vfree`): in particular no void object member -/
theorem _root_.Jd.PRC.memOK_of_vfree : ∀ (a : Json), PRC.vfree a = true → memOK a = true := by
  refine jsonIndScalar (fun a h1 h2 _ => ?_) (fun t xs ih h => ?_) (fun kvs ih h => ?_)
  · cases a <;> first | rfl | exact absurd rfl (h1 _ _) | exact absurd rfl (h2 _)
  · rw [PRC.vfree, PRC.vfreeList_eq_all, List.all_eq_true] at h
    rw [memOK, memOKList_eq_all, List.all_eq_true]
    exact fun x hx => ih x hx (Bool.and_eq_true_iff.1 (h x hx)).2
  · rw [PRC.vfree, PRC.vfreeKvs_eq_all, List.all_eq_true] at h
    rw [memOK, memOKKvs_eq_all, List.all_eq_true]
    intro kv hkv
    have := Bool.and_eq_true_iff.1 (h kv hkv)
    rw [this.1, ih kv.1 kv.2 hkv this.2]; rfl

/-- the documents of the theorem -/
structure Good (x : Json) : Prop where
  listDoc : x.listDoc = true
  wf : x.wf = true
  fin : x.finiteNums = true
  mem : (memOK x) = true

structure GoodL (xs : List Json) : Prop where
  listDoc : listDocList xs = true
  wf : wfList xs = true
  fin : finiteNumsList xs = true
  mem : memOKList xs = true

structure GoodK (kvs : List (String × Json)) : Prop where
  listDoc : listDocKvs kvs = true
  wf : wfKvs kvs = true
  fin : finiteNumsKvs kvs = true
  mem : memOKKvs kvs = true

/-- `GoodL` is `Good` of every element -/
theorem goodL_iff {xs : List Json} : GoodL xs ↔ ∀ x ∈ xs, Good x := by
  constructor
  · rintro ⟨h1, h2, h3, h4⟩ x hx
    rw [listDocList_eq_all, List.all_eq_true] at h1
    rw [wfList_eq_all, List.all_eq_true] at h2
    rw [finiteNumsList_eq_all, List.all_eq_true] at h3
    rw [memOKList_eq_all, List.all_eq_true] at h4
    exact ⟨h1 x hx, h2 x hx, h3 x hx, h4 x hx⟩
  · intro h
    refine ⟨?_, ?_, ?_, ?_⟩
    · rw [listDocList_eq_all, List.all_eq_true]; exact fun x hx => (h x hx).listDoc
    · rw [wfList_eq_all, List.all_eq_true]; exact fun x hx => (h x hx).wf
    · rw [finiteNumsList_eq_all, List.all_eq_true]; exact fun x hx => (h x hx).fin
    · rw [memOKList_eq_all, List.all_eq_true]; exact fun x hx => (h x hx).mem

theorem GoodL.nil : GoodL [] := ⟨rfl, rfl, rfl, rfl⟩

theorem goodL_cons {x : Json} {r : List Json} : GoodL (x :: r) ↔ Good x ∧ GoodL r := by
  simp only [goodL_iff, List.forall_mem_cons]

theorem GoodL.append {xs ys : List Json} (h1 : GoodL xs) (h2 : GoodL ys) : GoodL (xs ++ ys) :=
  goodL_iff.2 fun x hx => (List.mem_append.1 hx).elim (goodL_iff.1 h1 x) (goodL_iff.1 h2 x)

theorem GoodL.of_mem {xs : List Json} (h : GoodL xs) {x : Json} (hx : x ∈ xs) : Good x :=
  goodL_iff.1 h x hx

theorem good_arr {t : Tag} {xs : List Json} :
    Good (.arr t xs) ↔ (t == .raw || t == .list) = true ∧ GoodL xs := by
  constructor
  · rintro ⟨h1, h2, h3, h4⟩
    simp only [Json.listDoc, Bool.and_eq_true] at h1
    simp only [Json.wf] at h2
    simp only [Json.finiteNums] at h3
    simp only [memOK] at h4
    exact ⟨h1.1, ⟨h1.2, h2, h3, h4⟩⟩
  · rintro ⟨ht, ⟨g1, g2, g3, g4⟩⟩
    exact ⟨by simp only [Json.listDoc, Bool.and_eq_true]; exact ⟨ht, g1⟩, by simpa [Json.wf] using g2,
      by simpa [Json.finiteNums] using g3, by simpa [memOK] using g4⟩

theorem good_obj {kvs : List (String × Json)} :
    Good (.obj kvs) ↔ keysSorted kvs = true ∧ GoodK kvs := by
  constructor
  · rintro ⟨h1, h2, h3, h4⟩
    simp only [Json.listDoc] at h1
    simp only [Json.wf, Bool.and_eq_true] at h2
    simp only [Json.finiteNums] at h3
    simp only [memOK] at h4
    exact ⟨h2.1, ⟨h1, h2.2, h3, h4⟩⟩
  · rintro ⟨hs, ⟨g1, g2, g3, g4⟩⟩
    exact ⟨by simpa [Json.listDoc] using g1, by simp [Json.wf, hs, g2],
      by simpa [Json.finiteNums] using g3, by simpa [memOK] using g4⟩

theorem goodK_cons {k : String} {v : Json} {r : List (String × Json)} :
    GoodK ((k, v) :: r) ↔ (Good v ∧ v.isVoid = false) ∧ GoodK r := by
  constructor
  · rintro ⟨h1, h2, h3, h4⟩
    simp only [listDocKvs, wfKvs, finiteNumsKvs, memOKKvs, Bool.and_eq_true, Bool.not_eq_true'] at h1 h2 h3 h4
    exact ⟨⟨⟨h1.1, h2.1, h3.1, h4.1.2⟩, h4.1.1⟩, ⟨h1.2, h2.2, h3.2, h4.2⟩⟩
  · rintro ⟨⟨⟨h1, h2, h3, h4⟩, hv⟩, ⟨g1, g2, g3, g4⟩⟩
    exact ⟨by simp [listDocKvs, h1, g1], by simp [wfKvs, h2, g2], by simp [finiteNumsKvs, h3, g3],
      by simp [memOKKvs, h4, g4, hv]⟩

theorem GoodK.of_mem {kvs : List (String × Json)} (h : GoodK kvs) {k : String} {v : Json}
    (hm : (k, v) ∈ kvs) : Good v ∧ v.isVoid = false := by
  induction kvs with
  | nil => cases hm
  | cons kv r ih =>
    obtain ⟨k', v'⟩ := kv
    rw [goodK_cons] at h
    rcases List.mem_cons.1 hm with e | hm
    · cases e; exact h.1
    · exact ih h.2 hm

theorem GoodK.lookup {kvs : List (String × Json)} (h : GoodK kvs) {k : String} {v : Json}
    (hl : alookup k kvs = some v) : Good v ∧ v.isVoid = false :=
  h.of_mem (mem_of_alookup hl)

/-! ### structural equality on the domain -/

theorem nonnegBits_zero : nonnegBits 0 = true := by decide

theorem specEq_eq_equals {x y : Json} (hx : x.listDoc = true) (hy : y.listDoc = true) :
    specEq x y = equals [] x y :=
  (equals_eq_equivB_list [] rfl x y hx hy).symm

theorem specEq_refl (L : FloatLaws) {x : Json} (h : Good x) : specEq x x = true := by
  rw [specEq_eq_equals h.listDoc h.listDoc]
  exact equals_refl_list L [] rfl nonnegBits_zero x h.listDoc h.wf h.fin

theorem specEq_symm (L : FloatLaws) {x y : Json} (hx : Good x) (hy : Good y) :
    specEq x y = specEq y x := by
  rw [specEq_eq_equals hx.listDoc hy.listDoc, specEq_eq_equals hy.listDoc hx.listDoc]
  exact equals_symm_list L [] rfl x y hx.listDoc hy.listDoc hx.wf hy.wf

/-- the conclusion: equal to the target, read from either side -/
def Rel (z y : Json) : Prop := specEq z y = true ∧ specEq y z = true

inductive RelL : List Json → List Json → Prop
  | nil : RelL [] []
  | cons {z y : Json} {zs ys : List Json} : Rel z y → RelL zs ys → RelL (z :: zs) (y :: ys)

theorem Rel.refl (L : FloatLaws) {x : Json} (h : Good x) : Rel x x :=
  ⟨specEq_refl L h, specEq_refl L h⟩

theorem RelL.refl (L : FloatLaws) {xs : List Json} (h : GoodL xs) : RelL xs xs := by
  induction xs with
  | nil => exact .nil
  | cons x r ih =>
    rw [goodL_cons] at h
    exact .cons (Rel.refl L h.1) (ih h.2)

theorem equivList_of_relL {zs ys : List Json} (h : RelL zs ys) :
    equivList [] zs ys = true ∧ equivList [] ys zs = true := by
  induction h with
  | nil => simp [equivList]
  | cons h _ ih =>
    simp only [equivList, Bool.and_eq_true]
    exact ⟨⟨h.1, ih.1⟩, ⟨h.2, ih.2⟩⟩

theorem Rel.arr {zs ys : List Json} (h : RelL zs ys) (t t' : Tag) : Rel (.arr t zs) (.arr t' ys) := by
  have := equivList_of_relL h
  constructor <;> simp [specEq, equivB, dispatchTag, this.1, this.2]

theorem rel_void_left {y : Json} (h : Rel .void y) : y = .void := by
  have := h.1
  cases y <;> simp_all [specEq, equivB]

theorem isVoid_eq_kind (x : Json) : x.isVoid = decide (x.kind = .void) := by
  cases x <;> rfl

theorem Rel.isVoid_eq {z y : Json} (h : Rel z y) : z.isVoid = y.isVoid := by
  rw [isVoid_eq_kind, isVoid_eq_kind, equivB_kind [] z y h.1]

/-! ### objects -/

theorem equivKvs_of_forall (o : Opts) (kvs' : List (String × Json)) :
    ∀ (r : List (String × Json)),
      (∀ k v, (k, v) ∈ r → ∃ v', alookup k kvs' = some v' ∧ equivB o v v' = true) →
      equivKvs o r kvs' = true
  | [], _ => by simp [equivKvs]
  | (k, v) :: r, h => by
    rw [equivKvs, Bool.and_eq_true]
    refine ⟨?_, equivKvs_of_forall o kvs' r (fun k' v' hm => h k' v' (List.mem_cons_of_mem _ hm))⟩
    obtain ⟨v', hl, he⟩ := h k v List.mem_cons_self
    simp [hl, he]

/-- two objects with sorted keys: the first has exactly the members of the second, up to `Rel` -/
theorem Rel.obj {cur kvs' : List (String × Json)} (hs : keysSorted cur = true)
    (hs' : keysSorted kvs' = true)
    (h : ∀ k, match alookup k kvs' with
      | none => alookup k cur = none
      | some v' => ∃ z, alookup k cur = some z ∧ Rel z v') :
    Rel (.obj cur) (.obj kvs') := by
  have key : ∀ k, DPK.OptRel Rel (alookup k cur) (alookup k kvs') := fun k => .of_lookup (h k)
  have key' : ∀ k, DPK.OptRel (fun x y => Rel y x) (alookup k kvs') (alookup k cur) := fun k => by
    have := key k
    cases h1 : alookup k cur <;> cases h2 : alookup k kvs' <;> rw [h1, h2] at this <;> exact this
  obtain ⟨hlen, m1⟩ := DPK.OptRel.members hs hs' key
  obtain ⟨_, m2⟩ := DPK.OptRel.members hs' hs key'
  have e1 := equivKvs_of_forall [] kvs' cur fun k z hm => (m1 k z hm).imp fun _ e => ⟨e.1, e.2.1⟩
  have e2 := equivKvs_of_forall [] cur kvs' fun k z hm => (m2 k z hm).imp fun _ e => ⟨e.1, e.2.2⟩
  constructor <;> simp [specEq, equivB, hlen, e1, e2]

/-! ## 3. one list hunk against the reference `splice` -/

/-- before-context of a hunk at the end of `pre`: the array start marker, or the last element -/
def PrevOK (pre : List Json) (prev : Json) : Prop :=
  match pre.getLast? with
  | none => prev.isVoid = true
  | some x => specEq prev x = true

/-- after-context of a hunk in front of `post`: the array end marker, or the first element -/
def AfterOK (post : List Json) (after : Json) : Prop :=
  match post.head? with
  | none => after.isVoid = true
  | some x => specEq after x = true

theorem prefixEq_append (R post : List Json) (h : ∀ x ∈ R, specEq x x = true) :
    prefixEq R (R ++ post) = true := by
  induction R with
  | nil => simp [prefixEq]
  | cons x R ih =>
    simp only [List.cons_append, prefixEq, Bool.and_eq_true]
    exact ⟨h x List.mem_cons_self, ih (fun y hy => h y (List.mem_cons_of_mem _ hy))⟩

theorem beforeOk_one (l : List Json) (i : Nat) (prev : Json) :
    beforeOk l (i : Int) 1 0 [prev] =
      (match i with
       | 0 => prev.isVoid
       | j + 1 => match l[j]? with
         | some x => specEq prev x
         | none => false) := by
  simp only [beforeOk, Bool.and_true]
  cases i with
  | zero => simp
  | succ j =>
    have h1 : ¬ (((j + 1 : Nat) : Int) - (((1 : Nat) : Int) - ((0 : Nat) : Int)) < 0) := by omega
    have h2 : (((j + 1 : Nat) : Int) - (((1 : Nat) : Int) - ((0 : Nat) : Int))).toNat = j := by omega
    rw [if_neg h1, h2]
    rfl

theorem afterOk_one {post : List Json} {after : Json} (h : AfterOK post after) :
    afterOk post 0 [after] = true := by
  unfold AfterOK at h
  cases post <;> simp_all [afterOk]

theorem splice_ok (pre R A post : List Json) (prev after : Json) (p : Path)
    (hR : ∀ x ∈ R, specEq x x = true) (hp : PrevOK pre prev) (ha : AfterOK post after) :
    splice (pre ++ R ++ post) (pre.length : Int)
      { path := p, before := [prev], remove := R, add := A, after := [after] } =
      some (pre ++ A ++ post) := by
  unfold splice
  have h1 : ((pre.length : Int) == -1) = false := by
    simp only [beq_eq_false_iff_ne, ne_eq]; omega
  have h2 : ((pre.length : Int) < 0 || (pre.length : Int) > ((pre ++ R ++ post).length : Int)) = false := by
    simp only [List.length_append, Bool.or_eq_false_iff, decide_eq_false_iff_not]
    omega
  simp only [h1, h2, Bool.false_eq_true, if_false, Int.toNat_natCast]
  have h3 : (pre ++ R ++ post).take pre.length = pre := by simp [List.append_assoc]
  have h4 : (pre ++ R ++ post).drop pre.length = R ++ post := by simp [List.append_assoc]
  have h5 : (R ++ post).drop R.length = post := by simp
  rw [h3, h4, h5, prefixEq_append R post hR]
  have h6 : beforeOk (pre ++ R ++ post) (pre.length : Int) [prev].length 0 [prev] = true := by
    show beforeOk (pre ++ R ++ post) (pre.length : Int) 1 0 [prev] = true
    rw [beforeOk_one]
    unfold PrevOK at hp
    rcases List.eq_nil_or_concat pre with rfl | ⟨pre', z, rfl⟩
    · simpa using hp
    · simp only [List.concat_eq_append, List.getLast?_append, List.getLast?_singleton,
        Option.some_or] at hp
      simp [List.append_assoc, hp]
  rw [h6, afterOk_one ha]
  simp

theorem applyStrictAll_append (n : Json) (d1 d2 : Diff) :
    applyStrictAll n (d1 ++ d2) = (applyStrictAll n d1).bind (applyStrictAll · d2) := by
  induction d1 generalizing n with
  | nil => simp [applyStrictAll]
  | cons h d ih =>
    simp only [List.cons_append, applyStrictAll]
    cases applyStrict n h.path h <;> simp [ih]

theorem PrevOK.concat (pre : List Json) (x prev : Json) (h : specEq prev x = true) :
    PrevOK (pre ++ [x]) prev := by
  simp [PrevOK, h]

theorem AfterOK.nil : AfterOK [] .void := by simp [AfterOK, Json.isVoid]

theorem AfterOK.cons (x : Json) (post : List Json) (after : Json) (h : specEq after x = true) :
    AfterOK (x :: post) after := by
  simp [AfterOK, h]

/-- applying one list hunk: the run `R` behind `pre` is replaced by `A` -/
theorem apply_edit (L : FloatLaws) (t : Tag) (pre R A post : List Json) (prev after : Json)
    (hR : GoodL R) (hp : PrevOK pre prev) (ha : AfterOK post after) :
    applyStrictAll (.arr t (pre ++ R ++ post))
        [({ path := [.idx (pre.length : Int)], before := [prev], remove := R, add := A,
            after := [after] } : Hunk)] = some (.arr .raw (pre ++ A ++ post)) := by
  have := splice_ok pre R A post prev after [PathElem.idx (pre.length : Int)]
    (fun x hx => specEq_refl L (hR.of_mem hx)) hp ha
  simp only [applyStrictAll, applyStrict, this, Option.map_some, Option.bind_some]

/-! ## 4. arrays of scalars -/

def isScalar : Json → Bool
  | .arr _ _ => false
  | .obj _ => false
  | _ => true

/-- `sameContainerType` holds of two objects or of two arrays only -/
theorem sameContainerType_cases {o : Opts} {x y : Json} (h : sameContainerType o x y = true) :
    (∃ kvs kvs', x = .obj kvs ∧ y = .obj kvs') ∨ ∃ t xs t' ys, x = .arr t xs ∧ y = .arr t' ys := by
  cases x with
  | obj kvs =>
    cases y with
    | obj kvs' => exact .inl ⟨_, _, rfl, rfl⟩
    | arr t ys => cases t <;> simp [sameContainerType, Json.dispatch] at h
    | _ => simp [sameContainerType, Json.dispatch] at h
  | arr t xs =>
    cases y with
    | arr t' ys => exact .inr ⟨_, _, _, _, rfl, rfl⟩
    | _ => cases t <;> simp [sameContainerType, Json.dispatch] at h
  | _ => simp [sameContainerType, Json.dispatch] at h

/-- `sameContainerType_cases`, read backwards -/
theorem sameContainerType_false {o : Opts} {a b : Json}
    (hobj : ∀ kvs kvs', a = .obj kvs → b ≠ .obj kvs')
    (harr : ∀ t xs t' ys, a = .arr t xs → b ≠ .arr t' ys) : sameContainerType o a b = false :=
  Bool.eq_false_iff.2 fun h => by
    rcases sameContainerType_cases h with ⟨_, _, e, e'⟩ | ⟨_, _, _, _, e, e'⟩
    · exact hobj _ _ e e'
    · exact harr _ _ _ _ e e'

theorem sameContainerType_scalar (o : Opts) {x : Json} (y : Json) (h : (isScalar x) = true) :
    sameContainerType o x y = false :=
  Bool.eq_false_iff.2 fun hs => by
    rcases sameContainerType_cases hs with ⟨_, _, rfl, _⟩ | ⟨_, _, _, _, rfl, _⟩ <;> cases h

/-- an array of scalars is never recursed into -/
theorem no_sub_of_scalars (o : Opts) {xs : List Json} (ys : List Json)
    (scalars : ∀ x ∈ xs, isScalar x = true) : ∀ x y, Step.sub x y ∉ alignment o xs ys := fun x y hst => by
  have := (alignment_ok o xs ys _ hst).1
  rw [sameContainerType_scalar o y (scalars x ((mem_of_mem_alignment hst).1 x (by simp [Step.src])))] at this
  cases this

theorem sameContainerType_notVoid {o : Opts} {x y : Json} (h : sameContainerType o x y = true) :
    x.isVoid = false ∧ y.isVoid = false := by
  rcases sameContainerType_cases h with ⟨_, _, rfl, rfl⟩ | ⟨_, _, _, _, rfl, rfl⟩ <;> exact ⟨rfl, rfl⟩

def PW (o : Opts) (a : List Json) (z y : Json) : Prop :=
  z = y ∨ (z ∈ a ∧ hashCode o z = hashCode o y)

inductive PWL (o : Opts) (a : List Json) : List Json → List Json → Prop
  | nil : PWL o a [] []
  | cons {z y : Json} {zs ys : List Json} : PW o a z y → PWL o a zs ys → PWL o a (z :: zs) (y :: ys)

theorem PWL.mono {o : Opts} {a a' : List Json} (hsub : ∀ x, x ∈ a → x ∈ a') {zs ys : List Json}
    (h : PWL o a zs ys) : PWL o a' zs ys := by
  induction h with
  | nil => exact .nil
  | cons h _ ih =>
    refine .cons ?_ ih
    rcases h with h | ⟨h1, h2⟩
    · exact .inl h
    · exact .inr ⟨hsub _ h1, h2⟩

theorem PWL.refl (o : Opts) (a ys : List Json) : PWL o a ys ys := by
  induction ys with
  | nil => exact .nil
  | cons y r ih => exact .cons (.inl rfl) ih

/-! ### the advertised equivalence depends on the options only through the array reading and the
    precision, and it is monotone in the precision -/

mutual
theorem equivB_imp (o o' : Opts) (h : dispatchTag o = .list) (h' : dispatchTag o' = .list)
    (hm : ∀ u v, numWithin (precOf o) u v = true → numWithin (precOf o') u v = true) :
    ∀ (a b : Json), equivB o a b = true → equivB o' a b = true
  | .void, b, e => by cases b <;> simp_all [equivB]
  | .null, b, e => by cases b <;> simp_all [equivB]
  | .bool _, b, e => by cases b <;> simp_all [equivB]
  | .num u, b, e => by
    cases b with
    | num v => simp only [equivB] at e ⊢; exact hm u v e
    | _ => simp [equivB] at e
  | .str _, b, e => by cases b <;> simp_all [equivB]
  | .arr t xs, b, e => by
    cases b with
    | arr t' ys =>
      simp only [equivB, h, h'] at e ⊢
      exact equivList_imp o o' h h' hm xs ys e
    | _ => simp [equivB] at e
  | .obj kvs, b, e => by
    cases b with
    | obj kvs' =>
      simp only [equivB, Bool.and_eq_true] at e ⊢
      exact ⟨e.1, equivKvs_imp o o' h h' hm kvs kvs' e.2⟩
    | _ => simp [equivB] at e
theorem equivList_imp (o o' : Opts) (h : dispatchTag o = .list) (h' : dispatchTag o' = .list)
    (hm : ∀ u v, numWithin (precOf o) u v = true → numWithin (precOf o') u v = true) :
    ∀ (xs ys : List Json), equivList o xs ys = true → equivList o' xs ys = true
  | [], ys, e => by cases ys <;> simp_all [equivList]
  | x :: xs, [], e => by simp [equivList] at e
  | x :: xs, y :: ys, e => by
    simp only [equivList, Bool.and_eq_true] at e ⊢
    exact ⟨equivB_imp o o' h h' hm x y e.1, equivList_imp o o' h h' hm xs ys e.2⟩
theorem equivKvs_imp (o o' : Opts) (h : dispatchTag o = .list) (h' : dispatchTag o' = .list)
    (hm : ∀ u v, numWithin (precOf o) u v = true → numWithin (precOf o') u v = true) :
    ∀ (kvs kvs' : List (String × Json)), equivKvs o kvs kvs' = true → equivKvs o' kvs kvs' = true
  | [], _, _ => by simp [equivKvs]
  | (k, v) :: r, kvs', e => by
    rw [equivKvs, Bool.and_eq_true] at e ⊢
    refine ⟨?_, equivKvs_imp o o' h h' hm r kvs' e.2⟩
    cases hl : alookup k kvs' with
    | none => simp [hl] at e
    | some v' =>
      have e1 := e.1
      simp only [hl] at e1 ⊢
      exact equivB_imp o o' h h' hm v v' e1
end

theorem equivB_congr (o o' : Opts) (h : dispatchTag o = .list) (h' : dispatchTag o' = .list)
    (hp : precOf o = precOf o') : ∀ (a b : Json), equivB o a b = equivB o' a b :=
  fun a b => Bool.eq_iff_iff.2 ⟨equivB_imp o o' h h' (fun _ _ e => hp ▸ e) a b,
    equivB_imp o' o h' h (fun _ _ e => hp ▸ e) a b⟩

theorem equivList_congr (o o' : Opts) (h : dispatchTag o = .list) (h' : dispatchTag o' = .list)
    (hp : precOf o = precOf o') : ∀ (xs ys : List Json), equivList o xs ys = equivList o' xs ys :=
  fun xs ys => Bool.eq_iff_iff.2 ⟨equivList_imp o o' h h' (fun _ _ e => hp ▸ e) xs ys,
    equivList_imp o' o h' h (fun _ _ e => hp ▸ e) xs ys⟩

theorem equivKvs_congr (o o' : Opts) (h : dispatchTag o = .list) (h' : dispatchTag o' = .list)
    (hp : precOf o = precOf o') :
    ∀ (kvs kvs' : List (String × Json)), equivKvs o kvs kvs' = equivKvs o' kvs kvs' :=
  fun kvs kvs' => Bool.eq_iff_iff.2 ⟨equivKvs_imp o o' h h' (fun _ _ e => hp ▸ e) kvs kvs',
    equivKvs_imp o' o h' h (fun _ _ e => hp ▸ e) kvs kvs'⟩

/-- without a precision option, the advertised equivalence in list mode is structural equality -/
theorem equivB_of_specEq {o : Opts} (h : dispatchTag o = .list) (hp : precOf o = 0) {a b : Json}
    (hab : specEq a b = true) : equivB o a b = true := by
  rw [equivB_congr o [] h rfl (by simpa [precOf] using hp)]
  exact hab

/-! from structural equality to the advertised equivalence under a precision -/

theorem equivB_mono (o : Opts) (h : dispatchTag o = .list)
    (hm : ∀ u v, numWithin 0 u v = true → numWithin (precOf o) u v = true) :
    ∀ (a b : Json), equivB [] a b = true → equivB o a b = true :=
  equivB_imp [] o rfl h hm

theorem equivKvs_mono (o : Opts) (h : dispatchTag o = .list)
    (hm : ∀ u v, numWithin 0 u v = true → numWithin (precOf o) u v = true) :
    ∀ (kvs kvs' : List (String × Json)), equivKvs [] kvs kvs' = true → equivKvs o kvs kvs' = true :=
  equivKvs_imp [] o rfl h hm

/-- a float within `0` of another is within the precision of `o` of it (true for every IEEE
    `eps ≥ 0`; `numWithin` is opaque to the kernel, so it is a hypothesis; trivial when `o` has no
    precision option) -/
def PrecMono (o : Opts) : Prop :=
  ∀ u v, numWithin 0 u v = true → numWithin (precOf o) u v = true

theorem PrecMono.of_noPrecision {o : Opts} (h : precOf o = 0) : PrecMono o := by
  intro u v e; rw [h]; exact e

theorem applyStrict_root_replace (a a' b : Json)
    (ha' : specEq a a' = true) :
    applyStrictAll a [{ path := [], remove := [a'], add := [b] }] = some b := by
  simp [applyStrictAll, applyStrict, single, Json.singleValue, ha']

/-! ## 5. frame lemmas: hunks below a list index or an object key act on that member only -/

/-- a hunk that can be moved below a list index: it addresses something inside the element, or it
    replaces the element as a whole (one value removed, one added, no context) -/
def frameOK (h : Hunk) : Prop :=
  h.path ≠ [] ∨ (h.before = [] ∧ h.after = [] ∧ h.remove.length = 1 ∧ h.add.length = 1)

/-- a hunk without before-context that replaces one value by one value, addressed to index `k` of a
    list and carrying any after-context that holds there, acts as the same hunk at the root of the
    `k`-th element (where context lines are not looked at) -/
theorem applyStrict_idx_replace (t : Tag) (l : List Json) (k : Nat) (x : Json)
    (hx : l[k]? = some x) (h : Hunk) (hb : h.before = [])
    (hr : h.remove.length = 1) (hadd : h.add.length = 1) (after : List Json)
    (ha : afterOk (l.drop (k + 1)) 0 after = true) :
    applyStrict (.arr t l) [.idx (k : Int)] { h with after := after } =
      (applyStrict x [] h).map (fun v => .arr .raw (l.set k v)) := by
  obtain ⟨hk, rfl⟩ := List.getElem?_eq_some_iff.1 hx
  obtain ⟨x', hx'⟩ := List.length_eq_one_iff.1 hr
  obtain ⟨y', hy'⟩ := List.length_eq_one_iff.1 hadd
  have hdrop : l.drop k = l[k] :: l.drop (k + 1) := List.drop_eq_getElem_cons hk
  simp only [applyStrict, splice, hb, hx', hy', List.length_cons, List.length_nil,
    beforeOk, single, Json.singleValue]
  have h1 : ((k : Int) == -1) = false := by
    simp only [beq_eq_false_iff_ne, ne_eq]; omega
  have h2 : ((k : Int) < 0 || (k : Int) > (l.length : Int)) = false := by
    simp only [Bool.or_eq_false_iff, decide_eq_false_iff_not]; omega
  simp only [h1, h2, Bool.false_eq_true, if_false, Int.toNat_natCast, hdrop, prefixEq,
    Bool.and_true]
  have hpost : (l[k] :: l.drop (k + 1)).drop (0 + 1) = l.drop (k + 1) := by simp
  rw [hpost, ha]
  have hset : l.set k y' = l.take k ++ [y'] ++ l.drop (k + 1) := by
    rw [List.set_eq_take_append_cons_drop, if_pos hk]
    simp
  split <;> simp_all

theorem applyStrict_idx_frame (t : Tag) (l : List Json) (k : Nat) (x : Json) (hx : l[k]? = some x)
    (h : Hunk) (hf : (frameOK h)) :
    applyStrict (.arr t l) (.idx (k : Int) :: h.path) h =
      (applyStrict x h.path h).map (fun v => .arr .raw (l.set k v)) := by
  cases hq : h.path with
  | cons q qs =>
    rw [applyStrict]
    · simp only [show ¬ ((k : Int) < 0) by omega, if_false, Int.toNat_natCast, hx]
    · intro e; cases e
  | nil =>
    rcases hf with hp | ⟨hb, ha, hr, hadd⟩
    · exact absurd hq hp
    · -- `{ h with after := h.after }` is `h`
      have := applyStrict_idx_replace t l k x hx h hb hr hadd [] rfl
      rwa [← ha] at this

theorem splice_path_irrel (l : List Json) (i : Int) (h : Hunk) (q : Path) :
    splice l i { h with path := q } = splice l i h := rfl

theorem applyStrict_path_irrel (q : Path) (n : Json) (p : Path) (h : Hunk) :
    applyStrict n p { h with path := q } = applyStrict n p h := by
  induction p generalizing n with
  | nil => rfl
  | cons e rest ih =>
    cases e with
    | key k => cases n <;> simp only [applyStrict, ih]
    | idx i =>
      cases rest with
      | nil => cases n <;> rfl
      | cons e' r' => cases n <;> simp only [applyStrict, ih]
    | _ => simp only [applyStrict]

theorem applyStrictAll_idx_frame (D : Diff) (hD : ∀ h ∈ D, (frameOK h)) :
    ∀ (t : Tag) (l : List Json) (k : Nat) (x : Json), l[k]? = some x →
      ∀ r, applyStrictAll x D = some r →
      ∃ t', (t' = t ∨ t' = .raw) ∧
        applyStrictAll (.arr t l) (D.map (shiftHunk [.idx (k : Int)])) =
        some (.arr t' (l.set k r)) := by
  induction D with
  | nil =>
    intro t l k x hx r hr
    simp only [applyStrictAll, Option.some.injEq] at hr
    subst hr
    refine ⟨t, .inl rfl, ?_⟩
    have hk : k < l.length := by
      rcases Nat.lt_or_ge k l.length with h | h
      · exact h
      · rw [List.getElem?_eq_none h] at hx; cases hx
    rw [List.getElem?_eq_getElem hk] at hx
    cases hx
    simp [applyStrictAll, List.set_getElem_self]
  | cons h D ih =>
    intro t l k x hx r hr
    simp only [applyStrictAll] at hr
    cases hv : applyStrict x h.path h with
    | none => rw [hv] at hr; cases hr
    | some v =>
      rw [hv] at hr
      simp only [Option.bind_some] at hr
      have hk : k < l.length := by
        rcases Nat.lt_or_ge k l.length with h | h
        · exact h
        · rw [List.getElem?_eq_none h] at hx; cases hx
      obtain ⟨t', ht', h'⟩ := ih (fun h' hm => hD h' (List.mem_cons_of_mem _ hm)) .raw (l.set k v) k v
        (List.getElem?_set_self hk) r hr
      refine ⟨t', .inr (by rcases ht' with e | e <;> exact e), ?_⟩
      simp only [List.map_cons, applyStrictAll, shiftHunk, List.cons_append, List.nil_append]
      have := applyStrict_idx_frame t l k x hx h (hD h List.mem_cons_self)
      have e : applyStrict (.arr t l) (.idx (k : Int) :: h.path)
          { h with path := .idx (k : Int) :: h.path } =
          applyStrict (.arr t l) (.idx (k : Int) :: h.path) h :=
        applyStrict_path_irrel _ _ _ _
      rw [e, this, hv]
      simp only [Option.map_some, Option.bind_some]
      rw [h', List.set_set]

/-- `applyStrictAll_idx_frame` through `subAfter`: the sub-diff of an element, moved below its index
    and passed through `subAfter` with the TRUE next element (or the array end) as after-context -/
theorem applyStrictAll_idx_frame_subAfter (D : Diff) (hD : ∀ h ∈ D, (frameOK h))
    (t : Tag) (l : List Json) (k : Nat) (x : Json) (hx : l[k]? = some x)
    (r : Json) (hr : applyStrictAll x D = some r) (n : Bool) (nx : Json)
    (hn : AfterOK (l.drop (k + 1)) nx) :
    ∃ t', (t' = t ∨ t' = .raw) ∧
      applyStrictAll (.arr t l) (subAfter [] n nx (D.map (shiftHunk [.idx (k : Int)]))) =
      some (.arr t' (l.set k r)) := by
  rcases subAfter_cases [] n nx (D.map (shiftHunk [.idx (k : Int)])) with e | ⟨h, hsub, hfire, e⟩
  · rw [e]
    exact applyStrictAll_idx_frame D hD t l k x hx r hr
  · rw [e]
    match D, hsub, hD, hr with
    | [h0], hsub, hD, hr =>
      simp only [List.map_cons, List.map_nil, List.cons.injEq, and_true] at hsub
      subst hsub
      simp only [subAfterFires, shiftHunk, List.length_append, List.length_cons, List.length_nil,
        Bool.and_eq_true, decide_eq_true_eq] at hfire
      have hp0 : h0.path = [] := List.eq_nil_of_length_eq_zero (by omega)
      rcases hD h0 List.mem_cons_self with hne | ⟨hb, _, hrm, hadd⟩
      · exact absurd hp0 hne
      · refine ⟨.raw, .inr rfl, ?_⟩
        simp only [applyStrictAll, hp0] at hr
        cases hv : applyStrict x [] h0 with
        | none => rw [hv] at hr; cases hr
        | some v =>
          rw [hv] at hr
          simp only [Option.bind_some, Option.some.injEq] at hr
          subst hr
          have := applyStrict_idx_replace t l k x hx h0 hb hrm hadd [nx] (afterOk_one hn)
          rw [hv] at this
          simp only [applyStrictAll, shiftHunk, hp0, List.append_nil]
          have e2 : applyStrict (.arr t l) [.idx (k : Int)]
              { h0 with path := [.idx (k : Int)], after := [nx] } =
              applyStrict (.arr t l) [.idx (k : Int)] { h0 with after := [nx] } :=
            applyStrict_path_irrel _ _ _ { h0 with after := [nx] }
          rw [e2, this]
          rfl

theorem applyStrict_key (kvs : List (String × Json)) (k : String) (q : Path) (h : Hunk) :
    applyStrict (.obj kvs) (.key k :: q) h =
      (applyStrict ((alookup k kvs).getD .void) q h).map (fun v => .obj (Merge.putKvs k v kvs)) := by
  rw [applyStrict]
  cases applyStrict ((alookup k kvs).getD .void) q h with
  | none => rfl
  | some v => simp only [Option.map_some, Merge.putKvs]; split <;> rfl

/-- the first of a run of hunks moved below the key `k` updates that member -/
theorem applyStrictAll_key_cons (h : Hunk) (D : Diff) (k : String) (cur : List (String × Json))
    {v : Json} (hv : applyStrict ((alookup k cur).getD .void) h.path h = some v) :
    applyStrictAll (.obj cur) ((h :: D).map (shiftHunk [.key k])) =
      applyStrictAll (.obj (Merge.putKvs k v cur)) (D.map (shiftHunk [.key k])) := by
  simp only [List.map_cons, applyStrictAll, shiftHunk, List.cons_append, List.nil_append]
  rw [applyStrict_path_irrel, applyStrict_key, hv]
  rfl

theorem applyStrictAll_key_frame (D : Diff) (k : String) :
    ∀ (cur : List (String × Json)), keysSorted cur = true →
      ∀ r, applyStrictAll ((alookup k cur).getD .void) D = some r →
      ∃ cur', applyStrictAll (.obj cur) (D.map (shiftHunk [.key k])) = some (.obj cur') ∧
        keysSorted cur' = true ∧ (∀ k0, k0 ≠ k → alookup k0 cur' = alookup k0 cur) ∧
        (alookup k cur').getD .void = r := by
  induction D with
  | nil =>
    intro cur hs r hr
    simp only [applyStrictAll, Option.some.injEq] at hr
    exact ⟨cur, by simp [applyStrictAll], hs, fun _ _ => rfl, hr⟩
  | cons h D ih =>
    intro cur hs r hr
    simp only [applyStrictAll] at hr
    cases hv : applyStrict ((alookup k cur).getD .void) h.path h with
    | none => rw [hv] at hr; cases hr
    | some v =>
      rw [hv, Option.bind_some, ← Merge.getK_putKvs_self k v hs, Merge.getK] at hr
      obtain ⟨cur', h1, h2, h3, h4⟩ := ih (Merge.putKvs k v cur) (Merge.keysSorted_putKvs k v hs) r hr
      rw [← applyStrictAll_key_cons h D k cur hv] at h1
      exact ⟨cur', h1, h2, fun k0 hne => by rw [h3 k0 hne, Merge.alookup_putKvs_ne v cur hne], h4⟩

/-! ## 6. sub-terms and the hypotheses about hash codes -/

mutual
/-- all sub-terms of a document, the document included -/
def subterms : Json → List Json
  | .arr t xs => .arr t xs :: subtermsList xs
  | .obj kvs => .obj kvs :: subtermsKvs kvs
  | n => [n]
def subtermsList : List Json → List Json
  | [] => []
  | x :: r => (subterms x) ++ subtermsList r
def subtermsKvs : List (String × Json) → List Json
  | [] => []
  | (_, v) :: r => (subterms v) ++ subtermsKvs r
end

theorem self_mem_subterms (x : Json) : x ∈ (subterms x) := by
  cases x <;> simp [subterms]

theorem subterms_of_mem_kvs {k : String} {v : Json} :
    ∀ {kvs : List (String × Json)}, (k, v) ∈ kvs → ∀ z, z ∈ (subterms v) → z ∈ subtermsKvs kvs
  | [], h, _, _ => by cases h
  | (k', v') :: r, h, z, hz => by
    simp only [subtermsKvs, List.mem_append]
    rcases List.mem_cons.1 h with e | h
    · cases e; exact .inl hz
    · exact .inr (subterms_of_mem_kvs h z hz)

/-- `S ⊆ T` for lists, spelled out (core `List.Subset`) -/
abbrev Sub (l S : List Json) : Prop := ∀ z, z ∈ l → z ∈ S

theorem subterms_sub_of_mem {x : Json} : ∀ {xs : List Json}, x ∈ xs →
    Sub (subterms x) (subtermsList xs)
  | [], h => by cases h
  | y :: r, h => by
    intro z hz
    simp only [subtermsList, List.mem_append]
    rcases List.mem_cons.1 h with rfl | h
    · exact .inl hz
    · exact .inr (subterms_sub_of_mem h z hz)

theorem sub_arr {t : Tag} {xs S : List Json} (h : Sub (subterms (Json.arr t xs)) S) :
    Sub (subtermsList xs) S :=
  fun z hz => h z (by simp [subterms, hz])

theorem sub_obj {kvs : List (String × Json)} {S : List Json} (h : Sub (subterms (Json.obj kvs)) S) :
    Sub (subtermsKvs kvs) S :=
  fun z hz => h z (by simp [subterms, hz])

theorem sub_cons {x : Json} {r S : List Json} (h : Sub (subtermsList (x :: r)) S) :
    Sub (subterms x) S ∧ Sub (subtermsList r) S :=
  ⟨fun z hz => h z (by simp [subtermsList, hz]), fun z hz => h z (by simp [subtermsList, hz])⟩

theorem sub_kvs_cons {k : String} {v : Json} {r : List (String × Json)} {S : List Json}
    (h : Sub (subtermsKvs ((k, v) :: r)) S) : Sub (subterms v) S ∧ Sub (subtermsKvs r) S :=
  ⟨fun z hz => h z (by simp [subtermsKvs, hz]), fun z hz => h z (by simp [subtermsKvs, hz])⟩

theorem sub_lookup {k : String} {v : Json} {kvs : List (String × Json)} {S : List Json}
    (h : Sub (subtermsKvs kvs) S) (hl : alookup k kvs = some v) : Sub (subterms v) S :=
  fun z hz => h z (subterms_of_mem_kvs (mem_of_alookup hl) z hz)

/-- The hypotheses about hash codes, for the sub-terms `S` of the source and `T` of the target.
    `hash`: a sub-term of the source and a sub-term of the target with the same hash code are
    structurally equal (no FNV collision). `zero`: no number of the source is equal as a float to
    a number of the target with a different bit pattern (that is: no `0` against `-0`). -/
structure NoCollision (o : Opts) (S T : List Json) : Prop where
  hash : ∀ x ∈ S, ∀ y ∈ T, hashCode o x = hashCode o y → specEq x y = true ∧ specEq y x = true
  zero : ∀ u v, Json.num u ∈ S → Json.num v ∈ T → numWithin 0 u v = true → u = v

/-! ## 7. an empty diff means equal hash codes -/

/-- two ways to say that objects with unique keys hold `R`-related members under the same keys: key
    by key, or "every member of the first has a partner, and the second has no other key" -/
theorem optRel_iff_allLook {R : Json → Json → Bool} {X Y : List (String × Json)}
    (hX : keysSorted X = true) (hY : keysSorted Y = true) :
    (∀ k, DPK.OptRel (fun x y => R x y = true) (alookup k X) (alookup k Y)) ↔
      AllLook R X Y ∧ ∀ k v', (k, v') ∈ Y → (alookup k X).isSome = true := by
  constructor
  · refine fun h => ⟨fun k v hm => (alookup_of_mem hX hm ▸ h k).left, fun k v' hm => ?_⟩
    have := (h k).isSome_eq
    rwa [alookup_of_mem hY hm] at this
  · rintro ⟨h1, h2⟩ k
    cases hl : alookup k X with
    | some x => obtain ⟨y, hy, hxy⟩ := h1 k x (mem_of_alookup hl); rw [hy]; exact hxy
    | none =>
      cases hl' : alookup k Y with
      | none => trivial
      | some y => have := h2 k y (mem_of_alookup hl'); rw [hl] at this; cases this

theorem hashKvs_eq_of (o : Opts) :
    ∀ (kvs kvs' : List (String × Json)), keysSorted kvs = true → keysSorted kvs' = true →
      (∀ k v, (k, v) ∈ kvs → ∃ v', alookup k kvs' = some v' ∧ hashCode o v = hashCode o v') →
      (∀ k v', (k, v') ∈ kvs' → (alookup k kvs).isSome = true) →
      hashKvs o kvs = hashKvs o kvs'
  | [], kvs', _, _, _, h2 => by
    cases kvs' with
    | nil => rfl
    | cons kv r => have := h2 kv.1 kv.2 List.mem_cons_self; simp [alookup] at this
  | (k, v) :: r, kvs', hs, hs', h1, h2 => by
    obtain ⟨v', hl, hh⟩ := h1 k v List.mem_cons_self
    cases kvs' with
    | nil => simp [alookup] at hl
    | cons kv r' =>
      obtain ⟨k', w⟩ := kv
      have hsr := keysSorted_cons_iff.1 hs
      have hsr' := keysSorted_cons_iff.1 hs'
      have hk : k = k' := by
        apply Classical.byContradiction
        intro hne
        have hl' : alookup k r' = some v' := by simpa [alookup, hne] using hl
        have lt1 : k' < k := hsr'.1 k v' (mem_of_alookup hl')
        have := h2 k' w List.mem_cons_self
        have hne' : k' ≠ k := fun e => hne e.symm
        simp only [alookup, hne', if_false] at this
        cases hlr : alookup k' r with
        | none => simp [hlr] at this
        | some w' => exact String.lt_asymm lt1 (hsr.1 k' w' (mem_of_alookup hlr))
      subst hk
      have hv : v' = w := by simpa [alookup] using hl.symm
      subst hv
      have ih := hashKvs_eq_of o r r' hsr.2 hsr'.2
        (fun k1 v1 hm => by
          obtain ⟨v1', hl1, hh1⟩ := h1 k1 v1 (List.mem_cons_of_mem _ hm)
          have hne : k1 ≠ k := ne_of_key_lt (hsr.1 k1 v1 hm)
          exact ⟨v1', by simpa [alookup, hne] using hl1, hh1⟩)
        (fun k1 v1' hm => by
          have := h2 k1 v1' (List.mem_cons_of_mem _ hm)
          have hne : k1 ≠ k := ne_of_key_lt (hsr'.1 k1 v1' hm)
          simpa [alookup, hne] using this)
      simp only [hashKvs, hh, ih]

theorem hashCode_arr_list {o : Opts} (ho : dispatchTag o = .list) {t : Tag} (xs : List Json)
    (ht : (t == .raw || t == .list) = true) :
    hashCode o (.arr t xs) = fnv1a (Gen.seedList ++ (hashList o xs).flatMap le8) := by
  simp [hashCode, effTag_list ho ht]

end Jd.DPL

namespace Jd.Rec

/-- numbers of the source and of the target that `Equals` identifies (`|u − v| ≤ +0` as IEEE
    doubles) have the same hash code. True of all finite doubles since `0` and `-0` hash alike
    (JdModel.Hash); a hypothesis because the kernel cannot evaluate `Float`. Implied by
    `DPL.ZeroOK` (`numHashOK_of_zero`). -/
def NumHashOK (o : Opts) (S T : List Json) : Prop :=
  ∀ u v, Json.num u ∈ S → Json.num v ∈ T → numWithin 0 u v = true →
    hashCode o (.num u) = hashCode o (.num v)

theorem numHashOK_of_zero {o : Opts} {S T : List Json}
    (Z : ∀ u v, Json.num u ∈ S → Json.num v ∈ T → numWithin 0 u v = true → u = v) :
    NumHashOK o S T := fun u v hu hv h => by rw [Z u v hu hv h]

end Jd.Rec

namespace Jd.DPL
open Jd Jd.Spec Jd.RealL Jd.Align

/-! ### equal documents have the same hash code -/

/-- a scalar and what it `Equals` have the same hash code, given that of two numbers -/
theorem hash_of_equals_scalar (o : Opts) {o' : Opts} {a b : Json} (h1 : ∀ t xs, a ≠ .arr t xs)
    (h2 : ∀ kvs, a ≠ .obj kvs) (he : equals o' a b = true)
    (N : ∀ u v, a = .num u → b = .num v → numWithin (precOf o') u v = true →
      hashCode o (.num u) = hashCode o (.num v)) : hashCode o a = hashCode o b := by
  cases a with
  | arr t xs => exact absurd rfl (h1 t xs)
  | obj kvs => exact absurd rfl (h2 kvs)
  | num u =>
    cases b with
    | num v => exact N u v rfl rfl (equals_num_num o' u v ▸ he)
    | _ => simp [equals] at he
  | _ => clear N; cases b <;> simp_all [equals, Json.isVoid, Json.isNull]

theorem hashList_of_equalsList {o o' : Opts} : ∀ {xs ys : List Json},
    (∀ x ∈ xs, ∀ y ∈ ys, equals o' x y = true → hashCode o x = hashCode o y) →
    equalsList o' xs ys = true → hashList o xs = hashList o ys
  | [], [], _, _ => rfl
  | [], _ :: _, _, h => by simp [equalsList] at h
  | _ :: _, [], _, h => by simp [equalsList] at h
  | x :: xs, y :: ys, ih, h => by
    rw [equalsList_cons_cons, Bool.and_eq_true] at h
    rw [hashList_cons, hashList_cons, ih x List.mem_cons_self y List.mem_cons_self h.1,
      hashList_of_equalsList (fun x' hx y' hy => ih x' (.tail _ hx) y' (.tail _ hy)) h.2]

/-- **`Equals` in a list reading `o'` implies equal hash codes under `o`**, for list documents with
    unique keys, given that numbers that `Equals` identifies hash alike. `A`, `B` say where the
    numbers of the two documents come from. -/
theorem hash_of_equals {o o' : Opts} (ho : dispatchTag o = .list) (ho' : dispatchTag o' = .list)
    {A B : Json → Prop} (hA : Hered A) (hB : Hered B)
    (N : ∀ u v, A (.num u) → B (.num v) → numWithin (precOf o') u v = true →
      hashCode o (.num u) = hashCode o (.num v)) :
    ∀ a b : Json, a.listDoc = true → b.listDoc = true → a.wf = true → b.wf = true → A a → B b →
      equals o' a b = true → hashCode o a = hashCode o b := by
  intro a
  induction a using jsonIndScalar with
  | scalar a h1 h2 =>
    intro b _ _ _ _ ha hb he
    exact hash_of_equals_scalar o h1 h2 he fun u v ea eb => N u v (ea ▸ ha) (eb ▸ hb)
  | arr t xs ih =>
    intro b hl hl' hw hw' ha hb he
    cases b with
    | arr t' ys =>
      simp only [Json.listDoc, Bool.and_eq_true] at hl hl'
      rw [equals_arr_list ho' xs ys hl.1 hl'.1] at he
      rw [hashCode_arr_list ho xs hl.1, hashCode_arr_list ho ys hl'.1,
        hashList_of_equalsList (fun x hx y hy => ih x hx y (listDoc_of_mem hl.2 hx)
          (listDoc_of_mem hl'.2 hy) (hered_wf.elem hw hx) (hered_wf.elem hw' hy) (hA.elem ha hx)
          (hB.elem hb hy)) he]
    | _ => exact absurd (equals_kind o' _ _ he) (by simp [Json.kind])
  | obj kvs ih =>
    intro b hl hl' hw hw' ha hb he
    cases b with
    | obj kvs' =>
      simp only [Json.wf, Bool.and_eq_true] at hw hw'
      obtain ⟨h1, h2⟩ := (optRel_iff_allLook hw.1 hw'.1).1 ((equals_obj_optRel o' hw.1 hw'.1).1 he)
      simp only [hashCode]
      rw [hashKvs_eq_of o kvs kvs' hw.1 hw'.1 (fun k v hm => by
        obtain ⟨v', hlk, hq⟩ := h1 k v hm
        have hm' := mem_of_alookup hlk
        exact ⟨v', hlk, ih k v hm v' (hered_listDoc.member hl hm) (hered_listDoc.member hl' hm')
          (hered_wf.member (by simp [Json.wf, hw]) hm) (hered_wf.member (by simp [Json.wf, hw']) hm')
          (hA.member ha hm) (hB.member hb hm') hq⟩) h2]
    | _ => exact absurd (equals_kind o' _ _ he) (by simp [Json.kind])

/-- "every sub-term is in `S`" passes to the parts of a document -/
theorem hered_sub (S : List Json) : Hered fun v => Sub (subterms v) S :=
  ⟨fun h hx z hz => sub_arr h z (subterms_sub_of_mem hx z hz),
    fun h hm z hz => sub_obj h z (subterms_of_mem_kvs hm z hz)⟩

/-- `hash_of_equals` for numbers drawn from two collections of sub-terms -/
theorem hash_of_equals_sub {o : Opts} (ho : dispatchTag o = .list) {S T : List Json}
    (N : Rec.NumHashOK o S T) {a b : Json} (hl : a.listDoc = true) (hl' : b.listDoc = true)
    (hw : a.wf = true) (hw' : b.wf = true) (hS : Sub (subterms a) S) (hT : Sub (subterms b) T)
    (he : equals [] a b = true) : hashCode o a = hashCode o b :=
  hash_of_equals (o' := []) (A := fun v => Sub (subterms v) S) (B := fun v => Sub (subterms v) T)
    ho rfl (hered_sub S) (hered_sub T)
    (fun u v hu hv => N u v (hu _ (self_mem_subterms _)) (hv _ (self_mem_subterms _)))
    a b hl hl' hw hw' hS hT he

theorem hashList_eq_of_all₂ {o : Opts} : ∀ {xs ys : List Json},
    All₂ (fun x y => hashCode o x = hashCode o y) xs ys → hashList o xs = hashList o ys
  | _, _, .nil => rfl
  | _, _, .cons h r => by simp only [hashList, h, hashList_eq_of_all₂ r]

theorem diff_nil_hash (o : Opts) (ho : dispatchTag o = .list) {S T : List Json}
    (N : Rec.NumHashOK o S T) :
    (∀ a b, a.listDoc = true → b.listDoc = true →
      Sub (subterms a) S → Sub (subterms b) T → Good a → Good b →
      ∀ p, diffNode o false a b p = [] → hashCode o a = hashCode o b) ∧
    (∀ kvs' kvs, listDocKvs kvs' = true → listDocKvs kvs = true →
      Sub (subtermsKvs kvs) S → Sub (subtermsKvs kvs') T → GoodK kvs → GoodK kvs' →
      ∀ p, diffKvs o false p kvs' kvs = [] →
        ∀ k v, (k, v) ∈ kvs → ∃ v', alookup k kvs' = some v' ∧ hashCode o v = hashCode o v') := by
  apply listDoc_induct
  · -- no `edit` step: kept pairs have one hash code, recursed pairs by induction
    intro t t' xs ys ht ht' htt _ hly ih hS hT ha hb p h
    rw [diffNode_alignment ho xs ys ht ht' htt] at h
    have := forall₂_of_render_nil (P := fun x y => hashCode o x = hashCode o y) _ _ _ _ h
      (fun x y hm => alignment_ok o xs ys _ hm)
      (fun x y hm q hq => by
        have hx := (mem_of_mem_alignment hm).1 x (by simp [Step.src])
        have hy := (mem_of_mem_alignment hm).2 y (by simp [Step.tgt])
        exact ih x hx y (listDoc_of_mem hly hy)
          (fun z hz => sub_arr hS z (subterms_sub_of_mem hx z hz))
          (fun z hz => sub_arr hT z (subterms_sub_of_mem hy z hz))
          ((good_arr.1 ha).2.of_mem hx) ((good_arr.1 hb).2.of_mem hy) q hq)
    rw [alignment_src, alignment_tgt] at this
    rw [hashCode_arr_list ho xs ht, hashCode_arr_list ho ys ht', hashList_eq_of_all₂ this]
  · intro t xs b ht _ _ hb _ _ _ _ p h
    rw [diffNode_arr_other ho xs b ht hb] at h
    cases h
  · intro kvs kvs' _ _ ih hS hT ha hb p h
    rw [diffNode_obj_obj, List.append_eq_nil_iff, List.map_eq_nil_iff, List.filter_eq_nil_iff] at h
    have ha' := good_obj.1 ha
    have hb' := good_obj.1 hb
    have h1 := ih (sub_obj hS) (sub_obj hT) ha'.2 hb'.2 p h.1
    have h2 : ∀ k v', (k, v') ∈ kvs' → (alookup k kvs).isSome = true := by
      intro k v' hm
      have := h.2 (k, v') hm
      cases hl : alookup k kvs with
      | none => simp [hl] at this
      | some _ => rfl
    simp only [hashCode, hashKvs_eq_of o kvs kvs' ha'.1 hb'.1 h1 h2]
  · intro kvs b _ _ hb _ _ _ _ p h
    rw [diffNode_obj_other o kvs b hb] at h
    cases h
  · intro a b h1 h2 _ hS hT _ _ p h
    rw [diffNode_scalar o a b h1 h2, diffCommon_nil_iff] at h
    exact hash_of_equals_scalar o h1 h2 h fun u v ea eb =>
      N u v (ea ▸ hS a (self_mem_subterms a)) (eb ▸ hT b (self_mem_subterms b))
  · intro kvs' _ _ _ _ p _ k v hm
    cases hm
  · intro kvs' k v r hl' _ _ ihN ihK hS hT ha hb p h k0 v0 hm
    rw [diffKvs_cons, List.append_eq_nil_iff] at h
    have ha' := goodK_cons.1 ha
    have hS' := sub_kvs_cons hS
    rcases List.mem_cons.1 hm with e | hm
    · cases e
      cases hlk : alookup k kvs' with
      | none => rw [hlk] at h; cases h.1
      | some v' =>
        rw [hlk] at h
        exact ⟨v', rfl, ihN v' (alookup_listDoc hlk hl') hS'.1 (sub_lookup hT hlk) ha'.1.1
          (hb.lookup hlk).1 _ h.1⟩
    · exact ihK hS'.2 hT ha'.2 hb p h.2 k0 v0 hm

end Jd.DPL

namespace Jd.Real
open Jd Jd.Spec Jd.DPL Jd.RealL Jd.Align

/-! ## 7b. paths of the hunks of a sub-diff extend the given path (every option set, both strategies) -/

theorem mem_kinsert {β} {h : UInt64} {v : β} : ∀ {l : List (UInt64 × β)} {x : UInt64 × β},
    x ∈ kinsert h v l → x = (h, v) ∨ x ∈ l
  | [], x, hm => by simp [kinsert] at hm; exact .inl hm
  | (h', v') :: r, x, hm => by
    simp only [kinsert] at hm
    split at hm
    · rcases List.mem_cons.1 hm with e | hm
      · exact .inl e
      · exact .inr hm
    · rcases List.mem_cons.1 hm with e | hm
      · exact .inr (e ▸ List.mem_cons_self)
      · rcases mem_kinsert hm with e | hm
        · exact .inl e
        · exact .inr (List.mem_cons_of_mem _ hm)

theorem mem_ksort {β} : ∀ {l : List (UInt64 × β)} {x : UInt64 × β}, x ∈ ksort l → x ∈ l
  | [], x, hm => by simp [ksort] at hm
  | p :: r, x, hm => by
    have hm' : x ∈ kinsert p.1 p.2 (ksort r) := hm
    rcases mem_kinsert hm' with e | hm'
    · exact e ▸ List.mem_cons_self
    · exact List.mem_cons_of_mem _ (mem_ksort hm')

/-- **every hunk of `diffNode o m a b p` has `p` as a prefix of its path**: every option set (list,
    set, multiset, SetKeys, precision), both strategies (strict and merge), all documents -/
theorem diff_paths_extend_general (o : Opts) (m : Bool) (a b : Json) (p : Path) :
    ∀ h ∈ diffNode o m a b p, p <+: h.path := by
  intro h hm
  rw [diffNode_shift] at hm
  obtain ⟨h0, _, rfl⟩ := List.mem_map.1 hm
  exact List.prefix_append _ _

/-- "every hunk of every diff of `x` sits below the path given" -/
def PathsOK (o : Opts) (x : Json) : Prop :=
  ∀ (m : Bool) (y : Json) (q : Path), ∀ h ∈ diffNode o m x y q, q <+: h.path

theorem pathsOK_list (o : Opts) : ∀ (xs : List Json), ∀ x ∈ xs, PathsOK o x :=
  fun _ x _ m y q => diff_paths_extend_general o m x y q

theorem pathsOK_kvs (o : Opts) : ∀ (kvs : List (String × Json)), ∀ kv ∈ kvs, PathsOK o kv.2 :=
  fun _ kv _ m y q => diff_paths_extend_general o m kv.2 y q

theorem diffRest_paths_idx (o : Opts) (p : Path) (xs ys : List Json) :
    ∀ h ∈ diffRest o p 0 0 .void xs ys (lcsValues (hashList o xs) (hashList o ys)) [] [],
      ∃ i : Nat, (p ++ [PathElem.idx i]) <+: h.path := by
  intro h hm
  rw [diffRest_alignment] at hm
  rcases mem_render _ _ _ _ hm with ⟨S1, R, A, S2, e, rfl⟩ | ⟨S1, x, y, S2, n, e, hm⟩
  · exact ⟨_, List.prefix_refl _⟩
  · obtain ⟨h0, hm0, hp0, _⟩ := mem_subAfter' hm
    exact ⟨_, by rw [hp0]; exact diff_paths_extend_general o false x y _ h0 hm0⟩

theorem diffSetElems_paths_elem (o : Opts) (m : Bool) (p : Path) (ys : List Json) :
    ∀ (xs : List Json), ∀ kp ∈ diffSetElems o m p ys xs, ∀ d, kp.2 = SetPart.sub d →
        ∀ h ∈ d, ∃ e : PathElem, (p ++ [e]) <+: h.path
  | [], kp, hm, _, _, _, _ => by
    rw [diffSetElems.eq_def] at hm
    cases hm
  | x :: r, kp, hm, d, hd, h, hh => by
    have ih := diffSetElems_paths_elem o m p ys r
    rw [diffSetElems.eq_def] at hm
    simp only [] at hm
    split at hm
    · exact ih kp hm d hd h hh
    · split at hm
      · rcases List.mem_cons.1 hm with e | hm
        · subst e; cases hd
        · exact ih kp hm d hd h hh
      · split at hm
        · rcases List.mem_cons.1 hm with e | hm
          · subst e
            simp only [SetPart.sub.injEq] at hd
            subst hd
            exact ⟨_, diff_paths_extend_general o m _ _ _ h hh⟩
          · exact ih kp hm d hd h hh
        · exact ih kp hm d hd h hh

theorem diffKvs_paths_key (o : Opts) (m : Bool) (p : Path) (kvs' : List (String × Json))
    (kvs : List (String × Json)) :
    ∀ h ∈ diffKvs o m p kvs' kvs, ∃ k v, (k, v) ∈ kvs ∧ (p ++ [PathElem.key k]) <+: h.path := by
  intro h hm
  rw [DE.diffKvs_eq_flatMap, List.mem_flatMap] at hm
  obtain ⟨⟨k, v⟩, hkv, hm⟩ := hm
  refine ⟨k, v, hkv, ?_⟩
  rw [DE.keyDiff] at hm
  split at hm
  · exact diff_paths_extend_general o m v _ _ h hm
  · split at hm <;> (rw [List.mem_singleton.1 hm]; exact List.prefix_refl _)

/-- the three loops only emit hunks below the path they were given; object loops below a key of the
    first object, list loops below an index (stated for list mode and list documents, as it is
    used; neither is needed) -/
theorem diff_paths_extend_all (o : Opts) (_ho : dispatchTag o = .list) :
    (∀ a b, a.listDoc = true → b.listDoc = true → ∀ p, ∀ h ∈ diffNode o false a b p, p <+: h.path) ∧
    (∀ kvs' kvs, listDocKvs kvs' = true → listDocKvs kvs = true → ∀ p,
      ∀ h ∈ diffKvs o false p kvs' kvs, ∃ k v, (k, v) ∈ kvs ∧ (p ++ [PathElem.key k]) <+: h.path) ∧
    (∀ xs ys, listDocList xs = true → listDocList ys = true → ∀ p,
      ∀ h ∈ diffRest o p 0 0 .void xs ys (lcsValues (hashList o xs) (hashList o ys)) [] [],
        ∃ i : Nat, (p ++ [PathElem.idx i]) <+: h.path) :=
  ⟨fun a b _ _ => diff_paths_extend_general o false a b,
    fun kvs' kvs _ _ p => diffKvs_paths_key o false p kvs' kvs,
    fun xs ys _ _ p => diffRest_paths_idx o p xs ys⟩

theorem diff_paths_extend {o : Opts} (_ho : dispatchTag o = .list) {a b : Json}
    (_ha : a.listDoc = true) (_hb : b.listDoc = true) (p : Path) :
    ∀ h ∈ diffNode o false a b p, p <+: h.path :=
  diff_paths_extend_general o false a b p

/-! ### strictly below: the sub-diff of two same-kind containers, and `subAfter` -/

theorem lt_of_prefix_snoc {p l : Path} {e : PathElem} (h : (p ++ [e]) <+: l) : p.length < l.length := by
  have := h.length_le
  simp only [List.length_append, List.length_singleton] at this
  omega

theorem dispatchTag_ne_raw (o : Opts) : dispatchTag o ≠ .raw := by
  induction o with
  | nil => simp [dispatchTag]
  | cons e r ih => cases e <;> simp [dispatchTag, ih]

theorem effTag_ne_raw (o : Opts) (t : Tag) : effTag o t ≠ .raw := by
  cases t <;> simp [effTag, dispatchTag_ne_raw]

theorem sameContainerType_arr (o : Opts) (t t' : Tag) (xs ys : List Json) :
    sameContainerType o (.arr t xs) (.arr t' ys) = (effTag o t == effTag o t') := by
  cases t <;> cases t' <;> simp [sameContainerType, Json.dispatch, effTag]

/-- **the sub-diff of two same-kind containers that are not a `mixedPair` lives strictly below the
    path it is given** (strict strategy, every option set, no hypothesis on the documents) -/
theorem diffNode_paths_strict (o : Opts) {x y : Json} (hs : sameContainerType o x y = true)
    (hnm : mixedPair x y = false) (q : Path) :
    ∀ h ∈ diffNode o false x y q, q.length < h.path.length := by
  intro h hm
  rcases sameContainerType_cases hs with ⟨kvs, kvs', rfl, rfl⟩ | ⟨t, xs, t', ys, rfl, rfl⟩
  · rw [DE.diffNode_obj_obj] at hm
    rcases List.mem_append.1 hm with hm | hm
    · obtain ⟨_, _, _, hk⟩ := diffKvs_paths_key o false q kvs' kvs h hm
      exact lt_of_prefix_snoc hk
    · obtain ⟨kv, _, rfl⟩ := List.mem_map.1 hm
      simp
  · rw [sameContainerType_arr, beq_iff_eq] at hs
    have hb' : (if (t == Tag.raw) = true then Json.dispatch o (.arr t' ys) else .arr t' ys) =
        .arr (effTag o t) ys := by
      cases t <;> cases t' <;> simp_all [effTag, Json.dispatch, mixedPair]
    rw [diffNode.eq_def] at hm
    simp only [hb'] at hm
    have hne := effTag_ne_raw o t
    cases he : effTag o t with
    | raw => exact absurd he hne
    | list =>
      simp only [he, Bool.false_eq_true, if_false] at hm
      exact (diffRest_paths_idx o q xs ys h hm).elim
        fun _ => lt_of_prefix_snoc
    | set =>
      simp only [he, Bool.false_and, Bool.false_eq_true, if_false] at hm
      rcases List.mem_append.1 hm with hm | hm
      · obtain ⟨kp, hkp, hh⟩ := List.mem_flatMap.1 hm
        split at hh
        · next d hd =>
          exact (diffSetElems_paths_elem o false q _ xs kp (mem_ksort hkp) d hd h hh).elim fun _ => lt_of_prefix_snoc
        · cases hh
      · split at hm
        · cases hm
        · simp only [List.mem_singleton] at hm; subst hm; simp
    | mset =>
      simp only [he, Bool.false_and, Bool.false_eq_true, if_false] at hm
      split at hm
      · cases hm
      · simp only [List.mem_singleton] at hm; subst hm; simp

/-- so `subAfter` does not touch it -/
theorem subAfter_diffNode_of_not_mixed (o : Opts) {x y : Json} (hs : sameContainerType o x y = true)
    (hnm : mixedPair x y = false) (p : Path) (k : Int) (n : Bool) (nx : Json) :
    subAfter p n nx (diffNode o false x y (p ++ [.idx k])) = diffNode o false x y (p ++ [.idx k]) := by
  apply subAfter_of_paths
  intro h hm
  have := diffNode_paths_strict o hs hnm _ h hm
  simpa using this

end Jd.Real

/-! ## 7c. where a hunk of the diff of two objects comes from (either strategy, every option set) -/

namespace Jd.DE
open Jd Jd.Spec

/-- what the diff says about a member only the first object has -/
def remHunk (m : Bool) (p : Path) (k : String) (v : Json) : Hunk :=
  if m then { merge := true, path := p ++ [.key k], add := [.void] }
  else { path := p ++ [.key k], remove := v.nodeList }

/-- **a hunk of the diff of two objects** belongs to ONE key `k`, its path starts with `p ++ [k]`, and
    it is a hunk of the sub-diff of the two members (key on both sides), the removal of the member
    (first object only) or its addition (second object only) -/
theorem mem_diffNode_obj {o : Opts} {m : Bool} {kvs kvs' : List (String × Json)} {p : Path} {h : Hunk}
    (hm : h ∈ diffNode o m (.obj kvs) (.obj kvs') p) :
    ∃ k, (p ++ [PathElem.key k]) <+: h.path ∧
      ((∃ v v', (k, v) ∈ kvs ∧ alookup k kvs' = some v' ∧ h ∈ diffNode o m v v' (p ++ [.key k])) ∨
       (∃ v, (k, v) ∈ kvs ∧ alookup k kvs' = none ∧ h = remHunk m p k v) ∨
       (∃ v', (k, v') ∈ kvs' ∧ alookup k kvs = none ∧
          h = { merge := m, path := p ++ [.key k], add := v'.nodeList })) := by
  rw [diffNode_obj_obj, diffKvs_eq_flatMap, List.mem_append, List.mem_flatMap] at hm
  rcases hm with ⟨⟨k, v⟩, hkv, hm⟩ | hm
  · refine ⟨k, ?_⟩
    rw [keyDiff] at hm
    cases hl : alookup k kvs' with
    | some v' =>
      simp only [hl] at hm
      exact ⟨Real.diff_paths_extend_general o m v v' _ h hm, .inl ⟨v, v', hkv, rfl, hm⟩⟩
    | none =>
      simp only [hl] at hm
      have e : h = remHunk m p k v := by
        unfold remHunk; cases m <;> simpa using hm
      exact ⟨by rw [e]; unfold remHunk; cases m <;> exact List.prefix_refl _, .inr (.inl ⟨v, hkv, rfl, e⟩)⟩
  · obtain ⟨⟨k, v'⟩, hkv, rfl⟩ := List.mem_map.1 hm
    obtain ⟨h1, h2⟩ := List.mem_filter.1 hkv
    exact ⟨k, List.prefix_refl _, .inr (.inr ⟨v', h1, Option.isNone_iff_eq_none.1 h2, rfl⟩)⟩

end Jd.DE

namespace Jd.DPL
open Jd Jd.Spec Jd.RealL Jd.Align

/-! ## 8. every hunk of a sub-diff can be moved below an index -/

theorem diffNode_at (o : Opts) (_ho : dispatchTag o = .list) (a b : Json) (_ha : a.listDoc = true)
    (_hb : b.listDoc = true) (e : PathElem) :
    diffNode o false a b ([] ++ [e]) = (diffNode o false a b []).map (shiftHunk [e]) :=
  diffNode_shiftG o a false b [e] []

theorem path_ne_nil_of_prefix {p : Path} {e : PathElem} {l : Path} (h : (p ++ [e]) <+: l) : l ≠ [] := by
  rintro rfl
  simpa using h.length_le

/-- **induction over the hunks of a strict list-mode diff**, the hunk-wise companion of
    `listDoc_induct`: to prove `P a b p h` of every hunk `h` of the diff of two list documents below
    `p`, six cases, one per place a hunk can come from — an `edit` step of an alignment, the
    sub-diff of a `sub` step (as `subAfter` leaves it), the sub-diff of a member both objects hold,
    the removal / addition of a member one object holds, the replacement of a value as a whole (the
    pair is not of one container kind, or is a typed list against a plain array). No case mentions a
    diff function other than `diffNode` on the smaller pair. -/
theorem hunk_induct {o : Opts} (ho : dispatchTag o = .list) {P : Json → Json → Path → Hunk → Prop}
    (edit : ∀ t t' xs ys p (s : Nat) prev R A after, listDocList xs = true → listDocList ys = true →
      (R ≠ [] ∨ A ≠ []) → s ≤ ys.length → (prev = .void ∨ prev ∈ ys) → R.Sublist xs → A.Sublist ys →
      (after = .void ∨ after ∈ xs) →
      P (.arr t xs) (.arr t' ys) p
        { path := p ++ [.idx (s : Int)], before := [prev], remove := R, add := A, after := [after] })
    (sub : ∀ t t' xs ys p x y (j : Nat) n nx h, listDocList xs = true → listDocList ys = true →
      x ∈ xs → y ∈ ys → sameContainerType o x y = true → j < ys.length → (nx = .void ∨ nx ∈ xs) →
      (∀ h0 ∈ diffNode o false x y (p ++ [.idx (j : Int)]), P x y (p ++ [.idx (j : Int)]) h0) →
      h ∈ subAfter p n nx (diffNode o false x y (p ++ [.idx (j : Int)])) →
      P (.arr t xs) (.arr t' ys) p h)
    (key : ∀ kvs kvs' p k v v' h, listDocKvs kvs = true → listDocKvs kvs' = true → (k, v) ∈ kvs →
      alookup k kvs' = some v' → h ∈ diffNode o false v v' (p ++ [.key k]) →
      P v v' (p ++ [.key k]) h → P (.obj kvs) (.obj kvs') p h)
    (rem : ∀ kvs kvs' p k v, listDocKvs kvs = true → (k, v) ∈ kvs → alookup k kvs' = none →
      P (.obj kvs) (.obj kvs') p { path := p ++ [.key k], remove := v.nodeList })
    (add : ∀ kvs kvs' p k v', listDocKvs kvs' = true → (k, v') ∈ kvs' → alookup k kvs = none →
      P (.obj kvs) (.obj kvs') p { path := p ++ [.key k], add := v'.nodeList })
    (whole : ∀ a b p R A, a.listDoc = true → b.listDoc = true →
      (sameContainerType o a b = false ∨ mixedPair a b = true) →
      (a.isVoid = false ∨ b.isVoid = false) →
      (R = a.nodeList ∨ ∃ t xs, a = .arr t xs ∧ R = [.arr .list xs]) →
      (A = b.nodeList ∨ ∃ kvs, a = .obj kvs ∧ A = [b]) →
      P a b p { path := p, remove := R, add := A }) :
    ∀ a b, a.listDoc = true → b.listDoc = true → ∀ p, ∀ h ∈ diffNode o false a b p, P a b p h := by
  refine (listDoc_induct
    (mN := fun a b => ∀ p, ∀ h ∈ diffNode o false a b p, P a b p h)
    (mK := fun kvs' kvs => ∀ k v v', (k, v) ∈ kvs → alookup k kvs' = some v' →
      ∀ p, ∀ h ∈ diffNode o false v v' p, P v v' p h) ?_ ?_ ?_ ?_ ?_ ?_ ?_).1
  · intro t t' xs ys ht ht' htt hlx hly ih p h hm
    rcases mem_diffNode_arr ho ht ht' htt hm with ⟨s, prev, R, A, after, rfl, h1, h2, h3, h4, h5, h6⟩ |
      ⟨x, y, j, n, nx, hx, hy, hs, hj, hnx, hm⟩
    · exact edit t t' xs ys p s prev R A after hlx hly h1 h2 h3 h4 h5 h6
    · exact sub t t' xs ys p x y j n nx h hlx hly hx hy hs hj hnx
        (ih x hx y (listDoc_of_mem hly hy) _) hm
  · intro t xs b ht hlx hlb hb p h hm
    rw [diffNode_arr_other ho xs b ht hb, List.mem_singleton] at hm
    subst hm
    refine whole (.arr t xs) b p _ _ (by simp [Json.listDoc, ht, hlx]) hlb ?_ (.inl rfl)
      (.inr ⟨t, xs, rfl, rfl⟩) (.inl rfl)
    rcases hb with hb | ⟨rfl, ys, rfl⟩
    · exact .inl (sameContainerType_false nofun fun _ _ _ _ _ => hb _ _)
    · exact .inr rfl
  · intro kvs kvs' hl hl' ih p h hm
    obtain ⟨k, _, hc⟩ := DE.mem_diffNode_obj hm
    rcases hc with ⟨v, v', hv, hv', hh⟩ | ⟨v, hv, hn, rfl⟩ | ⟨v', hv', hn, rfl⟩
    · exact key kvs kvs' p k v v' h hl hl' hv hv' hh (ih k v v' hv hv' _ h hh)
    · exact rem kvs kvs' p k v hl hv hn
    · exact add kvs kvs' p k v' hl' hv' hn
  · intro kvs b hl hlb hb p h hm
    rw [diffNode_obj_other o kvs b hb, List.mem_singleton] at hm
    subst hm
    exact whole (.obj kvs) b p _ _ hl hlb
      (.inl (sameContainerType_false (fun _ _ _ => hb _) nofun)) (.inl rfl)
      (.inl (by simp [Json.nodeList, Json.isVoid])) (.inr ⟨kvs, rfl, rfl⟩)
  · intro a b h1 h2 hlb p h hm
    rw [diffNode_scalar o a b h1 h2] at hm
    unfold diffCommon at hm
    split at hm
    · cases hm
    · next hne =>
      simp only [Bool.false_eq_true, if_false, List.mem_singleton] at hm
      subst hm
      refine whole a b p _ _ ?_ hlb
        (.inl (sameContainerType_false (fun _ _ e _ => h2 _ e) fun _ _ _ _ e _ => h1 _ _ e))
        ?_ (.inl rfl) (.inl rfl)
      case refine_2 =>
        cases hva : a.isVoid with
        | false => exact .inl rfl
        | true =>
          cases hvb : b.isVoid with
          | false => exact .inr rfl
          | true =>
            cases a <;> simp [Json.isVoid] at hva
            cases b <;> simp [Json.isVoid] at hvb
            exact absurd (by simp [equals, Json.isVoid]) hne
      cases a with
      | arr t xs => exact absurd rfl (h1 t xs)
      | obj kvs => exact absurd rfl (h2 kvs)
      | _ => rfl
  · intro kvs' k v v' hm
    cases hm
  · intro kvs' k v r hl' _ _ ihN ihK k0 v0 v0' hm hl
    rcases List.mem_cons.1 hm with e | hm
    · cases e; exact ihN v0' (alookup_listDoc hl hl')
    · exact ihK k0 v0 v0' hm hl

/-- where the hunks of a diff computed at the root sit: below an index or a key, or they replace
    the root as a whole -/
theorem diff_frameOK (o : Opts) (ho : dispatchTag o = .list) :
    ∀ a b, a.listDoc = true → b.listDoc = true → a.isVoid = false → b.isVoid = false →
      ∀ h ∈ diffNode o false a b [], frameOK h := by
  intro a b ha hb hav hbv h hm
  have key : a.isVoid = false → b.isVoid = false →
      (∃ e, ([] ++ [e]) <+: h.path) ∨
        (h.before = [] ∧ h.after = [] ∧ h.remove.length = 1 ∧ h.add.length = 1) := by
    refine hunk_induct ho (P := fun a b p h => a.isVoid = false → b.isVoid = false →
      (∃ e, (p ++ [e]) <+: h.path) ∨
        (h.before = [] ∧ h.after = [] ∧ h.remove.length = 1 ∧ h.add.length = 1))
      ?_ ?_ ?_ ?_ ?_ ?_ a b ha hb [] h hm
    · exact fun _ _ _ _ _ s _ _ _ _ _ _ _ _ _ _ _ _ _ _ => .inl ⟨.idx (s : Int), List.prefix_refl _⟩
    · intro _ _ _ _ p x y j _ _ h _ _ _ _ _ _ _ _ hm _ _
      obtain ⟨h0, hm0, e1, _⟩ := mem_subAfter' hm
      exact .inl ⟨.idx (j : Int), e1 ▸ Real.diff_paths_extend_general o false x y _ h0 hm0⟩
    · exact fun _ _ _ k v v' h _ _ _ _ hh _ _ _ =>
        .inl ⟨.key k, Real.diff_paths_extend_general o false v v' _ h hh⟩
    · exact fun _ _ _ k _ _ _ _ _ _ => .inl ⟨.key k, List.prefix_refl _⟩
    · exact fun _ _ _ k _ _ _ _ _ _ => .inl ⟨.key k, List.prefix_refl _⟩
    · intro a b p R A _ _ _ _ hR hA hav hbv
      refine .inr ⟨rfl, rfl, ?_, ?_⟩
      · rcases hR with rfl | ⟨_, _, _, rfl⟩
        · simp [Json.nodeList, hav]
        · rfl
      · rcases hA with rfl | ⟨_, _, rfl⟩
        · simp [Json.nodeList, hbv]
        · rfl
  rcases key hav hbv with ⟨e, he⟩ | h'
  · exact .inl (path_ne_nil_of_prefix he)
  · exact .inr h'

/-! ### 8b. what `subAfter` does to the sub-diff of two same-kind containers (list documents) -/

/-- **`subAfter` on the sub-diff of two same-kind containers** (list documents): it is the identity,
    except for a typed `jsonList` against a plain `jsonArray` with nothing accumulated, where the one
    wholesale hunk receives the after-context -/
theorem subAfter_diffNode_cases (o : Opts) (ho : dispatchTag o = .list) {x y : Json}
    (hx : x.listDoc = true) (hy : y.listDoc = true) (hs : sameContainerType o x y = true)
    (p : Path) (k : Int) (n : Bool) (nx : Json) :
    subAfter p n nx (diffNode o false x y (p ++ [.idx k])) = diffNode o false x y (p ++ [.idx k]) ∨
    (n = true ∧ ∃ xs ys, x = .arr .list xs ∧ y = .arr .raw ys ∧
      diffNode o false x y (p ++ [.idx k]) =
        [{ path := p ++ [.idx k], remove := [.arr .list xs], add := [.arr .raw ys] }] ∧
      subAfter p n nx (diffNode o false x y (p ++ [.idx k])) =
        [{ path := p ++ [.idx k], remove := [.arr .list xs], add := [.arr .raw ys], after := [nx] }]) := by
  cases hmix : mixedPair x y with
  | false => exact .inl (Real.subAfter_diffNode_of_not_mixed o hs hmix p k n nx)
  | true =>
    obtain ⟨xs, ys, rfl, rfl⟩ : ∃ xs ys, x = .arr .list xs ∧ y = .arr .raw ys := by
      rcases sameContainerType_cases hs with ⟨_, _, rfl, rfl⟩ | ⟨t, xs, t', ys, rfl, rfl⟩
      · cases hmix
      · simp only [Json.listDoc, Bool.and_eq_true] at hx hy
        cases t <;> cases t' <;> simp_all [mixedPair]
    have e := diffNode_arr_other ho (t := .list) xs (.arr .raw ys) rfl (.inr ⟨rfl, ys, rfl⟩)
      (p ++ [.idx k])
    cases n with
    | false => left; exact subAfter_false _ _ _
    | true =>
      right
      refine ⟨rfl, xs, ys, rfl, rfl, ?_, ?_⟩
      · rw [e]; simp [Json.nodeList, Json.isVoid]
      · rw [e, subAfter_single]
        simp [subAfterFires, Json.nodeList, Json.isVoid]

/-! ## 9. objects: the member hunks -/

theorem single_nodeList (b : Json) : single b.nodeList = b := by
  cases b <;> simp [single, Json.nodeList, Json.isVoid, Json.singleValue]

/-- a hunk at the root: replace the value -/
theorem apply_root (a : Json) (rm add : List Json) (h1 : rm.length ≤ 1) (h2 : add.length ≤ 1)
    (h : specEq a (single rm) = true) :
    applyStrictAll a [{ path := [], remove := rm, add := add }] = some (single add) := by
  have e : (rm.length > 1 || add.length > 1) = false := by
    simp only [Bool.or_eq_false_iff, decide_eq_false_iff_not]; omega
  simp [applyStrictAll, applyStrict, e, h]

theorem specEq_void_void : specEq .void .void = true := by simp [specEq, equivB]

/-- the reference interpreter as an `ObjPatch`: every hunk is a hunk of the strict strategy, hunks
    are moved below a key by `shiftHunk`, a value is removed / added as a whole by a hunk at the root -/
def objPatch (L : FloatLaws) : ObjPatch Hunk where
  Runs x D r := applyStrictAll x D = some r
  Ok _ := True
  sh k := shiftHunk [.key k]
  Dom := Good
  remH v := { path := [], remove := v.nodeList }
  addH v := { path := [], add := v.nodeList }
  runs_nil := ⟨fun h => (Option.some.inj h).symm, fun h => h ▸ rfl⟩
  runs_append := by intros; rw [applyStrictAll_append]; exact Option.bind_eq_some_iff
  ok_sh _ _ _ := trivial
  key_step h k cur x v _ hx hv := by
    obtain ⟨v', hv', e⟩ := Option.bind_eq_some_iff.1 (show (applyStrict x h.path h).bind _ = _ from hv)
    cases (Option.some.inj e : v' = v)
    rw [← Merge.getD_toOpt x, ← hx] at hv'
    exact applyStrictAll_key_cons h [] k cur hv'
  ok_rem _ := trivial
  runs_rem {v} ha := by
    have := apply_root v v.nodeList [] (by simp only [Json.nodeList]; split <;> simp)
      (by simp) (by rw [single_nodeList]; exact specEq_refl L ha)
    simpa [single, Json.singleValue] using this
  ok_add _ := trivial
  runs_add v := by
    have := apply_root .void [] v.nodeList (by simp) (by simp only [Json.nodeList]; split <;> simp)
      (by simpa [single, Json.singleValue] using specEq_void_void)
    rwa [single_nodeList] at this

theorem getElem?_mid (pre : List Json) (x : Json) (post : List Json) :
    (pre ++ x :: post)[pre.length]? = some x := by
  simp

theorem set_mid (pre : List Json) (x r : Json) (post : List Json) :
    (pre ++ x :: post).set pre.length r = pre ++ r :: post := by
  simp

theorem listDocKvs_of_lookup :
    ∀ (l : List (String × Json)), keysSorted l = true →
      (∀ k v, alookup k l = some v → v.listDoc = true) → listDocKvs l = true
  | [], _, _ => rfl
  | (k, v) :: r, hs, h => by
    have hs' := keysSorted_cons_iff.1 hs
    simp only [listDocKvs, Bool.and_eq_true]
    refine ⟨h k v (by simp [alookup]), listDocKvs_of_lookup r hs'.2 (fun k1 v1 hl => ?_)⟩
    have hne : k1 ≠ k := ne_of_key_lt (hs'.1 k1 v1 (mem_of_alookup hl))
    exact h k1 v1 (by simpa [alookup, hne] using hl)

theorem okTag_of {t t' : Tag} (ht : (t == .raw || t == .list) = true) (h : t' = t ∨ t' = .raw) :
    (t' == .raw || t' == .list) = true := by
  rcases h with rfl | rfl
  · exact ht
  · rfl

theorem afterOK_headD (L : FloatLaws) {l : List Json} (h : ∀ z ∈ l, Good z) :
    AfterOK l (l.headD .void) := by
  cases l with
  | nil => exact AfterOK.nil
  | cons z _ => exact AfterOK.cons z _ z (specEq_refl L (h z List.mem_cons_self))

/-- what applying a rendered script asks of a step: a kept pair is related; a recursed pair has a
    NON-EMPTY sub-diff that applies (an empty one would give the pending hunk in front of it the
    wrong after-context: `afterOf`); an edit is not empty -/
def StepApplies (o : Opts) : Step → Prop
  | .keep x y => Rel x y
  | .sub x y => x.listDoc = true ∧ y.listDoc = true ∧ sameContainerType o x y = true ∧
      diffNode o false x y [] ≠ [] ∧
      ∃ r, applyStrictAll x (diffNode o false x y []) = some r ∧ Rel r y ∧ r.listDoc = true
  | .edit R A => R ≠ [] ∨ A ≠ []

/-- what applying a rendered script produces: a kept element of the first array, the patched
    element of a recursed pair, the added run of an `edit` step -/
inductive Res : Script → List Json → Prop
  | nil : Res [] []
  | keep {x y : Json} {r : Script} {zs : List Json} : Res r zs → Res (.keep x y :: r) (x :: zs)
  | sub {x y r0 : Json} {r : Script} {zs : List Json} : Rel r0 y → r0.listDoc = true → Res r zs →
      Res (.sub x y :: r) (r0 :: zs)
  | edit {R A : List Json} {r : Script} {zs : List Json} : Res r zs → Res (.edit R A :: r) (A ++ zs)

theorem Res.length : ∀ {S : Script} {zs : List Json}, Res S zs → zs.length = (tgt S).length
  | _, _, .nil => rfl
  | _, _, .keep h => by simp [Step.tgt, h.length]
  | _, _, .sub _ _ h => by simp [Step.tgt, h.length]
  | _, _, .edit h => by simp [Step.tgt, h.length]

theorem Res.relL (L : FloatLaws) : ∀ {S : Script} {zs : List Json}, Res S zs →
    (∀ x y, Step.keep x y ∈ S → Rel x y) → (∀ z ∈ tgt S, Good z) → RelL zs (tgt S)
  | _, _, .nil, _, _ => .nil
  | _, _, .keep h, hk, hg =>
    .cons (hk _ _ List.mem_cons_self) (h.relL L (fun x y hm => hk x y (.tail _ hm))
      fun z hz => hg z (by simp [hz]))
  | _, _, .sub hr _ h, hk, hg =>
    .cons hr (h.relL L (fun x y hm => hk x y (.tail _ hm)) fun z hz => hg z (by simp [hz]))
  | .edit _ A :: _, _, .edit h, hk, hg => by
    have ih := h.relL L (fun x y hm => hk x y (.tail _ hm)) fun z hz => hg z (by simp [hz])
    have hA : ∀ z ∈ A, Good z := fun z hz => hg z (by simp [Step.tgt, hz])
    clear hg h hk
    induction A with
    | nil => exact ih
    | cons x A ihA =>
      exact .cons (Rel.refl L (hA x List.mem_cons_self)) (ihA fun z hz => hA z (.tail _ hz))

theorem Res.listDoc : ∀ {S : Script} {zs : List Json}, Res S zs →
    (∀ z ∈ src S, Good z) → (∀ z ∈ tgt S, Good z) → listDocList zs = true
  | _, _, .nil, _, _ => rfl
  | _, _, .keep h, hs, ht => by
    simp only [listDocList, Bool.and_eq_true]
    exact ⟨(hs _ (by simp [Step.src])).listDoc,
      h.listDoc (fun z hz => hs z (by simp [hz])) fun z hz => ht z (by simp [hz])⟩
  | _, _, .sub _ hl h, hs, ht => by
    simp only [listDocList, Bool.and_eq_true]
    exact ⟨hl, h.listDoc (fun z hz => hs z (by simp [hz])) fun z hz => ht z (by simp [hz])⟩
  | .edit _ A :: _, _, .edit h, hs, ht => by
    simp only [listDocList_eq_all, List.all_append, Bool.and_eq_true]
    simp only [← listDocList_eq_all]
    exact ⟨(goodL_iff.2 fun z hz => ht z (by simp [Step.tgt, hz])).listDoc,
      h.listDoc (fun z hz => hs z (by simp [hz])) fun z hz => ht z (by simp [hz])⟩

theorem afterOf_of_applies {o : Opts} (ho : dispatchTag o = .list) (k : Nat) {S : Script}
    (h : ∀ st ∈ S, StepApplies o st) : afterOf o [] k S = (src S).headD .void := by
  match S with
  | [] => rfl
  | .keep _ _ :: _ => rfl
  | .edit _ _ :: _ => rfl
  | .sub x y :: r =>
    obtain ⟨hlx, hly, _, hne, _⟩ := h _ List.mem_cons_self
    have : (diffNode o false x y ([] ++ [.idx (k : Int)])).isEmpty = false := by
      rw [diffNode_at o ho x y hlx hly, List.isEmpty_map]
      cases hd : diffNode o false x y [] with
      | nil => exact absurd hd hne
      | cons _ _ => rfl
    simp only [List.nil_append] at this
    simp [afterOf, this, Step.src]

/-- **applying the rendering of a script** to the first array, by induction over the script. The
    before-context `prev` matters only to a leading `edit` step; after an `edit` step comes a kept
    or a recursed pair (`Spaced`), which is the next before-context. -/
theorem apply_render (L : FloatLaws) (o : Opts) (ho : dispatchTag o = .list) :
    ∀ (S : Script) (n : Bool) (t : Tag) (pre : List Json) (prev : Json), Spaced S →
      ((∃ R A r, S = .edit R A :: r) → PrevOK pre prev) → (∀ z ∈ src S, Good z) →
      (∀ st ∈ S, StepApplies o st) →
      ∃ t' zs, (t' = t ∨ t' = .raw) ∧
        applyStrictAll (.arr t (pre ++ src S)) (render o [] n pre.length prev S) =
          some (.arr t' (pre ++ zs)) ∧ Res S zs
  | [], n, t, pre, prev, _, _, _, _ => ⟨t, [], .inl rfl, by simp [render, applyStrictAll], .nil⟩
  | .keep x y :: r, n, t, pre, prev, hsp, _, hs, hst => by
    have hxy : Rel x y := hst _ List.mem_cons_self
    simp only [src_cons, Step.src, List.singleton_append, List.mem_cons, forall_eq_or_imp] at hs ⊢
    obtain ⟨t', zs, ht', h, hres⟩ := apply_render L o ho r true t (pre ++ [x]) y hsp.tail
      (fun _ => PrevOK.concat _ x y hxy.2) hs.2 (fun st h => hst st (.tail _ h))
    exact ⟨t', x :: zs, ht', by simpa [render, List.append_assoc] using h, .keep hres⟩
  | .sub x y :: r, n, t, pre, prev, hsp, _, hs, hst => by
    obtain ⟨hlx, hly, hsc, hne, r0, hr0, hrel0, hld0⟩ := hst _ List.mem_cons_self
    simp only [src_cons, Step.src, List.singleton_append, List.mem_cons, forall_eq_or_imp] at hs ⊢
    have hnv := sameContainerType_notVoid hsc
    have hframe := diff_frameOK o ho x y hlx hly hnv.1 hnv.2
    have hdrop : (pre ++ x :: src r).drop (pre.length + 1) = src r := by
      rw [show pre ++ x :: src r = (pre ++ [x]) ++ src r by simp, List.drop_left' (by simp)]
    obtain ⟨t2, ht2, h2⟩ := applyStrictAll_idx_frame_subAfter _ hframe t (pre ++ x :: src r)
      pre.length x (getElem?_mid _ _ _) r0 hr0 n ((src r).headD .void)
      (by rw [hdrop]; exact afterOK_headD L hs.2)
    rw [set_mid, ← diffNode_at o ho x y hlx hly] at h2
    obtain ⟨t', zs, ht', h3, hres⟩ := apply_render L o ho r true t2 (pre ++ [r0]) y hsp.tail
      (fun _ => PrevOK.concat _ r0 y hrel0.2) hs.2 (fun st h => hst st (.tail _ h))
    refine ⟨t', r0 :: zs, ?_, ?_, .sub hrel0 hld0 hres⟩
    · rcases ht' with rfl | rfl <;> rcases ht2 with rfl | rfl <;> simp
    · simp only [render]
      rw [applyStrictAll_append, h2]
      simpa [List.append_assoc] using h3
  | .edit R A :: r, n, t, pre, prev, hsp, hp, hs, hst => by
    have hst' : ∀ st ∈ r, StepApplies o st := fun st h => hst st (.tail _ h)
    simp only [src_cons, Step.src, List.mem_append] at hs ⊢
    have h1 := apply_edit L t pre R A (src r) prev (afterOf o [] (pre.length + A.length) r)
      (goodL_iff.2 fun z hz => hs z (.inl hz)) (hp ⟨R, A, r, rfl⟩)
      (by rw [afterOf_of_applies ho _ hst']; exact afterOK_headD L fun z hz => hs z (.inr hz))
    obtain ⟨t', zs, ht', h3, hres⟩ := apply_render L o ho r false .raw (pre ++ A)
      (A.getLast?.getD prev) hsp.tail
      (fun ⟨R', A', r', e⟩ => by
        subst e
        exact absurd ⟨rfl, rfl⟩ hsp.1)
      (fun z hz => hs z (.inr hz)) hst'
    refine ⟨t', A ++ zs, .inr (ht'.elim id id), ?_, .edit hres⟩
    simp only [render, List.nil_append]
    rw [show ∀ (h : Hunk) (D : Diff), h :: D = [h] ++ D from fun _ _ => rfl, applyStrictAll_append,
      ← List.append_assoc, h1]
    simpa [List.append_assoc] using h3

/-- a step of a walk with a longest common subsequence (`Step.ok`) between two good arrays whose
    elements the sub-diffs patch correctly is a step that applies -/
theorem stepApplies_of_ok (o : Opts) (ho : dispatchTag o = .list) {S T : List Json}
    (H : ∀ x ∈ S, ∀ y ∈ T, hashCode o x = hashCode o y → Rel x y)
    (Z : Rec.NumHashOK o S T)
    {a b : List Json} (ha : GoodL a) (hb : GoodL b) (hS : Sub (subtermsList a) S)
    (hT : Sub (subtermsList b) T)
    (node : ∀ x ∈ a, ∀ y ∈ b, Sub (subterms x) S → Sub (subterms y) T → Good x → Good y →
      ∃ r, applyStrictAll x (diffNode o false x y []) = some r ∧ Rel r y ∧ r.listDoc = true)
    {st : Step} (hok : st.ok o) (hsrc : ∀ z ∈ st.src, z ∈ a) (htgt : ∀ z ∈ st.tgt, z ∈ b) :
    StepApplies o st := by
  cases st with
  | keep x y =>
    have hx := hsrc x (by simp [Step.src]); have hy := htgt y (by simp [Step.tgt])
    exact H x (hS x (subterms_sub_of_mem hx x (self_mem_subterms x))) y
      (hT y (subterms_sub_of_mem hy y (self_mem_subterms y))) hok
  | sub x y =>
    have hx := hsrc x (by simp [Step.src]); have hy := htgt y (by simp [Step.tgt])
    have gx := ha.of_mem hx; have gy := hb.of_mem hy
    have sx : Sub (subterms x) S := fun z hz => hS z (subterms_sub_of_mem hx z hz)
    have sy : Sub (subterms y) T := fun z hz => hT z (subterms_sub_of_mem hy z hz)
    exact ⟨gx.listDoc, gy.listDoc, hok.1, fun e => hok.2 ((diff_nil_hash o ho Z).1 x y gx.listDoc
      gy.listDoc sx sy gx gy [] e), node x hx y hy sx sy gx gy⟩
  | edit R A => exact hok.1

/-- **the alignment applies**: the rendering of the alignment of two good arrays takes the first to
    an array related to the second, given that the sub-diffs of their elements apply -/
theorem apply_alignment (L : FloatLaws) (o : Opts) (ho : dispatchTag o = .list) {S T : List Json}
    (H : ∀ x ∈ S, ∀ y ∈ T, hashCode o x = hashCode o y → Rel x y)
    (Z : Rec.NumHashOK o S T)
    {xs ys : List Json} (ha : GoodL xs) (hb : GoodL ys) (hS : Sub (subtermsList xs) S)
    (hT : Sub (subtermsList ys) T)
    (node : ∀ x ∈ xs, ∀ y ∈ ys, Sub (subterms x) S → Sub (subterms y) T → Good x → Good y →
      ∃ r, applyStrictAll x (diffNode o false x y []) = some r ∧ Rel r y ∧ r.listDoc = true)
    (t : Tag) :
    ∃ t' zs, (t' = t ∨ t' = .raw) ∧
      applyStrictAll (.arr t xs) (render o [] true 0 .void (alignment o xs ys)) = some (.arr t' zs) ∧
      RelL zs ys ∧ listDocList zs = true := by
  have happ : ∀ st ∈ alignment o xs ys, StepApplies o st := fun st hst =>
    stepApplies_of_ok o ho H Z ha hb hS hT node (alignment_ok o xs ys st hst)
      (mem_of_mem_alignment hst).1 (mem_of_mem_alignment hst).2
  have gsrc : ∀ z ∈ src (alignment o xs ys), Good z := fun z hz => ha.of_mem (alignment_src o xs ys ▸ hz)
  have gtgt : ∀ z ∈ tgt (alignment o xs ys), Good z := fun z hz => hb.of_mem (alignment_tgt o xs ys ▸ hz)
  obtain ⟨t', zs, ht', h, hres⟩ := apply_render L o ho (alignment o xs ys) true t [] .void
    (walk_spaced o xs ys _ [] []) (fun _ => by simp [PrevOK, Json.isVoid]) gsrc happ
  rw [alignment_src] at h
  exact ⟨t', zs, ht', by simpa using h, alignment_tgt o xs ys ▸ hres.relL L (fun x y hm => happ _ hm) gtgt,
    hres.listDoc gsrc gtgt⟩

/-- two objects of the domain, list reading: the diff applies and gives an object related to the
    second, when the members' diffs do -/
theorem obj_step_list (L : FloatLaws) (o : Opts) (ho : dispatchTag o = .list)
    {kvs kvs' : List (String × Json)} (ha : Good (.obj kvs)) (hb : Good (.obj kvs'))
    (ih : ∀ k v v', (k, v) ∈ kvs → alookup k kvs' = some v' →
      ∃ r, applyStrictAll v (diffNode o false v v' []) = some r ∧ Rel r v' ∧ r.listDoc = true) :
    ∃ r, applyStrictAll (.obj kvs) (diffNode o false (.obj kvs) (.obj kvs') []) = some r ∧
      Rel r (.obj kvs') ∧ r.listDoc = true := by
  have ha' := good_obj.1 ha
  have hb' := good_obj.1 hb
  obtain ⟨M, cur, hM, hrun, _, hs, hfin⟩ := (objPatch L).obj_step ha'.1 hb'.1
    (fun k v hm => ha'.2.of_mem hm) (fun k v' hm => (hb'.2.of_mem hm).2)
    (fun z v' => Rel z v' ∧ z.listDoc = true) (fun z v' h => h.1.isVoid_eq)
    (fun k v' hm => ⟨Rel.refl L (hb'.2.of_mem hm).1, (hb'.2.of_mem hm).1.listDoc⟩)
    (fun _ v v' D => D = diffNode o false v v' [])
    (fun k v v' hm hl => by
      obtain ⟨r, h1, h2, h3⟩ := ih k v v' hm hl
      exact ⟨_, r, rfl, fun _ _ => trivial, h1, h2, h3⟩)
  -- the diff of the two objects is the hunks `obj_step` speaks of
  have hd : diffNode o false (.obj kvs) (.obj kvs') [] =
      kvs.flatMap (fun kv => (M kv).map ((objPatch L).sh kv.1)) ++
        (kvs'.filter (fun kv => (alookup kv.1 kvs).isNone)).map
          (fun kv => (objPatch L).sh kv.1 ((objPatch L).addH kv.2)) := by
    rw [diffNode_obj_obj, DE.diffKvs_eq_flatMap]
    congr 1
    refine flatMap_congr_left fun kv hkv => ?_
    have := hM kv.1 kv.2 hkv
    rw [DE.keyDiff]
    cases hl : alookup kv.1 kvs' with
    | some v' =>
      simp only [hl] at this ⊢
      rw [this]
      exact diffNode_at o ho kv.2 v' (ha'.2.of_mem hkv).1.listDoc (hb'.2.lookup hl).1.listDoc _
    | none =>
      simp only [hl] at this ⊢
      rw [this]
      simp [objPatch, shiftHunk]
  refine ⟨.obj cur, by rw [hd]; exact hrun, Rel.obj hs hb'.1 fun k => ?_, ?_⟩
  · have := hfin k
    cases hl : alookup k kvs' with
    | none => rw [hl] at this; exact this
    | some v' =>
      rw [hl] at this
      obtain ⟨z, hz, hr, _⟩ := this
      exact ⟨z, hz, hr⟩
  · simp only [Json.listDoc]
    refine listDocKvs_of_lookup cur hs fun k z hz => ?_
    have := hfin k
    cases hl : alookup k kvs' with
    | none => rw [hl] at this; rw [this] at hz; cases hz
    | some v' =>
      rw [hl] at this
      obtain ⟨z', hz', _, hld⟩ := this
      rw [hz] at hz'; cases hz'; exact hld

/-- the main induction. Of the two hypotheses about hash codes, `Z` (numbers that `Equals` identifies
    hash alike) holds of all finite doubles; it is a hypothesis because `numWithin` is opaque. For the
    members of an object the induction only collects the hypotheses (`obj_step_list` walks them). -/
theorem diff_correct_of (L : FloatLaws) (o : Opts) (ho : dispatchTag o = .list) {S T : List Json}
    (H : ∀ x ∈ S, ∀ y ∈ T, hashCode o x = hashCode o y → Rel x y)
    (Z : Rec.NumHashOK o S T) :
    ∀ a b, a.listDoc = true → b.listDoc = true →
      Sub (subterms a) S → Sub (subterms b) T → Good a → Good b →
      ∃ r, applyStrictAll a (diffNode o false a b []) = some r ∧ Rel r b ∧ r.listDoc = true := by
  refine (listDoc_induct
    (mK := fun kvs' kvs => Sub (subtermsKvs kvs) S → Sub (subtermsKvs kvs') T → GoodK kvs →
      GoodK kvs' → ∀ k v v', (k, v) ∈ kvs → alookup k kvs' = some v' →
        ∃ r, applyStrictAll v (diffNode o false v v' []) = some r ∧ Rel r v' ∧ r.listDoc = true)
    ?_ ?_ ?_ ?_ ?_ ?_ ?_).1
  · -- list against list
    intro t t' xs ys ht ht' htt _ hly ih hS hT ha hb
    rw [diffNode_alignment ho xs ys ht ht' htt]
    obtain ⟨t'', zs, htag, h, hrel, hld⟩ := apply_alignment L o ho H Z (good_arr.1 ha).2
      (good_arr.1 hb).2 (sub_arr hS) (sub_arr hT)
      (fun x hx y hy => ih x hx y (listDoc_of_mem hly hy)) t
    refine ⟨.arr t'' zs, h, Rel.arr hrel t'' t', ?_⟩
    simp only [Json.listDoc, Bool.and_eq_true]
    exact ⟨okTag_of ht htag, hld⟩
  · -- list against something else: replaced as a whole
    intro t xs b ht _ _ hb' _ _ ha hb
    rw [diffNode_arr_other ho xs b ht hb']
    refine ⟨b, ?_, Rel.refl L hb, hb.listDoc⟩
    have := apply_root (.arr t xs) [.arr .list xs] b.nodeList (by simp)
      (by simp only [Json.nodeList]; split <;> simp)
      (by simpa [single, Json.singleValue] using (Rel.arr (RelL.refl L (good_arr.1 ha).2) t .list).1)
    rw [this, single_nodeList]
  · -- object against object
    intro kvs kvs' _ _ ih hS hT ha hb
    exact obj_step_list L o ho ha hb
      (ih (sub_obj hS) (sub_obj hT) (good_obj.1 ha).2 (good_obj.1 hb).2)
  · -- object against something else
    intro kvs b _ _ hb' _ _ ha hb
    rw [diffNode_obj_other o kvs b hb']
    refine ⟨b, ?_, Rel.refl L hb, hb.listDoc⟩
    have := apply_root (.obj kvs) [.obj kvs] [b] (by simp) (by simp)
      (by simpa [single, Json.singleValue] using specEq_refl L ha)
    simpa [single, Json.singleValue] using this
  · -- scalars
    intro a b h1 h2 _ _ _ ha hb
    rw [diffNode_scalar o a b h1 h2]
    unfold diffCommon
    split
    · next he =>
      refine ⟨a, by simp [applyStrictAll], ?_, ha.listDoc⟩
      have e1 : specEq a b = true := by rw [specEq_eq_equals ha.listDoc hb.listDoc]; exact he
      exact ⟨e1, by rw [specEq_symm L hb ha]; exact e1⟩
    · refine ⟨b, ?_, Rel.refl L hb, hb.listDoc⟩
      simp only [Bool.false_eq_true, if_false]
      have := apply_root a a.nodeList b.nodeList
        (by simp only [Json.nodeList]; split <;> simp)
        (by simp only [Json.nodeList]; split <;> simp)
        (by rw [single_nodeList]; exact specEq_refl L ha)
      rw [this, single_nodeList]
  · -- the members: nothing to walk, the hypotheses are collected
    intro kvs' _ _ _ _ k v v' hm
    cases hm
  · intro kvs' k v r hl' _ _ ihN ihK hS hT ha hb k0 v0 v0' hm hl
    have ha' := goodK_cons.1 ha
    have hS' := sub_kvs_cons hS
    rcases List.mem_cons.1 hm with e | hm
    · cases e
      exact ihN v0' (alookup_listDoc hl hl') hS'.1 (sub_lookup hT hl) ha'.1.1 (hb.lookup hl).1
    · exact ihK hS'.2 hT ha'.2 hb k0 v0 v0' hm hl

theorem diff_correct (L : FloatLaws) (o : Opts) (ho : dispatchTag o = .list) {S T : List Json}
    (N : NoCollision o S T) :
    ∀ a b, a.listDoc = true → b.listDoc = true →
      Sub (subterms a) S → Sub (subterms b) T → Good a → Good b →
      ∃ r, applyStrictAll a (diffNode o false a b []) = some r ∧ Rel r b ∧ r.listDoc = true :=
  diff_correct_of L o ho N.hash (fun u v hu hv h => by rw [N.zero u v hu hv h])

/-! ## 11. the theorem -/

/-- without recursed pairs, a result is the second array with the kept elements of the first -/
theorem Res.pwl {o : Opts} : ∀ {S : Script} {zs : List Json}, Res S zs → (∀ x y, Step.sub x y ∉ S) →
    (∀ x y, Step.keep x y ∈ S → hashCode o x = hashCode o y) → PWL o (src S) zs (tgt S)
  | _, _, .nil, _, _ => .nil
  | _, _, .keep h, hns, hk =>
    .cons (.inr ⟨by simp [Step.src], hk _ _ List.mem_cons_self⟩)
      ((h.pwl (fun x y hm => hns x y (.tail _ hm)) fun x y hm => hk x y (.tail _ hm)).mono
        fun z hz => by simp [hz])
  | _, _, .sub _ _ _, hns, _ => absurd List.mem_cons_self (hns _ _)
  | .edit R A :: r, _, .edit h, hns, hk => by
    have ih := (h.pwl (fun x y hm => hns x y (.tail _ hm)) fun x y hm => hk x y (.tail _ hm)).mono
      (a' := src (.edit R A :: r)) fun z hz => by simp [hz]
    simp only [tgt_cons, Step.tgt]
    generalize src (.edit R A :: r) = a at ih ⊢
    clear h hns hk
    induction A with
    | nil => exact ih
    | cons x A ihA => exact .cons (.inl rfl) ihA

/-- Arrays of scalars, list mode (any options whose array reading is "list", e.g. a
    precision), strict strategy: the diff applies to its source, and the result is the target with
    some elements replaced by elements of the source carrying the same hash code (`PWL`); as
    hash-equal elements are structurally equal (hypothesis: no collision) the result is
    structurally equal to the target, hence equivalent to it under `o` (`PrecMono o`: trivial
    without a precision option). No hypothesis about `0` / `-0` is needed here. -/
theorem diffM_list_correct_scalar_arrays (L : FloatLaws) (o : Opts) (ho : dispatchTag o = .list)
    (hm : isMerge o = false) (t t' : Tag) (xs ys : List Json)
    (ha : Good (.arr t xs)) (hb : Good (.arr t' ys)) (hsc : ∀ x ∈ xs, (isScalar x) = true)
    (HashOK : ∀ x ∈ xs, ∀ y ∈ ys, hashCode o x = hashCode o y →
      specEq x y = true ∧ specEq y x = true) :
    ∃ t'' zs, applyStrictAll (.arr t xs) (diffM o (.arr t xs) (.arr t' ys)) = some (.arr t'' zs) ∧
      PWL o xs zs ys ∧ specEq (.arr t'' zs) (.arr t' ys) = true ∧
      (PrecMono o → equivB o (.arr t'' zs) (.arr t' ys) = true) := by
  have ha' := good_arr.1 ha
  have hb' := good_arr.1 hb
  unfold diffM
  rw [hm]
  by_cases htt : t = .raw ∨ t' = .list
  · rw [diffNode_alignment ho xs ys ha'.1 hb'.1 htt]
    have hok := alignment_ok o xs ys
    have hns := no_sub_of_scalars o ys hsc
    have hkeep : ∀ x y, Step.keep x y ∈ alignment o xs ys → Rel x y := fun x y hst =>
      HashOK x ((mem_of_mem_alignment hst).1 x (by simp [Step.src])) y
        ((mem_of_mem_alignment hst).2 y (by simp [Step.tgt])) (hok _ hst)
    obtain ⟨t'', zs, _, h, hres⟩ := apply_render L o ho (alignment o xs ys) true t [] .void
      (walk_spaced o xs ys _ [] []) (fun _ => by simp [PrevOK, Json.isVoid])
      (fun z hz => ha'.2.of_mem (alignment_src o xs ys ▸ hz))
      (fun st hst => by
        cases st with
        | keep x y => exact hkeep x y hst
        | sub x y => exact absurd hst (hns x y)
        | edit R A => exact (hok _ hst).1)
    have hrel := hres.relL L hkeep fun z hz => hb'.2.of_mem (alignment_tgt o xs ys ▸ hz)
    have hpw := hres.pwl hns fun x y hst => hok _ hst
    rw [alignment_tgt] at hrel
    rw [alignment_src, alignment_tgt] at hpw
    rw [alignment_src] at h
    refine ⟨t'', zs, by simpa using h, hpw, (Rel.arr hrel t'' t').1,
      fun hp => equivB_mono o ho hp _ _ (Rel.arr hrel t'' t').1⟩
  · obtain ⟨rfl, rfl⟩ := tags_mixed ha'.1 hb'.1 htt
    rw [diffNode_arr_other ho xs _ ha'.1 (.inr ⟨rfl, ys, rfl⟩)]
    have hr : Rel (.arr .raw ys) (.arr .raw ys) := Rel.refl L hb
    refine ⟨.raw, ys, ?_, PWL.refl o xs ys, hr.1, fun hp => equivB_mono o ho hp _ _ hr.1⟩
    exact applyStrict_root_replace _ _ _ (Rel.arr (RelL.refl L ha'.2) _ _).1



theorem mem_subtermsList {z : Json} : ∀ {xs : List Json}, z ∈ subtermsList xs →
    ∃ x ∈ xs, z ∈ subterms x
  | [], h => by simp [subtermsList] at h
  | y :: r, h => by
    simp only [subtermsList, List.mem_append] at h
    rcases h with h | h
    · exact ⟨y, List.mem_cons_self, h⟩
    · obtain ⟨x, hx, hz⟩ := mem_subtermsList h
      exact ⟨x, List.mem_cons_of_mem _ hx, hz⟩

theorem mem_subtermsKvs {z : Json} : ∀ {kvs : List (String × Json)}, z ∈ subtermsKvs kvs →
    ∃ k v, (k, v) ∈ kvs ∧ z ∈ subterms v
  | [], h => by simp [subtermsKvs] at h
  | (k0, v0) :: r, h => by
    simp only [subtermsKvs, List.mem_append] at h
    rcases h with h | h
    · exact ⟨k0, v0, List.mem_cons_self, h⟩
    · obtain ⟨k, v, hm, hz⟩ := mem_subtermsKvs h
      exact ⟨k, v, List.mem_cons_of_mem _ hm, hz⟩

/-- a predicate that passes to the parts of a document holds of every sub-term -/
theorem hered_subterms {P : Json → Prop} (C : Hered P) : ∀ x, P x → ∀ z ∈ subterms x, P z := by
  intro x
  induction x using jsonInd with
  | arr t xs ih =>
    intro h z hz
    simp only [subterms, List.mem_cons] at hz
    rcases hz with rfl | hz
    · exact h
    · obtain ⟨x, hx, hz⟩ := mem_subtermsList hz
      exact ih x hx (C.elem h hx) z hz
  | obj kvs ih =>
    intro h z hz
    simp only [subterms, List.mem_cons] at hz
    rcases hz with rfl | hz
    · exact h
    · obtain ⟨k, v, hm, hz⟩ := mem_subtermsKvs hz
      exact ih k v hm (C.member h hm) z hz
  | _ => intro h z hz; simp only [subterms, List.mem_singleton] at hz; exact hz ▸ h

theorem hered_good : Hered Good :=
  ⟨fun h hx => (good_arr.1 h).2.of_mem hx, fun h hm => ((good_obj.1 h).2.of_mem hm).1⟩

theorem good_subterms : ∀ (a : Json), Good a → ∀ x, x ∈ (subterms a) → Good x :=
  hered_subterms hered_good

theorem goodK_subterms : ∀ (kvs : List (String × Json)), GoodK kvs → ∀ x, x ∈ subtermsKvs kvs → Good x :=
  fun _ h x hx => by
    obtain ⟨k, v, hm, hx⟩ := mem_subtermsKvs hx
    exact good_subterms v (h.of_mem hm).1 x hx

/-- **No hash collision** between the source and the target: a sub-term of `a` and a sub-term of
    `b` with the same hash code are structurally equal. (List elements are matched by hash code; in
    list mode the hash code does not depend on the options.) For documents of the domain this
    says exactly that FNV-1a does not collide on the pairs (sub-term of `a`, sub-term of `b`). -/
def HashOK (o : Opts) (a b : Json) : Prop :=
  ∀ x, x ∈ (subterms a) → ∀ y, y ∈ (subterms b) → hashCode o x = hashCode o y → specEq x y = true

/-- **No signed-zero pair**: a number of `a` and a number of `b` that are equal as floats have the
    same bit pattern. Scalars are compared with `Equals`, list elements are matched by hash code:
    were the code taken over the bits, `{"a":0}` against `{"a":-0}` would give an EMPTY sub-diff for
    two list elements with different hash codes, and `diffRest` would record the wrong after-context
    for the enclosing list hunk (defect D5b, see `Example.cexA` below). With the hash of JdModel.Hash
    (`0` and `-0` alike) the hypothesis is stronger than necessary: `diffM_list_correct_numHash`. -/
def ZeroOK (a b : Json) : Prop :=
  ∀ u v, Json.num u ∈ (subterms a) → Json.num v ∈ (subterms b) → numWithin 0 u v = true → u = v

/-- `HashOK` of a concrete pair of list documents by one evaluation: sub-terms with equal codes
    are `Equals` (which the kernel evaluates on documents without numbers; `specEq` is defined by
    well-founded recursion and does not evaluate) -/
theorem hashOK_of_check {o : Opts} {a b : Json}
    (h : ((subterms a).all fun x => (subterms b).all fun y =>
      hashCode o x != hashCode o y || (x.listDoc && y.listDoc && equals [] x y)) = true) :
    HashOK o a b := by
  intro x hx y hy e
  have := List.all_eq_true.1 (List.all_eq_true.1 h x hx) y hy
  simp only [e, bne_self_eq_false, Bool.false_or, Bool.and_eq_true] at this
  rw [specEq_eq_equals this.1.1 this.1.2]
  exact this.2

/-- `diffM_list_correct` (below) with, in place of `ZeroOK`, the weaker hypothesis that numbers equal
    as floats have equal hash codes (true of all finite doubles since `0` and `-0` hash alike) -/
theorem diffM_list_correct_numHash (L : FloatLaws) (o : Opts) (ho : dispatchTag o = .list)
    (hm : isMerge o = false) (a b : Json)
    (ha1 : a.listDoc = true) (ha2 : a.wf = true) (ha3 : a.finiteNums = true) (ha4 : (memOK a) = true)
    (hb1 : b.listDoc = true) (hb2 : b.wf = true) (hb3 : b.finiteNums = true) (hb4 : (memOK b) = true)
    (H : HashOK o a b)
    (Z : ∀ u v, Json.num u ∈ subterms a → Json.num v ∈ subterms b → numWithin 0 u v = true →
      hashCode o (.num u) = hashCode o (.num v)) :
    ∃ r, applyStrictAll a (diffM o a b) = some r ∧ specEq r b = true ∧ specEq b r = true ∧
      r.listDoc = true ∧ (PrecMono o → equivB o r b = true ∧ equals o r b = true) := by
  have ha : Good a := ⟨ha1, ha2, ha3, ha4⟩
  have hb : Good b := ⟨hb1, hb2, hb3, hb4⟩
  have H' : ∀ x ∈ subterms a, ∀ y ∈ subterms b, hashCode o x = hashCode o y → Rel x y :=
    fun x hx y hy h => by
      have e := H x hx y hy h
      exact ⟨e, by rw [specEq_symm L (good_subterms b hb y hy) (good_subterms a ha x hx)]; exact e⟩
  obtain ⟨r, h, hr, hld⟩ :=
    diff_correct_of L o ho H' Z a b ha1 hb1 (fun _ h => h) (fun _ h => h) ha hb
  refine ⟨r, ?_, hr.1, hr.2, hld, fun hp => ?_⟩
  · unfold diffM
    rw [hm]
    exact h
  · have e := equivB_mono o ho hp r b hr.1
    exact ⟨e, by rw [equals_eq_equivB_list o ho r b hld hb1]; exact e⟩

/-- **C01, list mode, strict strategy.** For documents of the domain (list documents, sorted
    unique keys, finite numbers, no void member) without hash collision and without `0` / `-0`
    pair, the hunks of `a.Diff(b)` apply in sequence to `a` under the reference semantics of hunks
    (`Jd.Spec.applyStrictAll`: paths, removed values and before / after contexts all checked), and
    the result `r` is structurally equal to `b` (`specEq` = `equivB []`: ordered lists, exact
    numbers), read from either side; it is a list document, and it is equal to `b` for the
    library's `Equals` with the options `o` (under `PrecMono o` when `o` has a precision). -/
theorem diffM_list_correct (L : FloatLaws) (o : Opts) (ho : dispatchTag o = .list)
    (hm : isMerge o = false) (a b : Json)
    (ha1 : a.listDoc = true) (ha2 : a.wf = true) (ha3 : a.finiteNums = true) (ha4 : (memOK a) = true)
    (hb1 : b.listDoc = true) (hb2 : b.wf = true) (hb3 : b.finiteNums = true) (hb4 : (memOK b) = true)
    (H : HashOK o a b) (Z : ZeroOK a b) :
    ∃ r, applyStrictAll a (diffM o a b) = some r ∧ specEq r b = true ∧ specEq b r = true ∧
      r.listDoc = true ∧ (PrecMono o → equivB o r b = true ∧ equals o r b = true) :=
  diffM_list_correct_numHash L o ho hm a b ha1 ha2 ha3 ha4 hb1 hb2 hb3 hb4 H
    (fun u v hu hv h => by rw [Z u v hu hv h])

/-- the same without a precision option: the patched document `Equals` the target -/
theorem diffM_list_correct_noPrecision (L : FloatLaws) (o : Opts) (ho : dispatchTag o = .list)
    (hm : isMerge o = false) (hp : precOf o = 0) (a b : Json)
    (ha1 : a.listDoc = true) (ha2 : a.wf = true) (ha3 : a.finiteNums = true) (ha4 : (memOK a) = true)
    (hb1 : b.listDoc = true) (hb2 : b.wf = true) (hb3 : b.finiteNums = true) (hb4 : (memOK b) = true)
    (H : HashOK o a b) (Z : ZeroOK a b) :
    ∃ r, applyStrictAll a (diffM o a b) = some r ∧ equivB o r b = true ∧ equals o r b = true := by
  obtain ⟨r, h1, _, _, _, h2⟩ :=
    diffM_list_correct L o ho hm a b ha1 ha2 ha3 ha4 hb1 hb2 hb3 hb4 H Z
  exact ⟨r, h1, h2 (PrecMono.of_noPrecision hp)⟩

/-! ## 12. non-vacuity, and the pair of D5b behind `ZeroOK` -/

namespace Example

def one : Json := .num 0x3FF0000000000000
/-- `[true, 1, [1], null]` -/
def exA : Json := .arr .raw [.bool true, one, .arr .raw [one], .null]
/-- `[false, 1, [1, 1], null, null]` -/
def exB : Json := .arr .raw [.bool false, one, .arr .raw [one, one], .null, .null]

-- three hunks: one at `[0]`, one inside the nested list at `[2, 1]`, one at `[4]`
#eval (diffM [] exA exB).map (·.path)

/-- the hypotheses of `diffM_list_correct` hold for this pair (given the float laws) -/
theorem hyps (L : FloatLaws) :
    exA.listDoc = true ∧ exA.wf = true ∧ exA.finiteNums = true ∧ (memOK exA) = true ∧
    exB.listDoc = true ∧ exB.wf = true ∧ exB.finiteNums = true ∧ (memOK exB) = true ∧
    HashOK [] exA exB ∧ ZeroOK exA exB := by
  refine ⟨by decide, by decide, by decide, by decide, by decide, by decide, by decide, by decide,
    ?_, ?_⟩
  · intro x hx y hy h
    simp [exA, exB, one, subterms, subtermsList] at hx hy
    have g1 : Good one := ⟨by decide, by decide, by decide, by decide⟩
    have g2 : Good Json.null := ⟨by decide, by decide, by decide, by decide⟩
    rcases hx with rfl | rfl | rfl | rfl | rfl | rfl <;>
      rcases hy with rfl | rfl | rfl | rfl | rfl | rfl <;>
      first
        | exact absurd h (by decide +kernel)
        | exact specEq_refl L g1
        | exact specEq_refl L g2
  · intro u v hu hv _
    simp only [exA, exB, subterms, subtermsList, List.cons_append, List.nil_append,
      List.append_nil, List.mem_cons, List.not_mem_nil, or_false, one] at hu hv
    simp at hu hv
    rw [hu, hv]

example (L : FloatLaws) :
    ∃ r, applyStrictAll exA (diffM [] exA exB) = some r ∧ specEq r exB = true := by
  obtain ⟨h1, h2, h3, h4, h5, h6, h7, h8, h9, h10⟩ := hyps L
  obtain ⟨r, hr, e, _⟩ := diffM_list_correct L [] rfl rfl exA exB h1 h2 h3 h4 h5 h6 h7 h8 h9 h10
  exact ⟨r, hr, e⟩

/-! ### the pair of defect D5b: what `ZeroOK` excludes

`a = [1, {"a": 0}]`, `b = [2, {"a": -0}]` (all other hypotheses hold; checked by `decide` below).
With a hash over the bits of the numbers (jd up to D5b) the two objects have different hash codes,
so they are not a common element; they are compatible containers, and their sub-diff is EMPTY
because scalars are compared with `Equals` (`0 == -0` as floats). `diffRest` then takes the
after-context of the accumulated hunk `- 1 + 2` from the position AFTER the object (`after()` is
evaluated once more after the cursor has advanced, because `len(d) < 2`), here the end of the array,
while the element that follows the removed `1` in the document is the object: the context check
fails. The Go library with that hash (v2, `a.Patch(a.Diff(b))`) answers
`invalid patch. expected {} after. got map[a:0]` on this input.
With `hashCode o (.num bits)` mapping `-0` to `0` (JdModel.Hash, jd since D5b) the two objects have the
same hash code, are a common element, and the diff applies; the model shows it: -/

def pz : Json := .num 0
def nz : Json := .num 0x8000000000000000
def cexA : Json := .arr .raw [one, .obj [("a", pz)]]
def cexB : Json := .arr .raw [.num 0x4000000000000000, .obj [("a", nz)]]

-- one hunk `@ [0]  [ -1 +2 ]` whose after-context is the object `{"a":0}`
#eval diffM [] cexA cexB
-- `some [2, {"a":0}]`: the hunk is accepted
#eval applyStrictAll cexA (diffM [] cexA cexB)
-- `true`: `0` and `-0` are equal as floats, which is what `ZeroOK` excludes
#eval numWithin 0 0 0x8000000000000000

example : cexA.listDoc = true ∧ cexA.wf = true ∧ cexA.finiteNums = true ∧ (memOK cexA) = true ∧
    cexB.listDoc = true ∧ cexB.wf = true ∧ cexB.finiteNums = true ∧ (memOK cexB) = true := by
  decide

end Example

/-! ### axioms -/

#print axioms diffM_list_correct_scalar_arrays
#print axioms diff_correct
#print axioms diffM_list_correct_numHash
#print axioms diffM_list_correct
#print axioms diffM_list_correct_noPrecision
#print axioms Example.hyps

end Jd.DPL
