/-
  JdProofs.PatchOwnOutput (namespace `Jd.Own`) — property C10 (v2 library), last sentence:
  "Reading jd's own JSON Patch output and applying it to a reproduces b."

  JdProofs.PatchNeverMorePermissive / PatchParseBack prove parse-back for every diff of the Bool
  grammar `PB.PBwf`. Here `PBwf (diffM o a b)` is a THEOREM (list reading, strict strategy, the domain
  of JdProofs.PatchRenderClosed), including the inter-hunk condition `chainOK`, and the end-to-end
  statement is about the library functions `diffM`, `renderPatchOps`, `readPatchOps`
  (= `ReadPatchString`: element loop AND the context check (D28)), `patchM`, with no hypothesis
  about hunks.

  Results (`o` with `dispatchTag o = .list`, `isMerge o = false`)
   * `diff_own` / `diffM_own`: every hunk of `a.Diff(b)` is `OwnH`, and the paths of the hunks are
     PAIRWISE DIFFERENT (`Distinct`). In the rendering of an alignment (`render_own`) the hunks are
     addressed to increasing indices, after an `edit` step comes a kept or a recursed pair,
     sub-diffs of same-kind containers live STRICTLY below `idx k`, members of an object have
     different keys (`Hunks P d` carries the facts for a piece `d` of the diff; `NPath` says
     where its hunks are). So the disjunct "the later hunk starts with a real
     context test" of `PB.sepH` is not needed.
   * `diffM_in_grammar_of_paths`, `diffM_in_grammar` (`FloatEq0`):
     `PBwf (diffM o a b) ∧ (diffM o a b).all jdShaped ∧ (diffM o a b).all hunkListDoc`.
   * `own_patch_output_reproduces_target_of_paths` (sharp: the paths of the diff are expressible ⇔
     `RenderPatch` succeeds), `own_patch_output_reproduces_target`, `…_noPrecision`, `…_rawDoc`;
     `parse_back_of_grammar` is the general step (any diff of the grammar).
   * The one diff outside the grammar, `{…}.Diff(void)` = `PRC.objVoidHunk` (the Go code adds the void
     marker): `C10.object_against_void_not_in_grammar`. `RenderPatch` skips an addition whose first value is
     void, the operations are those of the hunk `- {…}` alone (`objGoneHunk`), which IS in the grammar,
     and `Patch` yields void. The closed theorems INCLUDE this pair.

  COUNTEREXAMPLE (genuine; proved on the model, replayed on the Go code)
   `Witness.typed_list_element_witness`: `wA = [null, [true]]` whose INNER array is a typed `jsonList`
   node, `wB = [null, [false]]` as read from text. Every hypothesis of the C01 list theorem and of
   JdProofs.PatchRenderClosed holds (`Witness.hyps`), the native diff applies to `wA` and gives `wB`,
   `RenderPatch` succeeds with
       test /1 [true]; remove /1 [true]; add /1 [false]
   `ReadPatchString` ACCEPTS these operations, reading `@ [1]  [  - [true]  + [false]  ]` (both context
   lines the boundary marker), and `wA.Patch` of that diff FAILS (`patchM wA [wRead] = .err`): the void
   before-context can only match at index 0. Mechanism: `sameContainerType` dispatches both nodes
   (jsonList / jsonArray → same kind), then `jsonList.diff` type-asserts the other side WITHOUT
   dispatching it (`n.(jsonList)` fails on a `jsonArray`) and replaces the element wholesale: a hunk at
   an ARRAY INDEX WITHOUT before-context (`wHunk`; it is in `PBwf` but not `jdShaped`). The reader
   (`setPatchDiffElementContext`) turns "test + remove at the same index, no context test" into
   Before = After = [void].
   Go replay: `a := ReadJsonString("[null,[true,true]]"); a.Patch(a.Diff([null,[true]]))` — `Patch`
   stores the patched child into the receiver's backing array (`l[i] = patchedNode` on
   `jsonList(a)`), so `a` now holds a `jsonList` element; `a.Diff([null,[false]])` renders exactly the
   three operations above, `ReadPatchString` reads `@ [1] / [ / - [true] / + [false] / ]`, and applying
   it to a fresh copy of `a` fails with "invalid patch. expected {} before. got …", while the native
   diff applies. Documents read from text never contain such a node (`elemsRaw_of_rawDoc`); the state
   is reachable only through that in-place mutation by `Patch`. (The model follows the Go
   `diffRest` here: it tells its own accumulated hunk from a sub-diff by the LENGTH of the path, so
   a wholesale-replacement sub-diff with nothing accumulated receives the after-context
   (`Jd.subAfter`). `Witness.typed_list_element_witness_mid`: the same pair at a NON-LAST position —
   the rendered JSON Patch gets the after-context test, the reader accepts it, and `Patch` of the hunk
   read back still fails. `Witness.first_position_reads_back_and_applies`: at index 0 the hunk read
   back applies, the void before-context matching the array start.)
   Consequently the closed theorems take the explicit, decidable hypothesis `elemsRaw a`: the witness
   shows the statement is false without it.

  HYPOTHESES and why
    `dispatchTag o = .list`, `isMerge o = false`  list reading, strict strategy (C10 is a list-mode property).
    `a.listDoc`, `a.wf`, `a.finiteNums`, `b.listDoc`, `b.wf`, `b.finiteNums`, `HashOK o a b`, `ZeroOK a b`,
    `FloatLaws`        the C01 list theorem `DPL.diffM_list_correct` (the native diff applies); in the
                       grammar part `a.finiteNums` is what lets the reader compare a `test` value with
                       the `remove` value that follows (`Equals` of a value with itself), `a.wf` /
                       `b.wf` (sorted unique keys) make the member hunks of one object different.
    `PRC.vfree a`, `PRC.vfree b`, `PRC.lenLe Na a`, `PRC.lenLe Nb b`, `Na + Nb < 2^53`
                       the domain of JdProofs.PatchRenderClosed (`Gen`: no void marker inside; indices
                       written travel through a float64).
    `elemsRaw a` (Bool)  no array node that is an ELEMENT of an array of `a` is a typed `jsonList`
                       (root and object members may be typed; nothing is asked of `b`). Necessary: see
                       the counterexample. Implied by `a.rawDoc` (`elemsRaw_of_rawDoc`).
    `∀ h ∈ diffM o a b, PRC.PE h.path` / `PRC.keysExpressible a`, `… b`  `RenderPatch` succeeds exactly
                       when the paths are expressible (`PRC.render_diffM_ok_iff`).
    `FloatEq0` (`|x − y| ≤ +0` only for `x = y`, JdProofs.Common)  the reader coalesces elements whose
                       paths compare `Equals` (indices are float64): needed to turn "different paths"
                       into "the reader does not coalesce" (`NMP.pathEq_eq`).

  NOT PROVED / OUTSIDE: set / multiset readings and the merge strategy (C10 is a list-mode property);
  the text layer around the operations (`renderPatchM` / `readPatchM`: JSON marshalling of the patch
  document; `NMP.readPatchDoc_of_ops` starts from the parsed document); documents with a typed
  `jsonList` element (counterexample above: there the statement is false).
-/
import JdProofs.PatchNeverMorePermissive
import JdProofs.PatchRenderClosed
import JdProofs.DiffPatchList
import JdProofs.NativeEndToEnd
import JdProofs.Eval

namespace Jd.Own
open Jd Jd.Spec Jd.DPL Jd.PB

/-! ## 0. the extra decidable predicate: no typed `jsonList` node as an ELEMENT of an array -/

/-- the node is not a typed array node (`jsonList`, …): a plain `jsonArray`, or not an array -/
def topRaw : Json → Bool
  | .arr t _ => t == .raw
  | _ => true

mutual
/-- every array node that is an ELEMENT of an array is a plain `jsonArray` (the root and object
    members may be typed) -/
def elemsRaw : Json → Bool
  | .arr _ xs => elemsRawList xs
  | .obj kvs => elemsRawKvs kvs
  | _ => true
def elemsRawList : List Json → Bool
  | [] => true
  | x :: r => topRaw x && elemsRaw x && elemsRawList r
def elemsRawKvs : List (String × Json) → Bool
  | [] => true
  | (_, v) :: r => elemsRaw v && elemsRawKvs r
end

theorem elemsRawList_eq_all (xs : List Json) :
    elemsRawList xs = xs.all (fun x => topRaw x && elemsRaw x) :=
  listP_eq_all rfl (fun _ _ => rfl) xs
theorem elemsRawKvs_eq_all (kvs : List (String × Json)) :
    elemsRawKvs kvs = kvs.all (fun kv => elemsRaw kv.2) :=
  listP_eq_all rfl (fun _ _ => rfl) kvs

theorem topRaw_elemsRaw_of_rawDoc :
    ∀ (a : Json), a.rawDoc = true → topRaw a = true ∧ elemsRaw a = true := by
  refine jsonIndScalar (fun a h1 h2 _ => ?_) (fun t xs ih h => ?_) (fun kvs ih h => ?_)
  · cases a <;> first | exact ⟨rfl, rfl⟩ | exact absurd rfl (h1 _ _) | exact absurd rfl (h2 _)
  · simp only [Json.rawDoc, Bool.and_eq_true, rawDocList_eq_all, List.all_eq_true] at h
    refine ⟨h.1, ?_⟩
    rw [elemsRaw, elemsRawList_eq_all, List.all_eq_true]
    exact fun x hx => Bool.and_eq_true_iff.2 (ih x hx (h.2 x hx))
  · simp only [Json.rawDoc, rawDocKvs_eq_all, List.all_eq_true] at h
    refine ⟨rfl, ?_⟩
    rw [elemsRaw, elemsRawKvs_eq_all, List.all_eq_true]
    exact fun kv hkv => (ih kv.1 kv.2 hkv (h kv hkv)).2

theorem elemsRawList_of_rawDoc : ∀ (xs : List Json), rawDocList xs = true → elemsRawList xs = true :=
  fun xs h => (topRaw_elemsRaw_of_rawDoc (.arr .raw xs) (by simpa [Json.rawDoc] using h)).2

theorem elemsRawKvs_of_rawDoc : ∀ (kvs : List (String × Json)), rawDocKvs kvs = true → elemsRawKvs kvs = true :=
  fun kvs h => (topRaw_elemsRaw_of_rawDoc (.obj kvs) h).2

/-- documents as read from text satisfy the predicate -/
theorem elemsRaw_of_rawDoc {a : Json} (h : a.rawDoc = true) : elemsRaw a = true :=
  (topRaw_elemsRaw_of_rawDoc a h).2

theorem elemsRawKvs_lookup {k : String} {v : Json} :
    ∀ {kvs : List (String × Json)}, alookup k kvs = some v → elemsRawKvs kvs = true → elemsRaw v = true :=
  fun h hr => all_alookup (p := fun kv => elemsRaw kv.2) (elemsRawKvs_eq_all _ ▸ hr) h

/-! ## 1. what the parse-back grammar needs to know of a generated hunk, beyond `PRC.Gen` -/

/-- the facts about one hunk of a list-mode diff that `PRC.Gen` does not record: strict; removed
    values are list documents, well-formed, finite (the reader compares each with itself); all
    payloads are list documents; the hunk is a plain replacement at a path that does NOT end in an
    index (no context, at most one value on each side) or a list hunk with one line of context on
    each side whose before-context is a real value only at an index `≥ 1` -/
structure OwnH (h : Hunk) : Prop where
  strict : h.merge = false
  remGood : ∀ v ∈ h.remove, v.listDoc = true ∧ v.wf = true ∧ v.finiteNums = true
  ld : hunkListDoc h = true
  shape : (h.before = [] ∧ h.after = [] ∧ h.remove.length ≤ 1 ∧ h.add.length ≤ 1 ∧
            lastIdx? h.path = none) ∨
          (∃ (pp : Path) (s : Nat) (prev after : Json), h.path = pp ++ [.idx (s : Int)] ∧
            h.before = [prev] ∧ h.after = [after] ∧ (prev.isVoid = false → 1 ≤ s))

/-- the paths of the hunks are pairwise different -/
def Distinct (d : Diff) : Prop := d.Pairwise (fun h1 h2 => h1.path ≠ h2.path)

theorem Distinct.nil : Distinct [] := List.Pairwise.nil

/-- what the induction carries for each piece `d` of a diff: every hunk is `OwnH` and lies where `P`
    says, and the paths are pairwise different. Two pieces are put together (`Hunks.append`) when
    their locations exclude each other. -/
structure Hunks (P : Hunk → Prop) (d : Diff) : Prop where
  all : ∀ h ∈ d, OwnH h ∧ P h
  distinct : Distinct d

theorem Hunks.nil {P : Hunk → Prop} : Hunks P [] := ⟨fun _ hm => (nomatch hm), Distinct.nil⟩

theorem Hunks.single {P : Hunk → Prop} {h : Hunk} (w : OwnH h) (hp : P h) : Hunks P [h] :=
  ⟨fun _ hm => by rw [List.mem_singleton.1 hm]; exact ⟨w, hp⟩, List.pairwise_singleton _ _⟩

theorem Hunks.mono {P Q : Hunk → Prop} {d : Diff} (H : Hunks P d) (f : ∀ h, P h → Q h) : Hunks Q d :=
  ⟨fun h hm => ⟨(H.1 h hm).1, f h (H.1 h hm).2⟩, H.2⟩

theorem Hunks.append {P Q S : Hunk → Prop} {d1 d2 : Diff} (H1 : Hunks P d1) (H2 : Hunks Q d2)
    (sep : ∀ a b, P a → Q b → a.path ≠ b.path) (f : ∀ h, P h → S h) (g : ∀ h, Q h → S h) :
    Hunks S (d1 ++ d2) :=
  ⟨fun h hm => (List.mem_append.1 hm).elim ((H1.mono f).1 h) ((H2.mono g).1 h),
    List.pairwise_append.2 ⟨H1.2, H2.2, fun a ha b hb => sep a b (H1.1 a ha).2 (H2.1 b hb).2⟩⟩

theorem remGood_single {x : Json} (g : Good x) :
    ∀ v ∈ [x], v.listDoc = true ∧ v.wf = true ∧ v.finiteNums = true := fun v hv => by
  rw [List.mem_singleton.1 hv]; exact ⟨g.listDoc, g.wf, g.fin⟩

theorem good_of_mem_nodeList {a : Json} (g : Good a) :
    ∀ v ∈ a.nodeList, v.listDoc = true ∧ v.wf = true ∧ v.finiteNums = true := by
  unfold Json.nodeList
  split
  · intro _ hv; cases hv
  · exact remGood_single g

/-- a plain replacement hunk -/
theorem own_plain {p : Path} (hp : lastIdx? p = none) {rem add : List Json}
    (hr : ∀ v ∈ rem, v.listDoc = true ∧ v.wf = true ∧ v.finiteNums = true)
    (hla : listDocList add = true) (h1 : rem.length ≤ 1) (h2 : add.length ≤ 1) :
    OwnH { path := p, remove := rem, add := add } where
  strict := rfl
  remGood := hr
  ld := by
    have : listDocList rem = true := listDocList_iff.2 (fun v hv => (hr v hv).1)
    simp [hunkListDoc, listDocList, this, hla]
  shape := .inl ⟨rfl, rfl, h1, h2, hp⟩

/-- a list hunk: an `edit` step of the alignment -/
theorem own_editHunk {p : Path} {s : Nat} {prev after : Json} {R A : List Json}
    (gR : GoodL R) (hA : listDocList A = true) (hprev : prev.listDoc = true)
    (hafter : after.listDoc = true) (hs : prev.isVoid = false → 1 ≤ s) :
    OwnH { path := p ++ [.idx (s : Int)], before := [prev], remove := R, add := A,
           after := [after] } := by
  refine ⟨rfl, fun v hv => ?_, ?_, .inr ⟨p, s, prev, after, rfl, rfl, rfl, hs⟩⟩
  · have := gR.of_mem hv
    exact ⟨this.listDoc, this.wf, this.fin⟩
  · simp [hunkListDoc, listDocList, gR.listDoc, hA, hprev, hafter]

/-- paths below different first elements are different -/
theorem path_ne_of_head_ne {p q q' : Path} {e e' : PathElem} (h : e ≠ e') :
    p ++ e :: q ≠ p ++ e' :: q' := by
  intro he
  have := List.append_cancel_left he
  injection this with h1 _
  exact h h1

theorem key_ne {k k' : String} (h : k ≠ k') : PathElem.key k ≠ PathElem.key k' := by
  intro e; injection e with e; exact h e

theorem idx_ne {i j : Nat} (h : i ≠ j) : PathElem.idx (i : Int) ≠ PathElem.idx (j : Int) := by
  intro e; injection e with e; exact h (by omega)

theorem listDocKvs_mem {k : String} {v : Json} :
    ∀ {kvs : List (String × Json)}, listDocKvs kvs = true → (k, v) ∈ kvs → v.listDoc = true :=
  fun hl h => List.all_eq_true.1 (listDocKvs_eq_all _ ▸ hl) (k, v) h

/-! ## 2. the induction over the two documents and the alignment of two arrays -/

/-- where the hunks of `diffNode o false a b p` are: at or below `p`, strictly below for two
    same-kind containers the first of which is not a typed list -/
def NPath (o : Opts) (a b : Json) (p : Path) (h : Hunk) : Prop :=
  ∃ q, h.path = p ++ q ∧ (sameContainerType o a b = true → topRaw a = true → q ≠ [])

/-- the single hunk at the root of a node that is not a pair of same-kind containers -/
theorem own_root {o : Opts} {a b : Json} {p : Path}
    (hp : lastIdx? p = none ∨ (sameContainerType o a b = true ∧ topRaw a = true))
    (hno : ¬ (sameContainerType o a b = true ∧ topRaw a = true)) {rem add : List Json}
    (hr : ∀ v ∈ rem, v.listDoc = true ∧ v.wf = true ∧ v.finiteNums = true)
    (hla : listDocList add = true) (h1 : rem.length ≤ 1) (h2 : add.length ≤ 1) :
    Hunks (NPath o a b p) [{ path := p, remove := rem, add := add }] :=
  Hunks.single (own_plain (hp.resolve_right hno) hr hla h1 h2)
    ⟨[], (List.append_nil p).symm, fun h1 h2 => absurd ⟨h1, h2⟩ hno⟩

/-- the members that only the second object has: one addition hunk each, at different keys -/
theorem own_added (p : Path) (kvs : List (String × Json)) {kvs' : List (String × Json)}
    (hl' : listDocKvs kvs' = true) (ks : keysSorted kvs' = true) :
    Hunks (fun h => ∃ k, h.path = p ++ [.key k] ∧ k ∉ kvs.map Prod.fst)
      ((kvs'.filter (fun kv => (alookup kv.1 kvs).isNone)).map (fun kv =>
        ({ merge := false, path := p ++ [.key kv.1], add := kv.2.nodeList } : Hunk))) := by
  refine ⟨fun h hm => ?_, ?_⟩
  · obtain ⟨kv, hkv, rfl⟩ := List.mem_map.1 hm
    obtain ⟨hkv1, hkv2⟩ := List.mem_filter.1 hkv
    refine ⟨own_plain (lastIdx_concat_key p kv.1) (rem := []) (fun _ hv => by cases hv)
      (listDocList_nodeList (listDocKvs_mem (k := kv.1) hl' hkv1)) (by simp)
      (nodeList_length_le kv.2), kv.1, rfl, fun hk => ?_⟩
    have := (alookup_isSome_iff _ _).2 hk
    rw [Option.isNone_iff_eq_none.1 hkv2] at this
    cases this
  · have pw : kvs'.Pairwise (fun a b => a.1 ≠ b.1) := List.pairwise_map.1 (keysSorted_nodup ks)
    have pw' := pw.sublist (List.filter_sublist (p := fun kv => (alookup kv.1 kvs).isNone))
    exact List.pairwise_map.2 (pw'.imp fun hab => path_ne_of_head_ne (q := []) (q' := []) (key_ne hab))

/-- what the invariant asks of a step of the alignment: an `edit` step is not empty; a recursed pair
    are same-kind containers, the first not a typed list, with the invariant for their sub-diffs -/
def StepOwn (o : Opts) : RealL.Step → Prop
  | .keep _ _ => True
  | .edit R A => R ≠ [] ∨ A ≠ []
  | .sub x y => sameContainerType o x y = true ∧ topRaw x = true ∧ y.listDoc = true ∧
      ∀ p, (lastIdx? p = none ∨ (sameContainerType o x y = true ∧ topRaw x = true)) →
        Hunks (NPath o x y p) (diffNode o false x y p)

/-- **the invariant for a rendered script**: the hunks are `OwnH`, at or below indices `≥ k`, with
    pairwise different paths; only a leading `edit` step is addressed to the index `k` itself (the
    sub-diff of a recursed pair lies strictly below its index; after an `edit` step comes a kept
    or a recursed pair: `Spaced`) -/
theorem render_own {o : Opts} (ho : dispatchTag o = .list) (p : Path) :
    ∀ (S : RealL.Script) (n : Bool) (k : Nat) (prev : Json), Align.Spaced S →
      (∀ z ∈ RealL.src S, Good z) → (∀ z ∈ RealL.tgt S, z.listDoc = true) →
      (∀ st ∈ S, StepOwn o st) → prev.listDoc = true → (prev.isVoid = false → 1 ≤ k) →
      Hunks (fun h => ∃ (j : Nat) (q : Path), h.path = p ++ .idx (j : Int) :: q ∧ k ≤ j ∧
          (j = k → q = [] → ∃ R A r, S = .edit R A :: r))
        (Align.render o p n k prev S)
  | [], _, _, _, _, _, _, _, _, _ => Hunks.nil
  | .keep x y :: r, n, k, prev, hsp, hs, ht, hst, _, _ => by
    simp only [RealL.tgt_cons, RealL.Step.tgt, List.singleton_append, List.mem_cons,
      forall_eq_or_imp, RealL.src_cons, RealL.Step.src] at hs ht
    refine (render_own ho p r true (k + 1) y hsp.tail hs.2 ht.2 (fun st h => hst st (.tail _ h)) ht.1
      (fun _ => by omega)).mono ?_
    rintro h ⟨j, q, e, hj, _⟩
    exact ⟨j, q, e, by omega, fun hjk => by omega⟩
  | .sub x y :: r, n, k, prev, hsp, hs, ht, hst, _, _ => by
    obtain ⟨hsc, htr, hly, ihN⟩ := hst _ List.mem_cons_self
    simp only [RealL.tgt_cons, RealL.Step.tgt, List.singleton_append, List.mem_cons,
      forall_eq_or_imp, RealL.src_cons, RealL.Step.src] at hs ht
    -- `x` is not a typed `jsonList`: `subAfter` does not touch the sub-diff
    have hsa : subAfter p n ((RealL.src r).headD .void)
        (diffNode o false x y (p ++ [.idx (k : Int)])) = diffNode o false x y (p ++ [.idx (k : Int)]) := by
      rcases subAfter_diffNode_cases o ho hs.1.listDoc hly hsc p (k : Int) n
        ((RealL.src r).headD .void) with e | ⟨_, xs, ys, rfl, _⟩
      · exact e
      · simp [topRaw] at htr
    simp only [Align.render, hsa]
    refine (ihN (p ++ [.idx (k : Int)]) (.inr ⟨hsc, htr⟩)).append
      (render_own ho p r true (k + 1) y hsp.tail hs.2 ht.2 (fun st h => hst st (.tail _ h)) ht.1
        (fun _ => by omega)) ?_ ?_ ?_
    · rintro h1 h2 ⟨q, e, _⟩ ⟨j, q', e', hj, _⟩
      rw [e, e', List.append_assoc]
      exact path_ne_of_head_ne (idx_ne (by omega))
    · rintro h ⟨q, e, hq⟩
      exact ⟨k, q, by rw [e, List.append_assoc]; rfl, Nat.le_refl _, fun _ hq' => absurd hq' (hq hsc htr)⟩
    · rintro h ⟨j, q, e, hj, _⟩
      exact ⟨j, q, e, by omega, fun hjk => by omega⟩
  | .edit R A :: r, n, k, prev, hsp, hs, ht, hst, hprev, hk => by
    have hne : R ≠ [] ∨ A ≠ [] := hst _ List.mem_cons_self
    simp only [RealL.tgt_cons, RealL.Step.tgt, RealL.src_cons, RealL.Step.src, List.mem_append] at hs ht
    have hnoedit : ¬ ∃ R' A' r', r = .edit R' A' :: r' := fun ⟨R', A', r', e⟩ => by
      subst e; exact hsp.1 ⟨rfl, rfl⟩
    have hA : listDocList A = true := listDocList_iff.2 fun z hz => ht z (.inl hz)
    have hafter : (Align.afterOf o p (k + A.length) r).listDoc = true := by
      rcases Align.afterOf_mem o p (k + A.length) r with e | hm
      · rw [e]; rfl
      · exact (hs _ (.inr hm)).listDoc
    have hprev' : (A.getLast?.getD prev).listDoc = true := by
      rcases List.eq_nil_or_concat A with rfl | ⟨A', z, rfl⟩
      · exact hprev
      · simpa [List.getLast?_append] using ht z (.inl (by simp))
    have own := own_editHunk (p := p) (goodL_iff.2 fun z hz => hs z (.inl hz)) hA hprev hafter hk
    simp only [Align.render]
    refine Hunks.append (d1 := [_]) (Hunks.single (P := fun h => h.path = p ++ [.idx (k : Int)]) own rfl)
      (render_own ho p r false (k + A.length) (A.getLast?.getD prev) hsp.tail
        (fun z hz => hs z (.inr hz)) (fun z hz => ht z (.inr hz)) (fun st h => hst st (.tail _ h)) hprev'
        (fun hv => by
          rcases List.eq_nil_or_concat A with rfl | ⟨A', z, rfl⟩
          · simpa using hk hv
          · simp only [List.length_concat]; omega)) ?_ ?_ ?_
    · rintro h1 h2 e ⟨j, q, e', hj, hq⟩
      rw [e, e']
      by_cases hjk : j = k
      · subst hjk
        intro he
        have hq' : q = [] := by
          have := List.append_cancel_left he
          simpa using this.symm
        exact hnoedit (hq (by omega) hq')
      · exact path_ne_of_head_ne (idx_ne (Ne.symm hjk))
    · rintro h e
      exact ⟨k, [], e, Nat.le_refl _, fun _ _ => ⟨R, A, r, rfl⟩⟩
    · rintro h ⟨j, q, e, hj, _⟩
      exact ⟨j, q, e, by omega, fun _ _ => ⟨R, A, r, rfl⟩⟩

/-- **the invariant**: per hunk `OwnH`, pairwise different paths, and where the paths are -/
theorem diff_own (o : Opts) (ho : dispatchTag o = .list) :
    (∀ a b, a.listDoc = true → b.listDoc = true → Good a → elemsRaw a = true → b.wf = true → ∀ p,
      (lastIdx? p = none ∨ (sameContainerType o a b = true ∧ topRaw a = true)) →
      Hunks (NPath o a b p) (diffNode o false a b p)) ∧
    (∀ kvs' kvs, listDocKvs kvs' = true → listDocKvs kvs = true → GoodK kvs → keysSorted kvs = true →
      elemsRawKvs kvs = true → wfKvs kvs' = true → ∀ p,
      Hunks (fun h => ∃ (k : String) (q : Path), h.path = p ++ PathElem.key k :: q ∧ k ∈ kvs.map Prod.fst)
        (diffKvs o false p kvs' kvs)) := by
  apply listDoc_induct
  · -- list against list: the rendering of the alignment
    intro t t' xs ys ht ht' htt hlx hly ih ga er wb p _
    rw [Align.diffNode_alignment ho xs ys ht ht' htt]
    have gxs := (good_arr.1 ga).2
    have er' : ∀ x ∈ xs, (topRaw x && elemsRaw x) = true :=
      List.all_eq_true.1 (elemsRawList_eq_all xs ▸ (by simpa [elemsRaw] using er))
    have wys : wfList ys = true := by simpa [Json.wf] using wb
    refine (render_own ho p (Align.alignment o xs ys) true 0 .void (Align.walk_spaced o xs ys _ [] [])
      (fun z hz => gxs.of_mem (Align.alignment_src o xs ys ▸ hz))
      (fun z hz => listDoc_of_mem hly (Align.alignment_tgt o xs ys ▸ hz)) (fun st hst => ?_) rfl
      (fun h => by simp [Json.isVoid] at h)).mono ?_
    · have hok := Align.alignment_ok o xs ys st hst
      cases st with
      | keep x y => trivial
      | edit R A => exact hok.1
      | sub x y =>
        have hx := (Align.mem_of_mem_alignment hst).1 x (by simp [RealL.Step.src])
        have hy := (Align.mem_of_mem_alignment hst).2 y (by simp [RealL.Step.tgt])
        have e := er' x hx
        simp only [Bool.and_eq_true] at e
        exact ⟨hok.1, e.1, listDoc_of_mem hly hy, fun p' hp' =>
          ih x hx y (listDoc_of_mem hly hy) (gxs.of_mem hx) e.2
          (List.all_eq_true.1 (wfList_eq_all ys ▸ wys) y hy) p' hp'⟩
    · rintro h ⟨j, q, e, _, _⟩
      exact ⟨_, e, fun _ _ => by simp⟩
  · -- list against something else
    intro t xs b ht _ hlb hb ga _ _ p hp
    rw [diffNode_arr_other ho xs b ht hb]
    refine own_root hp ?_ (remGood_single (good_arr.2 ⟨rfl, (good_arr.1 ga).2⟩))
      (listDocList_nodeList hlb) (by simp) (nodeList_length_le b)
    rintro ⟨hs, htr⟩
    rcases hb with hb | ⟨rfl, _⟩
    · rw [sameContainerType_false (fun _ _ e => by cases e) (fun _ _ t' ys _ => hb t' ys)] at hs; cases hs
    · simp [topRaw] at htr
  · -- object against object
    intro kvs kvs' _ hl' ih ga er wb p _
    rw [diffNode_obj_obj]
    have ga' := good_obj.1 ga
    simp only [Json.wf, Bool.and_eq_true] at wb
    refine (ih ga'.2 ga'.1 (by simpa [elemsRaw] using er) wb.2 p).append (own_added p kvs hl' wb.1)
      ?_ ?_ ?_
    · rintro h1 h2 ⟨k, q, e, hk⟩ ⟨k', e', hk'⟩
      rw [e, e']
      exact path_ne_of_head_ne (q' := []) (key_ne (fun ekk => hk' (ekk ▸ hk)))
    · rintro h ⟨k, q, e, _⟩; exact ⟨_, e, fun _ _ => by simp⟩
    · rintro h ⟨k', e', _⟩; exact ⟨_, e', fun _ _ => by simp⟩
  · -- object against something else
    intro kvs b _ hlb hb ga _ _ p hp
    rw [diffNode_obj_other o kvs b hb]
    exact own_root hp (fun h => by
      rw [sameContainerType_false (fun _ kvs' _ => hb kvs') (fun _ _ _ _ e => by cases e)] at h; cases h.1) (remGood_single ga)
      (by simp [listDocList, hlb]) (by simp) (by simp)
  · -- scalar
    intro a b h1 h2 hlb ga _ _ p hp
    rw [diffNode_scalar o a b h1 h2]
    unfold diffCommon
    split
    · exact Hunks.nil
    · simp only [Bool.false_eq_true, if_false]
      exact own_root hp (fun h => by
        rw [sameContainerType_false (fun kvs _ e => absurd e (h2 kvs)) (fun t xs _ _ e => absurd e (h1 t xs))] at h
        cases h.1)
        (good_of_mem_nodeList ga) (listDocList_nodeList hlb) (nodeList_length_le a)
        (nodeList_length_le b)
  · intro kvs' _ _ _ _ p
    rw [diffKvs_nil]
    exact Hunks.nil
  · -- one member of the first object
    intro kvs' k v r hl' _ _ ihN ihK ga ks er wb p
    rw [diffKvs_cons]
    obtain ⟨⟨gv, _⟩, gr⟩ := goodK_cons.1 ga
    have ks' := keysSorted_cons_iff.1 ks
    simp only [elemsRawKvs, Bool.and_eq_true] at er
    refine Hunks.append (P := fun h => ∃ q, h.path = p ++ PathElem.key k :: q) ?_
      (ihK gr ks'.2 er.2 wb p) ?_ ?_ ?_
    · cases hlk : alookup k kvs' with
      | none =>
        exact Hunks.single (own_plain (lastIdx_concat_key p k) (add := []) (good_of_mem_nodeList gv) rfl
          (nodeList_length_le v) (by simp)) ⟨[], rfl⟩
      | some v' =>
        refine (ihN v' (alookup_listDoc hlk hl') gv er.1 (alookup_wf hlk wb) (p ++ [PathElem.key k])
          (.inl (lastIdx_concat_key p k))).mono ?_
        rintro h ⟨q, e, _⟩
        exact ⟨q, by rw [e, List.append_assoc]; rfl⟩
    · rintro h1 h2 ⟨q, e⟩ ⟨k', q', e', hk'⟩
      rw [e, e']
      obtain ⟨kv, hkv, rfl⟩ := List.mem_map.1 hk'
      exact path_ne_of_head_ne (key_ne (Jd.ne_of_key_lt (ks'.1 kv.1 kv.2 hkv)).symm)
    · rintro h ⟨q, e⟩; exact ⟨k, q, e, List.mem_cons_self⟩
    · rintro h ⟨k', q', e', hk'⟩; exact ⟨k', q', e', List.mem_cons_of_mem _ hk'⟩

/-! ## 3. from the invariants to the parse-back grammar `PB.PBwf` -/

theorem pathOK_of {M : Nat} {p : Path} (pe : PRC.PE p)
    (hi : ∀ i, PathElem.idx i ∈ p → 0 ≤ i ∧ i < (M : Int)) (hM : M ≤ 2 ^ 53) : pathOK p = true := by
  unfold pathOK
  rw [List.all_eq_true]
  intro e he
  have hx := pe e he
  cases e with
  | key k =>
    simp only [expressible] at hx
    simp [elemOK, hx.1, hx.2]
  | idx i =>
    have := hi i he
    simp only [elemOK, Bool.and_eq_true, decide_eq_true_eq]
    omega
  | _ => simp [expressible] at hx

/-- one generated hunk with an expressible path is a hunk of the grammar, is jd-shaped, and carries
    list documents only -/
theorem pbwfH_of {M : Nat} {h : Hunk} (g : PRC.Gen M h) (w : OwnH h) (pe : PRC.PE h.path)
    (hM : M ≤ 2 ^ 53) : PBwfH h = true ∧ jdShaped h = true ∧ pathOK h.path = true := by
  have hpo : pathOK h.path = true := pathOK_of pe g.pathIdx hM
  have hval : h.remove.all valOK = true := by
    rw [List.all_eq_true]
    intro v hv
    obtain ⟨a1, a2, a3⟩ := w.remGood v hv
    simp [valOK, g.remNoVoid v hv, a1, a2, a3]
  have hadd : h.add.all (fun v => !v.isVoid) = true := by
    rw [List.all_eq_true]
    intro v hv
    simp [g.addNoVoid v hv]
  rcases w.shape with ⟨b0, a0, r1, d1, hl⟩ | ⟨pp, s, prev, after, hpth, hb, ha, hs⟩
  · refine ⟨?_, by simp [jdShaped, hl], hpo⟩
    simp [PBwfH, w.strict, hpo, b0, a0, hval, hadd, g.nonEmpty, hl, realCtx, r1, d1]
  · have hl : lastIdx? h.path = some (s : Int) := by rw [hpth]; exact lastIdx_concat_idx pp _
    have hrange : (s : Int) + (h.remove.length : Int) < 2 ^ 53 := by
      rcases g.shape with ⟨b0, _⟩ | ⟨pp', s', _, _, hp', _, _, _, _, hs'⟩ | ⟨_, _, _, _, b0, _⟩
      · rw [hb] at b0; cases b0
      · rw [hp', lastIdx_concat_idx] at hl
        injection hl with hl
        omega
      · rw [hb] at b0; cases b0
    have hctx : (!realCtx [prev] || decide (1 ≤ (s : Int))) = true := by
      cases hv : prev.isVoid with
      | true => simp [realCtx, hv]
      | false =>
        have := hs hv
        simp only [Bool.or_eq_true, decide_eq_true_eq]
        right; omega
    refine ⟨?_, by simp [jdShaped, hl, hb, ha], hpo⟩
    simp only [PBwfH, Bool.and_eq_true, Bool.not_eq_true', decide_eq_true_eq, hl]
    rw [hb] at *
    exact ⟨⟨⟨⟨⟨⟨⟨w.strict, hpo⟩, by simp⟩, by simp [ha]⟩, hval⟩, hadd⟩, g.nonEmpty⟩, hctx, hrange⟩

/-- hunks with pairwise different supported paths are told apart by the reader's path comparison -/
theorem chainOK_of (F : FloatEq0) : ∀ {d : Diff}, (∀ h ∈ d, pathOK h.path = true) → Distinct d →
    chainOK d = true
  | [], _, _ => rfl
  | [_], _, _ => rfl
  | h1 :: h2 :: r, hp, hd => by
    have hd' := List.pairwise_cons.1 hd
    simp only [chainOK, Bool.and_eq_true]
    refine ⟨?_, chainOK_of F (fun h hm => hp h (List.mem_cons_of_mem _ hm)) hd'.2⟩
    simp only [sepH, Bool.or_eq_true, Bool.not_eq_true']
    left
    cases he : pathEq h1.path h2.path with
    | false => rfl
    | true =>
      exact absurd (NMP.pathEq_eq F (NMP.pathOK'_of_pathOK (hp h1 List.mem_cons_self))
        (NMP.pathOK'_of_pathOK (hp h2 (List.mem_cons_of_mem _ List.mem_cons_self))) he)
        (hd'.1 h2 List.mem_cons_self)

/-- a diff all of whose hunks are generated hunks with expressible, pairwise different paths lies
    in the grammar -/
theorem pbwf_of (F : FloatEq0) {M : Nat} {d : Diff} (hM : M ≤ 2 ^ 53)
    (hg : ∀ h ∈ d, PRC.Gen M h) (hw : ∀ h ∈ d, OwnH h) (hpe : ∀ h ∈ d, PRC.PE h.path)
    (hd : Distinct d) :
    PBwf d = true ∧ d.all jdShaped = true ∧ d.all hunkListDoc = true := by
  have key := fun h hm => pbwfH_of (hg h hm) (hw h hm) (hpe h hm) hM
  refine ⟨?_, List.all_eq_true.2 (fun h hm => (key h hm).2.1),
    List.all_eq_true.2 (fun h hm => (hw h hm).ld)⟩
  simp only [PBwf, Bool.and_eq_true]
  exact ⟨List.all_eq_true.2 (fun h hm => (key h hm).1), chainOK_of F (fun h hm => (key h hm).2.2) hd⟩

/-! ## 4. `a.Diff(b)` lies in the grammar -/

section Main
variable (o : Opts) (ho : dispatchTag o = .list) (hm : isMerge o = false) (a b : Json)
  (ha1 : a.listDoc = true) (ha2 : a.wf = true) (ha3 : a.finiteNums = true) (ha4 : PRC.vfree a = true)
  (ha5 : elemsRaw a = true)
  (hb1 : b.listDoc = true) (hb2 : b.wf = true) (hb4 : PRC.vfree b = true)
include ho hm ha1 ha2 ha3 ha4 ha5 hb1 hb2

/-- the facts about the hunks of `a.Diff(b)` beyond `PBwf`'s premises: `OwnH` for each, paths pairwise different -/
theorem diffM_own : (∀ h ∈ diffM o a b, OwnH h) ∧ Distinct (diffM o a b) := by
  unfold diffM
  rw [hm]
  have H := (diff_own o ho).1 a b ha1 hb1 ⟨ha1, ha2, ha3, PRC.memOK_of_vfree a ha4⟩ ha5 hb2 [] (.inl rfl)
  exact ⟨fun h hh => (H.1 h hh).1, H.2⟩

include hb4 in
/-- **`a.Diff(b)` is in the parse-back grammar** (sharp form: the paths of the diff are expressible,
    which is exactly when `RenderPatch` succeeds, `PRC.render_diffM_ok_iff`) -/
theorem diffM_in_grammar_of_paths (F : FloatEq0) {Na Nb : Nat} (la : PRC.lenLe Na a = true)
    (lb : PRC.lenLe Nb b = true) (hN : Na + Nb < 2 ^ 53) (hv : (a.isObj && b.isVoid) = false)
    (hp : ∀ h ∈ diffM o a b, PRC.PE h.path) :
    PBwf (diffM o a b) = true ∧ (diffM o a b).all jdShaped = true ∧
      (diffM o a b).all hunkListDoc = true := by
  obtain ⟨w, dd⟩ := diffM_own o ho hm a b ha1 ha2 ha3 ha4 ha5 hb1 hb2
  exact pbwf_of F (M := Na + Nb + 1) (by omega)
    (PRC.diffM_gen o ho hm a b ha1 ha2 ha4 hb1 hb2 hb4 la lb hv) w hp dd

include hb4 in
/-- **`a.Diff(b)` is in the parse-back grammar** when the object keys of `a` and `b` are expressible
    as JSON Pointer tokens -/
theorem diffM_in_grammar (F : FloatEq0) {Na Nb : Nat} (la : PRC.lenLe Na a = true)
    (lb : PRC.lenLe Nb b = true) (hN : Na + Nb < 2 ^ 53) (hv : (a.isObj && b.isVoid) = false)
    (ka : PRC.keysExpressible a = true) (kb : PRC.keysExpressible b = true) :
    PBwf (diffM o a b) = true ∧ (diffM o a b).all jdShaped = true ∧
      (diffM o a b).all hunkListDoc = true :=
  diffM_in_grammar_of_paths o ho hm a b ha1 ha2 ha3 ha4 ha5 hb1 hb2 hb4 F la lb hN hv
    (PRC.diffM_paths_expressible o ho hm a b ha1 hb1 ka kb)

end Main

/-! ## 5. parse-back of a diff of the grammar, with the diff read made explicit -/

/-- for a diff `d` of the grammar that turns `a` into `m`: `ReadPatchString` reads
    `RenderPatch(d)` to `normPB d`, and the library's `Patch` applies that to `a` with a result equal
    to `m` up to the Go type of array nodes; the result is a list document -/
theorem parse_back_of_grammar (L : FloatLaws) (F : FloatEq0) {d : Diff} (hwf : PBwf d = true)
    (hs : d.all jdShaped = true) (hld : d.all hunkListDoc = true) {ops : List PatchOp}
    (h : renderPatchOps d = .ok ops) {a m : Json} (ha : a.listDoc = true)
    (hab : applyStrictAll a d = some m) :
    readPatchOps ops = .ok (normPB d) ∧
      ∃ r, patchM a (normPB d) = .ok r ∧ untag r = untag m ∧ r.listDoc = true := by
  have hwf' := hwf
  simp only [PBwf, Bool.and_eq_true] at hwf'
  obtain ⟨hall, r, hP, hu⟩ := patchM_normPB hwf'.1 hld ha (applyStrictAll_normPB d hs a m hab)
  exact ⟨NMP.readPatchOps_render L F d hwf ops h, r, hP, hu,
    patchAll_listDoc true (normPB d) a hall ha r hP⟩

/-! ## 6. the one diff outside the grammar: an object against "no document"

  `{…}.Diff(void)` is the single hunk `- {…}` / `+ void` at the root (`PRC.objVoidHunk`: the Go code
  builds `Add: []JsonNode{n}` without `nodeList`). It ADDS THE VOID MARKER, so it is not a hunk of
  the grammar (`C10.object_against_void_not_in_grammar`). `RenderPatch` skips an addition whose first value is
  void: the operations are `test ""`, `remove ""` — the same as for the hunk `- {…}` alone, which IS in
  the grammar; so the reader reads them back, and `Patch` yields void. The end-to-end statement
  holds for this pair too. -/

/-- the hunk that renders to the same operations and lies in the grammar -/
def objGoneHunk (kvs : List (String × Json)) : Hunk := { path := [], remove := [Json.obj kvs] }

theorem render_objGoneHunk (kvs : List (String × Json)) :
    renderPatchOps [objGoneHunk kvs] =
      .ok [{ op := "test", path := "", value := .obj kvs }, { op := "remove", path := "", value := .obj kvs }] := by
  rw [renderPatchOps, renderPatchHunk_of (h := objGoneHunk kvs) writePointerPath_nil rfl
    (Nat.zero_le 1) (Nat.zero_le 1) rfl rfl]
  rfl

theorem objGone_in_grammar {kvs : List (String × Json)} (g : Good (.obj kvs)) :
    PBwf [objGoneHunk kvs] = true ∧ [objGoneHunk kvs].all jdShaped = true ∧
      [objGoneHunk kvs].all hunkListDoc = true := by
  refine ⟨?_, by simp [jdShaped, objGoneHunk, lastIdx?], ?_⟩
  · simp [PBwf, PBwfH, chainOK, objGoneHunk, pathOK, valOK, Json.isVoid, g.listDoc, g.wf, g.fin,
      lastIdx?, realCtx]
  · have := g.listDoc
    simp [hunkListDoc, objGoneHunk, listDocList, this]

theorem apply_objGone (L : FloatLaws) {kvs : List (String × Json)} (g : Good (.obj kvs)) :
    applyStrictAll (.obj kvs) [objGoneHunk kvs] = some .void := by
  have hs : specEq (Json.obj kvs) (Json.obj kvs) = true := DPL.specEq_refl L g
  simp [applyStrictAll, applyStrict, objGoneHunk, single, Json.singleValue, hs]

/-! ## 7. the closed end-to-end theorem -/

/-- **C10, last sentence, closed (sharp form).** For `a`, `b` in the C01 list domain, array lengths
    bounded with `Na + Nb < 2^53`, no typed `jsonList` node among the array elements of `a`, and the
    paths of `a.Diff(b)` expressible as JSON Pointers (exactly when `RenderPatch` succeeds):
    `RenderPatch(a.Diff(b))` succeeds with operations `ops`; `ReadPatchString` (element loop AND
    context check) reads `ops` to a diff `d'` — the normal form `normPB (a.Diff(b))`, except for an
    object against void —; the library's `a.Patch(d')` succeeds with a list document `r` that is
    structurally equal to `b` (both ways) and `Equals` `b` under the options of the diff. There is no
    hypothesis about the hunks. -/
theorem own_patch_output_reproduces_target_of_paths (L : FloatLaws) (F : FloatEq0) (o : Opts)
    (ho : dispatchTag o = .list) (hm : isMerge o = false) (a b : Json)
    (ha1 : a.listDoc = true) (ha2 : a.wf = true) (ha3 : a.finiteNums = true) (ha4 : PRC.vfree a = true)
    (ha5 : elemsRaw a = true)
    (hb1 : b.listDoc = true) (hb2 : b.wf = true) (hb3 : b.finiteNums = true) (hb4 : PRC.vfree b = true)
    {Na Nb : Nat} (la : PRC.lenLe Na a = true) (lb : PRC.lenLe Nb b = true) (hN : Na + Nb < 2 ^ 53)
    (H : HashOK o a b) (Z : ZeroOK a b)
    (hp : ∀ h ∈ diffM o a b, PRC.PE h.path) :
    ∃ ops d' r, renderPatchOps (diffM o a b) = .ok ops ∧ readPatchOps ops = .ok d' ∧
      ((a.isObj && b.isVoid) = false → d' = normPB (diffM o a b)) ∧
      patchM a d' = .ok r ∧ specEq r b = true ∧ specEq b r = true ∧ r.listDoc = true ∧
      (PrecMono o → equivB o r b = true ∧ equals o r b = true) := by
  have ga : Good a := ⟨ha1, ha2, ha3, PRC.memOK_of_vfree a ha4⟩
  cases hv : (a.isObj && b.isVoid) with
  | false =>
    obtain ⟨ops, er⟩ := (PRC.render_diffM_ok_iff o ho hm a b ha1 ha2 ha4 hb1 hb2 hb4).2 hp
    obtain ⟨g1, g2, g3⟩ := diffM_in_grammar_of_paths o ho hm a b ha1 ha2 ha3 ha4 ha5 hb1 hb2 hb4 F
      la lb hN hv hp
    obtain ⟨m, hm1, hm2, hm3, _, hm5⟩ := DPL.diffM_list_correct L o ho hm a b ha1 ha2 ha3
      (PRC.memOK_of_vfree a ha4) hb1 hb2 hb3 (PRC.memOK_of_vfree b hb4) H Z
    obtain ⟨hread, r, hP, hu, hrl⟩ := parse_back_of_grammar L F g1 g2 g3 er ha1 hm1
    refine ⟨ops, _, r, er, hread, fun _ => rfl, hP, ?_, ?_, hrl, fun hpm => ?_⟩
    · exact (specEq_left_of_untag_eq hu).trans hm2
    · exact (specEq_right_of_untag_eq hu).trans hm3
    · have e : equivB o r b = true := by
        exact (equivB_left_of_untag_eq o ho hu).trans (hm5 hpm).1
      exact ⟨e, by rw [equals_eq_equivB_list o ho r b hrl hb1]; exact e⟩
  | true =>
    obtain ⟨kvs, rfl, rfl⟩ := PRC.objVoid_of hv
    obtain ⟨g1, g2, g3⟩ := objGone_in_grammar ga
    obtain ⟨hread, r, hP, hu, hrl⟩ := parse_back_of_grammar L F g1 g2 g3 (render_objGoneHunk kvs) ha1
      (apply_objGone L ga)
    refine ⟨_, _, r, by rw [PRC.diffM_obj_void o hm, PRC.render_objVoidHunk], hread,
      fun h => by simp at h, hP, ?_, ?_, hrl, fun _ => ?_⟩
    · exact (specEq_left_of_untag_eq hu).trans DPL.specEq_void_void
    · exact (specEq_right_of_untag_eq hu).trans DPL.specEq_void_void
    · have e : equivB o r .void = true := by
        rw [equivB_left_of_untag_eq o ho hu]; simp [equivB]
      exact ⟨e, by rw [equals_eq_equivB_list o ho r .void hrl rfl]; exact e⟩

/-- **C10, last sentence, closed**: the same for documents all of whose object keys are expressible
    as JSON Pointer tokens (`PRC.keysExpressible`, decidable: not number-like, not "-") -/
theorem own_patch_output_reproduces_target (L : FloatLaws) (F : FloatEq0) (o : Opts)
    (ho : dispatchTag o = .list) (hm : isMerge o = false) (a b : Json)
    (ha1 : a.listDoc = true) (ha2 : a.wf = true) (ha3 : a.finiteNums = true) (ha4 : PRC.vfree a = true)
    (ha5 : elemsRaw a = true)
    (hb1 : b.listDoc = true) (hb2 : b.wf = true) (hb3 : b.finiteNums = true) (hb4 : PRC.vfree b = true)
    {Na Nb : Nat} (la : PRC.lenLe Na a = true) (lb : PRC.lenLe Nb b = true) (hN : Na + Nb < 2 ^ 53)
    (H : HashOK o a b) (Z : ZeroOK a b)
    (ka : PRC.keysExpressible a = true) (kb : PRC.keysExpressible b = true) :
    ∃ ops d' r, renderPatchOps (diffM o a b) = .ok ops ∧ readPatchOps ops = .ok d' ∧
      ((a.isObj && b.isVoid) = false → d' = normPB (diffM o a b)) ∧
      patchM a d' = .ok r ∧ specEq r b = true ∧ specEq b r = true ∧ r.listDoc = true ∧
      (PrecMono o → equivB o r b = true ∧ equals o r b = true) :=
  own_patch_output_reproduces_target_of_paths L F o ho hm a b ha1 ha2 ha3 ha4 ha5 hb1 hb2 hb3 hb4 la lb
    hN H Z (PRC.diffM_paths_expressible o ho hm a b ha1 hb1 ka kb)

/-- without a Precision option: the patched document `Equals` the target -/
theorem own_patch_output_reproduces_target_noPrecision (L : FloatLaws) (F : FloatEq0) (o : Opts)
    (ho : dispatchTag o = .list) (hm : isMerge o = false) (hprec : precOf o = 0) (a b : Json)
    (ha1 : a.listDoc = true) (ha2 : a.wf = true) (ha3 : a.finiteNums = true) (ha4 : PRC.vfree a = true)
    (ha5 : elemsRaw a = true)
    (hb1 : b.listDoc = true) (hb2 : b.wf = true) (hb3 : b.finiteNums = true) (hb4 : PRC.vfree b = true)
    {Na Nb : Nat} (la : PRC.lenLe Na a = true) (lb : PRC.lenLe Nb b = true) (hN : Na + Nb < 2 ^ 53)
    (H : HashOK o a b) (Z : ZeroOK a b)
    (ka : PRC.keysExpressible a = true) (kb : PRC.keysExpressible b = true) :
    ∃ ops d' r, renderPatchOps (diffM o a b) = .ok ops ∧ readPatchOps ops = .ok d' ∧
      patchM a d' = .ok r ∧ specEq r b = true ∧ equals o r b = true := by
  obtain ⟨ops, d', r, h1, h2, _, h3, h4, _, _, h5⟩ := own_patch_output_reproduces_target L F o ho hm a b
    ha1 ha2 ha3 ha4 ha5 hb1 hb2 hb3 hb4 la lb hN H Z ka kb
  exact ⟨ops, d', r, h1, h2, h3, h4, (h5 (PrecMono.of_noPrecision hprec)).2⟩

/-! ## 8. WITNESS: why `elemsRaw a` is a hypothesis (a typed `jsonList` element against a `jsonArray`) -/

namespace Witness

/-- `[null, [true]]`, the inner array being a typed `jsonList` node -/
def wA : Json := .arr .raw [.null, .arr .list [.bool true]]
/-- `[null, [false]]` as read from text -/
def wB : Json := .arr .raw [.null, .arr .raw [.bool false]]
/-- the hunk of `wA.Diff(wB)`: a wholesale replacement at index 1, WITHOUT before-context; its
    after-context (set by `subAfter`, as the Go `diffRest` does) is the array-end marker -/
def wHunk : Hunk :=
  { path := [.idx 1], remove := [.arr .list [.bool true]], add := [.arr .raw [.bool false]],
    after := [.void] }
/-- what `ReadPatchString` makes of its rendering: both context lines are the boundary marker -/
def wRead : Hunk :=
  { path := [.idx 1], before := [.void], remove := [.arr .list [.bool true]],
    add := [.arr .raw [.bool false]], after := [.void] }
def wOps : List PatchOp :=
  [tst "/1" (.arr .list [.bool true]), rmv "/1" (.arr .list [.bool true]),
   adp "/1" (.arr .raw [.bool false])]

theorem diff_w : diffM [] wA wB = [wHunk] := diffM_of_eqb (by decide +kernel)

theorem render_w : renderPatchOps [wHunk] = .ok wOps := by
  rw [renderPatchOps, renderPatchHunk_of (h := wHunk) NMP.wpp_1 rfl (by decide) (by decide) rfl rfl]
  rfl

theorem wHunk_in_grammar : PBwf [wHunk] = true := by decide +kernel

theorem wHunk_not_jdShaped : jdShaped wHunk = false := by decide

theorem read_w (L : FloatLaws) (F : FloatEq0) : readPatchOps wOps = .ok [wRead] := by
  have := NMP.readPatchOps_render L F [wHunk] wHunk_in_grammar wOps render_w
  rw [this]
  rfl

theorem patch_w : patchM wA [wRead] = .err := patchAll_of_eqb (by decide +kernel) true

/-- every hypothesis of the closed theorem EXCEPT `elemsRaw wA` holds for this pair -/
theorem hyps :
    wA.listDoc = true ∧ wA.wf = true ∧ wA.finiteNums = true ∧ PRC.vfree wA = true ∧
    wB.listDoc = true ∧ wB.wf = true ∧ wB.finiteNums = true ∧ PRC.vfree wB = true ∧
    PRC.lenLe 2 wA = true ∧ PRC.lenLe 2 wB = true ∧ 2 + 2 < 2 ^ 53 ∧
    HashOK [] wA wB ∧ ZeroOK wA wB ∧
    PRC.keysExpressible wA = true ∧ PRC.keysExpressible wB = true ∧ elemsRaw wA = false := by
  refine ⟨by decide, by decide, by decide, by decide, by decide, by decide, by decide, by decide,
    by decide, by decide, by decide, hashOK_of_check (by decide +kernel), ?_, by decide, by decide,
    by decide⟩
  intro u v hu hv _
  simp [wA, subterms, subtermsList] at hu

/-- **WITNESS (genuine, replayed on the Go code).** `wA = [null, [true]]` whose inner array is a typed
    `jsonList` node, `wB = [null, [false]]` as read from text: all hypotheses of the closed theorem
    hold except `elemsRaw wA`; the native diff applies to `wA` and gives `wB` (C01); `RenderPatch`
    succeeds; `ReadPatchString` ACCEPTS the operations; but the diff read back does NOT apply to `wA`:
    `Patch` returns an error. `sameContainerType` dispatches both nodes (true), `jsonList.diff` then
    type-asserts the other side (a `jsonArray`) and replaces the element wholesale, emitting a hunk at
    an array index with NO before-context (its after-context, set by `subAfter`, is the array-end
    marker here and is not rendered); the reader turns "no context test" into the boundary marker
    on both sides, and the void before-context can never match at index 1. -/
theorem typed_list_element_witness (L : FloatLaws) (F : FloatEq0) :
    (∃ r, applyStrictAll wA (diffM [] wA wB) = some r ∧ specEq r wB = true) ∧
    renderPatchOps (diffM [] wA wB) = .ok wOps ∧
    readPatchOps wOps = .ok [wRead] ∧
    patchM wA [wRead] = .err ∧
    PBwf (diffM [] wA wB) = true ∧ (diffM [] wA wB).all jdShaped = false := by
  obtain ⟨h1, h2, h3, h4, h5, h6, h7, h8, _, _, _, h12, h13, _, _, _⟩ := hyps
  obtain ⟨r, hr, e, _⟩ := diffM_list_correct L [] rfl rfl wA wB h1 h2 h3 (PRC.memOK_of_vfree _ h4) h5 h6 h7
    (PRC.memOK_of_vfree _ h8) h12 h13
  refine ⟨⟨r, hr, e⟩, by rw [diff_w, render_w], read_w L F, patch_w, by rw [diff_w]; exact wHunk_in_grammar,
    by rw [diff_w]; decide⟩

/-! ### the same pair at a NON-LAST position: the after-context set by `subAfter` is a real value -/

/-- `[null, [true], null]`, the inner array being a typed `jsonList` node -/
def mA : Json := .arr .raw [.null, .arr .list [.bool true], .null]
/-- `[null, [false], null]` as read from text -/
def mB : Json := .arr .raw [.null, .arr .raw [.bool false], .null]
/-- the hunk of `mA.Diff(mB)`: no before-context, the TRUE next element as after-context -/
def mHunk : Hunk :=
  { path := [.idx 1], remove := [.arr .list [.bool true]], add := [.arr .raw [.bool false]],
    after := [.null] }
/-- what `ReadPatchString` makes of its rendering -/
def mRead : Hunk :=
  { path := [.idx 1], before := [.void], remove := [.arr .list [.bool true]],
    add := [.arr .raw [.bool false]], after := [.null] }
def mOps : List PatchOp :=
  [tst "/2" .null, tst "/1" (.arr .list [.bool true]), rmv "/1" (.arr .list [.bool true]),
   adp "/1" (.arr .raw [.bool false])]

theorem diff_m : diffM [] mA mB = [mHunk] := diffM_of_eqb (by decide +kernel)

theorem render_m : renderPatchOps [mHunk] = .ok mOps := by
  rw [renderPatchOps, renderPatchHunk_of (h := mHunk) NMP.wpp_1 rfl (by decide) (by decide) rfl
    (ctxOps_single (h := mHunk) (f := fun i => i + 1) (i := 1) (pp := "/2") rfl rfl rfl)]
  rfl

theorem mHunk_in_grammar : PBwf [mHunk] = true := by decide +kernel

theorem mHunk_not_jdShaped : jdShaped mHunk = false := by decide

theorem read_m (L : FloatLaws) (F : FloatEq0) : readPatchOps mOps = .ok [mRead] := by
  have := NMP.readPatchOps_render L F [mHunk] mHunk_in_grammar mOps render_m
  rw [this]
  rfl

theorem patch_m : patchM mA [mRead] = .err := patchAll_of_eqb (by decide +kernel) true

/-- the native diff (with its after-context `null`, the true next element) applies -/
theorem native_m : applyStrictAll mA (diffM [] mA mB) =
    some (.arr .raw [.null, .arr .raw [.bool false], .null]) := by
  rw [diff_m]
  simp [applyStrictAll, applyStrict, mA, mHunk, splice, prefixEq, beforeOk, afterOk, specEq, equivB,
    equivList, dispatchTag]

/-- **WITNESS at a non-last position** (`mA = [null, [true], null]`, inner array a typed `jsonList`;
    `mB = [null, [false], null]`): the hunk now carries the after-context `null` (the true next
    element), the native diff applies, the rendered JSON Patch gets the after-context test
    `test /2 null`, the reader accepts it and reads a hunk whose before-context is the boundary
    marker, and `Patch` of that hunk still FAILS at index 1: `elemsRaw` remains necessary. -/
theorem typed_list_element_witness_mid (L : FloatLaws) (F : FloatEq0) :
    applyStrictAll mA (diffM [] mA mB) = some (.arr .raw [.null, .arr .raw [.bool false], .null]) ∧
    renderPatchOps (diffM [] mA mB) = .ok mOps ∧
    readPatchOps mOps = .ok [mRead] ∧
    patchM mA [mRead] = .err ∧
    PBwf (diffM [] mA mB) = true ∧ (diffM [] mA mB).all jdShaped = false ∧ elemsRaw mA = false :=
  ⟨native_m, by rw [diff_m, render_m], read_m L F, patch_m, by rw [diff_m]; exact mHunk_in_grammar,
    by rw [diff_m]; decide, by decide⟩

/-! ### … and at the FIRST position the read-back hunk applies (the void before-context matches the
    array start) -/

def fA : Json := .arr .raw [.arr .list [.bool true], .null]
def fB : Json := .arr .raw [.arr .raw [.bool false], .null]
def fHunk : Hunk :=
  { path := [.idx 0], remove := [.arr .list [.bool true]], add := [.arr .raw [.bool false]],
    after := [.null] }
def fRead : Hunk :=
  { path := [.idx 0], before := [.void], remove := [.arr .list [.bool true]],
    add := [.arr .raw [.bool false]], after := [.null] }

theorem diff_f : diffM [] fA fB = [fHunk] := diffM_of_eqb (by decide +kernel)

def fOps : List PatchOp :=
  [tst "/1" .null, tst "/0" (.arr .list [.bool true]), rmv "/0" (.arr .list [.bool true]),
   adp "/0" (.arr .raw [.bool false])]

theorem render_f : renderPatchOps [fHunk] = .ok fOps := by
  rw [renderPatchOps, renderPatchHunk_of (h := fHunk) wpp_0 rfl (by decide) (by decide) rfl
    (ctxOps_single (h := fHunk) (f := fun i => i + 1) (i := 0) rfl rfl NMP.wpp_1)]
  rfl

theorem fHunk_in_grammar : PBwf [fHunk] = true := by decide +kernel

/-- at the FIRST position the diff read back from the rendered JSON Patch applies: the boundary
    marker the reader puts as before-context matches the array start -/
theorem first_position_reads_back_and_applies (L : FloatLaws) (F : FloatEq0) :
    renderPatchOps (diffM [] fA fB) = .ok fOps ∧ readPatchOps fOps = .ok [fRead] ∧
      applyStrictAll fA [fRead] = some (.arr .raw [.arr .raw [.bool false], .null]) := by
  refine ⟨by rw [diff_f, render_f], ?_, ?_⟩
  · have := NMP.readPatchOps_render L F [fHunk] fHunk_in_grammar fOps render_f
    rw [this]
    rfl
  · simp [applyStrictAll, applyStrict, fA, fRead, splice, prefixEq, beforeOk, afterOk, specEq, equivB,
      equivList, dispatchTag, Json.isVoid]

end Witness

/-! ## 9. documents as read from text, non-vacuity -/

/-- **C10, last sentence, for documents as read from text** (`rawDoc`: every array node a plain
    `jsonArray`, what `ReadJsonString` / `ReadYamlString` produce): `elemsRaw` and `listDoc` follow -/
theorem own_patch_output_reproduces_target_rawDoc (L : FloatLaws) (F : FloatEq0) (o : Opts)
    (ho : dispatchTag o = .list) (hm : isMerge o = false) (a b : Json)
    (ha1 : a.rawDoc = true) (ha2 : a.wf = true) (ha3 : a.finiteNums = true) (ha4 : PRC.vfree a = true)
    (hb1 : b.rawDoc = true) (hb2 : b.wf = true) (hb3 : b.finiteNums = true) (hb4 : PRC.vfree b = true)
    {Na Nb : Nat} (la : PRC.lenLe Na a = true) (lb : PRC.lenLe Nb b = true) (hN : Na + Nb < 2 ^ 53)
    (H : HashOK o a b) (Z : ZeroOK a b)
    (ka : PRC.keysExpressible a = true) (kb : PRC.keysExpressible b = true) :
    ∃ ops d' r, renderPatchOps (diffM o a b) = .ok ops ∧ readPatchOps ops = .ok d' ∧
      ((a.isObj && b.isVoid) = false → d' = normPB (diffM o a b)) ∧
      patchM a d' = .ok r ∧ specEq r b = true ∧ specEq b r = true ∧ r.listDoc = true ∧
      (PrecMono o → equivB o r b = true ∧ equals o r b = true) :=
  own_patch_output_reproduces_target L F o ho hm a b (rawDoc_listDoc a ha1) ha2 ha3 ha4
    (elemsRaw_of_rawDoc ha1) (rawDoc_listDoc b hb1) hb2 hb3 hb4 la lb hN H Z ka kb

namespace Example
open PRC.Example

/-- the pair of JdProofs.PatchRenderClosed (`{"a~/b": [true, 1, [1], null], "k": null}` against
    `{"a~/b": [false, 1, [1, 1], null, null], "m": 1}`: five hunks, three of them list hunks, one in a
    nested list; eleven operations) satisfies the extra hypothesis -/
theorem exA_elemsRaw : elemsRaw exA = true := by decide

theorem exA_rawDoc : exA.rawDoc = true ∧ exB.rawDoc = true := by decide

example (L : FloatLaws) : (∀ h ∈ diffM [] exA exB, OwnH h) ∧ Distinct (diffM [] exA exB) := by
  obtain ⟨h1, h2, h3, h4, h5, h6, _, _, _, _, _, _, _, _, _, _⟩ := hyps L
  exact diffM_own [] rfl rfl exA exB h1 h2 h3 h4 exA_elemsRaw h5 h6

example (L : FloatLaws) (F : FloatEq0) : PBwf (diffM [] exA exB) = true ∧
    (diffM [] exA exB).all jdShaped = true ∧ (diffM [] exA exB).all hunkListDoc = true := by
  obtain ⟨h1, h2, h3, h4, h5, h6, _, h8, h9, h10, h11, _, _, h14, h15, h16⟩ := hyps L
  exact diffM_in_grammar [] rfl rfl exA exB h1 h2 h3 h4 exA_elemsRaw h5 h6 h8 F h9 h10 h11 h16 h14 h15

example (L : FloatLaws) (F : FloatEq0) :
    ∃ ops d' r, renderPatchOps (diffM [] exA exB) = .ok ops ∧ readPatchOps ops = .ok d' ∧
      patchM exA d' = .ok r ∧ specEq r exB = true ∧ equals [] r exB = true := by
  obtain ⟨h1, h2, h3, h4, h5, h6, h7, h8, h9, h10, h11, h12, h13, h14, h15, _⟩ := hyps L
  exact own_patch_output_reproduces_target_noPrecision L F [] rfl rfl rfl exA exB h1 h2 h3 h4 exA_elemsRaw
    h5 h6 h7 h8 h9 h10 h11 h12 h13 h14 h15

example (L : FloatLaws) (F : FloatEq0) :
    ∃ ops d' r, renderPatchOps (diffM [] exA exB) = .ok ops ∧ readPatchOps ops = .ok d' ∧
      ((exA.isObj && exB.isVoid) = false → d' = normPB (diffM [] exA exB)) ∧
      patchM exA d' = .ok r ∧ specEq r exB = true ∧ specEq exB r = true ∧ r.listDoc = true ∧
      (PrecMono [] → equivB [] r exB = true ∧ equals [] r exB = true) := by
  obtain ⟨_, h2, h3, h4, _, h6, h7, h8, h9, h10, h11, h12, h13, h14, h15, _⟩ := hyps L
  exact own_patch_output_reproduces_target_rawDoc L F [] rfl rfl exA exB exA_rawDoc.1 h2 h3 h4
    exA_rawDoc.2 h6 h7 h8 h9 h10 h11 h12 h13 h14 h15

/-- the exception: an object against "no document" goes through the closed theorem as well -/
example (L : FloatLaws) (F : FloatEq0) :
    ∃ ops d' r, renderPatchOps (diffM [] (.obj [("k", .null)]) .void) = .ok ops ∧
      readPatchOps ops = .ok d' ∧ patchM (.obj [("k", .null)]) d' = .ok r ∧ specEq r .void = true := by
  obtain ⟨ops, d', r, h1, h2, _, h3, h4, _⟩ := own_patch_output_reproduces_target L F [] rfl rfl
    (.obj [("k", .null)]) .void (by decide) (by decide) (by decide) (by decide) (by decide) (by decide)
    (by decide) (by decide) (by decide) (Na := 0) (Nb := 0) (by decide) (by decide) (by decide)
    (fun x _ y hy h => by
      simp [subterms] at hy; subst hy
      simp [subterms, subtermsKvs] at *
      rename_i hx
      rcases hx with rfl | rfl <;> exact absurd h (by decide +kernel))
    (fun u v hu _ _ => by simp [subterms, subtermsKvs] at hu) (by decide) (by decide)
  exact ⟨ops, d', r, h1, h2, h3, h4⟩

end Example

/-! ### axioms -/

#print axioms diff_own
#print axioms diffM_own
#print axioms diffM_in_grammar_of_paths
#print axioms diffM_in_grammar
#print axioms parse_back_of_grammar
#print axioms own_patch_output_reproduces_target_of_paths
#print axioms own_patch_output_reproduces_target
#print axioms own_patch_output_reproduces_target_noPrecision
#print axioms own_patch_output_reproduces_target_rawDoc
#print axioms Witness.typed_list_element_witness
#print axioms Witness.hyps
#print axioms Witness.typed_list_element_witness_mid
#print axioms Witness.first_position_reads_back_and_applies

end Jd.Own
