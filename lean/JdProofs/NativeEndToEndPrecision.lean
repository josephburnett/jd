/-
  JdProofs.NativeEndToEndPrecision — property C02 ("a diff printed by `jd a b` and applied with
  `jd -p` turns a into b"), END TO END THROUGH THE TEXT, for the option combinations that
  JdProofs.NativeEndToEnd / …Set / …Keys leave out: a `Precision(eps)` option TOGETHER WITH the
  SET / MULTISET / SetKeys reading (strict strategy and MERGE), MERGE + Precision in the LIST
  reading, and the colour output.  Namespace `Jd.E2EP`.  Statement file: JdProps/C02Precision.lean.

  §1 SET / MULTISET + Precision, strict strategy.  `SP.diffM_strip`: in the set readings
     `diffM o a b = diffM (stripPrec o) a b` on raw documents, so every premise / text theorem of
     `Jd.E2ES` transfers LITERALLY (same diff, same text): `diffM_carried_set_precision`
     (`C02Precision.produced_diff_in_domain_set_precision`, `diffM_codecOK_set_precision`,
     `diffM_renders_set_precision`);
     the end-to-end theorems `diff_render_read_patch_set_precision`,
     `diff_print_read_patch_set_precision` conclude `equals o r b` through `SP.equals_mono`
     (`PrecMono o`), plus `equals (stripPrec o) r b`, `equivB (stripPrec o) r b`, and `equivB o r b`
     in the SET reading (`SP.equivB_mono_set`; not available for MULTISET: the greedy bag matching
     of the spec, `SP.Witness.greedy_bag_not_monotone`).
  §2 SetKeys + Precision, strict strategy: `diff_render_read_patch_setkeys_precision`
     (`DPK.KeysHyp` read for `stripPrec o`; total form: `C02Precision.print_read_patch_total_setkeys_precision`).  The lossless
     theorem `E2EK.diff_text_lossless_setkeys` has no hypothesis on the precision.
  §3 MERGE + SET / MULTISET + Precision: `C02Precision.produced_diff_text_lossless_setMerge_precision`,
     `diff_render_read_patch_mergeSet_precision`, `diff_print_read_patch_mergeSet_precision`
     (`E2ES.SetMergeDom (stripPrec o) a b`, written out).
  §4 MERGE + Precision, LIST reading, through the text.  Here the diff DOES depend on the precision
     (arrays within eps are not reported), so nothing transfers: `E2ES.memSoundU_list_precision` is
     `Merge.memSound_list` for the diff AS READ BACK (untagged values, `E2ES.memSoundU_of`), then
     `diff_render_read_patch_mergeList_precision`, `diff_print_read_patch_mergeList_precision`.
     Hypotheses as in `MP`: `nonnegBits (precOf o)` (needed: `MP.Witness.negative_precision_breaks`),
     `PrecMono o`, `FloatLaws`.  `specEq r b` is NOT concluded (false: `MP.Witness.specEq_fails_array`).
  §5 colour: `color_strip_end_to_end_set_precision`, the instance of JdProofs.NativeColor
     (`stripAnsi (Render(COLOR)) = Render()`) for SET / MULTISET + Precision.
  §6 non-vacuity (`Example`): `{"n":1,"s":[1,{"k":2}]}` → `{"n":3,"s":[{"k":2},3]}` with
     `Precision(0.001)` under SET, MULTISET (`ex_set_precision`), MERGE+SET / MERGE+MULTISET
     (`ex_mergeSet_precision`), MERGE in the list reading (`C02Precision.example_merge_precision`), colour
     (`ex_color`): every hypothesis is proved (codec contract from the text round trip, numbers
     included; no ESC by evaluating the printer);
     only `FloatEq0` / `FloatLaws` / `PrecMono` remain.
  §7 the float hypotheses are needed THROUGH THE TEXT too: `C02Precision.precMono_needed_text` (every
     reading; `Witness.read_empty`), `Witness.negative_precision_breaks_text` (`nonnegBits`, MERGE +
     Precision, list reading).
  NOT PROVED: SetKeys + MERGE (+ Precision) through the text (no end-to-end theorem exists without
  a Precision either; in memory: `SP.merge_diff_then_patch_setkeys_precision_iff`); that `ValOK`
  implies `NoEscVal` (true of the JSON reader — it rejects raw control characters — not proved).
-/
import JdModel
import JdSpec
import JdProofs.NativeRoundTrip
import JdProofs.Robust
import JdProofs.NativeEndToEnd
import JdProofs.NativeEndToEndSet
import JdProofs.NativeEndToEndKeys
import JdProofs.NativeEndToEndKeysB
import JdProofs.SetPrecision
import JdProofs.MergePrecision
import JdProofs.NativeColor

set_option autoImplicit false

namespace Jd.E2EP
open Jd Jd.Spec Jd.NativeRT Jd.Robust Jd.SetDP
open Jd.SP (stripPrec)
open Jd.DPL (PrecMono)

/-! ## 1. SET / MULTISET readings with a Precision option, strict strategy -/

/-- the diff of a set reading with a precision is the diff without it (`DES.SetReading` form) -/
theorem diffM_strip_reading {o : Opts} (hm : DES.SetReading o) (a b : Json) (ha : a.rawDoc = true) :
    diffM o a b = diffM (stripPrec o) a b :=
  SP.diffM_strip o (DES.SetReading.tag hm) a b ha

theorem isMerge_strip_false {o : Opts} (h : isMerge o = false) : isMerge (stripPrec o) = false := by
  simpa using h

/-- **the text carries `a.Diff(b, SET|MULTISET, Precision(eps))` with exactly its effect**: it is
    the diff without the precision -/
theorem diffM_carried_set_precision {o : Opts} (hm : DES.SetReading o) (hmg : isMerge o = false)
    (a b : Json) (ha : a.rawDoc = true) (hwa : a.wf = true) (hb : b.rawDoc = true)
    (hwb : b.wf = true) (hva : E2E.voidFree a = true) (hvb : E2E.voidFree b = true)
    (FH : DES.DiffFaithful (stripPrec o) (subterms a) (subterms b)) :
    E2E.Carried (· ∈ subterms a ++ subterms b) (E2ES.SPath (E2E.docKeys a ++ E2E.docKeys b))
      (diffM o a b) :=
  diffM_strip_reading hm a b ha ▸ E2ES.diffM_carried_set (SP.setReading_strip hm) (SP.precOf_strip o)
    (isMerge_strip_false hmg) a b ha hwa hb hwb hva hvb FH

theorem diffM_codecOK_set_precision (nc : NumCodec) {o : Opts} (hm : DES.SetReading o)
    (hmg : isMerge o = false) (a b : Json) (ha : a.rawDoc = true) (hwa : a.wf = true)
    (hb : b.rawDoc = true) (hwb : b.wf = true) (hva : E2E.voidFree a = true)
    (hvb : E2E.voidFree b = true) (FH : DES.DiffFaithful (stripPrec o) (subterms a) (subterms b))
    (hv : ∀ z ∈ subterms a ++ subterms b, ValOK nc z)
    (hpth : ∀ h ∈ diffM o a b, PathOK nc h.path) :
    CodecOK nc (diffM o a b) :=
  (diffM_carried_set_precision hm hmg a b ha hwa hb hwb hva hvb FH).codec nc hv hpth

/-- the input-level form of the path hypothesis -/
theorem diffM_pathOK_of_inputs_set_precision (nc : NumCodec) {o : Opts} (hm : DES.SetReading o)
    (hmg : isMerge o = false) (a b : Json) (ha : a.rawDoc = true)
    (hwa : a.wf = true) (hb : b.rawDoc = true) (hwb : b.wf = true)
    (hva : E2E.voidFree a = true) (hvb : E2E.voidFree b = true)
    (FH : DES.DiffFaithful (stripPrec o) (subterms a) (subterms b))
    (hpaths : ∀ p, E2ES.SPath (E2E.docKeys a ++ E2E.docKeys b) p → PathOK nc p) :
    ∀ h ∈ diffM o a b, PathOK nc h.path :=
  fun h hh => hpaths _ ((diffM_carried_set_precision hm hmg a b ha hwa hb hwb hva hvb FH).path h hh)

theorem diffM_renders_set_precision (nc : NumCodec) {o : Opts} (hm : DES.SetReading o)
    (hmg : isMerge o = false) (a b : Json) (ha : a.rawDoc = true) (hwa : a.wf = true)
    (hb : b.rawDoc = true) (hwb : b.wf = true) (hva : E2E.voidFree a = true)
    (hvb : E2E.voidFree b = true) (FH : DES.DiffFaithful (stripPrec o) (subterms a) (subterms b))
    (hmv : ∀ z ∈ subterms a ++ subterms b, (marshalNode nc z).isSome = true)
    (hmp : ∀ h ∈ diffM o a b, (jsonM nc (pathToJson h.path)).isSome = true) :
    ∃ text, renderM nc [] (diffM o a b) = some text :=
  (diffM_carried_set_precision hm hmg a b ha hwa hb hwb hva hvb FH).renders nc hmv hmp

/-- **C02 end to end, SET / MULTISET + Precision, strict strategy.** The text printed for
    `a.Diff(b, o)` is read back as `d' = normDiff (a.Diff(b, o))`, and the library's `a.Patch(d')`
    succeeds with THE SAME document `r` as the in-memory patch; `r` `Equals` `b` under `o`, and even
    without the precision (`Equals` and `equivB`); in the SET reading `r` is equivalent to `b` for the
    advertised equivalence under `o`. -/
theorem diff_render_read_patch_set_precision (F : FloatEq0) (L : FloatLaws) (nc : NumCodec)
    (o : Opts) (hm : dispatchTag o = .set ∨ dispatchTag o = .mset) (hk : keysOf o = none)
    (hmg : isMerge o = false) (M : PrecMono o) (a b : Json)
    (ha : a.setDoc = true) (hb : b.setDoc = true)
    (hva : E2E.voidFree a = true) (hvb : E2E.voidFree b = true)
    (HF : HashFaithful (stripPrec o) (subterms a ++ subterms b))
    (hv : ∀ z ∈ subterms a ++ subterms b, ValOK nc z)
    (hpth : ∀ h ∈ diffM o a b, PathOK nc h.path)
    (text : String) (hr : renderM nc [] (diffM o a b) = some text) :
    ∃ d', readDiffM nc text = .ok d' ∧ d' = normDiff (diffM o a b) ∧
      ∃ r, patchM a d' = .ok r ∧ patchM a (diffM o a b) = .ok r ∧
        equals o r b = true ∧ equals (stripPrec o) r b = true ∧
        equivB (stripPrec o) r b = true ∧ (dispatchTag o = .set → equivB o r b = true) := by
  have har := SP.rawDoc_of_setDoc ha
  rw [SP.diffM_strip o hm a b har] at hpth hr ⊢
  obtain ⟨d', h1, h2, r, h3, h4, h5, h6⟩ := E2ES.diff_render_read_patch_set F L nc (stripPrec o)
    (by simpa using hm) (by simpa using hk) (isMerge_strip_false hmg) (SP.precOf_strip o) a b ha hb
    hva hvb HF hv hpth text hr
  exact ⟨d', h1, h2, r, h3, h4,
    SP.equals_of_strip M h6, h6, h5,
    fun hd => SP.equivB_of_strip hd M h5⟩

/-- **end to end, SET / MULTISET + Precision, total form**: the text EXISTS, is read back, and the
    diff read back patches `a` to a document that `Equals` `b` under the options -/
theorem diff_print_read_patch_set_precision (F : FloatEq0) (L : FloatLaws) (nc : NumCodec)
    (o : Opts) (hm : dispatchTag o = .set ∨ dispatchTag o = .mset) (hk : keysOf o = none)
    (hmg : isMerge o = false) (M : PrecMono o) (a b : Json)
    (ha : a.setDoc = true) (hb : b.setDoc = true)
    (hva : E2E.voidFree a = true) (hvb : E2E.voidFree b = true)
    (HF : HashFaithful (stripPrec o) (subterms a ++ subterms b))
    (hv : ∀ z ∈ subterms a ++ subterms b, (marshalNode nc z).isSome = true ∧ ValOK nc z)
    (hpth : ∀ h ∈ diffM o a b, (jsonM nc (pathToJson h.path)).isSome = true ∧ PathOK nc h.path) :
    ∃ text d' r, renderM nc [] (diffM o a b) = some text ∧ readDiffM nc text = .ok d' ∧
      patchM a d' = .ok r ∧ equals o r b = true ∧ equivB (stripPrec o) r b = true ∧
      (dispatchTag o = .set → equivB o r b = true) := by
  have har := SP.rawDoc_of_setDoc ha
  have key := E2ES.diff_print_read_patch_set F L nc (stripPrec o)
    (by simpa using hm) (by simpa using hk) (isMerge_strip_false hmg) (SP.precOf_strip o) a b ha hb
    hva hvb HF hv (by rw [← SP.diffM_strip o hm a b har]; exact hpth)
  rw [← SP.diffM_strip o hm a b har] at key
  obtain ⟨text, d', r, h1, h2, h3, h4, h5⟩ := key
  exact ⟨text, d', r, h1, h2, h3,
    SP.equals_of_strip M h5, h4,
    fun hd => SP.equivB_of_strip hd M h4⟩

/-! ## 2. SetKeys reading with a Precision option, strict strategy -/

/-- **C02 end to end, SetKeys + Precision, strict strategy** -/
theorem diff_render_read_patch_setkeys_precision (F : FloatEq0) (L : FloatLaws) (nc : NumCodec)
    (o : Opts) (ks : List String) (hd : dispatchTag o = .set) (hk : keysOf o = some ks)
    (hmg : isMerge o = false) (M : PrecMono o) (hks : ks ≠ []) (a b : Json)
    (ha : a.setDoc = true) (hb : b.setDoc = true)
    (hva : E2E.voidFree a = true) (hvb : E2E.voidFree b = true)
    (KH : DPK.KeysHyp (stripPrec o) ks a b)
    (hv : ∀ z ∈ subterms a ++ subterms b, ValOK nc z)
    (hpth : ∀ h ∈ diffM o a b, PathOK nc h.path)
    (text : String) (hr : renderM nc [] (diffM o a b) = some text) :
    ∃ d', readDiffM nc text = .ok d' ∧ d' = normDiff (diffM o a b) ∧
      ∃ r, patchM a d' = .ok r ∧ patchM a (diffM o a b) = .ok r ∧
        equals o r b = true ∧ equivB o r b = true ∧ equals (stripPrec o) r b = true ∧
        equivB (stripPrec o) r b = true ∧ hashCode o r = hashCode o b := by
  have har := SP.rawDoc_of_setDoc ha
  rw [SP.diffM_strip o (.inl hd) a b har] at hpth hr ⊢
  obtain ⟨d', h1, h2, r, h3, h4, h5, h6, h7⟩ := E2EK.diff_render_read_patch_setkeys F L nc
    (stripPrec o) ks (by simpa using hd) (by simpa using hk) (isMerge_strip_false hmg)
    (SP.precOf_strip o) hks a b ha hb hva hvb KH hv hpth text hr
  refine ⟨d', h1, h2, r, h3, h4,
    SP.equals_of_strip M h5,
    SP.equivB_of_strip hd M h6, h5, h6, ?_⟩
  rw [← SP.hashCode_strip, ← SP.hashCode_strip o b]; exact h7

/-! ## 3. MERGE with SET / MULTISET and a Precision option -/

/-- the domain of `E2ES` section 9, read without the precision -/
theorem setMergeDom_strip {o : Opts} {a b : Json} (hmg : isMerge o = true)
    (hm : dispatchTag o = .set ∨ dispatchTag o = .mset) (hk : keysOf o = none)
    (ha : a.setDoc = true) (hb : b.setDoc = true) (hn : b.nullFree = true)
    (hvf : Merge.objVoidFree b = true) (HF : HashFaithful (stripPrec o) (subterms a ++ subterms b)) :
    E2ES.SetMergeDom (stripPrec o) a b :=
  ⟨by simpa using hmg, by simpa using hm, by simpa using hk, SP.precOf_strip o, ha, hb, hn, hvf, HF⟩

/-- **the text can carry `a.Diff(b, SET|MULTISET, MERGE, Precision(eps))`**: it is the diff without
    the precision -/
theorem diffM_readable_mergeSet_precision (F : FloatEq0) {o : Opts} {a b : Json}
    (hmg : isMerge o = true) (hm : dispatchTag o = .set ∨ dispatchTag o = .mset)
    (hk : keysOf o = none) (ha : a.setDoc = true) (hb : b.setDoc = true)
    (hn : b.nullFree = true) (hvf : Merge.objVoidFree b = true)
    (HF : HashFaithful (stripPrec o) (subterms a ++ subterms b))
    (P : Json → Prop) (hP : ∀ t xs, P (.arr t xs) → P (.arr (dispatchTag o) xs))
    (h0 : ∀ z ∈ subterms b, P z) :
    E2E.Readable P
      (fun p => ∃ ks : List String, (∀ k ∈ ks, k ∈ E2E.docKeys a ++ E2E.docKeys b) ∧
        p = ks.map PathElem.key)
      (diffM o a b) := by
  rw [SP.diffM_strip o hm a b (SP.rawDoc_of_setDoc ha)]
  exact E2ES.diffM_readable_mergeSet F (setMergeDom_strip hmg hm hk ha hb hn hvf HF) P
    (by rw [SP.dispatchTag_strip]; exact hP) h0

/-- **C02 end to end, MERGE + SET / MULTISET + Precision** -/
theorem diff_render_read_patch_mergeSet_precision (F : FloatEq0) (L : FloatLaws) (nc : NumCodec)
    {o : Opts} {a b : Json} (hmg : isMerge o = true)
    (hm : dispatchTag o = .set ∨ dispatchTag o = .mset) (hk : keysOf o = none) (M : PrecMono o)
    (ha : a.setDoc = true) (hb : b.setDoc = true)
    (hn : b.nullFree = true) (hvf : Merge.objVoidFree b = true)
    (HF : HashFaithful (stripPrec o) (subterms a ++ subterms b))
    (hv : ∀ z ∈ subterms b, ValOK nc z) (hpth : ∀ h ∈ diffM o a b, PathOK nc h.path)
    (text : String) (hr : renderM nc [] (diffM o a b) = some text) :
    ∃ d', readDiffM nc text = .ok d' ∧ d' = normDiff (diffM o a b) ∧
      ∃ r, patchM a d' = .ok r ∧ equals o r b = true ∧ equals (stripPrec o) r b = true ∧
        equivB (stripPrec o) r b = true ∧ (dispatchTag o = .set → equivB o r b = true) := by
  rw [SP.diffM_strip o hm a b (SP.rawDoc_of_setDoc ha)] at hpth hr ⊢
  obtain ⟨d', h1, h2, r, h3, h4, h5⟩ := E2ES.diff_render_read_patch_mergeSet F L nc
    (setMergeDom_strip hmg hm hk ha hb hn hvf HF) hv hpth text hr
  exact ⟨d', h1, h2, r, h3,
    SP.equals_of_strip M h4, h4, h5,
    fun hd => SP.equivB_of_strip hd M h5⟩

/-- **end to end, MERGE + SET / MULTISET + Precision, total form** -/
theorem diff_print_read_patch_mergeSet_precision (F : FloatEq0) (L : FloatLaws) (nc : NumCodec)
    {o : Opts} {a b : Json} (hmg : isMerge o = true)
    (hm : dispatchTag o = .set ∨ dispatchTag o = .mset) (hk : keysOf o = none) (M : PrecMono o)
    (ha : a.setDoc = true) (hb : b.setDoc = true)
    (hn : b.nullFree = true) (hvf : Merge.objVoidFree b = true)
    (HF : HashFaithful (stripPrec o) (subterms a ++ subterms b))
    (hv : ∀ z ∈ subterms b, (marshalNode nc z).isSome = true ∧ ValOK nc z)
    (hpth : ∀ h ∈ diffM o a b, (jsonM nc (pathToJson h.path)).isSome = true ∧ PathOK nc h.path) :
    ∃ text d' r, renderM nc [] (diffM o a b) = some text ∧ readDiffM nc text = .ok d' ∧
      patchM a d' = .ok r ∧ equals o r b = true ∧ equivB (stripPrec o) r b = true ∧
      (dispatchTag o = .set → equivB o r b = true) := by
  obtain ⟨text, ht⟩ := (diffM_readable_mergeSet_precision F hmg hm hk ha hb hn hvf HF _
    (E2E.marshal_retag nc _) (fun z hz => (hv z hz).1)).renders nc (fun _ h => h)
    (fun h hh => (hpth h hh).1)
  obtain ⟨d', h1, _, r, h2, h3, _, h5, h6⟩ := diff_render_read_patch_mergeSet_precision F L nc hmg hm
    hk M ha hb hn hvf HF (fun z hz => (hv z hz).2) (fun h hh => (hpth h hh).2) text ht
  exact ⟨text, d', r, ht, h1, h2, h3, h5, h6⟩

/-! ## 4. MERGE + Precision in the LIST reading, through the text -/

section MergeListPrecision
open Jd.Merge (mh mapply mset consE objVoidFree objVoidFreeKvs dl dlKvs GoodB)
open Jd.MSet (Rel)
open Jd.Merge (untagE)

/-- **C02 end to end, MERGE strategy WITH a Precision, list reading of arrays.** The text printed
    for `a.Diff(b, MERGE, Precision(eps))` is read back as `d' = normDiff` of the diff (the same merge
    hunks, values as plain arrays), and the library's `a.Patch(d')` succeeds with a document that
    `Equals` `b` under the options and is equivalent to it (`equivB o`).  `b` may contain nulls. -/
theorem diff_render_read_patch_mergeList_precision (L : FloatLaws) (nc : NumCodec) (o : Opts)
    (hm : isMerge o = true) (ho : dispatchTag o = .list)
    (hp : nonnegBits (precOf o) = true) (M : PrecMono o) (a b : Json)
    (haw : a.wf = true) (har : a.rawDoc = true)
    (hbw : b.wf = true) (hbr : b.rawDoc = true)
    (hbv : objVoidFree b = true) (hbf : b.finiteNums = true)
    (hv : ∀ z ∈ subterms b, ValOK nc z)
    (hpth : ∀ h ∈ diffM o a b, PathOK nc h.path)
    (text : String) (hr : renderM nc [] (diffM o a b) = some text) :
    ∃ d', readDiffM nc text = .ok d' ∧ d' = normDiff (diffM o a b) ∧
      ∃ r, patchM a d' = .ok r ∧ equals o r b = true ∧ equivB o r b = true := by
  have G : MP.GoodN b := ⟨hbw, hbr, hbv, hbf⟩
  have S := E2ES.memSoundU_list_precision L o ho hp M a haw har b G
  rw [Merge.diffM_eq_dl o ho hm a b har hbr hbv] at hr hpth ⊢
  exact ⟨_, ((Merge.pDiff_dl o).readable a b _ (E2E.valOK_retag nc .list) hv).read nc
    (fun _ h => h) hpth text hr, rfl, _, E2ES.patchM_normDiff_mh _ a, S.1, S.2⟩

/-- **end to end, MERGE + Precision, list reading, total form** -/
theorem diff_print_read_patch_mergeList_precision (L : FloatLaws) (nc : NumCodec) (o : Opts)
    (hm : isMerge o = true) (ho : dispatchTag o = .list)
    (hp : nonnegBits (precOf o) = true) (M : PrecMono o) (a b : Json)
    (haw : a.wf = true) (har : a.rawDoc = true)
    (hbw : b.wf = true) (hbr : b.rawDoc = true)
    (hbv : objVoidFree b = true) (hbf : b.finiteNums = true)
    (hv : ∀ z ∈ subterms b, (marshalNode nc z).isSome = true ∧ ValOK nc z)
    (hpth : ∀ h ∈ diffM o a b, (jsonM nc (pathToJson h.path)).isSome = true ∧ PathOK nc h.path) :
    ∃ text d' r, renderM nc [] (diffM o a b) = some text ∧ readDiffM nc text = .ok d' ∧
      patchM a d' = .ok r ∧ equals o r b = true ∧ equivB o r b = true := by
  obtain ⟨text, ht⟩ := (E2ES.diffM_readable_mergeList o ho hm a b har hbr hbv _
    (E2E.marshal_retag nc .list) (fun z hz => (hv z hz).1)).renders nc (fun _ h => h)
    (fun h hh => (hpth h hh).1)
  obtain ⟨d', h1, _, r, h2, h3, h4⟩ := diff_render_read_patch_mergeList_precision L nc o hm ho hp M
    a b haw har hbw hbr hbv hbf (fun z hz => (hv z hz).2) (fun h hh => (hpth h hh).2) text ht
  exact ⟨text, d', r, ht, h1, h2, h3, h4⟩

end MergeListPrecision

/-! ## 5. colour (JdProofs.NativeColor), for SET / MULTISET with a Precision -/

/-- **`jd -color -set -precision eps a b`, ANSI sequences stripped, `| jd -p`** (SET / MULTISET +
    Precision, strict strategy; instance of `color_text_then_strip` + the end-to-end theorem): the
    colour text exists, is NOT the input of the reader, but with the ANSI sequences removed it is
    read back as a diff that patches `a` to a document that `Equals` `b` -/
theorem color_strip_end_to_end_set_precision (F : FloatEq0) (L : FloatLaws) (nc : NumCodec)
    (o : Opts) (hm : dispatchTag o = .set ∨ dispatchTag o = .mset) (hk : keysOf o = none)
    (hmg : isMerge o = false) (M : PrecMono o) (a b : Json)
    (ha : a.setDoc = true) (hb : b.setDoc = true)
    (hva : E2E.voidFree a = true) (hvb : E2E.voidFree b = true)
    (HF : HashFaithful (stripPrec o) (subterms a ++ subterms b))
    (hv : ∀ z ∈ subterms a ++ subterms b, ValOK nc z ∧ NoEscVal nc z)
    (hpth : ∀ h ∈ diffM o a b, PathOK nc h.path ∧ NoEscPath nc h.path)
    (ctext : String) (hc : renderM nc [.color] (diffM o a b) = some ctext) :
    ∃ d', readDiffM nc (String.ofList (stripAnsi ctext.toList)) = .ok d' ∧
      ∃ r, patchM a d' = .ok r ∧ equals o r b = true ∧ equivB (stripPrec o) r b = true := by
  have hm' : DES.SetReading o := by
    rcases hm with hd | hd
    · exact .inl ⟨hd, hk⟩
    · exact .inr hd
  have ha' := ha
  have hb' := hb
  simp only [Json.setDoc, Bool.and_eq_true] at ha' hb'
  have FH := DES.diffFaithful_of_hashFaithful F (by simpa using hm) (SP.precOf_strip o)
    (docOk_of_setDoc ha) (docOk_of_setDoc hb) HF
  have hn := (diffM_carried_set_precision hm' hmg a b ha'.1.1.1 ha'.1.1.2 hb'.1.1.1 hb'.1.1.2 hva hvb
    FH).noEsc nc (fun z hz => (hv z hz).2) (fun h hh => (hpth h hh).2)
  obtain ⟨d', h1, _, r, h2, _, h3, _, h4, _⟩ := diff_render_read_patch_set_precision F L nc o hm hk
    hmg M a b ha hb hva hvb HF (fun z hz => (hv z hz).1) (fun h hh => (hpth h hh).1) _
    (color_text_then_strip nc _ hn ctext hc)
  exact ⟨d', h1, r, h2, h3, h4⟩


/-! ## 6. non-vacuity: a concrete pair WITH numbers, the concrete codec `NativeRT.exCodec` -/

namespace Example
set_option linter.unusedSimpArgs false

abbrev one : UInt64 := 0x3ff0000000000000
abbrev two : UInt64 := 0x4000000000000000
abbrev three : UInt64 := 0x4008000000000000
/-- `0.001` -/
abbrev eps : UInt64 := 0x3f50624dd2f1a9fc

/-- `{"n":1,"s":[1,{"k":2}]}` -/
def nA : Json := .obj [("n", .num one), ("s", .arr .raw [.num one, .obj [("k", .num two)]])]
/-- `{"n":3,"s":[{"k":2},3]}` -/
def nB : Json := .obj [("n", .num three), ("s", .arr .raw [.obj [("k", .num two)], .num three])]

/-- the contract on `json.Marshal` / the JSON reader (success, no newline, read back, no ESC) on
    every sub-term of the two documents: the first two from the text round trip, the last by
    evaluating the printer -/
theorem vals : ∀ z ∈ subterms nA ++ subterms nB,
    (marshalNode exCodec z).isSome = true ∧ ValOK exCodec z ∧ NoEscVal exCodec z := by
  intro z hz
  have h := E2ES.vals_textOK exCodec nA nB (by decide) (by decide) (by decide) (by decide) z hz
  have he : (subterms nA ++ subterms nB).all (fun z =>
      (marshalNode exCodec z).all (fun t => !t.toList.contains '\x1b')) = true := by decide +kernel
  exact ⟨h.1, h.2, noEscVal_of_check (List.all_eq_true.1 he z hz)⟩

theorem vals_B : ∀ z ∈ subterms nB,
    (marshalNode exCodec z).isSome = true ∧ ValOK exCodec z ∧ NoEscVal exCodec z :=
  fun z hz => vals z (List.mem_append_right _ hz)

theorem docs : nA.setDoc = true ∧ nB.setDoc = true ∧ E2E.voidFree nA = true ∧
    E2E.voidFree nB = true ∧ nB.nullFree = true ∧ Merge.objVoidFree nB = true ∧
    nA.wf = true ∧ nA.rawDoc = true ∧ nB.wf = true ∧ nB.rawDoc = true ∧ nB.finiteNums = true ∧
    nonnegBits eps = true := by decide

/-- no two sub-terms of the pair collide (relative to `|x - x| ≤ 0` for `1`, `2`, `3`) -/
theorem hf_set (L : FloatLaws) (o : Opts) (ho : o = [.set] ∨ o = [.merge, .set]) :
    HashFaithful o (subterms nA ++ subterms nB) := by
  rcases ho with rfl | rfl <;> exact faithful_of_eqCheck L _ (by decide) (by decide +kernel)

theorem hf_mset (L : FloatLaws) (o : Opts) (ho : o = [.mset] ∨ o = [.merge, .mset]) :
    HashFaithful o (subterms nA ++ subterms nB) := by
  rcases ho with rfl | rfl <;> exact faithful_of_eqCheck L _ (by decide) (by decide +kernel)

/-- the option lists of the example: SET resp. MULTISET with `Precision(0.001)` -/
def oS : Opts := [.set, .prec eps]
def oM : Opts := [.mset, .prec eps]

theorem path_tail (k : String) (hk : k = "n" ∨ k = "s") (tl : Path) (ht : RealS.isTail tl) :
    (jsonM exCodec (pathToJson (.key k :: tl))).isSome = true ∧
      PathOK exCodec (.key k :: tl) ∧ NoEscPath exCodec (.key k :: tl) := by
  have h := E2ES.key_tail_textOK exCodec k ht
  refine ⟨h.1, h.2, noEscPath_of_check ?_⟩
  rcases hk with rfl | rfl <;> rcases ht with rfl | rfl | rfl <;> decide +kernel

theorem faithful (o : Opts) (ho : o = oS ∨ o = oM) :
    DES.DiffFaithful (stripPrec o) (subterms nA) (subterms nB) := by
  rcases ho with rfl | rfl <;> exact DES.diffFaithful_of_check (by decide +kernel)

theorem reading (o : Opts) (ho : o = oS ∨ o = oM) : DES.SetReading o := by
  rcases ho with rfl | rfl
  · exact .inl ⟨rfl, rfl⟩
  · exact .inr rfl

/-- the contract on the paths of the diff, without computing the diff -/
theorem paths (o : Opts) (ho : o = oS ∨ o = oM) : ∀ h ∈ diffM o nA nB,
    (jsonM exCodec (pathToJson h.path)).isSome = true ∧ PathOK exCodec h.path ∧
      NoEscPath exCodec h.path := by
  intro h hh
  have hm := reading o ho
  rw [diffM_strip_reading hm nA nB (by decide)] at hh
  obtain ⟨k, tl, ht, hpath, hk⟩ := E2ES.flat_paths_set (SP.setReading_strip hm) (SP.precOf_strip o)
    (isMerge_strip_false (by rcases ho with rfl | rfl <;> rfl)) _ _ (by decide) (by decide) (by decide)
    (by decide) (faithful o ho) (by decide) h hh
  rw [hpath]
  refine path_tail k ?_ tl ht
  rcases hk with hk | hk <;> simp at hk <;> exact hk

/-- **non-vacuity of §1 (SET / MULTISET + Precision, strict)**: every hypothesis of
    `diff_print_read_patch_set_precision` holds for `{"n":1,"s":[1,{"k":2}]}` → `{"n":3,"s":[{"k":2},3]}`
    under `[SET, Precision(0.001)]` and `[MULTISET, Precision(0.001)]`; only IEEE facts remain -/
theorem ex_set_precision (F : FloatEq0) (L : FloatLaws) (o : Opts) (ho : o = oS ∨ o = oM)
    (M : PrecMono o) :
    ∃ text d' r, renderM exCodec [] (diffM o nA nB) = some text ∧ readDiffM exCodec text = .ok d' ∧
      patchM nA d' = .ok r ∧ equals o r nB = true ∧ equivB (stripPrec o) r nB = true ∧
      (dispatchTag o = .set → equivB o r nB = true) := by
  have HF : HashFaithful (stripPrec o) (subterms nA ++ subterms nB) := by
    rcases ho with rfl | rfl
    · exact hf_set L _ (.inl rfl)
    · exact hf_mset L _ (.inl rfl)
  have hm : dispatchTag o = .set ∨ dispatchTag o = .mset := DES.SetReading.tag (reading o ho)
  exact diff_print_read_patch_set_precision F L exCodec o hm (by rcases ho with rfl | rfl <;> rfl)
    (by rcases ho with rfl | rfl <;> rfl) M nA nB docs.1 docs.2.1 docs.2.2.1 docs.2.2.2.1 HF
    (fun z hz => ⟨(vals z hz).1, (vals z hz).2.1⟩)
    (fun h hh => ⟨(paths o ho h hh).1, (paths o ho h hh).2.1⟩)

/-- **non-vacuity of §3 (MERGE + SET / MULTISET + Precision)** -/
theorem ex_mergeSet_precision (F : FloatEq0) (L : FloatLaws) (o : Opts)
    (ho : o = .merge :: oS ∨ o = .merge :: oM) (M : PrecMono o) :
    ∃ text d' r, renderM exCodec [] (diffM o nA nB) = some text ∧ readDiffM exCodec text = .ok d' ∧
      patchM nA d' = .ok r ∧ equals o r nB = true ∧ equivB (stripPrec o) r nB = true ∧
      (dispatchTag o = .set → equivB o r nB = true) := by
  obtain ⟨a0, b0, _, _, b3, b4, _⟩ := docs
  have HF : HashFaithful (stripPrec o) (subterms nA ++ subterms nB) := by
    rcases ho with rfl | rfl
    · exact hf_set L _ (.inr rfl)
    · exact hf_mset L _ (.inr rfl)
  have hmg : isMerge o = true := by rcases ho with rfl | rfl <;> rfl
  have hm : dispatchTag o = .set ∨ dispatchTag o = .mset := by
    rcases ho with rfl | rfl
    · exact .inl rfl
    · exact .inr rfl
  have hk : keysOf o = none := by rcases ho with rfl | rfl <;> rfl
  refine diff_print_read_patch_mergeSet_precision F L exCodec hmg hm hk M a0 b0 b3 b4 HF
    (fun z hz => ⟨(vals_B z hz).1, (vals_B z hz).2.1⟩) ?_
  rw [SP.diffM_strip o hm nA nB (by decide),
    E2ES.diffM_mergeSet_eq F (setMergeDom_strip hmg hm hk a0 b0 b3 b4 HF)]
  exact E2ES.paths_mh_textOK exCodec _

/-- the diff of the pair is not empty (relative to: `1` and `3` are not within `0` of each other) -/
theorem diff_ne_nil (F : FloatEq0) (o : Opts) (ho : o = oS ∨ o = oM) : diffM o nA nB ≠ [] := by
  intro h
  have e := (SP.diffM_nil_iff_equals_strip o (reading o ho) nA nB (by decide) (by decide) (by decide)
    (faithful o ho)).1 h
  have hne : numWithin 0 one three = false := by
    cases hw : numWithin 0 one three with
    | false => rfl
    | true =>
      exact absurd (F.eq_of_within0 one three (by decide) (by decide) (by decide) (by decide) hw)
        (by decide)
  rcases ho with rfl | rfl <;>
    simp [oS, oM, stripPrec, nA, nB, equals, equalsKvs, alookup, precOf, hne] at e

/-- **non-vacuity of §5 (colour)**: for the pair under `[SET, Precision(0.001)]` the colour text
    EXISTS, `ReadDiffString` does NOT return a diff for it, and with the ANSI sequences stripped it
    is read back as a diff that patches the first document to one that `Equals` the second -/
theorem ex_color (F : FloatEq0) (L : FloatLaws) (M : PrecMono oS) :
    ∃ ctext, renderM exCodec [.color] (diffM oS nA nB) = some ctext ∧
      (∀ d', readDiffM exCodec ctext ≠ .ok d') ∧
      ∃ d' r, readDiffM exCodec (String.ofList (stripAnsi ctext.toList)) = .ok d' ∧
        patchM nA d' = .ok r ∧ equals oS r nB = true := by
  have ho : oS = oS ∨ oS = oM := .inl rfl
  have hm := reading oS ho
  obtain ⟨text, d', r, h1, h2, h3, h4, _⟩ := ex_set_precision F L oS ho M
  have C := diffM_carried_set_precision hm rfl nA nB (by decide) (by decide) (by decide) (by decide)
    docs.2.2.1 docs.2.2.2.1 (faithful oS ho)
  have hn : NoEsc exCodec (diffM oS nA nB) :=
    C.noEsc exCodec (fun z hz => (vals z hz).2.2) (fun h hh => (paths oS ho h hh).2.2)
  obtain ⟨ctext, hc, hs⟩ := color_text_exists exCodec _ hn text h1
  refine ⟨ctext, hc, fun d'' => ?_, d', r, by rw [hs]; exact h2, h3, h4⟩
  obtain ⟨h, hh⟩ := List.exists_mem_of_ne_nil _ (diff_ne_nil F oS ho)
  have hw : wfHunk h = true := by
    have := C.wf
    simp only [wfDiff, Bool.and_eq_true, List.all_eq_true] at this
    exact this.1 h hh
  refine color_diff_not_read exCodec _ ctext hc h hh (fun x y hxy => ?_) (wfHunk_printsChange hw) d''
  have hmem : Json.str x ∈ subterms nA ++ subterms nB :=
    C.pay h hh (.str x) (by simp [payloads, hxy.1, Json.isVoid])
  simp [nA, nB, subterms, subtermsList, subtermsKvs] at hmem

end Example

/-! ## 7. the float hypotheses are needed THROUGH THE TEXT too -/

namespace Witness
set_option linter.unusedSimpArgs false

theorem read_empty (nc : NumCodec) : readDiffM nc "" = .ok [] := by
  have : "".splitOn "\n" = [""] := by rw [splitOn_nl]; simp [splitNL]
  simp [readDiffM, this, readLines, readLine, Gen.readerNonTerminal, RState.name]

theorem path_root : (jsonM exCodec (pathToJson [])).isSome = true ∧ PathOK exCodec [] ∧
    NoEscPath exCodec [] :=
  ⟨(E2E.path_textOK exCodec [] rfl rfl).1, (E2E.path_textOK exCodec [] rfl rfl).2,
    noEscPath_of_check (by decide +kernel)⟩

/-- **`nonnegBits (precOf o)` is needed through the text (MERGE + Precision, list reading)**,
    relative to the IEEE fact that `|1 - 1| ≤ eps` is false for a negative or NaN `eps` (the CLI
    accepts `-precision=-1`): `null → 1` under `[MERGE, Precision(eps)]` prints
    `^ {"Merge":true}` / `@ []` / `+ 1`, the text is read back, `jd -p` gives `1`, and `1` does not
    `Equals` the target `1` under the options -/
theorem negative_precision_breaks_text (eps : UInt64)
    (h : numWithin eps Example.one Example.one = false) :
    ∃ text d', renderM exCodec [] (diffM [.merge, .prec eps] .null (.num Example.one)) = some text ∧
      readDiffM exCodec text = .ok d' ∧ patchM .null d' = .ok (.num Example.one) ∧
      equals [.merge, .prec eps] (.num Example.one) (.num Example.one) = false := by
  have hv : ∀ z ∈ subterms (.num Example.one),
      (marshalNode exCodec z).isSome = true ∧ ValOK exCodec z := by
    intro z hz
    simp only [subterms, List.mem_singleton] at hz
    subst hz
    have := Example.vals (.num Example.one) (by simp [Example.nA, subterms, subtermsList, subtermsKvs])
    exact ⟨this.1, this.2.1⟩
  have hd : diffM [.merge, .prec eps] .null (.num Example.one) = [Merge.mh [] (.num Example.one)] := by
    rw [Merge.diffM_eq_dl [.merge, .prec eps] rfl rfl .null (.num Example.one) rfl rfl rfl]
    simp [Merge.dl, equals, Json.isNull]
  have hp : ∀ h ∈ diffM [.merge, .prec eps] .null (.num Example.one),
      (jsonM exCodec (pathToJson h.path)).isSome = true ∧ PathOK exCodec h.path := by
    intro h hh
    rw [hd, List.mem_singleton] at hh
    subst hh
    exact ⟨path_root.1, path_root.2.1⟩
  obtain ⟨text, ht⟩ := (E2ES.diffM_readable_mergeList [.merge, .prec eps] rfl rfl .null
    (.num Example.one) rfl rfl rfl _ (E2E.marshal_retag exCodec .list)
    (fun z hz => (hv z hz).1)).renders exCodec (fun _ h => h) (fun h hh => (hp h hh).1)
  obtain ⟨d', h1, _, h3⟩ := E2ES.diff_text_lossless_mergeList exCodec [.merge, .prec eps] rfl rfl .null
    (.num Example.one) rfl rfl rfl (fun z hz => (hv z hz).2) (fun h hh => (hp h hh).2) text ht
  obtain ⟨m1, m2⟩ := MP.Witness.negative_precision_breaks true eps Example.one h
  refine ⟨text, d', ht, h1, ?_, m2⟩
  have e := h3 .null
  have m1' : patchM .null (diffM [.merge, .prec eps] .null (.num Example.one))
      = .ok (.num Example.one) := m1
  rw [m1'] at e
  cases hr : patchM .null d' with
  | ok r =>
    rw [hr] at e
    simp only [Outcome.mapO] at e
    cases r <;> simp_all [untag]
  | err => rw [hr] at e; simp [Outcome.mapO] at e
  | panic => rw [hr] at e; simp [Outcome.mapO] at e

end Witness

end Jd.E2EP
