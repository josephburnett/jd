/-
  JdProofs.MergePrecision — properties C01, C11 and C05(⇒) of the v2 library for the MERGE strategy
  TOGETHER WITH A PRECISION OPTION, list reading of arrays (option lists such as
  `[.merge, .prec eps]`, which is exactly what the CLI builds for `jd -f merge -precision eps`; the
  CLI refuses `-precision` with `-set` / `-mset`, so the list reading is the only one that matters).
  Namespace `Jd.MP`. `DPK.merge_diff_then_patch_list` and `equals_of_diffM_nil_merge` carry the
  hypothesis `precOf o = 0`; the theorems here do not.

  What the code does (model = code, branch by branch). In MERGE mode `diffNode` recurses through
  objects, compares two ARRAYS with `Equals(options)` — WITH the precision: arrays within `eps` are
  not reported — and sends scalars to `diff_common.go`, which calls `Equals()` WITHOUT options
  (KF-C05-precision): a number that moved by less than `eps` IS reported and replaced. So the result
  of diff-then-patch consists of parts of `a` that were found `Equals(o)` (arrays) or `Equals()`
  (scalars) to the part of `b` at the same place, and of parts of `b` itself. "Within eps" is not
  transitive, and no proof below uses transitivity.

  §1 C01 in memory: `merge_diff_then_patch_list_precision` (`_nulls`: without `b.nullFree` — in memory
     a merge hunk whose value is `null` stores `null`; only `void` deletes), read off the induction
     `Merge.memSound_list`, which is stated for any non-negative precision. The conclusion
     `specEq r b` of the precision-free theorem is false here (`Witness.specEq_fails_array`).
  §2 C11: `merge_render_correct_precision_gen` (whenever the diff is not empty or `a` is an object;
     under a precision this is WEAKER than "the documents differ under the options"), and the forms
     with C11's wording; all are read off `Merge.merge_render_list` applied to the induction
     `Merge.sound_list`.
  §3 C05 (⇒): `equals_of_diffM_nil_merge_precision`; §3b the (⇐) that survives:
     `Equals() ⇒ Diff(o) = [] ⇒ Equals(o)`, and neither arrow reverses (`Witness`).

  Hypotheses and why
    `FloatLaws` (JdSpec; only `refl` is used), `DPL.PrecMono o` (`numWithin 0 u v → numWithin (precOf o)
      u v`): IEEE-754 facts; `numWithin` is a runtime `Float` computation, opaque to the kernel.
      `PrecMono` is what turns "equal for `diff_common.go`" into "equal under the options". It is
      used: `Witness.precMono_used`.
    `nonnegBits (precOf o)` (decidable; §1, §2 only): the precision is a finite number ≥ +0, so that
      `Equals` is reflexive on finite numbers. Needed: `Witness.negative_precision_breaks`
      (`jd -f merge -precision=-1` is accepted by the CLI). It also excludes `eps = +Inf`, for which
      the statement is presumably true — not decided.
    `b.finiteNums`: `NaN` is not `Equals` to itself. JSON text has no NaN / Inf.
    `a.wf`, `a.rawDoc`, `b.wf`, `b.rawDoc`: documents as read from JSON / YAML text; `objVoidFree b`:
      void is not a JSON value. `a` may contain `null`s and void members.
    `b.nullFree` (§2 only): the domain of JSON Merge Patch.
    §2 `diffM o a b ≠ [] ∨ a.isObj`: needed: `Witness.render_equal_nonobject`.
  The witnesses are stated relative to the one or two IEEE facts about concrete numbers they depend
  on, which the `#eval`s at the end evaluate with the runtime.
  Not proved: the SET / MULTISET / SetKeys readings with a precision; `eps = +Inf`; the v1 library.
-/
import JdModel
import JdSpec
import JdProofs.Common
import JdProofs.EqualsList
import JdProofs.DiffEmpty
import JdProofs.MergeProofs
import JdProofs.MergeSetModes
import JdProofs.DiffPatchList
import JdProofs.DiffPatchKeys

namespace Jd.MP
open Jd Jd.Spec Jd.Merge
open Jd.MSet (Rel)
open Jd.DPL (PrecMono)
open Jd.DPK (MemSound patchAll_diffM_list)

/-! ## 1. C01, MERGE strategy in memory, list reading, with a Precision option -/

/-- **C01, MERGE strategy in memory, list reading of arrays, WITH a Precision option, `null`s
    allowed in `b`** (any option list with MERGE, no SET / MULTISET / SetKeys; either variant `sw`
    of the patch code): for documents as read from text, `a.Patch(a.Diff(b, MERGE, Precision(eps)))`
    succeeds and its result `Equals` `b` under the options and is equivalent to it (`equivB o`).
    (`b.nullFree` is NOT needed when the diff value is applied in memory: a merge hunk carrying
    `null` stores `null`; `null` means "delete" only in the RFC 7386 text, §2.) -/
theorem merge_diff_then_patch_list_precision_nulls (L : FloatLaws) (sw : Bool) (o : Opts)
    (hm : isMerge o = true) (ho : dispatchTag o = .list)
    (hp : nonnegBits (precOf o) = true) (M : PrecMono o) (a b : Json)
    (haw : a.wf = true) (har : a.rawDoc = true)
    (hbw : b.wf = true) (hbr : b.rawDoc = true)
    (hbv : objVoidFree b = true) (hbf : b.finiteNums = true) :
    ∃ r, patchAll sw a (diffM o a b) = .ok r ∧ equals o r b = true ∧ equivB o r b = true := by
  have G : GoodN b := ⟨hbw, hbr, hbv, hbf⟩
  have S := Merge.memSound_list L o ho hp M a haw har b G
  exact ⟨_, patchAll_diffM_list sw o ho hm a b har hbr hbv, S.1, S.2⟩

/-- **C01, MERGE strategy in memory, list reading of arrays, WITH a Precision option**: the
    statement of `DPK.merge_diff_then_patch_list` without `precOf o = 0` (and without the conclusion
    `specEq r b`, which is false: `Witness.specEq_fails_array`). The hypothesis `b.nullFree` (the
    domain of C01's merge reading) is that of `DPK.merge_diff_then_patch_list`; the proof does not use it. -/
theorem merge_diff_then_patch_list_precision (L : FloatLaws) (sw : Bool) (o : Opts)
    (hm : isMerge o = true) (ho : dispatchTag o = .list)
    (hp : nonnegBits (precOf o) = true) (M : PrecMono o) (a b : Json)
    (haw : a.wf = true) (har : a.rawDoc = true)
    (hbw : b.wf = true) (hbr : b.rawDoc = true) (_hbn : b.nullFree = true)
    (hbv : objVoidFree b = true) (hbf : b.finiteNums = true) :
    ∃ r, patchAll sw a (diffM o a b) = .ok r ∧ equals o r b = true ∧ equivB o r b = true :=
  merge_diff_then_patch_list_precision_nulls L sw o hm ho hp M a b haw har hbw hbr hbv hbf

/-- the library call itself for the option list of the CLI (`jd -f merge -precision eps`):
    `a.Patch(a.Diff(b, MERGE, Precision(eps)))` -/
theorem patchM_diffM_MERGE_precision (L : FloatLaws) (eps : UInt64)
    (hp : nonnegBits eps = true) (M : PrecMono [.merge, .prec eps]) (a b : Json)
    (haw : a.wf = true) (har : a.rawDoc = true)
    (hbw : b.wf = true) (hbr : b.rawDoc = true) (hbn : b.nullFree = true)
    (hbv : objVoidFree b = true) (hbf : b.finiteNums = true) :
    ∃ r, patchM a (diffM [.merge, .prec eps] a b) = .ok r ∧
      equals [.merge, .prec eps] r b = true ∧ equivB [.merge, .prec eps] r b = true :=
  merge_diff_then_patch_list_precision L true [.merge, .prec eps] rfl rfl hp M a b
    haw har hbw hbr hbn hbv hbf

/-! ## 2. C11 with a Precision option: the rendered RFC 7386 document, applied by `mergePatch` -/

/-- the library's merge diff of two documents as read from text is empty exactly when the pure
    diff is -/
theorem diffM_nil_iff_dl (o : Opts) (ho : dispatchTag o = .list) (hm : isMerge o = true)
    (a b : Json) (ha : a.rawDoc = true) (hb : b.rawDoc = true) (hv : objVoidFree b = true) :
    diffM o a b = [] ↔ dl o a b = [] := by
  rw [diffM_eq_of hm fun q => diffNode_eq_dl o ho a b q ha hb hv, List.map_eq_nil_iff]

/-- **C11 with a Precision option, general form** (MERGE, list reading of arrays): for documents as
    read from JSON text, `b` null-free, whenever the diff is NOT EMPTY (or `a` is an object), the
    diff renders to a JSON Merge Patch document `m`, and RFC 7386 `MergePatch(a, m)` is `b`: for
    the library's `Equals` under the options AND for the advertised equivalence `equivB`.
    (Under a precision a non-empty diff does not imply that `a` and `b` are told apart by `Equals`:
    KF-C05-precision; this form covers those pairs too.) -/
theorem merge_render_correct_precision_gen (L : FloatLaws) (o : Opts) (hm : isMerge o = true)
    (ho : dispatchTag o = .list) (hp : nonnegBits (precOf o) = true) (M : PrecMono o)
    (a b : Json) (haw : a.wf = true) (har : a.rawDoc = true)
    (hbw : b.wf = true) (hbr : b.rawDoc = true) (hbn : b.nullFree = true)
    (hbv : objVoidFree b = true) (hbf : b.finiteNums = true)
    (hne : diffM o a b ≠ [] ∨ a.isObj = true) :
    ∃ m, renderMergeDoc (diffM o a b) = .ok m ∧
      equals o (mergePatch a m) b = true ∧ equivB o (mergePatch a m) b = true :=
  have ⟨m, h1, _, _, h⟩ := merge_render_list hm ho har hbr hbv
    (sound_list L o ho hp M a haw har b ⟨hbw, hbr, hbn, hbv, hbf⟩)
  ⟨m, h1, h (hne.elim
    (fun hne => .inl fun hd => hne ((diffM_nil_iff_dl o ho hm a b har hbr hbv).2 hd))
    fun hobj => .inr (.inr hobj))⟩

/-- **C11 with a Precision option** (the statement of `Merge.merge_render_correct` without
    `precOf o = 0`, and with `Equals` in the conclusion too): for documents as read from JSON text,
    `b` null-free, that `Equals` (under the options, precision included) tells apart, the diff
    renders to a JSON Merge Patch document `m` and RFC 7386 `MergePatch(a, m)` is `b`. -/
theorem merge_render_correct_precision (L : FloatLaws) (o : Opts) (hm : isMerge o = true)
    (ho : dispatchTag o = .list) (hp : nonnegBits (precOf o) = true) (M : PrecMono o)
    (a b : Json) (haw : a.wf = true) (har : a.rawDoc = true)
    (hbw : b.wf = true) (hbr : b.rawDoc = true) (hbn : b.nullFree = true)
    (hbv : objVoidFree b = true) (hbf : b.finiteNums = true)
    (hne : equals o a b = false) :
    ∃ m, renderMergeDoc (diffM o a b) = .ok m ∧
      equals o (mergePatch a m) b = true ∧ equivB o (mergePatch a m) b = true :=
  have ⟨m, h1, _, _, h⟩ := merge_render_list hm ho har hbr hbv
    (sound_list L o ho hp M a haw har b ⟨hbw, hbr, hbn, hbv, hbf⟩)
  ⟨m, h1, h (.inr (.inl hne))⟩

/-- the same without `a ≠ b` when the first document is an object: the empty diff renders to `{}`,
    which RFC 7386 applies as the identity on objects -/
theorem merge_render_correct_precision_obj (L : FloatLaws) (o : Opts) (hm : isMerge o = true)
    (ho : dispatchTag o = .list) (hp : nonnegBits (precOf o) = true) (M : PrecMono o)
    (a b : Json) (haw : a.wf = true) (har : a.rawDoc = true)
    (hbw : b.wf = true) (hbr : b.rawDoc = true) (hbn : b.nullFree = true)
    (hbv : objVoidFree b = true) (hbf : b.finiteNums = true)
    (hobj : a.isObj = true) :
    ∃ m, renderMergeDoc (diffM o a b) = .ok m ∧
      equals o (mergePatch a m) b = true ∧ equivB o (mergePatch a m) b = true :=
  merge_render_correct_precision_gen L o hm ho hp M a b haw har hbw hbr hbn hbv hbf (Or.inr hobj)

/-- C11 for the option list of the CLI (`jd -f merge -precision eps`) -/
theorem merge_render_correct_MERGE_precision (L : FloatLaws) (eps : UInt64)
    (hp : nonnegBits eps = true) (M : PrecMono [.merge, .prec eps]) (a b : Json)
    (haw : a.wf = true) (har : a.rawDoc = true)
    (hbw : b.wf = true) (hbr : b.rawDoc = true) (hbn : b.nullFree = true)
    (hbv : objVoidFree b = true) (hbf : b.finiteNums = true)
    (hne : equals [.merge, .prec eps] a b = false) :
    ∃ m, renderMergeDoc (diffM [.merge, .prec eps] a b) = .ok m ∧
      equals [.merge, .prec eps] (mergePatch a m) b = true ∧
      equivB [.merge, .prec eps] (mergePatch a m) b = true :=
  merge_render_correct_precision L [.merge, .prec eps] rfl rfl hp M a b
    haw har hbw hbr hbn hbv hbf hne

/-- the rendered patch is a proper merge patch document: never void, and `null` never at the root
    (no law of `numWithin` is needed beyond those of the induction) -/
theorem merge_render_doc_precision (L : FloatLaws) (o : Opts) (hm : isMerge o = true)
    (ho : dispatchTag o = .list) (hp : nonnegBits (precOf o) = true) (M : PrecMono o)
    (a b : Json) (haw : a.wf = true) (har : a.rawDoc = true)
    (hbw : b.wf = true) (hbr : b.rawDoc = true) (hbn : b.nullFree = true)
    (hbv : objVoidFree b = true) (hbf : b.finiteNums = true) :
    ∃ m, renderMergeDoc (diffM o a b) = .ok m ∧ m.isVoid = false ∧ m.isNull = false :=
  have ⟨m, h1, h2, h3, _⟩ := merge_render_list hm ho har hbr hbv
    (sound_list L o ho hp M a haw har b ⟨hbw, hbr, hbn, hbv, hbf⟩)
  ⟨m, h1, h2, h3⟩

/-! ## 3. C05 (⇒) in MERGE mode with a Precision option: an empty diff means `Equals` -/

/-- a scalar whose merge diff is empty was found equal by `diff_common.go` WITHOUT the options, so it
    is `Equals` WITH them -/
theorem diffNode_scalar_nil (o : Opts) (M : PrecMono o) {a : Json} (h1 : a.isObj = false)
    (h2 : Merge.isArr a = false) (b : Json) (p : Path) (hd : diffNode o true a b p = []) :
    equals o a b = true := by
  rw [Merge.diffNode_scalar o h1 h2, diffCommon_nil_iff] at hd
  exact (rel_of_equals_nil_scalar o M h1 h2 hd).1

/-- (⇒), MERGE strategy, any precision: lists are compared by `Equals o` itself, objects
    member-wise, scalars by `Equals` without options (`PrecMono`) -/
theorem merge_equals_of_diff_nil (o : Opts) (ho : dispatchTag o = .list) (M : PrecMono o) :
    ∀ (a b : Json), a.listDoc = true → b.listDoc = true → a.wf = true → b.wf = true →
      ∀ p, diffNode o true a b p = [] → equals o a b = true := fun a b hl hl' hw hw' =>
  DES.equals_of_diff_nil_of
    (Q := fun a b => (a.wf = true ∧ a.listDoc = true) ∧ (b.wf = true ∧ b.listDoc = true))
    (members_wf_listDoc.pair members_wf_listDoc)
    (fun h => ⟨members_wf.sorted h.1.1, members_wf.sorted h.2.1⟩)
    (fun a b ⟨⟨_, hl⟩, ⟨_, hl'⟩⟩ hao p hd => by
      cases a with
      | obj _ => cases hao
      | arr t xs =>
        simp only [Json.listDoc, Bool.and_eq_true] at hl
        cases b with
        | arr t' ys =>
          simp only [Json.listDoc, Bool.and_eq_true] at hl'
          by_cases htt : t = .raw ∨ t' = .list
          · rw [DE.diffNode_arr_arr ho xs ys hl.1 hl'.1 htt] at hd
            rw [equals_arr_list ho xs ys hl.1 hl'.1]
            cases he : equalsList o xs ys with
            | true => rfl
            | false =>
              simp [equals_arr_list ho xs ys (t := .list) (t' := .list) rfl rfl, he] at hd
          · obtain ⟨rfl, rfl⟩ := DPL.tags_mixed hl.1 hl'.1 htt
            exact absurd hd (DE.diffNode_arr_other_ne ho xs _ hl.1 (.inr ⟨rfl, ys, rfl⟩) true p)
        | _ =>
          exact absurd hd (DE.diffNode_arr_other_ne ho xs _ hl.1
            (.inl (fun _ _ e => by cases e)) true p)
      | _ => exact diffNode_scalar_nil o M rfl rfl b p hd)
    a b ⟨⟨hw, hl⟩, ⟨hw', hl'⟩⟩

theorem merge_allLook_of_diffKvs_nil (o : Opts) (ho : dispatchTag o = .list) (M : PrecMono o) :
    ∀ (r kvs' : List (String × Json)), listDocKvs r = true → listDocKvs kvs' = true →
      wfKvs r = true → wfKvs kvs' = true →
      ∀ p, diffKvs o true p kvs' r = [] → AllLook (equals o) r kvs' :=
  fun r kvs' hl hl' hw hw' p => MSet.allLook_of_diffKvs_nil r fun k v v' hm hlk =>
    merge_equals_of_diff_nil o ho M v v' (List.all_eq_true.1 (listDocKvs_eq_all _ ▸ hl) (k, v) hm)
      (alookup_listDoc hlk hl') (DES.wfKvs_mem hw hm) (alookup_wf hlk hw') _

/-- **C05 (⇒), list reading, MERGE strategy, WITH a Precision option.** An empty diff means
    `Equals` under the options (and the advertised equivalence). No hypothesis on the precision
    other than the IEEE law `PrecMono`; no hash hypothesis; `null`s and non-finite numbers allowed. -/
theorem equals_of_diffM_nil_merge_precision (o : Opts) (ho : dispatchTag o = .list)
    (hm : isMerge o = true) (M : PrecMono o) (a b : Json)
    (hl : a.listDoc = true) (hl' : b.listDoc = true) (hw : a.wf = true) (hw' : b.wf = true)
    (hd : diffM o a b = []) : equals o a b = true ∧ equivB o a b = true := by
  unfold diffM at hd
  rw [hm] at hd
  have := merge_equals_of_diff_nil o ho M a b hl hl' hw hw' [] hd
  exact ⟨this, by rw [← equals_eq_equivB_list o ho a b hl hl']; exact this⟩

/-! ## 3b. the (⇐) direction that survives a Precision option: structurally equal documents
      (`Equals` without options) have an empty merge diff -/

theorem equalsList_mono (o : Opts) (ho : dispatchTag o = .list) (M : PrecMono o)
    (xs ys : List Json) (hx : listDocList xs = true) (hy : listDocList ys = true)
    (h : equalsList [] xs ys = true) : equalsList o xs ys = true := by
  rw [equalsList_eq_equivList [] rfl xs ys hx hy] at h
  rw [equalsList_eq_equivList o ho xs ys hx hy]
  exact DPL.equivList_imp [] o rfl ho M xs ys h

theorem diffNode_scalar_of_equals_nil (o : Opts) {a b : Json} (h1 : a.isObj = false)
    (h2 : Merge.isArr a = false) (h : equals [] a b = true) (p : Path) :
    diffNode o true a b p = [] := by
  rw [Merge.diffNode_scalar o h1 h2]
  exact (diffCommon_nil_iff true a b p).2 h

theorem diffNode_nil_of_equals_nil (o : Opts) (ho : dispatchTag o = .list) (M : PrecMono o) :
    ∀ (a b : Json), a.rawDoc = true → a.wf = true → b.listDoc = true → b.wf = true →
      equals [] a b = true → ∀ p, diffNode o true a b p = [] := fun a b hr hw hl' hw' =>
  pairInd (Q := fun a b => (a.wf = true ∧ a.rawDoc = true) ∧ (b.wf = true ∧ b.listDoc = true))
    (motive := fun a b => equals [] a b = true → ∀ p, diffNode o true a b p = [])
    (members_wf_rawDoc.pair members_wf_listDoc)
    (fun a b ⟨⟨_, hr⟩, ⟨_, hl'⟩⟩ hn h p => by
      cases a with
      | obj kvs =>
        cases b with
        | obj _ => cases hn
        | _ => simp [equals] at h
      | arr t xs =>
        have hla := rawDoc_listDoc _ hr
        simp only [Json.rawDoc, Bool.and_eq_true, beq_iff_eq] at hr
        obtain ⟨rfl, _⟩ := hr
        simp only [Json.listDoc, Bool.and_eq_true] at hla
        cases b with
        | arr t' ys =>
          simp only [Json.listDoc, Bool.and_eq_true] at hl'
          rw [DE.diffNode_arr_arr ho xs ys rfl hl'.1 (.inl rfl)]
          have he : equalsList [] xs ys = true := by
            rwa [equals_arr_list (o := []) rfl xs ys rfl hl'.1] at h
          have he' := equalsList_mono o ho M xs ys hla.2 hl'.2 he
          simp [equals_arr_list ho xs ys (t := .list) (t' := .list) rfl rfl, he']
        | _ => simp [equals, Json.dispatch, effTag, dispatchTag] at h
      | _ => exact diffNode_scalar_of_equals_nil o rfl rfl h p)
    (fun kvs kvs' ⟨⟨hw, _⟩, ⟨hw', _⟩⟩ ih h p => by
      have h1 := (equals_obj_iff [] (members_wf.sorted hw) (members_wf.sorted hw')).1 h
      rw [DE.diffNode_obj_obj,
        MSet.diffKvs_nil_of_members kvs (fun k v hm => by
          obtain ⟨v', hl, he⟩ := h1.1 k v hm
          exact ⟨v', hl, ih k v v' hm hl he _⟩),
        filter_added_nil h1.2]
      rfl)
    a b ⟨⟨hw, hr⟩, ⟨hw', hl'⟩⟩

theorem diffKvs_nil_of_equals_nil (o : Opts) (ho : dispatchTag o = .list) (M : PrecMono o) :
    ∀ (r kvs' : List (String × Json)), rawDocKvs r = true → wfKvs r = true →
      listDocKvs kvs' = true → wfKvs kvs' = true →
      equalsKvs [] r kvs' = true → ∀ p, diffKvs o true p kvs' r = [] :=
  fun r kvs' hr hw hl' hw' h p => MSet.diffKvs_nil_of_members r fun k v hm => by
    obtain ⟨v', hl, he⟩ :=
      (lookAll_iff _ _ _).1 ((equalsKvs_eq_lookAll [] kvs' r).symm.trans h) k v hm
    exact ⟨v', hl, diffNode_nil_of_equals_nil o ho M v v' (DES.rawDocKvs_mem hr hm)
      (DES.wfKvs_mem hw hm) (alookup_listDoc hl hl') (alookup_wf hl hw') he _⟩

/-- **C05 (⇐) as far as it holds in MERGE mode with a Precision option**: documents that are
    `Equals` WITHOUT options (structurally equal; `specEq`) have an empty diff. Together with §3:
    `Equals() ⇒ Diff(o) = [] ⇒ Equals(o)`; neither arrow can be reversed
    (`Witness.converse_fails_scalar`, `Witness.specEq_fails_array`). -/
theorem diffM_nil_of_equals_nil_merge_precision (o : Opts) (ho : dispatchTag o = .list)
    (hm : isMerge o = true) (M : PrecMono o) (a b : Json)
    (hr : a.rawDoc = true) (hw : a.wf = true) (hl' : b.listDoc = true) (hw' : b.wf = true)
    (h : equals [] a b = true) : diffM o a b = [] := by
  unfold diffM
  rw [hm]
  exact diffNode_nil_of_equals_nil o ho M a b hr hw hl' hw' h []

/-- the same with the structural equality of the specification as hypothesis -/
theorem diffM_nil_of_specEq_merge_precision (o : Opts) (ho : dispatchTag o = .list)
    (hm : isMerge o = true) (M : PrecMono o) (a b : Json)
    (hr : a.rawDoc = true) (hw : a.wf = true) (hl' : b.listDoc = true) (hw' : b.wf = true)
    (h : specEq a b = true) : diffM o a b = [] := by
  refine diffM_nil_of_equals_nil_merge_precision o ho hm M a b hr hw hl' hw' ?_
  rw [equals_eq_equivB_list [] rfl a b (rawDoc_listDoc a hr) hl']
  exact h

/-! ## 4. counter-witnesses and what the hypotheses are for

  `numWithin` is a runtime `Float` computation that the kernel cannot evaluate, so every witness is
  stated relative to the one or two IEEE facts about concrete numbers it depends on (the `#eval`s at
  the end of the file evaluate them with the runtime: `eps = 0.01`, `x = 1`, `y = 1.00001`; and
  `eps = -1`). -/

namespace Witness

/-- the option list of `jd -f merge -precision eps` -/
abbrev oP (eps : UInt64) : Opts := [.merge, .prec eps]

/-- **The converse of §3 fails = KF-C05-precision in MERGE mode.** Two numbers within `eps` of each
    other but not within `+0` (`1` and `1.00001` under `-precision 0.01`) are `Equals` under the
    options, but the diff is not empty: `diff_common.go` compares scalars WITHOUT the options, and
    the number is replaced. -/
theorem converse_fails_scalar (eps x y : UInt64) (h1 : numWithin eps x y = true)
    (h0 : numWithin 0 x y = false) :
    equals (oP eps) (.num x) (.num y) = true ∧
      diffM (oP eps) (.num x) (.num y) = [{ merge := true, path := [], add := [.num y] }] := by
  refine ⟨by simp [equals, precOf, h1], ?_⟩
  unfold diffM
  rw [DE.diffNode_scalar _ _ _ _ (fun _ _ e => by cases e) (fun _ e => by cases e)]
  simp [diffCommon, equals, precOf, h0, isMerge]

/-- the same one level down, as an object member: `{"k":1}` vs `{"k":1.00001}` -/
theorem converse_fails_member (eps x y : UInt64) (h1 : numWithin eps x y = true)
    (h0 : numWithin 0 x y = false) :
    equals (oP eps) (.obj [("k", .num x)]) (.obj [("k", .num y)]) = true ∧
      diffM (oP eps) (.obj [("k", .num x)]) (.obj [("k", .num y)])
        = [{ merge := true, path := [.key "k"], add := [.num y] }] := by
  refine ⟨by simp [equals, equalsKvs, alookup, precOf, h1], ?_⟩
  unfold diffM
  rw [DE.diffNode_obj_obj, DE.diffKvs_cons, DE.diffKvs_nil]
  simp only [alookup, if_true]
  rw [DE.diffNode_scalar _ _ _ _ (fun _ _ e => by cases e) (fun _ e => by cases e)]
  simp [diffCommon, equals, precOf, h0, isMerge]

/-- inside an array two numbers within `eps` are not reported: `jsonList.diff` in merge mode compares
    the arrays with `Equals(options)` -/
theorem diffM_arr_within_eps (eps x y : UInt64) (h1 : numWithin eps x y = true) :
    diffM (oP eps) (.arr .raw [.num x]) (.arr .raw [.num y]) = [] := by
  unfold diffM
  rw [DE.diffNode_arr_arr (o := oP eps) rfl _ _ rfl rfl (.inl rfl)]
  simp [isMerge, equals, effTag, Json.dispatch, equalsList, precOf, h1]

/-- ... whereas inside an ARRAY the same two numbers are NOT reported: `jsonList.diff` in merge mode
    compares the arrays with `Equals(options)`. So `a.Patch(a.Diff(b))` keeps `[1]` where `b` has
    `[1.00001]`: the result `Equals` `b` under the options (§1) but is NOT structurally equal to it —
    the conclusion `specEq r b` of `DPK.merge_diff_then_patch_list` cannot be kept. -/
theorem specEq_fails_array (sw : Bool) (eps x y : UInt64) (h1 : numWithin eps x y = true)
    (h0 : numWithin 0 x y = false) :
    diffM (oP eps) (.arr .raw [.num x]) (.arr .raw [.num y]) = [] ∧
      patchAll sw (.arr .raw [.num x]) (diffM (oP eps) (.arr .raw [.num x]) (.arr .raw [.num y]))
        = .ok (.arr .raw [.num x]) ∧
      specEq (.arr .raw [.num x]) (.arr .raw [.num y]) = false := by
  have hd := diffM_arr_within_eps eps x y h1
  refine ⟨hd, ?_, ?_⟩
  · rw [hd]; simp [patchAll]
  · simp [specEq, equivB, dispatchTag, equivList, precOf, h0]

/-- **`nonnegBits (precOf o)` is needed** (relative to IEEE: `|y - y| ≤ eps` is false for a negative
    or NaN `eps`; the CLI accepts `-precision=-1`): under such a precision no number `Equals`
    itself, and `null → y` yields `y`, which does not `Equals` the target `y`. -/
theorem negative_precision_breaks (sw : Bool) (eps y : UInt64) (h : numWithin eps y y = false) :
    patchAll sw .null (diffM (oP eps) .null (.num y)) = .ok (.num y) ∧
      equals (oP eps) (.num y) (.num y) = false := by
  refine ⟨?_, by simp [equals, precOf, h]⟩
  rw [patchAll_diffM_list sw (oP eps) rfl rfl .null (.num y) rfl rfl rfl]
  simp [dl, equals, Json.isNull, mapply, mset]

/-- **`PrecMono o` is used**: if two numbers were within `+0` but not within `eps` (impossible in
    IEEE arithmetic for `eps ≥ +0`, not provable in the kernel), the diff would be empty and the
    result `a` would not `Equals` `b` under the options. -/
theorem precMono_used (sw : Bool) (eps x y : UInt64) (h0 : numWithin 0 x y = true)
    (h1 : numWithin eps x y = false) :
    diffM (oP eps) (.num x) (.num y) = [] ∧
      patchAll sw (.num x) (diffM (oP eps) (.num x) (.num y)) = .ok (.num x) ∧
      equals (oP eps) (.num x) (.num y) = false := by
  have hd : diffM (oP eps) (.num x) (.num y) = [] := by
    unfold diffM
    rw [DE.diffNode_scalar _ _ _ _ (fun _ _ e => by cases e) (fun _ e => by cases e)]
    simp [diffCommon, equals, precOf, h0]
  refine ⟨hd, ?_, by simp [equals, precOf, h1]⟩
  rw [hd]; simp [patchAll]

/-- **C11: "the diff is not empty (or `a` is an object)" is needed** in
    `merge_render_correct_precision_gen`: for two equal non-objects the empty diff renders to `{}`
    and RFC 7386 turns `true` into `{}`. (Any options; this is why C11 says "that differ".) -/
theorem render_equal_nonobject (eps : UInt64) :
    renderMergeDoc (diffM (oP eps) (.bool true) (.bool true)) = .ok (.obj []) ∧
      equals (oP eps) (mergePatch (.bool true) (.obj [])) (.bool true) = false := by
  constructor
  · unfold diffM
    rw [DE.diffNode_scalar _ _ _ _ (fun _ _ e => by cases e) (fun _ e => by cases e)]
    simp [diffCommon, equals, renderMergeDoc]
  · simp [mergePatch, mergeMembers, equals]

/-- under a precision the hypothesis `equals o a b = false` of `merge_render_correct_precision` is
    STRONGER than "the diff is not empty": `[1]` and `[1.00001]` under `-precision 0.01` are not
    told apart, the diff is empty, `RenderMerge` prints `{}`, and RFC 7386 turns `[1]` into `{}`,
    which is not `b`. (The pair is outside C11: the documents do not differ under the options.) -/
theorem render_within_eps_array (eps x y : UInt64) (h1 : numWithin eps x y = true) :
    renderMergeDoc (diffM (oP eps) (.arr .raw [.num x]) (.arr .raw [.num y])) = .ok (.obj []) ∧
      equals (oP eps) (mergePatch (.arr .raw [.num x]) (.obj [])) (.arr .raw [.num y]) = false := by
  constructor
  · rw [diffM_arr_within_eps eps x y h1]; simp [renderMergeDoc]
  · simp [mergePatch, mergeMembers, equals]

end Witness

/-! ## 5. non-vacuity: a concrete pair inside every hypothesis -/

namespace Example

/-- `0.01` -/
def eps : UInt64 := 0x3F847AE147AE147B
/-- `1`, `1.001`, `2` -/
def one : UInt64 := 0x3FF0000000000000
def one001 : UInt64 := 0x3FF004189374BC6A
def two : UInt64 := 0x4000000000000000

/-- `{"a":1,"b":[1,2],"c":{"d":"x","n":null},"p":1,"z":true}` (`a` may hold `null`s) -/
def exA : Json :=
  .obj [("a", .num one), ("b", .arr .raw [.num one, .num two]),
    ("c", .obj [("d", .str "x"), ("n", .null)]), ("p", .num one), ("z", .bool true)]
/-- `{"a":2,"b":[1.001,2],"c":{"e":[true]},"p":1.001,"y":{"k":"v"}}` -/
def exB : Json :=
  .obj [("a", .num two), ("b", .arr .raw [.num one001, .num two]),
    ("c", .obj [("e", .arr .raw [.bool true])]), ("p", .num one001), ("y", .obj [("k", .str "v")])]

theorem ex_docs : exA.wf = true ∧ exA.rawDoc = true ∧ exB.wf = true ∧ exB.rawDoc = true ∧
    exB.nullFree = true ∧ objVoidFree exB = true ∧ exB.finiteNums = true ∧
    nonnegBits eps = true := by decide

/-- the pair satisfies every hypothesis of `patchM_diffM_MERGE_precision` (only the IEEE-754 laws
    are assumed) -/
example (L : FloatLaws) (M : PrecMono [.merge, .prec eps]) :
    ∃ r, patchM exA (diffM [.merge, .prec eps] exA exB) = .ok r ∧
      equals [.merge, .prec eps] r exB = true ∧ equivB [.merge, .prec eps] r exB = true :=
  patchM_diffM_MERGE_precision L eps ex_docs.2.2.2.2.2.2.2 M exA exB ex_docs.1 ex_docs.2.1
    ex_docs.2.2.1 ex_docs.2.2.2.1 ex_docs.2.2.2.2.1 ex_docs.2.2.2.2.2.1 ex_docs.2.2.2.2.2.2.1

/-- ... and of the C11 theorem (object form: no hypothesis that the documents differ) -/
example (L : FloatLaws) (M : PrecMono [.merge, .prec eps]) :
    ∃ m, renderMergeDoc (diffM [.merge, .prec eps] exA exB) = .ok m ∧
      equals [.merge, .prec eps] (mergePatch exA m) exB = true ∧
      equivB [.merge, .prec eps] (mergePatch exA m) exB = true :=
  merge_render_correct_precision_obj L [.merge, .prec eps] rfl rfl ex_docs.2.2.2.2.2.2.2 M exA exB
    ex_docs.1 ex_docs.2.1 ex_docs.2.2.1 ex_docs.2.2.2.1 ex_docs.2.2.2.2.1 ex_docs.2.2.2.2.2.1
    ex_docs.2.2.2.2.2.2.1 rfl

/-- what the library returns on the pair, relative to the four IEEE facts involved (evaluated by
    the runtime at the end of the file): `"a"` and `"p"` are replaced (`"p"`: 1 → 1.001 although
    within `eps`: scalars are compared without the options), the array `"b"` of `a` is KEPT
    (`[1,2]`, where `b` has `[1.001,2]`: arrays are compared with the options). -/
def exR : Json :=
  .obj [("a", .num two), ("b", .arr .raw [.num one, .num two]),
    ("c", .obj [("e", .arr .raw [.bool true])]), ("p", .num one001), ("y", .obj [("k", .str "v")])]

theorem ex_result (h1 : numWithin eps one one001 = true) (h2 : numWithin eps two two = true)
    (h0 : numWithin 0 one one001 = false) (h0' : numWithin 0 one two = false) :
    patchM exA (diffM [.merge, .prec eps] exA exB) = .ok exR := by
  unfold patchM
  rw [patchAll_diffM_list true [.merge, .prec eps] rfl rfl exA exB ex_docs.2.1 ex_docs.2.2.2.1
    ex_docs.2.2.2.2.2.1]
  simp [exA, exB, exR, dl, dlKvs, alookup, equals, equalsList, effTag, Json.dispatch,
    precOf, h1, h2, h0, h0', consE, mapply, mset, putKvs, getK, ainsert, aerase, Json.isVoid]

/-- the RFC 7386 document rendered from that diff:
    `{"a":2,"c":{"d":null,"e":[true],"n":null},"p":1.001,"y":{"k":"v"},"z":null}` (no `"b"`) -/
def exM : Json :=
  .obj [("a", .num two), ("c", .obj [("d", .null), ("e", .arr .raw [.bool true]), ("n", .null)]),
    ("p", .num one001), ("y", .obj [("k", .str "v")]), ("z", .null)]

theorem ex_render (h1 : numWithin eps one one001 = true) (h2 : numWithin eps two two = true)
    (h0 : numWithin 0 one one001 = false) (h0' : numWithin 0 one two = false) :
    renderMergeDoc (diffM [.merge, .prec eps] exA exB) = .ok exM ∧ mergePatch exA exM = exR := by
  constructor
  · rw [renderMergeDoc_diffM [.merge, .prec eps] rfl rfl exA exB ex_docs.2.1 ex_docs.2.2.2.1
      ex_docs.2.2.2.2.2.1]
    simp [exA, exB, exM, rl, nulE, dl, dlKvs, alookup, equals, equalsList, effTag, Json.dispatch,
      precOf, h1, h2, h0, h0', consE, mapply, mset, putKvs, getK, ainsert, Json.isVoid, nest]
  · simp [exA, exM, exR, mergePatch, mergeMembers, alookup, ainsert, aerase]

/-- a target with `null`s: `{"a":null,"b":[null,1.001]}` -/
def exBn : Json := .obj [("a", .null), ("b", .arr .raw [.null, .num one001])]

/-- the pair `exA`, `exBn` satisfies every hypothesis of
    `merge_diff_then_patch_list_precision_nulls` (and `exBn` is not null-free) -/
example (L : FloatLaws) (M : PrecMono [.merge, .prec eps]) (sw : Bool) :
    exBn.nullFree = false ∧
    ∃ r, patchAll sw exA (diffM [.merge, .prec eps] exA exBn) = .ok r ∧
      equals [.merge, .prec eps] r exBn = true ∧ equivB [.merge, .prec eps] r exBn = true :=
  ⟨by decide, merge_diff_then_patch_list_precision_nulls L sw [.merge, .prec eps] rfl rfl
    ex_docs.2.2.2.2.2.2.2 M exA exBn ex_docs.1 ex_docs.2.1 (by decide) (by decide) (by decide)
    (by decide)⟩

/-- the pair of `Witness.negative_precision_breaks` with `y = 1` satisfies every OTHER hypothesis of
    `merge_diff_then_patch_list_precision` -/
example : Json.null.wf = true ∧ Json.null.rawDoc = true ∧ (Json.num one).wf = true ∧
    (Json.num one).rawDoc = true ∧ (Json.num one).nullFree = true ∧
    objVoidFree (.num one) = true ∧ (Json.num one).finiteNums = true := by decide

end Example

end Jd.MP

/-! The IEEE facts the witnesses and the example are relative to, evaluated by the runtime (which
    does evaluate `Float`): `eps = 0.01`, `1` vs `1.00001`, `1` vs `1.001`, `2` vs `2`, `1` vs `2`;
    and `|y - y| ≤ -1` for `y = 1`. -/
-- (within 0.01, within +0) for 1 vs 1.00001: (true, false)
#eval (Jd.numWithin 0x3F847AE147AE147B 0x3FF0000000000000 0x3FF0000A7C5AC472,
  Jd.numWithin 0 0x3FF0000000000000 0x3FF0000A7C5AC472)
-- the four facts of `Example.ex_result`: (true, true, false, false)
#eval (Jd.numWithin Jd.MP.Example.eps Jd.MP.Example.one Jd.MP.Example.one001,
  Jd.numWithin Jd.MP.Example.eps Jd.MP.Example.two Jd.MP.Example.two,
  Jd.numWithin 0 Jd.MP.Example.one Jd.MP.Example.one001,
  Jd.numWithin 0 Jd.MP.Example.one Jd.MP.Example.two)
-- the example itself, by the runtime: both `true`
#eval (match Jd.patchM Jd.MP.Example.exA
    (Jd.diffM [.merge, .prec Jd.MP.Example.eps] Jd.MP.Example.exA Jd.MP.Example.exB) with
  | .ok r => Jd.Spec.equivB [] r Jd.MP.Example.exR
  | _ => false,
  match Jd.renderMergeDoc
    (Jd.diffM [.merge, .prec Jd.MP.Example.eps] Jd.MP.Example.exA Jd.MP.Example.exB) with
  | .ok m => Jd.Spec.equivB [] m Jd.MP.Example.exM
  | _ => false)
-- `-precision=-1`: `|1 - 1| ≤ -1` is false
#eval Jd.numWithin 0xBFF0000000000000 0x3FF0000000000000 0x3FF0000000000000

#print axioms Jd.MP.merge_diff_then_patch_list_precision_nulls
#print axioms Jd.MP.merge_diff_then_patch_list_precision
#print axioms Jd.MP.patchM_diffM_MERGE_precision
#print axioms Jd.MP.diffM_nil_iff_dl
#print axioms Jd.MP.merge_render_correct_precision_gen
#print axioms Jd.MP.merge_render_correct_precision
#print axioms Jd.MP.merge_render_correct_precision_obj
#print axioms Jd.MP.merge_render_correct_MERGE_precision
#print axioms Jd.MP.merge_render_doc_precision
#print axioms Jd.MP.merge_equals_of_diff_nil
#print axioms Jd.MP.equals_of_diffM_nil_merge_precision
#print axioms Jd.MP.diffNode_nil_of_equals_nil
#print axioms Jd.MP.diffM_nil_of_equals_nil_merge_precision
#print axioms Jd.MP.diffM_nil_of_specEq_merge_precision
#print axioms Jd.MP.Witness.converse_fails_scalar
#print axioms Jd.MP.Witness.converse_fails_member
#print axioms Jd.MP.Witness.specEq_fails_array
#print axioms Jd.MP.Witness.negative_precision_breaks
#print axioms Jd.MP.Witness.precMono_used
#print axioms Jd.MP.Witness.render_equal_nonobject
#print axioms Jd.MP.Witness.render_within_eps_array
#print axioms Jd.MP.Example.ex_docs
#print axioms Jd.MP.Example.ex_result
#print axioms Jd.MP.Example.ex_render
