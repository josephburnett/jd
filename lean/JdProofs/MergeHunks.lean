/-
  JdProofs.MergeHunks — merge hunks as pure functions, RFC 7386 `MergePatch` member by member, and
  property C12 (reading a JSON Merge Patch), namespace `Jd.Merge`.

  C12: reading a merge patch document `p` and applying the hunks to `t` gives exactly RFC 7386
  `MergePatch(t, p)` if and only if the pair is `Clean` (`merge_read_apply_iff`; `Clean` is decidable
  and excludes exactly the three known classes of deviations, each inhabited: `witness_*`).

  Method: a merge hunk `{merge, path = keys, add = [v]}` is the pure function `mset`
  (`patchNode_merge`); hunks under pairwise different keys act independently (`mapply_frame`,
  `mapply_flatG`: the result is described member by member through `alookup`); RFC 7386's
  `mergeMembers` is described the same way (`alookup_mergeMembers`); objects with strictly increasing
  keys are determined by their lookups (`kvs_ext`, JdProofs.Doc). A predicate that survives storing a
  member (`PutP`, JdProofs.Doc) passes from the values of merge hunks to the document they build
  (`PutP.mapply`); `MTS.ObjP`, a predicate that an object satisfies exactly member by member, is one
  (`ObjP.putP`).
-/
import JdModel
import JdSpec
import JdProofs.EqualsList
import JdProofs.EqualsSet
import JdProofs.NoPanic
import JdProofs.StrictPatch
import JdProofs.Common
import JdProofs.PatchEqns

namespace Jd.Merge
open Jd Jd.Spec

/-! ### 0. members of objects -/

/-- every key of the list is above `k` -/
def Lb {β} (k : String) (r : List (String × β)) : Prop := ∀ k' v', (k', v') ∈ r → k < k'

theorem Lb.nil {β} (k : String) : Lb (β := β) k [] := by intro _ _ h; simp at h

theorem Lb.mono {β} {k j : String} {r : List (String × β)} (h : Lb k r) (hj : j < k) : Lb j r :=
  fun k' v' hm => String.lt_trans hj (h k' v' hm)

theorem wfKvs_aerase (k : String) :
    ∀ {r : List (String × Json)}, wfKvs r = true → wfKvs (aerase k r) = true := by
  intro r h; rw [wfKvs_eq_all] at h ⊢; exact all_aerase k h

/-! ### 1. pure semantics of a merge hunk `{merge, path = keys, add = [v]}` -/

/-- what `patch` (patch_common.go) builds in merge mode from nothing along a key path -/
def nest : List String → Json → Json
  | [], v => v
  | k :: rest, v => .obj (putKvs k (nest rest v) [])

/-- the effect of one merge hunk with key path `ks` and value `v` (`void` = delete) -/
def mset : Json → List String → Json → Json
  | _, [], v => v
  | .obj kvs, k :: rest, v => .obj (putKvs k (mset (getK k kvs) rest v) kvs)
  | _, k :: rest, v => nest (k :: rest) v

/-- the merge hunk with key path `ks` and value `v` -/
def mh (ks : List String) (v : Json) : Hunk := { merge := true, path := ks.map .key, add := [v] }

def mapply (l : List (List String × Json)) (t : Json) : Json :=
  l.foldl (fun t e => mset t e.1 e.2) t

theorem mset_void (ks : List String) (v : Json) : mset .void ks v = nest ks v := by
  cases ks <;> simp [mset, nest]

theorem nest_isVoid_cons (k : String) (rest : List String) (v : Json) :
    (nest (k :: rest) v).isVoid = false := by simp [nest, Json.isVoid]

theorem patchFresh_merge (n : Json) (v : Json) (before after : List Json) :
    ∀ ks : List String,
      patchFresh true n (ks.map .key) before [] [v] after = .ok (nest ks v)
  | [] => by
    unfold patchFresh
    simp [Path.isLeaf, Json.singleValue, Json.isVoid, nest]
  | k :: rest => by
    unfold patchFresh
    have ih := patchFresh_merge n v before after rest
    have hl : Path.isLeaf (PathElem.key k :: List.map PathElem.key rest) = false := by
      cases rest <;> simp [Path.isLeaf]
    simp only [List.map_cons, ih, hl]
    cases rest with
    | nil =>
      cases hv : v.isVoid <;> simp [nest, putKvs, hv, aerase, ainsert]
    | cons k' r' =>
      simp [nest, putKvs, Json.isVoid, ainsert]

theorem patchNew_merge (v : Json) (before after : List Json) :
    ∀ ks : List String,
      patchNew true (true && !(ks.map PathElem.key).isEmpty) (ks.map .key) before [] [v] after
        = .ok (nest ks v)
  | [] => by
    simp [patchNew]
    exact patchFresh_merge .void v before after []
  | k :: rest => by
    have ih := patchNew_merge v before after rest
    simp only [List.map_cons, List.isEmpty_cons, Bool.not_false, Bool.and_self, patchNew, ih]
    cases rest with
    | nil =>
      cases hv : v.isVoid <;> simp [nest, putKvs, hv, aerase, ainsert]
    | cons k' r' =>
      simp [nest, putKvs, Json.isVoid, ainsert]

/-- one merge hunk, as the library applies it, is `mset` -/
theorem patchNode_merge (sw : Bool) (v : Json) (before after : List Json) :
    ∀ (ks : List String) (t : Json),
      patchNode sw true t (ks.map .key) before [] [v] after = .ok (mset t ks v) := by
  intro ks t
  rw [patchNode_merge_eq]
  induction ks generalizing t with
  | nil =>
    cases t <;> simp only [List.map_nil, patchMg, mset] <;>
      first | exact patchFresh_merge _ v before after [] | simp [Json.singleValue]
  | cons k rest ih =>
    cases t with
    | obj kvs =>
      simp only [List.map_cons, patchMg, mset, getK]
      split
      · rename_i c hl
        simp only [hl, ih, Outcome.bind_ok, Option.getD_some]
      · rename_i hl
        have := patchNew_merge v before after rest
        simp only [Bool.true_and] at this
        simp only [hl, this, Outcome.bind_ok, Option.getD_none, mset_void]
    | _ => simpa [mset, patchMg] using patchFresh_merge _ v before after (k :: rest)

theorem patchAll_mh (sw : Bool) :
    ∀ (l : List (List String × Json)) (t : Json),
      patchAll sw t (l.map (fun e => mh e.1 e.2)) = .ok (mapply l t)
  | [], t => by simp [patchAll, mapply]
  | e :: l, t => by
    simp only [List.map_cons, patchAll, mh, patchNode_merge]
    exact patchAll_mh sw l _

/-! ### 2. frame lemma: hunks under one key act on that member only -/

/-- prefix the path of an entry with a key -/
def consE (k : String) (e : List String × Json) : List String × Json := (k :: e.1, e.2)

theorem mapply_append (l l' : List (List String × Json)) (t : Json) :
    mapply (l ++ l') t = mapply l' (mapply l t) := by
  simp [mapply, List.foldl_append]

theorem mapply_frame (k : String) :
    ∀ (l : List (List String × Json)) (kvs : List (String × Json)), l ≠ [] →
      keysSorted kvs = true →
      mapply (l.map (consE k)) (.obj kvs) = .obj (putKvs k (mapply l (getK k kvs)) kvs)
  | [], _, h, _ => absurd rfl h
  | [e], kvs, _, _ => by simp [mapply, consE, mset]
  | e :: e' :: l, kvs, _, hs => by
    have ih := mapply_frame k (e' :: l) (putKvs k (mset (getK k kvs) e.1 e.2) kvs) (by simp)
      (keysSorted_putKvs _ _ hs)
    rw [getK_putKvs_self _ _ hs, putKvs_putKvs _ _ _ hs] at ih
    have : mapply ((e :: e' :: l).map (consE k)) (.obj kvs)
        = mapply ((e' :: l).map (consE k)) (.obj (putKvs k (mset (getK k kvs) e.1 e.2) kvs)) := by
      simp [mapply, consE, mset]
    rw [this, ih]
    simp [mapply]

/-- the hunks of a list of groups, each group under its own key -/
def flatG (groups : List (String × List (List String × Json))) : List (List String × Json) :=
  groups.flatMap (fun kg => kg.2.map (consE kg.1))

/-- groups of hunks under pairwise different keys act independently: the result is described
    member by member, and an empty group leaves its member alone -/
theorem mapply_flatG :
    ∀ (groups : List (String × List (List String × Json))) (acc : List (String × Json)),
      (groups.map Prod.fst).Nodup → keysSorted acc = true →
      ∃ acc', mapply (flatG groups) (.obj acc) = .obj acc' ∧ keysSorted acc' = true ∧
        ∀ j, alookup j acc' = match alookup j groups with
          | some g => if g.isEmpty then alookup j acc else toOpt (mapply g (getK j acc))
          | none => alookup j acc
  | [], acc, _, hs => ⟨acc, by simp [flatG, mapply], hs, fun j => by simp [alookup]⟩
  | (k, g) :: rest, acc, hnd, hs => by
    rw [List.map_cons, List.nodup_cons] at hnd
    have hn : alookup k rest = none := by
      cases hr : alookup k rest with
      | none => rfl
      | some g' => exact absurd (List.mem_map.2 ⟨(k, g'), mem_of_alookup hr, rfl⟩) hnd.1
    cases g with
    | nil =>
      obtain ⟨acc', he, hs', hl⟩ := mapply_flatG rest acc hnd.2 hs
      refine ⟨acc', by simpa [flatG] using he, hs', fun j => ?_⟩
      rw [hl j]
      by_cases hj : j = k
      · subst hj; simp [alookup, hn]
      · simp [alookup, hj]
    | cons e g =>
      have hs1 := keysSorted_putKvs k (mapply (e :: g) (getK k acc)) hs
      obtain ⟨acc', he, hs', hl⟩ :=
        mapply_flatG rest (putKvs k (mapply (e :: g) (getK k acc)) acc) hnd.2 hs1
      refine ⟨acc', ?_, hs', fun j => ?_⟩
      · have : flatG ((k, e :: g) :: rest) = (e :: g).map (consE k) ++ flatG rest := by simp [flatG]
        rw [this, mapply_append, mapply_frame k (e :: g) acc (by simp) hs, he]
      · rw [hl j]
        by_cases hj : j = k
        · subst hj
          simp [alookup, hn, alookup_putKvs_self j _ hs]
        · simp only [alookup, hj, if_false]
          rw [getK_putKvs_ne _ _ hj, alookup_putKvs_ne _ _ hj]

/-! ### 3. RFC 7386 `MergePatch`, member by member -/

/-- the members of an object, none for any other node -/
def objKvs : Json → List (String × Json)
  | .obj kvs => kvs
  | _ => []

theorem keysSorted_objKvs {t : Json} (ht : t.wf = true) : keysSorted (objKvs t) = true := by
  cases t <;> simp_all [objKvs, Json.wf, keysSorted]

theorem wfKvs_objKvs {t : Json} (ht : t.wf = true) : wfKvs (objKvs t) = true := by
  cases t <;> simp_all [objKvs, Json.wf, wfKvs]

theorem mergePatch_obj (t : Json) (pkvs : List (String × Json)) :
    mergePatch t (.obj pkvs) = .obj (mergeMembers (objKvs t) pkvs) := by
  cases t <;> simp [mergePatch, objKvs]

/-- RFC 7386: the patch `{}` is the identity on objects -/
theorem mergePatch_empty_object {a : Json} (h : a.isObj = true) : mergePatch a (.obj []) = a := by
  cases a <;> simp_all [Json.isObj, mergePatch, mergeMembers]

theorem keysSorted_mergeMembers :
    ∀ (pkvs t : List (String × Json)), keysSorted t = true →
      keysSorted (mergeMembers t pkvs) = true
  | [], t, h => by simpa [mergeMembers] using h
  | (k, v) :: r, t, h => by
    rw [mergeMembers_cons]
    apply keysSorted_mergeMembers r
    split
    · exact keysSorted_aerase k h
    · exact keysSorted_ainsert k _ h

theorem alookup_mergeMembers (j : String) :
    ∀ (pkvs t : List (String × Json)), keysSorted pkvs = true → keysSorted t = true →
      alookup j (mergeMembers t pkvs) = match alookup j pkvs with
        | some v => if v.isNull then none else some (mergePatch (getK j t) v)
        | none => alookup j t
  | [], t, _, _ => by simp [mergeMembers, alookup]
  | (k, v) :: r, t, hp, ht => by
    obtain ⟨hlb, hr⟩ := keysSorted_cons_iff.1 hp
    rw [mergeMembers_cons]
    have ht' : keysSorted (if v.isNull then aerase k t else ainsert k (mergePatch (getK k t) v) t)
        = true := by
      split
      · exact keysSorted_aerase k ht
      · exact keysSorted_ainsert k _ ht
    rw [alookup_mergeMembers j r _ hr ht']
    by_cases hj : j = k
    · subst hj
      rw [alookup_none_of_lt hlb]
      simp only [alookup, if_true]
      split
      · exact alookup_aerase_self j ht
      · exact alookup_ainsert_self j _ t
    · simp only [alookup, hj, if_false]
      have h1 : alookup j (if v.isNull then aerase k t else ainsert k (mergePatch (getK k t) v) t)
          = alookup j t := by
        split
        · exact alookup_aerase_ne hj t
        · exact alookup_ainsert_ne _ hj t
      have h2 : getK j (if v.isNull then aerase k t else ainsert k (mergePatch (getK k t) v) t)
          = getK j t := by rw [getK, h1, getK]
      rw [h1, h2]

/-! ### 4. the reader of merge patch documents, purely -/

mutual
/-- `readMergeInto` with relative key paths and bare values -/
def rdInto : Json → List (List String × Json)
  | .obj kvs => if kvs.isEmpty then [([], .obj [])] else rdKvs kvs
  | .void => []
  | .null => [([], .void)]
  | n => [([], n)]
def rdKvs : List (String × Json) → List (List String × Json)
  | [] => []
  | (k, v) :: r => (rdInto v).map (consE k) ++ rdKvs r
end

mutual
theorem readMergeInto_eq : ∀ (p : Json) (q : List String),
    readMergeInto (q.map .key) p = (rdInto p).map (fun e => mh (q ++ e.1) e.2)
  | .obj kvs, q => by
    rw [readMergeInto, rdInto]
    split
    · simp [mh]
    · exact readMergeKvs_eq kvs q
  | .void, q => by simp [readMergeInto, rdInto]
  | .null, q => by simp [readMergeInto, rdInto, mh]
  | .bool _, q => by simp [readMergeInto, rdInto, mh]
  | .num _, q => by simp [readMergeInto, rdInto, mh]
  | .str _, q => by simp [readMergeInto, rdInto, mh]
  | .arr _ _, q => by simp [readMergeInto, rdInto, mh]
theorem readMergeKvs_eq : ∀ (kvs : List (String × Json)) (q : List String),
    readMergeKvs (q.map .key) kvs = (rdKvs kvs).map (fun e => mh (q ++ e.1) e.2)
  | [], q => by simp [readMergeKvs, rdKvs]
  | (k, v) :: r, q => by
    rw [readMergeKvs, rdKvs, readMergeKvs_eq r q]
    have := readMergeInto_eq v (q ++ [k])
    rw [List.map_append] at this
    rw [List.map_cons, List.map_nil] at this
    rw [this]
    simp [consE, Function.comp_def]
end

/-! ### 5. the domain of the C12 theorem -/

mutual
/-- a document without `void`, at the root or as an object member (what a JSON reader produces) -/
def objVoidFree : Json → Bool
  | .void => false
  | .obj kvs => objVoidFreeKvs kvs
  | _ => true
def objVoidFreeKvs : List (String × Json) → Bool
  | [] => true
  | (_, v) :: r => objVoidFree v && objVoidFreeKvs r
end

theorem objVoidFreeKvs_eq_all (kvs : List (String × Json)) :
    objVoidFreeKvs kvs = kvs.all (objVoidFree ·.2) :=
  listP_eq_all rfl (fun _ _ => rfl) kvs

theorem alookup_objVoidFree {k : String} {v : Json} {kvs : List (String × Json)}
    (h : alookup k kvs = some v) (hd : objVoidFreeKvs kvs = true) : objVoidFree v = true :=
  all_alookup (objVoidFreeKvs_eq_all _ ▸ hd) h

theorem putP_objVoidFree : PutP (fun v => objVoidFree v = true) :=
  .ofAll fun kvs => by simp only [objVoidFree, objVoidFreeKvs_eq_all]

mutual
/-- below the root: the patch has `{}` only where the target does not hold a non-empty object
    (known finding: the library replaces the member by `{}`, RFC 7386 leaves it unchanged) -/
def cleanIn (t : Json) : Json → Bool
  | .obj pkvs => if pkvs.isEmpty then (objKvs t).isEmpty else cleanKvs (objKvs t) pkvs
  | _ => true
def cleanKvs (tkvs : List (String × Json)) : List (String × Json) → Bool
  | [] => true
  | (k, v) :: r => cleanIn (getK k tkvs) v && cleanKvs tkvs r
end

/-- the domain of the theorem: outside the three known classes
    (a) patch `{}` at the root and the target is not an object,
    (b) patch has `{}` where the target holds a non-empty object,
    (c) patch `null` at the root. -/
def Clean (t p : Json) : Bool :=
  match p with
  | .null => false
  | .obj [] => t.isObj
  | p => cleanIn t p

/-- expected result of the hunks read from a (sub-)patch: `null` deletes -/
def mpv (t p : Json) : Json := if p.isNull then .void else mergePatch t p

theorem cleanKvs_eq_all (tkvs pkvs : List (String × Json)) :
    cleanKvs tkvs pkvs = pkvs.all fun kv => cleanIn (getK kv.1 tkvs) kv.2 :=
  listP_eq_all rfl (fun _ _ => rfl) pkvs

theorem cleanKvs_lookup (tkvs : List (String × Json)) {k : String} {v : Json} :
    ∀ {pkvs : List (String × Json)}, cleanKvs tkvs pkvs = true → alookup k pkvs = some v →
      cleanIn (getK k tkvs) v = true :=
  fun hc h => all_alookup (cleanKvs_eq_all _ _ ▸ hc) h

theorem rdInto_ne_nil {p : Json} (h : objVoidFree p = true) : rdInto p ≠ [] := by
  cases p with
  | obj kvs =>
    rw [rdInto]
    split
    · simp
    · cases kvs with
      | nil => simp at *
      | cons kv r =>
        obtain ⟨k, v⟩ := kv
        simp only [objVoidFree, objVoidFreeKvs, Bool.and_eq_true] at h
        have := rdInto_ne_nil h.1
        simp [rdKvs, this]
  | void => simp [objVoidFree] at h
  | _ => simp [rdInto]

theorem rdKvs_eq_flatG : ∀ (kvs : List (String × Json)),
    rdKvs kvs = flatG (kvs.map (fun kv => (kv.1, rdInto kv.2)))
  | [] => by simp [rdKvs, flatG]
  | (k, v) :: r => by
    rw [rdKvs, rdKvs_eq_flatG r]; simp [flatG]

/-! `raw()` of a typed array node (`rawNorm`) is transparent to the void / `null` tests -/

theorem rawNorm_isNull (v : Json) : (rawNorm v).isNull = v.isNull := by
  cases v with
  | arr t xs => cases t <;> simp [rawNorm, Json.isNull]
  | _ => simp [rawNorm, Json.isNull]

theorem rawNorm_isVoid (v : Json) : (rawNorm v).isVoid = v.isVoid := by
  cases v with
  | arr t xs => cases t <;> simp [rawNorm, Json.isVoid]
  | _ => simp [rawNorm, Json.isVoid]

mutual
theorem cleanIn_rawNorm : ∀ (p t : Json), cleanIn t (rawNorm p) = cleanIn t p
  | .obj pkvs, t => by
    have e : (rawNormKvs pkvs).isEmpty = pkvs.isEmpty := by
      cases pkvs with
      | nil => rfl
      | cons kv r => obtain ⟨k, v⟩ := kv; simp [rawNormKvs]
    rw [rawNorm, cleanIn, cleanIn, e, cleanKvs_rawNorm pkvs]
  | .arr tg _, _ => by cases tg <;> simp [rawNorm, cleanIn]
  | .void, _ => rfl
  | .null, _ => rfl
  | .bool _, _ => rfl
  | .num _, _ => rfl
  | .str _, _ => rfl
theorem cleanKvs_rawNorm : ∀ (pkvs tkvs : List (String × Json)),
    cleanKvs tkvs (rawNormKvs pkvs) = cleanKvs tkvs pkvs
  | [], _ => rfl
  | (k, v) :: r, tkvs => by
    simp only [rawNormKvs, cleanKvs, cleanIn_rawNorm v, cleanKvs_rawNorm r]
end

mutual
/-- against a target that is not an object every patch is clean below the root -/
theorem cleanIn_nonobj : ∀ (v t : Json), objKvs t = [] → cleanIn t v = true
  | .obj pkvs, t, ht => by
    rw [cleanIn, ht]
    split
    · rfl
    · exact cleanKvs_nil pkvs
  | .void, _, _ => rfl
  | .null, _, _ => rfl
  | .bool _, _, _ => rfl
  | .num _, _, _ => rfl
  | .str _, _, _ => rfl
  | .arr _ _, _, _ => rfl
theorem cleanKvs_nil : ∀ (pkvs : List (String × Json)), cleanKvs [] pkvs = true
  | [] => rfl
  | (k, v) :: r => by
    rw [cleanKvs, Bool.and_eq_true]
    exact ⟨cleanIn_nonobj v (getK k []) rfl, cleanKvs_nil r⟩
end

/-- a non-object target behaves like `{}` under a hunk with a non-empty path -/
theorem mset_nonobj {t : Json} (ht : t.isObj = false) (k : String) (ks : List String) (v : Json) :
    mset t (k :: ks) v = mset (.obj []) (k :: ks) v := by
  have : mset (.obj []) (k :: ks) v = nest (k :: ks) v := by
    simp [mset, nest, getK, alookup, mset_void]
  rw [this]
  cases t <;> simp_all [mset, Json.isObj]

theorem mpv_toOpt (c v : Json) (hv : objVoidFree v = true) :
    toOpt (mpv c v) = if v.isNull then none else some (mergePatch c v) := by
  unfold mpv
  cases v <;> simp_all [toOpt, Json.isNull, Json.isVoid, mergePatch, objVoidFree]

theorem toOpt_inj {x y : Json} (h : toOpt x = toOpt y) : x = y := by
  rw [← getD_toOpt x, ← getD_toOpt y, h]

/-- the hunks read from a non-empty patch object, applied: the result member by member
    (no cleanliness hypothesis) -/
theorem rdKvs_apply (pkvs : List (String × Json)) (hne : pkvs ≠ [])
    (hv : objVoidFreeKvs pkvs = true) (hs : keysSorted pkvs = true) (t : Json)
    (ht : t.wf = true) :
    ∃ acc', mapply (rdKvs pkvs) t = .obj acc' ∧ keysSorted acc' = true ∧
      ∀ j, alookup j acc' = match alookup j pkvs with
        | some v => toOpt (mapply (rdInto v) (getK j (objKvs t)))
        | none => alookup j (objKvs t) := by
  -- reduce to an object target
  have hobj : mapply (rdKvs pkvs) t = mapply (rdKvs pkvs) (.obj (objKvs t)) := by
    cases hto : t.isObj with
    | true => cases t <;> simp_all [Json.isObj, objKvs]
    | false =>
      have ho : objKvs t = [] := by cases t <;> simp_all [Json.isObj, objKvs]
      rw [ho]
      cases pkvs with
      | nil => exact absurd rfl hne
      | cons kv r =>
        obtain ⟨k, v⟩ := kv
        simp only [objVoidFreeKvs, Bool.and_eq_true] at hv
        have hne' := rdInto_ne_nil hv.1
        rw [rdKvs]
        cases hrd : rdInto v with
        | nil => exact absurd hrd hne'
        | cons e l =>
          simp only [List.map_cons, List.cons_append, mapply, List.foldl_cons, consE]
          rw [mset_nonobj hto]
  have hts := keysSorted_objKvs ht
  obtain ⟨acc', he, hs', hl⟩ := mapply_flatG
    (pkvs.map (fun kv => (kv.1, rdInto kv.2))) (objKvs t)
    (by
      have := keysSorted_nodup hs
      simpa [List.map_map, Function.comp_def] using this)
    hts
  refine ⟨acc', by rw [hobj, rdKvs_eq_flatG, he], hs', fun j => ?_⟩
  rw [hl j, alookup_map]
  cases hj : alookup j pkvs with
  | none => rfl
  | some v => simp [rdInto_ne_nil (alookup_objVoidFree hj hv)]

theorem cleanKvs_iff (tkvs : List (String × Json)) {pkvs : List (String × Json)}
    (hs : keysSorted pkvs = true) :
    cleanKvs tkvs pkvs = true ↔
      ∀ k v, alookup k pkvs = some v → cleanIn (getK k tkvs) v = true := by
  rw [cleanKvs_eq_all, List.all_eq_true]
  exact ⟨fun h k v hk => h (k, v) (mem_of_alookup hk), fun h kv hm => h kv.1 kv.2 (alookup_of_mem hs hm)⟩

/-- below the root, the library's result is RFC 7386's EXACTLY on the clean pairs -/
theorem mapply_rdInto_iff : ∀ (p : Json), objVoidFree p = true → p.wf = true →
    ∀ t : Json, t.wf = true → (mapply (rdInto p) t = mpv t p ↔ cleanIn t p = true) := by
  intro p
  induction p using jsonInd with
  | void => intro hv; simp [objVoidFree] at hv
  | null => intro _ _ t _; simp [rdInto, mapply, mset, mpv, Json.isNull, cleanIn]
  | bool _ => intro _ _ t _; simp [rdInto, mapply, mset, mpv, Json.isNull, mergePatch, cleanIn]
  | num _ => intro _ _ t _; simp [rdInto, mapply, mset, mpv, Json.isNull, mergePatch, cleanIn]
  | str _ => intro _ _ t _; simp [rdInto, mapply, mset, mpv, Json.isNull, mergePatch, cleanIn]
  | arr _ _ _ =>
    intro _ _ t _; simp [rdInto, mapply, mset, mpv, Json.isNull, mergePatch, cleanIn]
  | obj pkvs ih =>
    intro hv hw t ht
    simp only [objVoidFree] at hv
    simp only [Json.wf, Bool.and_eq_true] at hw
    have hmp : mpv t (.obj pkvs) = .obj (mergeMembers (objKvs t) pkvs) := by
      simp [mpv, Json.isNull, mergePatch_obj]
    rw [hmp, rdInto, cleanIn]
    cases pkvs with
    | nil =>
      simp only [List.isEmpty_nil, if_true]
      simp only [mapply, List.foldl_cons, List.foldl_nil, mset, mergeMembers, Json.obj.injEq,
        List.isEmpty_iff]
      exact eq_comm
    | cons kv r =>
      simp only [List.isEmpty_cons, Bool.false_eq_true, if_false]
      have hts := keysSorted_objKvs ht
      have htw := wfKvs_objKvs ht
      obtain ⟨acc', he, hs', hl⟩ := rdKvs_apply (kv :: r) (by simp) hv hw.1 t ht
      rw [he, cleanKvs_iff (objKvs t) hw.1]
      have hmem : ∀ j v, alookup j (kv :: r) = some v →
          (toOpt (mapply (rdInto v) (getK j (objKvs t)))
              = (if v.isNull then none else some (mergePatch (getK j (objKvs t)) v))
            ↔ cleanIn (getK j (objKvs t)) v = true) := by
        intro j v hj
        have hvv := alookup_objVoidFree hj hv
        have hrec := ih j v (mem_of_alookup hj) hvv (alookup_wf hj hw.2)
        have hwj : (getK j (objKvs t)).wf = true := by
          unfold getK
          cases hl' : alookup j (objKvs t) with
          | none => rfl
          | some c => exact alookup_wf hl' htw
        rw [← mpv_toOpt _ _ hvv, ← hrec _ hwj]
        exact ⟨toOpt_inj, fun h => by rw [h]⟩
      constructor
      · intro heq j v hj
        have heq' : acc' = mergeMembers (objKvs t) (kv :: r) := by simpa using heq
        have := hl j
        rw [heq', alookup_mergeMembers j _ _ hw.1 hts, hj] at this
        exact (hmem j v hj).1 this.symm
      · intro hc
        congr 1
        refine kvs_ext hs' (keysSorted_mergeMembers _ _ hts) (fun j => ?_)
        rw [hl j, alookup_mergeMembers j _ _ hw.1 hts]
        cases hj : alookup j (kv :: r) with
        | none => rfl
        | some v => exact (hmem j v hj).2 (hc j v hj)

theorem mapply_rdKvs_iff : ∀ (pkvs : List (String × Json)), objVoidFreeKvs pkvs = true →
    wfKvs pkvs = true → ∀ k v, alookup k pkvs = some v →
      objVoidFree v = true ∧
      ∀ t : Json, t.wf = true → (mapply (rdInto v) t = mpv t v ↔ cleanIn t v = true) :=
  fun _ hv hw _ v h =>
    ⟨alookup_objVoidFree h hv, mapply_rdInto_iff v (alookup_objVoidFree h hv) (alookup_wf h hw)⟩

theorem mapply_rdInto (p : Json) (hv : objVoidFree p = true) (hw : p.wf = true) (t : Json)
    (ht : t.wf = true) (hc : cleanIn t p = true) : mapply (rdInto p) t = mpv t p :=
  (mapply_rdInto_iff p hv hw t ht).2 hc

/-! ### 6. C12: reading a JSON Merge Patch and applying it is RFC 7386 `MergePatch` -/

theorem readMergeDoc_eq (p : Json) :
    readMergeDoc p = if p.isObj && (objKvs p).isEmpty then []
      else (rdInto p).map (fun e => mh e.1 e.2) := by
  have := readMergeInto_eq p []
  simp only [List.map_nil, List.nil_append] at this
  unfold readMergeDoc
  rw [this]
  cases p with
  | obj kvs => cases kvs <;> simp [equals, Json.isObj, objKvs, equalsKvs]
  | arr t xs => simp [equals, Json.isObj, Json.dispatch]
  | _ => simp [equals, Json.isObj, Json.isVoid, Json.isNull]

/-- C12, sharp form: for documents with unique (sorted) object keys and a patch without `void`, the
    hunks read from the merge patch document `p`, applied to `t` by the library, give EXACTLY
    `MergePatch(t, p)` of RFC 7386 (equality of documents, tags included) if and only if the pair is
    `Clean`: the three known classes are the only deviations. -/
theorem merge_read_apply_iff (t p : Json) (ht : t.wf = true) (hp : p.wf = true)
    (hv : objVoidFree p = true) :
    patchAll true t (readMergeDoc p) = .ok (mergePatch t p) ↔ Clean t p = true := by
  rw [readMergeDoc_eq]
  split
  · rename_i h
    cases p with
    | obj kvs =>
      cases kvs with
      | nil =>
        cases t <;> simp [Clean, Json.isObj, patchAll, mergePatch, mergeMembers]
      | cons _ _ => simp [objKvs] at h
    | _ => simp [Json.isObj] at h
  · rename_i h
    rw [patchAll_mh]
    cases hn : p.isNull with
    | true =>
      have : p = .null := by cases p <;> simp_all [Json.isNull]
      subst this
      simp [rdInto, mapply, mset, mergePatch, Clean]
    | false =>
      have hcl : Clean t p = cleanIn t p := by
        cases p with
        | obj kvs =>
          cases kvs with
          | nil => simp [Json.isObj, objKvs] at h
          | cons _ _ => simp [Clean]
        | null => simp [Json.isNull] at hn
        | _ => simp [Clean]
      have := mapply_rdInto_iff p hv hp t ht
      rw [mpv, hn] at this
      rw [hcl, ← this]
      simp

/-- C12 on the domain `Clean` (the direction used as the property) -/
theorem merge_read_apply_partial (t p : Json) (ht : t.wf = true) (hp : p.wf = true)
    (hv : objVoidFree p = true) (hc : Clean t p = true) :
    patchAll true t (readMergeDoc p) = .ok (mergePatch t p) :=
  (merge_read_apply_iff t p ht hp hv).2 hc

/-- outside `Clean` the library's result is NOT the RFC 7386 result: `Clean` is the weakest
    sufficient restriction -/
theorem merge_read_apply_unclean (t p : Json) (ht : t.wf = true) (hp : p.wf = true)
    (hv : objVoidFree p = true) (hc : Clean t p = false) :
    patchAll true t (readMergeDoc p) ≠ .ok (mergePatch t p) := by
  intro h
  rw [(merge_read_apply_iff t p ht hp hv).1 h] at hc
  cases hc

/-! the three classes outside `Clean` are genuine: counter-witnesses, by evaluation -/

/-- (a) patch `{}` at the root, target not an object: the library does nothing, RFC 7386 gives `{}` -/
theorem witness_root_empty_object (one : UInt64) :
    patchAll true (.num one) (readMergeDoc (.obj [])) = .ok (.num one) ∧
    mergePatch (.num one) (.obj []) = .obj [] ∧ Clean (.num one) (.obj []) = false := by
  refine ⟨?_, ?_, ?_⟩
  · simp [readMergeDoc_eq, Json.isObj, objKvs, patchAll]
  · simp [mergePatch, mergeMembers]
  · simp [Clean, Json.isObj]

/-- (b) patch `{"a":{}}`, target `{"a":{"b":1}}`: the library replaces the member by `{}`, RFC 7386
    leaves the target unchanged -/
theorem witness_nested_empty_object (one : UInt64) :
    patchAll true (.obj [("a", .obj [("b", .num one)])]) (readMergeDoc (.obj [("a", .obj [])]))
      = .ok (.obj [("a", .obj [])]) ∧
    mergePatch (.obj [("a", .obj [("b", .num one)])]) (.obj [("a", .obj [])])
      = .obj [("a", .obj [("b", .num one)])] ∧
    Clean (.obj [("a", .obj [("b", .num one)])]) (.obj [("a", .obj [])]) = false := by
  refine ⟨?_, ?_, ?_⟩
  · rw [readMergeDoc_eq, if_neg (by simp [Json.isObj, objKvs]), patchAll_mh]
    simp [rdInto, rdKvs, consE, mapply, mset, putKvs, Json.isVoid, ainsert]
  · simp [mergePatch, mergeMembers, alookup, ainsert]
  · simp [Clean, cleanIn, cleanKvs, objKvs, getK, alookup]

/-- (c) patch `null` at the root: the library returns void (no document), RFC 7386 gives `null` -/
theorem witness_root_null (t : Json) :
    patchAll true t (readMergeDoc .null) = .ok .void ∧ mergePatch t .null = .null ∧
    Clean t .null = false := by
  refine ⟨?_, ?_, ?_⟩
  · rw [readMergeDoc_eq, if_neg (by simp [Json.isObj]), patchAll_mh]
    simp [rdInto, mapply, mset]
  · simp [mergePatch]
  · simp [Clean]

/-! ### 6b. merge hunks commute with forgetting the Go dynamic type of array nodes -/

theorem untag_nest : ∀ (ks : List String) (v : Json), untag (nest ks v) = nest ks (untag v)
  | [], v => rfl
  | k :: rest, v => by
    simp only [nest, putKvs, untag]
    rw [← untag_nest rest v, untag_isVoid]
    split <;> simp [untagKvs, aerase, ainsert]

theorem untagKvs_putKvs (k : String) (c : Json) (kvs : List (String × Json)) :
    untagKvs (putKvs k c kvs) = putKvs k (untag c) (untagKvs kvs) := by
  unfold putKvs
  rw [untag_isVoid]
  split
  · exact untagKvs_aerase k kvs
  · exact untagKvs_ainsert k c kvs

theorem untag_getK (k : String) (kvs : List (String × Json)) :
    untag (getK k kvs) = getK k (untagKvs kvs) := by
  unfold getK
  rw [alookup_untagKvs]
  cases alookup k kvs <;> rfl

theorem untag_mset : ∀ (ks : List String) (t v : Json),
    untag (mset t ks v) = mset (untag t) ks (untag v)
  | [], t, v => by cases t <;> simp [mset]
  | k :: rest, t, v => by
    cases t with
    | obj kvs =>
      simp only [mset, untag]
      rw [untagKvs_putKvs, untag_mset rest, untag_getK]
    | _ => simpa [mset, untag] using untag_nest (k :: rest) v

/-- a hunk entry (key path, value) with its value untagged -/
def untagE (e : List String × Json) : List String × Json := (e.1, untag e.2)

theorem untag_mapply : ∀ (l : List (List String × Json)) (t : Json),
    untag (mapply l t) = mapply (l.map untagE) (untag t)
  | [], t => rfl
  | e :: l, t => by
    have := untag_mapply l (mset t e.1 e.2)
    simp only [mapply, List.foldl_cons, List.map_cons] at this ⊢
    rw [this, untag_mset]
    rfl

end Jd.Merge

namespace Jd.PutP
open Jd Jd.Merge
variable {P : Json → Prop}

/-! ### 7. predicates that survive the application of merge hunks -/

theorem nest (C : PutP P) : ∀ (ks : List String) {v : Json}, P v → P (Merge.nest ks v)
  | [], _, h => h
  | k :: rest, v, h => by
    simp only [Merge.nest]
    exact C.put k (fun _ => nest C rest h) C.empty

theorem mset (C : PutP P) : ∀ (ks : List String) (t : Json) {v : Json},
    (∀ kvs, t = .obj kvs → P t) → P v → P (Merge.mset t ks v)
  | [], t, v, _, hv => by cases t <;> simpa [Merge.mset] using hv
  | k :: rest, t, v, ht, hv => by
    cases t with
    | obj kvs =>
      have hk := ht kvs rfl
      simp only [Merge.mset]
      apply C.put k _ hk
      intro _
      apply mset C rest _ _ hv
      intro kvs2 e
      exact C.getK k hk (by rw [e]; rfl)
    | _ => simpa [Merge.mset] using C.nest (k :: rest) hv

/-- the document a list of merge hunks builds on `t` consists of parts of `t` and the hunks' values -/
theorem mapply (C : PutP P) : ∀ (l : List (List String × Json)) {t : Json}, P t →
    (∀ e ∈ l, P e.2) → P (Merge.mapply l t)
  | [], _, ht, _ => ht
  | e :: l, t, ht, hl => by
    simp only [Merge.mapply, List.foldl_cons]
    exact mapply C l (C.mset e.1 t (fun _ _ => ht) (hl e List.mem_cons_self))
      fun x hx => hl x (List.mem_cons_of_mem _ hx)

/-- a target that is not an object is replaced by the first hunk: nothing is asked of it -/
theorem mapply_of_ne (C : PutP P) : ∀ (l : List (List String × Json)) (t : Json),
    (∀ kvs, t = .obj kvs → P t) → (∀ e ∈ l, P e.2) → l ≠ [] → P (Merge.mapply l t)
  | [], _, _, _, hne => absurd rfl hne
  | e :: l, t, ht, hl, _ => by
    simp only [Merge.mapply, List.foldl_cons]
    exact mapply C l (C.mset e.1 t ht (hl e List.mem_cons_self))
      fun x hx => hl x (List.mem_cons_of_mem _ hx)

end Jd.PutP

namespace Jd.MTS
open Jd Jd.Merge

/-- a predicate on documents that an object satisfies exactly member by member (plus sorted keys) -/
structure ObjP (P : Json → Prop) : Prop where
  member : ∀ {kvs : List (String × Json)} {k : String} {v : Json}, P (.obj kvs) → (k, v) ∈ kvs → P v
  sorted : ∀ {kvs : List (String × Json)}, P (.obj kvs) → keysSorted kvs = true
  ofMembers : ∀ {kvs : List (String × Json)}, keysSorted kvs = true →
    (∀ k v, (k, v) ∈ kvs → P v) → P (.obj kvs)

theorem ObjP.and {P Q : Json → Prop} (CP : ObjP P) (CQ : ObjP Q) : ObjP (fun v => P v ∧ Q v) where
  member := fun h hm => ⟨CP.member h.1 hm, CQ.member h.2 hm⟩
  sorted := fun h => CP.sorted h.1
  ofMembers := fun hs h => ⟨CP.ofMembers hs (fun k v hm => (h k v hm).1),
    CQ.ofMembers hs (fun k v hm => (h k v hm).2)⟩

theorem ObjP.putP {P : Json → Prop} (C : ObjP P) : PutP P where
  member := C.member
  empty := C.ofMembers rfl (fun _ _ h => by simp at h)
  put := fun k c kvs hc h => by
    apply C.ofMembers (keysSorted_putKvs k c (C.sorted h))
    intro k' v' hm
    unfold putKvs at hm
    split at hm
    · exact C.member h (mem_aerase hm)
    · rename_i hv
      rcases mem_ainsert hm with e | hm'
      · cases e; exact hc (by simpa using hv)
      · exact C.member h hm'

end Jd.MTS

#print axioms Jd.Merge.merge_read_apply_iff
#print axioms Jd.Merge.merge_read_apply_partial
#print axioms Jd.Merge.merge_read_apply_unclean
#print axioms Jd.Merge.witness_root_empty_object
#print axioms Jd.Merge.witness_nested_empty_object
#print axioms Jd.Merge.witness_root_null
