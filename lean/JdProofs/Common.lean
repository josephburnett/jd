/-
  JdProofs.Common — facts used by several proof modules: the sort key `bswap` of `hashCodes.Less` is
  injective; sorting and deduplicating hash lists; the "no `-0`" domain predicate and the one
  IEEE-754 law taken as a hypothesis (`FloatEq0`); raw documents are list documents; `removeFirst`;
  Boolean conjunctions over a list (`of_mem_of_all`).
-/
import JdModel
import JdSpec
import JdProofs.EqualsList

namespace Jd
open Jd.Spec

/-! ### 1. the sort key `bswap`

  `le8` and `ofLe8` are inverse to each other on eight bytes, because both speak of the base-256
  digits of the word; `bswap` reverses the digits, so it is an involution. -/

theorem ofLe8_step_toNat (acc : UInt64) (c : UInt8) :
    ((acc <<< 8) ||| c.toUInt64).toNat = (acc.toNat % 2 ^ 56) * 256 + c.toNat := by
  have hc : c.toNat < 2 ^ 8 := c.toNat_lt
  have h1 : (acc <<< 8).toNat = (acc.toNat % 2 ^ 56) <<< 8 := by
    simp [UInt64.toNat_shiftLeft, Nat.shiftLeft_eq]
    omega
  rw [UInt64.toNat_or, h1, UInt8.toNat_toUInt64, ← Nat.shiftLeft_add_eq_or_of_lt hc,
    Nat.shiftLeft_eq]

/-- the number with the given base-256 digits, lowest first -/
def le256 : List UInt8 → Nat
  | [] => 0
  | b :: r => le256 r * 256 + b.toNat

theorem le256_lt : ∀ bs : List UInt8, le256 bs < 256 ^ bs.length
  | [] => by simp [le256]
  | b :: r => by
    have := le256_lt r
    have := b.toNat_lt
    rw [le256, List.length_cons, Nat.pow_succ]
    omega

theorem le256_inj : ∀ {as bs : List UInt8}, as.length = bs.length → le256 as = le256 bs → as = bs
  | [], [], _, _ => rfl
  | [], _ :: _, hl, _ => by simp at hl
  | _ :: _, [], hl, _ => by simp at hl
  | a :: r, b :: s, hl, h => by
    have := a.toNat_lt
    have := b.toNat_lt
    simp only [le256] at h
    rw [UInt8.toNat_inj.1 (by omega : a.toNat = b.toNat),
      le256_inj (Nat.succ.inj hl) (by omega : le256 r = le256 s)]

/-- up to eight bytes fit: nothing is shifted out of the word -/
theorem ofLe8_toNat : ∀ bs : List UInt8, bs.length ≤ 8 → (ofLe8 bs).toNat = le256 bs
  | [], _ => rfl
  | b :: r, h => by
    have lt : le256 r < 2 ^ 56 := Nat.lt_of_lt_of_le (le256_lt r)
      (Nat.pow_le_pow_right (by decide) (Nat.le_of_succ_le_succ h) : 256 ^ r.length ≤ 256 ^ 7)
    rw [show ofLe8 (b :: r) = (ofLe8 r <<< 8) ||| b.toUInt64 from rfl, ofLe8_step_toNat,
      ofLe8_toNat r (Nat.le_of_succ_le h), Nat.mod_eq_of_lt lt, le256]

/-- one base-256 digit split off a quotient -/
theorem div_step (n a : Nat) : n / a = n / (a * 256) * 256 + n / a % 256 := by
  rw [← Nat.div_div_eq_div_mul]; exact (Nat.div_add_mod' _ 256).symm

/-- eight division steps read backwards: the number is the sum of its digits -/
theorem horner8 {n q1 q2 q3 q4 q5 q6 q7 q8 d0 d1 d2 d3 d4 d5 d6 d7 : Nat}
    (s0 : n = q1 * 256 + d0) (s1 : q1 = q2 * 256 + d1) (s2 : q2 = q3 * 256 + d2)
    (s3 : q3 = q4 * 256 + d3) (s4 : q4 = q5 * 256 + d4) (s5 : q5 = q6 * 256 + d5)
    (s6 : q6 = q7 * 256 + d6) (s7 : q7 = q8 * 256 + d7) (s8 : q8 = 0) :
    n = d0 + d1 * 2 ^ (8 : Nat) + d2 * 2 ^ (16 : Nat) + d3 * 2 ^ (24 : Nat) + d4 * 2 ^ (32 : Nat) +
      d5 * 2 ^ (40 : Nat) + d6 * 2 ^ (48 : Nat) + d7 * 2 ^ (56 : Nat) := by
  omega

theorem digits_sum (n : Nat) (h : n < 2 ^ 64) :
    n = n % 256 + n / 2 ^ 8 % 256 * 2 ^ 8 + n / 2 ^ 16 % 256 * 2 ^ 16 + n / 2 ^ 24 % 256 * 2 ^ 24 +
      n / 2 ^ 32 % 256 * 2 ^ 32 + n / 2 ^ 40 % 256 * 2 ^ 40 + n / 2 ^ 48 % 256 * 2 ^ 48 +
      n / 2 ^ 56 % 256 * 2 ^ 56 :=
  horner8 (Nat.div_add_mod' n 256).symm (div_step n _) (div_step n _) (div_step n _) (div_step n _)
    (div_step n _) (div_step n _) (div_step n _) (Nat.div_eq_of_lt h)

/-- eight bytes, lowest first, as the sum of their digits -/
theorem le256_eight (b0 b1 b2 b3 b4 b5 b6 b7 : UInt8) :
    le256 [b0, b1, b2, b3, b4, b5, b6, b7] =
      b0.toNat + b1.toNat * 2 ^ (8 : Nat) + b2.toNat * 2 ^ (16 : Nat) + b3.toNat * 2 ^ (24 : Nat) +
        b4.toNat * 2 ^ (32 : Nat) + b5.toNat * 2 ^ (40 : Nat) + b6.toNat * 2 ^ (48 : Nat) +
        b7.toNat * 2 ^ (56 : Nat) :=
  horner8 rfl rfl rfl rfl rfl rfl rfl rfl rfl

theorem le256_le8 (h : UInt64) : le256 (le8 h) = h.toNat := by
  rw [le8, le256_eight]
  simp only [UInt64.toNat_toUInt8, UInt64.toNat_shiftRight, Nat.shiftRight_eq_div_pow,
    UInt64.toNat_ofNat]
  exact (digits_sum h.toNat h.toNat_lt).symm

theorem ofLe8_le8 (h : UInt64) : ofLe8 (le8 h) = h :=
  UInt64.toNat_inj.1 ((ofLe8_toNat (le8 h) (Nat.le_refl 8)).trans (le256_le8 h))

theorem le8_ofLe8 {bs : List UInt8} (hl : bs.length = 8) : le8 (ofLe8 bs) = bs :=
  le256_inj (by rw [hl]; rfl) ((le256_le8 _).trans (ofLe8_toNat bs (Nat.le_of_eq hl)))

/-- `bytes.Compare` on the little-endian arrays is a strict total order on hash codes:
    the sort key is an involution, hence injective -/
theorem bswap_bswap (h : UInt64) : bswap (bswap h) = h := by
  rw [bswap, bswap, le8_ofLe8 (by rfl), List.reverse_reverse, ofLe8_le8]

/-- the sort key of `hashCodes.Less` (`bytes.Compare` on the little-endian arrays) is injective -/
theorem bswap_inj {a b : UInt64} (h : bswap a = bswap b) : a = b := by
  rw [← bswap_bswap a, ← bswap_bswap b, h]

/-- `bswap` reverses the eight base-256 digits -/
theorem bswap_toNat (h : UInt64) : (bswap h).toNat =
    h.toNat % 256 * 2 ^ 56 + h.toNat / 2 ^ 8 % 256 * 2 ^ 48 + h.toNat / 2 ^ 16 % 256 * 2 ^ 40 +
    h.toNat / 2 ^ 24 % 256 * 2 ^ 32 + h.toNat / 2 ^ 32 % 256 * 2 ^ 24 +
    h.toNat / 2 ^ 40 % 256 * 2 ^ 16 + h.toNat / 2 ^ 48 % 256 * 2 ^ 8 + h.toNat / 2 ^ 56 % 256 := by
  rw [bswap, ofLe8_toNat _ (Nat.le_of_eq (by rfl))]
  show le256 [_, _, _, _, _, _, _, _] = _
  rw [le256_eight]
  simp only [UInt64.toNat_toUInt8, UInt64.toNat_shiftRight, Nat.shiftRight_eq_div_pow,
    UInt64.toNat_ofNat]
  ac_rfl

theorem split256 {x y a b : Nat} (ha : a < 256) (hb : b < 256) (h : x * 256 + a = y * 256 + b) :
    x = y ∧ a = b := by omega

set_option linter.unusedVariables false in
theorem digits_inj (a0 a1 a2 a3 a4 a5 a6 a7 b0 b1 b2 b3 b4 b5 b6 b7 : Nat)
    (h0 : a0 < 256) (h1 : a1 < 256) (h2 : a2 < 256) (h3 : a3 < 256) (h4 : a4 < 256)
    (h5 : a5 < 256) (h6 : a6 < 256) (h7 : a7 < 256)
    (g0 : b0 < 256) (g1 : b1 < 256) (g2 : b2 < 256) (g3 : b3 < 256) (g4 : b4 < 256)
    (g5 : b5 < 256) (g6 : b6 < 256) (g7 : b7 < 256)
    (h : a0 * 2 ^ 56 + a1 * 2 ^ 48 + a2 * 2 ^ 40 + a3 * 2 ^ 32 + a4 * 2 ^ 24 + a5 * 2 ^ 16 +
          a6 * 2 ^ 8 + a7
       = b0 * 2 ^ 56 + b1 * 2 ^ 48 + b2 * 2 ^ 40 + b3 * 2 ^ 32 + b4 * 2 ^ 24 + b5 * 2 ^ 16 +
          b6 * 2 ^ 8 + b7) :
    a0 + a1 * 2 ^ 8 + a2 * 2 ^ 16 + a3 * 2 ^ 24 + a4 * 2 ^ 32 + a5 * 2 ^ 40 + a6 * 2 ^ 48 +
      a7 * 2 ^ 56
    = b0 + b1 * 2 ^ 8 + b2 * 2 ^ 16 + b3 * 2 ^ 24 + b4 * 2 ^ 32 + b5 * 2 ^ 40 + b6 * 2 ^ 48 +
      b7 * 2 ^ 56 := by
  -- in Horner form the digits split off one at a time, lowest first
  have hh : ((((((a0 * 256 + a1) * 256 + a2) * 256 + a3) * 256 + a4) * 256 + a5) * 256 + a6) * 256 + a7
      = ((((((b0 * 256 + b1) * 256 + b2) * 256 + b3) * 256 + b4) * 256 + b5) * 256 + b6) * 256 + b7 := by
    simpa only [Nat.add_mul, Nat.mul_assoc, Nat.reduceMul, Nat.reducePow] using h
  obtain ⟨hh, e7⟩ := split256 h7 g7 hh
  obtain ⟨hh, e6⟩ := split256 h6 g6 hh
  obtain ⟨hh, e5⟩ := split256 h5 g5 hh
  obtain ⟨hh, e4⟩ := split256 h4 g4 hh
  obtain ⟨hh, e3⟩ := split256 h3 g3 hh
  obtain ⟨hh, e2⟩ := split256 h2 g2 hh
  obtain ⟨e0, e1⟩ := split256 h1 g1 hh
  rw [e0, e1, e2, e3, e4, e5, e6, e7]

/-! ### 2. sorted / deduplicated hash lists -/

theorem hinsert_perm (h : UInt64) : ∀ l : List UInt64, (hinsert h l).Perm (h :: l)
  | [] => by simp [hinsert]
  | x :: r => by
    simp only [hinsert]
    split
    · exact List.Perm.refl _
    · exact ((hinsert_perm h r).cons x).trans (List.Perm.swap h x r)

theorem hsort_perm : ∀ l : List UInt64, (hsort l).Perm l
  | [] => List.Perm.refl _
  | a :: l => (hinsert_perm a (hsort l)).trans ((hsort_perm l).cons a)

theorem mem_hdedup (h : UInt64) : ∀ l : List UInt64, h ∈ hdedup l ↔ h ∈ l
  | [] => by simp [hdedup]
  | x :: r => by
    simp only [hdedup, List.mem_cons, List.mem_filter, mem_hdedup h r]
    by_cases e : h = x <;> simp [e]

theorem nodup_hdedup : ∀ l : List UInt64, (hdedup l).Nodup
  | [] => by simp [hdedup]
  | x :: r => by
    simp only [hdedup, List.nodup_cons, List.mem_filter]
    exact ⟨by simp, (nodup_hdedup r).filter _⟩

/-! the order of `hashCodes.Less` -/

theorem hashLt_irrefl (a : UInt64) : hashLt a a = false := by
  simp [hashLt]

theorem hashLt_trans {a b c : UInt64} (h1 : hashLt a b = true) (h2 : hashLt b c = true) :
    hashLt a c = true := by
  simp only [hashLt, decide_eq_true_eq] at *
  exact UInt64.lt_trans h1 h2

theorem hashLt_asymm {a b : UInt64} (h1 : hashLt a b = true) : hashLt b a = false := by
  cases h : hashLt b a with
  | false => rfl
  | true => have := hashLt_trans h1 h; rw [hashLt_irrefl] at this; cases this

theorem hashLt_total {a b : UInt64} (hne : a ≠ b) (h : hashLt a b = false) : hashLt b a = true := by
  simp only [hashLt, decide_eq_true_eq, decide_eq_false_iff_not] at *
  have hne' : bswap a ≠ bswap b := fun e => hne (bswap_inj e)
  rcases UInt64.lt_or_lt_of_ne hne' with h' | h'
  · exact absurd h' h
  · exact h'

/-- weakly increasing in the order of `hashCodes.Less` -/
def HSortedLe (l : List UInt64) : Prop := l.Pairwise (fun a b => hashLt b a = false)

theorem hinsert_sorted_sp (h : UInt64) : ∀ l : List UInt64, HSortedLe l → HSortedLe (hinsert h l)
  | [], _ => by simp [hinsert, HSortedLe]
  | x :: r, hs => by
    simp only [HSortedLe, List.pairwise_cons] at hs
    simp only [hinsert]
    split
    · rename_i hlt
      simp only [HSortedLe, List.pairwise_cons, List.mem_cons]
      refine ⟨?_, hs⟩
      rintro a (e | ha)
      · subst e; exact hashLt_asymm hlt
      · cases hc : hashLt a h with
        | false => rfl
        | true =>
          have := hashLt_trans hc hlt
          rw [hs.1 a ha] at this; cases this
    · rename_i hlt
      have ih := hinsert_sorted_sp h r hs.2
      simp only [HSortedLe, List.pairwise_cons]
      refine ⟨?_, ih⟩
      intro a ha
      have ha' := (hinsert_perm h r).mem_iff.1 ha
      simp only [List.mem_cons] at ha'
      rcases ha' with e | ha'
      · subst e; simpa using hlt
      · exact hs.1 a ha'

theorem hsort_sorted_sp : ∀ l : List UInt64, HSortedLe (hsort l)
  | [] => by simp [hsort, HSortedLe]
  | x :: r => by
    have ih := hsort_sorted_sp r
    simp only [hsort, List.foldr_cons] at ih ⊢
    exact hinsert_sorted_sp _ _ ih

/-- a weakly sorted list of hash codes is determined by the multiplicities of its members -/
theorem HSortedLe.ext {l1 l2 : List UInt64} (h1 : HSortedLe l1) (h2 : HSortedLe l2)
    (h : ∀ a, l1.count a = l2.count a) : l1 = l2 := by
  apply List.Perm.eq_of_pairwise (le := fun a b => hashLt b a = false) _ h1 h2
    (List.perm_iff_count.2 h)
  intro a b _ _ hab hba
  apply Classical.byContradiction
  intro hne
  have := hashLt_total hne hba
  rw [hab] at this; cases this

theorem hashList_eq_map (o : Opts) : ∀ xs : List Json, hashList o xs = xs.map (hashCode o) :=
  listF_eq_map rfl (fun _ _ => rfl)

/-! ### 3. the "no negative zero" domain, the IEEE-754 hypothesis -/

/-- the bit pattern of `-0` -/
def negZeroBits : UInt64 := 0x8000000000000000

mutual
/-- no `-0` anywhere in the document (`0` and `-0` are `==` as floats, hence equivalent, but are
    different bit patterns) -/
def Json.noNegZero : Json → Bool
  | .num b => b != negZeroBits
  | .arr _ xs => noNegZeroList xs
  | .obj kvs => noNegZeroKvs kvs
  | _ => true
def noNegZeroList : List Json → Bool
  | [] => true
  | x :: r => x.noNegZero && noNegZeroList r
def noNegZeroKvs : List (String × Json) → Bool
  | [] => true
  | (_, v) :: r => v.noNegZero && noNegZeroKvs r
end

theorem noNegZeroList_eq_all (xs : List Json) : noNegZeroList xs = xs.all Json.noNegZero :=
  listP_eq_all rfl (fun _ _ => rfl) xs
theorem noNegZeroKvs_eq_all (kvs : List (String × Json)) :
    noNegZeroKvs kvs = kvs.all (·.2.noNegZero) :=
  listP_eq_all rfl (fun _ _ => rfl) kvs

/-- The one IEEE-754 law used (`Float` is opaque to the kernel): `|a - b| ≤ +0` holds only for
    `a == b`, and two finite bit patterns other than `-0` that are `==` are the same pattern. -/
structure FloatEq0 : Prop where
  eq_of_within0 : ∀ a b, finiteBits a = true → finiteBits b = true →
    a ≠ negZeroBits → b ≠ negZeroBits → numWithin 0 a b = true → a = b

/-! ### 4. raw documents -/

theorem alookup_rawDoc {k : String} {v : Json} {kvs : List (String × Json)}
    (h : alookup k kvs = some v) (hd : rawDocKvs kvs = true) : v.rawDoc = true :=
  all_alookup (rawDocKvs_eq_all _ ▸ hd) h

theorem DES.wfList_mem {xs : List Json} {x : Json} (h : wfList xs = true) (hx : x ∈ xs) :
    x.wf = true :=
  List.all_eq_true.1 (wfList_eq_all _ ▸ h) x hx

theorem DES.rawDocList_mem {xs : List Json} {x : Json} (h : rawDocList xs = true) (hx : x ∈ xs) :
    x.rawDoc = true :=
  List.all_eq_true.1 (rawDocList_eq_all _ ▸ h) x hx

theorem DES.wfKvs_mem {kvs : List (String × Json)} {k : String} {v : Json} (h : wfKvs kvs = true)
    (hm : (k, v) ∈ kvs) : v.wf = true :=
  List.all_eq_true.1 (wfKvs_eq_all _ ▸ h) (k, v) hm

theorem DES.rawDocKvs_mem {kvs : List (String × Json)} {k : String} {v : Json}
    (h : rawDocKvs kvs = true) (hm : (k, v) ∈ kvs) : v.rawDoc = true :=
  List.all_eq_true.1 (rawDocKvs_eq_all _ ▸ h) (k, v) hm

theorem rawDoc_listDoc (a : Json) : a.rawDoc = true → a.listDoc = true := by
  induction a using jsonInd with
  | arr t xs ih =>
    simp only [Json.rawDoc, Json.listDoc, rawDocList_eq_all, listDocList_eq_all, List.all_eq_true,
      Bool.and_eq_true, Bool.or_eq_true]
    exact fun h => ⟨.inl h.1, fun x hx => ih x hx (h.2 x hx)⟩
  | obj kvs ih =>
    simp only [Json.rawDoc, Json.listDoc, rawDocKvs_eq_all, listDocKvs_eq_all, List.all_eq_true]
    exact fun h kv hkv => ih kv.1 kv.2 hkv (h kv hkv)
  | _ => intro _; rfl

theorem rawDocList_listDocList (xs : List Json) (h : rawDocList xs = true) : listDocList xs = true := by
  rw [rawDocList_eq_all] at h; rw [listDocList_eq_all]
  exact List.all_eq_true.2 fun x hx => rawDoc_listDoc x (List.all_eq_true.1 h x hx)

theorem rawDocKvs_listDocKvs (kvs : List (String × Json)) (h : rawDocKvs kvs = true) :
    listDocKvs kvs = true := by
  rw [rawDocKvs_eq_all] at h; rw [listDocKvs_eq_all]
  exact List.all_eq_true.2 fun x hx => rawDoc_listDoc _ (List.all_eq_true.1 h x hx)

/-! ### 5. `removeFirst` takes out one element that passes the test -/

theorem removeFirst_some {α} (p : α → Bool) : ∀ {ys ys' : List α}, removeFirst p ys = some ys' →
    ∃ y, p y = true ∧ ys.Perm (y :: ys')
  | [], _, h => by simp [removeFirst] at h
  | x :: r, ys', h => by
    simp only [removeFirst] at h
    split at h
    · next hp => cases h; exact ⟨x, hp, List.Perm.refl _⟩
    · cases hr : removeFirst p r with
      | none => simp [hr] at h
      | some r' =>
        simp only [hr, Option.map_some, Option.some.injEq] at h
        subst h
        obtain ⟨y, hy, hperm⟩ := removeFirst_some p hr
        exact ⟨y, hy, (hperm.cons x).trans (List.Perm.swap y x r')⟩

theorem removeFirst_eq_none {α} {p : α → Bool} :
    ∀ {l : List α}, removeFirst p l = none ↔ ∀ y ∈ l, p y = false
  | [] => by simp [removeFirst]
  | x :: r => by
    cases hx : p x <;> simp [removeFirst, hx, removeFirst_eq_none (l := r)]

/-! ### 6. a Boolean conjunction over a list, written as a recursion

  (`wfKvs`, `rawDocList`, `listDocKvs` … : the model's checks of the members of a container) -/

theorem of_mem_of_all {α : Type} {f : List α → Bool} {g : α → Bool}
    (hc : ∀ x r, f (x :: r) = (g x && f r)) :
    ∀ {xs : List α} {x : α}, f xs = true → x ∈ xs → g x = true
  | [], _, _, h => by cases h
  | y :: r, x, hw, h => by
    rw [hc, Bool.and_eq_true] at hw
    rcases List.mem_cons.1 h with rfl | h
    · exact hw.1
    · exact of_mem_of_all hc hw.2 h

/-- a predicate `P` that `PK` checks member by member holds of every member -/
theorem Merge.mem_of_allKvs {P : Json → Bool} {PK : List (String × Json) → Bool}
    (hcons : ∀ k v r, PK ((k, v) :: r) = (P v && PK r)) {k : String} {v : Json} :
    ∀ {kvs : List (String × Json)}, (k, v) ∈ kvs → PK kvs = true → P v = true :=
  fun hm hd => of_mem_of_all (g := fun kv => P kv.2) (fun kv r => hcons kv.1 kv.2 r) hd hm

end Jd
