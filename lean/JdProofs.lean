import JdProofs.Doc
import JdProofs.ObjStep
import JdProofs.SubAfter
import JdProofs.LcsProofs
import JdProofs.EqualsList
import JdProofs.PatchEqns
import JdProofs.Eval
import JdProofs.NoPanic
import JdProofs.StrictPatch
import JdProofs.SetPatch
import JdProofs.SetAlg
import JdProofs.FloatBits
import JdProofs.YamlProofs
import JdProofs.MergeHunks
import JdProofs.MergeProofs
import JdProofs.EqualsSet
import JdProofs.HashCheck
import JdProofs.DiffEmpty
import JdProofs.ListScript
import JdProofs.DiffPatchList
import JdProofs.Common
import JdProofs.PointerText
import JdProofs.PointerRead
import JdProofs.PatchRender
import JdProofs.NativeRoundTrip
import JdProofs.CliProofs
import JdProofs.SourceTables
import JdProofs.SplitOn
import JdProofs.DiffMinimal
import JdProofs.MapOrder
import JdProofs.PatchRead
import JdProofs.PatchParseBack
import JdProofs.V1Core
import JdProofs.V1ListDiffPatch
import JdProofs.RealDiff
import JdProofs.RobustReaders
import JdProofs.Robust
import JdProofs.NoSub
import JdProofs.SetDiff
import JdProofs.SetDiffPatch
import JdProofs.MergeSetModes
import JdProofs.V1MergeRender
import JdProofs.DiffEmptySet
import JdProofs.V1PatchRender
import JdProofs.PatchRenderClosed
import JdProofs.ListRecursion
import JdProofs.RealDiffSet
import JdProofs.KeyedPatch
import JdProofs.NativeCarried
import JdProofs.NativeEndToEnd
import JdProofs.PatchFaithful
import JdProofs.PatchReadWitnesses
import JdProofs.PatchNeverMorePermissive
import JdProofs.DiffPatchKeys
import JdProofs.V1NativeText
import JdProofs.V1SetDiffPatch
import JdProofs.PatchOwnOutput
import JdProofs.RealDiffListStrict
import JdProofs.RealDiffMerge
import JdProofs.CliRoundTrip
import JdProofs.NativeEndToEndSet
import JdProofs.JsonTextRoundTrip
import JdProofs.RobustYamlCli
import JdProofs.MergePrecision
import JdProofs.NativeEndToEndKeys
import JdProofs.NativeEndToEndKeysB
import JdProofs.RealDiffKeys
import JdProofs.V1JsonText
import JdProofs.PathHeapProofs
import JdProofs.PathSites
import JdProofs.KeysMerge
import JdProofs.KeysMergeB
import JdProofs.V1KeysDiffPatchA
import JdProofs.V1KeysDiffPatchB
import JdProofs.V1KeysDiffPatchC
import JdProofs.V1KeysDiffPatchD
import JdProofs.V1KeysDiffPatchE
import JdProofs.V1KeysDiffPatchF
import JdProofs.V1Precision
import JdProofs.CliExitCodes
import JdProofs.CliRoundTripModes
import JdProofs.CliRoundTripModesPatch
import JdProofs.CliRoundTripModesEx
import JdProofs.OptSites
import JdProofs.RealDiffList
import JdProofs.SetPrecision
import JdProofs.CliRoundTripV1
import JdProofs.V1PrecisionMerge
import JdProofs.V1PrecisionModes
import JdProofs.ListAlignCount
import JdProofs.RfcTextLevel
import JdProofs.VoidRoot
import JdProofs.CliRoundTripMergeSet
import JdProofs.CondSites.P_C01
import JdProofs.CondSites.P_C02
import JdProofs.CondSites.P_C03
import JdProofs.CondSites.P_C04
import JdProofs.CondSites.P_C05
import JdProofs.CondSites.P_C06
import JdProofs.CondSites.P_C07
import JdProofs.CondSites.P_C08
import JdProofs.CondSites.P_C09
import JdProofs.CondSites.P_C10
import JdProofs.CondSites.P_C11
import JdProofs.CondSites.P_C12
import JdProofs.CondSites.P_C13
import JdProofs.CondSites.P_C14
import JdProofs.CondSites.P_C15
import JdProofs.CondSites.P_C16
import JdProofs.CondSites.P_C17
import JdProofs.CondSites.P_C18
import JdProofs.MergeTextSetModes
import JdProofs.V1PrecisionKeys
import JdProofs.CliExitCodesV1
import JdProofs.NativeColor
import JdProofs.NativeEndToEndPrecision
import JdProofs.NodeHeapProofs
import JdProofs.CloneCases
import JdProofs.PathSitesDefs
import JdProofs.TableEval
import JdProofs.PathSitesV1
